import FpVerif.Gen.MonadGen
import FpVerif.Spec.C01Inst
import FpVerif.Spec.C02
import FpVerif.Spec.C17
/-!
# C01 / C02 / C14 / C17 — the generated monad function family, TRANSLATED from the source on every run

`FpVerif/Gen/MonadGen.lean` is produced by `harness/cmd/monad2lean` (a type-directed Go-AST → Lean translator for the
fragment the generated files are written in) from `option/option_monad.go`, `try/try_monad.go` (+ `try.Map` of
`try/try_op.go`), `either/either_monad.go`, `statet/state_monad.go` and the four `*_traverse.go` files of the working
tree: one Lean definition per Go function over the abstract signature `MonadOps C`, with the SAME structure as the Go
body (the same nesting of `FlatMap`, the same closures, calls of other family members by name — `Map` is a call of the
translated `Map`, not inlined; the pure helpers of fp / curried / product / xtr / iterator have the fixed readings of
`Model/MonadGenPrelude.lean`).  The four packages come from ONE template: the translator translates each package and emits
the common translation once; `divergent` lists every (package, function) that differs from it.

The theorems below — statements fixed here under version control — say, function by function, that the translated
definition IS the hand-written definition of `Model/MonadFamily.lean` about which `Spec/C01`, `C02`, `C14`, `C17` prove the
properties:

* for EVERY `MonadOps` (proof `rfl`: the kernel unfolds both sides) wherever the model mirrors the Go body;
* for every `o.Lawful` instance (hypothesis `L`, visible in the statement) where the Go code instantiates a plain-callback
  parameter with a monadic-result function (`LiftM = Flatten(Map(ta, fa))`, `LiftM2`, `FlatFlapMap`, `FlatMethod2`, and what
  is built on them): the translation wraps the callback's result with `Pure.pure` and runs it through `o.seq … o.pure'`,
  the model writes `o.pure'` directly; the two agree by `seq_pure` (the laws are proved for the four packages in
  `Spec/C01Inst`).

Arity families (`LiftA3..9`, `Map3..9`, `LiftM3..9`, `FlatMap3..9`, `Flap3..9`, `Method3..9`, `FlatMethod3..9`,
`Compose3..5`, `Zip3`): the model is arity-generic over operand LISTS; per arity found in the source there is
`<F>N_is_model` (the translated N-ary function on operands `m1 … mN` of one type is the list model on `[m1, …, mN]`; every
N-ary callback on one type is of the form `fun a1 … aN => f [a1, …, aN]`, see `nary_as_list3`) and `<F>N_def` (operands of
N DIFFERENT types: the flat left-to-right nest of `flatMap`s the property demands).

A swapped operand, a wrong nesting, a dropped `Flatten`, a supplier called at the wrong place, or an edit to only one of
the four packages changes the translated definitions (or `divergent`) and exactly the theorems about the touched
functions (and the functions built on them) stop checking.

Exception list (functions of the generated files NOT tied here): none.
-/
namespace FpVerif.Spec.C01Gen
open FpVerif FpVerif.MonadFamily FpVerif.MonadGenPrelude FpVerif.Gen

variable {C : Type → Type} (o : MonadOps C)
variable {A B D R : Type}

-- X_monad.go: the functions of fixed arity ----------------------------------------------------------------------------

theorem Flatten_is_model (tta : C (C A)) : MonadGen.Flatten o tta = flatten o tta := rfl

theorem Map_is_model (m : C A) (f : A → GoM R) : MonadGen.Map o m f = map o m f := rfl

theorem Replace_is_model (s : C A) (b : R) : MonadGen.Replace o s b = replace o s b := rfl

theorem Map2_is_model (first : C A) (second : C B) (fab : A → B → GoM R) :
    MonadGen.Map2 o first second fab = map2 o first second fab := rfl

theorem Zip_is_model (first : C A) (second : C B) : MonadGen.Zip o first second = zip o first second := rfl

theorem Ap_is_model (tfab : C (A → GoM B)) (ta : C A) : MonadGen.Ap o tfab ta = ap o tfab ta := rfl

theorem Compose_is_model (f1 : A → C B) (f2 : B → C D) : MonadGen.Compose o f1 f2 = compose o f1 f2 := rfl

theorem Compose2_is_model (f1 : A → C B) (f2 : B → C D) : MonadGen.Compose2 o f1 f2 = compose o f1 f2 := rfl

/-- the supplier `ta` is called inside the continuation of `tfab`, nowhere else -/
theorem ApFunc_is_model (tfab : C (A → GoM B)) (ta : Unit → C A) : MonadGen.ApFunc o tfab ta = apFunc o tfab ta := rfl

theorem MapSeqLift_is_model (ta : C (List A)) (f : A → GoM B) : MonadGen.MapSeqLift o ta f = mapSeqLift o ta f := rfl

theorem MapSliceLift_is_model (ta : C (List A)) (f : A → GoM B) : MonadGen.MapSliceLift o ta f = mapSeqLift o ta f := rfl

/-- `Lift(fa)(ta) = Map(ta, fa)` -/
theorem Lift_is_model (fa : A → GoM R) : MonadGen.Lift o fa = fun ta => map o ta fa := rfl

theorem LiftA2_is_model (fab : A → B → GoM R) : MonadGen.LiftA2 o fab = liftA2 o fab := rfl

/-- `LiftM(fa)(ta) = Flatten(Map(ta, fa))`: `Map`'s plain-callback parameter is instantiated with `fa`, whose result is
    monadic; for a lawful package this is the model's reading. -/
theorem LiftM_is_model (L : o.Lawful) (fa : A → C R) (ta : C A) : MonadGen.LiftM o fa ta = MonadFamily.liftM o fa ta := by
  rw [C01.liftM_def o L]
  simp only [MonadGen.LiftM, MonadGen.Map, MonadGen.Flatten, composeSeq_def, L.seq_pure, L.left_id, L.assoc]

theorem LiftM2_is_model (L : o.Lawful) (fab : A → B → C R) (a : C A) (b : C B) :
    MonadGen.LiftM2 o fab a b = liftM2 o fab a b := by
  rw [C01.liftM2_def o L]
  simp only [MonadGen.LiftM2, MonadGen.Map2, MonadGen.Map, MonadGen.Flatten, composeSeq_def, L.seq_pure, L.left_id, L.assoc]

theorem FlatMap2_is_model (L : o.Lawful) (first : C A) (second : C B) (fab : A → B → C R) :
    MonadGen.FlatMap2 o first second fab = flatMap2 o first second fab := LiftM2_is_model o L fab first second

theorem Flap_is_model (tfa : C (A → GoM R)) : MonadGen.Flap o tfa = flap o tfa := rfl

theorem Flap2_is_model (tfab : C (A → GoM (B → GoM R))) : MonadGen.Flap2 o tfab = flap2 o tfab := rfl

theorem FlapMap_is_model (tfab : A → B → GoM R) (a : C A) : MonadGen.FlapMap o tfab a = flapMap o tfab a := rfl

/-- `FlatFlapMap(fab, ta) = fp.Compose(FlapMap(fab, ta), Flatten)` with `FlapMap`'s `R := M[R]` -/
theorem FlatFlapMap_is_model (L : o.Lawful) (fab : A → B → C R) (ta : C A) (b : B) :
    MonadGen.FlatFlapMap o fab ta b = flatFlapMap o fab ta b := by
  rw [C01.flatFlapMap_def o L]
  simp only [MonadGen.FlatFlapMap, MonadGen.FlapMap, MonadGen.Flap, MonadGen.Ap, MonadGen.Map, MonadGen.Flatten,
    composeC_def, composeSeq_def, curriedFunc2_def, L.seq_pure, L.left_id, L.assoc]

theorem Method1_is_model (ta : C A) (fab : A → B → GoM R) : MonadGen.Method1 o ta fab = method1 o ta fab := rfl

theorem FlatMethod1_is_model (L : o.Lawful) (ta : C A) (fab : A → B → C R) (b : B) :
    MonadGen.FlatMethod1 o ta fab b = flatMethod1 o ta fab b := FlatFlapMap_is_model o L fab ta b

theorem Method2_is_model (ta : C A) (fabc : A → B → D → GoM R) : MonadGen.Method2 o ta fabc = method2 o ta fabc := rfl

/-- `FlatMethod2 = Revert2(Compose2(Flap2(Map(ta, Func3(fabc))), Flatten))` with `Func3`'s `R := M[R]` -/
theorem FlatMethod2_is_model (L : o.Lawful) (ta : C A) (fabc : A → B → D → C R) (b : B) (c : D) :
    MonadGen.FlatMethod2 o ta fabc b c = flatMethod2 o ta fabc b c := by
  rw [C01.flatMethod2_def o L]
  simp only [MonadGen.FlatMethod2, MonadGen.Flap2, MonadGen.Flap, MonadGen.Ap, MonadGen.Map, MonadGen.Flatten, revert2_def,
    curriedCompose2_def, curriedFunc3_def, composeSeq_def, L.seq_pure, L.left_id, L.assoc]

theorem UnZip_is_model (t : C (A × B)) : MonadGen.UnZip o t = unzip o t := rfl

theorem With_is_model (withf : A → B → GoM A) (v : C B) : MonadGen.With o withf v = with_ o withf v := rfl

/-- `Zip3(ta, tb, tc) = LiftA3(product.Tuple3)(ta, tb, tc)` -/
theorem Zip3_is_model (ta tb tc : C A) :
    MonadGen.Zip3 o ta tb tc
      = liftAList o [ta, tb, tc] (fun xs => match xs with | [a, b, c] => Pure.pure (a, b, c) | _ => throw "arity") := rfl

theorem Zip3_def (ta : C A) (tb : C B) (tc : C D) :
    MonadGen.Zip3 o ta tb tc
      = o.flatMap ta (fun a => o.flatMap tb (fun b => o.flatMap tc (fun c => o.seq (Pure.pure (a, b, c)) o.pure'))) := rfl

-- the members of small arity also are instances of the arity-generic list models -------------------------------------------

theorem Map_is_liftAList (f : List A → GoM R) (m1 : C A) :
    MonadGen.Map o m1 (fun a1 => f [a1]) = liftAList o [m1] f := rfl

theorem Map2_is_liftAList (f : List A → GoM R) (m1 m2 : C A) :
    MonadGen.Map2 o m1 m2 (fun a1 a2 => f [a1, a2]) = liftAList o [m1, m2] f := rfl

theorem LiftA2_is_liftAList (f : List A → GoM R) (m1 m2 : C A) :
    MonadGen.LiftA2 o (fun a1 a2 => f [a1, a2]) m1 m2 = liftAList o [m1, m2] f := rfl

theorem LiftM2_def (L : o.Lawful) (fab : A → B → C R) (a : C A) (b : C B) :
    MonadGen.LiftM2 o fab a b = o.flatMap a (fun x => o.flatMap b (fun y => fab x y)) :=
  (LiftM2_is_model o L fab a b).trans (C01.liftM2_def o L fab a b)

theorem LiftM2_is_liftMList (L : o.Lawful) (f : List A → C R) (m1 m2 : C A) :
    MonadGen.LiftM2 o (fun a1 a2 => f [a1, a2]) m1 m2 = liftMList o [m1, m2] f := by
  rw [LiftM2_def o L]; rfl

theorem Flap_is_flapN (tf : C (A → GoM R)) (a1 : A) :
    flapN o 0 tf [a1] = map o (MonadGen.Flap o tf a1) (fun r => Pure.pure (some r)) := by rfl

theorem Flap2_is_flapN (tf : C (A → GoM (A → GoM R))) (a1 a2 : A) :
    flapN o 1 tf [a1, a2] = map o (MonadGen.Flap2 o tf a1 a2) (fun r => Pure.pure (some r)) := by rfl

theorem Compose2_is_composeList (f1 f2 : A → C A) : MonadGen.Compose2 o f1 f2 = composeList o [f1, f2] := rfl

/-- every N-ary callback on one type is a function of the argument list (shown for N = 3; the other arities alike), so the
    `_is_model` statements below lose nothing -/
theorem nary_as_list3 (g : A → A → A → GoM R) :
    (fun a1 a2 a3 => (fun xs => match xs with | [x1, x2, x3] => g x1 x2 x3 | _ => throw "arity") [a1, a2, a3]) = g := rfl

-- LiftA3..9, Map3..9: run the operands left to right, then call f once ----------------------------------------
theorem LiftA3_is_model (f : List A → GoM R) (m1 m2 m3 : C A) :
    MonadGen.LiftA3 o (fun a1 a2 a3 => f [a1, a2, a3]) m1 m2 m3 = liftAList o [m1, m2, m3] f := by rfl
theorem LiftA3_def {A1 A2 A3 : Type} (f : A1 → A2 → A3 → GoM R) (m1 : C A1) (m2 : C A2) (m3 : C A3) :
    MonadGen.LiftA3 o f m1 m2 m3
      = o.flatMap m1 (fun a1 => o.flatMap m2 (fun a2 => o.flatMap m3 (fun a3 => o.seq (f a1 a2 a3) o.pure'))) := rfl
theorem Map3_is_model (f : List A → GoM R) (m1 m2 m3 : C A) :
    MonadGen.Map3 o m1 m2 m3 (fun a1 a2 a3 => f [a1, a2, a3]) = liftAList o [m1, m2, m3] f := by rfl
theorem Map3_def {A1 A2 A3 : Type} (f : A1 → A2 → A3 → GoM R) (m1 : C A1) (m2 : C A2) (m3 : C A3) :
    MonadGen.Map3 o m1 m2 m3 f
      = o.flatMap m1 (fun a1 => o.flatMap m2 (fun a2 => o.flatMap m3 (fun a3 => o.seq (f a1 a2 a3) o.pure'))) := rfl

theorem LiftA4_is_model (f : List A → GoM R) (m1 m2 m3 m4 : C A) :
    MonadGen.LiftA4 o (fun a1 a2 a3 a4 => f [a1, a2, a3, a4]) m1 m2 m3 m4 = liftAList o [m1, m2, m3, m4] f := by rfl
theorem LiftA4_def {A1 A2 A3 A4 : Type} (f : A1 → A2 → A3 → A4 → GoM R) (m1 : C A1) (m2 : C A2) (m3 : C A3) (m4 : C A4) :
    MonadGen.LiftA4 o f m1 m2 m3 m4
      = o.flatMap m1 (fun a1 => o.flatMap m2 (fun a2 => o.flatMap m3 (fun a3 => o.flatMap m4 (fun a4 => o.seq (f a1 a2 a3 a4) o.pure')))) := rfl
theorem Map4_is_model (f : List A → GoM R) (m1 m2 m3 m4 : C A) :
    MonadGen.Map4 o m1 m2 m3 m4 (fun a1 a2 a3 a4 => f [a1, a2, a3, a4]) = liftAList o [m1, m2, m3, m4] f := by rfl
theorem Map4_def {A1 A2 A3 A4 : Type} (f : A1 → A2 → A3 → A4 → GoM R) (m1 : C A1) (m2 : C A2) (m3 : C A3) (m4 : C A4) :
    MonadGen.Map4 o m1 m2 m3 m4 f
      = o.flatMap m1 (fun a1 => o.flatMap m2 (fun a2 => o.flatMap m3 (fun a3 => o.flatMap m4 (fun a4 => o.seq (f a1 a2 a3 a4) o.pure')))) := rfl

theorem LiftA5_is_model (f : List A → GoM R) (m1 m2 m3 m4 m5 : C A) :
    MonadGen.LiftA5 o (fun a1 a2 a3 a4 a5 => f [a1, a2, a3, a4, a5]) m1 m2 m3 m4 m5 = liftAList o [m1, m2, m3, m4, m5] f := by rfl
theorem LiftA5_def {A1 A2 A3 A4 A5 : Type} (f : A1 → A2 → A3 → A4 → A5 → GoM R) (m1 : C A1) (m2 : C A2) (m3 : C A3) (m4 : C A4) (m5 : C A5) :
    MonadGen.LiftA5 o f m1 m2 m3 m4 m5
      = o.flatMap m1 (fun a1 => o.flatMap m2 (fun a2 => o.flatMap m3 (fun a3 => o.flatMap m4 (fun a4 => o.flatMap m5 (fun a5 => o.seq (f a1 a2 a3 a4 a5) o.pure'))))) := rfl
theorem Map5_is_model (f : List A → GoM R) (m1 m2 m3 m4 m5 : C A) :
    MonadGen.Map5 o m1 m2 m3 m4 m5 (fun a1 a2 a3 a4 a5 => f [a1, a2, a3, a4, a5]) = liftAList o [m1, m2, m3, m4, m5] f := by rfl
theorem Map5_def {A1 A2 A3 A4 A5 : Type} (f : A1 → A2 → A3 → A4 → A5 → GoM R) (m1 : C A1) (m2 : C A2) (m3 : C A3) (m4 : C A4) (m5 : C A5) :
    MonadGen.Map5 o m1 m2 m3 m4 m5 f
      = o.flatMap m1 (fun a1 => o.flatMap m2 (fun a2 => o.flatMap m3 (fun a3 => o.flatMap m4 (fun a4 => o.flatMap m5 (fun a5 => o.seq (f a1 a2 a3 a4 a5) o.pure'))))) := rfl

theorem LiftA6_is_model (f : List A → GoM R) (m1 m2 m3 m4 m5 m6 : C A) :
    MonadGen.LiftA6 o (fun a1 a2 a3 a4 a5 a6 => f [a1, a2, a3, a4, a5, a6]) m1 m2 m3 m4 m5 m6 = liftAList o [m1, m2, m3, m4, m5, m6] f := by rfl
theorem LiftA6_def {A1 A2 A3 A4 A5 A6 : Type} (f : A1 → A2 → A3 → A4 → A5 → A6 → GoM R) (m1 : C A1) (m2 : C A2) (m3 : C A3) (m4 : C A4) (m5 : C A5) (m6 : C A6) :
    MonadGen.LiftA6 o f m1 m2 m3 m4 m5 m6
      = o.flatMap m1 (fun a1 => o.flatMap m2 (fun a2 => o.flatMap m3 (fun a3 => o.flatMap m4 (fun a4 => o.flatMap m5 (fun a5 => o.flatMap m6 (fun a6 => o.seq (f a1 a2 a3 a4 a5 a6) o.pure')))))) := rfl
theorem Map6_is_model (f : List A → GoM R) (m1 m2 m3 m4 m5 m6 : C A) :
    MonadGen.Map6 o m1 m2 m3 m4 m5 m6 (fun a1 a2 a3 a4 a5 a6 => f [a1, a2, a3, a4, a5, a6]) = liftAList o [m1, m2, m3, m4, m5, m6] f := by rfl
theorem Map6_def {A1 A2 A3 A4 A5 A6 : Type} (f : A1 → A2 → A3 → A4 → A5 → A6 → GoM R) (m1 : C A1) (m2 : C A2) (m3 : C A3) (m4 : C A4) (m5 : C A5) (m6 : C A6) :
    MonadGen.Map6 o m1 m2 m3 m4 m5 m6 f
      = o.flatMap m1 (fun a1 => o.flatMap m2 (fun a2 => o.flatMap m3 (fun a3 => o.flatMap m4 (fun a4 => o.flatMap m5 (fun a5 => o.flatMap m6 (fun a6 => o.seq (f a1 a2 a3 a4 a5 a6) o.pure')))))) := rfl

theorem LiftA7_is_model (f : List A → GoM R) (m1 m2 m3 m4 m5 m6 m7 : C A) :
    MonadGen.LiftA7 o (fun a1 a2 a3 a4 a5 a6 a7 => f [a1, a2, a3, a4, a5, a6, a7]) m1 m2 m3 m4 m5 m6 m7 = liftAList o [m1, m2, m3, m4, m5, m6, m7] f := by rfl
theorem LiftA7_def {A1 A2 A3 A4 A5 A6 A7 : Type} (f : A1 → A2 → A3 → A4 → A5 → A6 → A7 → GoM R) (m1 : C A1) (m2 : C A2) (m3 : C A3) (m4 : C A4) (m5 : C A5) (m6 : C A6) (m7 : C A7) :
    MonadGen.LiftA7 o f m1 m2 m3 m4 m5 m6 m7
      = o.flatMap m1 (fun a1 => o.flatMap m2 (fun a2 => o.flatMap m3 (fun a3 => o.flatMap m4 (fun a4 => o.flatMap m5 (fun a5 => o.flatMap m6 (fun a6 => o.flatMap m7 (fun a7 => o.seq (f a1 a2 a3 a4 a5 a6 a7) o.pure'))))))) := rfl
theorem Map7_is_model (f : List A → GoM R) (m1 m2 m3 m4 m5 m6 m7 : C A) :
    MonadGen.Map7 o m1 m2 m3 m4 m5 m6 m7 (fun a1 a2 a3 a4 a5 a6 a7 => f [a1, a2, a3, a4, a5, a6, a7]) = liftAList o [m1, m2, m3, m4, m5, m6, m7] f := by rfl
theorem Map7_def {A1 A2 A3 A4 A5 A6 A7 : Type} (f : A1 → A2 → A3 → A4 → A5 → A6 → A7 → GoM R) (m1 : C A1) (m2 : C A2) (m3 : C A3) (m4 : C A4) (m5 : C A5) (m6 : C A6) (m7 : C A7) :
    MonadGen.Map7 o m1 m2 m3 m4 m5 m6 m7 f
      = o.flatMap m1 (fun a1 => o.flatMap m2 (fun a2 => o.flatMap m3 (fun a3 => o.flatMap m4 (fun a4 => o.flatMap m5 (fun a5 => o.flatMap m6 (fun a6 => o.flatMap m7 (fun a7 => o.seq (f a1 a2 a3 a4 a5 a6 a7) o.pure'))))))) := rfl

theorem LiftA8_is_model (f : List A → GoM R) (m1 m2 m3 m4 m5 m6 m7 m8 : C A) :
    MonadGen.LiftA8 o (fun a1 a2 a3 a4 a5 a6 a7 a8 => f [a1, a2, a3, a4, a5, a6, a7, a8]) m1 m2 m3 m4 m5 m6 m7 m8 = liftAList o [m1, m2, m3, m4, m5, m6, m7, m8] f := by rfl
theorem LiftA8_def {A1 A2 A3 A4 A5 A6 A7 A8 : Type} (f : A1 → A2 → A3 → A4 → A5 → A6 → A7 → A8 → GoM R) (m1 : C A1) (m2 : C A2) (m3 : C A3) (m4 : C A4) (m5 : C A5) (m6 : C A6) (m7 : C A7) (m8 : C A8) :
    MonadGen.LiftA8 o f m1 m2 m3 m4 m5 m6 m7 m8
      = o.flatMap m1 (fun a1 => o.flatMap m2 (fun a2 => o.flatMap m3 (fun a3 => o.flatMap m4 (fun a4 => o.flatMap m5 (fun a5 => o.flatMap m6 (fun a6 => o.flatMap m7 (fun a7 => o.flatMap m8 (fun a8 => o.seq (f a1 a2 a3 a4 a5 a6 a7 a8) o.pure')))))))) := rfl
theorem Map8_is_model (f : List A → GoM R) (m1 m2 m3 m4 m5 m6 m7 m8 : C A) :
    MonadGen.Map8 o m1 m2 m3 m4 m5 m6 m7 m8 (fun a1 a2 a3 a4 a5 a6 a7 a8 => f [a1, a2, a3, a4, a5, a6, a7, a8]) = liftAList o [m1, m2, m3, m4, m5, m6, m7, m8] f := by rfl
theorem Map8_def {A1 A2 A3 A4 A5 A6 A7 A8 : Type} (f : A1 → A2 → A3 → A4 → A5 → A6 → A7 → A8 → GoM R) (m1 : C A1) (m2 : C A2) (m3 : C A3) (m4 : C A4) (m5 : C A5) (m6 : C A6) (m7 : C A7) (m8 : C A8) :
    MonadGen.Map8 o m1 m2 m3 m4 m5 m6 m7 m8 f
      = o.flatMap m1 (fun a1 => o.flatMap m2 (fun a2 => o.flatMap m3 (fun a3 => o.flatMap m4 (fun a4 => o.flatMap m5 (fun a5 => o.flatMap m6 (fun a6 => o.flatMap m7 (fun a7 => o.flatMap m8 (fun a8 => o.seq (f a1 a2 a3 a4 a5 a6 a7 a8) o.pure')))))))) := rfl

theorem LiftA9_is_model (f : List A → GoM R) (m1 m2 m3 m4 m5 m6 m7 m8 m9 : C A) :
    MonadGen.LiftA9 o (fun a1 a2 a3 a4 a5 a6 a7 a8 a9 => f [a1, a2, a3, a4, a5, a6, a7, a8, a9]) m1 m2 m3 m4 m5 m6 m7 m8 m9 = liftAList o [m1, m2, m3, m4, m5, m6, m7, m8, m9] f := by rfl
theorem LiftA9_def {A1 A2 A3 A4 A5 A6 A7 A8 A9 : Type} (f : A1 → A2 → A3 → A4 → A5 → A6 → A7 → A8 → A9 → GoM R) (m1 : C A1) (m2 : C A2) (m3 : C A3) (m4 : C A4) (m5 : C A5) (m6 : C A6) (m7 : C A7) (m8 : C A8) (m9 : C A9) :
    MonadGen.LiftA9 o f m1 m2 m3 m4 m5 m6 m7 m8 m9
      = o.flatMap m1 (fun a1 => o.flatMap m2 (fun a2 => o.flatMap m3 (fun a3 => o.flatMap m4 (fun a4 => o.flatMap m5 (fun a5 => o.flatMap m6 (fun a6 => o.flatMap m7 (fun a7 => o.flatMap m8 (fun a8 => o.flatMap m9 (fun a9 => o.seq (f a1 a2 a3 a4 a5 a6 a7 a8 a9) o.pure'))))))))) := rfl
theorem Map9_is_model (f : List A → GoM R) (m1 m2 m3 m4 m5 m6 m7 m8 m9 : C A) :
    MonadGen.Map9 o m1 m2 m3 m4 m5 m6 m7 m8 m9 (fun a1 a2 a3 a4 a5 a6 a7 a8 a9 => f [a1, a2, a3, a4, a5, a6, a7, a8, a9]) = liftAList o [m1, m2, m3, m4, m5, m6, m7, m8, m9] f := by rfl
theorem Map9_def {A1 A2 A3 A4 A5 A6 A7 A8 A9 : Type} (f : A1 → A2 → A3 → A4 → A5 → A6 → A7 → A8 → A9 → GoM R) (m1 : C A1) (m2 : C A2) (m3 : C A3) (m4 : C A4) (m5 : C A5) (m6 : C A6) (m7 : C A7) (m8 : C A8) (m9 : C A9) :
    MonadGen.Map9 o m1 m2 m3 m4 m5 m6 m7 m8 m9 f
      = o.flatMap m1 (fun a1 => o.flatMap m2 (fun a2 => o.flatMap m3 (fun a3 => o.flatMap m4 (fun a4 => o.flatMap m5 (fun a5 => o.flatMap m6 (fun a6 => o.flatMap m7 (fun a7 => o.flatMap m8 (fun a8 => o.flatMap m9 (fun a9 => o.seq (f a1 a2 a3 a4 a5 a6 a7 a8 a9) o.pure'))))))))) := rfl

-- LiftM3..9, FlatMap3..9 (built on LiftM2 = Flatten(Map2(…)): lawful packages) ------------------------------
theorem LiftM3_def (L : o.Lawful) {A1 A2 A3 : Type} (f : A1 → A2 → A3 → C R) (m1 : C A1) (m2 : C A2) (m3 : C A3) :
    MonadGen.LiftM3 o f m1 m2 m3
      = o.flatMap m1 (fun a1 => o.flatMap m2 (fun a2 => o.flatMap m3 (fun a3 => f a1 a2 a3))) := by
  simp only [MonadGen.LiftM3, LiftM2_def o L]
theorem LiftM3_is_model (L : o.Lawful) (f : List A → C R) (m1 m2 m3 : C A) :
    MonadGen.LiftM3 o (fun a1 a2 a3 => f [a1, a2, a3]) m1 m2 m3 = liftMList o [m1, m2, m3] f := by
  rw [LiftM3_def o L]; rfl
theorem FlatMap3_def (L : o.Lawful) {A1 A2 A3 : Type} (f : A1 → A2 → A3 → C R) (m1 : C A1) (m2 : C A2) (m3 : C A3) :
    MonadGen.FlatMap3 o m1 m2 m3 f
      = o.flatMap m1 (fun a1 => o.flatMap m2 (fun a2 => o.flatMap m3 (fun a3 => f a1 a2 a3))) :=
  LiftM3_def o L f m1 m2 m3
theorem FlatMap3_is_model (L : o.Lawful) (f : List A → C R) (m1 m2 m3 : C A) :
    MonadGen.FlatMap3 o m1 m2 m3 (fun a1 a2 a3 => f [a1, a2, a3]) = liftMList o [m1, m2, m3] f :=
  LiftM3_is_model o L f m1 m2 m3

theorem LiftM4_def (L : o.Lawful) {A1 A2 A3 A4 : Type} (f : A1 → A2 → A3 → A4 → C R) (m1 : C A1) (m2 : C A2) (m3 : C A3) (m4 : C A4) :
    MonadGen.LiftM4 o f m1 m2 m3 m4
      = o.flatMap m1 (fun a1 => o.flatMap m2 (fun a2 => o.flatMap m3 (fun a3 => o.flatMap m4 (fun a4 => f a1 a2 a3 a4)))) := by
  simp only [MonadGen.LiftM4, LiftM3_def o L]
theorem LiftM4_is_model (L : o.Lawful) (f : List A → C R) (m1 m2 m3 m4 : C A) :
    MonadGen.LiftM4 o (fun a1 a2 a3 a4 => f [a1, a2, a3, a4]) m1 m2 m3 m4 = liftMList o [m1, m2, m3, m4] f := by
  rw [LiftM4_def o L]; rfl
theorem FlatMap4_def (L : o.Lawful) {A1 A2 A3 A4 : Type} (f : A1 → A2 → A3 → A4 → C R) (m1 : C A1) (m2 : C A2) (m3 : C A3) (m4 : C A4) :
    MonadGen.FlatMap4 o m1 m2 m3 m4 f
      = o.flatMap m1 (fun a1 => o.flatMap m2 (fun a2 => o.flatMap m3 (fun a3 => o.flatMap m4 (fun a4 => f a1 a2 a3 a4)))) :=
  LiftM4_def o L f m1 m2 m3 m4
theorem FlatMap4_is_model (L : o.Lawful) (f : List A → C R) (m1 m2 m3 m4 : C A) :
    MonadGen.FlatMap4 o m1 m2 m3 m4 (fun a1 a2 a3 a4 => f [a1, a2, a3, a4]) = liftMList o [m1, m2, m3, m4] f :=
  LiftM4_is_model o L f m1 m2 m3 m4

theorem LiftM5_def (L : o.Lawful) {A1 A2 A3 A4 A5 : Type} (f : A1 → A2 → A3 → A4 → A5 → C R) (m1 : C A1) (m2 : C A2) (m3 : C A3) (m4 : C A4) (m5 : C A5) :
    MonadGen.LiftM5 o f m1 m2 m3 m4 m5
      = o.flatMap m1 (fun a1 => o.flatMap m2 (fun a2 => o.flatMap m3 (fun a3 => o.flatMap m4 (fun a4 => o.flatMap m5 (fun a5 => f a1 a2 a3 a4 a5))))) := by
  simp only [MonadGen.LiftM5, LiftM4_def o L]
theorem LiftM5_is_model (L : o.Lawful) (f : List A → C R) (m1 m2 m3 m4 m5 : C A) :
    MonadGen.LiftM5 o (fun a1 a2 a3 a4 a5 => f [a1, a2, a3, a4, a5]) m1 m2 m3 m4 m5 = liftMList o [m1, m2, m3, m4, m5] f := by
  rw [LiftM5_def o L]; rfl
theorem FlatMap5_def (L : o.Lawful) {A1 A2 A3 A4 A5 : Type} (f : A1 → A2 → A3 → A4 → A5 → C R) (m1 : C A1) (m2 : C A2) (m3 : C A3) (m4 : C A4) (m5 : C A5) :
    MonadGen.FlatMap5 o m1 m2 m3 m4 m5 f
      = o.flatMap m1 (fun a1 => o.flatMap m2 (fun a2 => o.flatMap m3 (fun a3 => o.flatMap m4 (fun a4 => o.flatMap m5 (fun a5 => f a1 a2 a3 a4 a5))))) :=
  LiftM5_def o L f m1 m2 m3 m4 m5
theorem FlatMap5_is_model (L : o.Lawful) (f : List A → C R) (m1 m2 m3 m4 m5 : C A) :
    MonadGen.FlatMap5 o m1 m2 m3 m4 m5 (fun a1 a2 a3 a4 a5 => f [a1, a2, a3, a4, a5]) = liftMList o [m1, m2, m3, m4, m5] f :=
  LiftM5_is_model o L f m1 m2 m3 m4 m5

theorem LiftM6_def (L : o.Lawful) {A1 A2 A3 A4 A5 A6 : Type} (f : A1 → A2 → A3 → A4 → A5 → A6 → C R) (m1 : C A1) (m2 : C A2) (m3 : C A3) (m4 : C A4) (m5 : C A5) (m6 : C A6) :
    MonadGen.LiftM6 o f m1 m2 m3 m4 m5 m6
      = o.flatMap m1 (fun a1 => o.flatMap m2 (fun a2 => o.flatMap m3 (fun a3 => o.flatMap m4 (fun a4 => o.flatMap m5 (fun a5 => o.flatMap m6 (fun a6 => f a1 a2 a3 a4 a5 a6)))))) := by
  simp only [MonadGen.LiftM6, LiftM5_def o L]
theorem LiftM6_is_model (L : o.Lawful) (f : List A → C R) (m1 m2 m3 m4 m5 m6 : C A) :
    MonadGen.LiftM6 o (fun a1 a2 a3 a4 a5 a6 => f [a1, a2, a3, a4, a5, a6]) m1 m2 m3 m4 m5 m6 = liftMList o [m1, m2, m3, m4, m5, m6] f := by
  rw [LiftM6_def o L]; rfl
theorem FlatMap6_def (L : o.Lawful) {A1 A2 A3 A4 A5 A6 : Type} (f : A1 → A2 → A3 → A4 → A5 → A6 → C R) (m1 : C A1) (m2 : C A2) (m3 : C A3) (m4 : C A4) (m5 : C A5) (m6 : C A6) :
    MonadGen.FlatMap6 o m1 m2 m3 m4 m5 m6 f
      = o.flatMap m1 (fun a1 => o.flatMap m2 (fun a2 => o.flatMap m3 (fun a3 => o.flatMap m4 (fun a4 => o.flatMap m5 (fun a5 => o.flatMap m6 (fun a6 => f a1 a2 a3 a4 a5 a6)))))) :=
  LiftM6_def o L f m1 m2 m3 m4 m5 m6
theorem FlatMap6_is_model (L : o.Lawful) (f : List A → C R) (m1 m2 m3 m4 m5 m6 : C A) :
    MonadGen.FlatMap6 o m1 m2 m3 m4 m5 m6 (fun a1 a2 a3 a4 a5 a6 => f [a1, a2, a3, a4, a5, a6]) = liftMList o [m1, m2, m3, m4, m5, m6] f :=
  LiftM6_is_model o L f m1 m2 m3 m4 m5 m6

theorem LiftM7_def (L : o.Lawful) {A1 A2 A3 A4 A5 A6 A7 : Type} (f : A1 → A2 → A3 → A4 → A5 → A6 → A7 → C R) (m1 : C A1) (m2 : C A2) (m3 : C A3) (m4 : C A4) (m5 : C A5) (m6 : C A6) (m7 : C A7) :
    MonadGen.LiftM7 o f m1 m2 m3 m4 m5 m6 m7
      = o.flatMap m1 (fun a1 => o.flatMap m2 (fun a2 => o.flatMap m3 (fun a3 => o.flatMap m4 (fun a4 => o.flatMap m5 (fun a5 => o.flatMap m6 (fun a6 => o.flatMap m7 (fun a7 => f a1 a2 a3 a4 a5 a6 a7))))))) := by
  simp only [MonadGen.LiftM7, LiftM6_def o L]
theorem LiftM7_is_model (L : o.Lawful) (f : List A → C R) (m1 m2 m3 m4 m5 m6 m7 : C A) :
    MonadGen.LiftM7 o (fun a1 a2 a3 a4 a5 a6 a7 => f [a1, a2, a3, a4, a5, a6, a7]) m1 m2 m3 m4 m5 m6 m7 = liftMList o [m1, m2, m3, m4, m5, m6, m7] f := by
  rw [LiftM7_def o L]; rfl
theorem FlatMap7_def (L : o.Lawful) {A1 A2 A3 A4 A5 A6 A7 : Type} (f : A1 → A2 → A3 → A4 → A5 → A6 → A7 → C R) (m1 : C A1) (m2 : C A2) (m3 : C A3) (m4 : C A4) (m5 : C A5) (m6 : C A6) (m7 : C A7) :
    MonadGen.FlatMap7 o m1 m2 m3 m4 m5 m6 m7 f
      = o.flatMap m1 (fun a1 => o.flatMap m2 (fun a2 => o.flatMap m3 (fun a3 => o.flatMap m4 (fun a4 => o.flatMap m5 (fun a5 => o.flatMap m6 (fun a6 => o.flatMap m7 (fun a7 => f a1 a2 a3 a4 a5 a6 a7))))))) :=
  LiftM7_def o L f m1 m2 m3 m4 m5 m6 m7
theorem FlatMap7_is_model (L : o.Lawful) (f : List A → C R) (m1 m2 m3 m4 m5 m6 m7 : C A) :
    MonadGen.FlatMap7 o m1 m2 m3 m4 m5 m6 m7 (fun a1 a2 a3 a4 a5 a6 a7 => f [a1, a2, a3, a4, a5, a6, a7]) = liftMList o [m1, m2, m3, m4, m5, m6, m7] f :=
  LiftM7_is_model o L f m1 m2 m3 m4 m5 m6 m7

theorem LiftM8_def (L : o.Lawful) {A1 A2 A3 A4 A5 A6 A7 A8 : Type} (f : A1 → A2 → A3 → A4 → A5 → A6 → A7 → A8 → C R) (m1 : C A1) (m2 : C A2) (m3 : C A3) (m4 : C A4) (m5 : C A5) (m6 : C A6) (m7 : C A7) (m8 : C A8) :
    MonadGen.LiftM8 o f m1 m2 m3 m4 m5 m6 m7 m8
      = o.flatMap m1 (fun a1 => o.flatMap m2 (fun a2 => o.flatMap m3 (fun a3 => o.flatMap m4 (fun a4 => o.flatMap m5 (fun a5 => o.flatMap m6 (fun a6 => o.flatMap m7 (fun a7 => o.flatMap m8 (fun a8 => f a1 a2 a3 a4 a5 a6 a7 a8)))))))) := by
  simp only [MonadGen.LiftM8, LiftM7_def o L]
theorem LiftM8_is_model (L : o.Lawful) (f : List A → C R) (m1 m2 m3 m4 m5 m6 m7 m8 : C A) :
    MonadGen.LiftM8 o (fun a1 a2 a3 a4 a5 a6 a7 a8 => f [a1, a2, a3, a4, a5, a6, a7, a8]) m1 m2 m3 m4 m5 m6 m7 m8 = liftMList o [m1, m2, m3, m4, m5, m6, m7, m8] f := by
  rw [LiftM8_def o L]; rfl
theorem FlatMap8_def (L : o.Lawful) {A1 A2 A3 A4 A5 A6 A7 A8 : Type} (f : A1 → A2 → A3 → A4 → A5 → A6 → A7 → A8 → C R) (m1 : C A1) (m2 : C A2) (m3 : C A3) (m4 : C A4) (m5 : C A5) (m6 : C A6) (m7 : C A7) (m8 : C A8) :
    MonadGen.FlatMap8 o m1 m2 m3 m4 m5 m6 m7 m8 f
      = o.flatMap m1 (fun a1 => o.flatMap m2 (fun a2 => o.flatMap m3 (fun a3 => o.flatMap m4 (fun a4 => o.flatMap m5 (fun a5 => o.flatMap m6 (fun a6 => o.flatMap m7 (fun a7 => o.flatMap m8 (fun a8 => f a1 a2 a3 a4 a5 a6 a7 a8)))))))) :=
  LiftM8_def o L f m1 m2 m3 m4 m5 m6 m7 m8
theorem FlatMap8_is_model (L : o.Lawful) (f : List A → C R) (m1 m2 m3 m4 m5 m6 m7 m8 : C A) :
    MonadGen.FlatMap8 o m1 m2 m3 m4 m5 m6 m7 m8 (fun a1 a2 a3 a4 a5 a6 a7 a8 => f [a1, a2, a3, a4, a5, a6, a7, a8]) = liftMList o [m1, m2, m3, m4, m5, m6, m7, m8] f :=
  LiftM8_is_model o L f m1 m2 m3 m4 m5 m6 m7 m8

theorem LiftM9_def (L : o.Lawful) {A1 A2 A3 A4 A5 A6 A7 A8 A9 : Type} (f : A1 → A2 → A3 → A4 → A5 → A6 → A7 → A8 → A9 → C R) (m1 : C A1) (m2 : C A2) (m3 : C A3) (m4 : C A4) (m5 : C A5) (m6 : C A6) (m7 : C A7) (m8 : C A8) (m9 : C A9) :
    MonadGen.LiftM9 o f m1 m2 m3 m4 m5 m6 m7 m8 m9
      = o.flatMap m1 (fun a1 => o.flatMap m2 (fun a2 => o.flatMap m3 (fun a3 => o.flatMap m4 (fun a4 => o.flatMap m5 (fun a5 => o.flatMap m6 (fun a6 => o.flatMap m7 (fun a7 => o.flatMap m8 (fun a8 => o.flatMap m9 (fun a9 => f a1 a2 a3 a4 a5 a6 a7 a8 a9))))))))) := by
  simp only [MonadGen.LiftM9, LiftM8_def o L]
theorem LiftM9_is_model (L : o.Lawful) (f : List A → C R) (m1 m2 m3 m4 m5 m6 m7 m8 m9 : C A) :
    MonadGen.LiftM9 o (fun a1 a2 a3 a4 a5 a6 a7 a8 a9 => f [a1, a2, a3, a4, a5, a6, a7, a8, a9]) m1 m2 m3 m4 m5 m6 m7 m8 m9 = liftMList o [m1, m2, m3, m4, m5, m6, m7, m8, m9] f := by
  rw [LiftM9_def o L]; rfl
theorem FlatMap9_def (L : o.Lawful) {A1 A2 A3 A4 A5 A6 A7 A8 A9 : Type} (f : A1 → A2 → A3 → A4 → A5 → A6 → A7 → A8 → A9 → C R) (m1 : C A1) (m2 : C A2) (m3 : C A3) (m4 : C A4) (m5 : C A5) (m6 : C A6) (m7 : C A7) (m8 : C A8) (m9 : C A9) :
    MonadGen.FlatMap9 o m1 m2 m3 m4 m5 m6 m7 m8 m9 f
      = o.flatMap m1 (fun a1 => o.flatMap m2 (fun a2 => o.flatMap m3 (fun a3 => o.flatMap m4 (fun a4 => o.flatMap m5 (fun a5 => o.flatMap m6 (fun a6 => o.flatMap m7 (fun a7 => o.flatMap m8 (fun a8 => o.flatMap m9 (fun a9 => f a1 a2 a3 a4 a5 a6 a7 a8 a9))))))))) :=
  LiftM9_def o L f m1 m2 m3 m4 m5 m6 m7 m8 m9
theorem FlatMap9_is_model (L : o.Lawful) (f : List A → C R) (m1 m2 m3 m4 m5 m6 m7 m8 m9 : C A) :
    MonadGen.FlatMap9 o m1 m2 m3 m4 m5 m6 m7 m8 m9 (fun a1 a2 a3 a4 a5 a6 a7 a8 a9 => f [a1, a2, a3, a4, a5, a6, a7, a8, a9]) = liftMList o [m1, m2, m3, m4, m5, m6, m7, m8, m9] f :=
  LiftM9_is_model o L f m1 m2 m3 m4 m5 m6 m7 m8 m9

-- Flap3..9: FlapN(tf)(a1)…(aN) unwraps tf once per stage --------------------------------------------------
theorem Flap3_is_model (tf : C (A → GoM (A → GoM (A → GoM R)))) (a1 a2 a3 : A) :
    flapN o 2 tf [a1, a2, a3] = map o (MonadGen.Flap3 o tf a1 a2 a3) (fun r => Pure.pure (some r)) := by rfl
theorem Flap4_is_model (tf : C (A → GoM (A → GoM (A → GoM (A → GoM R))))) (a1 a2 a3 a4 : A) :
    flapN o 3 tf [a1, a2, a3, a4] = map o (MonadGen.Flap4 o tf a1 a2 a3 a4) (fun r => Pure.pure (some r)) := by rfl
theorem Flap5_is_model (tf : C (A → GoM (A → GoM (A → GoM (A → GoM (A → GoM R)))))) (a1 a2 a3 a4 a5 : A) :
    flapN o 4 tf [a1, a2, a3, a4, a5] = map o (MonadGen.Flap5 o tf a1 a2 a3 a4 a5) (fun r => Pure.pure (some r)) := by rfl
theorem Flap6_is_model (tf : C (A → GoM (A → GoM (A → GoM (A → GoM (A → GoM (A → GoM R))))))) (a1 a2 a3 a4 a5 a6 : A) :
    flapN o 5 tf [a1, a2, a3, a4, a5, a6] = map o (MonadGen.Flap6 o tf a1 a2 a3 a4 a5 a6) (fun r => Pure.pure (some r)) := by rfl
theorem Flap7_is_model (tf : C (A → GoM (A → GoM (A → GoM (A → GoM (A → GoM (A → GoM (A → GoM R)))))))) (a1 a2 a3 a4 a5 a6 a7 : A) :
    flapN o 6 tf [a1, a2, a3, a4, a5, a6, a7] = map o (MonadGen.Flap7 o tf a1 a2 a3 a4 a5 a6 a7) (fun r => Pure.pure (some r)) := by rfl
theorem Flap8_is_model (tf : C (A → GoM (A → GoM (A → GoM (A → GoM (A → GoM (A → GoM (A → GoM (A → GoM R))))))))) (a1 a2 a3 a4 a5 a6 a7 a8 : A) :
    flapN o 7 tf [a1, a2, a3, a4, a5, a6, a7, a8] = map o (MonadGen.Flap8 o tf a1 a2 a3 a4 a5 a6 a7 a8) (fun r => Pure.pure (some r)) := by rfl
theorem Flap9_is_model (tf : C (A → GoM (A → GoM (A → GoM (A → GoM (A → GoM (A → GoM (A → GoM (A → GoM (A → GoM R)))))))))) (a1 a2 a3 a4 a5 a6 a7 a8 a9 : A) :
    flapN o 8 tf [a1, a2, a3, a4, a5, a6, a7, a8, a9] = map o (MonadGen.Flap9 o tf a1 a2 a3 a4 a5 a6 a7 a8 a9) (fun r => Pure.pure (some r)) := by rfl

-- Method3..9, FlatMethod3..9 --------------------------------------------------------------------------------
theorem Method3_is_model (f : List A → GoM R) (ta : C A) (a2 a3 : A) :
    MonadGen.Method3 o ta (fun a1 a2 a3 => f [a1, a2, a3]) a2 a3 = methodN o ta f [a2, a3] := rfl
theorem Method3_def {A1 A2 A3 : Type} (ta : C A1) (f : A1 → A2 → A3 → GoM R) (a2 : A2) (a3 : A3) :
    MonadGen.Method3 o ta f a2 a3 = o.flatMap ta (fun a1 => o.seq (f a1 a2 a3) o.pure') := rfl
theorem FlatMethod3_is_model (f : List A → C R) (ta : C A) (a2 a3 : A) :
    MonadGen.FlatMethod3 o ta (fun a1 a2 a3 => f [a1, a2, a3]) a2 a3 = flatMethodN o ta f [a2, a3] := rfl
theorem FlatMethod3_def {A1 A2 A3 : Type} (ta : C A1) (f : A1 → A2 → A3 → C R) (a2 : A2) (a3 : A3) :
    MonadGen.FlatMethod3 o ta f a2 a3 = o.flatMap ta (fun a1 => f a1 a2 a3) := rfl

theorem Method4_is_model (f : List A → GoM R) (ta : C A) (a2 a3 a4 : A) :
    MonadGen.Method4 o ta (fun a1 a2 a3 a4 => f [a1, a2, a3, a4]) a2 a3 a4 = methodN o ta f [a2, a3, a4] := rfl
theorem Method4_def {A1 A2 A3 A4 : Type} (ta : C A1) (f : A1 → A2 → A3 → A4 → GoM R) (a2 : A2) (a3 : A3) (a4 : A4) :
    MonadGen.Method4 o ta f a2 a3 a4 = o.flatMap ta (fun a1 => o.seq (f a1 a2 a3 a4) o.pure') := rfl
theorem FlatMethod4_is_model (f : List A → C R) (ta : C A) (a2 a3 a4 : A) :
    MonadGen.FlatMethod4 o ta (fun a1 a2 a3 a4 => f [a1, a2, a3, a4]) a2 a3 a4 = flatMethodN o ta f [a2, a3, a4] := rfl
theorem FlatMethod4_def {A1 A2 A3 A4 : Type} (ta : C A1) (f : A1 → A2 → A3 → A4 → C R) (a2 : A2) (a3 : A3) (a4 : A4) :
    MonadGen.FlatMethod4 o ta f a2 a3 a4 = o.flatMap ta (fun a1 => f a1 a2 a3 a4) := rfl

theorem Method5_is_model (f : List A → GoM R) (ta : C A) (a2 a3 a4 a5 : A) :
    MonadGen.Method5 o ta (fun a1 a2 a3 a4 a5 => f [a1, a2, a3, a4, a5]) a2 a3 a4 a5 = methodN o ta f [a2, a3, a4, a5] := rfl
theorem Method5_def {A1 A2 A3 A4 A5 : Type} (ta : C A1) (f : A1 → A2 → A3 → A4 → A5 → GoM R) (a2 : A2) (a3 : A3) (a4 : A4) (a5 : A5) :
    MonadGen.Method5 o ta f a2 a3 a4 a5 = o.flatMap ta (fun a1 => o.seq (f a1 a2 a3 a4 a5) o.pure') := rfl
theorem FlatMethod5_is_model (f : List A → C R) (ta : C A) (a2 a3 a4 a5 : A) :
    MonadGen.FlatMethod5 o ta (fun a1 a2 a3 a4 a5 => f [a1, a2, a3, a4, a5]) a2 a3 a4 a5 = flatMethodN o ta f [a2, a3, a4, a5] := rfl
theorem FlatMethod5_def {A1 A2 A3 A4 A5 : Type} (ta : C A1) (f : A1 → A2 → A3 → A4 → A5 → C R) (a2 : A2) (a3 : A3) (a4 : A4) (a5 : A5) :
    MonadGen.FlatMethod5 o ta f a2 a3 a4 a5 = o.flatMap ta (fun a1 => f a1 a2 a3 a4 a5) := rfl

theorem Method6_is_model (f : List A → GoM R) (ta : C A) (a2 a3 a4 a5 a6 : A) :
    MonadGen.Method6 o ta (fun a1 a2 a3 a4 a5 a6 => f [a1, a2, a3, a4, a5, a6]) a2 a3 a4 a5 a6 = methodN o ta f [a2, a3, a4, a5, a6] := rfl
theorem Method6_def {A1 A2 A3 A4 A5 A6 : Type} (ta : C A1) (f : A1 → A2 → A3 → A4 → A5 → A6 → GoM R) (a2 : A2) (a3 : A3) (a4 : A4) (a5 : A5) (a6 : A6) :
    MonadGen.Method6 o ta f a2 a3 a4 a5 a6 = o.flatMap ta (fun a1 => o.seq (f a1 a2 a3 a4 a5 a6) o.pure') := rfl
theorem FlatMethod6_is_model (f : List A → C R) (ta : C A) (a2 a3 a4 a5 a6 : A) :
    MonadGen.FlatMethod6 o ta (fun a1 a2 a3 a4 a5 a6 => f [a1, a2, a3, a4, a5, a6]) a2 a3 a4 a5 a6 = flatMethodN o ta f [a2, a3, a4, a5, a6] := rfl
theorem FlatMethod6_def {A1 A2 A3 A4 A5 A6 : Type} (ta : C A1) (f : A1 → A2 → A3 → A4 → A5 → A6 → C R) (a2 : A2) (a3 : A3) (a4 : A4) (a5 : A5) (a6 : A6) :
    MonadGen.FlatMethod6 o ta f a2 a3 a4 a5 a6 = o.flatMap ta (fun a1 => f a1 a2 a3 a4 a5 a6) := rfl

theorem Method7_is_model (f : List A → GoM R) (ta : C A) (a2 a3 a4 a5 a6 a7 : A) :
    MonadGen.Method7 o ta (fun a1 a2 a3 a4 a5 a6 a7 => f [a1, a2, a3, a4, a5, a6, a7]) a2 a3 a4 a5 a6 a7 = methodN o ta f [a2, a3, a4, a5, a6, a7] := rfl
theorem Method7_def {A1 A2 A3 A4 A5 A6 A7 : Type} (ta : C A1) (f : A1 → A2 → A3 → A4 → A5 → A6 → A7 → GoM R) (a2 : A2) (a3 : A3) (a4 : A4) (a5 : A5) (a6 : A6) (a7 : A7) :
    MonadGen.Method7 o ta f a2 a3 a4 a5 a6 a7 = o.flatMap ta (fun a1 => o.seq (f a1 a2 a3 a4 a5 a6 a7) o.pure') := rfl
theorem FlatMethod7_is_model (f : List A → C R) (ta : C A) (a2 a3 a4 a5 a6 a7 : A) :
    MonadGen.FlatMethod7 o ta (fun a1 a2 a3 a4 a5 a6 a7 => f [a1, a2, a3, a4, a5, a6, a7]) a2 a3 a4 a5 a6 a7 = flatMethodN o ta f [a2, a3, a4, a5, a6, a7] := rfl
theorem FlatMethod7_def {A1 A2 A3 A4 A5 A6 A7 : Type} (ta : C A1) (f : A1 → A2 → A3 → A4 → A5 → A6 → A7 → C R) (a2 : A2) (a3 : A3) (a4 : A4) (a5 : A5) (a6 : A6) (a7 : A7) :
    MonadGen.FlatMethod7 o ta f a2 a3 a4 a5 a6 a7 = o.flatMap ta (fun a1 => f a1 a2 a3 a4 a5 a6 a7) := rfl

theorem Method8_is_model (f : List A → GoM R) (ta : C A) (a2 a3 a4 a5 a6 a7 a8 : A) :
    MonadGen.Method8 o ta (fun a1 a2 a3 a4 a5 a6 a7 a8 => f [a1, a2, a3, a4, a5, a6, a7, a8]) a2 a3 a4 a5 a6 a7 a8 = methodN o ta f [a2, a3, a4, a5, a6, a7, a8] := rfl
theorem Method8_def {A1 A2 A3 A4 A5 A6 A7 A8 : Type} (ta : C A1) (f : A1 → A2 → A3 → A4 → A5 → A6 → A7 → A8 → GoM R) (a2 : A2) (a3 : A3) (a4 : A4) (a5 : A5) (a6 : A6) (a7 : A7) (a8 : A8) :
    MonadGen.Method8 o ta f a2 a3 a4 a5 a6 a7 a8 = o.flatMap ta (fun a1 => o.seq (f a1 a2 a3 a4 a5 a6 a7 a8) o.pure') := rfl
theorem FlatMethod8_is_model (f : List A → C R) (ta : C A) (a2 a3 a4 a5 a6 a7 a8 : A) :
    MonadGen.FlatMethod8 o ta (fun a1 a2 a3 a4 a5 a6 a7 a8 => f [a1, a2, a3, a4, a5, a6, a7, a8]) a2 a3 a4 a5 a6 a7 a8 = flatMethodN o ta f [a2, a3, a4, a5, a6, a7, a8] := rfl
theorem FlatMethod8_def {A1 A2 A3 A4 A5 A6 A7 A8 : Type} (ta : C A1) (f : A1 → A2 → A3 → A4 → A5 → A6 → A7 → A8 → C R) (a2 : A2) (a3 : A3) (a4 : A4) (a5 : A5) (a6 : A6) (a7 : A7) (a8 : A8) :
    MonadGen.FlatMethod8 o ta f a2 a3 a4 a5 a6 a7 a8 = o.flatMap ta (fun a1 => f a1 a2 a3 a4 a5 a6 a7 a8) := rfl

theorem Method9_is_model (f : List A → GoM R) (ta : C A) (a2 a3 a4 a5 a6 a7 a8 a9 : A) :
    MonadGen.Method9 o ta (fun a1 a2 a3 a4 a5 a6 a7 a8 a9 => f [a1, a2, a3, a4, a5, a6, a7, a8, a9]) a2 a3 a4 a5 a6 a7 a8 a9 = methodN o ta f [a2, a3, a4, a5, a6, a7, a8, a9] := rfl
theorem Method9_def {A1 A2 A3 A4 A5 A6 A7 A8 A9 : Type} (ta : C A1) (f : A1 → A2 → A3 → A4 → A5 → A6 → A7 → A8 → A9 → GoM R) (a2 : A2) (a3 : A3) (a4 : A4) (a5 : A5) (a6 : A6) (a7 : A7) (a8 : A8) (a9 : A9) :
    MonadGen.Method9 o ta f a2 a3 a4 a5 a6 a7 a8 a9 = o.flatMap ta (fun a1 => o.seq (f a1 a2 a3 a4 a5 a6 a7 a8 a9) o.pure') := rfl
theorem FlatMethod9_is_model (f : List A → C R) (ta : C A) (a2 a3 a4 a5 a6 a7 a8 a9 : A) :
    MonadGen.FlatMethod9 o ta (fun a1 a2 a3 a4 a5 a6 a7 a8 a9 => f [a1, a2, a3, a4, a5, a6, a7, a8, a9]) a2 a3 a4 a5 a6 a7 a8 a9 = flatMethodN o ta f [a2, a3, a4, a5, a6, a7, a8, a9] := rfl
theorem FlatMethod9_def {A1 A2 A3 A4 A5 A6 A7 A8 A9 : Type} (ta : C A1) (f : A1 → A2 → A3 → A4 → A5 → A6 → A7 → A8 → A9 → C R) (a2 : A2) (a3 : A3) (a4 : A4) (a5 : A5) (a6 : A6) (a7 : A7) (a8 : A8) (a9 : A9) :
    MonadGen.FlatMethod9 o ta f a2 a3 a4 a5 a6 a7 a8 a9 = o.flatMap ta (fun a1 => f a1 a2 a3 a4 a5 a6 a7 a8 a9) := rfl

-- Compose3..5: the left-to-right Kleisli chain ------------------------------------------------------------
theorem Compose3_is_model (f1 f2 f3 : A → C A) : MonadGen.Compose3 o f1 f2 f3 = composeList o [f1, f2, f3] := rfl
theorem Compose3_def {A1 A2 A3 : Type} (f1 : A1 → C A2) (f2 : A2 → C A3) (f3 : A3 → C R) (a : A1) :
    MonadGen.Compose3 o f1 f2 f3 a = o.flatMap (f1 a) (fun x2 => o.flatMap (f2 x2) f3) := rfl
theorem Compose4_is_model (f1 f2 f3 f4 : A → C A) : MonadGen.Compose4 o f1 f2 f3 f4 = composeList o [f1, f2, f3, f4] := rfl
theorem Compose4_def {A1 A2 A3 A4 : Type} (f1 : A1 → C A2) (f2 : A2 → C A3) (f3 : A3 → C A4) (f4 : A4 → C R) (a : A1) :
    MonadGen.Compose4 o f1 f2 f3 f4 a = o.flatMap (f1 a) (fun x2 => o.flatMap (f2 x2) (fun x3 => o.flatMap (f3 x3) f4)) := rfl
theorem Compose5_is_model (f1 f2 f3 f4 f5 : A → C A) : MonadGen.Compose5 o f1 f2 f3 f4 f5 = composeList o [f1, f2, f3, f4, f5] := rfl
theorem Compose5_def {A1 A2 A3 A4 A5 : Type} (f1 : A1 → C A2) (f2 : A2 → C A3) (f3 : A3 → C A4) (f4 : A4 → C A5) (f5 : A5 → C R) (a : A1) :
    MonadGen.Compose5 o f1 f2 f3 f4 f5 a = o.flatMap (f1 a) (fun x2 => o.flatMap (f2 x2) (fun x3 => o.flatMap (f3 x3) (fun x4 => o.flatMap (f4 x4) f5))) := rfl

-- X_traverse.go (over the package's own FoldM, a parameter as in the model) ------------------------------------------------

section traverse
variable (fm : FoldMFn C)

theorem TraverseSeq_is_model (sa : List A) (fa : A → C R) :
    MonadGen.TraverseSeq o fm sa fa = traverseSeq o fm sa fa := rfl

theorem Traverse_is_model (ia : List A) (fn : A → C R) : MonadGen.Traverse o fm ia fn = traverse o fm ia fn := rfl

theorem TraverseSlice_is_model (sa : List A) (fa : A → C R) :
    MonadGen.TraverseSlice o fm sa fa = traverse o fm sa fa := rfl

theorem TraverseFunc_is_model (far : A → C R) :
    MonadGen.TraverseFunc o fm far = fun ia => traverse o fm ia far := rfl

theorem TraverseSeqFunc_is_model (far : A → C R) :
    MonadGen.TraverseSeqFunc o fm far = fun sa => traverseSeq o fm sa far := rfl

theorem TraverseSliceFunc_is_model (far : A → C R) :
    MonadGen.TraverseSliceFunc o fm far = fun sa => traverse o fm sa far := rfl

theorem FlatMapTraverseSeq_is_model (ta : C (List A)) (f : A → C B) :
    MonadGen.FlatMapTraverseSeq o fm ta f = flatMapTraverseSeq o fm ta f := rfl

theorem FlatMapTraverseSlice_is_model (ta : C (List A)) (f : A → C B) :
    MonadGen.FlatMapTraverseSlice o fm ta f = o.flatMap ta (fun sa => traverse o fm sa f) := rfl

theorem Sequence_is_model (tsa : List (C A)) : MonadGen.Sequence o fm tsa = sequence o fm tsa := rfl

/-- C01 (traverse): with the FlatMap chain as FoldM, the translated TraverseSeq visits the elements in order and collects
    the results in order (transport of `C01.traverseSeq_snoc`) -/
theorem TraverseSeq_snoc (L : o.Lawful) (xs : List A) (x : A) (fa : A → C R) :
    MonadGen.TraverseSeq o (foldM o) (xs ++ [x]) fa
      = o.flatMap (MonadGen.TraverseSeq o (foldM o) xs fa) (fun acc => o.flatMap (fa x) (fun r => o.pure' (acc ++ [r]))) :=
  C01.traverseSeq_snoc o L xs x fa

theorem SequenceIterator_is_model (ita : List (C A)) : MonadGen.SequenceIterator o fm ita = sequence o fm ita := rfl

end traverse

-- coverage -----------------------------------------------------------------------------------------------------------------

/-- every function of the generated files was found and translated, and there is no function the theorems above do not
    speak about (family name, arity suffix; 0 = none; source order) -/
theorem all_functions_translated : MonadGen.functions = [("Flatten", 0), ("Map", 0), ("Replace", 0), ("Map", 2), ("Zip", 0), ("Ap", 0), ("Compose", 0), ("Compose", 2), ("ApFunc", 0), ("MapSeqLift", 0), ("MapSliceLift", 0), ("Lift", 0), ("LiftA", 2), ("LiftM", 0), ("LiftM", 2), ("FlatMap", 2), ("Flap", 0), ("Flap", 2), ("FlapMap", 0), ("FlatFlapMap", 0), ("Method", 1), ("FlatMethod", 1), ("Method", 2), ("FlatMethod", 2), ("UnZip", 0), ("Zip", 3), ("With", 0), ("LiftA", 3), ("Map", 3), ("LiftM", 3), ("FlatMap", 3), ("Flap", 3), ("Method", 3), ("FlatMethod", 3), ("LiftA", 4), ("Map", 4), ("LiftM", 4), ("FlatMap", 4), ("Flap", 4), ("Method", 4), ("FlatMethod", 4), ("LiftA", 5), ("Map", 5), ("LiftM", 5), ("FlatMap", 5), ("Flap", 5), ("Method", 5), ("FlatMethod", 5), ("LiftA", 6), ("Map", 6), ("LiftM", 6), ("FlatMap", 6), ("Flap", 6), ("Method", 6), ("FlatMethod", 6), ("LiftA", 7), ("Map", 7), ("LiftM", 7), ("FlatMap", 7), ("Flap", 7), ("Method", 7), ("FlatMethod", 7), ("LiftA", 8), ("Map", 8), ("LiftM", 8), ("FlatMap", 8), ("Flap", 8), ("Method", 8), ("FlatMethod", 8), ("LiftA", 9), ("Map", 9), ("LiftM", 9), ("FlatMap", 9), ("Flap", 9), ("Method", 9), ("FlatMethod", 9), ("Compose", 3), ("Compose", 4), ("Compose", 5), ("Traverse", 0), ("TraverseSeq", 0), ("TraverseSlice", 0), ("TraverseFunc", 0), ("TraverseSeqFunc", 0), ("TraverseSliceFunc", 0), ("FlatMapTraverseSeq", 0), ("FlatMapTraverseSlice", 0), ("Sequence", 0), ("SequenceIterator", 0)] := by rfl

/-- the four packages (option, either, statet, try) carry the same template: no function of any package is missing,
    untranslatable or different from the common translation -/
theorem no_divergence : MonadGen.divergent = [] := rfl

/-- nothing in the generated files is outside the translated fragment -/
theorem nothing_untranslatable : MonadGen.untranslatable = 0 := rfl

-- what the ties buy: the property theorems speak about the translated code ------------------------------------------------------

/-- C01: Map(m, f) = FlatMap(m, unit ∘ f) -/
theorem Map_def (m : C A) (f : A → GoM R) : MonadGen.Map o m f = o.flatMap m (fun a => o.seq (f a) o.pure') :=
  (Map_is_model o m f).trans (C01.map_def o m f)

/-- C01: Ap unwraps the function, then the argument, then applies -/
theorem Ap_def (tfab : C (A → GoM B)) (ta : C A) :
    MonadGen.Ap o tfab ta = o.flatMap tfab (fun fab => o.flatMap ta (fun a => o.seq (fab a) o.pure')) :=
  (Ap_is_model o tfab ta).trans (C01.ap_def o tfab ta)

/-- C01: LiftM(f)(ta) = FlatMap(ta, f) -/
theorem LiftM_def (L : o.Lawful) (fa : A → C R) (ta : C A) : MonadGen.LiftM o fa ta = o.flatMap ta fa :=
  (LiftM_is_model o L fa ta).trans (C01.liftM_def o L fa ta)

theorem FlatFlapMap_def (L : o.Lawful) (fab : A → B → C R) (ta : C A) (b : B) :
    MonadGen.FlatFlapMap o fab ta b = o.flatMap ta (fun x => fab x b) :=
  (FlatFlapMap_is_model o L fab ta b).trans (C01.flatFlapMap_def o L fab ta b)

theorem FlatMethod2_def (L : o.Lawful) (ta : C A) (fabc : A → B → D → C R) (b : B) (c : D) :
    MonadGen.FlatMethod2 o ta fabc b c = o.flatMap ta (fun x => fabc x b c) :=
  (FlatMethod2_is_model o L ta fabc b c).trans (C01.flatMethod2_def o L ta fabc b c)

theorem Method2_def (L : o.Lawful) (ta : C A) (fabc : A → B → D → GoM R) (b : B) (c : D) :
    MonadGen.Method2 o ta fabc b c = o.flatMap ta (fun x => o.seq (fabc x b c) o.pure') := by
  rw [Method2_is_model]; exact C01.method2_def o L ta fabc b c

/-- C02, any position, shown for LiftA4 with the THIRD operand failing: the result is what the operands before it leave
    followed by that failure; the fourth operand and the callback are absent (never run) -/
theorem LiftA4_short_circuit (z : ∀ β : Type, C β) (hz : ∀ (α β : Type) (k : α → C β), o.flatMap (z α) k = z β)
    (m1 m2 m4 : C A) (f : List A → GoM R) :
    MonadGen.LiftA4 o (fun a1 a2 a3 a4 => f [a1, a2, a3, a4]) m1 m2 (z A) m4 = bindAll o [m1, m2] (fun _ => z R) := by
  rw [LiftA4_is_model]; exact C02.liftAList_short_circuit o z hz [m1, m2] [m4] f

/-- the same for operands of different types (Map3, second operand failing) -/
theorem Map3_short_circuit {A1 A2 A3 : Type} (z : ∀ β : Type, C β)
    (hz : ∀ (α β : Type) (k : α → C β), o.flatMap (z α) k = z β) (m1 : C A1) (m3 : C A3) (f : A1 → A2 → A3 → GoM R) :
    MonadGen.Map3 o m1 (z A2) m3 f = o.flatMap m1 (fun _ => z R) := by
  rw [Map3_def]; simp only [hz]

/-- … instantiated for Try: the failure of the second operand IS the result; the third operand and `f` did not run -/
theorem try_Map3_first_failure {A1 A2 A3 : Type} (e : Err) (he : e ≠ .nil) (a1 : A1) (m3 : GoM (Try A3))
    (f : A1 → A2 → A3 → GoM R) :
    MonadGen.Map3 TryM.ops (pure (.success a1)) (pure (.failure e) : GoM (Try A2)) m3 f = pure (.failure e) := by
  rw [Map3_short_circuit TryM.ops (fun _ => pure (.failure e)) (C02.try_failure_absorbing e he)]
  simp [TryM.ops, TryM.flatMap]

/-- C02: when the function operand of ApFunc fails the supplier is never called -/
theorem try_ApFunc_failure (e : Err) (he : e ≠ .nil) (ta : Unit → GoM (Try A)) :
    MonadGen.ApFunc TryM.ops (pure (.failure e) : GoM (Try (A → GoM B))) ta = pure (.failure e) := by
  rw [ApFunc_is_model]; exact C02.try_apFunc_failure e he ta

theorem option_ApFunc_none (ta : Unit → GoM (Option A)) :
    MonadGen.ApFunc OptM.ops (pure none : GoM (Option (A → GoM B))) ta = pure none := by
  rw [ApFunc_is_model]; exact C02.option_apFunc_none ta

-- C17: the translated state_monad.go at the StateT operations -----------------------------------------------------------------

section statet
variable {S : Type}

/-- the generated `statet.Map` is the hand-written model `StM.map` about which `Spec/C17` speaks -/
theorem statet_Map_eq (m : StM.StT S A) (f : A → GoM B) : MonadGen.Map (StM.ops S) m f = StM.map m f := by
  funext s
  exact StM.bind_outcome_congr _ (fun _ _ => by simp only [composeSeq_def, StM.ops, bind_assoc, pure_bind]) (fun _ _ => rfl)

/-- C17 (failure): when the operand fails, `Map`'s callback is not run and the state reported is the state at the point
    of failure -/
theorem statet_Map_failure (st : StM.StT S A) (f : A → GoM B) (s ns : S) (e : Err) (he : e ≠ .nil)
    (h : st s = Pure.pure (.failure e, ns)) : MonadGen.Map (StM.ops S) st f s = Pure.pure (.failure e, ns) := by
  rw [statet_Map_eq, C17.map_def]; exact C17.flatMap_failure st _ s ns e he h

/-- C17 / C01: `statet.LiftM(f)(ta) = FlatMap(ta, f)` for the translated code -/
theorem statet_LiftM_def (fa : A → StM.StT S R) (ta : StM.StT S A) :
    MonadGen.LiftM (StM.ops S) fa ta = StM.flatMap ta (fun a => Pure.pure (fa a)) :=
  LiftM_def (StM.ops S) C01.statet_lawful fa ta

/-- C17: Map2 threads the state left to right: `second` starts from the state `first` left -/
theorem statet_Map2_def (first : StM.StT S A) (second : StM.StT S B) (fab : A → B → GoM R) :
    MonadGen.Map2 (StM.ops S) first second fab
      = StM.flatMap first (fun a => Pure.pure (StM.flatMap second (fun b => Pure.pure (fun s => do let r ← fab a b; StM.pure r s)))) := rfl

end statet

-- the hypotheses are satisfiable: the four packages are lawful, and their failures are absorbing ------------------------------

example : (OptM.ops).Lawful := C01.option_lawful
example : (TryM.ops).Lawful := C01.try_lawful
example {Lf : Type} : (EitM.ops Lf).Lawful := C01.either_lawful
example {S : Type} : (StM.ops S).Lawful := C01.statet_lawful
example : ∀ (α β : Type) (k : α → GoM (Option β)), (OptM.ops).flatMap (pure none) k = pure none := C02.option_none_absorbing

end FpVerif.Spec.C01Gen
