import FpVerif.Model.Eval
import FpVerif.Model.Memo
import FpVerif.Lemmas.MemoOnceInv
/-!
# C16 — lazy.Eval: trampolined evaluation is faithful, (structurally) stack-safe and run-once

Companions: `Spec/C16Logged.lean` (faithfulness when `FlatMap` / `TailCall` continuations log:
`faithful_logged`), `Spec/C16PanicEval.lean` (panics), `Spec/C16Panic.lean` (run-once under every
schedule, any number of calls per goroutine, panicking function), `Spec/C16Stack.lean` (stack).
-/
namespace FpVerif.Spec.C16
open FpVerif FpVerif.EvalM

variable {T : Type} [Inhabited T]

theorem run_done (t : T) : run (done t) = (t, []) := rfl

theorem run_call (f : Unit → W T) : run (call f) = f () := rfl

/-- `TailCall(f)` evaluates to what `f()` evaluates to (nothing else happens). -/
theorem run_tailCall (f : Unit → Eval T) : run (tailCall f) = run (f ()) := by
  simp [tailCall, run, callFirst]

/-- `Run(r.FlatMap(f)) = Run(f(Run(r)))`, including the order of all side effects. -/
theorem run_flatMap (r : Eval T) (f : T → Eval T) :
    run (flatMap r f) = (let (v, l1) := run r; let (w, l2) := run (f v); (w, l1 ++ l2)) := by
  induction r with
  | leaf first => simp [flatMap, run]
  | cont first next ih =>
    simp only [flatMap, run, ih]
    simp [List.append_assoc]
  | logged evs e ih =>
    simp only [flatMap, run, ih]
    simp [List.append_assoc]

theorem run_map (r : Eval T) (f : T → W T) :
    run (map r f) = (let (v, l1) := run r; let (w, l2) := f v; (w, l1 ++ l2)) := by
  simp [map, run_flatMap, run, done, callFirst]

theorem run_map2 (a b : Eval T) (f : T → T → W T) :
    run (map2 a b f)
      = (let (v1, l1) := run a; let (v2, l2) := run b; let (w, l3) := f v1 v2; (w, l1 ++ (l2 ++ l3))) := by
  simp [map2, run_flatMap, run_map]

/-- Monad laws of Eval under `run` (C01 for lazy.Eval). -/
theorem left_id (t : T) (f : T → Eval T) : run (flatMap (done t) f) = run (f t) := by
  simp [run_flatMap, run_done]

theorem right_id (r : Eval T) : run (flatMap r done) = run r := by
  simp [run_flatMap, run_done]

theorem assoc (r : Eval T) (f g : T → Eval T) :
    run (flatMap (flatMap r f) g) = run (flatMap r (fun v => flatMap (f v) g)) := by
  simp [run_flatMap, List.append_assoc]

-- programs and their strict evaluation --------------------------------------------------------------

/-- Eval programs as syntax trees. -/
inductive Prog (T : Type) where
  | done (t : T)
  | call (f : Unit → W T)
  | tailCall (f : Unit → Prog T)
  | map (p : Prog T) (f : T → W T)
  | flatMap (p : Prog T) (k : T → Prog T)
  | map2 (p q : Prog T) (f : T → T → W T)

/-- what the library builds for a program -/
def denote : Prog T → Eval T
  | .done t => EvalM.done t
  | .call f => EvalM.call f
  | .tailCall f => EvalM.tailCall (fun u => denote (f u))
  | .map p f => EvalM.map (denote p) f
  | .flatMap p k => EvalM.flatMap (denote p) (fun v => denote (k v))
  | .map2 p q f => EvalM.map2 (denote p) (denote q) f

/-- direct strict evaluation of the same program (value and effects in program order) -/
def strict : Prog T → W T
  | .done t => (t, [])
  | .call f => f ()
  | .tailCall f => strict (f ())
  | .map p f => let (v, l1) := strict p; let (w, l2) := f v; (w, l1 ++ l2)
  | .flatMap p k => let (v, l1) := strict p; let (w, l2) := strict (k v); (w, l1 ++ l2)
  | .map2 p q f =>
    let (v1, l1) := strict p; let (v2, l2) := strict q; let (w, l3) := f v1 v2; (w, l1 ++ (l2 ++ l3))

/-- Faithfulness: for every program tree, trampolined evaluation = strict evaluation.

    SCOPE (audit finding 17).  In `Prog` only leaves (`call`) and the functions of `map` / `map2` log;
    the CONTINUATION of `flatMap` and the thunk of `tailCall` are pure functions returning a
    program.  The statement for continuations that have side effects of their own is
    `faithful_logged` in `Spec/C16Logged.lean` (program type `LProg` = `Prog` + `logged`; this theorem
    is re-derived there as the corollary `faithful_of_logged`; `Prog` itself is matched on by the tie
    module `Spec/C16Gen.lean`).  Panicking thunks / continuations:
    `Spec/C16PanicEval.lean`.  Sharing of one memoised node and concurrent `Get`s:
    `Spec/C16Panic.lean`.  Machine stack: `Spec/C16Stack.lean`. -/
theorem faithful (p : Prog T) : run (denote p) = strict p := by
  induction p with
  | done t => rfl
  | call f => rfl
  | tailCall f ih => simp [denote, strict, run_tailCall, ih]
  | map p f ih => simp [denote, strict, run_map, ih]
  | flatMap p k ihp ihk => simp [denote, strict, run_flatMap, ihp, ihk]
  | map2 p q f ihp ihq => simp [denote, strict, run_map2, ihp, ihq]

-- the loop ------------------------------------------------------------------------------------------

/-- `Run`'s `for` loop with an iteration budget: the denotation's result if the budget covers the `steps e`
    iterations the loop performs, no result otherwise -/
theorem runLoop_eq (e : Eval T) (log : List Event) (n : Nat) :
    runLoop n e log = if steps e ≤ n then some ((run e).1, log ++ (run e).2) else none := by
  induction e generalizing n log with
  | leaf first =>
    cases n with
    | zero => rfl
    | succ n => simp [runLoop, resume, run, steps]
  | cont first next ih =>
    cases n with
    | zero => simp [runLoop, steps]
    | succ n => simp [runLoop, resume, run, steps, ih, List.append_assoc, Nat.add_comm 1]
  | logged evs e ih =>
    cases n with
    | zero => simp [runLoop, steps]
    | succ n => simp [runLoop, resume, run, steps, ih, List.append_assoc, Nat.add_comm 1]

/-- `Run`'s `for` loop terminates after exactly `steps e` iterations with the denotation's result, for
    every iteration budget ≥ `steps e` (so the result does not depend on the budget). -/
theorem runLoop_spec (e : Eval T) (log : List Event) (n : Nat) (h : steps e ≤ n) :
    runLoop n e log = some ((run e).1, log ++ (run e).2) := by
  rw [runLoop_eq, if_pos h]

/-- Structural core of stack safety: one loop iteration on a `TailCall` node hands the loop the Eval
    that `f()` returns *directly* — it is not wrapped in any pending continuation, so nothing
    accumulates between iterations; and a chain of `n` tail calls costs `n` extra iterations, each the same.
    (Call depth per iteration: `Spec/C16Stack.lean`.) -/
theorem resume_tailCall (f : Unit → Eval T) : resume (tailCall f) = (.inr (f ()), []) := by
  simp [tailCall, resume, callFirst]

theorem steps_tailCall (f : Unit → Eval T) : steps (tailCall f) = 1 + steps (f ()) := by
  simp [tailCall, steps]

/-- the canonical tail-recursive loop `go n acc = if n = 0 then Done(acc) else TailCall(go (n-1) (g acc))` -/
def tailLoop (g : T → T) : Nat → T → Eval T
  | 0, acc => done acc
  | n + 1, acc => tailCall (fun _ => tailLoop g n (g acc))

/-- `n`-fold application, innermost first: `iter g (n+1) a = iter g n (g a)` -/
def iter (g : T → T) : Nat → T → T
  | 0, a => a
  | n + 1, a => iter g n (g a)

/-- the loop computes `g` applied `n` times, for EVERY `n` (no depth bound), with no extra effects -/
theorem run_tailLoop (g : T → T) (n : Nat) (acc : T) : run (tailLoop g n acc) = (iter g n acc, []) := by
  induction n generalizing acc with
  | zero => rfl
  | succ n ih => simp [tailLoop, run_tailCall, ih, iter]

theorem steps_tailLoop (g : T → T) (n : Nat) (acc : T) : steps (tailLoop g n acc) = n + 1 := by
  induction n generalizing acc with
  | zero => rfl
  | succ n ih => simp [tailLoop, steps_tailCall, ih]; omega

-- run-once ------------------------------------------------------------------------------------------
open FpVerif.Memo

/-- once the cell is filled, further requests return its value and run nothing -/
theorem memo_filled (f : Unit → W T) (n : Nat) (v : T) :
    Memo.getN f n (some v) = (List.replicate n v, some v, []) := by
  induction n with
  | zero => rfl
  | succ n ih => simp [Memo.getN, Memo.get, ih, List.replicate_succ]

/-- Sequential: however often the memoised thunk is requested, the underlying function runs at most
    once (its events appear exactly once, at the first request) and every request returns the same value. -/
theorem memo_gets (f : Unit → W T) (n : Nat) :
    Memo.getN f (n + 1) none = (List.replicate (n + 1) (f ()).1, some (f ()).1, (f ()).2) := by
  simp [Memo.getN, Memo.get, memo_filled, List.replicate_succ]

-- concurrent requests (sync.Once semantics, see Model/Memo.lean) -------------------------------------------

/-- For EVERY number of threads and EVERY interleaving of their steps: the deferred function is executed
    at most once, and every `Get` that has returned returned the value it computed.

    SCOPE (audit finding 17).  This is the small model (`Model/Memo.lean`): ONE `Get` per thread and a
    deferred function that is a pure value `v` (it neither logs nor panics).  The general statement —
    any number of goroutines, ANY NUMBER OF CALLS PER GOROUTINE (`progs : List Nat`), a function that
    may panic or behave differently per execution (`out : Nat → Out T`), every interleaving of the
    atomic steps of `sync.Once` (fast path, mutex, slow path, `defer`) — is proved in
    `Spec/C16Panic.lean`: `once_runs_le_one` (at most one execution), `once_answered_after_f`,
    `once_returns_agree` (all returned values agree), `once_panic_at_most_one` /
    `once_panic_is_runners` / `once_zero_after_panic` (the panic clause), `once_accounting`,
    `once_quiescent_all_answered`, `once_fair_quiescent` / `once_roundRobin_quiescent` (progress) and
    `once_complete`; sequential requests with effects: `getN_fresh`, `getN_panicking`,
    `getN_returning`.  Cite those, not this theorem, for the property's "at most once" clause. -/
theorem once_all_schedules (v : T) (n : Nat) (sched : List Nat) :
    let s := Memo.runSched v (Memo.init n) sched
    s.runs ≤ 1 ∧ ∀ t ∈ s.threads, ∀ r, t = Memo.TState.returned r → r = v := by
  have h := onceInv_runSched (P := (· = v)) rfl sched _ (onceInv_init _ n)
  exact ⟨h.runs_le_one, fun t ht r hr => h.cell_v r (h.returned_v t ht r hr)⟩

/-- non-vacuity: a schedule in which two threads both obtain the value, f having run once -/
example : (Memo.runSched (7 : Nat) (Memo.init 2) [0, 1, 0, 1]).runs = 1 := by decide

end FpVerif.Spec.C16
