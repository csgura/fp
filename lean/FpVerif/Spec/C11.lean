import FpVerif.Lemmas.TCEq
import FpVerif.Model.TCInst
import FpVerif.Lemmas.TCInstUpTo
/-!
# C11 — Monoid/Semigroup instances are lawful; Reduce/FoldMap equal the plain fold.

* every named instance computes what its name says (`*_computes`),
* every instance and combinator is lawful, given lawful components (`*_lawful`),
* hence every instance expression, nested to any depth and at every tuple arity, is lawful
  (`minst_lawful`, `sinst_lawful`),
* `Reduce`/`FoldMap` on Seq, Iterator and List are the left fold of `Combine` from `Empty`
  (List: under the monoid laws, because it folds from the right) and agree with one another.

The two places where the library did NOT satisfy the property are refuted at the end
(`semigroup.All` before fix ae8d916, `iterator.Reduce` before fix 8de8936).
-/
namespace FpVerif.Spec.C11
open FpVerif.TC

variable {α β τ κ ν : Type}

/-- Sum adds (mathematical integers) and starts from 0. -/
theorem sum_computes (a b : Int) :
    (MonoidD.sum : MonoidD Int).combine a b = a + b ∧ (MonoidD.sum : MonoidD Int).empty = 0 := ⟨rfl, rfl⟩

/-- Sum adds modulo 2^64 on Go's `int` (two's complement wrap-around). -/
theorem sum_computes_int64 (a b : Int64) :
    (MonoidD.sum : MonoidD Int64).combine a b = a + b ∧ (MonoidD.sum : MonoidD Int64).empty = 0 := ⟨rfl, rfl⟩

theorem sum_lawful_int : LawfulMonoid (MonoidD.sum : MonoidD Int) :=
  ⟨fun a b c => Int.add_assoc a b c, fun a => Int.zero_add a, fun a => Int.add_zero a⟩

theorem sum_lawful_int64 : LawfulMonoid (MonoidD.sum : MonoidD Int64) :=
  ⟨fun a b c => Int64.add_assoc a b c, fun a => Int64.zero_add a, fun a => Int64.add_zero a⟩

theorem product_computes (a b : Int) :
    (MonoidD.product : MonoidD Int).combine a b = a * b ∧ (MonoidD.product : MonoidD Int).empty = 1 := ⟨rfl, rfl⟩

theorem product_computes_int64 (a b : Int64) :
    (MonoidD.product : MonoidD Int64).combine a b = a * b ∧ (MonoidD.product : MonoidD Int64).empty = 1 :=
  ⟨rfl, rfl⟩

theorem product_lawful_int : LawfulMonoid (MonoidD.product : MonoidD Int) :=
  ⟨fun a b c => Int.mul_assoc a b c, fun a => Int.one_mul a, fun a => Int.mul_one a⟩

theorem product_lawful_int64 : LawfulMonoid (MonoidD.product : MonoidD Int64) :=
  ⟨fun a b c => Int64.mul_assoc a b c, fun a => Int64.one_mul a, fun a => Int64.mul_one a⟩

theorem string_computes (a b : String) :
    MonoidD.string.combine a b = a ++ b ∧ MonoidD.string.empty = "" := ⟨rfl, rfl⟩

theorem string_lawful : LawfulMonoid MonoidD.string :=
  ⟨fun _ _ _ => String.append_assoc, fun _ => String.empty_append, fun _ => String.append_empty⟩

/-- `monoid.Sum[string]` is `monoid.String` -/
theorem sumString_lawful : LawfulMonoid MonoidD.sumString := string_lawful

/-- Any is disjunction from `false`. -/
theorem any_computes (a b : Bool) : MonoidD.any.combine a b = (a || b) ∧ MonoidD.any.empty = false := ⟨rfl, rfl⟩

theorem any_lawful : LawfulMonoid MonoidD.any := ⟨Bool.or_assoc, Bool.false_or, Bool.or_false⟩

/-- All is conjunction from `true` — what the property demands of `monoid.All`/`semigroup.All`. -/
theorem all_computes (a b : Bool) : MonoidD.all.combine a b = (a && b) ∧ MonoidD.all.empty = true := ⟨rfl, rfl⟩

theorem all_lawful : LawfulMonoid MonoidD.all := ⟨Bool.and_assoc, Bool.true_and, Bool.and_true⟩

theorem unit_lawful : LawfulMonoid MonoidD.unit := ⟨fun _ _ _ => rfl, fun _ => rfl, fun _ => rfl⟩

theorem hnil_lawful : LawfulMonoid MonoidD.hnil := ⟨fun _ _ _ => rfl, fun _ => rfl, fun _ => rfl⟩

/-- MergeSeq / MergeSlice concatenate. -/
theorem mergeSeq_computes (a b : List α) :
    MonoidD.mergeSeq.combine a b = a ++ b ∧ MonoidD.mergeSlice.combine a b = a ++ b ∧
    (MonoidD.mergeSeq : MonoidD (List α)).empty = [] ∧ (MonoidD.mergeSlice : MonoidD (List α)).empty = [] :=
  ⟨rfl, rfl, rfl, rfl⟩

theorem mergeSeq_lawful : LawfulMonoid (MonoidD.mergeSeq : MonoidD (List α)) :=
  ⟨fun a b c => List.append_assoc a b c, fun a => List.nil_append a, fun a => List.append_nil a⟩

theorem mergeSlice_lawful : LawfulMonoid (MonoidD.mergeSlice : MonoidD (List α)) := mergeSeq_lawful

/-- Endo composes: `Combine(a,b)` is "first b, then a", `Empty` is the identity. -/
theorem endo_computes (a b : Endo α) (x : α) :
    MonoidD.endo.combine a b x = a (b x) ∧ (MonoidD.endo : MonoidD (Endo α)).empty x = x := ⟨rfl, rfl⟩

theorem endo_lawful : LawfulMonoid (MonoidD.endo : MonoidD (Endo α)) :=
  ⟨fun _ _ _ => rfl, fun _ => rfl, fun _ => rfl⟩

/-- a monoid up to a CONGRUENT EQUIVALENCE `R`: the laws hold up to `R`, `R` is an equivalence, `Combine` respects it
    (i.e. a monoid on the quotient by `R`) -/
structure MonoidUpTo (R : α → α → Prop) (m : MonoidD α) : Prop where
  laws : LawfulMonoidUpTo R m
  refl : ∀ a, R a a
  symm : ∀ {a b}, R a b → R b a
  trans : ∀ {a b c}, R a b → R b c → R a c
  cong : ∀ {a a' b b'}, R a a' → R b b' → R (m.combine a b) (m.combine a' b')

theorem upTo_of_lawful {m : MonoidD α} (h : LawfulMonoid m) : MonoidUpTo Eq m where
  laws := ⟨h.assoc, h.left_id, h.right_id⟩
  refl _ := rfl
  symm := Eq.symm
  trans := Eq.trans
  cong := by intro a a' b b' h1 h2; rw [h1, h2]

theorem lawful_of_upTo {R : α → α → Prop} {m : MonoidD α} (hR : ∀ a b, R a b → a = b) (h : LawfulMonoidUpTo R m) :
    LawfulMonoid m :=
  ⟨fun a b c => hR _ _ (h.assoc a b c), fun a => hR _ _ (h.left_id a), fun a => hR _ _ (h.right_id a)⟩

theorem lawful_of_upTo_eq {m : MonoidD α} (h : MonoidUpTo Eq m) : LawfulMonoid m :=
  lawful_of_upTo (fun _ _ => id) h.laws

-- Each combinator that an instance expression with map monoids may pass through (`MInstU`) keeps the laws up to the
-- lifted relation; lifted from `=` that relation is `=` again, which gives the plain `*_lawful`.

/-- Dual flips the arguments. -/
theorem dual_computes (m : MonoidD α) (a b : α) :
    (MonoidD.dual m).combine ⟨a⟩ ⟨b⟩ = ⟨m.combine b a⟩ ∧ (MonoidD.dual m).empty = ⟨m.empty⟩ := ⟨rfl, rfl⟩

theorem dual_upTo {R : α → α → Prop} {m : MonoidD α} (h : MonoidUpTo R m) :
    MonoidUpTo (relDual R) (MonoidD.dual m) where
  laws :=
    { assoc := fun a b c => h.symm (h.laws.assoc c.getDual b.getDual a.getDual)
      left_id := fun a => h.laws.right_id a.getDual
      right_id := fun a => h.laws.left_id a.getDual }
  refl a := h.refl a.getDual
  symm := fun hab => h.symm hab
  trans := fun h1 h2 => h.trans h1 h2
  cong := fun h1 h2 => h.cong h2 h1

theorem dual_lawful {m : MonoidD α} (h : LawfulMonoid m) : LawfulMonoid (MonoidD.dual m) :=
  lawful_of_upTo (fun _ _ => congrArg Dual.mk) (dual_upTo (upTo_of_lawful h)).laws

/-- Option (applicative): `Some` values combine, `None` absorbs, the identity is `Some(Empty)`. -/
theorem option_computes (m : MonoidD α) (a b : α) :
    (MonoidD.option m).combine (some a) (some b) = some (m.combine a b) ∧
    (MonoidD.option m).combine none (some b) = none ∧ (MonoidD.option m).combine (some a) none = none ∧
    (MonoidD.option m).empty = some m.empty := ⟨rfl, rfl, rfl, rfl⟩

theorem option_upTo {R : α → α → Prop} {m : MonoidD α} (h : MonoidUpTo R m) :
    MonoidUpTo (relOption R) (MonoidD.option m) where
  laws :=
    { assoc := fun
        | some a, some b, some c => h.laws.assoc a b c
        | none, _, _ => trivial
        | some _, none, _ => trivial
        | some _, some _, none => trivial
      left_id := fun
        | some a => h.laws.left_id a
        | none => trivial
      right_id := fun
        | some a => h.laws.right_id a
        | none => trivial }
  refl := OptRel.refl h.refl
  symm := fun {a b} => OptRel.symm (R := R) (fun _ _ => h.symm) a b
  trans := fun {a b c} => OptRel.trans (R := R) (fun _ _ _ => h.trans) a b c
  cong := fun {a a' b b'} => match a, a', b, b' with
    | some _, some _, some _, some _ => h.cong
    | none, none, _, _ => fun _ _ => trivial
    | some _, some _, none, none => fun _ _ => trivial
    | none, some _, _, _ => False.elim
    | some _, none, _, _ => False.elim
    | some _, some _, none, some _ => fun _ => False.elim
    | some _, some _, some _, none => fun _ => False.elim

theorem relOption_eq : ∀ a b : Option α, relOption Eq a b → a = b
  | none, none, _ => rfl
  | some _, some _, h => congrArg some h
  | none, some _, h => h.elim
  | some _, none, h => h.elim

theorem option_lawful {m : MonoidD α} (h : LawfulMonoid m) : LawfulMonoid (MonoidD.option m) :=
  lawful_of_upTo relOption_eq (option_upTo (upTo_of_lawful h)).laws

/-- Try: successes combine, the first failure (left to right) wins. -/
theorem try_computes (m : MonoidD α) (a b : α) (e e' : Int) :
    (MonoidD.try_ m).combine (.success a) (.success b) = .success (m.combine a b) ∧
    (MonoidD.try_ m).combine (.failure e) (.success b) = .failure e ∧
    (MonoidD.try_ m).combine (.success a) (.failure e) = .failure e ∧
    (MonoidD.try_ m).combine (.failure e) (.failure e') = .failure e ∧
    (MonoidD.try_ m).empty = .success m.empty := ⟨rfl, rfl, rfl, rfl, rfl⟩

theorem relTry_refl {R : α → α → Prop} (hr : ∀ a, R a a) : ∀ a, relTry R a a
  | .success a => hr a
  | .failure _ => rfl

theorem try_upTo {R : α → α → Prop} {m : MonoidD α} (h : MonoidUpTo R m) :
    MonoidUpTo (relTry R) (MonoidD.try_ m) where
  laws :=
    { assoc := fun
        | .success a, .success b, .success c => h.laws.assoc a b c
        | .failure _, _, _ => rfl
        | .success _, .failure _, _ => rfl
        | .success _, .success _, .failure _ => rfl
      left_id := fun
        | .success a => h.laws.left_id a
        | .failure _ => rfl
      right_id := fun
        | .success a => h.laws.right_id a
        | .failure _ => rfl }
  refl := relTry_refl h.refl
  symm := fun {a b} => match a, b with
    | .success _, .success _ => h.symm
    | .failure _, .failure _ => Eq.symm
    | .success _, .failure _ => False.elim
    | .failure _, .success _ => False.elim
  trans := fun {a b c} => match a, b, c with
    | .success _, .success _, .success _ => h.trans
    | .failure _, .failure _, .failure _ => Eq.trans
    | .success _, .failure _, _ => False.elim
    | .failure _, .success _, _ => False.elim
    | .success _, .success _, .failure _ => fun _ => False.elim
    | .failure _, .failure _, .success _ => fun _ => False.elim
  cong := fun {a a' b b'} => match a, a', b, b' with
    | .success _, .success _, .success _, .success _ => h.cong
    | .failure _, .failure _, _, _ => fun x _ => x
    | .success _, .success _, .failure _, .failure _ => fun _ x => x
    | .success _, .failure _, _, _ => False.elim
    | .failure _, .success _, _, _ => False.elim
    | .success _, .success _, .success _, .failure _ => fun _ => False.elim
    | .success _, .success _, .failure _, .success _ => fun _ => False.elim

theorem relTry_eq : ∀ a b : TryV α, relTry Eq a b → a = b
  | .success _, .success _, h => congrArg TryV.success h
  | .failure _, .failure _, h => congrArg TryV.failure h
  | .success _, .failure _, h => h.elim
  | .failure _, .success _, h => h.elim

theorem try_lawful {m : MonoidD α} (h : LawfulMonoid m) : LawfulMonoid (MonoidD.try_ m) :=
  lawful_of_upTo relTry_eq (try_upTo (upTo_of_lawful h)).laws

/-- Eval: combining is lazy, the value it evaluates to is the combination of the values. -/
theorem eval_computes (m : MonoidD α) (a b : Eval α) :
    ((MonoidD.eval m).combine a b).get = m.combine a.get b.get ∧ (MonoidD.eval m).empty.get = m.empty :=
  ⟨rfl, rfl⟩

theorem eval_lawful {m : MonoidD α} (h : LawfulMonoid m) : LawfulMonoid (MonoidD.eval m) where
  assoc a b c := funext fun _ => h.assoc (a ()) (b ()) (c ())
  left_id a := funext fun _ => h.left_id (a ())
  right_id a := funext fun _ => h.right_id (a ())

/-- Tuples combine component-wise. -/
theorem tupleN_computes (m1 : MonoidD α) (rest : MonoidD τ) (a b : α × τ) :
    (MonoidD.tupleN m1 rest).combine a b = (m1.combine a.1 b.1, rest.combine a.2 b.2) ∧
    (MonoidD.tupleN m1 rest).empty = (m1.empty, rest.empty) := ⟨rfl, rfl⟩

theorem tupleN_upTo {R1 : α → α → Prop} {R2 : τ → τ → Prop} {m1 : MonoidD α} {m2 : MonoidD τ}
    (h1 : MonoidUpTo R1 m1) (h2 : MonoidUpTo R2 m2) : MonoidUpTo (relPair R1 R2) (MonoidD.tupleN m1 m2) where
  laws :=
    { assoc := fun _ _ _ => ⟨h1.laws.assoc _ _ _, h2.laws.assoc _ _ _⟩
      left_id := fun _ => ⟨h1.laws.left_id _, h2.laws.left_id _⟩
      right_id := fun _ => ⟨h1.laws.right_id _, h2.laws.right_id _⟩ }
  refl _ := ⟨h1.refl _, h2.refl _⟩
  symm := fun hab => ⟨h1.symm hab.1, h2.symm hab.2⟩
  trans := fun x y => ⟨h1.trans x.1 y.1, h2.trans x.2 y.2⟩
  cong := fun x y => ⟨h1.cong x.1 y.1, h2.cong x.2 y.2⟩

theorem hcons_eq_tupleN (hm : MonoidD α) (tm : MonoidD τ) : MonoidD.hcons hm tm = MonoidD.tupleN hm tm := rfl

theorem hcons_upTo {R1 : α → α → Prop} {R2 : τ → τ → Prop} {m1 : MonoidD α} {m2 : MonoidD τ}
    (h1 : MonoidUpTo R1 m1) (h2 : MonoidUpTo R2 m2) : MonoidUpTo (relPair R1 R2) (MonoidD.hcons m1 m2) :=
  hcons_eq_tupleN m1 m2 ▸ tupleN_upTo h1 h2

theorem relPair_eq (a b : α × τ) (h : relPair Eq Eq a b) : a = b := Prod.ext h.1 h.2

theorem tupleN_lawful {m1 : MonoidD α} {rest : MonoidD τ} (h1 : LawfulMonoid m1) (h2 : LawfulMonoid rest) :
    LawfulMonoid (MonoidD.tupleN m1 rest) :=
  lawful_of_upTo relPair_eq (tupleN_upTo (upTo_of_lawful h1) (upTo_of_lawful h2)).laws

theorem hcons_lawful {hm : MonoidD α} {tm : MonoidD τ} (h1 : LawfulMonoid hm) (h2 : LawfulMonoid tm) :
    LawfulMonoid (MonoidD.hcons hm tm) :=
  hcons_eq_tupleN hm tm ▸ tupleN_lawful h1 h2

theorem tuple1_upTo {R : α → α → Prop} {m : MonoidD α} (h : MonoidUpTo R m) :
    MonoidUpTo (relT1 R) (MonoidD.tuple1 m) where
  laws :=
    { assoc := fun _ _ _ => h.laws.assoc _ _ _
      left_id := fun _ => h.laws.left_id _
      right_id := fun _ => h.laws.right_id _ }
  refl _ := h.refl _
  symm := fun hab => h.symm hab
  trans := fun x y => h.trans x y
  cong := fun x y => h.cong x y

theorem tuple1_lawful {m1 : MonoidD α} (h1 : LawfulMonoid m1) : LawfulMonoid (MonoidD.tuple1 m1) :=
  lawful_of_upTo (fun _ _ => congrArg T1.mk) (tuple1_upTo (upTo_of_lawful h1)).laws

/-- IMap transports a monoid along a bijection. -/
theorem imap_lawful {m : MonoidD α} (h : LawfulMonoid m) (fab : α → β) (fba : β → α)
    (h1 : ∀ b, fab (fba b) = b) (h2 : ∀ a, fba (fab a) = a) : LawfulMonoid (MonoidD.imap m fab fba) where
  assoc a b c := by simp [MonoidD.imap, MonoidD.new, h2, h.assoc]
  left_id a := by simp [MonoidD.imap, MonoidD.new, h2, h.left_id, h1]
  right_id a := by simp [MonoidD.imap, MonoidD.new, h2, h.right_id, h1]

theorem ext_symm [DecidableEq κ] {a b : GoMap κ ν} (h : GoMap.Ext a b) : GoMap.Ext b a := fun k => (h k).symm
theorem ext_trans [DecidableEq κ] {a b c : GoMap κ ν} (h1 : GoMap.Ext a b) (h2 : GoMap.Ext b c) : GoMap.Ext a c :=
  fun k => (h1 k).trans (h2 k)

theorem upTo_of_get [DecidableEq κ] {m : MonoidD (GoMap κ ν)}
    (hc : ∀ a b k, (m.combine a b).get k = (b.get k).or (a.get k)) (he : ∀ k, m.empty.get k = none) :
    MonoidUpTo GoMap.Ext m where
  laws :=
    { assoc := fun a b c k => by rw [hc, hc, hc, hc, Option.or_assoc]
      left_id := fun a k => by rw [hc, he, Option.or_none]
      right_id := fun a k => by rw [hc, he, Option.none_or] }
  refl _ _ := rfl
  symm := ext_symm
  trans := ext_trans
  cong := fun h1 h2 k => by rw [hc, hc, h1 k, h2 k]

/-- MergeGoMap / MergeMap / MergeSet union with right bias: a key of `b` takes `b`'s value. -/
theorem mergeGoMap_computes [DecidableEq κ] (a b : GoMap κ ν) (k : κ) :
    (MonoidD.mergeGoMap.combine a b).get k = (b.get k).or (a.get k) ∧
    (MonoidD.mergeGoMap : MonoidD (GoMap κ ν)).empty.get k = none := by
  constructor
  · show (MonoidD.putAll (MonoidD.putAll GoMap.empty a) b).get k = _
    rw [get_putAll, get_putAll, GoMap.get_empty, Option.or_none]
  · rfl

theorem mergeMap_computes [DecidableEq κ] (a b : GoMap κ ν) (k : κ) :
    (MonoidD.mergeMap.combine a b).get k = (b.get k).or (a.get k) ∧
    (MonoidD.mergeMap : MonoidD (GoMap κ ν)).empty.get k = none :=
  ⟨get_putAll a b k, rfl⟩

theorem mergeSet_computes [DecidableEq κ] (a b : GoMap κ Unit) (k : κ) :
    ((MonoidD.mergeSet.combine a b).get k).isSome = ((a.get k).isSome || (b.get k).isSome) := by
  show ((MonoidD.putAll a b).get k).isSome = _
  rw [get_putAll]
  cases a.get k <;> cases b.get k <;> rfl

theorem mergeGoMap_upTo [DecidableEq κ] : MonoidUpTo GoMap.Ext (MonoidD.mergeGoMap : MonoidD (GoMap κ ν)) :=
  upTo_of_get (fun a b k => (mergeGoMap_computes a b k).1) fun _ => rfl

theorem mergeMap_upTo [DecidableEq κ] : MonoidUpTo GoMap.Ext (MonoidD.mergeMap : MonoidD (GoMap κ ν)) :=
  upTo_of_get (fun a b k => (mergeMap_computes a b k).1) fun _ => rfl

theorem mergeSet_upTo [DecidableEq κ] : MonoidUpTo GoMap.Ext (MonoidD.mergeSet : MonoidD (GoMap κ Unit)) := mergeMap_upTo

theorem mergeGoMap_lawful [DecidableEq κ] : LawfulMonoidUpTo GoMap.Ext (MonoidD.mergeGoMap : MonoidD (GoMap κ ν)) :=
  mergeGoMap_upTo.laws

theorem mergeMap_lawful [DecidableEq κ] : LawfulMonoidUpTo GoMap.Ext (MonoidD.mergeMap : MonoidD (GoMap κ ν)) :=
  mergeMap_upTo.laws

theorem mergeSet_lawful [DecidableEq κ] : LawfulMonoidUpTo GoMap.Ext (MonoidD.mergeSet : MonoidD (GoMap κ Unit)) :=
  mergeMap_lawful

theorem monoid_toSemigroup_lawful {m : MonoidD α} (h : LawfulMonoid m) : LawfulSemigroup m.toSemigroup := ⟨h.assoc⟩

-- the named semigroups are the `Combine` of the monoids of the same name
theorem sg_sum_lawful_int : LawfulSemigroup (SemigroupD.sum : SemigroupD Int) := monoid_toSemigroup_lawful sum_lawful_int
theorem sg_sum_lawful_int64 : LawfulSemigroup (SemigroupD.sum : SemigroupD Int64) :=
  monoid_toSemigroup_lawful sum_lawful_int64
theorem sg_product_lawful_int : LawfulSemigroup (SemigroupD.product : SemigroupD Int) :=
  monoid_toSemigroup_lawful product_lawful_int
theorem sg_product_lawful_int64 : LawfulSemigroup (SemigroupD.product : SemigroupD Int64) :=
  monoid_toSemigroup_lawful product_lawful_int64
theorem sg_endo_lawful : LawfulSemigroup (SemigroupD.endo : SemigroupD (Endo α)) := monoid_toSemigroup_lawful endo_lawful
theorem sg_any_lawful : LawfulSemigroup SemigroupD.any := monoid_toSemigroup_lawful any_lawful
theorem sg_all_lawful : LawfulSemigroup SemigroupD.all := monoid_toSemigroup_lawful all_lawful
theorem sg_all_computes (a b : Bool) : SemigroupD.all.combine a b = (a && b) := rfl
theorem sg_any_computes (a b : Bool) : SemigroupD.any.combine a b = (a || b) := rfl

theorem sg_dual_lawful {s : SemigroupD α} (h : LawfulSemigroup s) : LawfulSemigroup (SemigroupD.dual s) :=
  ⟨fun a b c => congrArg Dual.mk (h.assoc c.getDual b.getDual a.getDual).symm⟩

theorem sg_eval_lawful {s : SemigroupD α} (h : LawfulSemigroup s) : LawfulSemigroup (SemigroupD.eval s) :=
  ⟨fun a b c => by funext u; exact h.assoc (a ()) (b ()) (c ())⟩

theorem sg_imap_lawful {s : SemigroupD α} (h : LawfulSemigroup s) (fab : α → β) (fba : β → α)
    (h2 : ∀ a, fba (fab a) = a) : LawfulSemigroup (SemigroupD.imap s fab fba) :=
  ⟨fun a b c => by simp [SemigroupD.imap, SemigroupD.new, h2, h.assoc]⟩

/-- `semigroup.Option`: `None` is neutral (this one is a different structure than `monoid.Option`). -/
theorem sg_option_lawful {s : SemigroupD α} (h : LawfulSemigroup s) : LawfulSemigroup (SemigroupD.option s) where
  assoc
    | some a, some b, some c => congrArg some (h.assoc a b c)
    | none, _, _ => rfl
    | some _, none, _ => rfl
    | some _, some _, none => rfl

/-- `semigroup.Ptr` combines like `semigroup.Option` -/
theorem sg_ptr_lawful {s : Unit → SemigroupD α} (h : LawfulSemigroup (s ())) : LawfulSemigroup (SemigroupD.ptr s) :=
  sg_option_lawful h

/-- Ptr: nil is the identity, two non-nil pointers combine their targets (into a fresh pointer).
    Only the `Combine` of the element instance is used, so a lawful semigroup suffices. -/
theorem ptr_lawful {m : Unit → MonoidD α} (h : LawfulSemigroup (m ()).toSemigroup) :
    LawfulMonoid (MonoidD.ptr m) where
  assoc := (sg_option_lawful h).assoc
  left_id a := by cases a <;> rfl
  right_id a := by cases a <;> rfl

/-- Every monoid instance expression is a lawful monoid. -/
theorem minst_lawful : ∀ {α : Type} (i : MInst α), LawfulMonoid i.denote := by
  intro α i
  induction i with
  | string => exact string_lawful
  | sumInt => exact sum_lawful_int
  | sumInt64 => exact sum_lawful_int64
  | sumString => exact sumString_lawful
  | productInt => exact product_lawful_int
  | productInt64 => exact product_lawful_int64
  | any => exact any_lawful
  | all => exact all_lawful
  | unit => exact unit_lawful
  | hnil => exact hnil_lawful
  | mergeSeq => exact mergeSeq_lawful
  | mergeSlice => exact mergeSlice_lawful
  | endo => exact endo_lawful
  | option _ ih => exact option_lawful ih
  | try_ _ ih => exact try_lawful ih
  | dual _ ih => exact dual_lawful ih
  | eval _ ih => exact eval_lawful ih
  | ptr _ ih => exact ptr_lawful (monoid_toSemigroup_lawful ih)
  | hcons _ _ ih1 ih2 => exact hcons_lawful ih1 ih2
  | tuple1 _ ih => exact tuple1_lawful ih
  | tupleN _ _ ih1 ih2 => exact tupleN_lawful ih1 ih2
  | imap _ fab fba h1 h2 ih => exact imap_lawful ih fab fba h1 h2

theorem sinst_lawful : ∀ {α : Type} (i : SInst α), LawfulSemigroup i.denote := by
  intro α i
  induction i with
  | ofMonoid i => exact monoid_toSemigroup_lawful (minst_lawful i)
  | sumInt => exact sg_sum_lawful_int
  | sumInt64 => exact sg_sum_lawful_int64
  | productInt => exact sg_product_lawful_int
  | productInt64 => exact sg_product_lawful_int64
  | endo => exact sg_endo_lawful
  | any => exact sg_any_lawful
  | all => exact sg_all_lawful
  | dual _ ih => exact sg_dual_lawful ih
  | eval _ ih => exact sg_eval_lawful ih
  | ptr _ ih => exact sg_ptr_lawful ih
  | option _ ih => exact sg_option_lawful ih
  | imap _ fab fba h2 ih => exact sg_imap_lawful ih fab fba h2

/-- non-vacuity: a nested expression of arity 3 -/
example : LawfulMonoid
    (MonoidD.tupleN MonoidD.string (MonoidD.tupleN (MonoidD.option (MonoidD.sum : MonoidD Int64))
      (MonoidD.tuple1 (MonoidD.dual (MonoidD.mergeSeq : MonoidD (List Bool)))))) :=
  minst_lawful (MInst.tupleN .string (.tupleN (.option .sumInt64) (.tuple1 (.dual (.mergeSeq Bool)))))

example : LawfulMonoid (MonoidD.imap (MonoidD.sum : MonoidD Int) (fun x => -x) (fun x => -x)) :=
  imap_lawful sum_lawful_int _ _ (fun b => Int.neg_neg b) (fun a => Int.neg_neg a)

/-- `seq.Reduce` is the left-to-right fold of `Combine` from `Empty` (no law needed). -/
theorem seqReduce_eq_foldl (r : List α) (m : MonoidD α) :
    seqReduce r m = r.foldl m.combine m.empty := by
  unfold seqReduce
  cases r <;> simp

/-- `iterator.Reduce` (as the property demands it) is the same fold. -/
theorem iteratorReduce_eq_foldl (r : List α) (m : MonoidD α) :
    iteratorReduce r m = r.foldl m.combine m.empty := rfl

/-- `seq.FoldMap` is the left-to-right fold of `Combine(acc, f(x))` from `Empty`. -/
theorem seqFoldMap_eq_foldl (s : List α) (m : MonoidD β) (f : α → β) :
    seqFoldMap s m f = s.foldl (fun acc x => m.combine acc (f x)) m.empty := rfl

/-- `list.FoldRight` through `lazy.Eval` evaluates to the right fold. -/
theorem listFoldRight_get (s : List α) (zero : β) (g : α → β → β) :
    (listFoldRight s zero fun a b => b.map (g a)).get = s.foldr g zero := by
  induction s with
  | nil => rfl
  | cons head tail ih =>
    show g head ((listFoldRight tail zero fun a b => b.map (g a)).get) = _
    rw [ih]; rfl

theorem listReduce_eq_foldr (s : List α) (m : MonoidD α) :
    listReduce s m = s.foldr m.combine m.empty := listFoldRight_get s m.empty m.combine

theorem listFoldMap_eq_foldr (s : List α) (m : MonoidD β) (f : α → β) :
    listFoldMap s m f = s.foldr (fun a acc => m.combine (f a) acc) m.empty :=
  listFoldRight_get s m.empty fun a t => m.combine (f a) t

/-- laws UP TO `R` (symmetric, transitive): the fold from the right is `R`-related to the fold from the left -/
theorem foldr_foldl_upTo {R : β → β → Prop} {m : MonoidD β} (h : LawfulMonoidUpTo R m)
    (symm : ∀ {a b}, R a b → R b a) (trans : ∀ {a b c}, R a b → R b c → R a c) (f : α → β) (s : List α) :
    R (s.foldr (fun a acc => m.combine (f a) acc) m.empty) (s.foldl (fun acc x => m.combine acc (f x)) m.empty) := by
  -- a left fold from `z` is `z` combined with the right fold
  have gen : ∀ (s : List α) (z : β),
      R (s.foldl (fun acc x => m.combine acc (f x)) z) (m.combine z (s.foldr (fun a acc => m.combine (f a) acc) m.empty)) := by
    intro s
    induction s with
    | nil => intro z; exact symm (h.right_id z)
    | cons x xs ih => intro z; exact trans (ih _) (h.assoc _ _ _)
  exact symm (trans (gen s m.empty) (h.left_id _))

theorem listFoldMap_upTo {R : β → β → Prop} {m : MonoidD β} (h : LawfulMonoidUpTo R m)
    (symm : ∀ {a b}, R a b → R b a) (trans : ∀ {a b c}, R a b → R b c → R a c) (s : List α) (f : α → β) :
    R (listFoldMap s m f) (s.foldl (fun acc x => m.combine acc (f x)) m.empty) := by
  rw [listFoldMap_eq_foldr]
  exact foldr_foldl_upTo h symm trans f s

theorem listReduce_upTo {R : α → α → Prop} {m : MonoidD α} (h : LawfulMonoidUpTo R m)
    (symm : ∀ {a b}, R a b → R b a) (trans : ∀ {a b c}, R a b → R b c → R a c) (s : List α) :
    R (listReduce s m) (s.foldl m.combine m.empty) :=
  listFoldMap_upTo h symm trans s id

/-- `list.Reduce` (a right fold through `lazy.Eval`) equals the left-to-right fold, for a lawful monoid. -/
theorem listReduce_eq_foldl {m : MonoidD α} (h : LawfulMonoid m) (s : List α) :
    listReduce s m = s.foldl m.combine m.empty :=
  listReduce_upTo (upTo_of_lawful h).laws Eq.symm Eq.trans s

theorem listFoldMap_eq_foldl {m : MonoidD β} (h : LawfulMonoid m) (s : List α) (f : α → β) :
    listFoldMap s m f = s.foldl (fun acc x => m.combine acc (f x)) m.empty :=
  listFoldMap_upTo (upTo_of_lawful h).laws Eq.symm Eq.trans s f

/-- … and therefore the three `Reduce` agree with one another, and so do the `FoldMap`s;
    `FoldMap(f)` is `Reduce` after mapping `f`. -/
theorem reduce_agree {m : MonoidD α} (h : LawfulMonoid m) (s : List α) :
    seqReduce s m = iteratorReduce s m ∧ iteratorReduce s m = listReduce s m := by
  rw [seqReduce_eq_foldl, iteratorReduce_eq_foldl, listReduce_eq_foldl h]
  exact ⟨rfl, rfl⟩

theorem foldMap_agree {m : MonoidD β} (h : LawfulMonoid m) (s : List α) (f : α → β) :
    seqFoldMap s m f = listFoldMap s m f := by
  rw [seqFoldMap_eq_foldl, listFoldMap_eq_foldl h]

theorem foldMap_eq_reduce_map (s : List α) (m : MonoidD β) (f : α → β) :
    seqFoldMap s m f = seqReduce (s.map f) m := by
  rw [seqFoldMap_eq_foldl, seqReduce_eq_foldl, List.foldl_map]

-- Reduce / FoldMap: which equation under which law (audit finding 15)
/-!
`list.Reduce` / `list.FoldMap` fold from the RIGHT (`list.FoldRight` through `lazy.Eval`), `seq.` / `iterator.` from the left.

| hypothesis on the monoid                              | what holds                                                                     |
|-------------------------------------------------------|--------------------------------------------------------------------------------|
| NONE                                                  | `listReduce_eq_foldr`, `listFoldMap_eq_foldr` (equal to `List.foldr`), `seqReduce_eq_foldl`, `seqFoldMap_eq_foldl`, `reduce_agree_nolaw`, `foldMap_agree_nolaw`; `listReduce_ne_foldl_nolaw`: the left-fold equation is FALSE in general |
| associativity + identity (`LawfulMonoid`)             | `listReduce_eq_foldl`, `listFoldMap_eq_foldl`, `reduce_agree`, `foldMap_agree` (`=`) |
| laws up to an equivalence `R` (`LawfulMonoidUpTo R`, `R` symmetric + transitive; the map monoids with `R = GoMap.Ext`) | `listReduce_upTo`, `listFoldMap_upTo`, `reduce_agree_upTo`, `foldMap_agree_upTo`: related by `R`, NOT equal (`mergeGoMap_reduce_same_content`) |
-/

/-- NO law: Seq and Iterator `Reduce` are the same LEFT fold, List `Reduce` is the RIGHT fold of the same function -/
theorem reduce_agree_nolaw (m : MonoidD α) (s : List α) :
    seqReduce s m = iteratorReduce s m ∧ iteratorReduce s m = s.foldl m.combine m.empty ∧
    listReduce s m = s.foldr m.combine m.empty :=
  ⟨by rw [seqReduce_eq_foldl, iteratorReduce_eq_foldl], iteratorReduce_eq_foldl s m, listReduce_eq_foldr s m⟩

/-- NO law: `seq.FoldMap` is the left fold, `list.FoldMap` the right fold, of `Combine(·, f x)` / `Combine(f x, ·)` -/
theorem foldMap_agree_nolaw (m : MonoidD β) (s : List α) (f : α → β) :
    seqFoldMap s m f = s.foldl (fun acc x => m.combine acc (f x)) m.empty ∧
    listFoldMap s m f = s.foldr (fun a acc => m.combine (f a) acc) m.empty :=
  ⟨seqFoldMap_eq_foldl s m f, listFoldMap_eq_foldr s m f⟩

/-- without the laws the left-fold equation for `list.Reduce` is false: subtraction from 0 on `[1, 2]` gives
    `1 - (2 - 0) = -1` from the right and `(0 - 1) - 2 = -3` from the left -/
theorem listReduce_ne_foldl_nolaw :
    ∃ (m : MonoidD Int) (s : List Int), listReduce s m ≠ s.foldl m.combine m.empty ∧ seqReduce s m ≠ listReduce s m := by
  refine ⟨⟨0, fun a b => a - b⟩, [1, 2], ?_, ?_⟩
  · rw [listReduce_eq_foldr]; decide
  · rw [listReduce_eq_foldr, seqReduce_eq_foldl]; decide

/-- the three `Reduce` agree up to `R` (Seq and Iterator are EQUAL, with no law) -/
theorem reduce_agree_upTo {R : α → α → Prop} {m : MonoidD α} (h : LawfulMonoidUpTo R m)
    (symm : ∀ {a b}, R a b → R b a) (trans : ∀ {a b c}, R a b → R b c → R a c) (s : List α) :
    seqReduce s m = iteratorReduce s m ∧ R (listReduce s m) (iteratorReduce s m) := by
  rw [seqReduce_eq_foldl, iteratorReduce_eq_foldl]
  exact ⟨rfl, listReduce_upTo h symm trans s⟩

theorem foldMap_agree_upTo {R : β → β → Prop} {m : MonoidD β} (h : LawfulMonoidUpTo R m)
    (symm : ∀ {a b}, R a b → R b a) (trans : ∀ {a b c}, R a b → R b c → R a c) (s : List α) (f : α → β) :
    R (listFoldMap s m f) (seqFoldMap s m f) := by
  rw [seqFoldMap_eq_foldl]
  exact listFoldMap_upTo h symm trans s f

/-- the map monoids: `list.Reduce`, `seq.Reduce`, `iterator.Reduce` of a list of Go maps under `MergeGoMap` have the SAME
    CONTENT (every key looks up the same in all three) -/
theorem mergeGoMap_reduce_same_content [DecidableEq κ] (s : List (GoMap κ ν)) (k : κ) :
    (listReduce s MonoidD.mergeGoMap).get k = (seqReduce s MonoidD.mergeGoMap).get k ∧
    (seqReduce s MonoidD.mergeGoMap).get k = (iteratorReduce s MonoidD.mergeGoMap).get k := by
  have := reduce_agree_upTo (mergeGoMap_lawful (κ := κ) (ν := ν)) ext_symm ext_trans s
  exact ⟨by rw [this.1]; exact this.2 k, by rw [this.1]⟩

theorem mergeMap_reduce_same_content [DecidableEq κ] (s : List (GoMap κ ν)) (k : κ) :
    (listReduce s MonoidD.mergeMap).get k = (seqReduce s MonoidD.mergeMap).get k := by
  have := reduce_agree_upTo (mergeMap_lawful (κ := κ) (ν := ν)) ext_symm ext_trans s
  rw [this.1]; exact this.2 k

-- instance expressions WITH the map monoids (audit finding 15)

/-- EVERY instance expression — the map monoids included, under `Option`, `Try`, `Dual`, `HCons`, `TupleN` to any depth —
    is a monoid up to its content equivalence `i.rel` (an equivalence that `Combine` respects) -/
theorem minstU_upTo : ∀ {α : Type} (i : MInstU α), MonoidUpTo i.rel i.denote := by
  intro α i
  induction i with
  | lawful i => exact upTo_of_lawful (minst_lawful i)
  | mergeGoMap => exact mergeGoMap_upTo
  | mergeMap => exact mergeMap_upTo
  | mergeSet => exact mergeSet_upTo
  | option _ ih => exact option_upTo ih
  | try_ _ ih => exact try_upTo ih
  | dual _ ih => exact dual_upTo ih
  | hcons _ _ ih1 ih2 => exact hcons_upTo ih1 ih2
  | tuple1 _ ih => exact tuple1_upTo ih
  | tupleN _ _ ih1 ih2 => exact tupleN_upTo ih1 ih2

theorem minstU_lawful {α : Type} (i : MInstU α) : LawfulMonoidUpTo i.rel i.denote := (minstU_upTo i).laws

/-- `Option(MergeGoMap)` and `Tuple2(MergeGoMap, Sum)` -/
example : MonoidUpTo (relOption GoMap.Ext) (MonoidD.option (MonoidD.mergeGoMap : MonoidD (GoMap String Int))) :=
  minstU_upTo (.option (.mergeGoMap String Int))

example : MonoidUpTo (relPair GoMap.Ext (relT1 Eq))
    (MonoidD.tupleN (MonoidD.mergeGoMap : MonoidD (GoMap String Int)) (MonoidD.tuple1 (MonoidD.sum : MonoidD Int))) :=
  minstU_upTo (.tupleN (.mergeGoMap String Int) (.tuple1 (.lawful .sumInt)))

/-- Reduce over ANY such instance expression: Seq = Iterator exactly, List up to the content equivalence -/
theorem minstU_reduce_agree {α : Type} (i : MInstU α) (s : List α) :
    seqReduce s i.denote = iteratorReduce s i.denote ∧ i.rel (listReduce s i.denote) (iteratorReduce s i.denote) :=
  reduce_agree_upTo (minstU_upTo i).laws (minstU_upTo i).symm (minstU_upTo i).trans s

theorem minstU_foldMap_agree {α β : Type} (i : MInstU β) (s : List α) (f : α → β) :
    i.rel (listFoldMap s i.denote f) (seqFoldMap s i.denote f) :=
  foldMap_agree_upTo (minstU_upTo i).laws (minstU_upTo i).symm (minstU_upTo i).trans s f

/-- `semigroup.All` as written before fix ae8d916 combines with `||`: it is not conjunction … -/
theorem allAsIs_not_conjunction : ∃ a b, SemigroupD.allAsIs.combine a b ≠ (a && b) :=
  ⟨true, false, by decide⟩

/-- … and `monoid.All` built from it (Empty = true) has no identity: `Combine(Empty, false) = true`. -/
theorem allAsIs_not_lawful : ¬ LawfulMonoid MonoidD.allAsIs := fun h =>
  absurd (h.left_id false) (by decide)

/-- `iterator.Reduce` before fix 8de8936 drops the result of `Combine`: it returns `Empty` for every input … -/
theorem iteratorReduceAsIs_eq_empty (r : List α) (m : MonoidD α) : iteratorReduceAsIs r m = m.empty := by
  unfold iteratorReduceAsIs
  induction r with
  | nil => rfl
  | cons x xs ih => simpa using ih

/-- … which is not the fold: `Reduce([1], Sum) = 0`. -/
theorem iteratorReduceAsIs_wrong :
    ∃ (r : List Int) (m : MonoidD Int), LawfulMonoid m ∧ iteratorReduceAsIs r m ≠ r.foldl m.combine m.empty :=
  ⟨[1], MonoidD.sum, sum_lawful_int, by decide⟩

end FpVerif.Spec.C11
