import FpVerif.Lemmas.CollSeq
import FpVerif.Lemmas.CollIter
import FpVerif.Lemmas.CollListLaws
import FpVerif.Lemmas.CollListDen
import FpVerif.Model.CollExpr
/-!
# C01 — the collection monads `seq`, `iterator`, `list`: monad laws and derived combinators

Models: `Model/CollMonad.lean` (seq, iterator machines), `Model/CollList.lean` (lazy list heap with
function / list elements), `Model/LazyList.lean` (lazy list heap of C12).  The oracle `oracle_coll`
runs `SX.eval`, `IX.machine`/`IX.build`, `LX.eval` of `Model/CollExpr.lean`, i.e. these definitions.

## Seq  (a `fp.Seq` is a `List`; callbacks `α → GoM β` may log and panic)
* `seq_left_identity`, `seq_right_identity`, `seq_map_eq_flatMap_unit`, `seq_flatten_eq`, `seq_concat_eq`
  are EQUALITIES OF COMPUTATIONS: they hold for ALL callbacks, including logging and panicking ones
  (same value, same panic, same event log).
* associativity is NOT an equality of computations: `FlatMap(FlatMap(m,f),g)` runs all `f` first,
  `FlatMap(m, x => FlatMap(f x, g))` interleaves.  `seq_assoc`: for callbacks that return (`Total`) both
  return the same value; `seq_assoc_logs`: the exact two logs; `seq_assoc_logs_perm`: they are
  permutations of each other; `seq_assoc_logs_differ`: they really differ.
* `seqX_def`: every derived combinator IS its definition through FlatMap / Map / Of (definitional: the
  model is written that way; the correspondence run ties it to the Go code), and the semantic
  corollaries `seq_ap_eq`, `seq_map2_eq` (list comprehension, row-major), `seq_filterMap_eq`, `seq_lift_eq`,
  `seq_liftM_eq`, `seq_compose_eq`, `seq_composePure_eq`; callback ORDER: `seqFlatMap_logs`, `seqMap_logs`,
  `seq_map2_logs`; panics: `seqFlatMap_panic` (callbacks after the panicking one never run).

## Iterator  (machines; `Represents m s [] l`: from state `s` the iterator yields exactly `l`)
* `it_left_identity`, `it_right_identity`, `it_assoc`, `it_map_eq_flatMap_unit` in terms of `Represents`;
  delivered lists follow with `Spec.C12.toSeq_eq`.
* `iterator.Ap`, `Map2`, `Flap`, `Flap2`, `FlapMap`, `Method1`, `Method2` give ONE one-shot iterator to every
  continuation call (that IS their definition through FlatMap and Map): `flatMapShared_represents` — the
  result is `match lo with | [] => [] | v :: _ => ls.map (g v)`; `flatMapShared_drains` — a complete
  traversal leaves the OUTER iterator drained (all of `lo` pulled) and, unless `lo = []`, the shared one too.
  Corollaries `itAp_represents` … `itMethod2_represents`; `itLift_represents`, `itFlatten_represents`,
  `itCompose_represents`, `itComposePure_represents` through the C12 lemmas.

## lazy List
* `list_left_identity`, `list_right_identity`, `list_assoc`, `list_map_eq_flatMap_unit_partial`: the monad
  laws for the REAL heap model of C12 (`LL.eval` + `LL.toSeq`, memo cells started at most once), derived
  from `Spec.C12List.eval_toSeq_eq`.  Right identity / Map law: for integer elements only (the unit as an
  `LExpr` is `argOf 1`), Map law up to `Map(Of(x), f) = Of(f x)` (`map_unit_denote`) — see the comments.
* the derived combinators over the heap model with function / list elements (`Model/CollList.lean`):
  `lX_def` definitional expansions; `lx_den_*`: what the denotation `LX.den` of each combinator is in
  terms of the denotation of FlatMap / Map / Of (list comprehension over ALL of `a`: lists are persistent).
  `lx_eval_den` / `lx_evalF_den`: THE LINK — running `LX.eval` on the heap and traversing returns exactly `LX.den`,
  every memo cell started at most once; all 14 combinators, nested (callbacks that return, `LX.OK`).
-/
namespace FpVerif.Spec.C01Coll
open FpVerif FpVerif.It FpVerif.Coll FpVerif.LL FpVerif.CollList

variable {σ σ₂ τ τ₂ α β γ δ φ φ₂ X Y : Type}

/-! ## Seq -/

/-- `FlatMap(Pure(a), f) = f(a)` — as computations, for every callback. -/
theorem seq_left_identity (a : α) (f : α → GoM (List β)) : seqFlatMap (seqPure a) f = f a := by
  simp [seqPure, seqFlatMap_cons, seqFlatMap_nil]

/-- `FlatMap(m, Pure) = m`. -/
theorem seq_right_identity (m : List α) : seqFlatMap m (fun x => pure (seqPure x)) = pure m := by
  rw [seqFlatMap_pure]
  exact congrArg pure (List.flatMap_singleton' m)

/-- `Map(m, f) = FlatMap(m, x => Pure(f x))` — as computations (same callback order, same panics). -/
theorem seq_map_eq_flatMap_unit (m : List α) (f : α → GoM β) :
    seqMap m f = seqFlatMap m (fun x => do let y ← f x; pure (seqPure y)) :=
  seqMap_eq_flatMap m f

/-- `Flatten` is list concatenation. -/
theorem seq_flatten_eq (opt : List (List α)) : seqFlatten opt = pure opt.flatten := by
  rw [seqFlatten, seqFlatMap_pure, List.flatMap_id']

/-- `seq.Concat(head, tail)` = `head :: tail`. -/
theorem seq_concat_eq (h : α) (t : List α) : seqConcat h t = h :: t := by
  cases t <;> simp [seqConcat, seqConcatM, seqOf]

-- the derived combinators of `seq/seq_op.go` are their definitions through `FlatMap` / `Map` / `Of`

theorem seqAp_def (app : φ → α → GoM β) (t : List φ) (a : List α) :
    seqAp app t a = seqFlatMap t (fun f => seqMap a (app f)) := rfl

theorem seqMap2_def (a : List α) (b : List β) (f : α → β → GoM γ) :
    seqMap2 a b f = seqFlatMap a (fun v1 => seqMap b (fun v2 => f v1 v2)) := rfl

theorem seqFilterMap_def (opt : List α) (fn : α → GoM (Option β)) :
    seqFilterMap opt fn = seqFlatMap opt (fun v => do let o ← fn v; pure (optionToSeq o)) := rfl

theorem seqLift_def (f : α → GoM β) (opt : List α) : seqLift f opt = seqMap opt f := rfl

theorem seqLiftM_def (f : α → GoM (List β)) (opt : List α) : seqLiftM f opt = seqFlatMap opt f := rfl

/-- `f1(a)` is evaluated first -/
theorem seqCompose_def (f1 : α → GoM (List β)) (f2 : β → GoM (List γ)) (a : α) :
    seqCompose f1 f2 a = (do let l ← f1 a; seqFlatMap l f2) := rfl

theorem seqComposePure_def (fab : α → GoM β) (a : α) :
    seqComposePure fab a = (do let b ← fab a; pure (seqOf [b])) := rfl

theorem seqFlatten_def (opt : List (List α)) : seqFlatten opt = seqFlatMap opt (fun v => pure v) := rfl

/-- `FlatMap` terminates and returns `List.flatMap` for callbacks that return. -/
theorem seqFlatMap_total {fn : α → GoM (List β)} {g : α → List β} (h : Total fn g) (opt : List α)
    (lg : List Event) : ∃ lg', (seqFlatMap opt fn).run.run lg = (.ok (opt.flatMap g), lg') :=
  FpVerif.Coll.seqFlatMap_total h opt lg

/-- `Map` returns `List.map`. -/
theorem seqMap_total {fn : α → GoM β} {g : α → β} (h : Total fn g) (opt : List α)
    (lg : List Event) : ∃ lg', (seqMap opt fn).run.run lg = (.ok (opt.map g), lg') :=
  FpVerif.Coll.seqMap_total h opt lg

/-- associativity: both nestings return the same value. -/
theorem seq_assoc {f : α → GoM (List β)} {g : β → GoM (List γ)} {gf : α → List β}
    {gg : β → List γ} (hf : Total f gf) (hg : Total g gg) (m : List α) (lg : List Event) :
    ∃ lg1 lg2,
      (do let l ← seqFlatMap m f; seqFlatMap l g).run.run lg
        = (.ok ((m.flatMap gf).flatMap gg), lg1) ∧
      (seqFlatMap m (fun x => do let l ← f x; seqFlatMap l g)).run.run lg
        = (.ok ((m.flatMap gf).flatMap gg), lg2) := by
  obtain ⟨lga, ha⟩ := seqFlatMap_total hf m lg
  obtain ⟨lgb, hb⟩ := seqFlatMap_total hg (m.flatMap gf) lga
  obtain ⟨lgc, hc⟩ := seqFlatMap_total (total_seqCompose hf hg) m lg
  refine ⟨lgb, lgc, ?_, ?_⟩
  · rw [run_bind_ok ha, hb]
  · rw [List.flatMap_assoc]; exact hc

/-- associativity phrased with `seq.Compose`. -/
theorem seq_assoc_compose {f : α → GoM (List β)} {g : β → GoM (List γ)} {gf : α → List β}
    {gg : β → List γ} (hf : Total f gf) (hg : Total g gg) (m : List α) (lg : List Event) :
    ∃ lg1 lg2,
      (do let l ← seqFlatMap m f; seqFlatMap l g).run.run lg
        = (.ok ((m.flatMap gf).flatMap gg), lg1) ∧
      (seqFlatMap m (seqCompose f g)).run.run lg
        = (.ok ((m.flatMap gf).flatMap gg), lg2) :=
  seq_assoc hf hg m lg

/-- `Ap(t, a)` = `[f x | f ← t, x ← a]`. -/
theorem seq_ap_eq {app : φ → α → GoM β} {g2 : φ → α → β} (h : Total2 app g2) (t : List φ)
    (a : List α) (lg : List Event) :
    ∃ lg', (seqAp app t a).run.run lg = (.ok (t.flatMap (fun f => a.map (g2 f))), lg') :=
  seqFlatMap_total (g := fun f => a.map (g2 f))
    (fun f lg => seqMap_total (g := g2 f) (fun x lg => h f x lg) a lg) t lg

/-- `Map2(a, b, f)` = `[f x y | x ← a, y ← b]` (row-major). -/
theorem seq_map2_eq {f : α → β → GoM γ} {g : α → β → γ} (h : Total2 f g) (a : List α)
    (b : List β) (lg : List Event) :
    ∃ lg', (seqMap2 a b f).run.run lg = (.ok (a.flatMap (fun x => b.map (g x))), lg') :=
  seq_ap_eq h a b lg

/-- `FilterMap` = `List.filterMap`. -/
theorem seq_filterMap_eq {fn : α → GoM (Option β)} {g : α → Option β} (h : Total fn g)
    (opt : List α) (lg : List Event) :
    ∃ lg', (seqFilterMap opt fn).run.run lg = (.ok (opt.filterMap g), lg') := by
  rw [← flatMap_optionToSeq]
  exact seqFlatMap_total (total_bind_pure h optionToSeq) opt lg

/-- `Lift(f)(m)` = `m.map f`. -/
theorem seq_lift_eq {f : α → GoM β} {g : α → β} (h : Total f g) (opt : List α) (lg : List Event) :
    ∃ lg', (seqLift f opt).run.run lg = (.ok (opt.map g), lg') :=
  seqMap_total h opt lg

/-- `LiftM(f)(m)` = `m.flatMap f`. -/
theorem seq_liftM_eq {f : α → GoM (List β)} {g : α → List β} (h : Total f g) (opt : List α)
    (lg : List Event) : ∃ lg', (seqLiftM f opt).run.run lg = (.ok (opt.flatMap g), lg') :=
  seqFlatMap_total h opt lg

/-- `Compose(f1, f2)(a)` = `(f1 a).flatMap f2`. -/
theorem seq_compose_eq {f1 : α → GoM (List β)} {f2 : β → GoM (List γ)} {g1 : α → List β}
    {g2 : β → List γ} (h1 : Total f1 g1) (h2 : Total f2 g2) (a : α) (lg : List Event) :
    ∃ lg', (seqCompose f1 f2 a).run.run lg = (.ok ((g1 a).flatMap g2), lg') :=
  total_seqCompose h1 h2 a lg

/-- `ComposePure(f)(a)` = `[f a]`. -/
theorem seq_composePure_eq {fab : α → GoM β} {g : α → β} (h : Total fab g) (a : α)
    (lg : List Event) : ∃ lg', (seqComposePure fab a).run.run lg = (.ok [g a], lg') :=
  total_bind_pure h (fun b => seqOf [b]) a lg

/-- callback order of `FlatMap`: element by element, left to right. -/
theorem seqFlatMap_logs {fn : α → GoM (List β)} {g : α → List β} {e : α → List Event}
    (h : Logs fn g e) (opt : List α) (lg : List Event) :
    (seqFlatMap opt fn).run.run lg = (.ok (opt.flatMap g), lg ++ opt.flatMap e) :=
  FpVerif.Coll.seqFlatMap_logs h opt lg

/-- callback order of `Map`. -/
theorem seqMap_logs {fn : α → GoM β} {g : α → β} {e : α → List Event}
    (h : Logs fn g e) (opt : List α) (lg : List Event) :
    (seqMap opt fn).run.run lg = (.ok (opt.map g), lg ++ opt.flatMap e) := by
  rw [seqMap_eq_flatMap, List.map_eq_flatMap]
  exact seqFlatMap_logs (fun v lg => (run_bind_ok (h v lg)).trans rfl) opt lg

/-- the two nestings of associativity: same value; left nesting runs all `f` first, right nesting interleaves. -/
theorem seq_assoc_logs {f : α → GoM (List β)} {g : β → GoM (List γ)} {gf : α → List β}
    {gg : β → List γ} {ef : α → List Event} {eg : β → List Event}
    (hf : Logs f gf ef) (hg : Logs g gg eg) (m : List α) (lg : List Event) :
    (do let l ← seqFlatMap m f; seqFlatMap l g).run.run lg
      = (.ok ((m.flatMap gf).flatMap gg), lg ++ m.flatMap ef ++ (m.flatMap gf).flatMap eg) ∧
    (seqFlatMap m (fun x => do let l ← f x; seqFlatMap l g)).run.run lg
      = (.ok ((m.flatMap gf).flatMap gg),
          lg ++ m.flatMap (fun x => ef x ++ (gf x).flatMap eg)) :=
  FpVerif.Coll.seq_assoc_logs hf hg m lg

/-- the two logs are permutations of each other. -/
theorem seq_assoc_logs_perm (gf : α → List β) (ef : α → List Event) (eg : β → List Event)
    (m : List α) (lg : List Event) :
    (lg ++ m.flatMap ef ++ (m.flatMap gf).flatMap eg).Perm
      (lg ++ m.flatMap (fun x => ef x ++ (gf x).flatMap eg)) := by
  rw [List.append_assoc]
  refine List.Perm.append_left lg ?_
  induction m with
  | nil => simp
  | cons v rest ih =>
    simp only [List.flatMap_cons, List.flatMap_append, List.append_assoc]
    refine List.Perm.append_left (ef v) ?_
    refine (List.perm_append_comm_assoc _ _ _).trans ?_
    exact List.Perm.append_left _ ih

/-- `Map2` calls `f` in row-major order. -/
theorem seq_map2_logs {f : α → β → GoM γ} {g : α → β → γ} {e : α → β → List Event}
    (h : Logs2 f g e) (a : List α) (b : List β) (lg : List Event) :
    (seqMap2 a b f).run.run lg
      = (.ok (a.flatMap (fun x => b.map (g x))),
          lg ++ a.flatMap (fun x => b.flatMap (fun y => e x y))) :=
  seqFlatMap_logs (g := fun x => b.map (g x)) (e := fun x => b.flatMap (fun y => e x y))
    (fun x lg => seqMap_logs (g := g x) (e := e x) (fun y lg => h x y lg) b lg) a lg

/-- a panicking callback: the panic propagates, later callbacks never run. -/
theorem seqFlatMap_panic {fn : α → GoM (List β)} {g : α → List β} {e : α → List Event}
    (pre post : List α) (a : α) (p : PanicVal) (ea : List Event)
    (hpre : ∀ x ∈ pre, ∀ lg, (fn x).run.run lg = (.ok (g x), lg ++ e x))
    (ha : ∀ lg, (fn a).run.run lg = (.error p, lg ++ ea)) (lg : List Event) :
    (seqFlatMap (pre ++ a :: post) fn).run.run lg = (.error p, lg ++ pre.flatMap e ++ ea) := by
  induction pre generalizing lg with
  | nil => rw [List.nil_append, seqFlatMap_cons, run_bind_err (ha lg)]; simp
  | cons v rest ih =>
    rw [List.cons_append, seqFlatMap_cons, run_bind_ok (hpre v (by simp) lg),
      run_bind_err (ih (fun x hx => hpre x (by simp [hx])) _)]
    simp [List.append_assoc]

/-- the hypotheses are satisfiable, and the two logs of associativity really differ -/
example : Logs exF (fun a => [a, a]) (fun a => [a]) := exF_logs
example : Total (fun (a : Nat) => (do emit "x"; pure [a, a] : GoM (List Nat))) (fun a => [a, a]) :=
  total_emit (fun _ => "x") (fun a => [a, a])
theorem seq_assoc_logs_differ :
    ["a", "b"].flatMap (fun a => [a]) ++ (["a", "b"].flatMap (fun a => [a, a])).flatMap (fun _ => ["g"]) ≠
    ["a", "b"].flatMap (fun x => [x] ++ ([x, x] : List Event).flatMap (fun _ => ["g"])) := by decide

/-! ## Iterator -/

/-- the derived combinators are their definitions -/
theorem itAp_def (fuel : Nat) (app : φ → α → GoM β) (t : Machine σ φ) (a : Machine σ₂ α) :
    itAp fuel app t a = flatMapShared fuel app t a := rfl
theorem itMap2_def (fuel : Nat) (a : Machine σ α) (b : Machine σ₂ β) (f : α → β → GoM γ) :
    itMap2 fuel a b f = flatMapShared fuel (fun v1 v2 => f v1 v2) a b := rfl
theorem itLift_def (f : α → GoM β) (opt : Machine σ α) : itLift f opt = It.map f opt := rfl
theorem itCompose_def (fuel : Nat) (inner1 : Machine τ β) (f2 : β → GoM τ₂) (inner2 : Machine τ₂ γ) :
    itCompose fuel inner1 f2 inner2 = It.flatMap fuel f2 inner2 inner1 := rfl
theorem itFlatten_def (fuel : Nat) (inner : Machine τ β) (opt : Machine σ τ) :
    itFlatten fuel inner opt = It.flatMap fuel (fun v => pure v) inner opt := rfl
theorem itFlap_def (fuel : Nat) (app : φ → α → GoM β) (tfa : Machine σ φ) (a : α) :
    itFlap fuel app tfa a = itAp fuel app tfa (ofSeq none [a]) := rfl
theorem itFlap2_def (fuel : Nat) (app1 : φ₂ → α → GoM φ) (app2 : φ → β → GoM γ) (tfab : Machine σ φ₂) (a : α) (b : β) :
    itFlap2 fuel app1 app2 tfab a b = itFlap fuel app2 (itAp fuel app1 tfab (ofSeq none [a])) b := rfl
theorem itFlapMap_def (fuel : Nat) (cur : α → φ) (app : φ → β → GoM γ) (a : Machine σ α) (b : β) :
    itFlapMap fuel cur app a b = itFlap fuel app (It.map (fun x => pure (cur x)) a) b := rfl
theorem itMethod1_def (fuel : Nat) (ta : Machine σ α) (cur : α → φ) (app : φ → β → GoM γ) (b : β) :
    itMethod1 fuel ta cur app b = itFlapMap fuel cur app ta b := rfl
theorem itMethod2_def (fuel : Nat) (ta : Machine σ α) (cur3 : α → φ₂) (app1 : φ₂ → β → GoM φ)
    (app2 : φ → γ → GoM δ) (b : β) (c : γ) :
    itMethod2 fuel ta cur3 app1 app2 b c = itFlap2 fuel app1 app2 (It.map (fun x => pure (cur3 x)) ta) b c := rfl

/-- `FlatMap(outer, v => Map(shared, h v))` with ONE shared one-shot iterator: only the first outer element sees `shared`. -/
theorem flatMapShared_represents {h : φ → α → GoM β} {g : φ → α → β} {outer : Machine σ φ}
    {shared : Machine σ₂ α} {so : σ} {ss : σ₂} {lo : List φ} {ls : List α} {fuel : Nat} :
    Represents outer so [] lo → Represents shared ss [] ls → lo.length < fuel → Total2 h g →
    Represents (flatMapShared fuel h outer shared) ((so, ss), none) []
      (match lo with | [] => [] | v :: _ => ls.map (g v)) :=
  FpVerif.Coll.flatMapShared_represents

/-- a complete traversal pulls ALL of the outer iterator (and, if `lo ≠ []`, all of the shared one). -/
theorem flatMapShared_drains {h : φ → α → GoM β} {g : φ → α → β} {outer : Machine σ φ}
    {shared : Machine σ₂ α} {so : σ} {ss : σ₂} {lo : List φ} {ls : List α} {fuel : Nat} :
    Represents outer so [] lo → Represents shared ss [] ls → lo.length < fuel → Total2 h g →
    ∀ (lg : Log) (fuel2 : Nat),
    (match lo with | [] => [] | v :: _ => ls.map (g v)).length < fuel2 →
    ∃ s' lg', toSeq (flatMapShared fuel h outer shared) fuel2 [] ((so, ss), none) lg =
        (.ok (match lo with | [] => [] | v :: _ => ls.map (g v)), s', lg') ∧
      Represents outer s'.1.1 lo [] ∧ (lo ≠ [] → Represents shared s'.1.2 ls []) :=
  FpVerif.Coll.flatMapShared_drains

-- `iterator.Ap` … `Method2`: what each yields, read off `flatMapShared_represents`

theorem itAp_represents {app : φ → α → GoM β} {g : φ → α → β} {t : Machine σ φ} {a : Machine σ₂ α}
    {st : σ} {sa : σ₂} {lt : List φ} {la : List α} {fuel : Nat} :
    Represents t st [] lt → Represents a sa [] la → lt.length < fuel → Total2 app g →
    Represents (itAp fuel app t a) ((st, sa), none) []
      (match lt with | [] => [] | f :: _ => la.map (g f)) :=
  flatMapShared_represents

theorem itMap2_represents {f : α → β → GoM γ} {g : α → β → γ} {a : Machine σ α} {b : Machine σ₂ β}
    {sa : σ} {sb : σ₂} {la : List α} {lb : List β} {fuel : Nat} :
    Represents a sa [] la → Represents b sb [] lb → la.length < fuel → Total2 f g →
    Represents (itMap2 fuel a b f) ((sa, sb), none) []
      (match la with | [] => [] | v :: _ => lb.map (g v)) :=
  flatMapShared_represents

theorem itFlap_represents {app : φ → α → GoM β} {g : φ → α → β} {tfa : Machine σ φ} {st : σ}
    {lt : List φ} {fuel : Nat} (a : α) :
    Represents tfa st [] lt → lt.length < fuel → Total2 app g →
    Represents (itFlap fuel app tfa a) ((st, 0), none) []
      (match lt with | [] => [] | f :: _ => [g f a]) := fun ht hfuel hh =>
  flatMapShared_represents (h := app) ht (ofSeq_represents none [a]) hfuel hh

theorem itFlap2_represents {app1 : φ₂ → α → GoM φ} {g1 : φ₂ → α → φ} {app2 : φ → β → GoM γ}
    {g2 : φ → β → γ} {tfab : Machine σ φ₂} {st : σ} {lt : List φ₂} {fuel : Nat} (a : α) (b : β) :
    Represents tfab st [] lt → lt.length < fuel → Total2 app1 g1 → Total2 app2 g2 →
    Represents (itFlap2 fuel app1 app2 tfab a b) ((((st, 0), none), 0), none) []
      (match lt with | [] => [] | f :: _ => [g2 (g1 f a) b]) := by
  intro ht hfuel hh1 hh2
  have h1 := itFlap_represents (app := app1) a ht hfuel hh1
  cases lt with
  | nil => exact itFlap_represents (app := app2) b h1 hfuel hh2
  | cons f r => exact itFlap_represents (app := app2) b h1 (Nat.lt_of_le_of_lt (Nat.le_add_left 1 _) hfuel) hh2

theorem itFlapMap_represents {cur : α → φ} {app : φ → β → GoM γ} {g : φ → β → γ} {a : Machine σ α}
    {sa : σ} {la : List α} {fuel : Nat} (b : β) :
    Represents a sa [] la → la.length < fuel → Total2 app g →
    Represents (itFlapMap fuel cur app a b) ((sa, 0), none) []
      (match la with | [] => [] | x :: _ => [g (cur x) b]) := by
  intro ha hfuel hh
  have h2 := itFlap_represents (app := app) b (map_represents (total_pure cur) ha) (by simpa using hfuel) hh
  cases la <;> exact h2

theorem itMethod1_represents {cur : α → φ} {app : φ → β → GoM γ} {g : φ → β → γ} {ta : Machine σ α}
    {sa : σ} {la : List α} {fuel : Nat} (b : β) :
    Represents ta sa [] la → la.length < fuel → Total2 app g →
    Represents (itMethod1 fuel ta cur app b) ((sa, 0), none) []
      (match la with | [] => [] | x :: _ => [g (cur x) b]) :=
  itFlapMap_represents b

theorem itMethod2_represents {cur3 : α → φ₂} {app1 : φ₂ → β → GoM φ} {g1 : φ₂ → β → φ}
    {app2 : φ → γ → GoM δ} {g2 : φ → γ → δ} {ta : Machine σ α} {sa : σ} {la : List α} {fuel : Nat}
    (b : β) (c : γ) :
    Represents ta sa [] la → la.length < fuel → Total2 app1 g1 → Total2 app2 g2 →
    Represents (itMethod2 fuel ta cur3 app1 app2 b c) ((((sa, 0), none), 0), none) []
      (match la with | [] => [] | x :: _ => [g2 (g1 (cur3 x) b) c]) := by
  intro ha hfuel hh1 hh2
  have h2 := itFlap2_represents (app1 := app1) (app2 := app2) b c (map_represents (total_pure cur3) ha)
    (by simpa using hfuel) hh1 hh2
  cases la <;> exact h2

/-- `iterator.Lift(f)(m)` yields `l.map f`. -/
theorem itLift_represents {f : α → GoM β} {g : α → β} (hf : Total f g) {m : Machine σ α} {s : σ}
    {l : List α} (h : Represents m s [] l) : Represents (itLift f m) s [] (l.map g) :=
  map_represents hf h

/-- the iterators callbacks create (`iterator.Of(xs...)`) yield `xs`. -/
theorem srcS_represents (ev : Nat → α → Event) (t : Option Nat) (xs : List α) :
    Represents (srcS ev) { tag := t, xs := xs, idx := 0 } [] xs :=
  FpVerif.Coll.srcS_represents ev t xs

/-- `iterator.Flatten` yields the concatenation of what the element iterators yield. -/
theorem itFlatten_represents {inner : Machine τ β} {hl : τ → List β}
    (hinner : ∀ t, Represents inner t [] (hl t)) {opt : Machine σ τ} {s : σ} {l : List τ}
    (h : Represents opt s [] l) {fuel : Nat} (hfuel : l.length < fuel) :
    Represents (itFlatten fuel inner opt) (s, none) [] (l.flatMap hl) :=
  flatMap_represents (total_pure (fun t => t)) hinner h hfuel

/-- `iterator.Compose(f1, f2)(a)` yields `(f1 a).flatMap f2`. -/
theorem itCompose_represents {f2 : β → GoM τ₂} {gf2 : β → τ₂} (hf2 : Total f2 gf2)
    {inner2 : Machine τ₂ γ} {hl2 : β → List γ} (hinner2 : ∀ b, Represents inner2 (gf2 b) [] (hl2 b))
    {inner1 : Machine τ β} {s1 : τ} {l1 : List β} (h1 : Represents inner1 s1 [] l1) {fuel : Nat}
    (hfuel : l1.length < fuel) :
    Represents (itCompose fuel inner1 f2 inner2) (s1, none) [] (l1.flatMap hl2) :=
  flatMap_represents hf2 hinner2 h1 hfuel

/-- `iterator.ComposePure(f)(a)` yields `[f a]`. -/
theorem itComposePure_represents (ev : Nat → β → Event) (b : β) :
    Represents (srcS ev) { tag := none, xs := [b], idx := 0 } [] [b] :=
  srcS_represents ev none [b]

/-- `Compose(f1, f2)(a)`: `f1(a)` is called at application time; the state built is what it returns. -/
theorem itComposeInit_total {f1 : α → GoM τ} {gf1 : α → τ} (hf1 : Total f1 gf1) :
    Total (itComposeInit (τ₂ := τ₂) f1) (fun a => (gf1 a, none)) :=
  total_bind_pure hf1 (fun s => (s, none))

/-- `ComposePure(fab)(a)`: `fab(a)` is called at application time; the source built holds its result. -/
theorem itComposePureInit_total {fab : α → GoM β} {g : α → β} (hf : Total fab g) :
    Total (itComposePureInit fab) (fun a => { tag := none, xs := [g a], idx := 0 }) :=
  total_bind_pure hf (fun b => ({ tag := none, xs := [b], idx := 0 } : SrcSt β))

/-- `FlatMap(Of(a), f)` yields what `f(a)` yields. -/
theorem it_left_identity {mf : α → GoM τ} {gf : α → τ} (hmf : Total mf gf) {inner : Machine τ β}
    {hl : α → List β} (hinner : ∀ a, Represents inner (gf a) [] (hl a)) (a : α) {fuel : Nat}
    (hfuel : 1 < fuel) :
    Represents (It.flatMap fuel mf inner (ofSeq none [a])) (0, none) [] (hl a) := by
  have := flatMap_represents hmf hinner (ofSeq_represents none [a]) (fuel := fuel) (by simpa using hfuel)
  simpa using this

/-- `FlatMap(m, Of)` yields what `m` yields. -/
theorem it_right_identity (ev : Nat → α → Event) {m : Machine σ α} {s : σ} {l : List α} {fuel : Nat} :
    Represents m s [] l → l.length < fuel →
    Represents (It.flatMap fuel (fun x => pure { tag := none, xs := [x], idx := 0 }) (srcS ev) m)
      (s, none) [] l := by
  intro h hfuel
  have := flatMap_represents (total_pure (fun x : α => ({ tag := none, xs := [x], idx := 0 } : SrcSt α)))
    (hl := fun x => [x]) (fun a => srcS_represents ev none [a]) h hfuel
  rwa [List.flatMap_singleton'] at this

/-- associativity: both nestings yield the same list. -/
theorem it_assoc {f : α → GoM τ} {gf : α → τ} (hf : Total f gf) {g : β → GoM τ₂} {gg : β → τ₂}
    (hg : Total g gg) {innerF : Machine τ β} {hlf : α → List β}
    (hinnerF : ∀ a, Represents innerF (gf a) [] (hlf a)) {innerG : Machine τ₂ γ} {hlg : β → List γ}
    (hinnerG : ∀ b, Represents innerG (gg b) [] (hlg b)) {m : Machine σ α} {s : σ} {l : List α}
    (h : Represents m s [] l) {fuel : Nat} (hfuel : l.length < fuel)
    (hfuelF : ∀ a, (hlf a).length < fuel) (hfuelFl : (l.flatMap hlf).length < fuel) :
    Represents (It.flatMap fuel g innerG (It.flatMap fuel f innerF m)) ((s, none), none) []
        ((l.flatMap hlf).flatMap hlg) ∧
      Represents (It.flatMap fuel (fun x => do let t ← f x; pure (t, none))
          (It.flatMap fuel g innerG innerF) m) (s, none) [] ((l.flatMap hlf).flatMap hlg) := by
  constructor
  · exact flatMap_represents hg hinnerG (flatMap_represents hf hinnerF h hfuel) hfuelFl
  · have hmf : Total (fun x => do let t ← f x; pure (t, (none : Option τ₂))) (fun a => (gf a, none)) :=
      total_bind_pure hf (fun t => (t, none))
    have := flatMap_represents hmf (hl := fun a => (hlf a).flatMap hlg)
      (fun a => flatMap_represents hg hinnerG (hinnerF a) (hfuelF a)) h hfuel
    rwa [← List.flatMap_assoc] at this

/-- `Map(m, f)` and `FlatMap(m, x => Of(f x))` yield the same list. -/
theorem it_map_eq_flatMap_unit {f : α → GoM β} {g : α → β} (hf : Total f g) (ev : Nat → β → Event)
    {m : Machine σ α} {s : σ} {l : List α} (h : Represents m s [] l) {fuel : Nat}
    (hfuel : l.length < fuel) :
    Represents (It.map f m) s [] (l.map g) ∧
      Represents (It.flatMap fuel (fun x => do let y ← f x; pure { tag := none, xs := [y], idx := 0 })
          (srcS ev) m) (s, none) [] (l.map g) := by
  refine ⟨map_represents hf h, ?_⟩
  have hmf := total_bind_pure hf (fun y => ({ tag := none, xs := [y], idx := 0 } : SrcSt β))
  have := flatMap_represents hmf (hl := fun a => [g a]) (fun a => srcS_represents ev none [g a]) h hfuel
  rwa [← List.map_eq_flatMap] at this

/-- non-vacuity: a concrete source, a concrete logging callback -/
example : Represents (ofSeq none [1, 2, 3]) 0 [] [1, 2, 3] := FpVerif.Coll.ofSeq_represents none [1, 2, 3]
example : Total2 (fun (a b : Nat) => (do emit "g"; pure (a + b) : GoM Nat)) (fun a b => a + b) :=
  fun _ _ lg => ⟨lg ++ ["g"], rfl⟩

/-! ## lazy List: the monad laws on the heap model of C12 -/

/-- `FlatMap(Of(a), k)`: denotation and REAL traversal (memo cells started at most once) equal those of `k(a)`. -/
theorem list_left_identity (a : Val) (id : Int) (k : LExpr) (hk : k.Pure) (x : Val) :
    (LExpr.flatMap (.of [a]) id k).denote x = k.denote a ∧
    ∀ (fuel : Nat), (LExpr.flatMap (.of [a]) id k).bnd x + (k.denote a).length < fuel → ∀ (lg : Log),
      ∃ l hp lg1 hp' lg', LL.eval fuel (.flatMap (.of [a]) id k) x {} lg = (.ok l, hp, lg1) ∧
        LL.toSeq fuel l [] hp lg1 = (.ok (k.denote a), hp', lg') ∧ hp'.maxEvals ≤ 1 :=
  FpVerif.CollList.list_left_identity a id k hk x

/-- `FlatMap(m, x => Of(x))` traverses to `m` (integer elements: the unit as `LExpr` is `argOf 1`). -/
theorem list_right_identity (m : LExpr) (hm : m.Pure) (id : Int) (x : Val)
    (hint : ∀ v ∈ m.denote x, ∃ n, v = .int n) :
    (LExpr.flatMap m id (.argOf 1)).denote x = m.denote x ∧
    (∀ (fuel : Nat), (LExpr.flatMap m id (.argOf 1)).bnd x + (m.denote x).length < fuel → ∀ (lg : Log),
      ∃ l hp lg1 hp' lg', LL.eval fuel (.flatMap m id (.argOf 1)) x {} lg = (.ok l, hp, lg1) ∧
        LL.toSeq fuel l [] hp lg1 = (.ok (m.denote x), hp', lg') ∧ hp'.maxEvals ≤ 1) ∧
    (∀ (fuel : Nat), m.bnd x + (m.denote x).length < fuel → ∀ (lg : Log),
      ∃ l hp lg1 hp' lg', LL.eval fuel m x {} lg = (.ok l, hp, lg1) ∧
        LL.toSeq fuel l [] hp lg1 = (.ok (m.denote x), hp', lg') ∧ hp'.maxEvals ≤ 1) :=
  FpVerif.CollList.list_right_identity m hm id x hint

/-- associativity: both nestings denote and traverse to the same list. -/
theorem list_assoc (m f g : LExpr) (hm : m.Pure) (hf : f.Pure) (hg : g.Pure) (i j : Int) (x : Val) :
    (LExpr.flatMap (.flatMap m i f) j g).denote x = ((m.denote x).flatMap (f.denote ·)).flatMap (g.denote ·) ∧
    (LExpr.flatMap m i (.flatMap f j g)).denote x = ((m.denote x).flatMap (f.denote ·)).flatMap (g.denote ·) ∧
    (∀ (fuel : Nat), (LExpr.flatMap (.flatMap m i f) j g).bnd x +
        (((m.denote x).flatMap (f.denote ·)).flatMap (g.denote ·)).length < fuel → ∀ (lg : Log),
      ∃ l hp lg1 hp' lg', LL.eval fuel (.flatMap (.flatMap m i f) j g) x {} lg = (.ok l, hp, lg1) ∧
        LL.toSeq fuel l [] hp lg1 = (.ok (((m.denote x).flatMap (f.denote ·)).flatMap (g.denote ·)), hp', lg') ∧
        hp'.maxEvals ≤ 1) ∧
    (∀ (fuel : Nat), (LExpr.flatMap m i (.flatMap f j g)).bnd x +
        (((m.denote x).flatMap (f.denote ·)).flatMap (g.denote ·)).length < fuel → ∀ (lg : Log),
      ∃ l hp lg1 hp' lg', LL.eval fuel (.flatMap m i (.flatMap f j g)) x {} lg = (.ok l, hp, lg1) ∧
        LL.toSeq fuel l [] hp lg1 = (.ok (((m.denote x).flatMap (f.denote ·)).flatMap (g.denote ·)), hp', lg') ∧
        hp'.maxEvals ≤ 1) :=
  FpVerif.CollList.list_assoc m f g hm hf hg i j x

/-- whatever the two nestings return is equal. -/
theorem list_assoc_returns_eq (m f g : LExpr) (hm : m.Pure) (hf : f.Pure) (hg : g.Pure) (i j : Int) (x : Val)
    (xs ys : List Val) (h1 : Returns (.flatMap (.flatMap m i f) j g) x xs)
    (h2 : Returns (.flatMap m i (.flatMap f j g)) x ys) : xs = ys := by
  obtain ⟨_, _, r1, r2⟩ := list_assoc m f g hm hf hg i j x
  exact (h1.unique r1).trans (h2.unique r2).symm

/-- `Map(Of(x), f) = Of(f x)` at the denotation level. -/
theorem map_unit_denote (f : Val → GoM Val) (x : Val) :
    (LExpr.map (.argOf 1) f).denote x = [pure1 f (.int x.asInt)] :=
  FpVerif.CollList.map_unit_denote f x

/-- PARTIAL: `Map(m, f) = FlatMap(m, x => Map(Of(x), f))` (denotation and traversal, integer elements). Full statement `Map(m,f) = FlatMap(m, x => Of(f x))`: `LExpr` cannot express a continuation `x => Of(f x)`; missing piece is exactly `map_unit_denote` at the operational level. -/
theorem list_map_eq_flatMap_unit_partial (m : LExpr) (hm : m.Pure) (f : Val → GoM Val) (hf : Total f (pure1 f))
    (id : Int) (x : Val) (hint : ∀ v ∈ m.denote x, ∃ n, v = .int n) :
    (LExpr.map m f).denote x = (m.denote x).map (pure1 f) ∧
    (LExpr.flatMap m id (.map (.argOf 1) f)).denote x = (m.denote x).map (pure1 f) ∧
    (∀ (fuel : Nat), (LExpr.map m f).bnd x + ((m.denote x).map (pure1 f)).length < fuel → ∀ (lg : Log),
      ∃ l hp lg1 hp' lg', LL.eval fuel (.map m f) x {} lg = (.ok l, hp, lg1) ∧
        LL.toSeq fuel l [] hp lg1 = (.ok ((m.denote x).map (pure1 f)), hp', lg') ∧ hp'.maxEvals ≤ 1) ∧
    (∀ (fuel : Nat), (LExpr.flatMap m id (.map (.argOf 1) f)).bnd x + ((m.denote x).map (pure1 f)).length < fuel →
      ∀ (lg : Log),
      ∃ l hp lg1 hp' lg', LL.eval fuel (.flatMap m id (.map (.argOf 1) f)) x {} lg = (.ok l, hp, lg1) ∧
        LL.toSeq fuel l [] hp lg1 = (.ok ((m.denote x).map (pure1 f)), hp', lg') ∧ hp'.maxEvals ≤ 1) :=
  FpVerif.CollList.list_map_eq_flatMap_unit_partial m hm f hf id x hint

/-! ## lazy List: the derived combinators over the heap model with function / list elements -/

/-- the derived combinators of `list/list_op.go` are their definitions through `FlatMap` / `Map` / `Of`
    (on the heap model the oracle runs) -/
theorem lAp_def (fuel : Nat) (t a : Coll.LV) : lAp fuel t a = Coll.flatMap fuel t (.apInner a) := rfl
theorem lMap2_def (fuel : Nat) (a b : Coll.LV) (f : Val → Val → GoM Val) :
    lMap2 fuel a b f = Coll.flatMap fuel a (.map2Inner b f) := rfl
theorem lFlatten_def (fuel : Nat) (opt : Coll.LV) : lFlatten fuel opt = Coll.flatMap fuel opt .ident := rfl
theorem lLift_def (f : Fn) (opt : Coll.LV) : lLift f opt = lMap opt f := rfl
theorem lCompose_def (fuel : Nat) (f1 f2 : Val → GoM (List El)) (a : El) :
    lCompose fuel f1 f2 a = (do let xs ← IM.liftG (f1 a.val); Coll.flatMap fuel (.seq xs) (.user f2)) := rfl
theorem lComposePure_def (fab : Fn) (a : El) :
    lComposePure fab a = (do let b ← IM.liftG (fab.app a); pure (lOf [b])) := rfl
theorem lFlap_def (fuel : Nat) (tfa : Coll.LV) (a : El) : lFlap fuel tfa a = lAp fuel tfa (lOf [a]) := rfl
theorem lFlap2_def (fuel : Nat) (tfab : Coll.LV) (a b : El) :
    lFlap2 fuel tfab a b = (do let t1 ← lAp fuel tfab (lOf [a]); lFlap fuel t1 b) := rfl
theorem lFlapMap_def (fuel : Nat) (tfab : Val → Val → GoM Val) (a : Coll.LV) (b : El) :
    lFlapMap fuel tfab a b = (do let m ← lMap a (.c2 tfab); lFlap fuel m b) := rfl
theorem lMethod1_def (fuel : Nat) (ta : Coll.LV) (fab : Val → Val → GoM Val) (b : El) :
    lMethod1 fuel ta fab b = lFlapMap fuel fab ta b := rfl
theorem lMethod2_def (fuel : Nat) (ta : Coll.LV) (fabc : Val → Val → Val → GoM Val) (b c : El) :
    lMethod2 fuel ta fabc b c = (do let m ← lMap ta (.c3 fabc); lFlap2 fuel m b c) := rfl

/-- denotations: each derived combinator denotes what its definition through `Ap` / `Map` / `Of` denotes
    (`Ap`, `Map2` range over ALL of the second list for every element of the first: lists are persistent,
    unlike the one-shot iterators above). -/
theorem lx_den_lift (f : Fn) (e : LX) : (LX.lift f e).den = (LX.map e f).den := rfl
theorem lx_den_ap (t a : LX) : (LX.ap t a).den = t.den.flatMap (fun f => a.den.map (appElP f)) := rfl
theorem lx_den_map2 (a b : LX) (g : Val → Val → GoM Val) :
    (LX.map2 a b g).den = a.den.flatMap (fun x => b.den.map (fun y => pureG (elF2 g x y))) := rfl
theorem lx_den_flatten (e : LX) : (LX.flatten e).den = e.den.flatMap collOfP := rfl
theorem lx_den_flap (t : LX) (a : El) : (LX.flap t a).den = (LX.ap t (.of [a])).den :=
  List.map_eq_flatMap
theorem lx_den_flap2 (t : LX) (a b : El) : (LX.flap2 t a b).den = (LX.flap (.ap t (.of [a])) b).den := by
  show _ = List.map _ (List.flatMap (fun f => [appElP f a]) _)
  rw [← List.map_eq_flatMap, List.map_map]
  rfl
theorem lx_den_flapMap (g : Val → Val → GoM Val) (a : LX) (b : El) :
    (LX.flapMap g a b).den = (LX.flap (.map a (.c2 g)) b).den := by
  show _ = List.map _ (List.map _ _)
  rw [List.map_map]
  rfl
theorem lx_den_method1 (ta : LX) (g : Val → Val → GoM Val) (b : El) :
    (LX.method1 ta g b).den = (LX.flapMap g ta b).den := rfl
theorem lx_den_compose (k1 k2 : Kl) (a : El) :
    (LX.compose k1 k2 a).den = (LX.flatMap (.of (pureG (k1 a.val))) k2).den := rfl
theorem lx_den_left_identity (a : El) (k : Kl) : (LX.flatMap (.of [a]) k).den = pureG (k a.val) :=
  List.flatMap_singleton ..
theorem lx_den_right_identity (m : LX) : m.den.flatMap (fun x => [x]) = m.den :=
  List.flatMap_singleton' m.den
theorem lx_den_assoc (m : LX) (f g : Kl) :
    (LX.flatMap (.flatMap m f) g).den = m.den.flatMap (fun x => (pureG (f x.val)).flatMap (fun y => pureG (g y.val))) :=
  List.flatMap_assoc

/-! ### the link between the heap model the oracle runs and these denotations

`LX.OK` (Lemmas/CollListDen.lean): callbacks return (`Fn.Tot`, `KTot`, `G2Tot`, `G3Tot`), the first list of
`Ap` / `Flap` / `Flap2` holds function values, the list given to `Flatten` holds collections — what the Go
type checker guarantees.  Proof: the type-soundness argument of C12 (ghost typing of memo cells) on
the heap with function / list elements, Lemmas/CollListDenMemo, CollListDenTy, CollListDenTot. -/

/-- THE LINK, for every fuel: for every list program whose callbacks return and whose function / collection elements are what the static Go types say (`LX.OK`), running the library calls on the heap model and traversing the result succeeds, returns exactly the denotation `LX.den` — the list comprehension of each combinator — and every memo cell was started at most once. All 14 constructors (Of, Map, Lift, FlatMap, Compose, ComposePure, Flatten, Ap, Map2, Flap, Flap2, FlapMap, Method1, Method2), arbitrarily nested. -/
theorem lx_evalF_den (e : LX) (hOK : e.OK) (fuel : Nat) (hfuel : e.bnd + e.den.length < fuel) (lg : Log) :
    ∃ l hp lg1 hp' lg', e.evalF fuel {} lg = (.ok l, hp, lg1) ∧
      Coll.toSeq fuel l [] hp lg1 = (.ok e.den, hp', lg') ∧ hp'.maxEvals ≤ 1 :=
  FpVerif.Coll.lx_evalF_den e hOK fuel hfuel lg

/-- the same for the fuel the oracle uses. -/
theorem lx_eval_den (e : LX) (hOK : e.OK) (hfuel : e.bnd + e.den.length < FUEL) (lg : Log) :
    ∃ l hp lg1 hp' lg', e.eval {} lg = (.ok l, hp, lg1) ∧
      Coll.toSeq FUEL l [] hp lg1 = (.ok e.den, hp', lg') ∧ hp'.maxEvals ≤ 1 :=
  FpVerif.Coll.lx_eval_den e hOK hfuel lg

/-- non-vacuity of `LX.OK`: `Ap(Map(xs, Curried2 g), ys)`. -/
theorem ok_ap_curried (g : Val → Val → GoM Val) (hg : G2Tot g) (xs ys : List El) :
    (LX.ap (.map (.of xs) (.c2 g)) (.of ys)).OK := by
  refine ⟨⟨trivial, Fn.Tot.c2 g⟩, trivial, ?_⟩
  intro y hy
  obtain ⟨x, _, rfl⟩ := List.mem_map.mp hy
  exact ⟨.c2a g x.val, rfl, Fn.Tot.c2a hg x.val⟩

/-- non-vacuity of `LX.OK`: `Flatten(Map(xs, x => Of(x, x+1, …)))`. -/
theorem ok_flatten_rep (id : Int) (n : Nat) (xs : List El) :
    (LX.flatten (.map (.of xs) (.rep id n))).OK := by
  refine ⟨⟨trivial, Fn.Tot.rep id n⟩, ?_⟩
  intro y hy
  obtain ⟨x, _, rfl⟩ := List.mem_map.mp hy
  exact ⟨none, repList x.val n, rfl⟩

/-- non-vacuity of `LX.OK`: `Method2(xs, h)(b, c)`. -/
theorem ok_method2 (h : Val → Val → Val → GoM Val) (hh : G3Tot h) (xs : List El) (b c : El) :
    (LX.method2 (.of xs) h b c).OK := ⟨trivial, hh⟩

end FpVerif.Spec.C01Coll
