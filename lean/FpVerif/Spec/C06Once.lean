import FpVerif.Lemmas.FutUniq
import FpVerif.Spec.C06Live
/-!
# C06 — "the derived future completes exactly once": one completer per derived promise

`Spec/C06.lean` (`single_assignment`) shows that a promise keeps the first value it is completed with;
`Spec/C06Live.lean` (`Live`) that every pending derived promise has AT LEAST one task or registered callback that
will complete it.  This file adds AT MOST one, for every schedule:

* `one_completer`              — in every reachable net no derived promise is the target of two items (queued tasks /
                                  registered callbacks, counted with multiplicity), and every targeted promise is a
                                  pending derived promise;
* `exactly_one_completer`      — with `Live`: every pending derived promise is the target of exactly one item;
* `derived_complete_never_fails` — every `Complete` call the LIBRARY performs succeeds: the only `Complete` calls that
                                  ever return false are repeated completions of a source promise by the environment.
                                  (So no result is ever computed and then dropped by a derived future.)

Audit finding 1: `Valid` includes the well-formedness side condition (`EvOK`: a source is never completed
with `Try{}` / `Failure(nil)`, every constructed program is `WFE` — Lemmas/FutWF.lean).  The theorems of this file take
`Valid` as hypothesis, so they do not speak about runs in which a task of the Go code would panic in
`t.Failed().Get()` and leave its promise pending (`C06.illformed_source_excluded`); along a valid run no ill-formed Try
ever exists (`C06.wellformed_every_schedule`).
-/
namespace FpVerif.Spec.C06
open FpVerif FpVerif.Fut FpVerif.Fut.Drain Multiset

/-- In every reachable net: nothing is targeted twice, and only pending derived promises are targeted. -/
theorem one_completer (nsrc : Nat) (evs : List Ev) (hv : Valid nsrc (Net.empty nsrc) evs) :
    ∃ B, Supp (runEvs (Net.empty nsrc) evs) B ∧
      (∀ np, (TM (runEvs (Net.empty nsrc) evs) B).count (some np) ≤ 1) ∧
      (∀ np, some np ∈ TM (runEvs (Net.empty nsrc) evs) B →
        nsrc ≤ np ∧ np < (runEvs (Net.empty nsrc) evs).next ∧ (runEvs (Net.empty nsrc) evs).status np = none) := by
  obtain ⟨B, h⟩ := uniq_runEvs evs _ ⟨0, uniq_empty nsrc⟩ hv
  exact ⟨B, h.supp, h.cnt, h.pend⟩

/-- membership in the target multiset is `Blocked` of `Spec/C06Live` -/
theorem blocked_mem {n : Net} {B : Nat} (hS : Supp n B) (p : Nat) (h : Blocked n p) : some p ∈ TM n B := by
  rcases h with ⟨tk, htk, ht⟩ | ⟨q, c, hc, ht⟩
  · exact mem_add.2 (.inl (mem_coe.2 (List.mem_map.2 ⟨tk, htk, ht⟩)))
  · have hq : q < B := by
      by_contra hge
      rw [hS q (Nat.le_of_not_lt hge)] at hc
      cases hc
    exact mem_add.2 (.inr (mem_sum.2 ⟨q, Finset.mem_range.2 hq, mem_coe.2 (List.mem_map.2 ⟨c, hc, ht⟩)⟩))

/-- **Exactly one.**  In every reachable net every pending derived promise is the target of exactly one queued task
    or registered callback. -/
theorem exactly_one_completer (nsrc : Nat) (evs : List Ev) (hv : Valid nsrc (Net.empty nsrc) evs) :
    ∃ B, Supp (runEvs (Net.empty nsrc) evs) B ∧
      ∀ p, nsrc ≤ p → p < (runEvs (Net.empty nsrc) evs).next → (runEvs (Net.empty nsrc) evs).status p = none →
        (TM (runEvs (Net.empty nsrc) evs) B).count (some p) = 1 := by
  obtain ⟨B, hS, hcnt, _⟩ := one_completer nsrc evs hv
  refine ⟨B, hS, fun p h1 h2 h3 => ?_⟩
  have hb := (live_run (nsrc := nsrc) evs _ (live_init nsrc)).blocked p h1 h2 h3 id
  exact Nat.le_antisymm (hcnt p) (count_pos.2 (blocked_mem hS p hb))

/-- **No `Complete` of the library ever fails.**  The completion attempts that returned false in any valid run are
    all on source promises (the environment completing a source twice). -/
theorem derived_complete_never_fails (nsrc : Nat) (evs : List Ev) (hv : Valid nsrc (Net.empty nsrc) evs) :
    ∀ pb ∈ (runEvs (Net.empty nsrc) evs).completes, pb.2 = false → pb.1 < nsrc := by
  obtain ⟨B, h⟩ := uniq_runEvs evs _ ⟨0, uniq_empty nsrc⟩ hv
  exact h.good

/-- non-vacuity: a run in which a source is completed twice — the one failing `Complete` is the second one on the
    source; the derived promises (2: the inner `Successful`, 1: the `Map`) were completed once each, successfully. -/
example :
    let evs : List Ev := [.mk (Fut.map (.ref 0) (fun x => (x, []))), .src 0 (.success (.int 1)), .src 0 (.success (.int 2)),
                          .run 0, .run 0]
    (runEvs (Net.empty 1) evs).completes = [(0, true), (0, false), (2, true), (1, true)] := by
  rfl

end FpVerif.Spec.C06
