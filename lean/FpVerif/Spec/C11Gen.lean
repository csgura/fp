import FpVerif.Gen.TCGen
import FpVerif.Lemmas.TCGenCheck
import FpVerif.Spec.C11
/-!
# C11 — `monoid.go`, `monoid/monoid_op.go`, `semigroup/semigroup.go`, TRANSLATED from the source on every run, are the
# model definitions

See `Spec/C09Gen.lean` for the conventions.  `fp.SemigroupFunc` used as an `fp.Monoid` is the dictionary of its two
translated methods (`Empty` = the zero value, `Combine` = the function); the struct `monoid{zero, combine}` likewise.
Pointers are modelled up to their target in these two packages (`*T` is `Option T`, `&ret` is `some ret`), as in the model.
-/
namespace FpVerif.Spec.C11Gen
open FpVerif.TC FpVerif.GoSem FpVerif.Gen.TC

variable {T A B H : Type}

-- monoid.go ----------------------------------------------------------------------------------------------------------
/-- `SemigroupFunc.Empty()` is the zero value, `Combine` the function: used as a monoid it is `ofSemigroupFunc zero r` -/
theorem fp_SemigroupFunc_is_model [GoZero T] (r : T → T → T) :
    MonoidD.mk (fp_SemigroupFunc_Empty r) (fp_SemigroupFunc_Combine r) = MonoidD.ofSemigroupFunc GoZero.zero r := rfl
theorem fp_SemigroupFunc_Empty_is_model [GoZero T] (r : T → T → T) :
    fp_SemigroupFunc_Empty r = (MonoidD.ofSemigroupFunc GoZero.zero r).empty := rfl
theorem fp_SemigroupFunc_Combine_is_model [GoZero T] (r : T → T → T) :
    fp_SemigroupFunc_Combine r = (SemigroupD.mk r).combine := rfl
theorem fp_Sum_is_model [GoNum T] : (fp_Sum : MonoidD T) = MonoidD.sum := rfl
theorem fp_Product_is_model [GoNum T] : (fp_Product : MonoidD T) = MonoidD.product := rfl
theorem fp_Endo_AsFunc_is_model [GoZero T] (r : Endo T) : fp_Endo_AsFunc r = r := rfl
/-- the callee `fp.Compose(f1, f2)` : first `f1`, then `f2` -/
theorem fp_Compose_is_model {C : Type} [GoZero A] [GoZero B] [GoZero C] (f1 : A → B) (f2 : B → C) :
    fp_Compose f1 f2 = fun a => f2 (f1 a) := rfl

-- semigroup/semigroup.go ---------------------------------------------------------------------------------------------
theorem semigroup_New_is_model [GoZero T] (fn : T → T → T) : semigroup_New fn = SemigroupD.new fn := rfl
theorem semigroup_Sum_is_model [GoNum T] : (semigroup_Sum : SemigroupD T) = SemigroupD.sum := rfl
/-- (the two unused parameters are in the source) -/
theorem semigroup_Product_is_model [GoNum T] (a b : T) : semigroup_Product a b = SemigroupD.product := rfl
theorem semigroup_Endo_is_model [GoZero T] : (semigroup_Endo : SemigroupD (Endo T)) = SemigroupD.endo := rfl
theorem semigroup_Dual_is_model [GoZero T] (sg : SemigroupD T) : semigroup_Dual sg = SemigroupD.dual sg := rfl
theorem semigroup_Eval_is_model [GoZero T] (sg : SemigroupD T) : semigroup_Eval sg = SemigroupD.eval sg := rfl
theorem semigroup_Any_is_model : semigroup_Any = SemigroupD.any := rfl
/-- `semigroup.All` is conjunction (the model as the property demands; `allAsIs` was the library before the fix) -/
theorem semigroup_All_is_model : semigroup_All = SemigroupD.all := rfl
theorem semigroup_IMap_is_model [GoZero A] [GoZero B] (inst : SemigroupD A) (fab : A → B) (fba : B → A) :
    semigroup_IMap inst fab fba = SemigroupD.imap inst fab fba := rfl

/-- proved: the nil tests are the model's pattern match -/
theorem semigroup_Ptr_is_model [GoZero T] (sgT : Unit → SemigroupD T) : semigroup_Ptr sgT = SemigroupD.ptr sgT := by
  unfold semigroup_Ptr SemigroupD.ptr
  rw [semigroup_New_is_model]
  congr 1; funext a b
  cases a <;> cases b <;> rfl

/-- proved: the `IsDefined` / `IsEmpty` chain is the model's pattern match -/
theorem semigroup_Option_is_model [GoZero T] (sg : SemigroupD T) : semigroup_Option sg = SemigroupD.option sg := by
  unfold semigroup_Option SemigroupD.option
  rw [semigroup_New_is_model]
  congr 1; funext a b
  cases a <;> cases b <;> rfl

-- monoid/monoid_op.go ------------------------------------------------------------------------------------------------
theorem monoid_New_is_model [GoZero T] (zero : Unit → T) (combine : T → T → T) : monoid_New zero combine = MonoidD.new zero combine := rfl
theorem monoid_String_is_model : monoid_String = MonoidD.string := rfl
theorem monoid_Sum_is_model [GoNum T] : (monoid_Sum : MonoidD T) = MonoidD.sum := rfl
theorem monoid_Product_is_model [GoNum T] : (monoid_Product : MonoidD T) = MonoidD.product := rfl
theorem monoid_Try_is_model [GoZero T] (m : MonoidD T) : monoid_Try m = MonoidD.try_ m := rfl
theorem monoid_MergeSeq_is_model [GoZero T] : (monoid_MergeSeq : MonoidD (List T)) = MonoidD.mergeSeq := rfl
theorem monoid_IMap_is_model [GoZero A] [GoZero B] (inst : MonoidD A) (fab : A → B) (fba : B → A) :
    monoid_IMap inst fab fba = MonoidD.imap inst fab fba := rfl
theorem monoid_MergeSlice_is_model [GoZero T] : (monoid_MergeSlice : MonoidD (List T)) = MonoidD.mergeSlice := rfl
theorem monoid_HNil_is_model : monoid_HNil = MonoidD.hnil := rfl
theorem monoid_HCons_is_model [GoZero H] [HListT T] [GoZero T] (hm : MonoidD H) (tm : MonoidD T) :
    monoid_HCons hm tm = MonoidD.hcons hm tm := rfl
theorem monoid_Endo_is_model [GoZero T] : (monoid_Endo : MonoidD (Endo T)) = MonoidD.endo := rfl
theorem monoid_Dual_is_model [GoZero T] (m : MonoidD T) : monoid_Dual m = MonoidD.dual m := rfl
theorem monoid_Eval_is_model [GoZero T] (m : MonoidD T) : monoid_Eval m = MonoidD.eval m := rfl
theorem monoid_Any_is_model : monoid_Any = MonoidD.any := rfl
theorem monoid_All_is_model : monoid_All = MonoidD.all := rfl
theorem monoid_Unit_is_model : monoid_Unit = MonoidD.unit := rfl

/-- `option.Map2` of the callee table is the model's `optionMap2` -/
theorem optionMap2_is_model (a b : Option T) (f : T → T → T) : optionMap2 a b f = MonoidD.optionMap2 a b f := rfl

theorem monoid_Option_is_model [GoZero T] (m : MonoidD T) : monoid_Option m = MonoidD.option m := rfl

/-- proved: the nil tests are the model's pattern match -/
theorem monoid_Ptr_is_model [GoZero T] (monoidT : Unit → MonoidD T) : monoid_Ptr monoidT = MonoidD.ptr monoidT := by
  unfold monoid_Ptr MonoidD.ptr
  rw [monoid_New_is_model]
  congr 1; funext a b
  cases a <;> cases b <;> rfl

-- what the ties buy: laws of Spec/C11 hold for the translated code ---------------------------------------------------

theorem monoid_Option_lawful [GoZero T] {m : MonoidD T} (h : LawfulMonoid m) : LawfulMonoid (monoid_Option m) := by
  rw [monoid_Option_is_model]; exact FpVerif.Spec.C11.option_lawful h

theorem monoid_Dual_lawful [GoZero T] {m : MonoidD T} (h : LawfulMonoid m) : LawfulMonoid (monoid_Dual m) := by
  rw [monoid_Dual_is_model]; exact FpVerif.Spec.C11.dual_lawful h

theorem monoid_HCons_lawful [GoZero H] [HListT T] [GoZero T] {hm : MonoidD H} {tm : MonoidD T}
    (h1 : LawfulMonoid hm) (h2 : LawfulMonoid tm) : LawfulMonoid (monoid_HCons hm tm) := by
  rw [monoid_HCons_is_model]; exact FpVerif.Spec.C11.hcons_lawful h1 h2

theorem monoid_All_lawful : LawfulMonoid monoid_All := by
  rw [monoid_All_is_model]; exact FpVerif.Spec.C11.all_lawful

/-- the translated `monoid.All` computes the conjunction with unit `true` -/
theorem monoid_All_computes (a b : Bool) : monoid_All.combine a b = (a && b) ∧ monoid_All.empty = true := ⟨rfl, rfl⟩

theorem semigroup_Option_lawful [GoZero T] {s : SemigroupD T} (h : LawfulSemigroup s) : LawfulSemigroup (semigroup_Option s) := by
  rw [semigroup_Option_is_model]; exact FpVerif.Spec.C11.sg_option_lawful h

theorem semigroup_Ptr_lawful [GoZero T] {s : Unit → SemigroupD T} (h : LawfulSemigroup (s ())) : LawfulSemigroup (semigroup_Ptr s) := by
  rw [semigroup_Ptr_is_model]; exact FpVerif.Spec.C11.sg_ptr_lawful h

theorem monoid_Sum_lawful_int64 : LawfulMonoid (monoid_Sum : MonoidD Int64) := by
  rw [monoid_Sum_is_model]; exact FpVerif.Spec.C11.sum_lawful_int64

/-- the hypotheses are satisfiable -/
example : LawfulMonoid (monoid_Option (monoid_Dual (monoid_Sum : MonoidD Int64))) :=
  monoid_Option_lawful (monoid_Dual_lawful monoid_Sum_lawful_int64)

end FpVerif.Spec.C11Gen

-- every translated declaration of these files has its tie theorem above (fails the build otherwise)
#tc_ties FpVerif.Spec.C11Gen "monoid." "semigroup." "fp.SemigroupFunc." "fp.Sum" "fp.Product" "fp.Endo."
