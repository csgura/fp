import FpVerif.Spec.C14Fut
/-!
# C06 for the builder families: every schedule

(b) (letters as in Spec/C14Fut.lean) Everything `ChainN`/`MonadChainN` and `ApplicativeN`/`ApplicativeFunctorN` construct
    lies in the first-order fragment `FO` of Spec/C06Sound.lean — curried function values and hlists are plain data (`Val`),
    not futures — as long as the futures returned by the user's suppliers/callbacks are first-order.  Hence the invariant of
    `sound_every_schedule` (`Inv`) is preserved by every method call, made at ANY moment of ANY schedule
    (`inv_pres`, an instance of `Pres`: `Pres.chainStep`, `Pres.chainLast`, `Pres.applicativeStep`, `Pres.runChain`, …), and

    * `chain_sound_every_schedule` / `applicative_sound_every_schedule`: in every state reached afterwards, under every
      order of source completions, task runs and further constructions, the future a builder returned — once it is
      completed — holds exactly the do-notation reading (`chainSpec` / `applicativeSpec`) over the statuses of that
      state: never earlier, never different, first failure in positional order wins;
    * `chain_h_success`, `supplier_task_sound`: the task that runs the supplier / callback of position i exists only with
      the hlist future's value, and if that value is a success it is exactly the values of positions 1..i-1, all
      successful — after a failure, or before the earlier positions are determined, the supplier is NOT run.

(b') audit finding 1: `StepWFT` (the Try values / futures a step hands over are well formed), `wf_pres` (the other
    instance of `Pres`), `chain_wellformed_every_schedule`: no ill-formed Try (`failure .nil`) ever appears, before or
    after a chain is built, so the `Valid` side condition of `chain_sound_every_schedule` is maintained by the builders
    themselves.
    The same for `ApplicativeN`: `AStepWFT`, `applicative_wellformed_every_schedule`.

(d) `eager_apFutureFunc_differs`: the seeded defect (`MonadChain5.ApFutureFunc = r.ApFuture(a())`) as a model mutant: it
    logs the supplier's event during construction, which `runChain_log` forbids.
-/
namespace FpVerif.Spec.C06Chain
open FpVerif FpVerif.Fut FpVerif.Spec.C06 FpVerif.Spec.C14Fut

/-- a step whose handles exist and whose user functions return first-order futures over existing handles -/
def StepFO (b : Nat) : Step → Prop
  | .a (.apFuture a) => a < b
  | .a (.apFutureFunc s) => ∀ c, FO b (s c)
  | .flatMap k => ∀ c v, FO b (k c v)
  | .hlistFlatMap k => ∀ c v, FO b (k c v)
  | _ => True

def AStepFO (b : Nat) (s : AStep) : Prop := StepFO b (.a s)

theorem StepFO.wf {b : Nat} {s : Step} (h : StepFO b s) : StepWF b s := by
  cases s with
  | a s => cases s <;> first | exact h | trivial
  | _ => trivial

theorem StepFO.mono {b b' : Nat} (hle : b ≤ b') {s : Step} (h : StepFO b s) : StepFO b' s := by
  cases s with
  | a s =>
    cases s with
    | apFuture a => exact Nat.lt_of_lt_of_le h hle
    | apFutureFunc s => exact fun c => (h c).mono hle
    | _ => trivial
  | flatMap k => exact fun c v => (h c v).mono hle
  | hlistFlatMap k => exact fun c v => (h c v).mono hle
  | _ => trivial

theorem AStepFO.wf {b : Nat} {s : AStep} (h : AStepFO b s) : AStepWF b s := by
  cases s <;> first | exact h | trivial

theorem fo_fromTry {b : Nat} (t : Try Val) : FO b (fromTry t) := by cases t <;> constructor

theorem fo_fromOption {b : Nat} (o : Option Val) : FO b (fromOption o) := by cases o <;> constructor

theorem fo_chainOperand {b h : Nat} (c : Ex) {s : Step} (hh : h < b) (hs : StepFO b s) : FO b (chainOperand h c s) := by
  cases s with
  | a s =>
    cases s with
    | apFuture a => exact .ref a hs
    | ap v => exact .successful v
    | apTry t => exact fo_fromTry t
    | apOption o => exact fo_fromOption o
    | apFutureFunc s => exact .flatMap _ _ (.ref h hh) (fun _ => hs c)
    | apTryFunc s => exact .flatMap _ _ (.ref h hh) (fun _ => .logged _ _ (fo_fromTry _))
    | apOptionFunc s => exact .flatMap _ _ (.ref h hh) (fun _ => .logged _ _ (fo_fromOption _))
    | apFunc s => exact fo_map _ _ (.ref h hh)
  | flatMap k => exact .flatMap _ _ (.ref h hh) (fun v => hs c _)
  | map k => exact .flatMap _ _ (.ref h hh) (fun _ => .logged _ _ (.successful _))
  | hlistFlatMap k => exact .flatMap _ _ (.ref h hh) (fun v => hs c v)
  | hlistMap k => exact .flatMap _ _ (.ref h hh) (fun _ => .logged _ _ (.successful _))

/-- What a property `P` of nets needs in order to survive every builder call.  `Q n e`: the expression `e` may be built
    at `n` (for `Inv`: first-order over the handles of `n`; for `WFNet`: hereditarily well formed); `S n s`: the method
    call `s` may be made at `n`.  A handle `p` is usable at `n` when `Q n (.ref p)`. -/
structure Pres (P : Net → Prop) (Q : Net → FExpr → Prop) (S : Net → Step → Prop) : Prop where
  build : ∀ {n e}, P n → Q n e → P (build e n).2 ∧ Q (build e n).2 (.ref (build e n).1) ∧
    (∀ e', Q n e' → Q (build e n).2 e') ∧ ∀ s, S n s → S (build e n).2 s
  successful : ∀ {n} v, Q n (.successful v)
  logged : ∀ {n} evs {e}, Q n e → Q n (.logged evs e)
  flatMap : ∀ {n e k}, Q n e → (∀ v, Q n (k v)) → Q n (.flatMap e k)
  flatMap_inv : ∀ {n e k}, Q n (.flatMap e k) → ∀ v, Q n (k v)
  operand : ∀ {n h s} c, S n s → Q n (.ref h) → Q n (chainOperand h c s)

namespace Pres
variable {P : Net → Prop} {Q : Net → FExpr → Prop} {S : Net → Step → Prop} (hI : Pres P Q S)
include hI

/-- `ApFunc(t, a)` — and `Ap(t, a)`, its instance at `a = fun _ => .ref p` — on a future of a (curried) function:
    function values are data -/
theorem apFunc {n : Net} (app : Ex → Val → Val → W Val) {t : Nat} {a : Ex → FExpr} (c : Ex) (ht : Q n (.ref t))
    (ha : Q n (a c)) : Q n (Fut.apFunc app t a c) :=
  hI.flatMap ht (fun _ => hI.flatMap ha (fun _ => hI.logged _ (hI.successful _)))

theorem map2 {n : Net} {a b : Nat} (f : Val → Val → W Val) (ha : Q n (.ref a)) (hb : Q n (.ref b)) :
    Q n (Fut.map2 a b f) :=
  hI.flatMap ha (fun _ => hI.flatMap hb (fun _ => hI.logged _ (hI.successful _)))

theorem chainNew {n : Net} (hp : P n) :
    P (chainNew n).2 ∧ Q (chainNew n).2 (.ref (chainNew n).1.h) ∧ Q (chainNew n).2 (.ref (chainNew n).1.fn) ∧
    ∀ s, S n s → S (chainNew n).2 s := by
  obtain ⟨p1, h1, _, s1⟩ := hI.build hp (hI.successful (hl []))
  obtain ⟨p2, f2, q2, s2⟩ := hI.build p1 (hI.successful (pa []))
  exact ⟨p2, q2 _ h1, f2, fun s hs => s2 s (s1 s hs)⟩

theorem chainStep {app : Ex → Val → Val → W Val} {n : Net} {st : ChainSt} (hp : P n) (hh : Q n (.ref st.h))
    (hf : Q n (.ref st.fn)) (c : Ex) {s : Step} (hs : S n s) :
    P (chainStep app st c s n).2 ∧ Q (chainStep app st c s n).2 (.ref (chainStep app st c s n).1.h) ∧
    Q (chainStep app st c s n).2 (.ref (chainStep app st c s n).1.fn) ∧ ∀ s', S n s' → S (chainStep app st c s n).2 s' := by
  unfold Fut.chainStep
  obtain ⟨p1, a1, q1, s1⟩ := hI.build hp (hI.operand c hs hh)
  obtain ⟨p2, h2, q2, s2⟩ := hI.build p1 (hI.map2 hconsW a1 (q1 _ hh))
  obtain ⟨p3, f3, q3, s3⟩ := hI.build p2 (hI.apFunc (a := fun _ => .ref _) app .d (q2 _ (q1 _ hf)) (q2 _ a1))
  exact ⟨p3, q3 _ h2, f3, fun s' h => s3 _ (s2 _ (s1 _ h))⟩

theorem chainLast {app : Ex → Val → Val → W Val} {n : Net} {st : ChainSt} (hp : P n) (hh : Q n (.ref st.h))
    (hf : Q n (.ref st.fn)) (c : Ex) {s : Step} (hs : S n s) : P (chainLast app st c s n).2 := by
  unfold Fut.chainLast
  obtain ⟨p1, a1, q1, _⟩ := hI.build hp (hI.operand c hs hh)
  exact (hI.build p1 (hI.apFunc (a := fun _ => .ref _) app .d (q1 _ hf) a1)).1

theorem chainRun {app : Ex → Val → Val → W Val} (steps : List (Ex × Step)) :
    ∀ {n : Net} {st : ChainSt}, P n → Q n (.ref st.h) → Q n (.ref st.fn) → (∀ cs ∈ steps, S n cs.2) →
    P (chainRun app st steps n).2 := by
  induction steps with
  | nil => exact fun hp _ _ _ => hp
  | cons cs rest ih =>
    intro n st hp hh hf hs
    obtain ⟨c, s⟩ := cs
    cases rest with
    | nil => exact hI.chainLast hp hh hf c (hs (c, s) (by simp))
    | cons cs2 rest2 =>
      obtain ⟨p1, h1, f1, s1⟩ := hI.chainStep (app := app) hp hh hf c (hs (c, s) (by simp))
      simp only [Fut.chainRun]
      generalize Fut.chainStep app st c s n = r1 at p1 h1 f1 s1
      exact ih p1 h1 f1 (fun x hx => s1 _ (hs x (by simp [hx])))

/-- building a whole chain keeps `P` -/
theorem runChain (fn : NFn) (steps : List (Ex × Step)) {n : Net} (hp : P n) (hs : ∀ cs ∈ steps, S n cs.2) :
    P (runChain fn steps n).2 := by
  obtain ⟨p0, h0, f0, s0⟩ := hI.chainNew hp
  exact hI.chainRun steps p0 h0 f0 (fun x hx => s0 _ (hs x hx))

theorem applicativeStep {app : Ex → Val → Val → W Val} {n : Net} {f : Nat} (hp : P n) (hf : Q n (.ref f)) (last : Bool)
    (c : Ex) {s : AStep} (hs : S n (.a s)) :
    P (applicativeStep app f last c s n).2 ∧
    Q (applicativeStep app f last c s n).2 (.ref (applicativeStep app f last c s n).1) ∧
    ∀ s', S n s' → S (applicativeStep app f last c s n).2 s' := by
  unfold Fut.applicativeStep
  cases hsup : s.supplier with
  | some sup =>
    -- a supplier step's operand is `.flatMap (.ref f) (fun _ => sup _)`: inverting it gives `Q` of the supplier's future
    have hop := hI.operand (if last then c else .d) hs hf
    rw [chainOperand_supplier f _ hsup] at hop
    obtain ⟨p1, f1, _, s1⟩ := hI.build hp (hI.apFunc app _ hf (hI.flatMap_inv hop .unit))
    exact ⟨p1, f1, s1⟩
  | none =>
    obtain ⟨p1, a1, q1, s1⟩ := hI.build hp (chainOperand_value f c hsup ▸ hI.operand c hs hf)
    obtain ⟨p3, f3, _, s3⟩ := hI.build p1 (hI.apFunc (a := fun _ => .ref _) app .d (q1 _ hf) a1)
    exact ⟨p3, f3, fun s' h => s3 _ (s1 _ h)⟩

theorem applicativeRun {app : Ex → Val → Val → W Val} (steps : List (Ex × AStep)) :
    ∀ {n : Net} {f : Nat}, P n → Q n (.ref f) → (∀ cs ∈ steps, S n (.a cs.2)) →
    P (applicativeRun app f steps n).2 := by
  induction steps with
  | nil => exact fun hp _ _ => hp
  | cons cs rest ih =>
    intro n f hp hf hs
    obtain ⟨c, s⟩ := cs
    cases rest with
    | nil => exact (hI.applicativeStep hp hf true c (hs (c, s) (by simp))).1
    | cons cs2 rest2 =>
      obtain ⟨p1, f1, s1⟩ := hI.applicativeStep (app := app) hp hf false c (hs (c, s) (by simp))
      exact ih p1 f1 (fun x hx => s1 _ (hs x (by simp [hx])))

theorem runApplicative (fn : NFn) (steps : List (Ex × AStep)) {n : Net} (hp : P n) (hs : ∀ cs ∈ steps, S n (.a cs.2)) :
    P (runApplicative fn steps n).2 := by
  obtain ⟨p0, f0, _, s0⟩ := hI.build hp (hI.successful (pa []))
  exact hI.applicativeRun steps p0 f0 (fun x hx => s0 _ (hs x hx))

end Pres

/-- **(b)** the invariant of `sound_every_schedule` survives every builder call whose steps are first-order -/
theorem inv_pres (nsrc : Nat) : Pres (Inv nsrc) (fun n e => FO n.next e) (fun n s => StepFO n.next s) where
  build hp hq :=
    have b := inv_build _ _ hp hq
    ⟨b.inv, .ref _ b.alloc, fun _ h => h.mono b.le.next, fun _ h => h.mono b.le.next⟩
  successful v := .successful v
  logged evs _ h := .logged evs _ h
  flatMap h hk := .flatMap _ _ h hk
  flatMap_inv h := by
    cases h with
    | flatMap _ _ _ hk => exact hk
  operand c hs hh := by
    cases hh with
    | ref _ hlt => exact fo_chainOperand c hlt hs

/-- **Chains under every schedule.**  Start from `nsrc` pending sources, run ANY valid event sequence `evs` (constructions,
    source completions in any order, pooled tasks in any order), then call `ChainN(fn).m1(…)…mN(…)` — whatever is
    pending, failed or complete at that moment —, then run ANY further valid event sequence `evs'`.  In the state
    reached, if the chain's future is completed it holds exactly the do-notation reading over fp.Try of the statuses of
    that state: operands left to right, callbacks seeing exactly the earlier values, first failure wins,
    `fn(a1, …, aN)` at the end. -/
theorem chain_sound_every_schedule (nsrc : Nat) (evs : List Ev) (hv : Valid nsrc (Net.empty nsrc) evs)
    (fn : NFn) (steps : List (Ex × Step)) (hne : steps ≠ [])
    (hfo : ∀ cs ∈ steps, StepFO (runEvs (Net.empty nsrc) evs).next cs.2)
    (evs' : List Ev) (hv' : Valid nsrc (runChain fn steps (runEvs (Net.empty nsrc) evs)).2 evs') (r : Try Val) :
    let n := runEvs (Net.empty nsrc) evs
    let q := (runChain fn steps n).1
    let n' := runEvs (runChain fn steps n).2 evs'
    n'.status q = some r → chainSpec n'.status fn steps [] = some r := by
  intro n q n' hq
  have hi : Inv nsrc n := inv_run evs _ (inv_init nsrc) hv
  have hi1 := (inv_pres nsrc).runChain fn steps hi hfo
  have hi2 : Inv nsrc n' := inv_run evs' _ hi1 hv'
  have hle : Le (runChain fn steps n).2 n' := le_run evs' _ hi1 hv'
  exact chain_sound fn steps n hne (fun cs hcs => (hfo cs hcs).wf) n' (SpecLe.of_le hle) n'.status hi2.sound r hq

/-- the same for `ApplicativeN(fn).m1(…)…mN(…)` -/
theorem applicative_sound_every_schedule (nsrc : Nat) (evs : List Ev) (hv : Valid nsrc (Net.empty nsrc) evs)
    (fn : NFn) (steps : List (Ex × AStep)) (hne : steps ≠ [])
    (hfo : ∀ cs ∈ steps, AStepFO (runEvs (Net.empty nsrc) evs).next cs.2)
    (evs' : List Ev) (hv' : Valid nsrc (runApplicative fn steps (runEvs (Net.empty nsrc) evs)).2 evs') (r : Try Val) :
    let n := runEvs (Net.empty nsrc) evs
    let q := (runApplicative fn steps n).1
    let n' := runEvs (runApplicative fn steps n).2 evs'
    n'.status q = some r → applicativeSpec n'.status fn steps [] = some r := by
  intro n q n' hq
  have hi : Inv nsrc n := inv_run evs _ (inv_init nsrc) hv
  have hi1 := (inv_pres nsrc).runApplicative fn steps hi hfo
  have hi2 : Inv nsrc n' := inv_run evs' _ hi1 hv'
  have hle : Le (runApplicative fn steps n).2 n' := le_run evs' _ hi1 hv'
  exact applicative_sound fn steps n hne (fun cs hcs => AStepFO.wf (hfo cs hcs)) n' (SpecLe.of_le hle) n'.status
    hi2.sound r hq

/-- …and for a builder that is HELD and continued later (staged building): after any number of method calls made at
    arbitrary moments of a schedule (`Built` survives every event; each call keeps the invariant: `inv_pres`), whenever
    the final future is completed in a state satisfying the invariant it holds the do-notation reading. -/
theorem staged_chain_sound {nsrc : Nat} {fn : NFn} {steps : List (Ex × Step)} {n : Net} {q : Nat}
    (hi : Inv nsrc n) (hb : BuiltLast (applyC steps.length fn) n steps q) (r : Try Val) (hq : n.status q = some r) :
    chainSpec n.status fn steps [] = some r :=
  chain_rel erel_below (R := Below) (sound_consistent hi.sound) fn hb r hq

/-- In a sound state the hlist future of a builder is successful only if ALL earlier positions are determined successes,
    and then it holds exactly their values (most recent first). -/
theorem chain_h_success {σ : Nat → TV} {n : Net} (hc : Consistent Below σ n) (N : Nat) (fn : NFn)
    {done : List (Ex × Step)} {st : ChainSt} (hb : Built (applyC N fn) n done st) (x : Val)
    (hx : σ st.h = some (.success x)) : ∃ vs, argsSpec σ done = some (.success vs) ∧ x = hl vs := by
  induction hb generalizing x with
  | new st _ _ h3 _ =>
    have := hc st.h _ hx
    rw [h3] at this
    simp [evalS] at this
    exact ⟨[], rfl, this.symm⟩
  | step done st st' c s av _ _ hroot _ _ h3 _ ih =>
    have h := hc st'.h _ hx
    rw [h3, evalS_map2] at h
    rcases bindOk_some h with ⟨v1, hv1, hk⟩ | ⟨e, _, he⟩
    · rcases bindOk_some hk with ⟨v2, hv2, hk2⟩ | ⟨e, _, he⟩
      · obtain ⟨vs, hvs, hv2'⟩ := ih v2 hv2
        have hst : Below (σ st.h) (some (.success (hl vs))) := by
          intro r hr; rw [hv2] at hr; cases hr; rw [hv2']
        have hav := operand_rel erel_below hc hroot hst _ hv1
        refine ⟨vs ++ [v1], ?_, ?_⟩
        · rw [argsSpec_snoc]; simp [argsStep, bindP, hvs, hav]
        · simp only [hconsW, Option.some.injEq, Try.success.injEq] at hk2
          rw [← hk2, hv2']; simp [hcons, hl]
      · cases he
    · cases he

/-- **Who runs a supplier.**  In every state satisfying the invariant of `sound_every_schedule`, a pooled task that would
    invoke the user function registered for the operand node `av = FlatMap(r.h, K)` of a builder (the supplier of
    `ApFutureFunc`/`ApTryFunc`/…, the callback of `Map`/`FlatMap`/`HListMap`/`HListFlatMap`) carries exactly the current
    result `t` of the hlist future `r.h`; `runTask` calls `K` only when `t` is a success, and then `t` holds exactly the
    values of ALL earlier positions, each a determined success.  So a supplier is never run before the earlier positions
    are determined, nor after one of them failed, and a callback sees exactly the values so far. -/
theorem supplier_task_sound {nsrc : Nat} {n : Net} (hi : Inv nsrc n) (N : Nat) (fn : NFn)
    {done : List (Ex × Step)} {st : ChainSt} (hb : Built (applyC N fn) n done st) (av : Nat) (K : Val → FExpr)
    (hav : n.spec av = .flatMap (.ref st.h) K) (k : Val → FExpr) (t : Try Val)
    (htask : Task.cb (.flatMapA k av) t ∈ n.pool) :
    k = K ∧ n.status st.h = some t ∧
    ∀ x, t = .success x → ∃ vs, argsSpec n.status done = some (.success vs) ∧ x = hl vs := by
  obtain ⟨q, hq, _, hsp, _⟩ := hi.tasks _ htask
  rw [hav] at hsp
  injection hsp with h1 h2
  injection h1 with h1
  subst h1
  refine ⟨h2.symm, hq, fun x hx => ?_⟩
  subst hx
  exact chain_h_success (sound_consistent hi.sound) N fn hb x hq

/-- the defective `ApFutureFunc`: `return r.ApFuture(a())` — the supplier runs while the chain is being built -/
def chainStepEager (app : Ex → Val → Val → W Val) (r : ChainSt) (sup : Ex → FExpr) (n : Net) : ChainSt × Net :=
  let (av, n) := build (sup .s) n
  let (nh, n) := build (map2 av r.h hconsW) n
  let (nfn, n) := build (Fut.ap app r.fn av .d) n
  ({ h := nh, fn := nfn }, n)

/-- a supplier that logs and returns a successful future -/
def demoSup : Ex → FExpr := fun c => .logged [s!"sup@{c.tag}"] (.successful (.int 7))

/-- **(d)** the correct method logs nothing when it is called (`chainStep_built`), the defective one logs the supplier's
    event at once — here with the earlier position (source 0) still pending, i.e. before it could know whether the
    supplier is to be run at all -/
theorem eager_apFutureFunc_differs (app : Ex → Val → Val → W Val) :
    let r0 := (chainNew (Net.empty 1)).1
    let n1 := (chainNew (Net.empty 1)).2
    let r1 := (chainStep app r0 .d (.a (.apFuture 0)) n1).1
    let n2 := (chainStep app r0 .d (.a (.apFuture 0)) n1).2
    (chainStep app r1 .d (.a (.apFutureFunc demoSup)) n2).2.log = [] ∧
    (chainStepEager app r1 demoSup n2).2.log = ["sup@s"] ∧ n2.status r1.h = none := by
  have hb0 := chainNew_built app (Net.empty 1)
  have hb1 := chainStep_built hb0.1 .d (s := .a (.apFuture 0))
    (show StepWF _ (.a (.apFuture 0)) from Nat.lt_of_lt_of_le (by decide : 0 < (Net.empty 1).next) hb0.2.1.next)
  have hb2 := chainStep_built hb1.1 .d (s := .a (.apFutureFunc demoSup)) trivial
  refine ⟨?_, rfl, rfl⟩
  rw [hb2.2.2, hb1.2.2, hb0.2.2]; rfl

/-- a concrete schedule: `Chain2(fn).ApFuture(s0).ApFunc(() => 7)` built while s0 is pending; s0 then succeeds with 5, every
    task runs: the result is `fn(5, 7)`, the supplier ran (once), on the executor passed to `ApFunc` (`u`), after s0's value
    was known; `fn` ran on the default executor -/
example :
    let fn : NFn := fun c vs => (.seq vs, [s!"fn@{c.tag}"])
    let steps : List (Ex × Step) := [(.d, .a (.apFuture 0)), (.u, .a (.apFunc (fun c => (.int 7, [s!"sup@{c.tag}"]))))]
    let n := (runChain fn steps (Net.empty 1)).2
    let q := (runChain fn steps (Net.empty 1)).1
    let n' := runEvs n ([.src 0 (.success (.int 5))] ++ List.replicate 16 (.run 0))
    n.log = [] ∧ n'.status q = some (.success (.seq [.int 5, .int 7])) ∧ n'.log = ["sup@u", "fn@d"] ∧
    chainSpec n'.status fn steps [] = some (.success (.seq [.int 5, .int 7])) := by
  refine ⟨rfl, ?_, ?_, ?_⟩ <;> rfl

/-- the hypotheses of `chain_sound_every_schedule` are satisfiable (here: the chain above, built after the source failed) -/
example :
    let fn : NFn := fun c vs => (.seq vs, [s!"fn@{c.tag}"])
    let steps : List (Ex × Step) := [(.d, .a (.apFuture 0)), (.u, .a (.apFunc (fun c => (.int 7, [s!"sup@{c.tag}"]))))]
    let evs : List Ev := [.src 0 (.failure (.code 3))]
    let n := runEvs (Net.empty 1) evs
    let evs' : List Ev := List.replicate 12 (.run 0)
    Valid 1 (Net.empty 1) evs ∧ (∀ cs ∈ steps, StepFO n.next cs.2) ∧ Valid 1 (runChain fn steps n).2 evs' ∧
    (runEvs (runChain fn steps n).2 evs').status (runChain fn steps n).1 = some (.failure (.code 3)) ∧
    (runEvs (runChain fn steps n).2 evs').log = [] := by
  refine ⟨⟨⟨(by decide : (0 : Nat) < 1), (wfTry_failure _).2 (by decide)⟩, trivial⟩, ?_, ?_, rfl, rfl⟩
  · intro cs hcs
    simp only [List.mem_cons, List.mem_nil_iff, or_false] at hcs
    rcases hcs with rfl | rfl
    · show (0 : Nat) < _; decide
    · trivial
  · simp [List.replicate, Valid, EvOK]

/-- the Try values a step hands to the library are well formed: `ApTry(t)` / the Try an `ApTryFunc` supplier returns is not
    `Try{}` / `Failure(nil)` (Go: `FromTry` evaluates `v.Failed().Get()`, future_op.go:99, and panics on it — in the
    CALLER for `ApTry`, in the supplier's task for `ApTryFunc`), and the futures user callbacks return are `WFE` -/
def StepWFT : Step → Prop
  | .a (.apTry t) => WFTry t
  | .a (.apFutureFunc s) => ∀ c, WFE (s c)
  | .a (.apTryFunc s) => ∀ c, WFTry (s c).1
  | .flatMap k => ∀ c v, WFE (k c v)
  | .hlistFlatMap k => ∀ c v, WFE (k c v)
  | _ => True

theorem wfe_fromTry (t : Try Val) (h : WFTry t) : WFE (fromTry t) := by
  cases t with
  | success v => exact .successful v
  | failure e => exact .failed e ((wfTry_failure e).1 h)

theorem wfe_fromOption (o : Option Val) : WFE (fromOption o) := by
  cases o with
  | some v => exact .successful v
  | none => exact .failed _ (by decide)

theorem wfe_chainOperand (h : Nat) (c : Ex) {s : Step} (hs : StepWFT s) : WFE (chainOperand h c s) := by
  cases s with
  | a s =>
    cases s with
    | apFuture a => exact .ref a
    | ap v => exact .successful v
    | apTry t => exact wfe_fromTry t hs
    | apOption o => exact wfe_fromOption o
    | apFutureFunc s => exact .flatMap _ _ (.ref h) (fun _ => hs c)
    | apTryFunc s => exact .flatMap _ _ (.ref h) (fun _ => .logged _ _ (wfe_fromTry _ (hs c)))
    | apOptionFunc s => exact .flatMap _ _ (.ref h) (fun _ => .logged _ _ (wfe_fromOption _))
    | apFunc s => exact wfe_map _ _ (.ref h)
  | flatMap k => exact .flatMap _ _ (.ref h) (fun _ => hs c _)
  | map k => exact .flatMap _ _ (.ref h) (fun _ => .logged _ _ (.successful _))
  | hlistFlatMap k => exact .flatMap _ _ (.ref h) (fun v => hs c v)
  | hlistMap k => exact .flatMap _ _ (.ref h) (fun _ => .logged _ _ (.successful _))

/-- **(b')** freedom from ill-formed Try values survives every builder call whose steps are well formed … -/
theorem wf_pres : Pres WFNet (fun _ e => WFE e) (fun _ s => StepWFT s) where
  build hp hq := ⟨wf_build _ hq _ hp, .ref _, fun _ h => h, fun _ h => h⟩
  successful v := .successful v
  logged evs _ h := .logged evs _ h
  flatMap h hk := .flatMap _ _ h hk
  flatMap_inv h := by
    cases h with
    | flatMap _ _ _ hk => exact hk
  operand c hs _ := wfe_chainOperand _ c hs

/-- … hence, for every schedule before and after the chain is built: no promise (the chain's own future included) is ever
    completed with `failure .nil`, no pooled task carries it — the side condition under which
    `chain_sound_every_schedule` describes the Go code (cf. `C06.illformed_source_excluded`). -/
theorem chain_wellformed_every_schedule (nsrc : Nat) (evs : List Ev) (hv : Valid nsrc (Net.empty nsrc) evs)
    (fn : NFn) (steps : List (Ex × Step)) (hwf : ∀ cs ∈ steps, StepWFT cs.2)
    (evs' : List Ev) (hv' : Valid nsrc (runChain fn steps (runEvs (Net.empty nsrc) evs)).2 evs') :
    WFNet (runEvs (runChain fn steps (runEvs (Net.empty nsrc) evs)).2 evs') :=
  wf_runEvs evs' _ (wf_pres.runChain fn steps (wellformed_every_schedule nsrc evs hv) hwf) (valid_evWF evs' _ hv')

def AStepWFT (s : AStep) : Prop := StepWFT (.a s)

/-- the same for `ApplicativeN(fn).m1(…)…mN(…)` -/
theorem applicative_wellformed_every_schedule (nsrc : Nat) (evs : List Ev) (hv : Valid nsrc (Net.empty nsrc) evs)
    (fn : NFn) (steps : List (Ex × AStep)) (hwf : ∀ cs ∈ steps, AStepWFT cs.2)
    (evs' : List Ev) (hv' : Valid nsrc (runApplicative fn steps (runEvs (Net.empty nsrc) evs)).2 evs') :
    WFNet (runEvs (runApplicative fn steps (runEvs (Net.empty nsrc) evs)).2 evs') :=
  wf_runEvs evs' _ (wf_pres.runApplicative fn steps (wellformed_every_schedule nsrc evs hv) hwf) (valid_evWF evs' _ hv')

/-- the excluded step: `ApTry(Try{})` makes the model build `Failed(nil)`, i.e. complete a promise with `failure .nil`;
    Go's `FromTry` panics in the caller instead -/
example : ¬ StepWFT (.a (.apTry (.failure .nil))) ∧ chainOperand 0 .d (.a (.apTry (.failure .nil))) = .failed .nil :=
  ⟨fun h => h rfl, rfl⟩

end FpVerif.Spec.C06Chain
