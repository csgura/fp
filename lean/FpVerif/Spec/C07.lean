import FpVerif.Model.Record
import FpVerif.Lemmas.Record
import FpVerif.Lemmas.RecordMap
import FpVerif.Lemmas.RecordBuilder
/-!
# C07 — what gombok's `@fp.Value` output means, for every struct declaration and every value.

Property theorems, and the few lemmas only they use.  `s` ranges over ALL struct specs (any number of fields, any mix of
private / public / `_` / embedded fields, any annotations), `x b` over all values (lists of field
values of the right length, `Rec.WF`).  Whether the generated file *compiles* is not a statement
about the model; it is decided by running gombok and the Go compiler on generated declarations
(harness `gombokrun`).  The theorems say what the compiled methods do.
-/
namespace FpVerif.Spec.C07
open FpVerif FpVerif.Rec

/-! ## getters and With -/

/-- `x.WithF(v).F() = v` -/
theorem get_with (x : Rec) (i : Nat) (v : RV) (h : i < x.length) : getF i (withF i v x) = v :=
  getF_set_same x i v h

/-- `WithF` replaces field F and nothing else -/
theorem get_with_other (x : Rec) (i j : Nat) (v : RV) (h : i ≠ j) : getF j (withF i v x) = getF j x :=
  getF_set_other x i j v h

theorem with_WF (s : StructSpec) (x : Rec) (i : Nat) (v : RV) (h : Rec.WF s x) : Rec.WF s (withF i v x) := by
  simpa [Rec.WF, withF] using h

/-- `WithSomeF(v)` = `WithF(Some(v))`: it sets exactly field F, to `Some(v)` -/
theorem withSome_spec (x : Rec) (i j : Nat) (v : RV) (h : i < x.length) :
    getF i (withSome i v x) = .some v ∧ (i ≠ j → getF j (withSome i v x) = getF j x) :=
  ⟨getF_set_same x i _ h, getF_set_other x i j _⟩

/-- `WithNoneF()` sets exactly field F, to `None` -/
theorem withNone_spec (x : Rec) (i j : Nat) (h : i < x.length) :
    getF i (withNone i x) = .none ∧ (i ≠ j → getF j (withNone i x) = getF j x) :=
  ⟨getF_set_same x i _ h, getF_set_other x i j _⟩

/-- setting a field to the value it has changes nothing; the last `With` wins -/
theorem with_get (x : Rec) (i : Nat) (h : i < x.length) : withF i (getF i x) x = x := by
  apply List.ext_getElem?
  intro j
  by_cases hj : i = j
  · subst hj; simp [withF, getF_eq, h]
  · simp [withF, List.getElem?_set_ne hj]

theorem with_with (x : Rec) (i : Nat) (v w : RV) : withF i w (withF i v x) = withF i w x := by
  simp [withF]

/-! ## Builder -/

/-- `x.Builder().Build() = x` (both are conversions).  This statement alone says nothing about the setters: their
    semantics (a builder as a partial record, `b.F(v).Build() = b.Build().WithF(v)`, last call wins, commutation, the
    round trip through the setters) is `builder_roundtrip_pb`, `builder_setter_is_with`, `builder_chain_field`,
    `builder_roundtrip_setters` … below; `builder_roundtrip_agrees` relates the two. -/
theorem builder_roundtrip (x : Rec) : build (toBuilder x) = x := rfl

/-! ## AsTuple / FromTuple, Unapply / Apply: mutually inverse, declaration order -/

/-- `Builder.Apply(x.Unapply())`: every applicable field now holds x's value, every other field is untouched. -/
theorem apply_unapply (s : StructSpec) (x b : Rec) (hx : Rec.WF s x) (hb : Rec.WF s b) :
    apply s b (unapply s x) = pick s.fields x b :=
  inject_project s.fields x b hx hb

/-- field-wise reading of the previous theorem -/
theorem apply_unapply_field (s : StructSpec) (x b : Rec) (hx : Rec.WF s x) (hb : Rec.WF s b)
    (i : Nat) (f : Field) (hf : s.fields[i]? = some f) :
    getF i (apply s b (unapply s x)) = if f.applicable then getF i x else getF i b := by
  rw [apply_unapply s x b hx hb]
  exact getF_pick s.fields x b i f hx hb hf

/-- from x's own builder the round trip is the identity -/
theorem apply_unapply_self (s : StructSpec) (x : Rec) (hx : Rec.WF s x) : apply s x (unapply s x) = x := by
  rw [apply_unapply s x x hx hx]
  exact pick_self s.fields x hx

/-- the other direction: `Unapply(Apply(t)) = t` for an argument list of the right arity -/
theorem unapply_apply (s : StructSpec) (b t : Rec) (hb : Rec.WF s b) (ht : t.length = s.nApp) :
    unapply s (apply s b t) = t :=
  project_inject s.fields b t hb ht

/-- `Unapply` lists the applicable fields in declaration order (a subsequence of the declaration) -/
theorem unapply_order (s : StructSpec) (x : Rec) (hx : Rec.WF s x) :
    unapply s x = ((s.fields.zip x).filter (fun p => p.1.applicable)).map (·.2) :=
  project_eq_filter s.fields x hx

/-- below the tuple limit (`allFields.Size() < max.Product`) `AsTuple` is `Unapply`: nothing is cut off -/
theorem asTuple_eq_unapply (s : StructSpec) (x : Rec) (hx : Rec.WF s x) (ht : s.hasTuple = true) :
    asTuple s x = unapply s x :=
  take_arity s ht _ (project_length s.fields x hx)

theorem fromTuple_asTuple (s : StructSpec) (x b : Rec) (hx : Rec.WF s x) (hb : Rec.WF s b)
    (ht : s.hasTuple = true) : fromTuple s b (asTuple s x) = pick s.fields x b := by
  rw [asTuple_eq_unapply s x hx ht, fromTuple,
    take_arity s ht (unapply s x) (project_length s.fields x hx)]
  exact inject_project s.fields x b hx hb

theorem asTuple_fromTuple (s : StructSpec) (b t : Rec) (hb : Rec.WF s b) (ht : s.hasTuple = true)
    (hlen : t.length = s.nApp) : asTuple s (fromTuple s b t) = t := by
  rw [fromTuple, take_arity s ht t hlen,
    asTuple_eq_unapply s _ ((inject_length s.fields b t).trans hb) ht]
  exact project_inject s.fields b t hb hlen

/-- The tuple limit: with `max.Product` (= 22) or more applicable fields gombok emits neither `AsTuple` nor
    `FromTuple` (nor the Labelled pair); `Unapply`/`Apply` are emitted for every arity. -/
theorem tuple_limit (s : StructSpec) : s.hasTuple = true ↔ s.nApp ≤ 21 := by
  constructor
  · intro h
    have : s.nApp < 22 := of_decide_eq_true h
    omega
  · intro h
    exact decide_eq_true (show s.nApp < 22 by omega)

/-! ## AsMutable / AsImmutable -/

/-- `x.AsMutable().AsImmutable()` is `x` on every applicable field and the zero value elsewhere -/
theorem asImmutable_asMutable (s : StructSpec) (x : Rec) : asImmutable s (asMutable s x) = mask s.fields x :=
  mask_idem s.fields x

theorem asImmutable_asMutable_field (s : StructSpec) (x : Rec) (i : Nat) (f : Field)
    (hf : s.fields[i]? = some f) (happ : f.applicable = true) :
    getF i (asImmutable s (asMutable s x)) = getF i x := by
  rw [asImmutable_asMutable]; exact getF_mask_applicable s.fields x i f hf happ

/-- when every field is applicable (no `_` field, no embedded field-less struct) the two are inverse outright -/
theorem asImmutable_asMutable_id (s : StructSpec) (x : Rec) (hx : Rec.WF s x)
    (happ : ∀ f ∈ s.fields, f.applicable = true) : asImmutable s (asMutable s x) = x := by
  rw [asImmutable_asMutable]; exact mask_eq_self s.fields x hx happ

/-- and `AsMutable(AsImmutable(m)) = m` for every Mutable value that came from `AsMutable` (this is `mask_idem`;
    for an ARBITRARY Mutable value see `asMutable_asImmutable_any` / `_field` / `_id` / `_loses_blank` below) -/
theorem asMutable_asImmutable (s : StructSpec) (x : Rec) :
    asMutable s (asImmutable s (asMutable s x)) = asMutable s x := by
  simp [asMutable, asImmutable, mask_idem]

/-- `AsMutable` is `Apply` onto the zero value: the same assignment list -/
theorem asMutable_eq_pick (s : StructSpec) (x : Rec) (hx : Rec.WF s x) :
    asMutable s x = pick s.fields x s.zero :=
  mask_eq_pick_zero s.fields x

/-! ## AsLabelled / FromLabelled -/

theorem asLabelled_eq_labels (s : StructSpec) (x : Rec) (hx : Rec.WF s x) (ht : s.hasTuple = true) :
    asLabelled s x = labels s.fields x :=
  take_arity s ht _ (labels_length s.fields x hx)

theorem fromLabelled_asLabelled (s : StructSpec) (x b : Rec) (hx : Rec.WF s x) (hb : Rec.WF s b)
    (ht : s.hasTuple = true) : fromLabelled s b (asLabelled s x) = pick s.fields x b := by
  rw [asLabelled_eq_labels s x hx ht, fromLabelled, take_arity s ht _ (labels_length s.fields x hx),
    labels_values]
  exact inject_project s.fields x b hx hb

/-- the labels are the names (and struct tags) of the applicable fields, in declaration order -/
theorem asLabelled_names (s : StructSpec) (x : Rec) (hx : Rec.WF s x) (ht : s.hasTuple = true) :
    (asLabelled s x).map Lab.name = s.applicableFields.map Field.name ∧
    (asLabelled s x).map Lab.tag = s.applicableFields.map Field.tag ∧
    (asLabelled s x).map Lab.value = unapply s x := by
  rw [asLabelled_eq_labels s x hx ht]
  exact ⟨labels_names s.fields x hx, labels_tags s.fields x hx, labels_values s.fields x⟩

/-! ## AsMap / FromMap -/

/-- Struct field names are distinct (Go rejects anything else). -/
def DistinctNames (s : StructSpec) : Prop := (appNames s.fields).Nodup

/-- Each applicable field is rebuilt from the one map entry `AsMap` wrote for it; the others are the
    builder's. -/
theorem fromMap_asMap (s : StructSpec) (x b : Rec) (hx : Rec.WF s x) (hb : Rec.WF s b)
    (hn : DistinctNames s) (i : Nat) (f : Field) (hf : s.fields[i]? = some f) :
    getF i (fromMap s.fields b (asMap s x)) =
      if f.applicable then fromEntry f (getF i b) ((mapEntry f (getF i x)).getD none)
      else getF i b := by
  rw [getF_fromMap s.fields b _ i f hb hf]
  cases happ : f.applicable
  · rfl
  · rw [asMap, asMapAux_get_own s.fields x [] i f hx hn hf happ]
    rfl

/-- A well-typed field that is "recoverable by type assertion" is restored exactly. -/
theorem fromEntry_recoverable (f : Field) (v w : RV) (happ : f.applicable = true)
    (hwt : WT f.ty v) (hrec : recoverable f.ty v = true) :
    fromEntry f w ((mapEntry f v).getD none) = v := by
  unfold mapEntry fromEntry
  simp only [happ, if_true]
  cases hty : f.ty with
  | conc n =>
    simp [assertTy_toAny_conc]
  | iface n all impls =>
    rw [hty] at hwt hrec
    cases v with
    | iface d u => simp [assertTy_toAny _ _ hwt (Option.some_ne_none _)]
    | _ => simp [recoverable] at hrec
  | opt e =>
    rw [hty] at hwt hrec
    cases v with
    | some u =>
      simp only [Option.getD_some]
      -- the first assertion (to Option[e]) fails, the second (to e) gives u back
      cases hta : toAny e u with
      | none => simp [recoverable, hta] at hrec
      | some p =>
        obtain ⟨d, u'⟩ := p
        have hd : (d != (Ty.opt e).name) = true := by simpa [recoverable, hta] using hrec
        have h1 : assertTy (.opt e) (some (d, u')) = none := by
          have : (d == (Ty.opt e).name) = false := by simpa using hd
          simp [assertTy, this]
        have h2 : assertTy e (some (d, u')) = some u := by
          rw [← hta]
          exact assertTy_toAny e u hwt (hta ▸ Option.some_ne_none _)
        simp [h1, h2]
    | _ => simp [recoverable] at hrec

/-- What is NOT recoverable keeps the builder's value: `None` (no entry is written), a nil interface
    value and `Some(nil interface)` (the entry is nil, every assertion fails). -/
theorem fromEntry_not_stored (f : Field) (v w : RV) (happ : f.applicable = true)
    (h : (∃ e, f.ty = .opt e ∧ (v = .none ∨ (v = .some .nilIface ∧ ∃ n a i, e = .iface n a i)))
        ∨ ((∃ n a i, f.ty = .iface n a i) ∧ v = .nilIface)) :
    fromEntry f w ((mapEntry f v).getD none) = w := by
  unfold mapEntry fromEntry
  simp only [happ, if_true]
  rcases h with ⟨e, hty, hv⟩ | ⟨⟨n, a, i, hty⟩, hv⟩
  · rcases hv with hv | ⟨hv, n, a, i, he⟩
    · subst hv; simp [hty, assertTy]
    · subst hv; subst he; simp [hty, assertTy, toAny]
  · subst hv; simp [hty, assertTy, toAny]

/-- `b.FromMap(x.AsMap()).Build()`, field by field: a recoverable applicable field is x's,
    a field that is not applicable is untouched. -/
theorem fromMap_asMap_field (s : StructSpec) (x b : Rec) (hx : Rec.WF s x) (hb : Rec.WF s b)
    (hn : DistinctNames s) (i : Nat) (f : Field) (hf : s.fields[i]? = some f) :
    (f.applicable = true → WT f.ty (getF i x) → recoverable f.ty (getF i x) = true →
        getF i (fromMap s.fields b (asMap s x)) = getF i x)
    ∧ (f.applicable = false → getF i (fromMap s.fields b (asMap s x)) = getF i b) := by
  rw [fromMap_asMap s x b hx hb hn i f hf]
  constructor
  · intro happ hwt hrec
    simp only [happ, if_true]
    exact fromEntry_recoverable f (getF i x) (getF i b) happ hwt hrec
  · intro happ; simp [happ]

/-- The one value that is *mis*-recovered: an `Option[any]` whose content is itself an `Option[any]` —
    `FromMap`'s first assertion (`m["f"].(fp.Option[any])`) fires and the outer `Some` is lost. -/
theorem fromMap_flattens_option_any :
    let f : Field := { name := "o", ty := .opt (.iface "any" true []) }
    let v : RV := .some (.iface "fp.Option[any]" (.some (.atom "1")))
    fromEntry f .none ((mapEntry f v).getD none) = .some (.atom "1") ∧ recoverable f.ty v = false := by
  decide +kernel

/-! ## which methods exist -/

/-- Without user-written methods and without two attempts of the same name, every method gombok
    attempts for the struct receiver is emitted, in order. -/
theorem methodsT_complete (s : StructSpec) (hu : s.userT = [])
    (hnd : ((candsT s).map Cand.name).Nodup) : methodsT s = (candsT s).map Cand.entry := by
  unfold methodsT
  rw [hu, foldl_step_all (candsT s) {} hnd (by intro c _; rfl)]
  rfl

/-- Nothing else is ever emitted: every generated method is one of the attempts. -/
theorem methodsT_sound (s : StructSpec) : ∀ e ∈ methodsT s, e ∈ (candsT s).map Cand.entry := by
  intro e he
  cases foldl_step_subset s.userT (candsT s) {} e he with
  | inl h => simp at h
  | inr h => exact h

/-- under @fp.Value the attempts start with the private getters and `With`s -/
theorem candsT_of_valueRuns (s : StructSpec) (hv : s.valueRuns = true) :
    ∃ rest, candsT s = privGetterCands s ++ (privWithCands s ++ rest) := by
  unfold candsT valueCands
  rw [if_pos hv]
  simp only [List.append_assoc]
  exact ⟨_, rfl⟩

/-- Under @fp.Value (with at least one applicable field) every private field gets a getter and a `With`,
    and every private Option field gets `WithSome`/`WithNone` — provided no two derived names collide. -/
theorem private_field_methods (s : StructSpec) (hv : s.valueRuns = true) (hu : s.userT = [])
    (hnd : ((candsT s).map Cand.name).Nodup) (i : Nat) (f : Field) (hf : s.fields[i]? = some f)
    (hp : f.isPrivate = true) :
    (publicName f.name, Meth.getter i) ∈ methodsT s ∧
    ("With" ++ publicName f.name, Meth.withF i) ∈ methodsT s ∧
    (f.ty.isOpt = true →
      ("WithSome" ++ publicName f.name, Meth.withSome i) ∈ methodsT s ∧
      ("WithNone" ++ publicName f.name, Meth.withNone i) ∈ methodsT s) := by
  rw [methodsT_complete s hu hnd]
  obtain ⟨rest, hc⟩ := candsT_of_valueRuns s hv
  have hmem := (mem_indexed_iff s.fields i f).mpr hf
  have hg : ∀ c : Cand, c ∈ [(⟨true, publicName f.name, .getter i⟩ : Cand)] →
      c.entry ∈ (candsT s).map Cand.entry := by
    intro c hm
    apply List.mem_map_of_mem
    rw [hc]
    refine List.mem_append_left _ (List.mem_flatMap.2 ⟨(i, f), hmem, ?_⟩)
    rw [hp, if_pos rfl]
    exact hm
  have hw : ∀ c : Cand, c ∈ ([⟨true, "With" ++ publicName f.name, .withF i⟩] ++
        (if f.ty.isOpt then [⟨true, "WithSome" ++ publicName f.name, .withSome i⟩,
          ⟨true, "WithNone" ++ publicName f.name, .withNone i⟩] else []) : List Cand) →
      c.entry ∈ (candsT s).map Cand.entry := by
    intro c hm
    apply List.mem_map_of_mem
    rw [hc]
    refine List.mem_append_right _ (List.mem_append_left _ (List.mem_flatMap.2 ⟨(i, f), hmem, ?_⟩))
    rw [hp, if_pos rfl]
    exact hm
  refine ⟨hg _ List.mem_cons_self, hw _ List.mem_cons_self, fun ho => ?_⟩
  rw [ho, if_pos rfl] at hw
  exact ⟨hw _ (List.mem_cons_of_mem _ List.mem_cons_self),
    hw _ (List.mem_cons_of_mem _ (List.mem_cons_of_mem _ List.mem_cons_self))⟩

def userSpec : StructSpec :=
  { name := "User", ann := { value := true },
    fields := [{ name := "email", ty := .opt (.conc "string") }, { name := "someEmail", ty := .conc "string" }] }

def smallSpec : StructSpec :=
  { name := "T", ann := { value := true },
    fields := [{ name := "a", ty := .conc "int" }, { name := "Pub", ty := .conc "int" }, { name := "_u", ty := .conc "int" }] }

def okSpec : StructSpec :=
  { name := "T", ann := { value := true, json := true, genLabelled := true },
    fields := [{ name := "a", ty := .conc "int" }, { name := "o", ty := .opt (.conc "string") }, { name := "_u", ty := .conc "int" }] }

/-- The collision the hypothesis excludes: `email fp.Option[string]` next to `someEmail string`.
    `WithSomeEmail` is emitted once, for `email`; the field `someEmail` gets no `With` at all — and the
    builder gets two methods called `SomeEmail`, so the file does not compile. -/
theorem someEmail_collision :
    ("WithSomeEmail", Meth.withSome 0) ∈ methodsT userSpec ∧ ("WithSomeEmail", Meth.withF 1) ∉ methodsT userSpec
    ∧ (clashes userSpec).contains "dup method B.SomeEmail" = true := by
  decide +kernel

/-- Fields gombok does not touch: `_`-prefixed and public ones get no getter / `With` / builder setter under @fp.Value. -/
theorem no_methods_for_public_fields :
    (methodsT smallSpec).names = ["A", "WithA", "String", "AsTuple", "Unapply", "AsMap", "Builder", "AsMutable"]
    ∧ (methodsB smallSpec).names = ["Build", "A", "FromTuple", "Apply", "FromMap"]
    ∧ unapply smallSpec [.atom "1", .atom "2", .atom "3"] = [.atom "1", .atom "2"] := by
  decide +kernel

/-! ## hypotheses are satisfiable -/

example : ∃ s : StructSpec, DistinctNames s ∧ s.userT = [] ∧ ((candsT s).map Cand.name).Nodup ∧ s.valueRuns = true :=
  ⟨okSpec, by unfold DistinctNames; decide +kernel⟩

example : WT (.opt (.iface "any" true [])) (.some (.iface "int" (.atom "1"))) ∧
    recoverable (.opt (.iface "any" true [])) (.some (.iface "int" (.atom "1"))) = true := by
  constructor
  · simp [WT]
  · decide +kernel

/-! # Audit finding 21: builder semantics, the builder method table, the other directions of the round trips

Definitions used below (`PBuilder`, `pbSet`, `pbBuild`, `runSetter`, `candsB`, …) are in
`Lemmas/RecordBuilder.lean`, `entryOK` in `Lemmas/RecordMap.lean`, beside `Model/Record.lean`. -/

/-! ## Builder: a partial record, setters, `Build`

`type TBuilder T`; `Builder()` / `Build()` are conversions; the setter of a private field is
`r.f = v; return r`.  A builder is a partial record (`none` = never assigned = holds the zero value). -/

/-- `x.Builder().Build() = x`, against the partial-record builder -/
theorem builder_roundtrip_pb (s : StructSpec) (x : Rec) (hx : Rec.WF s x) : pbBuild s.fields (pbOf x) = x :=
  pbBuild_of s.fields x hx

/-- `builder_roundtrip` is the same fact seen through the conversion: the model's `build ∘ toBuilder` agrees
    with `Build` of the everywhere-defined partial record -/
theorem builder_roundtrip_agrees (s : StructSpec) (x : Rec) (hx : Rec.WF s x) :
    build (toBuilder x) = pbBuild s.fields (pbOf x) := by
  rw [builder_roundtrip_pb s x hx]; rfl

/-- `TBuilder{}.Build()` is the zero value of the struct -/
theorem builder_empty_build (s : StructSpec) : pbBuild s.fields (pbEmpty s) = s.zero := by
  unfold pbEmpty StructSpec.zero
  induction s.fields with
  | nil => rfl
  | cons f fs ih => exact congrArg (f.zero :: ·) ih

/-- every builder setter is the corresponding `With` on the value that is built: `b.F(v).Build() = b.Build().WithF(v)` -/
theorem builder_setter_is_with (s : StructSpec) (i : Nat) (v : RV) (b : PBuilder) :
    pbBuild s.fields (pbSet i v b) = withF i v (pbBuild s.fields b) :=
  pbBuild_set s.fields i v b

/-- the three setter LABELS of the method table have this meaning: `bSet i` is `WithF`, `bSome i` is `WithSomeF`,
    `bNone i` is `WithNoneF` on the built value -/
theorem builder_setter_labels (s : StructSpec) (i : Nat) (v : RV) (b : PBuilder) :
    pbBuild s.fields (pbRun (.bSet i) v b) = withF i v (pbBuild s.fields b)
    ∧ pbBuild s.fields (pbRun (.bSome i) v b) = withSome i v (pbBuild s.fields b)
    ∧ pbBuild s.fields (pbRun (.bNone i) v b) = withNone i (pbBuild s.fields b) :=
  ⟨pbBuild_run s.fields _ v b, pbBuild_run s.fields _ v b, pbBuild_run s.fields _ v b⟩

/-- a setter sets its field and nothing else -/
theorem builder_set_get (s : StructSpec) (i j : Nat) (v : RV) (b : PBuilder) (hb : b.length = s.fields.length)
    (hi : i < s.fields.length) :
    getF i (pbBuild s.fields (pbSet i v b)) = v
    ∧ (i ≠ j → getF j (pbBuild s.fields (pbSet i v b)) = getF j (pbBuild s.fields b)) := by
  rw [builder_setter_is_with]
  exact ⟨get_with _ i v (by rw [pbBuild_length s.fields b hb]; exact hi), get_with_other _ i j v⟩

/-- the last call of a setter wins -/
theorem builder_last_set_wins (i : Nat) (v w : RV) (b : PBuilder) : pbSet i w (pbSet i v b) = pbSet i w b := by
  simp [pbSet]

/-- setters of different fields commute -/
theorem builder_setters_commute (i j : Nat) (v w : RV) (b : PBuilder) (h : i ≠ j) :
    pbSet i v (pbSet j w b) = pbSet j w (pbSet i v b) := by
  unfold pbSet
  exact List.set_comm _ _ (Ne.symm h)

/-- a chain of setter calls, then `Build`: each field holds the argument of the LAST call of its setter, and
    what the builder held before (its zero value, if never assigned) when its setter was not called -/
theorem builder_chain_field (s : StructSpec) (ps : List (Nat × RV)) (b : PBuilder) (j : Nat)
    (hb : b.length = s.fields.length) (hj : j < s.fields.length) :
    getF j (pbBuild s.fields (pbSetAll ps b)) = (lastSet ps j).getD (getF j (pbBuild s.fields b)) :=
  getF_pbBuild_setAll s.fields ps b j (by omega) hb

/-- calls of pairwise different setters may be made in any order -/
theorem builder_chain_any_order (ps ps' : List (Nat × RV)) (h : ps.Perm ps') (hn : (ps.map (·.1)).Nodup)
    (b : PBuilder) : pbSetAll ps b = pbSetAll ps' b := by
  induction h generalizing b with
  | nil => rfl
  | cons p _ ih =>
    have hn' := (List.nodup_cons.mp (by simpa only [List.map_cons] using hn)).2
    simp only [pbSetAll_cons]
    exact ih hn' _
  | swap p q l =>
    have hne : q.1 ≠ p.1 := by
      intro h
      simp [h] at hn
    simp only [pbSetAll_cons]
    rw [builder_setters_commute _ _ _ _ _ hne]
  | trans h1 _ ih1 ih2 =>
    rw [ih1 hn, ih2 ((h1.map (·.1)).nodup_iff.mp hn)]

/-- Setting the fields `is` (any order, repetitions allowed) to x's values: exactly those fields are x's. -/
theorem builder_set_from (s : StructSpec) (x : Rec) (b : PBuilder) (is : List Nat)
    (hb : b.length = s.fields.length) (j : Nat) (hj : j < s.fields.length) :
    getF j (pbBuild s.fields (pbSetAll (is.map fun i => (i, getF i x)) b))
      = if j ∈ is then getF j x else getF j (pbBuild s.fields b) := by
  rw [builder_chain_field s _ b j hb hj,
    lastSet_of_fun (fun i => getF i x) _ (by intro p hp; simp at hp; obtain ⟨a, _, rfl⟩ := hp; rfl)]
  have : (is.map fun i => (i, getF i x)).map (·.1) = is := by simp [List.map_map, Function.comp_def]
  rw [this]
  split <;> simp

/-- **builder round trip, against the setters**: from ANY builder, calling the setter of every field with x's
    value — in any order, any number of times — and then `Build` gives `x`. -/
theorem builder_roundtrip_setters (s : StructSpec) (x : Rec) (b : PBuilder) (is : List Nat) (hx : Rec.WF s x)
    (hb : b.length = s.fields.length) (hall : ∀ j, j < s.fields.length → j ∈ is) :
    pbBuild s.fields (pbSetAll (is.map fun i => (i, getF i x)) b) = x := by
  have hl : (pbBuild s.fields (pbSetAll (is.map fun i => (i, getF i x)) b)).length = s.fields.length :=
    pbBuild_length _ _ (by rw [pbSetAll_length]; exact hb)
  apply ext_getF _ _ (by rw [hl]; exact hx.symm)
  intro j hj
  rw [hl] at hj
  rw [builder_set_from s x b is hb j hj, if_pos (hall j hj)]

/-- What the GENERATED setters can reach (there is one per *private* field only): from the empty builder, the
    setters of all private fields in declaration order give x on the private fields, the zero value elsewhere. -/
theorem builder_roundtrip_private (s : StructSpec) (x : Rec) (j : Nat) (f : Field)
    (hf : s.fields[j]? = some f) :
    getF j (pbBuild s.fields (pbSetAll ((privIdx s).map fun i => (i, getF i x)) (pbEmpty s)))
      = if f.isPrivate then getF j x else f.zero := by
  have hj : j < s.fields.length := (List.getElem?_eq_some_iff.1 hf).1
  rw [builder_set_from s x (pbEmpty s) (privIdx s) (by simp [pbEmpty]) j hj, builder_empty_build]
  have hz : getF j s.zero = f.zero := by
    simp [getF_eq, StructSpec.zero, hf]
  cases hp : f.isPrivate
  · have : ¬ j ∈ privIdx s := by
      rw [mem_privIdx]; rintro ⟨g, hg, hgp⟩
      rw [hf] at hg; cases hg; simp [hp] at hgp
    simp [this, hz]
  · have : j ∈ privIdx s := (mem_privIdx s j).mpr ⟨f, hf, hp⟩
    simp [this]

/-- … hence when every field is private the generated setters rebuild `x` from nothing -/
theorem builder_roundtrip_all_private (s : StructSpec) (x : Rec) (hx : Rec.WF s x)
    (hp : ∀ f ∈ s.fields, f.isPrivate = true) :
    pbBuild s.fields (pbSetAll ((privIdx s).map fun i => (i, getF i x)) (pbEmpty s)) = x := by
  apply builder_roundtrip_setters s x _ _ hx (by simp [pbEmpty])
  intro j hj
  exact (mem_privIdx s j).mpr ⟨s.fields[j], by simp [hj], hp _ (List.getElem_mem hj)⟩

/-! ## the builder / mutable method tables -/

/-- `genBuilder`, builder receiver, for EVERY spec: the attempts `candsB` in order (Build, per private field F
    [SomeF NoneF], [FromTuple], Apply, FromMap, [FromLabelled]) minus the names the user defined on the builder type -/
theorem methodsB_closed_form (s : StructSpec) :
    genBuilderB s = (candsB s).filter (keepB s.userB)
    ∧ (s.valueRuns = true → s.ann.builder = false → methodsB s = (candsB s).filter (keepB s.userB)) := by
  refine ⟨genBuilderB_eq s, ?_⟩
  intro hv hb
  simp [methodsB, hv, hb, genBuilderB_eq]

/-- The plain setters, for every spec: one per private field whose `publicName` the user has not taken, in
    declaration order, named `publicName f.name`, labelled `bSet <index of f>`. -/
theorem builder_setters_declaration_order (s : StructSpec) :
    (genBuilderB s).filter isBSet = ((indexed s.fields).filterMap bSetEntry).filter (keepB s.userB) := by
  rw [genBuilderB_eq, List.filter_filter, ← filter_isBSet_candsB, List.filter_filter]
  congr 1; funext e; exact Bool.and_comm _ _

/-- without user-written builder methods: the setter names are the `publicName`s of the private fields in
    declaration order, their labels are `bSet i` for the increasing list of the private fields' indices, no index
    occurs twice, and an index occurs iff its field is private -/
theorem builder_setters_names (s : StructSpec) (hu : s.userB = []) :
    ((genBuilderB s).filter isBSet).map (·.1) = (s.fields.filter Field.isPrivate).map (fun f => publicName f.name)
    ∧ ((genBuilderB s).filter isBSet).map (·.2) = (privIdx s).map Meth.bSet
    ∧ (privIdx s).Nodup
    ∧ ∀ i, i ∈ privIdx s ↔ ∃ f, s.fields[i]? = some f ∧ f.isPrivate = true := by
  have h : (genBuilderB s).filter isBSet = (indexed s.fields).filterMap bSetEntry := by
    rw [builder_setters_declaration_order, hu]
    apply List.filter_eq_self.mpr
    intro e _; simp [keepB]
  refine ⟨?_, ?_, privIdx_nodup s, mem_privIdx s⟩
  · rw [h, bSetEntries_names, indexed_map_snd]
  · rw [h, bSetEntries_labels]; rfl

/-- every private field has its setter EXACTLY ONCE (unless the user wrote a builder method of that name) -/
theorem builder_setter_exactly_once (s : StructSpec) (i : Nat) (f : Field) (hf : s.fields[i]? = some f)
    (hp : f.isPrivate = true) (hu : s.userB.contains (publicName f.name) = false) :
    (genBuilderB s).count (publicName f.name, Meth.bSet i) = 1 := by
  have h1 : isBSet (publicName f.name, Meth.bSet i) = true := rfl
  have h2 : keepB s.userB (publicName f.name, Meth.bSet i) = true := by
    show (!s.userB.contains (publicName f.name)) = true
    rw [hu]; rfl
  rw [← List.count_filter h1, builder_setters_declaration_order, List.count_filter h2,
    (bSetEntries_nodup s).count]
  have : (publicName f.name, Meth.bSet i) ∈ (indexed s.fields).filterMap bSetEntry := by
    rw [List.mem_filterMap]
    exact ⟨(i, f), (mem_indexed_iff _ _ _).mpr hf, by simp [bSetEntry, hp]⟩
  simp [this]

/-- public, `_` and every other non-private field: no setter at all -/
theorem builder_no_setter_for_public (s : StructSpec) (i : Nat) (f : Field) (hf : s.fields[i]? = some f)
    (hp : f.isPrivate = false) (n : String) : (n, Meth.bSet i) ∉ genBuilderB s := by
  intro hm
  have : (n, Meth.bSet i) ∈ (genBuilderB s).filter isBSet := List.mem_filter.mpr ⟨hm, rfl⟩
  rw [builder_setters_declaration_order] at this
  have := (List.mem_filter.mp this).1
  rw [List.mem_filterMap] at this
  obtain ⟨⟨k, g⟩, hkg, he⟩ := this
  have hg := (mem_indexed_iff _ _ _).mp hkg
  cases hgp : g.isPrivate
  · simp [bSetEntry, hgp] at he
  · simp [bSetEntry, hgp] at he
    obtain ⟨_, rfl⟩ := he
    rw [hf] at hg; cases hg; simp [hp] at hgp

/-- the Mutable twin has exactly one method (its fields are exported, there are no getters to generate) -/
theorem methodsM_closed_form (s : StructSpec) :
    methodsM s = if s.valueRuns && !s.userM.contains "AsImmutable" then [("AsImmutable", Meth.asImmutable)] else [] := by
  unfold methodsM emitB
  cases s.valueRuns <;> cases s.userM.contains "AsImmutable" <;> simp

/-- struct receiver: under the hypotheses of `methodsT_complete` no method name is generated twice — together with
    `private_field_methods`: every private field has its getter / `With` exactly once -/
theorem methodsT_names_nodup (s : StructSpec) (hu : s.userT = [])
    (hnd : ((candsT s).map Cand.name).Nodup) : (methodsT s).names.Nodup := by
  rw [methodsT_complete s hu hnd]
  simpa [Table.names, List.map_map, Function.comp_def, Cand.entry] using hnd

/-! ## AsMutable / AsImmutable: the direction that starts from an ARBITRARY Mutable value

`asMutable_asImmutable` above only covers Mutable values that came out of `AsMutable` (it is `mask_idem`). -/

/-- `m.AsImmutable().AsMutable()` is `m` on the applicable fields and the zero value elsewhere, for every `m` -/
theorem asMutable_asImmutable_any (s : StructSpec) (m : Rec) : asMutable s (asImmutable s m) = mask s.fields m :=
  mask_idem s.fields m

theorem asMutable_asImmutable_field (s : StructSpec) (m : Rec) (i : Nat) (f : Field)
    (hf : s.fields[i]? = some f) (happ : f.applicable = true) :
    getF i (asMutable s (asImmutable s m)) = getF i m := by
  rw [asMutable_asImmutable_any]; exact getF_mask_applicable s.fields m i f hf happ

/-- inverse outright when every field is applicable -/
theorem asMutable_asImmutable_id (s : StructSpec) (m : Rec) (hm : Rec.WF s m)
    (happ : ∀ f ∈ s.fields, f.applicable = true) : asMutable s (asImmutable s m) = m := by
  rw [asMutable_asImmutable_any]; exact mask_eq_self s.fields m hm happ

/-- and not otherwise: a Mutable value whose `_` field is not zero does not survive -/
theorem asMutable_asImmutable_loses_blank :
    asMutable smallSpec (asImmutable smallSpec [.atom "1", .atom "2", .atom "3"]) = [.atom "1", .atom "2", .atom "0"] := by
  decide +kernel

/-! ## AsLabelled / FromLabelled: the other direction -/

/-- The labels of `t` are those of the struct.  In Go this is not a runtime condition: the parameter type of
    `FromLabelled` is `fp.LabelledN[NamedF1[T1], …]`, whose `Name()` / `Tag()` are constants of the field. -/
def WellLabelled (s : StructSpec) (t : List Lab) : Prop :=
  t.map Lab.name = s.applicableFields.map Field.name ∧ t.map Lab.tag = s.applicableFields.map Field.tag

theorem wf_fromLabelled (s : StructSpec) (b : Rec) (t : List Lab) (hb : Rec.WF s b) : Rec.WF s (fromLabelled s b t) := by
  simpa [Rec.WF, fromLabelled, inject_length] using hb

/-- what `AsLabelled` returns is well labelled (so the hypothesis of `asLabelled_fromLabelled` is satisfiable, and
    is satisfied by everything `FromLabelled` is ever applied to in a round trip) -/
theorem asLabelled_wellLabelled (s : StructSpec) (x : Rec) (hx : Rec.WF s x) (ht : s.hasTuple = true) :
    WellLabelled s (asLabelled s x) :=
  ⟨(asLabelled_names s x hx ht).1, (asLabelled_names s x hx ht).2.1⟩

/-- `FromLabelled` is positional, so for ANY labelled tuple of the right length the VALUES come back -/
theorem asLabelled_fromLabelled_values (s : StructSpec) (b : Rec) (t : List Lab) (hb : Rec.WF s b)
    (ht : s.hasTuple = true) (hlen : t.length = s.nApp) :
    (asLabelled s (fromLabelled s b t)).map Lab.value = t.map Lab.value := by
  rw [(asLabelled_names s _ (wf_fromLabelled s b t hb) ht).2.2, fromLabelled, take_arity s ht t hlen]
  exact unapply_apply s b _ hb ((List.length_map _).trans hlen)

/-- **`AsLabelled(FromLabelled(t)) = t`** for every well-labelled `t`, from any builder -/
theorem asLabelled_fromLabelled (s : StructSpec) (b : Rec) (t : List Lab) (hb : Rec.WF s b)
    (ht : s.hasTuple = true) (hw : WellLabelled s t) : asLabelled s (fromLabelled s b t) = t := by
  have hlen : t.length = s.nApp := by
    have := congrArg List.length hw.1
    simpa [StructSpec.nApp] using this
  have hn := asLabelled_names s _ (wf_fromLabelled s b t hb) ht
  exact lab_ext _ _ (hn.1.trans hw.1.symm) (asLabelled_fromLabelled_values s b t hb ht hlen) (hn.2.1.trans hw.2.symm)

/-- without the condition the direction is false: the names of the argument are not consulted, a tuple carrying
    other names is accepted and comes back relabelled -/
theorem asLabelled_fromLabelled_relabels :
    let t : List Lab := [⟨"zzz", .atom "1", ""⟩, ⟨"a", .none, "x"⟩]
    asLabelled okSpec (fromLabelled okSpec okSpec.zero t) = [⟨"a", .atom "1", ""⟩, ⟨"o", .none, ""⟩]
    ∧ asLabelled okSpec (fromLabelled okSpec okSpec.zero t) ≠ t := by
  decide +kernel

/-! ## AsMap / FromMap: the other direction, and the first direction for whole records -/

theorem wf_fromMap (s : StructSpec) (b : Rec) (m : GoMap) (hb : Rec.WF s b) : Rec.WF s (fromMap s.fields b m) := by
  simpa [Rec.WF, fromMap_length] using hb

/-- `AsMap(FromMap(m))`, key by key, with no condition on `m`: under the name of an applicable field the map
    holds what `AsMap` writes for the value `FromMap` put into that field (nil when it writes nothing) -/
theorem asMap_fromMap_key_general (s : StructSpec) (b : Rec) (m : GoMap) (hb : Rec.WF s b) (hn : DistinctNames s)
    (i : Nat) (f : Field) (hf : s.fields[i]? = some f) (happ : f.applicable = true) :
    (asMap s (fromMap s.fields b m)).get f.name
      = (mapEntry f (fromEntry f (getF i b) (m.get f.name))).getD none := by
  unfold asMap
  rw [asMapAux_get_own s.fields _ [] i f (wf_fromMap s b m hb) hn hf happ,
    getF_fromMap s.fields b m i f hb hf, happ]
  rfl

/-- **`AsMap(FromMap(m))[k] = m[k]`** for the key of every applicable field whose entry is canonical (`entryOK`:
    the assertion to the field type succeeds; for an Option field, the assertion to its element type) -/
theorem asMap_fromMap_key (s : StructSpec) (b : Rec) (m : GoMap) (hb : Rec.WF s b) (hn : DistinctNames s)
    (i : Nat) (f : Field) (hf : s.fields[i]? = some f) (happ : f.applicable = true)
    (hok : entryOK f (m.get f.name) = true) :
    (asMap s (fromMap s.fields b m)).get f.name = m.get f.name := by
  rw [asMap_fromMap_key_general s b m hb hn i f hf happ, mapEntry_fromEntry f _ _ happ hok]
  rfl

/-- … and restricted to those keys: every key that is not the name of an applicable field is dropped -/
theorem asMap_foreign_key (s : StructSpec) (y : Rec) (k : String)
    (hk : ∀ f ∈ s.fields, f.applicable = true → f.name ≠ k) : (asMap s y).get k = none := by
  unfold asMap
  rw [asMapAux_get_other s.fields y [] k hk]
  rfl

/-- Without `entryOK` the direction is false even for an entry `FromMap` accepts: an `fp.Option[string]` stored under
    the key of an Option field is taken by the first assertion, and `AsMap` writes it back UNWRAPPED (a `string`). -/
theorem asMap_fromMap_unwraps_option :
    let m : GoMap := [("o", some ("fp.Option[string]", .some (.atom "x")))]
    let f : Field := { name := "o", ty := .opt (.conc "string") }
    getF 1 (fromMap okSpec.fields okSpec.zero m) = .some (.atom "x")
    ∧ (asMap okSpec (fromMap okSpec.fields okSpec.zero m)).get "o" = some ("string", .atom "x")
    ∧ (asMap okSpec (fromMap okSpec.fields okSpec.zero m)).get "o" ≠ m.get "o"
    ∧ entryOK f (m.get "o") = false := by
  decide +kernel

/-- … and an entry of the wrong dynamic type is ignored by `FromMap`; `AsMap` then writes the builder's value -/
theorem asMap_fromMap_wrong_type :
    let m : GoMap := [("a", some ("string", .atom "x"))]
    (asMap okSpec (fromMap okSpec.fields okSpec.zero m)).get "a" = some ("int", .atom "0")
    ∧ entryOK { name := "a", ty := .conc "int" } (m.get "a") = false := by
  decide +kernel

/-- **`FromMap(AsMap(x))` for whole records**: when every applicable field of `x` is well typed and recoverable by
    type assertion, every applicable field is x's and every other field is the builder's -/
theorem fromMap_asMap_pick (s : StructSpec) (x b : Rec) (hx : Rec.WF s x) (hb : Rec.WF s b) (hn : DistinctNames s)
    (hrec : ∀ i f, s.fields[i]? = some f → f.applicable = true →
      WT f.ty (getF i x) ∧ recoverable f.ty (getF i x) = true) :
    fromMap s.fields b (asMap s x) = pick s.fields x b := by
  apply ext_getF _ _ (by rw [fromMap_length, pick_length s.fields x b hx hb]; exact hb)
  intro j hj
  rw [fromMap_length] at hj
  have hj' : j < s.fields.length := by rw [← hb]; exact hj
  have hf : s.fields[j]? = some s.fields[j] := by simp [hj']
  have h := fromMap_asMap_field s x b hx hb hn j _ hf
  rw [getF_pick s.fields x b j _ hx hb hf]
  cases happ : (s.fields[j]).applicable
  · simpa using h.2 happ
  · have hr := hrec j _ hf happ
    simpa using h.1 happ hr.1 hr.2

/-- from x's own builder: `x.Builder().FromMap(x.AsMap()).Build() = x` -/
theorem fromMap_asMap_self (s : StructSpec) (x : Rec) (hx : Rec.WF s x) (hn : DistinctNames s)
    (hrec : ∀ i f, s.fields[i]? = some f → f.applicable = true →
      WT f.ty (getF i x) ∧ recoverable f.ty (getF i x) = true) :
    fromMap s.fields x (asMap s x) = x := by
  rw [fromMap_asMap_pick s x x hx hx hn hrec, pick_self s.fields x hx]

/-! ## the hypotheses of this part are satisfiable -/

example : ∃ (s : StructSpec) (t : List Lab), s.hasTuple = true ∧ WellLabelled s t ∧ t ≠ [] :=
  ⟨okSpec, [⟨"a", .atom "1", ""⟩, ⟨"o", .none, ""⟩], by unfold WellLabelled; decide +kernel⟩

example : ∃ (f : Field) (m : GoMap), f.applicable = true ∧ entryOK f (m.get f.name) = true :=
  ⟨{ name := "o", ty := .opt (.conc "string") }, [("o", some ("string", .atom "x"))], by decide +kernel⟩

example : ∃ (s : StructSpec) (x : Rec), Rec.WF s x ∧ DistinctNames s ∧
    ∀ i f, s.fields[i]? = some f → f.applicable = true → WT f.ty (getF i x) ∧ recoverable f.ty (getF i x) = true := by
  refine ⟨okSpec, [.atom "1", .some (.atom "x"), .atom "3"], rfl, by unfold DistinctNames; decide +kernel, ?_⟩
  intro i f hf happ
  match i, hf with
  | 0, hf => cases hf; exact ⟨trivial, rfl⟩
  | 1, hf => cases hf; exact ⟨by simp [getF, WT], by decide +kernel⟩
  | 2, hf => cases hf; simp [Field.applicable] at happ

example : ∃ (s : StructSpec) (i : Nat) (f : Field), s.fields[i]? = some f ∧ f.isPrivate = true ∧
    s.userB.contains (publicName f.name) = false :=
  ⟨okSpec, 0, _, rfl, by decide +kernel, by decide +kernel⟩

end FpVerif.Spec.C07
