import FpVerif.Model.Misc
import FpVerif.Lemmas.TCLaws
/-!
# C14 (remainder) — the non-indexed conversions and adapters compute their defining equation

`Model/Misc.lean` has one definition per Go function; this file states, for ALL arguments and all
effectful callbacks (`GoM`: may log, may panic), what each of them computes — including the order
and number of callback invocations (equality of `GoM` computations is equality of result, panic
and event log) — and the panic / `none` branches.  The monoid adapters (`ToMonoid`, `Curried`,
`SemigroupFunc.Empty`) are also part of C11: `toMonoid_lawful_iff` says exactly when the adapter
yields a lawful monoid.
-/
namespace FpVerif.Spec.C14Misc
open FpVerif FpVerif.Misc

variable {T R K V A B L D Ty : Type}

-- ------------------------------------------------------------------------------------------------
-- PartialFunc

theorem asPartialFunc_def (d : T → GoM Bool) (a : T → GoM R) :
    (asPartialFunc d a).isDefinedAt = d ∧ (asPartialFunc d a).apply = a := ⟨rfl, rfl⟩

/-- `Unapply` returns the two fields, in the order (IsDefinedAt, Apply) -/
theorem partialFunc_unapply_def (d : T → GoM Bool) (a : T → GoM R) :
    (asPartialFunc d a).unapply = (d, a) := rfl

/-- `OrElse(...).IsDefinedAt(t) = r.IsDefinedAt(t) || other.IsDefinedAt(t)` with Go's evaluation order:
    `other.IsDefinedAt` runs only when `r.IsDefinedAt(t)` returned false -/
theorem orElse_isDefinedAt_def (r o : PartialFunc T R) (t : T) :
    (r.orElse o).isDefinedAt t = (do if (← r.isDefinedAt t) then pure true else o.isDefinedAt t) := rfl

/-- `OrElse(...).Apply(t)`: `r.IsDefinedAt(t)` is evaluated (again), then exactly one of the two `Apply`s -/
theorem orElse_apply_def (r o : PartialFunc T R) (t : T) :
    (r.orElse o).apply t = (do if (← r.isDefinedAt t) then r.apply t else o.apply t) := rfl

/-- where `r` is defined (effect-free test), `OrElse` applies `r` and never looks at `other` -/
theorem orElse_apply_defined (r o : PartialFunc T R) (t : T) (h : r.isDefinedAt t = pure true) :
    (r.orElse o).apply t = r.apply t ∧ (r.orElse o).isDefinedAt t = pure true := by
  simp [PartialFunc.orElse, h]

/-- where `r` is NOT defined, `OrElse` applies `other` — whether or not `other` is defined there
    (`fp.PartialFunc.Apply` never checks; an undefined `other.Apply` runs, and may panic) -/
theorem orElse_apply_undefined (r o : PartialFunc T R) (t : T) (h : r.isDefinedAt t = pure false) :
    (r.orElse o).apply t = o.apply t ∧ (r.orElse o).isDefinedAt t = o.isDefinedAt t := by
  simp [PartialFunc.orElse, h]

/-- the panic branch: `r` undefined at `t` and `other.Apply` panics there ⇒ the combined `Apply` panics
    with the same value after the same events -/
theorem orElse_apply_panics (r o : PartialFunc T R) (t : T) (p : PanicVal)
    (h : r.isDefinedAt t = pure false) (ho : o.apply t = goPanic p) :
    (r.orElse o).apply t = goPanic p := by
  rw [(orElse_apply_undefined r o t h).1, ho]

example : ∃ (r o : PartialFunc Nat Nat), r.isDefinedAt 0 = pure false ∧ o.apply 0 = goPanic "undefined" :=
  ⟨⟨fun _ => pure false, fun x => pure x⟩, ⟨fun _ => pure false, fun _ => goPanic "undefined"⟩, rfl, rfl⟩

-- ------------------------------------------------------------------------------------------------
-- SeqNonNil, Ptr

theorem seqNonNil_foldl (s : List (Option T)) (acc : List T) :
    s.foldl seqNonNilStep acc = acc ++ s.filterMap id := by
  induction s generalizing acc with
  | nil => simp
  | cons v s ih =>
    cases v with
    | none => simpa [seqNonNilStep] using ih acc
    | some x => simp [seqNonNilStep, ih, List.append_assoc]

/-- `as.SeqNonNil` keeps exactly the pointees of the non-nil pointers, in order -/
theorem seqNonNil_def (s : List (Option T)) : seqNonNil s = s.filterMap id := by
  simpa [seqNonNil] using seqNonNil_foldl s []

theorem seqNonNil_length_le (s : List (Option T)) : (seqNonNil s).length ≤ s.length := by
  rw [seqNonNil_def]; exact List.length_filterMap_le _ _

/-- no nil among the inputs: the result is all the pointees -/
theorem seqNonNil_all_some (xs : List T) : seqNonNil (xs.map some) = xs := by
  simp [seqNonNil_def, List.filterMap_map]

/-- `*as.Ptr(v) == v` -/
theorem ptr_deref (v : T) (h : Heap T) : (ptr v h).2.deref (ptr v h).1 = some v := by
  simp [ptr, Heap.deref]

/-- the pointer is fresh: it was not a valid address before the call … -/
theorem ptr_fresh (v : T) (h : Heap T) : h.deref (ptr v h).1 = none := by
  simp [ptr, Heap.deref]

/-- … and every existing cell keeps its content (the argument is COPIED into a new cell) -/
theorem ptr_frame (v : T) (h : Heap T) (p : Nat) (hp : p < h.length) : (ptr v h).2.deref p = h.deref p := by
  simp [ptr, Heap.deref, List.getElem?_append_left hp]

/-- two calls give two different pointers; writing through one does not change the other's target -/
theorem ptr_twice_independent (v w : T) (h : Heap T) :
    let (p, h1) := ptr v h
    let (q, h2) := ptr v h1
    p ≠ q ∧ (h2.store q w).deref p = some v ∧ (h2.store q w).deref q = some w := by
  simp [ptr, Heap.deref, Heap.store]

-- ------------------------------------------------------------------------------------------------
-- Interface / Any / InstanceOf / IsInstanceOf

theorem asAny_def (v : D) : asAny v = v := rfl

/-- `as.InstanceOf[T](v)`: the value itself when its dynamic type is (or implements) `T` … -/
theorem asInstanceOf_ok (hasType : D → Ty → Bool) (v : D) (t : Ty) (h : hasType v t = true) :
    asInstanceOf hasType v t = pure v := by simp [asInstanceOf, typeAssert, h]

/-- … and a panic otherwise (no value is produced, nothing is logged) -/
theorem asInstanceOf_panic (hasType : D → Ty → Bool) (v : D) (t : Ty) (h : hasType v t = false) :
    asInstanceOf hasType v t = goPanic "typeassert" := by simp [asInstanceOf, typeAssert, h]

/-- `as.Interface[T, I](v)` is `as.InstanceOf[I](as.Any(v))` -/
theorem asInterface_def (hasType : D → Ty → Bool) (v : D) (i : Ty) :
    asInterface hasType v i = asInstanceOf hasType (asAny v) i := rfl

/-- `fp.IsInstanceOf[T](v)` is true exactly when `as.InstanceOf[T](v)` does not panic (and then returns `v`) -/
theorem isInstanceOf_iff (hasType : D → Ty → Bool) (v : D) (t : Ty) :
    isInstanceOf hasType v t = true ↔ asInstanceOf hasType v t = pure v := by
  cases h : hasType v t
  · simp only [isInstanceOf, asAny, h, asInstanceOf, typeAssert]
    constructor
    · nofun
    · intro h'
      -- a panic and a value differ in what they return
      have := congrArg (fun m => (GoM.exec m).1) h'
      cases this
  · simp [isInstanceOf, asAny, h, asInstanceOf, typeAssert]

theorem isInstanceOf_def (hasType : D → Ty → Bool) (v : D) (t : Ty) : isInstanceOf hasType v t = hasType v t := by
  cases h : hasType v t <;> simp [isInstanceOf, asAny, h]

/-- at the harness's types: a nil interface value is an instance of nothing, not even of `any` -/
theorem nil_hasType (t : GoTy) : Dyn.hasType .nil t = false := by cases t <;> rfl

/-- every non-nil value is an instance of `any` -/
theorem hasType_any (v : Dyn) : Dyn.hasType v .iAny = true ↔ v ≠ .nil := by cases v <;> simp [Dyn.hasType]

/-- a concrete target type accepts exactly the values of that type -/
theorem hasType_int (v : Dyn) : Dyn.hasType v .int = true ↔ ∃ n, v = .int n := by cases v <;> simp [Dyn.hasType]
theorem hasType_named (v : Dyn) : Dyn.hasType v .iNamed = true ↔ ∃ n, v = .nv n := by cases v <;> simp [Dyn.hasType]
theorem hasType_error (v : Dyn) : Dyn.hasType v .iError = true ↔ ∃ n, v = .cerr n := by cases v <;> simp [Dyn.hasType]

example : asInstanceOf Dyn.hasType (.int 5) .str = goPanic "typeassert" := rfl
example : asInterface Dyn.hasType (.nv 5) .iNamed = pure (.nv 5) := rfl

-- ------------------------------------------------------------------------------------------------
-- RuntimeNamed: constructor arguments reach their fields; With* changes exactly one field

theorem asNamed_def (n : String) (v : V) :
    (asNamed n v).name = n ∧ (asNamed n v).value = v ∧ (asNamed n v).tag = "" := ⟨rfl, rfl, rfl⟩

theorem asNamedWithTag_def (n : String) (v : V) (t : String) :
    (asNamedWithTag n v t).name = n ∧ (asNamedWithTag n v t).value = v ∧ (asNamedWithTag n v t).tag = t :=
  ⟨rfl, rfl, rfl⟩

theorem asNamed_eq_withTag_empty (n : String) (v : V) : asNamed n v = asNamedWithTag n v "" := rfl

theorem withValue_def (r : RuntimeNamed V) (v : V) :
    (r.withValue v).value = v ∧ (r.withValue v).name = r.name ∧ (r.withValue v).tag = r.tag := ⟨rfl, rfl, rfl⟩

theorem withTag_def (r : RuntimeNamed V) (t : String) :
    (r.withTag t).tag = t ∧ (r.withTag t).name = r.name ∧ (r.withTag t).value = r.value := ⟨rfl, rfl, rfl⟩

theorem withValue_value (r : RuntimeNamed V) : r.withValue r.value = r := rfl
theorem withTag_tag (r : RuntimeNamed V) : r.withTag r.tag = r := rfl

-- ------------------------------------------------------------------------------------------------
-- MapEntry, Left, Right, Generic, Supplier, Predicate

/-- `as.MapEntry(xtrKey)(v) = (xtrKey(v), v)`: key first, the value itself second, one call of `xtrKey` -/
theorem asMapEntry_def (xtrKey : V → GoM K) (v : V) :
    asMapEntry xtrKey v = (do let k ← xtrKey v; pure (k, v)) := rfl

theorem asMapEntry_pure (f : V → K) (v : V) : asMapEntry (fun x => pure (f x)) v = pure (f v, v) := rfl

theorem asLeft_def (l : L) : (asLeft l : Sum L R) = .inl l := rfl
theorem asRight_def (r : R) : (asRight r : Sum L R) = .inr r := rfl
theorem asLeft_ne_asRight (l : L) (r : R) : (asLeft l : Sum L R) ≠ asRight r := by simp [asLeft, asRight]

/-- `as.Generic`: every argument reaches the field of its name -/
theorem asGeneric_def {Repr : Type} (tpe kind : String) (to : T → GoM Repr) (frm : Repr → GoM T) :
    (asGeneric tpe kind to frm).type = tpe ∧ (asGeneric tpe kind to frm).kind = kind ∧
    (asGeneric tpe kind to frm).to = to ∧ (asGeneric tpe kind to frm).from = frm := ⟨rfl, rfl, rfl, rfl⟩

/-- the To/From round trip of the built value is the round trip of the given functions: the identity
    whenever `from` inverts `to` (and `To`/`From` were not swapped) -/
theorem asGeneric_roundtrip {Repr : Type} (tpe kind : String) (to : T → GoM Repr) (frm : Repr → GoM T) (x : T)
    (h : (to x >>= frm) = pure x) :
    ((asGeneric tpe kind to frm).to x >>= (asGeneric tpe kind to frm).from) = pure x := h

example : ((fun (x : Int) => (pure (x + 7) : GoM Int)) 3 >>= fun y => (pure (y - 7) : GoM Int)) = pure 3 := rfl

/-- `as.Supplier(v)()` returns `v`, every time, with no effect -/
theorem asSupplier_def (v : T) : asSupplier v () = pure v := rfl

theorem asPredicate_def (f : T → GoM Bool) : asPredicate f = f := rfl

-- ------------------------------------------------------------------------------------------------
-- Predicate combinators: pointwise boolean operations, Go's short-circuit order of invocation

theorem negate_def (r : Pred T) (t : T) : r.negate t = (do let b ← r t; pure (!b)) := rfl
theorem fpNot_def (f : Pred T) (v : T) : fpNot f v = (do let b ← f v; pure (!b)) := rfl
theorem fpNot_eq_negate (f : Pred T) : fpNot f = f.negate := rfl

/-- `r.And(and)(t) = r(t) && and(t)`: `and` runs only after `r(t)` returned true -/
theorem and_def (r a : Pred T) (t : T) : r.and a t = (do if (← r t) then a t else pure false) := rfl
/-- `r.Or(or)(t) = r(t) || or(t)`: `or` runs only after `r(t)` returned false -/
theorem or_def (r o : Pred T) (t : T) : r.or o t = (do if (← r t) then pure true else o t) := rfl

/-- on effect-free predicates the combinators are the pointwise boolean operations -/
theorem pred_pure (p q : T → Bool) (t : T) :
    Pred.negate (fun x => pure (p x)) t = pure (!p t) ∧
    Pred.and (fun x => pure (p x)) (fun x => pure (q x)) t = pure (p t && q t) ∧
    Pred.or (fun x => pure (p x)) (fun x => pure (q x)) t = pure (p t || q t) := by
  refine ⟨rfl, ?_, ?_⟩
  · cases h : p t <;> simp [Pred.and, h]
  · cases h : p t <;> simp [Pred.or, h]

/-- short circuit, stated on the log: a first predicate answering false (resp. true) decides `And`
    (resp. `Or`) and the second predicate is NOT invoked -/
theorem and_short_circuit (r a : Pred T) (t : T) (h : r t = (do emit "r"; pure false)) :
    r.and a t = (do emit "r"; pure false) := by
  simp [Pred.and, h]

theorem or_short_circuit (r o : Pred T) (t : T) (h : r t = (do emit "r"; pure true)) :
    r.or o t = (do emit "r"; pure true) := by
  simp [Pred.or, h]

theorem fpAnd_nil (v : T) : fpAnd ([] : List (T → GoM Bool)) v = pure true := rfl
theorem fpOr_nil (v : T) : fpOr ([] : List (T → GoM Bool)) v = pure false := rfl

/-- one iteration of the loop of `fp.And` -/
theorem fpAnd_cons (f : T → GoM Bool) (fs : List (T → GoM Bool)) (v : T) :
    fpAnd (f :: fs) v = (do if (← f v) then fpAnd fs v else pure false) := by
  simp only [fpAnd, andLoop]
  congr; funext b; cases b <;> simp

theorem fpOr_cons (f : T → GoM Bool) (fs : List (T → GoM Bool)) (v : T) :
    fpOr (f :: fs) v = (do if (← f v) then pure true else fpOr fs v) := by
  simp only [fpOr, orLoop]

/-- `fp.And` over a concatenation: the predicates run left to right; the second block runs only if the
    whole first block answered true (all arities of the variadic call at once) -/
theorem fpAnd_append (ps qs : List (T → GoM Bool)) (v : T) :
    fpAnd (ps ++ qs) v = (do if (← fpAnd ps v) then fpAnd qs v else pure false) := by
  induction ps with
  | nil => simp [fpAnd, andLoop]
  | cons f fs ih =>
    rw [List.cons_append, fpAnd_cons, fpAnd_cons, ih]
    simp only [bind_assoc]
    congr; funext b; cases b <;> simp

theorem fpOr_append (ps qs : List (T → GoM Bool)) (v : T) :
    fpOr (ps ++ qs) v = (do if (← fpOr ps v) then pure true else fpOr qs v) := by
  induction ps with
  | nil => simp [fpOr, orLoop]
  | cons f fs ih =>
    rw [List.cons_append, fpOr_cons, fpOr_cons, ih]
    simp only [bind_assoc]
    congr; funext b; cases b <;> simp

/-- on effect-free predicates `fp.And` / `fp.Or` are `all` / `any` -/
theorem fpAnd_pure (ps : List (T → Bool)) (v : T) :
    fpAnd (ps.map fun p => fun x => (pure (p x) : GoM Bool)) v = pure (ps.all (· v)) := by
  induction ps with
  | nil => rfl
  | cons p ps ih =>
    rw [List.map_cons, fpAnd_cons, ih]
    cases h : p v <;> simp [h]

theorem fpOr_pure (ps : List (T → Bool)) (v : T) :
    fpOr (ps.map fun p => fun x => (pure (p x) : GoM Bool)) v = pure (ps.any (· v)) := by
  induction ps with
  | nil => rfl
  | cons p ps ih =>
    rw [List.map_cons, fpOr_cons, ih]
    cases h : p v <;> simp [h]

/-- the last round of either loop: testing the answer of the last predicate returns that answer -/
theorem bind_ite_id (m : GoM Bool) : (do if (← m) then pure true else pure false) = m := by
  conv => rhs; rw [← bind_pure m]
  refine bind_congr fun b => ?_
  cases b <;> rfl

/-- the binary methods are the variadic functions at two predicates — same value, same invocations -/
theorem and_eq_fpAnd (p q : Pred T) (t : T) : p.and q t = fpAnd [p, q] t := by
  simp only [fpAnd_cons, fpAnd_nil, bind_ite_id, Pred.and]

theorem or_eq_fpOr (p q : Pred T) (t : T) : p.or q t = fpOr [p, q] t := by
  simp only [fpOr_cons, fpOr_nil, bind_ite_id, Pred.or]

/-- De Morgan as an equality of COMPUTATIONS: `Not(And(ps…))` and `Or(Not(p1), …)` invoke the same
    predicates in the same order and give the same answer -/
theorem not_and_eq_or_not (ps : List (T → GoM Bool)) (v : T) :
    fpNot (fpAnd ps) v = fpOr (ps.map fpNot) v := by
  induction ps with
  | nil => simp [fpNot, fpAnd, andLoop, fpOr, orLoop]
  | cons f fs ih =>
    rw [List.map_cons, fpOr_cons, ← ih]
    simp only [fpNot, fpAnd_cons, bind_assoc]
    congr; funext b; cases b <;> simp

-- ------------------------------------------------------------------------------------------------
-- ConvertNumber (integer types), Max, ConstS, With, Test, TestWith

private theorem two_pow_pos (n : Nat) : (0 : Int) < 2 ^ n := Int.pow_pos (by decide)

private theorem emod_sub_self (y m : Int) : (y % m - y) % m = 0 := by
  rw [Int.sub_emod, Int.emod_emod, Int.sub_self, Int.zero_emod]

private theorem two_pow_succ_pred (n : Nat) (h : 0 < n) : (2 : Int) ^ n = 2 * 2 ^ (n - 1) := by
  cases n with
  | zero => cases h
  | succ k => simp [Int.pow_succ, Int.mul_comm]

/-- `fp.ConvertNumber` is the identity embedding on every value the target type can represent -/
theorem convertNumber_id (to : IntTy) (hb : 0 < to.bits) (x : Int) (h : to.inRange x) : convertNumber to x = x := by
  unfold convertNumber IntTy.wrap
  unfold IntTy.inRange at h
  cases hs : to.signed
  · simp only [hs, Bool.false_eq_true, if_false] at h ⊢
    exact Int.emod_eq_of_lt h.1 h.2
  · simp only [hs, if_true] at h ⊢
    have h2 := two_pow_succ_pred to.bits hb
    have hp := two_pow_pos (to.bits - 1)
    rw [Int.emod_eq_of_lt (by omega) (by omega)]
    omega

/-- the result is always a value of the target type … -/
theorem convertNumber_inRange (to : IntTy) (hb : 0 < to.bits) (x : Int) : to.inRange (convertNumber to x) := by
  unfold convertNumber IntTy.wrap IntTy.inRange
  have hp := two_pow_pos to.bits
  cases hs : to.signed
  · simp only [Bool.false_eq_true, if_false]
    exact ⟨Int.emod_nonneg _ (by omega), Int.emod_lt_of_pos _ hp⟩
  · simp only [if_true]
    have h2 := two_pow_succ_pred to.bits hb
    have h1 := Int.emod_nonneg (x + 2 ^ (to.bits - 1)) (b := 2 ^ to.bits) (by omega)
    have h3 := Int.emod_lt_of_pos (x + 2 ^ (to.bits - 1)) hp
    omega

/-- … congruent to the argument modulo `2^bits` (Go: truncation / sign extension) -/
theorem convertNumber_congr (to : IntTy) (x : Int) : (convertNumber to x - x) % 2 ^ to.bits = 0 := by
  unfold convertNumber IntTy.wrap
  cases to.signed
  · exact emod_sub_self _ _
  · rw [if_pos rfl, Int.sub_sub, Int.add_comm _ x]
    exact emod_sub_self _ _

example : convertNumber ⟨8, false⟩ 300 = 44 := by decide
example : convertNumber ⟨8, true⟩ 200 = -56 := by decide
example : (⟨8, true⟩ : IntTy).inRange (-128) := by simp [IntTy.inRange]

/-- `fp.Max(a1, a2)`: `a1` if `a1 > a2`, else `a2` -/
theorem fpMax_def [LT T] [DecidableRel (α := T) (· < ·)] (a1 a2 : T) :
    fpMax a1 a2 = if a2 < a1 then a1 else a2 := rfl

theorem fpMax_int (a b : Int) : fpMax a b = max a b := by
  simp only [fpMax, GT.gt]; omega

theorem fpMax_ge (a b : Int) : a ≤ fpMax a b ∧ b ≤ fpMax a b ∧ (fpMax a b = a ∨ fpMax a b = b) := by
  rw [fpMax_int]; omega

/-- `fp.ConstS(f)(b) = f()`: the supplier runs at EVERY call, the argument is ignored -/
theorem constS_def (f : Unit → GoM A) (b : B) : constS f b = f () := rfl

/-- `fp.With(withf, v)(a) = withf(a, v)` -/
theorem fpWith_def (withf : A → B → GoM A) (v : B) (a : A) : fpWith withf v a = withf a v := rfl
/-- `fp.Test(testf, v)(a) = testf(a, v)` -/
theorem fpTest_def (testf : A → B → GoM Bool) (v : B) (a : A) : fpTest testf v a = testf a v := rfl
/-- `fp.TestWith(getter)(pf)(a) = pf(getter(a))` -/
theorem testWith_def (getter : A → GoM B) (pf : Pred B) (a : A) :
    testWith getter pf a = (do let b ← getter a; pf b) := rfl

-- ------------------------------------------------------------------------------------------------
-- product_op.go, hlist.Unapply

theorem fromHNil_def : fromHNil () = () := rfl

/-- `MapKey` maps the FIRST component and keeps the second … -/
theorem mapKey_def (k : K) (v : V) (f : K → GoM R) : mapKey (k, v) f = (do let r ← f k; pure (r, v)) := rfl
/-- … `MapValue` maps the SECOND and keeps the first -/
theorem mapValue_def (k : K) (v : V) (f : V → GoM R) : mapValue (k, v) f = (do let r ← f v; pure (k, r)) := rfl

/-- `LiftKey(mapf)(k, v) = (mapf(k, v), v)`: one call, arguments in the order (key, value) -/
theorem liftKey_def (f : K → V → GoM R) (k : K) (v : V) : liftKey f (k, v) = (do let r ← f k v; pure (r, v)) := rfl
/-- `LiftValue(mapf)(k, v) = (k, mapf(k, v))` -/
theorem liftValue_def (f : K → V → GoM R) (k : K) (v : V) : liftValue f (k, v) = (do let r ← f k v; pure (k, r)) := rfl

theorem lift_pure (g : K → V → R) (k : K) (v : V) :
    liftKey (fun a b => pure (g a b)) (k, v) = pure (g k v, v) ∧
    liftValue (fun a b => pure (g a b)) (k, v) = pure (k, g k v) := ⟨rfl, rfl⟩

/-- `Split(kext, vext)(t) = (kext(t), vext(t))`, `kext` first -/
theorem split_def (kext : T → GoM K) (vext : T → GoM V) (t : T) :
    split kext vext t = (do let k ← kext t; let v ← vext t; pure (k, v)) := rfl

/-- `MapKey`/`MapValue` are `LiftKey`/`LiftValue` of a function ignoring the other component -/
theorem mapKey_eq_liftKey (t : K × V) (f : K → GoM R) : mapKey t f = liftKey (fun k _ => f k) t := rfl
theorem mapValue_eq_liftValue (t : K × V) (f : V → GoM R) : mapValue t f = liftValue (fun _ v => f v) t := rfl

/-- `hlist.Unapply(Concat(h, t)) = (h, t)` and nothing else has an `Unapply` -/
theorem hUnapply_def (h : A) (t : List A) : hUnapply (h :: t) = some (h, t) := rfl
theorem hUnapply_roundtrip (l : List A) (h : A) (t : List A) : hUnapply l = some (h, t) ↔ l = h :: t := by
  cases l <;> simp [hUnapply]

-- ------------------------------------------------------------------------------------------------
-- unit.Func0, unit.Failure, lazy.Func1/2/3

/-- `unit.Func0(f)(unit)` runs `f` exactly once and returns `Unit{}` -/
theorem unitFunc0_def (f : Unit → GoM Unit) : unitFunc0 f () = f () := by
  simp [unitFunc0]

theorem unitFailure_def (e : Err) : unitFailure e = .failure e := rfl
theorem unitFailure_not_success (e : Err) : (unitFailure e).isSuccess = false := rfl

/-- `lazy.FuncN(f)(a1…aN).Get() = f(a1…aN)` (value and events) … -/
theorem lazyFunc_run [Inhabited R] (f : List A → EvalM.W R) (args : List A) :
    EvalM.run (lazyFunc f args) = f args := rfl

/-- … `f` runs at the FIRST `Get`, once: `k+1` calls of `Get` return the same value `k+1` times and the
    events of one call of `f`; building the value runs nothing (it is a thunk). -/
theorem lazyFunc_gets (f : List A → EvalM.W R) (args : List A) (k : Nat) :
    lazyFuncGets f args (k + 1) = (List.replicate (k + 1) (f args).1, some (f args).1, (f args).2) := by
  have aux : ∀ (n : Nat) (v : R), Memo.getN (lazyThunk f args) n (some v) = (List.replicate n v, some v, []) := by
    intro n v
    induction n with
    | zero => rfl
    | succ n ih => simp [Memo.getN, Memo.get, ih, List.replicate_succ]
  simp [lazyFuncGets, Memo.getN, Memo.get, lazyThunk, aux, List.replicate_succ]

theorem lazyFunc_gets_zero (f : List A → EvalM.W R) (args : List A) : lazyFuncGets f args 0 = ([], none, []) := rfl

-- ------------------------------------------------------------------------------------------------
-- monoid adapters (C11)

/-- `EmptyFunc.Empty()` calls the function, at every call -/
theorem emptyFuncEmpty_def (r : Unit → GoM T) : emptyFuncEmpty r = r () := rfl

/-- `SemigroupFunc.Empty()` is the zero value of `T`, whatever the function -/
theorem semigroupFunc_empty_def [Inhabited T] (r : SemigroupFunc T) : r.empty = default := rfl

/-- `Curried()(a1)(a2) = Combine(a1, a2) = r(a1, a2)`: operand order kept -/
theorem semigroupFunc_curried_def (r : SemigroupFunc T) (a1 a2 : T) :
    r.curried a1 a2 = r.fn a1 a2 ∧ r.combine a1 a2 = r.fn a1 a2 := ⟨rfl, rfl⟩

/-- `ToMonoid(emptyFunc)`: `Empty()` calls the GIVEN empty function (not the old one, not the zero value),
    `Combine` is unchanged -/
theorem toMonoid_def (r : Mon T) (e : Unit → GoM T) (a b : T) :
    (r.toMonoid e).empty = e () ∧ (r.toMonoid e).comb a b = r.comb a b ∧ (r.toMonoid e).curried a b = r.comb a b :=
  ⟨rfl, rfl, rfl⟩

theorem monoidNew_def (z : Unit → GoM T) (c : T → T → GoM T) (a b : T) :
    (monoidNew z c).empty = z () ∧ (monoidNew z c).comb a b = c a b ∧ (monoidNew z c).curried a b = c a b :=
  ⟨rfl, rfl, rfl⟩

/-- on effect-free components the adapter is `toMonoidD` (the dictionary the laws speak about) -/
theorem toMonoid_pure {α : Type} (z e : α) (c : α → α → α) (a b : α) :
    ((monoidNew (fun _ => pure z) (fun x y => pure (c x y))).toMonoid (fun _ => pure e)).empty = pure (toMonoidD ⟨c⟩ e).empty ∧
    ((monoidNew (fun _ => pure z) (fun x y => pure (c x y))).toMonoid (fun _ => pure e)).comb a b
      = pure ((toMonoidD ⟨c⟩ e).combine a b) := ⟨rfl, rfl⟩

/-- `ToMonoid(sg, empty)` is a lawful monoid IF AND ONLY IF `sg` is associative and `empty` is a two-sided
    identity for it -/
theorem toMonoid_lawful_iff {α : Type} (s : TC.SemigroupD α) (e : α) :
    TC.LawfulMonoid (toMonoidD s e) ↔
      TC.LawfulSemigroup s ∧ (∀ a, s.combine e a = a) ∧ (∀ a, s.combine a e = a) :=
  ⟨fun h => ⟨⟨h.assoc⟩, h.left_id, h.right_id⟩, fun h => ⟨h.1.assoc, h.2.1, h.2.2⟩⟩

/-- for a lawful semigroup: lawful iff `empty` is an identity -/
theorem toMonoid_lawful_iff_identity {α : Type} (s : TC.SemigroupD α) (hs : TC.LawfulSemigroup s) (e : α) :
    TC.LawfulMonoid (toMonoidD s e) ↔ ((∀ a, s.combine e a = a) ∧ (∀ a, s.combine a e = a)) := by
  rw [toMonoid_lawful_iff]; exact ⟨fun h => h.2, fun h => ⟨hs, h⟩⟩

/-- there is at most one such `empty` -/
theorem toMonoid_identity_unique {α : Type} (s : TC.SemigroupD α) (e e' : α)
    (h : TC.LawfulMonoid (toMonoidD s e)) (h' : TC.LawfulMonoid (toMonoidD s e')) : e = e' := by
  have h1 := h.left_id e'
  have h2 := h'.right_id e
  simp only [toMonoidD] at h1 h2
  rw [← h2, h1]

/-- `SemigroupFunc` used as a `Monoid` (`fp.Sum`): lawful iff associative with the ZERO VALUE as identity -/
theorem semigroupFunc_as_monoid_lawful_iff {α : Type} [Inhabited α] (s : TC.SemigroupD α) :
    TC.LawfulMonoid (toMonoidD s default) ↔
      TC.LawfulSemigroup s ∧ (∀ a, s.combine default a = a) ∧ (∀ a, s.combine a default = a) :=
  toMonoid_lawful_iff s default

-- satisfiable / not vacuous: product with 1 is lawful, product with 0 is not
example : TC.LawfulMonoid (toMonoidD (⟨fun (a b : Int) => a * b⟩ : TC.SemigroupD Int) 1) :=
  (toMonoid_lawful_iff _ _).2 ⟨⟨fun a b c => Int.mul_assoc a b c⟩, fun a => Int.one_mul a, fun a => Int.mul_one a⟩

example : ¬ TC.LawfulMonoid (toMonoidD (⟨fun (a b : Int) => a * b⟩ : TC.SemigroupD Int) 0) := by
  intro h
  have := h.left_id 1
  simp [toMonoidD] at this

end FpVerif.Spec.C14Misc
