import FpVerif.Gen.HamtFacts
import FpVerif.Model.Hamt
import FpVerif.Lemmas.FactsLookup
import FpVerif.Lemmas.FactsCode
/-!
# C03 / C04 — regenerated facts (Tie C): `immutable/map.go` has the constants, node kinds, thresholds, shift arithmetic and
# decision structure that `Model/Hamt.lean` was written from

`FpVerif/Gen/HamtFacts.lean` is regenerated from the WORKING TREE's `immutable/map.go` on every run by `harness/cmd/hamtfacts`
(go/ast + go/types).  `Spec/C03.lean` / `Spec/C04Hamt.lean` prove the properties about `Model/Hamt.lean`; the correspondence
harness compares behaviour.  The theorems below tie the model's TEXT to the code's text, so that a change of a constant, of a
promotion / demotion threshold (value or operator), of the hash-fragment arithmetic, of the iterator's stack size, a new node
kind or a new method is a failing obligation even when no generated input reaches it:

* (a) `consts_are_the_models`        the constants of map.go EQUAL `Hamt.maxArrayMapSize`, `maxBitmapIndexedSize`, `mapNodeBits`,
                                   `mapNodeSize`, `mapNodeMask`; there is no other constant;
* (b) `thresholds_expected`       every comparison against a constant (promotions, demotions, emptiness) has the operator and
                                   bound of the model's branch; `model_*` theorems state that branch of the MODEL with the same
                                   operator and bound (boundary behaviour on both sides of the bound);
* (c) `node_kinds`, `methods_expected`, `structs_expected`   five node kinds (one per constructor of `Hamt.Node`, `kindName` is
                                   exhaustive), their fields, the methods per kind; `function_names` every function of the file;
* (d) `frags_expected`, `shift_args_expected`, `popcounts_expected`   `(hash >> shift) & mapNodeMask` = `Hamt.frag`,
                                   descent by `shift + mapNodeBits`, the roots start at shift 0, popcount of `bitmap & (bit-1)`;
* (e) `iter_stack_suffices`       the iterator's stack has at least (maximal trie depth + 1) slots (seed C03-14 shrank it);
* (f) `skeleton_*`                per function the normalised statement tree equals the skeleton written here next to the model
                                   definition it mirrors (receiver = `recv`, single-definition pure locals inlined, other locals
                                   `$<type>`, closure-shared ones `^name`, type arguments dropped).
-/
namespace FpVerif.Spec.C03Facts
open FpVerif.Gen.Hamt
open FpVerif.Hamt

/-! ### (a) constants -/

/-- the constants of map.go are exactly the five constants of the model, with the model's values -/
theorem consts_are_the_models :
    consts = [("maxArrayMapSize", Hamt.maxArrayMapSize), ("maxBitmapIndexedSize", Hamt.maxBitmapIndexedSize),
              ("mapNodeBits", Hamt.mapNodeBits), ("mapNodeSize", Hamt.mapNodeSize), ("mapNodeMask", Hamt.mapNodeMask)] := rfl

/-- `mapNodeSize = 1 << mapNodeBits`, `mapNodeMask = mapNodeSize - 1` — on the extracted values and on the model's -/
theorem const_relations :
    consts.lookup "mapNodeSize" = (consts.lookup "mapNodeBits").map (1 <<< ·) ∧
    consts.lookup "mapNodeMask" = (consts.lookup "mapNodeSize").map (· - 1) ∧
    Hamt.mapNodeSize = 1 <<< Hamt.mapNodeBits ∧ Hamt.mapNodeMask = Hamt.mapNodeSize - 1 := by decide +kernel

/-- the fixed array of a hash-array node has `mapNodeSize` = 32 slots (`List.replicate mapNodeSize none` in `bitmapToHashArray`);
    the bitmap is a `uint32`: one bit per slot -/
theorem slots_are_mapNodeSize :
    (structs.lookup "mapHashArrayNode").bind (·.lookup "nodes") = some "[mapNodeSize=32]mapNode" ∧
    (structs.lookup "mapBitmapIndexedNode").bind (·.lookup "bitmap") = some "uint32" ∧
    Hamt.mapNodeSize = 32 := by decide +kernel

/-! ### (b) thresholds -/

/-- every comparison against a compile-time constant that mentions a named constant or compares a `len`:
    (function, lhs, operator, constant as written, value), constant on the right.
    * `mapArrayNode.set`            `entries.length ≥ maxArrayMapSize`  (`Node.setCore`, array case)  → `expandArray`
    * `mapArrayNode.delete`         `entries.length == 1`               (`Node.delete`, array case)   → nil
    * `mapBitmapIndexedNode.set`    `nodes.length > maxBitmapIndexedSize` (`Node.setCore`, bitmap case) → hash-array node
    * `mapBitmapIndexedNode.delete` `nodes.length == 1`                 (`Node.delete`, bitmap case)  → nil
    * `mapHashArrayNode.delete`     `count ≤ maxBitmapIndexedSize`      (`Node.delete`, hashArray case) → `hashArrayToBitmap`
    * `mapHashCollisionNode.delete` `entries.length == 2`               (`Node.delete`, collision case) → value node
    * `MapBase`                     `t.length > 0`                      (`Hamt.ofList`) -/
def expectedThresholds : List (String × String × String × String × Nat) :=
  [("MapBase", "len(t)", ">", "0", 0),
   ("mapArrayNode.set", "len(recv.entries)", ">=", "maxArrayMapSize", Hamt.maxArrayMapSize),
   ("mapArrayNode.delete", "len(recv.entries)", "==", "1", 1),
   ("mapBitmapIndexedNode.set", "len(recv.nodes)", ">", "maxBitmapIndexedSize", Hamt.maxBitmapIndexedSize),
   ("mapBitmapIndexedNode.delete", "len(recv.nodes)", "==", "1", 1),
   ("mapHashArrayNode.delete", "recv.count", "<=", "maxBitmapIndexedSize", Hamt.maxBitmapIndexedSize),
   ("mapHashCollisionNode.delete", "len(recv.entries)", "==", "2", 2)]

theorem thresholds_expected : thresholds = expectedThresholds := rfl

/-! ### (c) node kinds, fields, methods -/

/-- the Go type of each constructor of `Hamt.Node` (exhaustive: a sixth constructor does not compile) -/
def kindName {K V : Type} : Node K V → String
  | .array _ => "mapArrayNode"
  | .bitmap _ _ => "mapBitmapIndexedNode"
  | .hashArray _ _ => "mapHashArrayNode"
  | .value _ _ _ => "mapValueNode"
  | .collision _ _ => "mapHashCollisionNode"

/-- the types implementing `mapNode` are the five node kinds; the leaf kinds (`keyHashValue`) are value and collision -/
theorem node_kinds :
    nodeKinds = ["mapArrayNode", "mapBitmapIndexedNode", "mapHashArrayNode", "mapValueNode", "mapHashCollisionNode"] ∧
    leafKinds = ["mapValueNode", "mapHashCollisionNode"] ∧
    ifaces = [("mapNode", ["get", "set", "delete"]), ("mapLeafNode", ["embed:mapNode", "keyHashValue"])] := ⟨rfl, rfl, rfl⟩

/-- every node of the model is of one of the kinds found in the source -/
theorem kindName_mem {K V : Type} (n : Node K V) : kindName n ∈ nodeKinds := by
  cases n <;> simp [kindName, nodeKinds]

/-- every kind found in the source is a constructor of the model -/
theorem nodeKinds_covered :
    nodeKinds = [kindName (Node.array ([] : List (Nat × Nat))), kindName (Node.bitmap (K := Nat) (V := Nat) 0 []),
                 kindName (Node.hashArray (K := Nat) (V := Nat) 0 []), kindName (Node.value (K := Nat) (V := Nat) 0 0 0),
                 kindName (Node.collision (K := Nat) (V := Nat) 0 [])] := rfl

/-- on the leaf kinds `Node.keyHashValue` is the stored hash (elsewhere the dummy 0) -/
theorem leaf_kinds_model :
    (Node.value (K := Nat) (V := Nat) 7 0 0).keyHashValue = 7 ∧ (Node.collision (K := Nat) (V := Nat) 7 []).keyHashValue = 7 := by
  decide

/-- the fields of every struct of map.go (`Hamt`, `Node` constructors, `IterElem`, `MapBuilder`, `SetBuilder` have these fields) -/
theorem structs_expected :
    structs =
      [("hamt", [("size", "int"), ("root", "mapNode"), ("hasher", "fp.Hashable")]),
       ("mapBuilder", [("m", "*hamt")]),
       ("mapArrayNode", [("entries", "[]mapEntry")]),
       ("mapBitmapIndexedNode", [("bitmap", "uint32"), ("nodes", "[]mapNode")]),
       ("mapHashArrayNode", [("count", "uint"), ("nodes", "[mapNodeSize=32]mapNode")]),
       ("mapValueNode", [("keyHash", "uint32"), ("key", "K"), ("value", "V")]),
       ("mapHashCollisionNode", [("keyHash", "uint32"), ("entries", "[]mapEntry")]),
       ("mapEntry", [("key", "K"), ("value", "V")]),
       ("mapIteratorElem", [("node", "mapNode"), ("index", "int")]),
       ("set", [("m", "fp.MapBase")]),
       ("setBuilder", [("m", "*hamt"), ("shared", "bool")])] := by rfl

/-- the methods per receiver type: a new method (a fourth operation of a node kind, a second mutator of the builders) fails -/
theorem methods_expected :
    methods =
      [("hamt", ["Size", "clone", "Get", "Updated", "set", "Removed", "delete", "Iterator", "String"]),
       ("mapBuilder", ["build", "Build", "Add"]),
       ("mapArrayNode", ["indexOf", "get", "set", "delete"]),
       ("mapBitmapIndexedNode", ["get", "set", "delete"]),
       ("mapHashArrayNode", ["clone", "get", "set", "delete"]),
       ("mapValueNode", ["keyHashValue", "get", "set", "delete"]),
       ("mapHashCollisionNode", ["keyHashValue", "indexOf", "get", "set", "delete"]),
       ("set", ["Contains", "Size", "Iterator", "Incl", "Excl", "String"]),
       ("setBuilder", ["Add", "Build"])] := by rfl

/-- every function / method / closure of map.go -/
theorem function_names :
    funcs.map (·.1) = ["hashUint64", "MapBase", "Map", "hamt.Size", "hamt.clone", "hamt.Get", "hamt.Updated", "hamt.set", "hamt.Removed", "hamt.delete", "hamt.Iterator", "iteratorMap", "iteratorMap$1", "iteratorMap$2", "hamt.String", "hamt.String$1", "MapBuilder", "assert", "mapBuilder.build", "mapBuilder.Build", "mapBuilder.Add", "mapArrayNode.indexOf", "mapArrayNode.get", "mapArrayNode.set", "mapArrayNode.delete", "mapBitmapIndexedNode.get", "mapBitmapIndexedNode.set", "mapBitmapIndexedNode.delete", "mapHashArrayNode.clone", "mapHashArrayNode.get", "mapHashArrayNode.set", "mapHashArrayNode.delete", "newMapValueNode", "mapValueNode.keyHashValue", "mapValueNode.get", "mapValueNode.set", "mapValueNode.delete", "mapHashCollisionNode.keyHashValue", "mapHashCollisionNode.indexOf", "mapHashCollisionNode.get", "mapHashCollisionNode.set", "mapHashCollisionNode.delete", "mergeIntoNode", "MapIterator", "MapIterator$hasNext", "MapIterator$first", "MapIterator$moveStack", "MapIterator$next", "set.Contains", "set.Size", "set.Iterator", "set.Iterator$1", "set.Iterator$2", "set.Incl", "set.Excl", "set.String", "SetMinimal", "Set", "Set$1", "setBuilder.Add", "setBuilder.Build", "setBuilder.Build$1", "SetBuilder"] := by rfl

/-- not modelled (no skeleton below): the unused hash helper, `String()`, `assert`, `iteratorMap` -/
def unmodelled : List String :=
  ["hashUint64", "iteratorMap", "iteratorMap$1", "iteratorMap$2", "hamt.String", "hamt.String$1", "assert", "set.String"]

/-! ### (d) hash fragments, descent, popcount -/

/-- every hash fragment is `(hash >> shift) & mapNodeMask` — `Hamt.frag keyHash shift = (keyHash.toNat >>> shift) &&& mapNodeMask` -/
theorem frags_expected :
    frags =
      [("mapBitmapIndexedNode.get", "(keyHash >> shift) & mapNodeMask"),
       ("mapBitmapIndexedNode.set", "(keyHash >> shift) & mapNodeMask"),
       ("mapBitmapIndexedNode.delete", "(keyHash >> shift) & mapNodeMask"),
       ("mapHashArrayNode.get", "(keyHash >> shift) & mapNodeMask"),
       ("mapHashArrayNode.set", "(keyHash >> shift) & mapNodeMask"),
       ("mapHashArrayNode.delete", "(keyHash >> shift) & mapNodeMask"),
       ("mergeIntoNode", "(node.keyHashValue() >> shift) & mapNodeMask"),
       ("mergeIntoNode", "(keyHash >> shift) & mapNodeMask")] := by rfl

theorem frag_is_the_models (kh : UInt32) (shift : Nat) : frag kh shift = (kh.toNat >>> shift) &&& Hamt.mapNodeMask := rfl

/-- the roots (`Hamt.get/set/delete`, the expansion loop of a full array node) start at shift 0; the branch nodes and the
    recursion of `mergeIntoNode` descend by `shift + mapNodeBits`; value / collision nodes hand their own shift to `mergeIntoNode` -/
theorem shift_args_expected :
    shiftArgs =
      [("hamt.Get", "mapNode.get", "0"), ("hamt.set", "mapNode.set", "0"), ("hamt.delete", "mapNode.delete", "0"),
       ("mapArrayNode.set", "mapNode.set", "0"),
       ("mapBitmapIndexedNode.get", "mapNode.get", "shift + mapNodeBits"),
       ("mapBitmapIndexedNode.set", "mapNode.set", "shift + mapNodeBits"),
       ("mapBitmapIndexedNode.delete", "mapNode.delete", "shift + mapNodeBits"),
       ("mapHashArrayNode.get", "mapNode.get", "shift + mapNodeBits"),
       ("mapHashArrayNode.set", "mapNode.set", "shift + mapNodeBits"),
       ("mapHashArrayNode.delete", "mapNode.delete", "shift + mapNodeBits"),
       ("mapValueNode.set", "mergeIntoNode", "shift"),
       ("mapHashCollisionNode.set", "mergeIntoNode", "shift"),
       ("mergeIntoNode", "mergeIntoNode", "shift + mapNodeBits")] := by rfl

/-- the child index of a bitmap node is the popcount of the bits BELOW the key's bit: `popCount (bm &&& (bit - 1))` with
    `bit = 1 <<< frag keyHash shift`, in all three methods -/
theorem popcounts_expected :
    popcounts =
      [("mapBitmapIndexedNode.get", "OnesCount32(recv.bitmap & ((uint32(1) << ((keyHash >> shift) & mapNodeMask)) - 1))"),
       ("mapBitmapIndexedNode.set", "OnesCount32(recv.bitmap & ((uint32(1) << ((keyHash >> shift) & mapNodeMask)) - 1))"),
       ("mapBitmapIndexedNode.delete", "OnesCount32(recv.bitmap & ((uint32(1) << ((keyHash >> shift) & mapNodeMask)) - 1))")] := by rfl

/-! ### (e) the iterator's stack -/

/-- number of branch levels a 32-bit hash can be consumed over, `mapNodeBits` at a time: shifts 0, 5, …, 30 -/
def maxBranchDepth (bits : Nat) : Nat := (32 + bits - 1) / bits

/-- the only local array of map.go is the iterator's stack -/
theorem iter_stack_found : arrays.map (fun a => (a.1, a.2.1)) = [("MapIterator", "mapIteratorElem")] := rfl

/-- the stack holds one element per branch level plus the leaf on top (`first()` / `moveStack()` write `stack[depth+1]`):
    it needs at least `maxBranchDepth + 1` slots.  (The model's `iterFirst` throws "index out of range [32]" beyond 32 elements;
    any length ≥ 8 is unobservable on well-formed tries, so only the lower bound is an obligation.) -/
theorem iter_stack_suffices :
    arrays.all (fun a => decide (a.2.2 ≥ maxBranchDepth Hamt.mapNodeBits + 1)) = true ∧
    (consts.lookup "mapNodeBits").map maxBranchDepth = some 7 := by decide +kernel

/-- non-vacuity: 7 slots (seed C03-14) are rejected, 8 accepted -/
example : ¬ (7 ≥ maxBranchDepth Hamt.mapNodeBits + 1) := by decide
example : 8 ≥ maxBranchDepth Hamt.mapNodeBits + 1 := by decide

/-! ### (b') the model's branches have the operators and bounds of `expectedThresholds` -/

section model
variable {K V : Type} (h : Hasher K)

/-- array node, new key: `≥ maxArrayMapSize` entries → expansion -/
theorem model_array_promotes {es : List (K × V)} (k : K) (v : V) (s : Nat) (kh : UInt32) (m r : Bool)
    (hnew : indexOf h es k = none) (hfull : es.length ≥ Hamt.maxArrayMapSize) :
    (Node.array es).set h k v s kh m r = expandArray h es k v true := by
  simp [Node.set, Node.setCore, hnew, hfull]

/-- array node, new key: `< maxArrayMapSize` entries → append (so the operator is `≥`, the bound `maxArrayMapSize`) -/
theorem model_array_appends {es : List (K × V)} (k : K) (v : V) (s : Nat) (kh : UInt32) (m r : Bool)
    (hnew : indexOf h es k = none) (hroom : es.length < Hamt.maxArrayMapSize) :
    (Node.array es).set h k v s kh m r = pure (.array (es ++ [(k, v)]), true) := by
  have : ¬ Hamt.maxArrayMapSize ≤ es.length := by omega
  simp [Node.set, Node.setCore, hnew, this]

end model

/-! ### (f) skeletons

Each skeleton is the entry of `funcs` at the position its name has in `function_names`; no two entries share a name,
so that entry is the one `lookup` returns. -/

theorem funcs_keys_nodup : (funcs.map (·.1)).Nodup := FactsCode.nodup_of_codes (by decide +kernel)

/-- `MapBase` ↔ `Hamt.ofList`: `t.length > 0` → builder fold + build, else the empty map -/
theorem skeleton_MapBase :
    funcs.lookup "MapBase" = some [
    (0, "if", "len(t) > 0"),
    (1, "asg", "$mapBuilder := MapBuilder(hasher)"),
    (1, "range", "_, $Tuple2 := t"),
    (2, "call", "$mapBuilder.Add($Tuple2.I1, $Tuple2.I2)"),
    (1, "ret", "$mapBuilder.build()"),
    (0, "else", ""),
    (1, "ret", "&hamt{hasher: hasher}")] :=
  FactsLookup.lookup_of_getElem? funcs_keys_nodup (i := 1) (by rfl)

/-- `Map` ↔ `FMap.ofList` -/
theorem skeleton_Map :
    funcs.lookup "Map" = some [
    (0, "ret", "fp.MakeMap(MapBase(hasher, t...))")] :=
  FactsLookup.lookup_of_getElem? funcs_keys_nodup (i := 2) (by rfl)

/-- `hamt.Size` ↔ `Hamt.size` (field) -/
theorem skeleton_hamt_Size :
    funcs.lookup "hamt.Size" = some [
    (0, "ret", "recv.size")] :=
  FactsLookup.lookup_of_getElem? funcs_keys_nodup (i := 3) (by rfl)

/-- `hamt.clone` ↔ shallow copy of the header: `{ m with … }` in `Hamt.set` / `Hamt.delete` -/
theorem skeleton_hamt_clone :
    funcs.lookup "hamt.clone" = some [
    (0, "asg", "$hamt := *recv"),
    (0, "ret", "&$hamt")] :=
  FactsLookup.lookup_of_getElem? funcs_keys_nodup (i := 4) (by rfl)

/-- `hamt.Get` ↔ `Hamt.get`: nil root → none; else `root.get h key 0 (h.hash key)` -/
theorem skeleton_hamt_Get :
    funcs.lookup "hamt.Get" = some [
    (0, "if", "recv.root == nil"),
    (1, "ret", "fp.None()"),
    (0, "asg", "$uint32 := recv.hasher.Hash(key)"),
    (0, "ret", "recv.root.get(key, 0, $uint32, recv.hasher)")] :=
  FactsLookup.lookup_of_getElem? funcs_keys_nodup (i := 5) (by rfl)

/-- `hamt.Updated` ↔ `Hamt.updated = set … false` -/
theorem skeleton_hamt_Updated :
    funcs.lookup "hamt.Updated" = some [
    (0, "ret", "recv.set(key, value, false)")] :=
  FactsLookup.lookup_of_getElem? funcs_keys_nodup (i := 6) (by rfl)

/-- `hamt.set` ↔ `Hamt.set`: empty → array node with the one entry, size 1; else `root.set … 0 (hash key) … false`, size+1 iff resized -/
theorem skeleton_hamt_set :
    funcs.lookup "hamt.set" = some [
    (0, "asg", "$Hashable := recv.hasher"),
    (0, "asg", "$hamt := recv"),
    (0, "if", "!mutable"),
    (1, "asg", "$hamt = recv.clone()"),
    (0, "asg", "$hamt.hasher = $Hashable"),
    (0, "if", "recv.root == nil"),
    (1, "asg", "$hamt.size = 1"),
    (1, "asg", "$hamt.root = &mapArrayNode{entries: []mapEntry{{key: key, value: value}}}"),
    (1, "ret", "$hamt"),
    (0, "asg", "$hamt.root = recv.root.set(key, value, 0, $Hashable.Hash(key), $Hashable, mutable, &$bool)"),
    (0, "if", "$bool"),
    (1, "asg", "$hamt.size++"),
    (0, "ret", "$hamt")] :=
  FactsLookup.lookup_of_getElem? funcs_keys_nodup (i := 7) (by rfl)

/-- `hamt.Removed` ↔ `Hamt.removed`: left fold of `delete k false` -/
theorem skeleton_hamt_Removed :
    funcs.lookup "hamt.Removed" = some [
    (0, "asg", "$hamt := recv"),
    (0, "range", "_, $K := key"),
    (1, "asg", "$hamt = $hamt.delete($K, false)"),
    (0, "ret", "$hamt")] :=
  FactsLookup.lookup_of_getElem? funcs_keys_nodup (i := 8) (by rfl)

/-- `hamt.delete` ↔ `Hamt.delete`: nil root → same; not resized → same; else size-1 and the new root -/
theorem skeleton_hamt_delete :
    funcs.lookup "hamt.delete" = some [
    (0, "if", "recv.root == nil"),
    (1, "ret", "recv"),
    (0, "asg", "$mapNode := recv.root.delete(key, 0, recv.hasher.Hash(key), recv.hasher, mutable, &$bool)"),
    (0, "if", "!$bool"),
    (1, "ret", "recv"),
    (0, "asg", "$hamt := recv"),
    (0, "if", "!mutable"),
    (1, "asg", "$hamt = recv.clone()"),
    (0, "asg", "$hamt.size = recv.size - 1"),
    (0, "asg", "$hamt.root = $mapNode"),
    (0, "ret", "$hamt")] :=
  FactsLookup.lookup_of_getElem? funcs_keys_nodup (i := 9) (by rfl)

/-- `hamt.Iterator` ↔ `Hamt.iterator` -/
theorem skeleton_hamt_Iterator :
    funcs.lookup "hamt.Iterator" = some [
    (0, "asg", "$Iterator := MapIterator(recv)"),
    (0, "ret", "$Iterator")] :=
  FactsLookup.lookup_of_getElem? funcs_keys_nodup (i := 10) (by rfl)

/-- `MapBuilder` ↔ `MapBuilder.new` -/
theorem skeleton_MapBuilder :
    funcs.lookup "MapBuilder" = some [
    (0, "ret", "&mapBuilder{m: &hamt{hasher: hasher}}")] :=
  FactsLookup.lookup_of_getElem? funcs_keys_nodup (i := 16) (by rfl)

/-- `mapBuilder.build` ↔ `MapBuilder.build`: hand out, invalidate -/
theorem skeleton_mapBuilder_build :
    funcs.lookup "mapBuilder.build" = some [
    (0, "call", "assert((recv.m != nil), \"immutable.SortedMapBuilder.Build(): duplicate call to fetch map\")"),
    (0, "asg", "$hamt := recv.m"),
    (0, "asg", "recv.m = nil"),
    (0, "ret", "$hamt")] :=
  FactsLookup.lookup_of_getElem? funcs_keys_nodup (i := 18) (by rfl)

/-- `mapBuilder.Build` ↔ `MapBuilder.build` wrapped by `fp.MakeMap` -/
theorem skeleton_mapBuilder_Build :
    funcs.lookup "mapBuilder.Build" = some [
    (0, "ret", "fp.MakeMap(recv.build())")] :=
  FactsLookup.lookup_of_getElem? funcs_keys_nodup (i := 19) (by rfl)

/-- `mapBuilder.Add` ↔ `MapBuilder.add`: `m.set h key val true` (the in-place path) -/
theorem skeleton_mapBuilder_Add :
    funcs.lookup "mapBuilder.Add" = some [
    (0, "call", "assert((recv.m != nil), \"immutable.MapBuilder: builder invalid after Build() invocation\")"),
    (0, "asg", "recv.m = recv.m.set(key, value, true)"),
    (0, "ret", "recv")] :=
  FactsLookup.lookup_of_getElem? funcs_keys_nodup (i := 20) (by rfl)

/-- `mapArrayNode.indexOf` ↔ `indexOf` (`findIdx?`) -/
theorem skeleton_mapArrayNode_indexOf :
    funcs.lookup "mapArrayNode.indexOf" = some [
    (0, "range", "$int := recv.entries"),
    (1, "if", "h.Eqv(recv.entries[$int].key, key)"),
    (2, "ret", "$int"),
    (0, "ret", "-1")] :=
  FactsLookup.lookup_of_getElem? funcs_keys_nodup (i := 21) (by rfl)

/-- `mapArrayNode.get` ↔ `Node.get (.array …)` -/
theorem skeleton_mapArrayNode_get :
    funcs.lookup "mapArrayNode.get" = some [
    (0, "asg", "$int := recv.indexOf(key, h)"),
    (0, "if", "$int == -1"),
    (1, "ret", "fp.None()"),
    (0, "ret", "fp.Some(recv.entries[$int].value)")] :=
  FactsLookup.lookup_of_getElem? funcs_keys_nodup (i := 22) (by rfl)

/-- `mapArrayNode.set` ↔ `Node.setCore (.array …)`: resized iff absent; absent ∧ `entries.length ≥ maxArrayMapSize` → `expandArray` (value node of the new key, every old entry `set` at shift 0, not mutable); else replace at idx / append -/
theorem skeleton_mapArrayNode_set :
    funcs.lookup "mapArrayNode.set" = some [
    (0, "asg", "$int := recv.indexOf(key, h)"),
    (0, "if", "$int == -1"),
    (1, "asg", "*resized = true"),
    (0, "if", "($int == -1) && (len(recv.entries) >= maxArrayMapSize)"),
    (1, "asg", "$mapNode := newMapValueNode(h.Hash(key), key, value)"),
    (1, "range", "_, $mapEntry := recv.entries"),
    (2, "asg", "$mapNode = $mapNode.set($mapEntry.key, $mapEntry.value, 0, h.Hash($mapEntry.key), h, false, resized)"),
    (1, "ret", "$mapNode"),
    (0, "if", "mutable"),
    (1, "if", "$int != -1"),
    (2, "asg", "recv.entries[$int] = mapEntry{key, value}"),
    (1, "else", ""),
    (2, "asg", "recv.entries = append(recv.entries, mapEntry{key, value})"),
    (1, "ret", "recv"),
    (0, "if", "$int != -1"),
    (1, "asg", "$mapArrayNode.entries = make([]mapEntry, len(recv.entries))"),
    (1, "call", "copy($mapArrayNode.entries, recv.entries)"),
    (1, "asg", "$mapArrayNode.entries[$int] = mapEntry{key, value}"),
    (0, "else", ""),
    (1, "asg", "$mapArrayNode.entries = make([]mapEntry, (len(recv.entries) + 1))"),
    (1, "call", "copy($mapArrayNode.entries, recv.entries)"),
    (1, "asg", "$mapArrayNode.entries[(len($mapArrayNode.entries) - 1)] = mapEntry{key, value}"),
    (0, "ret", "&$mapArrayNode")] :=
  FactsLookup.lookup_of_getElem? funcs_keys_nodup (i := 23) (by rfl)

/-- `mapArrayNode.delete` ↔ `Node.delete (.array …)`: absent → same; `entries.length == 1` → nil; else remove idx -/
theorem skeleton_mapArrayNode_delete :
    funcs.lookup "mapArrayNode.delete" = some [
    (0, "asg", "$int := recv.indexOf(key, h)"),
    (0, "if", "$int == -1"),
    (1, "ret", "recv"),
    (0, "asg", "*resized = true"),
    (0, "if", "len(recv.entries) == 1"),
    (1, "ret", "nil"),
    (0, "if", "mutable"),
    (1, "call", "copy(recv.entries[$int:], recv.entries[($int + 1):])"),
    (1, "asg", "recv.entries[(len(recv.entries) - 1)] = mapEntry{}"),
    (1, "asg", "recv.entries = recv.entries[:(len(recv.entries) - 1)]"),
    (1, "ret", "recv"),
    (0, "asg", "$mapArrayNode := &mapArrayNode{entries: make([]mapEntry, (len(recv.entries) - 1))}"),
    (0, "call", "copy($mapArrayNode.entries[:$int], recv.entries[:$int])"),
    (0, "call", "copy($mapArrayNode.entries[$int:], recv.entries[($int + 1):])"),
    (0, "ret", "$mapArrayNode")] :=
  FactsLookup.lookup_of_getElem? funcs_keys_nodup (i := 24) (by rfl)

/-- `mapBitmapIndexedNode.get` ↔ `Node.get (.bitmap …)`: `bit = 1 <<< frag`; `bm &&& bit == 0` → none; child `popCount (bm &&& (bit-1))` at `shift + mapNodeBits` -/
theorem skeleton_mapBitmapIndexedNode_get :
    funcs.lookup "mapBitmapIndexedNode.get" = some [
    (0, "if", "(recv.bitmap & (uint32(1) << ((keyHash >> shift) & mapNodeMask))) == 0"),
    (1, "ret", "fp.None()"),
    (0, "asg", "$mapNode := recv.nodes[bits.OnesCount32((recv.bitmap & ((uint32(1) << ((keyHash >> shift) & mapNodeMask)) - 1)))]"),
    (0, "ret", "$mapNode.get(key, (shift + mapNodeBits), keyHash, h)")] :=
  FactsLookup.lookup_of_getElem? funcs_keys_nodup (i := 25) (by rfl)

/-- `mapBitmapIndexedNode.set` ↔ `Node.setCore (.bitmap …)`: `!exists ∧ nodes.length > maxBitmapIndexedSize` → `bitmapToHashArray`, slot `frag`, count+1; exists → replace idx (in place: bitmap untouched); else insert at idx, `bm ||| bit` -/
theorem skeleton_mapBitmapIndexedNode_set :
    funcs.lookup "mapBitmapIndexedNode.set" = some [
    (0, "asg", "$bool := (recv.bitmap & (uint32(1) << ((keyHash >> shift) & mapNodeMask))) != 0"),
    (0, "if", "!$bool"),
    (1, "asg", "*resized = true"),
    (0, "asg", "$int := bits.OnesCount32((recv.bitmap & ((uint32(1) << ((keyHash >> shift) & mapNodeMask)) - 1)))"),
    (0, "if", "$bool"),
    (1, "asg", "$mapNode = recv.nodes[$int].set(key, value, (shift + mapNodeBits), keyHash, h, mutable, resized)"),
    (0, "else", ""),
    (1, "asg", "$mapNode = newMapValueNode(keyHash, key, value)"),
    (0, "if", "!$bool && (len(recv.nodes) > maxBitmapIndexedSize)"),
    (1, "asg", "$uint := uint(0)"),
    (1, "for", "$uint < uint(len($mapHashArrayNode.nodes)); $uint++"),
    (2, "if", "(recv.bitmap & (uint32(1) << $uint)) != 0"),
    (3, "asg", "$mapHashArrayNode.nodes[$uint] = recv.nodes[$mapHashArrayNode.count]"),
    (3, "asg", "$mapHashArrayNode.count++"),
    (1, "asg", "$mapHashArrayNode.nodes[((keyHash >> shift) & mapNodeMask)] = $mapNode"),
    (1, "asg", "$mapHashArrayNode.count++"),
    (1, "ret", "&$mapHashArrayNode"),
    (0, "if", "mutable"),
    (1, "if", "$bool"),
    (2, "asg", "recv.nodes[$int] = $mapNode"),
    (1, "else", ""),
    (2, "asg", "recv.bitmap |= uint32(1) << ((keyHash >> shift) & mapNodeMask)"),
    (2, "asg", "recv.nodes = append(recv.nodes, nil)"),
    (2, "call", "copy(recv.nodes[($int + 1):], recv.nodes[$int:])"),
    (2, "asg", "recv.nodes[$int] = $mapNode"),
    (1, "ret", "recv"),
    (0, "asg", "$mapBitmapIndexedNode := &mapBitmapIndexedNode{bitmap: (recv.bitmap | (uint32(1) << ((keyHash >> shift) & mapNodeMask)))}"),
    (0, "if", "$bool"),
    (1, "asg", "$mapBitmapIndexedNode.nodes = make([]mapNode, len(recv.nodes))"),
    (1, "call", "copy($mapBitmapIndexedNode.nodes, recv.nodes)"),
    (1, "asg", "$mapBitmapIndexedNode.nodes[$int] = $mapNode"),
    (0, "else", ""),
    (1, "asg", "$mapBitmapIndexedNode.nodes = make([]mapNode, (len(recv.nodes) + 1))"),
    (1, "call", "copy($mapBitmapIndexedNode.nodes, recv.nodes[:$int])"),
    (1, "asg", "$mapBitmapIndexedNode.nodes[$int] = $mapNode"),
    (1, "call", "copy($mapBitmapIndexedNode.nodes[($int + 1):], recv.nodes[$int:])"),
    (0, "ret", "$mapBitmapIndexedNode")] :=
  FactsLookup.lookup_of_getElem? funcs_keys_nodup (i := 26) (by rfl)

/-- `mapBitmapIndexedNode.delete` ↔ `Node.delete (.bitmap …)`: bit clear → same; not resized → same; child nil: `nodes.length == 1` → nil, else remove idx and `bm ^^^ bit`; else replace idx -/
theorem skeleton_mapBitmapIndexedNode_delete :
    funcs.lookup "mapBitmapIndexedNode.delete" = some [
    (0, "if", "(recv.bitmap & (uint32(1) << ((keyHash >> shift) & mapNodeMask))) == 0"),
    (1, "ret", "recv"),
    (0, "asg", "$int := bits.OnesCount32((recv.bitmap & ((uint32(1) << ((keyHash >> shift) & mapNodeMask)) - 1)))"),
    (0, "asg", "$mapNode := recv.nodes[$int]"),
    (0, "asg", "$mapNode := $mapNode.delete(key, (shift + mapNodeBits), keyHash, h, mutable, resized)"),
    (0, "if", "!*resized"),
    (1, "ret", "recv"),
    (0, "if", "$mapNode == nil"),
    (1, "if", "len(recv.nodes) == 1"),
    (2, "ret", "nil"),
    (1, "if", "mutable"),
    (2, "asg", "recv.bitmap ^= uint32(1) << ((keyHash >> shift) & mapNodeMask)"),
    (2, "call", "copy(recv.nodes[$int:], recv.nodes[($int + 1):])"),
    (2, "asg", "recv.nodes[(len(recv.nodes) - 1)] = nil"),
    (2, "asg", "recv.nodes = recv.nodes[:(len(recv.nodes) - 1)]"),
    (2, "ret", "recv"),
    (1, "asg", "$mapBitmapIndexedNode := &mapBitmapIndexedNode{bitmap: (recv.bitmap ^ (uint32(1) << ((keyHash >> shift) & mapNodeMask))), nodes: make([]mapNode, (len(recv.nodes) - 1))}"),
    (1, "call", "copy($mapBitmapIndexedNode.nodes[:$int], recv.nodes[:$int])"),
    (1, "call", "copy($mapBitmapIndexedNode.nodes[$int:], recv.nodes[($int + 1):])"),
    (1, "ret", "$mapBitmapIndexedNode"),
    (0, "asg", "$mapBitmapIndexedNode := recv"),
    (0, "if", "!mutable"),
    (1, "asg", "$mapBitmapIndexedNode = &mapBitmapIndexedNode{bitmap: recv.bitmap, nodes: make([]mapNode, len(recv.nodes))}"),
    (1, "call", "copy($mapBitmapIndexedNode.nodes, recv.nodes)"),
    (0, "asg", "$mapBitmapIndexedNode.nodes[$int] = $mapNode"),
    (0, "ret", "$mapBitmapIndexedNode")] :=
  FactsLookup.lookup_of_getElem? funcs_keys_nodup (i := 27) (by rfl)

/-- `mapHashArrayNode.clone` ↔ shallow copy (value model: `nodes.set`) -/
theorem skeleton_mapHashArrayNode_clone :
    funcs.lookup "mapHashArrayNode.clone" = some [
    (0, "asg", "$mapHashArrayNode := *recv"),
    (0, "ret", "&$mapHashArrayNode")] :=
  FactsLookup.lookup_of_getElem? funcs_keys_nodup (i := 28) (by rfl)

/-- `mapHashArrayNode.get` ↔ `Node.get (.hashArray …)`: slot `frag`; nil → none; else child at `shift + mapNodeBits` -/
theorem skeleton_mapHashArrayNode_get :
    funcs.lookup "mapHashArrayNode.get" = some [
    (0, "if", "recv.nodes[((keyHash >> shift) & mapNodeMask)] == nil"),
    (1, "ret", "fp.None()"),
    (0, "ret", "recv.nodes[((keyHash >> shift) & mapNodeMask)].get(key, (shift + mapNodeBits), keyHash, h)")] :=
  FactsLookup.lookup_of_getElem? funcs_keys_nodup (i := 29) (by rfl)

/-- `mapHashArrayNode.set` ↔ `Node.setCore (.hashArray …)`: nil slot → resized, value node, count+1; else delegate -/
theorem skeleton_mapHashArrayNode_set :
    funcs.lookup "mapHashArrayNode.set" = some [
    (0, "asg", "$mapNode := recv.nodes[((keyHash >> shift) & mapNodeMask)]"),
    (0, "if", "$mapNode == nil"),
    (1, "asg", "*resized = true"),
    (1, "asg", "$mapNode = newMapValueNode(keyHash, key, value)"),
    (0, "else", ""),
    (1, "asg", "$mapNode = $mapNode.set(key, value, (shift + mapNodeBits), keyHash, h, mutable, resized)"),
    (0, "asg", "$mapHashArrayNode := recv"),
    (0, "if", "!mutable"),
    (1, "asg", "$mapHashArrayNode = recv.clone()"),
    (0, "if", "$mapNode == nil"),
    (1, "asg", "$mapHashArrayNode.count++"),
    (0, "asg", "$mapHashArrayNode.nodes[((keyHash >> shift) & mapNodeMask)] = $mapNode"),
    (0, "ret", "$mapHashArrayNode")] :=
  FactsLookup.lookup_of_getElem? funcs_keys_nodup (i := 30) (by rfl)

/-- `mapHashArrayNode.delete` ↔ `Node.delete (.hashArray …)`: nil slot → same; not resized → same; child nil ∧ `count ≤ maxBitmapIndexedSize` → `hashArrayToBitmap` (skipping idx); else replace, count-1 iff nil -/
theorem skeleton_mapHashArrayNode_delete :
    funcs.lookup "mapHashArrayNode.delete" = some [
    (0, "asg", "$mapNode := recv.nodes[((keyHash >> shift) & mapNodeMask)]"),
    (0, "if", "$mapNode == nil"),
    (1, "ret", "recv"),
    (0, "asg", "$mapNode := $mapNode.delete(key, (shift + mapNodeBits), keyHash, h, mutable, resized)"),
    (0, "if", "!*resized"),
    (1, "ret", "recv"),
    (0, "if", "($mapNode == nil) && (recv.count <= maxBitmapIndexedSize)"),
    (1, "asg", "$mapBitmapIndexedNode := &mapBitmapIndexedNode{nodes: make([]mapNode, 0, (recv.count - 1))}"),
    (1, "range", "$int, $mapNode := recv.nodes"),
    (2, "if", "($mapNode != nil) && (uint32($int) != ((keyHash >> shift) & mapNodeMask))"),
    (3, "asg", "$mapBitmapIndexedNode.bitmap |= 1 << uint($int)"),
    (3, "asg", "$mapBitmapIndexedNode.nodes = append($mapBitmapIndexedNode.nodes, $mapNode)"),
    (1, "ret", "$mapBitmapIndexedNode"),
    (0, "asg", "$mapHashArrayNode := recv"),
    (0, "if", "!mutable"),
    (1, "asg", "$mapHashArrayNode = recv.clone()"),
    (0, "asg", "$mapHashArrayNode.nodes[((keyHash >> shift) & mapNodeMask)] = $mapNode"),
    (0, "if", "$mapNode == nil"),
    (1, "asg", "$mapHashArrayNode.count--"),
    (0, "ret", "$mapHashArrayNode")] :=
  FactsLookup.lookup_of_getElem? funcs_keys_nodup (i := 31) (by rfl)

/-- `newMapValueNode` ↔ `Node.value keyHash key value` -/
theorem skeleton_newMapValueNode :
    funcs.lookup "newMapValueNode" = some [
    (0, "ret", "&mapValueNode{keyHash: keyHash, key: key, value: value}")] :=
  FactsLookup.lookup_of_getElem? funcs_keys_nodup (i := 32) (by rfl)

/-- `mapValueNode.keyHashValue` ↔ `Node.keyHashValue` -/
theorem skeleton_mapValueNode_keyHashValue :
    funcs.lookup "mapValueNode.keyHashValue" = some [
    (0, "ret", "recv.keyHash")] :=
  FactsLookup.lookup_of_getElem? funcs_keys_nodup (i := 33) (by rfl)

/-- `mapValueNode.get` ↔ `Node.get (.value …)` -/
theorem skeleton_mapValueNode_get :
    funcs.lookup "mapValueNode.get" = some [
    (0, "if", "!h.Eqv(recv.key, key)"),
    (1, "ret", "fp.None()"),
    (0, "ret", "fp.Some(recv.value)")] :=
  FactsLookup.lookup_of_getElem? funcs_keys_nodup (i := 34) (by rfl)

/-- `mapValueNode.set` ↔ `Node.setCore (.value …)`: eqv → overwrite (in place keeps the OLD key); hashes differ → `mergeIntoNode … shift`; else collision node [old, new] -/
theorem skeleton_mapValueNode_set :
    funcs.lookup "mapValueNode.set" = some [
    (0, "if", "h.Eqv(recv.key, key)"),
    (1, "if", "mutable"),
    (2, "asg", "recv.value = value"),
    (2, "ret", "recv"),
    (1, "ret", "newMapValueNode(recv.keyHash, key, value)"),
    (0, "asg", "*resized = true"),
    (0, "if", "recv.keyHash != keyHash"),
    (1, "ret", "mergeIntoNode(recv, shift, keyHash, key, value)"),
    (0, "ret", "&mapHashCollisionNode{keyHash: keyHash, entries: []mapEntry{{key: recv.key, value: recv.value}, {key: key, value: value}}}")] :=
  FactsLookup.lookup_of_getElem? funcs_keys_nodup (i := 35) (by rfl)

/-- `mapValueNode.delete` ↔ `Node.delete (.value …)` -/
theorem skeleton_mapValueNode_delete :
    funcs.lookup "mapValueNode.delete" = some [
    (0, "if", "!h.Eqv(recv.key, key)"),
    (1, "ret", "recv"),
    (0, "asg", "*resized = true"),
    (0, "ret", "nil")] :=
  FactsLookup.lookup_of_getElem? funcs_keys_nodup (i := 36) (by rfl)

/-- `mapHashCollisionNode.keyHashValue` ↔ `Node.keyHashValue` -/
theorem skeleton_mapHashCollisionNode_keyHashValue :
    funcs.lookup "mapHashCollisionNode.keyHashValue" = some [
    (0, "ret", "recv.keyHash")] :=
  FactsLookup.lookup_of_getElem? funcs_keys_nodup (i := 37) (by rfl)

/-- `mapHashCollisionNode.indexOf` ↔ `indexOf` -/
theorem skeleton_mapHashCollisionNode_indexOf :
    funcs.lookup "mapHashCollisionNode.indexOf" = some [
    (0, "range", "$int := recv.entries"),
    (1, "if", "h.Eqv(recv.entries[$int].key, key)"),
    (2, "ret", "$int"),
    (0, "ret", "-1")] :=
  FactsLookup.lookup_of_getElem? funcs_keys_nodup (i := 38) (by rfl)

/-- `mapHashCollisionNode.get` ↔ `Node.get (.collision …)` (`find?`) -/
theorem skeleton_mapHashCollisionNode_get :
    funcs.lookup "mapHashCollisionNode.get" = some [
    (0, "range", "$int := recv.entries"),
    (1, "if", "h.Eqv(recv.entries[$int].key, key)"),
    (2, "ret", "fp.Some(recv.entries[$int].value)"),
    (0, "ret", "fp.None()")] :=
  FactsLookup.lookup_of_getElem? funcs_keys_nodup (i := 39) (by rfl)

/-- `mapHashCollisionNode.set` ↔ `Node.setCore (.collision …)`: other hash → resized, `mergeIntoNode … shift`; absent → append, resized; else replace idx -/
theorem skeleton_mapHashCollisionNode_set :
    funcs.lookup "mapHashCollisionNode.set" = some [
    (0, "if", "recv.keyHash != keyHash"),
    (1, "asg", "*resized = true"),
    (1, "ret", "mergeIntoNode(recv, shift, keyHash, key, value)"),
    (0, "if", "mutable"),
    (1, "asg", "$int := recv.indexOf(key, h)"),
    (1, "if", "$int == -1"),
    (2, "asg", "*resized = true"),
    (2, "asg", "recv.entries = append(recv.entries, mapEntry{key, value})"),
    (1, "else", ""),
    (2, "asg", "recv.entries[$int] = mapEntry{key, value}"),
    (1, "ret", "recv"),
    (0, "asg", "$mapHashCollisionNode := &mapHashCollisionNode{keyHash: recv.keyHash}"),
    (0, "asg", "$int := recv.indexOf(key, h)"),
    (0, "if", "$int == -1"),
    (1, "asg", "*resized = true"),
    (1, "asg", "$mapHashCollisionNode.entries = make([]mapEntry, (len(recv.entries) + 1))"),
    (1, "call", "copy($mapHashCollisionNode.entries, recv.entries)"),
    (1, "asg", "$mapHashCollisionNode.entries[(len($mapHashCollisionNode.entries) - 1)] = mapEntry{key, value}"),
    (0, "else", ""),
    (1, "asg", "$mapHashCollisionNode.entries = make([]mapEntry, len(recv.entries))"),
    (1, "call", "copy($mapHashCollisionNode.entries, recv.entries)"),
    (1, "asg", "$mapHashCollisionNode.entries[$int] = mapEntry{key, value}"),
    (0, "ret", "$mapHashCollisionNode")] :=
  FactsLookup.lookup_of_getElem? funcs_keys_nodup (i := 40) (by rfl)

/-- `mapHashCollisionNode.delete` ↔ `Node.delete (.collision …)`: absent → same; `entries.length == 2` → value node of entry `idx ^^^ 1`; else remove idx -/
theorem skeleton_mapHashCollisionNode_delete :
    funcs.lookup "mapHashCollisionNode.delete" = some [
    (0, "asg", "$int := recv.indexOf(key, h)"),
    (0, "if", "$int == -1"),
    (1, "ret", "recv"),
    (0, "asg", "*resized = true"),
    (0, "if", "len(recv.entries) == 2"),
    (1, "ret", "&mapValueNode{keyHash: recv.keyHash, key: recv.entries[($int ^ 1)].key, value: recv.entries[($int ^ 1)].value}"),
    (0, "if", "mutable"),
    (1, "call", "copy(recv.entries[$int:], recv.entries[($int + 1):])"),
    (1, "asg", "recv.entries[(len(recv.entries) - 1)] = mapEntry{}"),
    (1, "asg", "recv.entries = recv.entries[:(len(recv.entries) - 1)]"),
    (1, "ret", "recv"),
    (0, "asg", "$mapHashCollisionNode := &mapHashCollisionNode{keyHash: recv.keyHash, entries: make([]mapEntry, (len(recv.entries) - 1))}"),
    (0, "call", "copy($mapHashCollisionNode.entries[:$int], recv.entries[:$int])"),
    (0, "call", "copy($mapHashCollisionNode.entries[$int:], recv.entries[($int + 1):])"),
    (0, "ret", "$mapHashCollisionNode")] :=
  FactsLookup.lookup_of_getElem? funcs_keys_nodup (i := 41) (by rfl)

/-- `mergeIntoNode` ↔ `mergeIntoNode`: idx1/idx2 = `frag … shift`; equal → one child, recursion at `shift + mapNodeBits`; `idx1 < idx2` → [node, new] else [new, node] -/
theorem skeleton_mergeIntoNode :
    funcs.lookup "mergeIntoNode" = some [
    (0, "asg", "$uint32 := (node.keyHashValue() >> shift) & mapNodeMask"),
    (0, "asg", "$mapBitmapIndexedNode := &mapBitmapIndexedNode{bitmap: ((1 << $uint32) | (1 << ((keyHash >> shift) & mapNodeMask)))}"),
    (0, "if", "$uint32 == ((keyHash >> shift) & mapNodeMask)"),
    (1, "asg", "$mapBitmapIndexedNode.nodes = []mapNode{mergeIntoNode(node, (shift + mapNodeBits), keyHash, key, value)}"),
    (0, "else", ""),
    (1, "asg", "$mapValueNode := newMapValueNode(keyHash, key, value)"),
    (1, "if", "$uint32 < ((keyHash >> shift) & mapNodeMask)"),
    (2, "asg", "$mapBitmapIndexedNode.nodes = []mapNode{node, $mapValueNode}"),
    (1, "else", ""),
    (2, "asg", "$mapBitmapIndexedNode.nodes = []mapNode{$mapValueNode, node}"),
    (0, "ret", "$mapBitmapIndexedNode")] :=
  FactsLookup.lookup_of_getElem? funcs_keys_nodup (i := 42) (by rfl)

/-- `MapIterator` ↔ `Hamt.iterator`: nil root → empty stack (`depth = -1`); else `stack[0] = root`, `first()` -/
theorem skeleton_MapIterator :
    funcs.lookup "MapIterator" = some [
    (0, "if", "m.root == nil"),
    (1, "asg", "^depth = -1"),
    (0, "else", ""),
    (1, "asg", "^stack[0] = mapIteratorElem{node: m.root}"),
    (1, "asg", "^depth = 0"),
    (1, "call", "closure:first()"),
    (0, "ret", "fp.MakeIterator(closure:hasNext, closure:next)")] :=
  FactsLookup.lookup_of_getElem? funcs_keys_nodup (i := 43) (by rfl)

/-- `MapIterator$hasNext` ↔ `MapIter.hasNext`: `depth != -1` -/
theorem skeleton_MapIterator_hasNext :
    funcs.lookup "MapIterator$hasNext" = some [
    (0, "ret", "^depth != -1")] :=
  FactsLookup.lookup_of_getElem? funcs_keys_nodup (i := 44) (by rfl)

/-- `MapIterator$first` ↔ `iterFirst`: bitmap → index 0, push `nodes[0]`; hashArray → first non-nil slot (`nextNonNil … 0`), push; leaf → index 0, stop.  Writes `stack[depth+1]` -/
theorem skeleton_MapIterator_first :
    funcs.lookup "MapIterator$first" = some [
    (0, "for", "; ^depth++"),
    (1, "asg", "$mapIteratorElem := &^stack[^depth]"),
    (1, "tswitch", "$mapIteratorElem.node.(type)"),
    (2, "case", "*mapBitmapIndexedNode"),
    (3, "asg", "$mapIteratorElem.index = 0"),
    (3, "asg", "^stack[(^depth + 1)].node = $mapBitmapIndexedNode.nodes[0]"),
    (2, "case", "*mapHashArrayNode"),
    (3, "asg", "$int := 0"),
    (3, "for", "$int < len($mapHashArrayNode.nodes); $int++"),
    (4, "if", "$mapHashArrayNode.nodes[$int] != nil"),
    (5, "asg", "$mapIteratorElem.index = $int"),
    (5, "asg", "^stack[(^depth + 1)].node = $mapHashArrayNode.nodes[$int]"),
    (5, "branch", "break"),
    (2, "default", ""),
    (3, "asg", "$mapIteratorElem.index = 0"),
    (3, "ret", "")] :=
  FactsLookup.lookup_of_getElem? funcs_keys_nodup (i := 45) (by rfl)

/-- `MapIterator$moveStack` ↔ `iterMoveStack`: array / collision: `index < len-1` → index+1; bitmap: next child, `first()`; hashArray: `nextNonNil … (index+1)`, `first()`; value: pop -/
theorem skeleton_MapIterator_moveStack :
    funcs.lookup "MapIterator$moveStack" = some [
    (0, "for", "^depth >= 0; ^depth--"),
    (1, "asg", "$mapIteratorElem := &^stack[^depth]"),
    (1, "tswitch", "$mapIteratorElem.node.(type)"),
    (2, "case", "*mapArrayNode"),
    (3, "if", "$mapIteratorElem.index < (len($mapArrayNode.entries) - 1)"),
    (4, "asg", "$mapIteratorElem.index++"),
    (4, "ret", ""),
    (2, "case", "*mapBitmapIndexedNode"),
    (3, "if", "$mapIteratorElem.index < (len($mapBitmapIndexedNode.nodes) - 1)"),
    (4, "asg", "$mapIteratorElem.index++"),
    (4, "asg", "^stack[(^depth + 1)].node = $mapBitmapIndexedNode.nodes[$mapIteratorElem.index]"),
    (4, "asg", "^depth++"),
    (4, "call", "closure:first()"),
    (4, "ret", ""),
    (2, "case", "*mapHashArrayNode"),
    (3, "asg", "$int := $mapIteratorElem.index + 1"),
    (3, "for", "$int < len($mapHashArrayNode.nodes); $int++"),
    (4, "if", "$mapHashArrayNode.nodes[$int] != nil"),
    (5, "asg", "$mapIteratorElem.index = $int"),
    (5, "asg", "^stack[(^depth + 1)].node = $mapHashArrayNode.nodes[$mapIteratorElem.index]"),
    (5, "asg", "^depth++"),
    (5, "call", "closure:first()"),
    (5, "ret", ""),
    (2, "case", "*mapValueNode"),
    (3, "branch", "continue"),
    (2, "case", "*mapHashCollisionNode"),
    (3, "if", "$mapIteratorElem.index < (len($mapHashCollisionNode.entries) - 1)"),
    (4, "asg", "$mapIteratorElem.index++"),
    (4, "ret", "")] :=
  FactsLookup.lookup_of_getElem? funcs_keys_nodup (i := 46) (by rfl)

/-- `MapIterator$next` ↔ `MapIter.next`: empty → panic "next on empty"; entry of the leaf on top; `moveStack()` -/
theorem skeleton_MapIterator_next :
    funcs.lookup "MapIterator$next" = some [
    (0, "if", "!closure:hasNext()"),
    (1, "call", "panic(\"next on empty\")"),
    (0, "asg", "$mapIteratorElem := &^stack[^depth]"),
    (0, "tswitch", "$mapIteratorElem.node.(type)"),
    (1, "case", "*mapArrayNode"),
    (2, "asg", "$mapEntry := &$mapArrayNode.entries[$mapIteratorElem.index]"),
    (2, "asg", "$K, $V = $mapEntry.key, $mapEntry.value"),
    (1, "case", "*mapValueNode"),
    (2, "asg", "$K, $V = $mapValueNode.key, $mapValueNode.value"),
    (1, "case", "*mapHashCollisionNode"),
    (2, "asg", "$mapEntry := &$mapHashCollisionNode.entries[$mapIteratorElem.index]"),
    (2, "asg", "$K, $V = $mapEntry.key, $mapEntry.value"),
    (0, "call", "closure:moveStack()"),
    (0, "ret", "as.Tuple($K, $V)")] :=
  FactsLookup.lookup_of_getElem? funcs_keys_nodup (i := 47) (by rfl)

/-- `set.Contains` ↔ `SetMin.contains` -/
theorem skeleton_set_Contains :
    funcs.lookup "set.Contains" = some [
    (0, "ret", "recv.m.Get(v).IsDefined()")] :=
  FactsLookup.lookup_of_getElem? funcs_keys_nodup (i := 48) (by rfl)

/-- `set.Size` ↔ `SetMin.size` -/
theorem skeleton_set_Size :
    funcs.lookup "set.Size" = some [
    (0, "ret", "recv.m.Size()")] :=
  FactsLookup.lookup_of_getElem? funcs_keys_nodup (i := 49) (by rfl)

/-- `set.Iterator` ↔ `SetMin.iterList` -/
theorem skeleton_set_Iterator :
    funcs.lookup "set.Iterator" = some [
    (0, "asg", "^itr := recv.m.Iterator()"),
    (0, "ret", "fp.MakeIterator(closure:1, closure:2)")] :=
  FactsLookup.lookup_of_getElem? funcs_keys_nodup (i := 50) (by rfl)

/-- `set.Iterator$1` ↔ HasNext of the wrapped iterator -/
theorem skeleton_set_Iterator_1 :
    funcs.lookup "set.Iterator$1" = some [
    (0, "ret", "^itr.HasNext()")] :=
  FactsLookup.lookup_of_getElem? funcs_keys_nodup (i := 51) (by rfl)

/-- `set.Iterator$2` ↔ Next().I1 -/
theorem skeleton_set_Iterator_2 :
    funcs.lookup "set.Iterator$2" = some [
    (0, "ret", "^itr.Next().I1")] :=
  FactsLookup.lookup_of_getElem? funcs_keys_nodup (i := 52) (by rfl)

/-- `set.Incl` ↔ `SetMin.incl`: `Updated(v, true)` -/
theorem skeleton_set_Incl :
    funcs.lookup "set.Incl" = some [
    (0, "ret", "set{recv.m.Updated(v, true)}")] :=
  FactsLookup.lookup_of_getElem? funcs_keys_nodup (i := 53) (by rfl)

/-- `set.Excl` ↔ `SetMin.excl`: `Removed(v)` -/
theorem skeleton_set_Excl :
    funcs.lookup "set.Excl" = some [
    (0, "ret", "set{recv.m.Removed(v)}")] :=
  FactsLookup.lookup_of_getElem? funcs_keys_nodup (i := 54) (by rfl)

/-- `SetMinimal` ↔ `FSet.ofList`: MapBase over (v, true) -/
theorem skeleton_SetMinimal :
    funcs.lookup "SetMinimal" = some [
    (0, "asg", "$Seq := make(fp.Seq, len(v))"),
    (0, "range", "$int, $T := v"),
    (1, "asg", "$Seq[$int] = as.Tuple2($T, true)"),
    (0, "ret", "set{MapBase(hasher, $Seq...)}")] :=
  FactsLookup.lookup_of_getElem? funcs_keys_nodup (i := 56) (by rfl)

/-- `Set` ↔ `FSet.ofList` -/
theorem skeleton_Set :
    funcs.lookup "Set" = some [
    (0, "ret", "fp.MakeSet(closure:1, SetMinimal(hasher, v...))")] :=
  FactsLookup.lookup_of_getElem? funcs_keys_nodup (i := 57) (by rfl)

/-- `Set$1` ↔ the `getEmpty` closure (`EmptyFn.hamt`) -/
theorem skeleton_Set_1 :
    funcs.lookup "Set$1" = some [
    (0, "ret", "SetMinimal(hasher)")] :=
  FactsLookup.lookup_of_getElem? funcs_keys_nodup (i := 58) (by rfl)

/-- `setBuilder.Add` ↔ `SetBuilder.add`: `set(v, true, !r.shared)` -/
theorem skeleton_setBuilder_Add :
    funcs.lookup "setBuilder.Add" = some [
    (0, "asg", "recv.m = recv.m.set(v, true, !recv.shared)"),
    (0, "ret", "recv")] :=
  FactsLookup.lookup_of_getElem? funcs_keys_nodup (i := 59) (by rfl)

/-- `setBuilder.Build` ↔ `SetBuilder.build`: shared := true, hand out -/
theorem skeleton_setBuilder_Build :
    funcs.lookup "setBuilder.Build" = some [
    (0, "asg", "recv.shared = true"),
    (0, "ret", "fp.MakeSet(closure:1, set{recv.m})")] :=
  FactsLookup.lookup_of_getElem? funcs_keys_nodup (i := 60) (by rfl)

/-- `setBuilder.Build$1` ↔ the `getEmpty` closure -/
theorem skeleton_setBuilder_Build_1 :
    funcs.lookup "setBuilder.Build$1" = some [
    (0, "ret", "SetMinimal(recv.m.hasher)")] :=
  FactsLookup.lookup_of_getElem? funcs_keys_nodup (i := 61) (by rfl)

/-- `SetBuilder` ↔ `SetBuilder.new` -/
theorem skeleton_SetBuilder :
    funcs.lookup "SetBuilder" = some [
    (0, "ret", "&setBuilder{m: &hamt{hasher: hasher}}")] :=
  FactsLookup.lookup_of_getElem? funcs_keys_nodup (i := 62) (by rfl)

/-! ### (b'') the other branches of the MODEL with the operators and bounds of `expectedThresholds` -/

section model2
variable {K V : Type} (h : Hasher K)

/-- array node, key present: `entries.length == 1` → nil, else the entry is removed -/
theorem model_array_delete_last {es : List (K × V)} (k : K) (s : Nat) (kh : UInt32) (m r : Bool) {i : Nat}
    (hfound : indexOf h es k = some i) :
    (Node.array es).delete h k s kh m r =
      if es.length == 1 then pure (none, true) else pure (some (.array (es.take i ++ es.drop (i + 1))), true) := by
  simp [Node.delete, hfound]

/-- collision node, key present, not exactly 2 entries → stays a collision node -/
theorem model_collision_delete_two {es : List (K × V)} (nkh : UInt32) (k : K) (s : Nat) (kh : UInt32) (m r : Bool) {i : Nat}
    (hfound : indexOf h es k = some i) (hmany : es.length ≠ 2) :
    (Node.collision nkh es).delete h k s kh m r = pure (some (.collision nkh (es.take i ++ es.drop (i + 1))), true) := by
  simp [Node.delete, hfound, hmany]

/-- collision node, key present: `entries.length == 2` → value node of the OTHER entry (`idx ^^^ 1`) -/
theorem model_collision_delete_to_value {es : List (K × V)} (nkh : UInt32) (k : K) (s : Nat) (kh : UInt32) (m r : Bool) {i : Nat}
    {e : K × V} (hfound : indexOf h es k = some i) (htwo : es.length = 2) (he : es[i ^^^ 1]? = some e) :
    (Node.collision nkh es).delete h k s kh m r = pure (some (.value nkh e.1 e.2), true) := by
  simp [Node.delete, hfound, htwo, he]

/-- bitmap node, free slot: `> maxBitmapIndexedSize` children → hash-array node -/
theorem model_bitmap_promotes {bm : Nat} {nodes : List (Node K V)} (k : K) (v : V) (s : Nat) (kh : UInt32) (m r : Bool)
    (hfree : bm &&& (1 <<< frag kh s) = 0) (hfull : nodes.length > maxBitmapIndexedSize) :
    (Node.bitmap bm nodes).set h k v s kh m r = (do
      let (slots, count) ← bitmapToHashArray bm nodes
      pure (.hashArray (count + 1) (slots.set (frag kh s) (some (.value kh k v))), true)) := by
  simp [Node.set, Node.setCore, hfree, hfull]

/-- bitmap node, free slot: `≤ maxBitmapIndexedSize` children → stays a bitmap node (so the operator is `>`) -/
theorem model_bitmap_inserts {bm : Nat} {nodes : List (Node K V)} (k : K) (v : V) (s : Nat) (kh : UInt32) (m r : Bool)
    (hfree : bm &&& (1 <<< frag kh s) = 0) (hroom : nodes.length ≤ maxBitmapIndexedSize) :
    (Node.bitmap bm nodes).set h k v s kh m r =
      pure (.bitmap (bm ||| (1 <<< frag kh s))
        (nodes.take (popCount (bm &&& (1 <<< frag kh s - 1))) ++ Node.value kh k v :: nodes.drop (popCount (bm &&& (1 <<< frag kh s - 1)))), true) := by
  have : ¬ maxBitmapIndexedSize < nodes.length := by omega
  simp [Node.set, Node.setCore, hfree, this]

/-- hash-array node whose child disappears: `count ≤ maxBitmapIndexedSize` → back to a bitmap node -/
theorem model_hashArray_demotes {cnt : Nat} {nodes : List (Option (Node K V))} {child : Node K V} (k : K) (s : Nat) (kh : UInt32) (m r : Bool)
    (hslot : nodes[frag kh s]? = some (some child))
    (hgone : child.delete h k (s + mapNodeBits) kh m r = pure (none, true)) :
    (Node.hashArray cnt nodes).delete h k s kh m r =
      if cnt ≤ maxBitmapIndexedSize then pure (some (.bitmap (hashArrayToBitmap nodes (frag kh s)).1 (hashArrayToBitmap nodes (frag kh s)).2), true)
      else pure (some (.hashArray (cnt - 1) (nodes.set (frag kh s) none)), true) := by
  rw [Node.delete]
  split
  · rename_i hc
    rw [hslot] at hc
    cases hc
  · rename_i hc
    rw [hslot] at hc
    cases hc
  · rename_i c hc
    rw [hslot] at hc
    cases hc
    simp [hgone]

/-- bitmap node whose child disappears: `nodes.length == 1` → nil, else the slot and its bit are removed -/
theorem model_bitmap_delete_last {bm : Nat} {nodes : List (Node K V)} {child : Node K V} (k : K) (s : Nat) (kh : UInt32) (m r : Bool)
    (hset : bm &&& (1 <<< frag kh s) ≠ 0)
    (hslot : nodes[popCount (bm &&& (1 <<< frag kh s - 1))]? = some child)
    (hgone : child.delete h k (s + mapNodeBits) kh m r = pure (none, true)) :
    (Node.bitmap bm nodes).delete h k s kh m r =
      if nodes.length == 1 then pure (none, true)
      else pure (some (.bitmap (bm ^^^ (1 <<< frag kh s)) (nodes.take (popCount (bm &&& (1 <<< frag kh s - 1))) ++ nodes.drop (popCount (bm &&& (1 <<< frag kh s - 1)) + 1))), true) := by
  rw [Node.delete]
  simp only [hset, beq_iff_eq, ↓reduceIte]
  split
  · simp_all
  · rename_i c hc
    rw [hslot] at hc
    cases hc
    simp [hgone]

end model2

end FpVerif.Spec.C03Facts
