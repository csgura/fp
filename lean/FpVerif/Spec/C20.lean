import FpVerif.Lemmas.IterTerm
import FpVerif.Lemmas.IterPulled
import FpVerif.Spec.C12
/-!
# C20 — Iterator protocol is sound; Duplicate/Span/Partition survive any pull order

`Represents m s d r` ("from state `s`, having delivered `d`, iterator machine `m` yields exactly
`r`") is established for every library iterator in `Spec/C12.lean` (sources and combinators).
Here: what `Represents` gives to a client (every script of `HasNext`/`Next` calls observes the
list, in order, `HasNext` is idempotent and non-consuming, `Next` on the exhausted iterator
panics and keeps panicking), the zero value, and the two-sided iterators of
`Duplicate`/`Span`/`Partition` under EVERY interleaving of the four calls.  A later section lifts
all of it over the pipeline AST `Pipe` ("for every iterator the library returns"): `pipe_*`.

Pull counts (audit finding 19): `duplicate_pulls_once` / `duplicate_source_pulled_once`
(Duplicate), `span_source_pulled_exactly` / `span_pulls_exactly` (Span) and
`partition_source_pulled_exactly` / `partition_pulls_exactly` (Partition): after ANY interleaving the
shared source has delivered EXACTLY `max (consumed by left) (consumed by right)` elements.

Callbacks are arbitrary logging, non-panicking Go functions (`Total p g`: `p` returns `g a`
whatever the log is); element types, lists, scripts and logs are universally quantified.
-/
namespace FpVerif.Spec.C20
open FpVerif FpVerif.It

variable {σ α β : Type}

/-! ## one iterator, every call pattern -/

/-- Every script of `HasNext`/`Next` calls — repeated `HasNext`, `Next` without `HasNext`, calls
    past the end — observes exactly what the same script observes on the plain list, and leaves
    an iterator that represents the rest. -/
theorem script_observes_list (m : Machine σ α) (s : σ) (d r : List α) (h : Represents m s d r)
    (cs : List Call) (lg : Log) :
    (runScript m cs s lg).1.map Obs.erase = specScript cs r ∧
    ∃ d', Represents m (runScript m cs s lg).2.1 d' (specRest cs r) ∧ d' ++ specRest cs r = d ++ r := by
  obtain ⟨d', hobs, hR, hd⟩ := runScript_sim (Represents.sim m) cs s d r lg h
  exact ⟨hobs, d', hR, hd⟩

/-- `HasNext` answers whether elements remain, any number of times in a row, and consumes nothing. -/
theorem hasNext_idempotent (m : Machine σ α) (s : σ) (d r : List α) (h : Represents m s d r)
    (k : Nat) (lg : Log) :
    (runScript m (List.replicate k .H) s lg).1 = List.replicate k (.has (!r.isEmpty)) ∧
    ∃ d', Represents m (runScript m (List.replicate k .H) s lg).2.1 d' r := by
  induction k generalizing s lg with
  | zero => exact ⟨rfl, d, h⟩
  | succ k ih =>
    obtain ⟨s1, lg1, e1, hR1⟩ := (Represents.sim m).hasNext s d r lg h
    obtain ⟨ho, d', hR⟩ := ih s1 hR1 lg1
    simp only [List.replicate_succ, runScript, runCall, e1]
    exact ⟨by rw [ho], d', hR⟩

/-- `Next` after (any number of) `HasNext` returns the next element and only that one is consumed. -/
theorem next_returns_next (m : Machine σ α) (s : σ) (d : List α) (a : α) (r : List α)
    (h : Represents m s d (a :: r)) (k : Nat) (lg : Log) :
    ∃ s' lg', (runScript m (List.replicate k .H ++ [.N]) s lg) =
        (List.replicate k (.has true) ++ [.val a], s', lg') ∧ Represents m s' (d ++ [a]) r := by
  induction k generalizing s lg with
  | zero =>
    obtain ⟨s', lg', e, hR⟩ := (Represents.sim m).next_cons s d a r lg h
    exact ⟨s', lg', by simp [runScript, runCall, e], hR⟩
  | succ k ih =>
    obtain ⟨s1, lg1, e1, hR1⟩ := (Represents.sim m).hasNext s d (a :: r) lg h
    obtain ⟨s', lg', e, hR⟩ := ih s1 hR1 lg1
    refine ⟨s', lg', ?_, hR⟩
    simp only [List.replicate_succ, List.cons_append, runScript, runCall, e1, List.isEmpty_cons,
      Bool.not_false]
    rw [e]

/-- `Next` on the exhausted iterator panics — it fabricates no value — and the iterator stays
    exhausted: every later `HasNext` is false and every later `Next` panics. -/
theorem next_on_exhausted_panics (m : Machine σ α) (s : σ) (d : List α) (h : Represents m s d [])
    (cs : List Call) (lg : Log) :
    (runScript m cs s lg).1.map Obs.erase =
      cs.map (fun c => match c with | .H => .has false | .N => .panic "") := by
  obtain ⟨hobs, _⟩ := script_observes_list m s d [] h cs lg
  rw [hobs]
  have hspec : ∀ cs : List Call, specScript cs ([] : List α) =
      cs.map (fun c => match c with | .H => .has false | .N => .panic "") := by
    intro cs
    induction cs with
    | nil => rfl
    | cons c cs ih => cases c <;> simp [specScript, ih]
  exact hspec cs

/-! ## the zero value -/

/-- `fp.Iterator[T]{}` behaves as the empty iterator … -/
theorem zero_represents_nil : Represents (zero : Machine Unit α) () [] [] :=
  ⟨_, zero_sim, rfl⟩

example : Represents (empty : Machine Unit α) () [] [] := ⟨_, empty_sim, rfl⟩

/-- … in every method: each terminal operation gives on the zero value the result it gives on an
    empty iterator (`ToSeq` = [], `Count` = 0, `NextOption` = None, `IsEmpty`, `Exists` = false,
    `ForAll` = true, `Find` = None, `Foreach`/`All` call nothing, folds return `zero`). -/
theorem zero_methods (lg : Log) (fuel : Nat) (hf : 0 < fuel) :
    toSeq (zero : Machine Unit α) fuel [] () lg = (.ok [], (), lg) ∧
    count (zero : Machine Unit α) fuel 0 () lg = (.ok 0, (), lg) ∧
    nextOption (zero : Machine Unit α) () lg = (.ok none, (), lg) ∧
    isEmpty (zero : Machine Unit α) () lg = (.ok true, (), lg) ∧
    nonEmpty (zero : Machine Unit α) () lg = (.ok false, (), lg) ∧
    (∀ p : α → GoM Bool, «exists» p zero fuel () lg = (.ok false, (), lg)) ∧
    (∀ p : α → GoM Bool, forAll p zero fuel () lg = (.ok true, (), lg)) ∧
    (∀ p : α → GoM Bool, find p zero fuel () lg = (.ok none, (), lg)) ∧
    (∀ p : α → GoM Unit, foreach p zero fuel () lg = (.ok (), (), lg)) ∧
    (∀ p : α → GoM Bool, all p zero fuel () lg = (.ok (), (), lg)) ∧
    (∀ (f : β → α → GoM β) (z : β), fold f zero fuel z () lg = (.ok z, (), lg)) := by
  obtain ⟨k, rfl⟩ := Nat.exists_eq_succ_of_ne_zero (Nat.pos_iff_ne_zero.mp hf)
  refine ⟨rfl, rfl, rfl, rfl, rfl, fun _ => rfl, fun _ => rfl, fun _ => rfl, fun _ => rfl, fun _ => rfl,
    fun _ _ => rfl⟩

/-- combinators applied to the zero value see an empty iterator (instance: `Map`, `Take`). -/
theorem zero_under_combinators (f : α → GoM β) (g : α → β) (hf : Total f g) (n : Int) :
    Represents (map f (zero : Machine Unit α)) () [] [] ∧
    Represents (take n (zero : Machine Unit α)) ((), 0) [] [] :=
  ⟨⟨_, map_sim hf zero_sim, [], [], rfl, rfl, rfl⟩, ⟨_, take_sim n zero_sim, [], rfl, rfl, by simp⟩⟩

/-! ## Duplicate: two iterators over one source, any interleaving -/

/-- For EVERY interleaving `cs` of the four calls `LH`, `LN`, `RH`, `RN`, each side of
    `Duplicate(r)` observes the complete source sequence `l`, in order, exactly as if it were alone
    (`leftPart`/`rightPart` are the calls addressed to that side). -/
theorem duplicate_any_interleaving (m : Machine σ α) (s : σ) (l : List α) (h : Represents m s [] l)
    (cs : List Call2) (lg : Log) :
    (obsLeft (runScript2 (dupLeft m) (dupRight m) cs (s, {}) lg).1).map Obs.erase
        = specScript (Call2.leftPart cs) l ∧
    (obsRight (runScript2 (dupLeft m) (dupRight m) cs (s, {}) lg).1).map Obs.erase
        = specScript (Call2.rightPart cs) l := by
  have h2 := dup_sim2 (Represents.sim m)
  have h0 : dupRel (Represents m) (s, ({} : DupSt α)) [] l [] l := ⟨[], l, h, by simp [SideInv]⟩
  obtain ⟨_, _, hL, hR, _⟩ := runScript2_sim h2 cs (s, {}) [] l [] l lg h0
  exact ⟨hL, hR⟩

/-- Each source element is pulled exactly once, whatever the interleaving: on the instrumented
    slice source (whose state is its pull counter) the number of pulls after the script equals the
    number of elements obtained by the side that is further ahead — never more (no element is
    pulled twice, none is pulled that nobody asked for), and when both sides have been drained it
    is `xs.length`. -/
theorem duplicate_pulls_once (tag : Option (α → Event)) (xs : List α) (cs : List Call2) (lg : Log) :
    let fin := runScript2 (dupLeft (ofSeq tag xs)) (dupRight (ofSeq tag xs)) cs (0, {}) lg
    let gotL := xs.length - (specRest (Call2.leftPart cs) xs).length
    let gotR := xs.length - (specRest (Call2.rightPart cs) xs).length
    fin.2.1.1 = Nat.max gotL gotR := by
  intro fin gotL gotR
  obtain ⟨d, r, ⟨hle, hd, _⟩, _, hlen⟩ := duplicate_run (ofSeq_sim tag xs) 0 xs (ofSeqRel_zero xs) cs lg
  rw [hd, List.length_take, Nat.min_eq_left hle] at hlen
  exact hlen

/-! ## Span and Partition -/

/-- `Span(r, p)`: for every interleaving the left iterator observes `takeWhile p l` and the right
    one `dropWhile p l`. -/
theorem span_any_interleaving (p : α → GoM Bool) (g : α → Bool) (hp : Total p g)
    (m : Machine σ α) (s : σ) (l : List α) (h : Represents m s [] l) (fuel : Nat) (hfuel : l.length < fuel)
    (cs : List Call2) (lg : Log) :
    (obsLeft (runScript2 (spanLeft p m) (spanRight fuel p m) cs ((s, {}), {}, {}) lg).1).map Obs.erase
        = specScript (Call2.leftPart cs) (l.takeWhile g) ∧
    (obsRight (runScript2 (spanLeft p m) (spanRight fuel p m) cs ((s, {}), {}, {}) lg).1).map Obs.erase
        = specScript (Call2.rightPart cs) (l.dropWhile g) := by
  obtain ⟨hL, hR, _⟩ := span_run hp (Represents.sim m) s l h fuel hfuel cs lg _ rfl
  exact ⟨hL, hR⟩

/-- `Partition(r, p)`: for every interleaving the left iterator observes `filter p l` and the right
    one `filter (not ∘ p) l`. -/
theorem partition_any_interleaving (p : α → GoM Bool) (g : α → Bool) (hp : Total p g)
    (m : Machine σ α) (s : σ) (l : List α) (h : Represents m s [] l) (fuel : Nat) (hfuel : l.length < fuel)
    (cs : List Call2) (lg : Log) :
    (obsLeft (runScript2 (partitionLeft fuel p m) (partitionRight fuel p m) cs ((s, {}), {}, {}) lg).1).map Obs.erase
        = specScript (Call2.leftPart cs) (l.filter g) ∧
    (obsRight (runScript2 (partitionLeft fuel p m) (partitionRight fuel p m) cs ((s, {}), {}, {}) lg).1).map Obs.erase
        = specScript (Call2.rightPart cs) (l.filter (fun x => !g x)) := by
  obtain ⟨hL, hR, _⟩ := partition_run hp (Represents.sim m) s l h fuel hfuel cs lg _ rfl
  exact ⟨hL, hR⟩

/-! ### how many elements `Span` / `Partition` pull from the shared source

(Audit finding 19: `counter ≤ xs.length`, which is all `span_pulls_at_most_once` says, is
true of EVERY state of the slice source.)  Both sides of `Span` / `Partition` read the source
through the two ends of ONE `Duplicate`; the source therefore has delivered EXACTLY the elements
consumed by the side that is further ahead: `n = max cL cR`, where `cL` / `cR` are the numbers of
elements the left / right combinator has consumed so far — stated in terms of the combinators'
captured variables and of what the client has observed (`TakeWhileSt.look`, `DropWhilePulled`,
`FilterPulled` in `Lemmas/IterPulled.lean`).  No element is pulled twice, none that neither side
needed, none is withheld. -/

/-- `Span(r, p)`, any source, any interleaving: the shared source iterator has delivered exactly
    the first `n = max cL cR` elements of `l` and will deliver exactly the others, where
    * `cL = gotL + look`: the left side (`TakeWhile`) has consumed what it has delivered (`gotL`
      elements of `takeWhile p l`) plus the one element it holds (parked by `HasNext`, or the first
      failing element, which had to be pulled to be tested);
    * `cR` is what the right side (`DropWhile`) has consumed: once it has found the first failing
      element, `cR + |rest of the right side| = |l|` (`+ 1` while that element is parked in
      `first`); before that, the right side's rest is `dropWhile p (l.drop cR)`. -/
theorem span_source_pulled_exactly (p : α → GoM Bool) (g : α → Bool) (hp : Total p g)
    (m : Machine σ α) (s : σ) (l : List α) (h : Represents m s [] l) (fuel : Nat) (hfuel : l.length < fuel)
    (cs : List Call2) (lg : Log) :
    let fin := runScript2 (spanLeft p m) (spanRight fuel p m) cs ((s, {}), {}, {}) lg
    let restL := specRest (Call2.leftPart cs) (l.takeWhile g)
    let restR := specRest (Call2.rightPart cs) (l.dropWhile g)
    let gotL := (l.takeWhile g).length - restL.length
    ∃ cR, DropWhilePulled g l fin.2.1.2.2 cR restR ∧
      gotL + fin.2.1.2.1.look ≤ l.length ∧
      Represents m fin.2.1.1.1 (l.take (Nat.max (gotL + fin.2.1.2.1.look) cR))
        (l.drop (Nat.max (gotL + fin.2.1.2.1.look) cR)) := by
  intro fin restL restR gotL
  obtain ⟨_, _, d, r, cR, hRep, hdr, hP, hlen⟩ := span_run hp (Represents.sim m) s l h fuel hfuel cs lg fin rfl
  have hle : d.length ≤ l.length := by rw [← hdr, List.length_append]; exact Nat.le_add_right _ _
  rw [hlen] at hle
  obtain ⟨rfl, rfl⟩ := take_drop_of_append hdr hlen
  exact ⟨cR, hP, Nat.le_trans (Nat.le_max_left _ cR) hle, hRep⟩

/-- the same on the instrumented slice source, whose state IS its pull counter: the counter equals
    `max cL cR` exactly -/
theorem span_pulls_exactly (p : α → GoM Bool) (g : α → Bool) (hp : Total p g)
    (tag : Option (α → Event)) (xs : List α) (fuel : Nat) (hfuel : xs.length < fuel)
    (cs : List Call2) (lg : Log) :
    let fin := runScript2 (spanLeft p (ofSeq tag xs)) (spanRight fuel p (ofSeq tag xs)) cs ((0, {}), {}, {}) lg
    let restL := specRest (Call2.leftPart cs) (xs.takeWhile g)
    let restR := specRest (Call2.rightPart cs) (xs.dropWhile g)
    let gotL := (xs.takeWhile g).length - restL.length
    ∃ cR, DropWhilePulled g xs fin.2.1.2.2 cR restR ∧
      fin.2.1.1.1 = Nat.max (gotL + fin.2.1.2.1.look) cR := by
  intro fin restL restR gotL
  obtain ⟨_, _, d, r, cR, ⟨hle, hd, _⟩, _, hP, hlen⟩ :=
    span_run hp (ofSeq_sim tag xs) 0 xs (ofSeqRel_zero xs) fuel hfuel cs lg fin rfl
  rw [hd, List.length_take, Nat.min_eq_left hle] at hlen
  exact ⟨cR, hP, hlen⟩

/-- the instrumented source has handed out at most `xs.length` elements.  NOTE (audit finding 19):
    this bound alone holds in every state of the slice source; the pull-count statement is
    `span_pulls_exactly` / `span_source_pulled_exactly`. -/
theorem span_pulls_at_most_once (p : α → GoM Bool) (g : α → Bool) (hp : Total p g)
    (tag : Option (α → Event)) (xs : List α) (fuel : Nat) (hfuel : xs.length < fuel)
    (cs : List Call2) (lg : Log) :
    (runScript2 (spanLeft p (ofSeq tag xs)) (spanRight fuel p (ofSeq tag xs)) cs ((0, {}), {}, {}) lg).2.1.1.1
      ≤ xs.length := by
  obtain ⟨_, _, _, _, _, ⟨hle, _⟩, _⟩ := span_run hp (ofSeq_sim tag xs) 0 xs (ofSeqRel_zero xs) fuel hfuel cs lg _ rfl
  exact hle

/-- `Partition(r, p)`, any source, any interleaving: the shared source has delivered exactly the
    first `n = max cL cR` elements of `l`, where `cL` (`cR`) is what the left `Filter p` (right
    `FilterNot p`) has consumed: nothing before its first `HasNext`; then the shortest prefix of `l`
    containing one matching element more than that side has delivered (it sits on that element);
    or all of `l` once it has run off the end. -/
theorem partition_source_pulled_exactly (p : α → GoM Bool) (g : α → Bool) (hp : Total p g)
    (m : Machine σ α) (s : σ) (l : List α) (h : Represents m s [] l) (fuel : Nat) (hfuel : l.length < fuel)
    (cs : List Call2) (lg : Log) :
    let fin := runScript2 (partitionLeft fuel p m) (partitionRight fuel p m) cs ((s, {}), {}, {}) lg
    let restL := specRest (Call2.leftPart cs) (l.filter g)
    let restR := specRest (Call2.rightPart cs) (l.filter (fun x => !g x))
    ∃ cL cR dL' dR', dL' ++ restL = l.filter g ∧ dR' ++ restR = l.filter (fun x => !g x) ∧
      FilterPulled g l fin.2.1.2.1 cL dL' ∧ FilterPulled (fun x => !g x) l fin.2.1.2.2 cR dR' ∧
      Represents m fin.2.1.1.1 (l.take (Nat.max cL cR)) (l.drop (Nat.max cL cR)) := by
  intro fin restL restR
  obtain ⟨_, _, d, r, cL, cR, dL', dR', hRep, hdr, hdL, hdR, hL, hR, hlen⟩ :=
    partition_run hp (Represents.sim m) s l h fuel hfuel cs lg fin rfl
  obtain ⟨rfl, rfl⟩ := take_drop_of_append hdr hlen
  exact ⟨cL, cR, dL', dR', hdL, hdR, hL, hR, hRep⟩

/-- on the instrumented slice source: the pull counter is exactly `max cL cR` -/
theorem partition_pulls_exactly (p : α → GoM Bool) (g : α → Bool) (hp : Total p g)
    (tag : Option (α → Event)) (xs : List α) (fuel : Nat) (hfuel : xs.length < fuel)
    (cs : List Call2) (lg : Log) :
    let fin := runScript2 (partitionLeft fuel p (ofSeq tag xs)) (partitionRight fuel p (ofSeq tag xs)) cs
      ((0, {}), {}, {}) lg
    let restL := specRest (Call2.leftPart cs) (xs.filter g)
    let restR := specRest (Call2.rightPart cs) (xs.filter (fun x => !g x))
    ∃ cL cR dL' dR', dL' ++ restL = xs.filter g ∧ dR' ++ restR = xs.filter (fun x => !g x) ∧
      FilterPulled g xs fin.2.1.2.1 cL dL' ∧ FilterPulled (fun x => !g x) xs fin.2.1.2.2 cR dR' ∧
      fin.2.1.1.1 = Nat.max cL cR := by
  intro fin restL restR
  obtain ⟨_, _, d, r, cL, cR, dL', dR', ⟨hle, hd, _⟩, _, hdL, hdR, hL, hR, hlen⟩ :=
    partition_run hp (ofSeq_sim tag xs) 0 xs (ofSeqRel_zero xs) fuel hfuel cs lg fin rfl
  rw [hd, List.length_take, Nat.min_eq_left hle] at hlen
  exact ⟨cL, cR, dL', dR', hdL, hdR, hL, hR, hlen⟩

/-- `Partition`: never more pulls than elements (the weak bound, as a corollary) -/
theorem partition_pulls_at_most_once (p : α → GoM Bool) (g : α → Bool) (hp : Total p g)
    (tag : Option (α → Event)) (xs : List α) (fuel : Nat) (hfuel : xs.length < fuel)
    (cs : List Call2) (lg : Log) :
    (runScript2 (partitionLeft fuel p (ofSeq tag xs)) (partitionRight fuel p (ofSeq tag xs)) cs
      ((0, {}), {}, {}) lg).2.1.1.1 ≤ xs.length := by
  obtain ⟨cL, cR, _, _, _, _, hL, hR, hc⟩ := partition_pulls_exactly p g hp tag xs fuel hfuel cs lg
  rw [hc]
  exact Nat.max_le.mpr ⟨hL.1, hR.1⟩

/-- the exact statements are not the trivial bound: on `[1,2,3,4]` with `p = (< 3)`, after `LH` (left
    `HasNext`: one element pulled and parked) the source counter is 1 — not 0, not 4; after `RH`
    (right `HasNext`, which must skip 1, 2 and find 3) it is 3; `Partition` by evenness after `LH`
    (the left `Filter` runs to the first even element): 2. -/
example :
    (runScript2 (spanLeft (fun x : Nat => pure (x < 3)) (ofSeq none [1, 2, 3, 4]))
      (spanRight 10 (fun x : Nat => pure (x < 3)) (ofSeq none [1, 2, 3, 4])) [.LH] ((0, {}), {}, {}) []).2.1.1.1 = 1 := by
  decide +kernel

example :
    (runScript2 (spanLeft (fun x : Nat => pure (x < 3)) (ofSeq none [1, 2, 3, 4]))
      (spanRight 10 (fun x : Nat => pure (x < 3)) (ofSeq none [1, 2, 3, 4])) [.RH] ((0, {}), {}, {}) []).2.1.1.1 = 3 := by
  decide +kernel

example :
    (runScript2 (partitionLeft 10 (fun x : Nat => pure (x % 2 == 0)) (ofSeq none [1, 2, 3, 4]))
      (partitionRight 10 (fun x : Nat => pure (x % 2 == 0)) (ofSeq none [1, 2, 3, 4])) [.LH] ((0, {}), {}, {}) []).2.1.1.1 = 2 := by
  decide +kernel

/-! ## every iterator the library returns: quantifying over the pipeline AST

`Pipe` (`Model/IterPipe.lean`) is the AST of the iterator-producing library calls — ten sources
(`IteratorOfSeq` / `iterator.Of` / `FromSeq` / `FromSlice`, `Range` / `RangeClosed`, `IteratorOfOption`,
`Empty`, the zero value `Iterator[T]{}`, `ReverseSeq`, `MakePullIterator`, …) and fifteen combinators
(`Map`, `TapEach`, `Take`, `Drop`, `TakeWhile`, `DropWhile`, `Filter`, `FilterNot`, `Concat`, `FlatMap`,
`FilterMap`, `Scan`, `Zip`, `Zip3`, `ZipWithIndex`), nested arbitrarily, also inside `FlatMap` callbacks;
`Pipe.buildF` runs the constructors, `Pipe.machineF` is the iterator returned (these are the
definitions the oracle executes, with its fuel constant).  The theorems above are about any machine
that `Represents` a list; `C12.pipe_representsF` says every pipeline does (callbacks that do not panic:
`Pipe.WB`; any fuel above the explicit bound `Pipe.need`; lists of every length).  Put together, the
protocol statements of C20 hold FOR EVERY PIPELINE, at EVERY POINT of EVERY call history. -/

/-- For every pipeline and every call script: the script observes exactly what it observes on the
    list `Pipe.denote`, and leaves an iterator representing the rest. -/
theorem pipe_script_observes_list (p : Pipe) (x : Val) (hwb : p.WB x) (fuel : Nat) (hfuel : p.need x < fuel)
    (cs : List Call) (lg : Log) :
    ∃ s lg1, (p.buildF fuel x).run.run lg = (.ok s, lg1) ∧
      (runScript (Pipe.machineF fuel p) cs s lg1).1.map Obs.erase = specScript cs (p.denote x) ∧
      ∃ d', Represents (Pipe.machineF fuel p) (runScript (Pipe.machineF fuel p) cs s lg1).2.1 d'
          (specRest cs (p.denote x)) ∧ d' ++ specRest cs (p.denote x) = p.denote x := by
  obtain ⟨s, lg1, e, hR⟩ := C12.pipe_representsF p x hwb fuel hfuel lg
  obtain ⟨h1, d', h2, h3⟩ := script_observes_list _ s [] _ hR cs lg1
  exact ⟨s, lg1, e, h1, d', h2, by simpa using h3⟩

/-- For every pipeline, after ANY call history `cs`: `k` further `HasNext` calls all give the same
    answer — whether elements remain — and neither consume nor skip anything: the iterator still
    represents the same rest. -/
theorem pipe_hasNext_idempotent (p : Pipe) (x : Val) (hwb : p.WB x) (fuel : Nat) (hfuel : p.need x < fuel)
    (cs : List Call) (k : Nat) (lg : Log) :
    ∃ s lg1, (p.buildF fuel x).run.run lg = (.ok s, lg1) ∧
      let st := runScript (Pipe.machineF fuel p) cs s lg1
      let rest := specRest cs (p.denote x)
      (runScript (Pipe.machineF fuel p) (List.replicate k .H) st.2.1 st.2.2).1
          = List.replicate k (.has (!rest.isEmpty)) ∧
      ∃ d', Represents (Pipe.machineF fuel p)
        (runScript (Pipe.machineF fuel p) (List.replicate k .H) st.2.1 st.2.2).2.1 d' rest := by
  obtain ⟨s, lg1, e, _, d', hR, _⟩ := pipe_script_observes_list p x hwb fuel hfuel cs lg
  exact ⟨s, lg1, e, hasNext_idempotent _ _ d' _ hR k _⟩

/-- For every pipeline, after ANY call history `cs` that leaves `a :: r`: `Next` — after any number
    of `HasNext` calls, which all answer true — returns `a`, the next element, and only it is
    consumed. -/
theorem pipe_next_returns_next (p : Pipe) (x : Val) (hwb : p.WB x) (fuel : Nat) (hfuel : p.need x < fuel)
    (cs : List Call) (a : Val) (r : List Val) (hrest : specRest cs (p.denote x) = a :: r) (k : Nat) (lg : Log) :
    ∃ s lg1, (p.buildF fuel x).run.run lg = (.ok s, lg1) ∧
      let st := runScript (Pipe.machineF fuel p) cs s lg1
      ∃ s' lg' d', runScript (Pipe.machineF fuel p) (List.replicate k .H ++ [.N]) st.2.1 st.2.2 =
          (List.replicate k (.has true) ++ [.val a], s', lg') ∧
        Represents (Pipe.machineF fuel p) s' d' r := by
  obtain ⟨s, lg1, e, _, d', hR, _⟩ := pipe_script_observes_list p x hwb fuel hfuel cs lg
  rw [hrest] at hR
  obtain ⟨s', lg', e', hR'⟩ := next_returns_next _ _ d' a r hR k (runScript (Pipe.machineF fuel p) cs s lg1).2.2
  exact ⟨s, lg1, e, s', lg', _, e', hR'⟩

/-- For every pipeline: once a call history `cs` has exhausted it, `Next` panics — no value is
    fabricated — and it stays exhausted: in every continuation `cs2` every `HasNext` is false and
    every `Next` panics. -/
theorem pipe_next_on_exhausted_panics (p : Pipe) (x : Val) (hwb : p.WB x) (fuel : Nat) (hfuel : p.need x < fuel)
    (cs : List Call) (hrest : specRest cs (p.denote x) = []) (cs2 : List Call) (lg : Log) :
    ∃ s lg1, (p.buildF fuel x).run.run lg = (.ok s, lg1) ∧
      let st := runScript (Pipe.machineF fuel p) cs s lg1
      (runScript (Pipe.machineF fuel p) cs2 st.2.1 st.2.2).1.map Obs.erase =
        cs2.map (fun c => match c with | .H => .has false | .N => .panic "") := by
  obtain ⟨s, lg1, e, _, d', hR, _⟩ := pipe_script_observes_list p x hwb fuel hfuel cs lg
  rw [hrest] at hR
  exact ⟨s, lg1, e, next_on_exhausted_panics _ _ d' hR cs2 _⟩

/-- `Duplicate` over EVERY pipeline, every interleaving: each side observes the complete sequence
    `Pipe.denote`, in order. -/
theorem pipe_duplicate_any_interleaving (p : Pipe) (x : Val) (hwb : p.WB x) (fuel : Nat) (hfuel : p.need x < fuel)
    (cs : List Call2) (lg : Log) :
    ∃ s lg1, (p.buildF fuel x).run.run lg = (.ok s, lg1) ∧
      (obsLeft (runScript2 (dupLeft (Pipe.machineF fuel p)) (dupRight (Pipe.machineF fuel p)) cs (s, {}) lg1).1).map Obs.erase
          = specScript (Call2.leftPart cs) (p.denote x) ∧
      (obsRight (runScript2 (dupLeft (Pipe.machineF fuel p)) (dupRight (Pipe.machineF fuel p)) cs (s, {}) lg1).1).map Obs.erase
          = specScript (Call2.rightPart cs) (p.denote x) := by
  obtain ⟨s, lg1, e, hR⟩ := C12.pipe_representsF p x hwb fuel hfuel lg
  exact ⟨s, lg1, e, duplicate_any_interleaving _ s _ hR cs lg1⟩

/-- `Duplicate` pulls each element of its source exactly once, whatever the source and the
    interleaving: after the script the shared source iterator has delivered exactly the first
    `max gotL gotR` elements of `l` (the number obtained by the side that is further
    ahead) and will deliver exactly the others.  For every pipeline: `pipe_duplicate_pulls_once`. -/
theorem duplicate_source_pulled_once (m : Machine σ α) (s : σ) (l : List α) (h : Represents m s [] l)
    (cs : List Call2) (lg : Log) :
    let fin := runScript2 (dupLeft m) (dupRight m) cs (s, {}) lg
    let gotL := l.length - (specRest (Call2.leftPart cs) l).length
    let gotR := l.length - (specRest (Call2.rightPart cs) l).length
    Represents m fin.2.1.1 (l.take (Nat.max gotL gotR)) (l.drop (Nat.max gotL gotR)) := by
  intro fin gotL gotR
  obtain ⟨d, r, hRep, hdr, hlen⟩ := duplicate_run (Represents.sim m) s l h cs lg
  obtain ⟨rfl, rfl⟩ := take_drop_of_append hdr hlen
  exact hRep

theorem pipe_duplicate_pulls_once (p : Pipe) (x : Val) (hwb : p.WB x) (fuel : Nat) (hfuel : p.need x < fuel)
    (cs : List Call2) (lg : Log) :
    ∃ s lg1, (p.buildF fuel x).run.run lg = (.ok s, lg1) ∧
      let fin := runScript2 (dupLeft (Pipe.machineF fuel p)) (dupRight (Pipe.machineF fuel p)) cs (s, {}) lg1
      let l := p.denote x
      let n := Nat.max (l.length - (specRest (Call2.leftPart cs) l).length)
        (l.length - (specRest (Call2.rightPart cs) l).length)
      Represents (Pipe.machineF fuel p) fin.2.1.1 (l.take n) (l.drop n) := by
  obtain ⟨s, lg1, e, hR⟩ := C12.pipe_representsF p x hwb fuel hfuel lg
  exact ⟨s, lg1, e, duplicate_source_pulled_once _ s _ hR cs lg1⟩

/-- `Span` over EVERY pipeline, every interleaving (`sfuel`: the fuel of `Span`'s own `DropWhile`
    loop, any number above the length). -/
theorem pipe_span_any_interleaving (p : Pipe) (x : Val) (hwb : p.WB x) (fuel : Nat) (hfuel : p.need x < fuel)
    (f : Val → GoM Bool) (g : Val → Bool) (hf : Total f g) (sfuel : Nat) (hsfuel : (p.denote x).length < sfuel)
    (cs : List Call2) (lg : Log) :
    ∃ s lg1, (p.buildF fuel x).run.run lg = (.ok s, lg1) ∧
      (obsLeft (runScript2 (spanLeft f (Pipe.machineF fuel p)) (spanRight sfuel f (Pipe.machineF fuel p)) cs
          ((s, {}), {}, {}) lg1).1).map Obs.erase = specScript (Call2.leftPart cs) ((p.denote x).takeWhile g) ∧
      (obsRight (runScript2 (spanLeft f (Pipe.machineF fuel p)) (spanRight sfuel f (Pipe.machineF fuel p)) cs
          ((s, {}), {}, {}) lg1).1).map Obs.erase = specScript (Call2.rightPart cs) ((p.denote x).dropWhile g) := by
  obtain ⟨s, lg1, e, hR⟩ := C12.pipe_representsF p x hwb fuel hfuel lg
  exact ⟨s, lg1, e, span_any_interleaving f g hf _ s _ hR sfuel hsfuel cs lg1⟩

/-- `Partition` over EVERY pipeline, every interleaving. -/
theorem pipe_partition_any_interleaving (p : Pipe) (x : Val) (hwb : p.WB x) (fuel : Nat) (hfuel : p.need x < fuel)
    (f : Val → GoM Bool) (g : Val → Bool) (hf : Total f g) (sfuel : Nat) (hsfuel : (p.denote x).length < sfuel)
    (cs : List Call2) (lg : Log) :
    ∃ s lg1, (p.buildF fuel x).run.run lg = (.ok s, lg1) ∧
      (obsLeft (runScript2 (partitionLeft sfuel f (Pipe.machineF fuel p)) (partitionRight sfuel f (Pipe.machineF fuel p)) cs
          ((s, {}), {}, {}) lg1).1).map Obs.erase = specScript (Call2.leftPart cs) ((p.denote x).filter g) ∧
      (obsRight (runScript2 (partitionLeft sfuel f (Pipe.machineF fuel p)) (partitionRight sfuel f (Pipe.machineF fuel p)) cs
          ((s, {}), {}, {}) lg1).1).map Obs.erase = specScript (Call2.rightPart cs) ((p.denote x).filter (fun v => !g v)) := by
  obtain ⟨s, lg1, e, hR⟩ := C12.pipe_representsF p x hwb fuel hfuel lg
  exact ⟨s, lg1, e, partition_any_interleaving f g hf _ s _ hR sfuel hsfuel cs lg1⟩

/-- the same for the machines the oracle runs (`Pipe.machine` = `Pipe.machineF FUEL`, hypothesis
    `Pipe.OK`): every script on every pipeline observes the list. -/
theorem pipe_script_observes_list_oracle (p : Pipe) (x : Val) (hok : p.OK x) (cs : List Call) (lg : Log) :
    ∃ s lg1, (p.build x).run.run lg = (.ok s, lg1) ∧
      (runScript (Pipe.machine p) cs s lg1).1.map Obs.erase = specScript cs (p.denote x) ∧
      ∃ d', Represents (Pipe.machine p) (runScript (Pipe.machine p) cs s lg1).2.1 d'
          (specRest cs (p.denote x)) ∧ d' ++ specRest cs (p.denote x) = p.denote x := by
  obtain ⟨hwb, hneed⟩ := (Pipe.OK_iff p x).mp hok
  exact pipe_script_observes_list p x hwb FUEL hneed cs lg

/-- the hypotheses are satisfiable, and the statement is not empty: `Filter` over `Concat` over the
    zero value and a slice of ANY length `n`. -/
example (n : Nat) (x : Val) :
    (Pipe.filter (.concat .zero (.seq ((List.range n).map (fun (i : Nat) => Val.int i)))) (fun _ => pure true)).WB x ∧
    (Pipe.filter (.concat .zero (.seq ((List.range n).map (fun (i : Nat) => Val.int i)))) (fun _ => pure true)).need x = n := by
  refine ⟨⟨⟨trivial, trivial⟩, LL.Total.pure1 (total_pure (fun _ => true))⟩, ?_⟩
  show Max.max (Max.max 0 0) _ = n
  simp [Pipe.denote]

/-! ## hypotheses are satisfiable -/

example : Total (fun (x : Int) => (do emit s!"p:{x}"; pure (decide (x < 3)) : GoM Bool)) (fun x => decide (x < 3)) :=
  total_emit _ _

example : Represents (ofSeq none [1, 2, 3]) 0 [] [1, 2, 3] :=
  ⟨_, ofSeq_sim none [1, 2, 3], ofSeqRel_zero _⟩

end FpVerif.Spec.C20
