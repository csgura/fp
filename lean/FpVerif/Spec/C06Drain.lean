import FpVerif.Lemmas.FutDrain
import FpVerif.Spec.C06Live
/-!
# C06 — "always complete": the task queue of the future network always drains

`Spec/C06Live.lean` shows: whenever the queue is EMPTY every promise holds exactly what its expression
determines.  What is needed in addition for "the derived future completes … as soon as the sources that evaluation
depends on are complete" is that the queue DOES become empty: that callback chains terminate.  This file
proves it, with no assumption on the net other than that it was reached from the initial one by scheduler
events (any events, not even `Valid` ones):

* `runs_terminate`        — every sequence of task runs from a reachable net is finite (`Acc`), hence
* `no_infinite_run`       — there is no infinite sequence of task runs, whatever the executor picks;
* `drains`                — a schedule of task runs that empties the queue exists (run the first task until none is left), and
  `any_strategy_drains`   — EVERY strategy that keeps picking an existing task empties it after finitely many steps;
* `eventually_exact`      — from every reachable state of a valid run, letting the executor work off the queue (no further
                             source completes, nothing new is constructed) ends, and ends in the state where every promise
                             holds exactly the three-valued value of its expression (`exact_at_quiescence`).

The termination argument (`Lemmas/FutDrain.lean`) is a multiset ("hydra") ordering: a task either completes a
promise — which only MOVES registered callbacks into the pool — or applies ONE continuation to ONE value and
builds the resulting expression, all of whose continuations are structural sub-terms of the one consumed.
`FExpr` is infinitely branching, so no natural-number measure exists; well-foundedness of the multiset
extension is Mathlib's `WellFounded.cutExpand` (`Lemmas/FutDrain.lean` is the only file that imports Mathlib;
axioms: propext, Classical.choice, Quot.sound).

Audit finding 1: `Valid` includes the well-formedness side condition (`EvOK`: a source is never completed
with `Try{}` / `Failure(nil)`, every constructed program is `WFE` — Lemmas/FutWF.lean).  `eventually_exact` takes
`Valid` as hypothesis, so it does not speak about runs in which a task of the Go code would panic in
`t.Failed().Get()` and leave its promise pending (`C06.illformed_source_excluded`); along a valid run no ill-formed Try
ever exists (`C06.wellformed_every_schedule`).
-/
namespace FpVerif.Spec.C06
open FpVerif FpVerif.Fut FpVerif.Fut.Drain

/-- Every sequence of task runs that starts in a net reachable from `nsrc` pending sources by ANY events is finite. -/
theorem runs_terminate (nsrc : Nat) (evs : List Ev) : Acc RunRel (runEvs (Net.empty nsrc) evs) :=
  acc_runRel _ (supp_runEvs evs _ (supp_empty nsrc))

/-- … there is no infinite run of the executor. -/
theorem no_infinite_run (nsrc : Nat) (evs : List Ev) :
    ¬ ∃ f : Nat → Net, f 0 = runEvs (Net.empty nsrc) evs ∧ ∀ k, RunRel (f (k + 1)) (f k) := by
  rintro ⟨f, h0, hf⟩
  have key : ∀ n, Acc RunRel n → ∀ k, f k = n → False := by
    intro n hacc
    induction hacc with
    | intro n _ ih => intro k hk; exact ih (f (k + 1)) (hk ▸ hf k) (k + 1) rfl
  exact key _ (runs_terminate nsrc evs) 0 h0

/-- a strategy: which queued task the executor runs next (any function of the whole net) -/
def follow (pick : Net → Nat) : Nat → Net → Net
  | 0, n => n
  | k + 1, n => follow pick k (step n (.run (pick n)))

/-- Every strategy that always picks an existing task while there is one empties the queue after finitely many steps. -/
theorem any_strategy_drains_acc (pick : Net → Nat) (hpick : ∀ n : Net, n.pool ≠ [] → pick n < n.pool.length)
    (n : Net) (h : Acc RunRel n) : ∃ k, (follow pick k n).pool = [] := by
  induction h with
  | intro n _ ih =>
    by_cases hp : n.pool = []
    · exact ⟨0, hp⟩
    · obtain ⟨k, hk⟩ := ih _ ⟨pick n, _, List.getElem?_eq_getElem (hpick n hp), rfl⟩
      exact ⟨k + 1, hk⟩

theorem any_strategy_drains (nsrc : Nat) (evs : List Ev) (pick : Net → Nat)
    (hpick : ∀ n : Net, n.pool ≠ [] → pick n < n.pool.length) :
    ∃ k, (follow pick k (runEvs (Net.empty nsrc) evs)).pool = [] :=
  any_strategy_drains_acc pick hpick _ (runs_terminate nsrc evs)

/-- the events a strategy produces -/
def followEvs (pick : Net → Nat) : Nat → Net → List Ev
  | 0, _ => []
  | k + 1, n => .run (pick n) :: followEvs pick k (step n (.run (pick n)))

theorem follow_eq_runEvs (pick : Net → Nat) : ∀ (k : Nat) (n : Net), follow pick k n = runEvs n (followEvs pick k n) := by
  intro k
  induction k with
  | zero => intro n; rfl
  | succ k ih => intro n; simp [follow, followEvs, runEvs, ih]

theorem followEvs_runs (pick : Net → Nat) : ∀ (k : Nat) (n : Net), ∀ ev ∈ followEvs pick k n, ∃ i, ev = .run i := by
  intro k
  induction k with
  | zero => intro n ev h; cases h
  | succ k ih =>
    intro n ev h
    rcases List.mem_cons.1 h with rfl | h
    · exact ⟨_, rfl⟩
    · exact ih _ ev h

theorem follow_runEvs (pick : Net → Nat) (k : Nat) (n : Net) (evs : List Ev) :
    follow pick k (runEvs n evs) = runEvs n (evs ++ followEvs pick k (runEvs n evs)) := by
  rw [follow_eq_runEvs, runEvs_append]

/-- A schedule of task runs that empties the queue exists from every reachable net. -/
theorem drains (nsrc : Nat) (evs : List Ev) :
    ∃ runs : List Ev, (∀ ev ∈ runs, ∃ i, ev = .run i) ∧ (runEvs (Net.empty nsrc) (evs ++ runs)).pool = [] := by
  obtain ⟨k, hk⟩ := any_strategy_drains nsrc evs (fun _ => 0) (fun n hn => List.length_pos_iff.2 hn)
  rw [follow_runEvs] at hk
  exact ⟨_, followEvs_runs _ k _, hk⟩

theorem valid_append_runs (nsrc : Nat) : ∀ (evs : List Ev) (n : Net) (runs : List Ev),
    Valid nsrc n evs → (∀ ev ∈ runs, ∃ i, ev = .run i) → Valid nsrc n (evs ++ runs) := by
  intro evs
  induction evs with
  | nil =>
    intro n runs _ hr
    clear * - hr
    induction runs generalizing n with
    | nil => trivial
    | cons r rs ih =>
      obtain ⟨⟨i, rfl⟩, hrs⟩ := List.forall_mem_cons.1 hr
      exact ⟨trivial, ih _ hrs⟩
  | cons ev evs ih =>
    intro n runs hv hr
    exact ⟨hv.1, ih _ runs hv.2 hr⟩

/-- **Always complete.**  After any valid run (program constructs first-order futures, environment completes
    sources, executor runs tasks — in any order), if from then on the executor just works off its queue, in
    WHATEVER order, it gets done after finitely many tasks, and then every promise holds exactly the
    three-valued value of its expression over the statuses: each derived future whose expression is determined
    by the sources completed so far IS completed, with that value. -/
theorem eventually_exact (nsrc : Nat) (evs : List Ev) (hv : Valid nsrc (Net.empty nsrc) evs)
    (pick : Net → Nat) (hpick : ∀ n : Net, n.pool ≠ [] → pick n < n.pool.length) :
    ∃ k, let n := follow pick k (runEvs (Net.empty nsrc) evs)
      n.pool = [] ∧ ∀ p, p < n.next → n.status p = evalS n.status (n.spec p) := by
  obtain ⟨k, hk⟩ := any_strategy_drains nsrc evs pick hpick
  refine ⟨k, hk, ?_⟩
  intro p hp
  rw [follow_runEvs] at hk hp ⊢
  exact exact_at_quiescence nsrc _ (valid_append_runs nsrc evs _ _ hv (followEvs_runs pick k _)) hk p hp

/-- non-vacuity: a reachable net with three queued tasks; the "always the last task" strategy empties it. -/
example :
    let evs : List Ev := [.mk (Fut.map2 0 1 (fun x y => (.tup [x, y], []))), .obs 0 7, .obs 1 8,
                          .src 1 (.success (.int 5)), .src 0 (.success (.int 4))]
    (runEvs (Net.empty 2) evs).pool.length = 3 ∧
    (follow (fun n => n.pool.length - 1) 6 (runEvs (Net.empty 2) evs)).pool = [] ∧
    (follow (fun n => n.pool.length - 1) 6 (runEvs (Net.empty 2) evs)).status 2 = some (.success (.tup [.int 4, .int 5])) := by
  refine ⟨rfl, rfl, rfl⟩

end FpVerif.Spec.C06
