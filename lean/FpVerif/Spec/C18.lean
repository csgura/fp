import FpVerif.Lemmas.CloneHeap
/-!
# C18 — Clone instances produce equal copies that share no mutable storage.

For every instance expression `i` built from the clone package's combinators (any nesting), every
heap `h` and every value `v` that is a well-formed inhabitant of `i`'s type in `h` — including nil
pointers/slices/maps, empty containers and values whose parts alias one another:

* `clone_frame`        the heap only grows: every existing cell is left as it was;
* `clone_deep_equal`   the clone reads exactly like the original (structural equality of the two
                       reachable graphs; a nil and an empty slice/map view alike);
* `clone_fresh` / `clone_disjoint`   every mutable cell (pointer target, slice backing array, Go
                       map) reachable from the clone was allocated by `Clone`; none is reachable from
                       the original;
* `mutate_clone_keeps_original` / `mutate_original_keeps_clone`   hence writing — through any
                       path — to cells reachable from one never changes what the other reads.

`ptrAsIs_shares` refutes the property for `clone.Ptr` as it was before fix ddaa598 (defect D9).
-/
namespace FpVerif.Spec.C18
open FpVerif.CloneHeap

/-- The central invariant, for every instance expression as the property demands them. -/
theorem clone_ok : ∀ (i : Inst), i.asDemanded → ∀ (v : Val) (h : Heap), WT i.ty h v → StepOK i.ty (clone i) v h := by
  intro i
  induction i with
  | given | hnil =>
    intro _ v h hw
    cases hw.shape
    exact stepOK_same rfl hw rfl
  | ptrAsIs e _ => exact fun hd => hd.elim
  | ptr e ih => exact fun hd v h hw => stepOK_ptr (ih hd) hw
  | slice e ih => exact fun hd v h hw => stepOK_slice (ih hd) hw
  | seq e ih => exact fun hd v h hw => clone_seq ▸ stepOK_slice (ih hd) hw
  | gomap k v ihk ihv => exact fun hd x h hw => stepOK_map (ihk hd.1) (ihv hd.2) hw
  | option e ih => exact fun hd v h hw => stepOK_option (ih hd) hw
  | pair i j ihi ihj => exact fun hd v h hw => stepOK_pair (ihi hd.1) (ihj hd.2) hw
  | generic e ih =>
    intro hd v h hw
    have s := ih hd v h hw
    exact ⟨s.ext, s.wt, s.view, s.fresh⟩

section
variable (i : Inst) (hd : i.asDemanded) (v : Val) (h : Heap) (hw : WT i.ty h v)
include hd hw

/-- `Clone` writes to no existing cell: the old heap is a prefix of the new one. -/
theorem clone_frame : ∃ ext, (clone i v h).2 = h ++ ext := (clone_ok i hd v h hw).ext

/-- … so the original still is the same well-formed value, reads the same and reaches the same cells. -/
theorem clone_keeps_original :
    WT i.ty (clone i v h).2 v ∧ view i.ty (clone i v h).2 v = view i.ty h v ∧
    reach i.ty (clone i v h).2 v = reach i.ty h v := by
  obtain ⟨e, he⟩ := clone_frame i hd v h hw
  obtain ⟨e1, e2, hw'⟩ := hw.mono ⟨e, he.symm⟩
  exact ⟨hw', e1, e2⟩

/-- The clone is a well-formed value of the same type … -/
theorem clone_wellformed : WT i.ty (clone i v h).2 (clone i v h).1 := (clone_ok i hd v h hw).wt

/-- … structurally equal to the original. -/
theorem clone_deep_equal : view i.ty (clone i v h).2 (clone i v h).1 = view i.ty h v := (clone_ok i hd v h hw).view

/-- Every mutable cell reachable from the clone is new. -/
theorem clone_fresh : ∀ a ∈ reach i.ty (clone i v h).2 (clone i v h).1, h.length ≤ a := (clone_ok i hd v h hw).fresh

/-- No pointer target, slice backing array or Go map is reachable from both. -/
theorem clone_disjoint : ∀ a, a ∈ reach i.ty (clone i v h).2 v → a ∉ reach i.ty (clone i v h).2 (clone i v h).1 := by
  intro a ha hb
  rw [(clone_keeps_original i hd v h hw).2.2] at ha
  have h1 := reach_lt hw a ha
  have h2 := clone_fresh i hd v h hw a hb
  omega

/-- Mutating the clone through any path (any change of cells that did not exist before `Clone`, in
    particular of every cell reachable from the clone) never changes the original. -/
theorem mutate_clone_keeps_original (h2 : Heap) (hsame : ∀ a, a < h.length → h2[a]? = (clone i v h).2[a]?) :
    view i.ty h2 v = view i.ty h v ∧ WT i.ty h2 v := by
  have hk := clone_keeps_original i hd v h hw
  have := local_eq (h1 := (clone i v h).2) (h2 := h2) hk.1 fun a ha => by
    rw [hk.2.2] at ha
    exact hsame a (reach_lt hw a ha)
  exact ⟨this.1.trans hk.2.1, this.2.2⟩

/-- Mutating the original through any path (any change of the cells that existed before `Clone`)
    never changes the clone. -/
theorem mutate_original_keeps_clone (h2 : Heap) (hsame : ∀ a, h.length ≤ a → h2[a]? = (clone i v h).2[a]?) :
    view i.ty h2 (clone i v h).1 = view i.ty h v ∧ WT i.ty h2 (clone i v h).1 := by
  have s := clone_ok i hd v h hw
  have := local_eq (h1 := (clone i v h).2) (h2 := h2) s.wt fun a ha => hsame a (s.fresh a ha)
  exact ⟨this.1.trans s.view, this.2.2⟩

end

-- ---------------------------------------------------------------------------------- non-vacuity

/-- a pointer to a slice of pointers, two of which are the same pointer (internal aliasing), one nil -/
def exHeap : Heap := [.box (.int 7), .arr [.ptr 0, .ptr 0, .nilptr], .box (.slice 1 3)]
def exInst : Inst := .ptr (.slice (.ptr .given))

example : WT exInst.ty exHeap (.ptr 2) := by
  simp [exInst, Inst.ty, WT, exHeap]

example : exInst.asDemanded := by simp [exInst, Inst.asDemanded]

example : (clone exInst (.ptr 2) exHeap).1 = .ptr 6 ∧
    reach exInst.ty (clone exInst (.ptr 2) exHeap).2 (clone exInst (.ptr 2) exHeap).1 = [6, 5, 3, 4] := by
  decide

-- ---------------------------------------------------------------------------------- the library before fix ddaa598

/-- D9: `clone.Ptr` as written before fix ddaa598 ignores its element instance (`var t = *pt; return &t`): for a
    pointer to a slice the copy of the pointee still refers to the original's backing array. -/
theorem ptrAsIs_shares :
    ∃ (i : Inst) (h : Heap) (v : Val), WT i.ty h v ∧
      ∃ a, a ∈ reach i.ty (clone i v h).2 v ∧ a ∈ reach i.ty (clone i v h).2 (clone i v h).1 :=
  ⟨.ptrAsIs (.slice .given), [.arr [.int 1], .box (.slice 0 1)], .ptr 1,
    by simp [Inst.ty, WT], 0, by decide, by decide⟩

end FpVerif.Spec.C18
