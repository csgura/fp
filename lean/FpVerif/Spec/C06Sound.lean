import FpVerif.Spec.C06
import FpVerif.Lemmas.FutWF
import FpVerif.Model.TryOpt
/-!
# C06 (part 2) — soundness of the future network for every schedule

`Sound n`: every completed promise of the network holds exactly the value its construction
expression evaluates to (three-valued fp.Try semantics `evalS`) over the statuses of the handles
it refers to **in that very state**.  Hence a derived future never completes *earlier* than the
sources its value depends on, and never with a *different* value, whatever the order in which sources
complete, pooled tasks run and further futures are constructed.

Scope: first-order expressions (`FO`): no futures of futures (`successfulOf`, i.e. `Flatten`/`LiftM`);
those are covered by `Spec/C06HO.lean`.

Side condition (audit finding 1): the executable model is TOTAL on the ill-formed Try `failure .nil`
(`fp.Try[T]{}`, `Failure(nil)`), where a Go task panics in `t.Failed().Get()` and never completes its promise.
`EvOK` / `Valid` therefore require `WFTry` of every source result and `WFE` of every constructed program
(`Lemmas/FutWF.lean`); `wellformed_every_schedule` proves that then no ill-formed Try ever exists in the network;
`illformed_source_excluded` / `illformed_failed_excluded` exhibit the excluded runs, where the model's answer
`some (.failure .nil)` is NOT what the code does (Go replay: harness/cmd/c06illformed).
-/
namespace FpVerif.Spec.C06
open FpVerif FpVerif.Fut

/-- first-order construction programs whose handles are all below `b` (i.e. exist), hereditarily
    through every user function: no futures of futures, no dangling handles -/
inductive FO (b : Nat) : FExpr → Prop where
  | ref (p : Nat) : p < b → FO b (.ref p)
  | successful (v : Val) : FO b (.successful v)
  | failed (e : Err) : FO b (.failed e)
  | logged (evs : List Event) (e : FExpr) : FO b e → FO b (.logged evs e)
  | flatMap (e : FExpr) (k : Val → FExpr) : FO b e → (∀ v, FO b (k v)) → FO b (.flatMap e k)
  | transform (e : FExpr) (f : Try Val → W (Try Val)) : FO b e → FO b (.transform e f)
  | transformWith (e : FExpr) (k : Try Val → FExpr) : FO b e → (∀ t, FO b (k t)) → FO b (.transformWith e k)
  | recoverWith (e : FExpr) (d : Err → Bool) (k : Err → FExpr) : FO b e → (∀ x, FO b (k x)) → FO b (.recoverWith e d k)
  | orFuture (e alt : FExpr) : FO b e → FO b alt → FO b (.orFuture e alt)
  | apply (f : Unit → W (Try Val)) : FO b (.apply f)

theorem FO.mono {b b' : Nat} (h : b ≤ b') {e : FExpr} (he : FO b e) : FO b' e := by
  induction he with
  | ref p hp => exact .ref p (Nat.lt_of_lt_of_le hp h)
  | successful v => exact .successful v
  | failed x => exact .failed x
  | logged evs e _ ih => exact .logged evs e ih
  | flatMap e k _ _ ihe ihk => exact .flatMap e k ihe ihk
  | transform e f _ ih => exact .transform e f ih
  | transformWith e k _ _ ihe ihk => exact .transformWith e k ihe ihk
  | recoverWith e d k _ _ ihe ihk => exact .recoverWith e d k ihe ihk
  | orFuture e alt _ _ ihe iha => exact .orFuture e alt ihe iha
  | apply f => exact .apply f

def Sound (n : Net) : Prop :=
  ∀ p v, n.status p = some v → evalS n.status (n.spec p) = some v

/-- `q` is the handle that building `e` yielded (as recorded in the ghost specs); every promise the
    construction allocated (every node that is not a mere reference) has an index `≥ lo` -/
def RootOf (n : Net) (lo : Nat) : Nat → FExpr → Prop
  | q, .ref p => q = p
  | q, .successful v => lo ≤ q ∧ q < n.next ∧ n.spec q = .successful v
  | q, .failed e => lo ≤ q ∧ q < n.next ∧ n.spec q = .failed e
  | _, .successfulOf _ => False
  | q, .logged _ e => RootOf n lo q e
  | q, .flatMap e k => ∃ p, RootOf n lo p e ∧ lo ≤ q ∧ q < n.next ∧ n.spec q = .flatMap (.ref p) k
  | q, .transform e f => ∃ p, RootOf n lo p e ∧ lo ≤ q ∧ q < n.next ∧ n.spec q = .transform (.ref p) f
  | q, .transformWith e k => ∃ p, RootOf n lo p e ∧ lo ≤ q ∧ q < n.next ∧ n.spec q = .transformWith (.ref p) k
  | q, .recoverWith e d k => ∃ p, RootOf n lo p e ∧ lo ≤ q ∧ q < n.next ∧ n.spec q = .recoverWith (.ref p) d k
  | q, .orFuture e alt => ∃ p a, RootOf n lo p e ∧ RootOf n lo a alt ∧ lo ≤ q ∧ q < n.next ∧ n.spec q = .orFuture (.ref p) (.ref a)
  | q, .apply f => lo ≤ q ∧ q < n.next ∧ n.spec q = .apply f

/-- The root handle of `e` relates to what `e` evaluates to like the promises the construction allocated relate to what
    their recorded expressions evaluate to: `e` is the recorded expression of the root with every child handle replaced
    by the child's expression, and the operators of `evalS` respect `R`. -/
theorem root_rel {R : Option (Try Val) → Option (Try Val) → Prop} (hR : ERel R) (n : Net) (σ : Nat → Option (Try Val))
    (lo : Nat) (hG : ∀ p, lo ≤ p → p < n.next → R (σ p) (evalS σ (n.spec p))) (e : FExpr) :
    ∀ q, RootOf n lo q e → R (σ q) (evalS σ e) := by
  have node : ∀ {q : Nat} {sp : FExpr}, lo ≤ q ∧ q < n.next ∧ n.spec q = sp → R (σ q) (evalS σ sp) :=
    fun hn => hn.2.2 ▸ hG _ hn.1 hn.2.1
  induction e with
  | ref p => intro q hr; cases hr; exact hR.refl _
  | successful v => intro q hr; exact node hr
  | failed x => intro q hr; exact node hr
  | successfulOf e _ => intro q hr; exact hr.elim
  | logged evs e ih => exact ih
  | flatMap e k ihe _ =>
    intro q ⟨p, hp, hn⟩
    exact hR.trans (node hn) (hR.bind (ihe p hp) (fun _ => hR.refl _))
  | transform e f ih =>
    intro q ⟨p, hp, hn⟩
    exact hR.trans (node hn) (hR.map _ (ih p hp))
  | transformWith e k ihe _ =>
    intro q ⟨p, hp, hn⟩
    exact hR.trans (node hn) (hR.bindTry (ihe p hp) (fun _ => hR.refl _))
  | recoverWith e d k ihe _ =>
    intro q ⟨p, hp, hn⟩
    refine hR.trans (node hn) ?_
    simp only [evalS]
    exact hR.bindTry (ihe p hp) (fun _ => hR.refl _)
  | orFuture e alt ihe iha =>
    intro q ⟨p, a, hp, ha, hn⟩
    refine hR.trans (node hn) (hR.bindTry (ihe p hp) (fun t => ?_))
    cases t with
    | success v => exact hR.refl _
    | failure err => exact iha a ha
  | apply f => intro q hr; exact node hr

/-- in a sound network the root handle of `e`, once completed, holds what `e` evaluates to -/
theorem root_sound (n : Net) (hs : Sound n) (lo : Nat) (e : FExpr) (q : Nat) (r : Try Val)
    (hr : RootOf n lo q e) (hq : n.status q = some r) : evalS n.status e = some r :=
  root_rel erel_below n n.status lo (fun p _ _ v hp => hs p v hp) e q hr r hq

/-- `n'` is a later state of `n`: more promises, the old ones keep their spec and what they completed with -/
structure Le (n n' : Net) : Prop where
  next : n.next ≤ n'.next
  spec : ∀ p, p < n.next → n'.spec p = n.spec p
  status : Ext n.status n'.status

theorem Le.refl (n : Net) : Le n n := ⟨Nat.le_refl _, fun _ _ => rfl, fun _ _ h => h⟩

theorem Le.trans {a b c : Net} (h1 : Le a b) (h2 : Le b c) : Le a c :=
  ⟨Nat.le_trans h1.next h2.next,
   fun p hp => by rw [h2.spec p (Nat.lt_of_lt_of_le hp h1.next), h1.spec p hp],
   fun p v h => h2.status p v (h1.status p v h)⟩

/-- whatever completes later, `np`'s expression evaluates like `e` -/
def Justifies (n : Net) (np : Nat) (e : FExpr) : Prop :=
  ∀ σ', Ext n.status σ' → evalS σ' (n.spec np) = evalS σ' e

/-- what a callback registered on (or a task carrying the result of) promise `q` is entitled to do -/
def CbOK (n : Net) (q : Nat) : CB → Prop
  | .flatMapA k np => np < n.next ∧ n.spec np = .flatMap (.ref q) k ∧ ∀ v, FO n.next (k v)
  | .completeWith np => np < n.next ∧ ∃ e lo, np < lo ∧ RootOf n lo q e ∧ Justifies n np e
  | .transformA f np => np < n.next ∧ n.spec np = .transform (.ref q) f
  | .transformWithA k np => np < n.next ∧ n.spec np = .transformWith (.ref q) k ∧ ∀ t, FO n.next (k t)
  | .recoverWithA d k np => np < n.next ∧ n.spec np = .recoverWith (.ref q) d k ∧ ∀ x, FO n.next (k x)
  | .orFutureA alt np => np < n.next ∧ n.spec np = .orFuture (.ref q) (.ref alt)
  | .observe _ => True

def TaskOK (n : Net) : Task → Prop
  | .cb c t => ∃ q, n.status q = some t ∧ CbOK n q c
  | .applyT f np => np < n.next ∧ n.spec np = .apply f

structure Inv (nsrc : Nat) (n : Net) : Prop where
  sound : Sound n
  tasks : ∀ tk ∈ n.pool, TaskOK n tk
  cbs : ∀ q c, c ∈ n.cbs q → CbOK n q c
  fresh : ∀ p, n.next ≤ p → n.status p = none
  srcs : nsrc ≤ n.next ∧ ∀ p, p < nsrc → n.spec p = .ref p

theorem node_mono {n n' : Net} (h : Le n n') {lo lo' : Nat} (hl : lo' ≤ lo) {q : Nat} {sp : FExpr}
    (hn : lo ≤ q ∧ q < n.next ∧ n.spec q = sp) : lo' ≤ q ∧ q < n'.next ∧ n'.spec q = sp :=
  ⟨Nat.le_trans hl hn.1, Nat.lt_of_lt_of_le hn.2.1 h.next, (h.spec q hn.2.1).trans hn.2.2⟩

/-- a root stays one in every later state; a smaller lower bound is a weaker statement -/
theorem rootOf_mono {n n' : Net} (h : Le n n') {lo lo' : Nat} (hl : lo' ≤ lo) (e : FExpr) (q : Nat)
    (hr : RootOf n lo q e) : RootOf n' lo' q e := by
  induction e generalizing q with
  | ref p => exact hr
  | successful v => exact node_mono h hl hr
  | failed x => exact node_mono h hl hr
  | successfulOf e _ => exact hr.elim
  | logged evs e ih => exact ih q hr
  | flatMap e k ihe _ => exact Exists.imp (fun p hp => ⟨ihe p hp.1, node_mono h hl hp.2⟩) hr
  | transform e f ih => exact Exists.imp (fun p hp => ⟨ih p hp.1, node_mono h hl hp.2⟩) hr
  | transformWith e k ihe _ => exact Exists.imp (fun p hp => ⟨ihe p hp.1, node_mono h hl hp.2⟩) hr
  | recoverWith e d k ihe _ => exact Exists.imp (fun p hp => ⟨ihe p hp.1, node_mono h hl hp.2⟩) hr
  | orFuture e alt ihe iha =>
    obtain ⟨p, a, hp, ha, hn⟩ := hr
    exact ⟨p, a, ihe p hp, iha a ha, node_mono h hl hn⟩
  | apply f => exact node_mono h hl hr

theorem rootOf_le {n n' : Net} (h : Le n n') {lo : Nat} (e : FExpr) (q : Nat) (hr : RootOf n lo q e) :
    RootOf n' lo q e := rootOf_mono h (Nat.le_refl _) e q hr

theorem justifies_le {n n' : Net} (h : Le n n') (np : Nat) (hnp : np < n.next) (e : FExpr)
    (hj : Justifies n np e) : Justifies n' np e := by
  intro σ' hx
  rw [h.spec np hnp]
  exact hj σ' (fun p v hp => hx p v (h.status p v hp))

theorem cbOK_le {n n' : Net} (h : Le n n') (q : Nat) (c : CB) (hc : CbOK n q c) : CbOK n' q c := by
  cases c with
  | flatMapA k np =>
    obtain ⟨h1, h2, h3⟩ := hc
    exact ⟨Nat.lt_of_lt_of_le h1 h.next, by rw [h.spec np h1]; exact h2, fun v => (h3 v).mono h.next⟩
  | completeWith np =>
    obtain ⟨h1, e, lo, hlo, hr, hj⟩ := hc
    exact ⟨Nat.lt_of_lt_of_le h1 h.next, e, lo, hlo, rootOf_le h e q hr, justifies_le h np h1 e hj⟩
  | transformA f np =>
    obtain ⟨h1, h2⟩ := hc
    exact ⟨Nat.lt_of_lt_of_le h1 h.next, by rw [h.spec np h1]; exact h2⟩
  | transformWithA k np =>
    obtain ⟨h1, h2, h3⟩ := hc
    exact ⟨Nat.lt_of_lt_of_le h1 h.next, by rw [h.spec np h1]; exact h2, fun v => (h3 v).mono h.next⟩
  | recoverWithA d k np =>
    obtain ⟨h1, h2, h3⟩ := hc
    exact ⟨Nat.lt_of_lt_of_le h1 h.next, by rw [h.spec np h1]; exact h2, fun v => (h3 v).mono h.next⟩
  | orFutureA alt np =>
    obtain ⟨h1, h2⟩ := hc
    exact ⟨Nat.lt_of_lt_of_le h1 h.next, by rw [h.spec np h1]; exact h2⟩
  | observe id => trivial

theorem taskOK_le {n n' : Net} (h : Le n n') (tk : Task) (ht : TaskOK n tk) : TaskOK n' tk := by
  cases tk with
  | cb c t =>
    obtain ⟨q, hq, hc⟩ := ht
    exact ⟨q, h.status q t hq, cbOK_le h q c hc⟩
  | applyT f np =>
    exact ⟨Nat.lt_of_lt_of_le ht.1 h.next, by rw [h.spec np ht.1]; exact ht.2⟩

theorem le_of_eq {n n' : Net} (h1 : n'.status = n.status) (h2 : n'.spec = n.spec) (h5 : n'.next = n.next) :
    Le n n' :=
  ⟨by rw [h5]; exact Nat.le_refl _, fun p _ => by rw [h2], fun p v hq => by rw [h1]; exact hq⟩

/-- the invariant only looks at status, spec, cbs and next, and at the pool task by task -/
theorem inv_congr {nsrc : Nat} {n n' : Net} (h : Inv nsrc n)
    (h1 : n'.status = n.status) (h2 : n'.spec = n.spec) (h3 : ∀ tk ∈ n'.pool, TaskOK n tk) (h4 : n'.cbs = n.cbs)
    (h5 : n'.next = n.next) : Inv nsrc n' ∧ Le n n' := by
  have hle : Le n n' := le_of_eq h1 h2 h5
  refine ⟨⟨?_, ?_, ?_, ?_, ?_⟩, hle⟩
  · intro p v hp
    rw [h1] at hp ⊢; rw [h2]
    exact h.sound p v hp
  · intro tk htk; exact taskOK_le hle tk (h3 tk htk)
  · intro q c hc; rw [h4] at hc; exact cbOK_le hle q c (h.cbs q c hc)
  · intro p hp; rw [h5] at hp; rw [h1]; exact h.fresh p hp
  · rw [h5, h2]; exact h.srcs

theorem le_complete (p : Nat) (t : Try Val) (n : Net) : Le n (complete p t n) :=
  ⟨Nat.le_of_eq (complete_frame p t n).1.symm, fun q _ => congrFun (complete_frame p t n).2.1 q,
   fun _ _ h => complete_status_mono p t h⟩

theorem le_onComplete (p : Nat) (c : CB) (n : Net) : Le n (onComplete p c n) :=
  le_of_eq (onComplete_status p c n) (onComplete_frame p c n).2.1 (onComplete_frame p c n).1

/-- `hdet`: if `p` is still pending, its expression evaluates to `t` once `p` itself holds `t` -/
theorem inv_complete {nsrc : Nat} {n : Net} (h : Inv nsrc n) (p : Nat) (t : Try Val) (hp : p < n.next)
    (hdet : n.status p = none →
      evalS (fun q => if q = p then some t else n.status q) (n.spec p) = some t) :
    Inv nsrc (complete p t n) ∧ Le n (complete p t n) := by
  have hle := le_complete p t n
  obtain ⟨hnx, hsp, _⟩ := complete_frame p t n
  refine ⟨⟨?_, ?_, ?_, ?_, ?_⟩, hle⟩
  · intro q v hq
    rw [hsp]
    rcases complete_status_inv hq with hold | ⟨rfl, hst, rfl⟩
    · exact evalS_mono _ _ hle.status _ _ (h.sound q v hold)
    · rw [complete_status_pending v hst]; exact hdet hst
  · intro tk htk
    rcases mem_complete_pool.1 htk with hold | ⟨hst, c, hc, rfl⟩
    · exact taskOK_le hle tk (h.tasks tk hold)
    · exact ⟨p, complete_status_self hst, cbOK_le hle p c (h.cbs p c hc)⟩
  · intro q c hc
    exact cbOK_le hle q c (h.cbs q c (mem_complete_cbs.1 hc).1)
  · intro q hq
    rw [hnx] at hq
    rw [complete_status_ne p t n (Nat.ne_of_gt (Nat.lt_of_lt_of_le hp hq))]
    exact h.fresh q hq
  · rw [hnx, hsp]; exact h.srcs

theorem inv_onComplete {nsrc : Nat} {n : Net} (h : Inv nsrc n) (p : Nat) (c : CB) (hc : CbOK n p c) :
    Inv nsrc (onComplete p c n) ∧ Le n (onComplete p c n) := by
  have hle := le_onComplete p c n
  obtain ⟨hnx, hsp, _, _⟩ := onComplete_frame p c n
  refine ⟨⟨?_, ?_, ?_, ?_, ?_⟩, hle⟩
  · intro q v hq
    rw [onComplete_status] at hq ⊢
    rw [hsp]
    exact h.sound q v hq
  · intro tk htk
    rcases mem_onComplete_pool.1 htk with hold | ⟨t, hst, rfl⟩
    · exact taskOK_le hle tk (h.tasks tk hold)
    · exact ⟨p, by rw [onComplete_status]; exact hst, cbOK_le hle p c hc⟩
  · intro q c' hc'
    rcases mem_onComplete_cbs.1 hc' with hold | ⟨_, rfl, rfl⟩
    · exact cbOK_le hle q c' (h.cbs q c' hold)
    · exact cbOK_le hle _ _ hc
  · intro q hq
    rw [hnx] at hq
    rw [onComplete_status]
    exact h.fresh q hq
  · rw [hnx, hsp]; exact h.srcs

theorem inv_fresh {nsrc : Nat} {n : Net} (h : Inv nsrc n) (sp : FExpr) :
    Inv nsrc (fresh sp n).2 ∧ Le n (fresh sp n).2 ∧ n.next < (fresh sp n).2.next ∧ (fresh sp n).2.spec n.next = sp := by
  have hle : Le n (fresh sp n).2 :=
    ⟨Nat.le_succ _, fun p hp => by simp [fresh, Nat.ne_of_lt hp], fun _ _ hq => hq⟩
  refine ⟨⟨?_, ?_, ?_, ?_, ?_⟩, hle, Nat.lt_succ_self _, by simp [fresh]⟩
  · intro q v hq
    have hq' : n.status q = some v := hq
    have hne : q ≠ n.next := by
      intro heq; subst heq
      rw [h.fresh _ (Nat.le_refl _)] at hq'; cases hq'
    simp only [fresh, hne, if_false]
    exact h.sound q v hq'
  · intro tk htk; exact taskOK_le hle tk (h.tasks tk htk)
  · intro q c hc; exact cbOK_le hle q c (h.cbs q c hc)
  · intro q hq
    have hq' : n.next + 1 ≤ q := hq
    exact h.fresh q (Nat.le_of_succ_le hq')
  · refine ⟨Nat.le_succ_of_le h.srcs.1, fun p hp => ?_⟩
    have : p ≠ n.next := by have := h.srcs.1; omega
    simp [fresh, this, h.srcs.2 p hp]

/-- what `build` guarantees -/
structure BuildOK (nsrc : Nat) (n : Net) (e : FExpr) (q : Nat) (n' : Net) : Prop where
  inv : Inv nsrc n'
  le : Le n n'
  root : RootOf n' n.next q e
  alloc : q < n'.next

/-- one new promise for `sp` whose completion callback `c` is registered on `p` -/
theorem node_ok {nsrc : Nat} {n : Net} (h : Inv nsrc n) (sp : FExpr) (p : Nat) (c : CB)
    (hc : ∀ n2 : Net, n.next < n2.next → n2.spec n.next = sp → CbOK n2 p c) :
    let n3 := onComplete p c (fresh sp n).2
    Inv nsrc n3 ∧ Le n n3 ∧ n.next < n3.next ∧ n3.spec n.next = sp := by
  obtain ⟨hi, hle, hlt, hsp⟩ := inv_fresh h sp
  obtain ⟨hi3, hle3⟩ := inv_onComplete hi p c (hc (fresh sp n).2 hlt hsp)
  exact ⟨hi3, hle.trans hle3, Nat.lt_of_lt_of_le hlt hle3.next, (hle3.spec n.next hlt).trans hsp⟩

/-- one new promise completed at once with what its expression evaluates to whatever the statuses are;
    the premise of `hroot` is what `RootOf n3 n.next n.next e'` unfolds to for a leaf `e'`, so the callers pass `id` -/
theorem const_ok {nsrc : Nat} {n : Net} (h : Inv nsrc n) (sp : FExpr) (t : Try Val) (hev : ∀ σ, evalS σ sp = some t)
    {e' : FExpr} (hroot : ∀ {n3 : Net}, n.next ≤ n.next ∧ n.next < n3.next ∧ n3.spec n.next = sp →
      RootOf n3 n.next n.next e') :
    BuildOK nsrc n e' n.next (complete n.next t (fresh sp n).2) := by
  obtain ⟨hi, hle, hlt, hsp⟩ := inv_fresh h sp
  obtain ⟨hi2, hle2⟩ := inv_complete hi n.next t hlt (by intro _; rw [hsp]; exact hev _)
  have hlt2 := Nat.lt_of_lt_of_le hlt hle2.next
  exact ⟨hi2, hle.trans hle2, hroot ⟨Nat.le_refl _, hlt2, (hle2.spec n.next hlt).trans hsp⟩, hlt2⟩

/-- a node over the child `e`, built as `p`: its promise `n1.next` is allocated for `sp` and its callback `c`
    registered on `p`; `hroot` says that this makes `n1.next` the root of the whole expression `e'` -/
theorem unary_ok {nsrc : Nat} {n n1 : Net} {e e' : FExpr} {p : Nat} (hb : BuildOK nsrc n e p n1) (sp : FExpr) (c : CB)
    (hc : ∀ n2 : Net, n.next ≤ n2.next → n1.next < n2.next → n2.spec n1.next = sp → CbOK n2 p c)
    (hroot : ∀ {n3 : Net}, RootOf n3 n.next p e → n.next ≤ n1.next ∧ n1.next < n3.next ∧ n3.spec n1.next = sp →
      RootOf n3 n.next n1.next e') :
    BuildOK nsrc n e' n1.next (onComplete p c (fresh sp n1).2) := by
  obtain ⟨hi3, hle3, hlt, hsp⟩ := node_ok hb.inv sp p c
    (fun n2 hlt => hc n2 (Nat.le_trans hb.le.next (Nat.le_of_lt hlt)) hlt)
  exact ⟨hi3, hb.le.trans hle3, hroot (rootOf_le hle3 e p hb.root) ⟨hb.le.next, hlt, hsp⟩, hlt⟩

theorem inv_build {nsrc : Nat} (e : FExpr) : ∀ (n : Net), Inv nsrc n → FO n.next e →
    BuildOK nsrc n e (build e n).1 (build e n).2 := by
  induction e with
  | ref p =>
    intro n h hfo
    cases hfo with | ref _ hp => exact ⟨h, Le.refl n, rfl, hp⟩
  | successful v => intro n h _; exact const_ok h (.successful v) (.success v) (fun _ => rfl) id
  | failed x => intro n h _; exact const_ok h (.failed x) (.failure x) (fun _ => rfl) id
  | successfulOf e _ => intro n _ hfo; cases hfo
  | logged evs e ih =>
    intro n h hfo
    cases hfo with
    | logged _ _ he =>
      obtain ⟨h', hle'⟩ := inv_congr (n' := { n with log := n.log ++ evs }) h rfl rfl h.tasks rfl rfl
      obtain ⟨hi, hle, hr, ha⟩ := ih _ h' he
      exact ⟨hi, hle'.trans hle, hr, ha⟩
  | flatMap e k ihe _ =>
    intro n h hfo
    cases hfo with
    | flatMap _ _ he hk =>
      exact unary_ok (ihe n h he) (.flatMap (.ref (build e n).1) k) (.flatMapA k (build e n).2.next)
        (fun n2 hle hlt hs => ⟨hlt, hs, fun v => (hk v).mono hle⟩) (fun hr hn => ⟨_, hr, hn⟩)
  | transform e f ih =>
    intro n h hfo
    cases hfo with
    | transform _ _ he =>
      exact unary_ok (ih n h he) (.transform (.ref (build e n).1) f) (.transformA f (build e n).2.next)
        (fun n2 _ hlt hs => ⟨hlt, hs⟩) (fun hr hn => ⟨_, hr, hn⟩)
  | transformWith e k ihe _ =>
    intro n h hfo
    cases hfo with
    | transformWith _ _ he hk =>
      exact unary_ok (ihe n h he) (.transformWith (.ref (build e n).1) k) (.transformWithA k (build e n).2.next)
        (fun n2 hle hlt hs => ⟨hlt, hs, fun t => (hk t).mono hle⟩) (fun hr hn => ⟨_, hr, hn⟩)
  | recoverWith e d k ihe _ =>
    intro n h hfo
    cases hfo with
    | recoverWith _ _ _ he hk =>
      exact unary_ok (ihe n h he) (.recoverWith (.ref (build e n).1) d k) (.recoverWithA d k (build e n).2.next)
        (fun n2 hle hlt hs => ⟨hlt, hs, fun x => (hk x).mono hle⟩) (fun hr hn => ⟨_, hr, hn⟩)
  | orFuture e alt ihe iha =>
    intro n h hfo
    cases hfo with
    | orFuture _ _ he ha =>
      have hb1 := ihe n h he
      have hb2 := iha _ hb1.inv (ha.mono hb1.le.next)
      obtain ⟨hi3, hle3, hlt, hsp⟩ := node_ok hb2.inv
        (.orFuture (.ref (build e n).1) (.ref (build alt (build e n).2).1)) (build e n).1
        (.orFutureA (build alt (build e n).2).1 (build alt (build e n).2).2.next)
        (fun n3 hlt hs => ⟨hlt, hs⟩)
      exact ⟨hi3, (hb1.le.trans hb2.le).trans hle3,
        ⟨_, _, rootOf_le (hb2.le.trans hle3) e _ hb1.root, rootOf_mono hle3 hb1.le.next alt _ hb2.root,
         Nat.le_trans hb1.le.next hb2.le.next, hlt, hsp⟩, hlt⟩
  | apply f =>
    intro n h _
    obtain ⟨hi, hle, hlt, hsp⟩ := inv_fresh h (.apply f)
    have htasks : ∀ tk ∈ (build (.apply f) n).2.pool, TaskOK (fresh (.apply f) n).2 tk := by
      intro tk htk
      rcases List.mem_append.1 htk with hold | hnew
      · exact hi.tasks tk hold
      · rw [List.mem_singleton.1 hnew]
        exact ⟨hlt, hsp⟩
    obtain ⟨hi2, hle2⟩ := inv_congr (n' := (build (.apply f) n).2) hi rfl rfl htasks rfl rfl
    exact ⟨hi2, hle.trans hle2, ⟨Nat.le_refl _, hlt, hsp⟩, hlt⟩

/-- a status that is already known survives the update made by completing another, pending, promise -/
theorem upd_keep (n : Net) (np q : Nat) (t x : Try Val) (hq : n.status q = some x) (hn : n.status np = none) :
    (fun r => if r = np then some t else n.status r) q = some x := by
  have : q ≠ np := fun h => by subst h; rw [hn] at hq; cases hq
  simp [this, hq]

theorem ext_upd (n : Net) (np : Nat) (t : Try Val) (hn : n.status np = none) :
    Ext n.status (fun r => if r = np then some t else n.status r) :=
  fun q x hq => upd_keep n np q t x hq hn

/-- build the future a user function returned, then let it complete `np` -/
theorem inv_chain {nsrc : Nat} {n : Net} (h : Inv nsrc n) (e : FExpr) (np : Nat) (hfo : FO n.next e)
    (hnp : np < n.next) (hj : Justifies n np e) :
    Inv nsrc (onComplete (build e n).1 (.completeWith np) (build e n).2) ∧
    Le n (onComplete (build e n).1 (.completeWith np) (build e n).2) := by
  obtain ⟨hi, hle, hr, _⟩ := inv_build e n h hfo
  obtain ⟨hi2, hle2⟩ := inv_onComplete hi (build e n).1 (.completeWith np)
    ⟨Nat.lt_of_lt_of_le hnp hle.next, e, n.next, hnp, hr, justifies_le hle np hnp e hj⟩
  exact ⟨hi2, hle.trans hle2⟩

theorem inv_log {nsrc : Nat} {n : Net} (h : Inv nsrc n) (evs : List Event) :
    Inv nsrc { n with log := n.log ++ evs } ∧ Le n { n with log := n.log ++ evs } :=
  inv_congr h rfl rfl h.tasks rfl rfl

theorem inv_runTask {nsrc : Nat} {n : Net} (h : Inv nsrc n) (tk : Task) (htk : TaskOK n tk) :
    Inv nsrc (runTask tk n) ∧ Le n (runTask tk n) := by
  cases tk with
  | applyT f np =>
    obtain ⟨hnp, hsp⟩ := htk
    obtain ⟨hi0, hle0⟩ := inv_log h (f ()).2
    obtain ⟨hi1, hle1⟩ := inv_complete hi0 np (f ()).1 hnp (by intro _; show evalS _ (n.spec np) = _; rw [hsp]; rfl)
    exact ⟨hi1, hle0.trans hle1⟩
  | cb c t =>
    obtain ⟨q, hq, hc⟩ := htk
    cases c with
    | flatMapA k np =>
      obtain ⟨hnp, hsp, hk⟩ := hc
      cases t with
      | success v =>
        exact inv_chain h (k v) np (hk v) hnp (by
          intro σ' hx
          rw [hsp]; simp [evalS, hx q _ hq, bindOk])
      | failure e =>
        exact inv_complete h np (.failure e) hnp (by
          intro hn
          rw [hsp]; simp [evalS, upd_keep n np q _ _ hq hn, bindOk])
    | completeWith np =>
      obtain ⟨hnp, e, lo, _, hr, hj⟩ := hc
      exact inv_complete h np t hnp (by
        intro hn
        rw [hj _ (ext_upd n np t hn)]
        exact evalS_mono _ _ (ext_upd n np t hn) e t (root_sound n h.sound lo e q t hr hq))
    | transformA f np =>
      obtain ⟨hnp, hsp⟩ := hc
      obtain ⟨hi0, hle0⟩ := inv_log h (f t).2
      obtain ⟨hi1, hle1⟩ := inv_complete hi0 np (f t).1 hnp (by
        intro hn
        show evalS _ (n.spec np) = _
        rw [hsp]
        have hn' : n.status np = none := hn
        simp [evalS, upd_keep n np q _ _ hq hn'])
      exact ⟨hi1, hle0.trans hle1⟩
    | transformWithA k np =>
      obtain ⟨hnp, hsp, hk⟩ := hc
      exact inv_chain h (k t) np (hk t) hnp (by
        intro σ' hx
        rw [hsp]; simp [evalS, hx q _ hq, bindTry])
    | recoverWithA d k np =>
      obtain ⟨hnp, hsp, hk⟩ := hc
      cases t with
      | success v =>
        exact inv_complete h np (.success v) hnp (by
          intro hn
          rw [hsp]; simp [evalS, upd_keep n np q _ _ hq hn, bindTry])
      | failure e =>
        simp only [runTask]
        by_cases hd : d e = true
        · simp only [hd, if_true]
          exact inv_chain h (k e) np (hk e) hnp (by
            intro σ' hx
            rw [hsp]; simp [evalS, hx q _ hq, bindTry, hd])
        · simp only [hd]
          exact inv_complete h np (.failure e) hnp (by
            intro hn
            rw [hsp]; simp [evalS, upd_keep n np q _ _ hq hn, bindTry, hd])
    | orFutureA alt np =>
      obtain ⟨hnp, hsp⟩ := hc
      cases t with
      | success v =>
        exact inv_complete h np (.success v) hnp (by
          intro hn
          rw [hsp]; simp [evalS, upd_keep n np q _ _ hq hn, bindTry])
      | failure e =>
        exact inv_onComplete h alt (.completeWith np) ⟨hnp, .ref alt, np + 1, Nat.lt_succ_self _, rfl, by
          intro σ' hx
          rw [hsp]; simp [evalS, hx q _ hq, bindTry]⟩
    | observe id => exact inv_log h _

/-- what the environment and the program may do.

    Audit finding 1: the executable model is total on the ill-formed Try `failure .nil` (Go: `fp.Try[T]{}` /
    `Failure(nil)`), the Go tasks are not (`t.Failed().Get()` panics, the derived promise stays pending — see
    `Lemmas/FutWF.lean` and `illformed_source_excluded` below).  Validity therefore demands `WFTry` of every
    source result and `WFE` (hereditarily well-formed Try results of `Failed`, `Transform` functions, `Apply`
    bodies and of the futures user functions build) of every constructed program; `wellformed_every_schedule`
    shows that then NO ill-formed Try ever appears in the network, so the totalised branch of the model is
    never exercised by a valid schedule. -/
def EvOK (nsrc : Nat) (n : Net) : Ev → Prop
  | .run _ => True
  | .src p t => p < nsrc ∧ WFTry t        -- only source promises are completed from outside, never with Try{} / Failure(nil)
  | .mk e => FO n.next e ∧ WFE e          -- programs are first-order, use existing handles, produce well-formed Try results
  | .obs _ _ => True

/-- the first-order / handle part of `EvOK` (what the soundness invariant needs) -/
theorem EvOK.fo {nsrc : Nat} {n : Net} {e : FExpr} (h : EvOK nsrc n (.mk e)) : FO n.next e := h.1

/-- the well-formedness part of `EvOK` (what `WFNet` needs) -/
theorem EvOK.wf {nsrc : Nat} {n : Net} {ev : Ev} (h : EvOK nsrc n ev) : EvWF ev := by
  cases ev with
  | run i => trivial
  | src p t => exact h.2
  | mk e => exact h.2
  | obs p id => trivial

def Valid (nsrc : Nat) : Net → List Ev → Prop
  | _, [] => True
  | n, ev :: evs => EvOK nsrc n ev ∧ Valid nsrc (step n ev) evs

theorem inv_le_step {nsrc : Nat} {n : Net} (h : Inv nsrc n) (ev : Ev) (hev : EvOK nsrc n ev) :
    Inv nsrc (step n ev) ∧ Le n (step n ev) := by
  cases ev with
  | run i =>
    simp only [step]
    cases hi : n.pool[i]? with
    | none => exact ⟨h, Le.refl n⟩
    | some tk =>
      obtain ⟨h0, hle⟩ := inv_congr (n' := { n with pool := n.pool.eraseIdx i }) h rfl rfl
        (fun tk' htk' => h.tasks tk' (List.mem_of_mem_eraseIdx htk')) rfl rfl
      obtain ⟨hi1, hle1⟩ := inv_runTask h0 tk (taskOK_le hle tk (h.tasks tk (List.mem_of_getElem? hi)))
      exact ⟨hi1, hle.trans hle1⟩
  | src p t =>
    exact inv_complete h p t (Nat.lt_of_lt_of_le hev.1 h.srcs.1) (fun _ => by rw [h.srcs.2 p hev.1]; simp [evalS])
  | mk e => exact ⟨(inv_build e n h hev.1).inv, (inv_build e n h hev.1).le⟩
  | obs p id => exact inv_onComplete h p (.observe id) trivial

theorem inv_step {nsrc : Nat} {n : Net} (h : Inv nsrc n) (ev : Ev) (hev : EvOK nsrc n ev) :
    Inv nsrc (step n ev) := (inv_le_step h ev hev).1

theorem inv_init (nsrc : Nat) : Inv nsrc (Net.empty nsrc) where
  sound := by intro p v hp; simp [Net.empty] at hp
  tasks := by intro tk htk; simp [Net.empty] at htk
  cbs := by intro q c hc; simp [Net.empty] at hc
  fresh := by intro p _; rfl
  srcs := ⟨Nat.le_refl _, fun _ _ => rfl⟩

theorem inv_le_run {nsrc : Nat} (evs : List Ev) : ∀ (n : Net), Inv nsrc n → Valid nsrc n evs →
    Inv nsrc (runEvs n evs) ∧ Le n (runEvs n evs) := by
  induction evs with
  | nil => intro n h _; exact ⟨h, Le.refl n⟩
  | cons ev evs ih =>
    intro n h hv
    obtain ⟨h1, hle1⟩ := inv_le_step h ev hv.1
    obtain ⟨h2, hle2⟩ := ih _ h1 hv.2
    exact ⟨h2, hle1.trans hle2⟩

theorem inv_run {nsrc : Nat} (evs : List Ev) (n : Net) (h : Inv nsrc n) (hv : Valid nsrc n evs) :
    Inv nsrc (runEvs n evs) := (inv_le_run evs n h hv).1

theorem le_run {nsrc : Nat} (evs : List Ev) (n : Net) (h : Inv nsrc n) (hv : Valid nsrc n evs) :
    Le n (runEvs n evs) := (inv_le_run evs n h hv).2

/-- **Soundness for every schedule.**  Start from `nsrc` pending source promises; let the program
    construct futures from first-order expressions at any moments, the environment complete the sources
    in any order (and repeatedly), and the pooled tasks run in any order.  In every state reached, every
    completed promise holds exactly what its expression evaluates to, under the three-valued fp.Try
    semantics, over the statuses of the handles it refers to in that same state — so no derived future is
    ever completed earlier than, or differently from, what its sources determine. -/
theorem sound_every_schedule (nsrc : Nat) (evs : List Ev) (hv : Valid nsrc (Net.empty nsrc) evs) :
    Sound (runEvs (Net.empty nsrc) evs) :=
  (inv_run evs _ (inv_init nsrc) hv).sound

/-- every event of a valid run is admissible at the state it is taken from: the conditions that do not look at the state
    (`EvWF`, "the environment completes sources only", `HO.EvOK`) are read off this -/
theorem valid_mem {nsrc : Nat} (evs : List Ev) : ∀ (n : Net), Valid nsrc n evs → ∀ ev ∈ evs, ∃ m, EvOK nsrc m ev := by
  induction evs with
  | nil => intro _ _ ev h; cases h
  | cons a evs ih =>
    intro n hv ev hm
    rcases List.mem_cons.1 hm with rfl | hm
    · exact ⟨n, hv.1⟩
    · exact ih _ hv.2 ev hm

theorem valid_evWF {nsrc : Nat} (evs : List Ev) : ∀ (n : Net), Valid nsrc n evs → ∀ ev ∈ evs, EvWF ev :=
  fun n hv ev hm => (valid_mem evs n hv ev hm).elim fun _ h => h.wf

/-- **No ill-formed Try, for every schedule** (audit finding 1).  Under the validity conditions — sources are
    never completed with `Try{}` / `Failure(nil)`, `Failed(err)` is only called with `err ≠ nil`, user functions
    handed to `Transform` / `Apply` never return an ill-formed Try for a well-formed argument, hereditarily through
    every future a user function builds — in every reachable state no completed promise holds `failure .nil`,
    no pooled task carries it and no registered callback can produce it.  Hence along a valid schedule every
    `t.Failed().Get()` the Go tasks evaluate (future.go:338, future_op.go:228, …) is the non-panicking
    `failedGet (failure e) = pure e`, which is the branch the model's `runTask` implements; the branch on which
    model and code differ (`illformed_source_excluded`) is unreachable. -/
theorem wellformed_every_schedule (nsrc : Nat) (evs : List Ev) (hv : Valid nsrc (Net.empty nsrc) evs) :
    WFNet (runEvs (Net.empty nsrc) evs) :=
  wf_runEvs evs _ (wfNet_empty nsrc) (valid_evWF evs _ hv)

/-- … in particular: no promise is ever completed with the zero-value Try. -/
theorem never_failure_nil (nsrc : Nat) (evs : List Ev) (hv : Valid nsrc (Net.empty nsrc) evs) (p : Nat) :
    (runEvs (Net.empty nsrc) evs).status p ≠ some (.failure .nil) :=
  fun h => (wellformed_every_schedule nsrc evs hv).status p _ h rfl

/-- **The executable model agrees with the panic-aware reading of the Go tasks, for every valid schedule**: `runEvsGo`
    (Lemmas/FutWF.lean) returns `none` as soon as a task that evaluates `t.Failed().Get()` is run on `failure .nil`
    (the Go task panics there and completes nothing); along a valid schedule that never happens, and the state reached
    is exactly the one the oracle's total `runEvs` computes. -/
theorem go_agrees_every_schedule (nsrc : Nat) (evs : List Ev) (hv : Valid nsrc (Net.empty nsrc) evs) :
    runEvsGo (Net.empty nsrc) evs = some (runEvs (Net.empty nsrc) evs) :=
  runEvsGo_eq evs _ (wfNet_empty nsrc) (valid_evWF evs _ hv)

/-- What the Go task of `future.FlatMap` / `Future.FlatMap` / `Map` / `RecoverCaseWith` does on its failure branch
    (`np.Failure(t.Failed().Get())`, future/future_op.go:228, future.go:338,322,307), as a `GoM` computation
    that may panic: the Try it hands to `np.Complete`. -/
def goFailureBranch (t : Try Val) : GoM (Try Val) := do
  let e ← Try.failedGet t
  pure (.failure e)

/-- on a well-formed failure the Go task passes the failure on unchanged: exactly the model's
    `complete np (.failure e)` -/
theorem goFailureBranch_wf (e : Err) (h : e ≠ .nil) : goFailureBranch (.failure e) = pure (.failure e) := by
  simp [goFailureBranch, Try.failedGet_failure e h]

/-- **The excluded branch** (audit finding 1), on the smallest event list: one source, `FlatMap` (or `Map`)
    on it, the source is completed with the ill-formed `Try{}` = `failure .nil`, the task runs.
    * The schedule is NOT valid (`EvOK` rejects the `.src` event) — so none of the C06 theorems speak about it;
    * the executable model answers `some (.failure .nil)` for the derived promise 1: it is total there;
    * the Go task does not complete the derived promise: `np.Failure(t.Failed().Get())` (future_op.go:228;
      `Future.FlatMap` future.go:338, `Future.Map` future.go:322) evaluates `Try.Failed()` which for `err == nil`
      is `Failure("Try not initialized correctly")` (try.go:85-87), and `.Get()` of that panics (try.go:39-44)
      before `np.Failure` is called: `goFailureBranch (.failure .nil)` is the panic `ErrNotInit`, no `Complete`
      call happens, the derived future stays pending forever (with the default `go runnable.Run()` executor the
      unrecovered panic terminates the process): the panic-aware reading `runEvsGo` is `none`, and before the task
      ran promise 1 was pending (last conjunct) — in Go it stays so.  Replay: `go run ./cmd/c06illformed` in harness/
      prints `TASK PANICKED: Try not initialized correctly`, `derived completed: false`.
    So on this input the model's answer is not what the code does; the side condition `WFTry` is what excludes it. -/
theorem illformed_source_excluded (k : Val → FExpr) :
    let evs : List Ev := [.mk (.flatMap (.ref 0) k), .src 0 (.failure .nil), .run 0]
    ¬ Valid 1 (Net.empty 1) evs ∧
    (runEvs (Net.empty 1) evs).status 1 = some (.failure .nil) ∧
    goFailureBranch (.failure .nil) = throw "ErrNotInit" ∧
    runEvsGo (Net.empty 1) evs = none ∧
    (runEvs (Net.empty 1) (evs.take 2)).status 1 = none := by
  refine ⟨?_, rfl, rfl, rfl, rfl⟩
  intro hv
  exact hv.2.1.2 rfl

/-- the same with `future.Failed[T](nil)` as the operand (a program, not the environment, creates the ill-formed
    Try): `WFE` rejects the program; the model completes the derived promise with `failure .nil`. -/
theorem illformed_failed_excluded (k : Val → FExpr) :
    let evs : List Ev := [.mk (.flatMap (.failed .nil) k), .run 0]
    ¬ Valid 0 (Net.empty 0) evs ∧
    (runEvs (Net.empty 0) evs).status 1 = some (.failure .nil) ∧
    runEvsGo (Net.empty 0) evs = none := by
  refine ⟨?_, rfl, rfl⟩
  intro hv
  have h := hv.1.2
  cases h with
  | flatMap _ _ he _ => cases he with | failed _ hne => exact hne rfl

theorem valid_mk {nsrc : Nat} {e : FExpr} {evs' : List Ev} : ∀ (l : List Ev) (m : Net), Valid nsrc m (l ++ .mk e :: evs') →
    Valid nsrc m l ∧ EvOK nsrc (runEvs m l) (.mk e) ∧ Valid nsrc (step (runEvs m l) (.mk e)) evs' := by
  intro l
  induction l with
  | nil => intro m hm; exact ⟨trivial, hm.1, hm.2⟩
  | cons a l ih =>
    intro m hm
    obtain ⟨h1, h2, h3⟩ := ih (step m a) hm.2
    exact ⟨⟨hm.1, h1⟩, h2, h3⟩

/-- the handle `build e` returns is, in every later state, the root of `e` in the ghost specs -/
theorem built_future_root (nsrc : Nat) (evs evs' : List Ev) (e : FExpr)
    (hv : Valid nsrc (Net.empty nsrc) (evs ++ .mk e :: evs')) :
    let n := runEvs (Net.empty nsrc) evs
    let q := (build e n).1
    let n' := runEvs (Net.empty nsrc) (evs ++ .mk e :: evs')
    ∃ lo, RootOf n' lo q e := by
  intro n q n'
  obtain ⟨hv1, hfo, hv3⟩ := valid_mk evs _ hv
  have hin : Inv nsrc n := inv_run evs _ (inv_init nsrc) hv1
  have hb := inv_build e n hin hfo.1
  have hrun : n' = runEvs (step n (.mk e)) evs' := by
    show runEvs _ (evs ++ .mk e :: evs') = _
    rw [runEvs_append]
    rfl
  have hroot : RootOf n' n.next q e := by
    rw [hrun]; exact rootOf_le (le_run evs' _ hb.inv hv3) e q hb.root
  exact ⟨n.next, hroot⟩

/-- … in terms of the expression the program wrote: the handle `build e` returns, whenever it is
    completed in any later state, holds the value of `e`. -/
theorem built_future_sound (nsrc : Nat) (evs evs' : List Ev) (e : FExpr) (r : Try Val)
    (hv : Valid nsrc (Net.empty nsrc) (evs ++ .mk e :: evs')) :
    let n := runEvs (Net.empty nsrc) evs
    let q := (build e n).1
    let n' := runEvs (Net.empty nsrc) (evs ++ .mk e :: evs')
    n'.status q = some r → evalS n'.status e = some r := by
  intro n q n' hq
  obtain ⟨lo, hroot⟩ := built_future_root nsrc evs evs' e hv
  exact root_sound n' (inv_run _ _ (inv_init nsrc) hv).sound lo e q r hroot hq

-- the derived combinators are in scope of the theorem ----------------------------------------------------------

theorem fo_map {b : Nat} (e : FExpr) (f : Val → W Val) (he : FO b e) : FO b (Fut.map e f) :=
  .flatMap _ _ he (fun _ => .logged _ _ (.successful _))

theorem fo_map2 {b : Nat} (p q : Nat) (f : Val → Val → W Val) (hp : p < b) (hq : q < b) : FO b (Fut.map2 p q f) :=
  .flatMap _ _ (.ref p hp) (fun _ => fo_map _ _ (.ref q hq))

theorem fo_compose {b : Nat} (f1 f2 : Val → FExpr) (a : Val) (h1 : ∀ v, FO b (f1 v)) (h2 : ∀ v, FO b (f2 v)) :
    FO b (Fut.compose f1 f2 a) := .flatMap _ _ (h1 a) h2

theorem fo_sequenceAcc {b : Nat} (ps : List Nat) (acc : FExpr) (hps : ∀ p ∈ ps, p < b) (hacc : FO b acc) :
    FO b (Fut.sequenceAcc ps acc) := by
  induction ps generalizing acc with
  | nil => exact hacc
  | cons p ps ih =>
    exact ih _ (fun x hx => hps x (by simp [hx]))
      (.flatMap _ _ hacc (fun _ => fo_map _ _ (.ref p (hps p (by simp)))))

theorem fo_sequence {b : Nat} (ps : List Nat) (hps : ∀ p ∈ ps, p < b) : FO b (Fut.sequence ps) :=
  fo_map _ _ (fo_sequenceAcc ps _ hps (.successful _))

theorem fo_traverseSeq {b : Nat} (xs : List Val) (fn : Val → FExpr) (hfn : ∀ v, FO b (fn v)) :
    FO b (Fut.traverseSeq xs fn) := by
  unfold Fut.traverseSeq
  generalize hacc : FExpr.successful (Val.seq []) = acc
  have hfo : FO b acc := by subst hacc; exact .successful _
  clear hacc
  induction xs generalizing acc with
  | nil => exact hfo
  | cons x xs ih => exact ih _ (.flatMap _ _ hfo (fun _ => fo_map _ _ (hfn x)))

-- … and they are hereditarily well formed (audit finding 1): none of the library's own combinators can introduce
-- an ill-formed Try; only `Failed(nil)`, a `Transform` function, an `Apply` body or a source can ------------------

theorem wfe_map (e : FExpr) (f : Val → W Val) (he : WFE e) : WFE (Fut.map e f) :=
  .flatMap _ _ he (fun _ => .logged _ _ (.successful _))

theorem wfe_map2 (p q : Nat) (f : Val → Val → W Val) : WFE (Fut.map2 p q f) :=
  .flatMap _ _ (.ref p) (fun _ => wfe_map _ _ (.ref q))

theorem wfe_zip (p q : Nat) : WFE (Fut.zip p q) := wfe_map2 p q _

theorem wfe_compose (f1 f2 : Val → FExpr) (a : Val) (h1 : ∀ v, WFE (f1 v)) (h2 : ∀ v, WFE (f2 v)) :
    WFE (Fut.compose f1 f2 a) := .flatMap _ _ (h1 a) h2

theorem wfe_sequenceAcc (ps : List Nat) (acc : FExpr) (hacc : WFE acc) : WFE (Fut.sequenceAcc ps acc) := by
  induction ps generalizing acc with
  | nil => exact hacc
  | cons p ps ih => exact ih _ (.flatMap _ _ hacc (fun _ => wfe_map _ _ (.ref p)))

theorem wfe_sequence (ps : List Nat) : WFE (Fut.sequence ps) :=
  wfe_map _ _ (wfe_sequenceAcc ps _ (.successful _))

theorem wfe_traverseSeq (xs : List Val) (fn : Val → FExpr) (hfn : ∀ v, WFE (fn v)) :
    WFE (Fut.traverseSeq xs fn) := by
  unfold Fut.traverseSeq
  generalize hacc : FExpr.successful (Val.seq []) = acc
  have hwf : WFE acc := by subst hacc; exact .successful _
  clear hacc
  induction xs generalizing acc with
  | nil => exact hwf
  | cons x xs ih => exact ih _ (.flatMap _ _ hwf (fun _ => wfe_map _ _ (hfn x)))

/-- non-vacuity: a concrete schedule (Map2 of two sources; the second source completes first, tasks run,
    the first source fails) is valid, ends with the derived future holding exactly the first source's failure. -/
example :
    let evs : List Ev := [.mk (Fut.map2 0 1 (fun x y => (.tup [x, y], []))), .src 1 (.success (.int 5)), .run 0,
                          .src 0 (.failure (.code 3)), .run 0, .run 0]
    Valid 2 (Net.empty 2) evs ∧ (runEvs (Net.empty 2) evs).status 2 = some (.failure (.code 3)) := by
  refine ⟨⟨⟨fo_map2 0 1 _ (by decide) (by decide), wfe_map2 0 1 _⟩,
    ⟨(by show (1 : Nat) < 2; decide), wfTry_success _⟩, trivial,
    ⟨(by show (0 : Nat) < 2; decide), (wfTry_failure _).2 (by decide)⟩, trivial, trivial, trivial⟩, ?_⟩
  rfl

end FpVerif.Spec.C06
