import FpVerif.Lemmas.FutNet
import FpVerif.Lemmas.ListBasics
/-!
# C06 — Future combinators are schedule-independent and always complete (task-atomic model)

Part 1 (this file):
 * `evalS` — the three-valued fp.Try evaluation of a future expression over the current status of
   the handles it refers to — of every derived combinator equals the corresponding fp.Try
   combinator (left-to-right short-circuit; Sequence/Traverse keep input order);
 * `evalS` is monotone in the statuses (once determined, always determined, with the same value);
 * the promise cell is single-assignment under EVERY event sequence: a completed promise keeps its
   value forever, a second `Complete` returns false, every callback registered on it is turned into
   exactly one task, at completion or at registration if it had already completed.
Part 2 (`Spec/C06Sound.lean`): the invariant tying the operational network to `evalS` for every
schedule (soundness: a derived future never completes earlier than, or differently from, what
`evalS` says); the well-formedness side condition on Try values (audit finding 1: `EvOK`, `WFTry`, `WFE`,
`wellformed_every_schedule`, `illformed_source_excluded`).
`Spec/C06Methods.lean` (audit finding 7): the `fp.Future` METHODS (`Map`, `Recover`, `RecoverCase`, `Failed`,
`FlatMap`, `RecoverWith`, `RecoverCaseWith`, `Or`, `OrFuture`) with the concrete Try functions of future.go
(`Model/FutureMethods.lean`), their `evalS` stated through the C01/C02-verified `TryM.*` functions, and `Apply` with an
explicitly panicking user function (`apply_completes_on_panic`).
-/
namespace FpVerif.Spec.C06
open FpVerif FpVerif.Fut

-- denotation of derived combinators --------------------------------------------------------------------

theorem evalS_map (σ : Nat → Option (Try Val)) (e : FExpr) (f : Val → W Val) :
    evalS σ (Fut.map e f) = bindOk (evalS σ e) (fun v => some (.success (f v).1)) := by
  simp only [Fut.map, evalS]

theorem evalS_map2 (σ : Nat → Option (Try Val)) (a b : Nat) (f : Val → Val → W Val) :
    evalS σ (Fut.map2 a b f)
      = bindOk (σ a) (fun x => bindOk (σ b) (fun y => some (.success (f x y).1))) := by
  simp only [Fut.map2, evalS, Fut.map]

/-- Map2 with `a` pending is pending whatever `b` is; with `a` failed it is that failure whatever `b` is
    (left-to-right short-circuit). -/
theorem evalS_map2_pending (σ : Nat → Option (Try Val)) (a b : Nat) (f : Val → Val → W Val)
    (h : σ a = none) : evalS σ (Fut.map2 a b f) = none := by
  simp [evalS_map2, h, bindOk]

theorem evalS_map2_first_failure (σ : Nat → Option (Try Val)) (a b : Nat) (f : Val → Val → W Val) (e : Err)
    (h : σ a = some (.failure e)) : evalS σ (Fut.map2 a b f) = some (.failure e) := by
  simp [evalS_map2, h, bindOk]

theorem evalS_compose (σ : Nat → Option (Try Val)) (f1 f2 : Val → FExpr) (a : Val) :
    evalS σ (Fut.compose f1 f2 a) = bindOk (evalS σ (f1 a)) (fun v => evalS σ (f2 v)) := rfl

/-- Sequence keeps input order and short-circuits on the first failure in input order: stated through
    the accumulator form, for every list of handles. -/
theorem evalS_sequenceAcc_cons (σ : Nat → Option (Try Val)) (p : Nat) (ps : List Nat) (acc : FExpr) :
    evalS σ (Fut.sequenceAcc (p :: ps) acc)
      = evalS σ (Fut.sequenceAcc ps (.flatMap acc (fun xs => Fut.map (.ref p)
          (fun x => (snocV xs x, []))))) := rfl

/-- all operands successful: the result is the list of their values in input order -/
theorem evalS_sequenceAcc_all_success (σ : Nat → Option (Try Val)) (pvs : List (Nat × Val)) (acc : FExpr)
    (l0 : List Val) (hacc : evalS σ acc = some (.success (.seq l0)))
    (h : ∀ pv ∈ pvs, σ pv.1 = some (.success pv.2)) :
    evalS σ (Fut.sequenceAcc (pvs.map (·.1)) acc) = some (.success (.seq (l0 ++ pvs.map (·.2)))) := by
  induction pvs generalizing acc l0 with
  | nil => simpa [Fut.sequenceAcc] using hacc
  | cons pv pvs ih =>
    simp only [List.map_cons, Fut.sequenceAcc]
    have hp := h pv (by simp)
    have := ih (acc := .flatMap acc (fun xs => Fut.map (.ref pv.1)
        (fun x => (snocV xs x, [])))) (l0 := l0 ++ [pv.2])
        (by simp [evalS, hacc, bindOk, Fut.map, hp, snocV]) (fun x hx => h x (by simp [hx]))
    simpa [List.append_assoc] using this

/-- the first failing operand (in input order) decides, whatever the later operands are -/
theorem evalS_sequenceAcc_failure (σ : Nat → Option (Try Val)) (ps : List Nat) (acc : FExpr) (e : Err)
    (hacc : evalS σ acc = some (.failure e)) :
    evalS σ (Fut.sequenceAcc ps acc) = some (.failure e) := by
  induction ps generalizing acc with
  | nil => simpa [Fut.sequenceAcc] using hacc
  | cons p ps ih =>
    simp only [Fut.sequenceAcc]
    exact ih _ (by simp [evalS, hacc, bindOk])

-- monotonicity ------------------------------------------------------------------------------------------

/-- `σ'` knows at least what `σ` knows -/
def Ext (σ σ' : Nat → Option (Try Val)) : Prop := ∀ p v, σ p = some v → σ' p = some v

theorem bindOk_some {o : Option (Try Val)} {f : Val → Option (Try Val)} {r : Try Val}
    (h : bindOk o f = some r) :
    (∃ v, o = some (.success v) ∧ f v = some r) ∨ (∃ e, o = some (.failure e) ∧ r = .failure e) := by
  unfold bindOk at h
  split at h
  · exact .inl ⟨_, rfl, h⟩
  · simp at h; exact .inr ⟨_, rfl, h.symm⟩
  · simp at h

theorem bindTry_some {o : Option (Try Val)} {f : Try Val → Option (Try Val)} {r : Try Val}
    (h : bindTry o f = some r) : ∃ t, o = some t ∧ f t = some r := by
  unfold bindTry at h
  split at h
  · exact ⟨_, rfl, h⟩
  · simp at h

/-- `o` is below `o'`: once `o` is determined, `o'` is, with the same value -/
def Below (o o' : Option (Try Val)) : Prop := ∀ r, o = some r → o' = some r

theorem Below.refl (o : Option (Try Val)) : Below o o := fun _ h => h

theorem Below.trans {a b c : Option (Try Val)} (h1 : Below a b) (h2 : Below b c) : Below a c :=
  fun r hr => h2 r (h1 r hr)

/-- the three operators `evalS` is made of respect `Below`, in the operand and in the continuation -/
theorem bindOk_below {o o' : Option (Try Val)} {f f' : Val → Option (Try Val)} (h : Below o o')
    (hf : ∀ v, Below (f v) (f' v)) : Below (bindOk o f) (bindOk o' f') := by
  intro r hr
  rcases bindOk_some hr with ⟨v, hv, hk⟩ | ⟨e, he, hre⟩
  · rw [h _ hv]; exact hf v r hk
  · rw [h _ he, hre]; rfl

theorem bindTry_below {o o' : Option (Try Val)} {f f' : Try Val → Option (Try Val)} (h : Below o o')
    (hf : ∀ t, Below (f t) (f' t)) : Below (bindTry o f) (bindTry o' f') := by
  intro r hr
  obtain ⟨t, ht, hk⟩ := bindTry_some hr
  rw [h _ ht]; exact hf t r hk

theorem map_below {o o' : Option (Try Val)} (g : Try Val → Try Val) (h : Below o o') : Below (o.map g) (o'.map g) := by
  intro r hr
  obtain ⟨t, ht, rfl⟩ := Option.map_eq_some_iff.mp hr
  rw [h _ ht]; rfl

/-- relations between three-valued results that the operators of `evalS` respect: "below" (soundness), its converse
    (completeness) and equality (fixpoint) — one proof about the recorded expressions of a net serves all three -/
structure ERel (R : Option (Try Val) → Option (Try Val) → Prop) : Prop where
  refl : ∀ o, R o o
  trans : ∀ {a b c}, R a b → R b c → R a c
  bind : ∀ {o o' : Option (Try Val)} {f f' : Val → Option (Try Val)}, R o o' → (∀ v, R (f v) (f' v)) →
    R (bindOk o f) (bindOk o' f')
  bindTry : ∀ {o o' : Option (Try Val)} {f f' : Try Val → Option (Try Val)}, R o o' → (∀ t, R (f t) (f' t)) →
    R (bindTry o f) (bindTry o' f')
  map : ∀ {o o' : Option (Try Val)} (g : Try Val → Try Val), R o o' → R (o.map g) (o'.map g)

theorem ERel.of_eq {R : Option (Try Val) → Option (Try Val) → Prop} (hR : ERel R) {a b : Option (Try Val)} (h : a = b) :
    R a b :=
  h ▸ hR.refl a

theorem erel_below : ERel Below :=
  ⟨Below.refl, Below.trans, bindOk_below, bindTry_below, map_below⟩

theorem erel_above : ERel (fun a b => Below b a) :=
  ⟨fun _ _ h => h, fun h1 h2 r hr => h1 r (h2 r hr), fun h hf => bindOk_below h hf, fun h hf => bindTry_below h hf,
   fun g h => map_below g h⟩

theorem erel_eq : ERel (@Eq (Option (Try Val))) :=
  ⟨fun _ => rfl, fun h1 h2 => h1.trans h2, fun h hf => by subst h; congr 1; funext v; exact hf v,
   fun h hf => by subst h; congr 1; funext v; exact hf v, fun g h => by rw [h]⟩

theorem evalS_below {σ σ' : Nat → Option (Try Val)} (hx : ∀ p, Below (σ p) (σ' p)) (e : FExpr) :
    Below (evalS σ e) (evalS σ' e) := by
  induction e with
  | ref p => exact hx p
  | successful v => exact .refl _
  | failed e => exact .refl _
  | successfulOf e _ => exact .refl _
  | logged evs e ih => exact ih
  | flatMap e k ihe ihk => exact bindOk_below ihe ihk
  | transform e f ih => exact map_below _ ih
  | transformWith e k ihe ihk => exact bindTry_below ihe ihk
  | recoverWith e d k ihe ihk =>
    simp only [evalS]
    refine bindTry_below ihe (fun t => ?_)
    cases t with
    | success v => exact .refl _
    | failure err =>
      show Below (if d err then _ else _) (if d err then _ else _)
      split
      · exact ihk err
      · exact .refl _
  | orFuture e alt ihe iha =>
    simp only [evalS]
    refine bindTry_below ihe (fun t => ?_)
    cases t with
    | success v => exact .refl _
    | failure err => exact iha
  | apply f => exact .refl _

/-- Once an expression is determined it stays determined with the same value, whatever else completes. -/
theorem evalS_mono (σ σ' : Nat → Option (Try Val)) (hx : Ext σ σ') (e : FExpr) (r : Try Val)
    (h : evalS σ e = some r) : evalS σ' e = some r :=
  evalS_below hx e r h

-- the promise cell --------------------------------------------------------------------------------------

theorem build_status_mono (e : FExpr) (n : Net) (q : Nat) (v : Try Val) (h : n.status q = some v) :
    (build e n).2.status q = some v :=
  build_rel (R := fun n n' => n.status q = some v → n'.status q = some v)
    (hrefl := fun _ h => h)
    (htrans := fun h1 h2 h => h2 (h1 h))
    (hlog := fun _ _ h => h)
    (hconst := fun _ _ _ h => complete_status_mono _ _ h)
    (hnode := fun _ _ _ _ _ h => by
      rw [onComplete_status]
      exact h)
    (happly := fun _ _ h => h)
    e n h

theorem runTask_status_mono (tk : Task) (n : Net) (q : Nat) (v : Try Val) (h : n.status q = some v) :
    (runTask tk n).status q = some v := by
  rw [runTask_eq_act]
  cases tk.act.2 with
  | done np r => exact complete_status_mono _ _ h
  | chain e np => simp only [Act.run, onComplete_status]; exact build_status_mono _ _ _ _ h
  | nop => exact h

theorem step_status_mono (n : Net) (ev : Ev) (q : Nat) (v : Try Val) (h : n.status q = some v) :
    (step n ev).status q = some v := by
  cases ev with
  | run i =>
    simp only [step]
    split
    · exact runTask_status_mono _ _ _ _ h
    · exact h
  | src p t => exact complete_status_mono _ _ h
  | mk e => exact build_status_mono _ _ _ _ h
  | obs p id => simp only [step, onComplete_status]; exact h

/-- Single assignment, for EVERY sequence of events (any completion order of the sources, any order of
    running the pooled tasks, any later constructions done by callbacks): a completed promise keeps
    exactly that value forever. -/
theorem single_assignment (n : Net) (evs : List Ev) (q : Nat) (v : Try Val) (h : n.status q = some v) :
    (runEvs n evs).status q = some v :=
  Fold.inv (P := fun n => n.status q = some v) (fun n ev h => step_status_mono n ev q v h) h evs

theorem runEvs_append (n : Net) (evs evs' : List Ev) : runEvs n (evs ++ evs') = runEvs (runEvs n evs) evs' :=
  List.foldl_append ..

/-- a second `Complete` on a completed promise returns false and changes neither its value nor the pool -/
theorem complete_twice (p : Nat) (t : Try Val) (n : Net) (v : Try Val) (h : n.status p = some v) :
    complete p t n = { n with completes := n.completes ++ [(p, false)] } := by
  simp [complete, h]

/-- exactly-once delivery: completing a pending promise turns each registered callback into exactly one
    task (in registration order) and forgets the registrations … -/
theorem complete_delivers (p : Nat) (t : Try Val) (n : Net) (h : n.status p = none) :
    (complete p t n).pool = n.pool ++ (n.cbs p).map (fun c => Task.cb c t) ∧ (complete p t n).cbs p = [] := by
  simp [complete, h]

/-- … and registering on an already completed promise queues the callback's task at once, with its value. -/
theorem onComplete_completed (p : Nat) (c : CB) (n : Net) (t : Try Val) (h : n.status p = some t) :
    (onComplete p c n).pool = n.pool ++ [Task.cb c t] ∧ (onComplete p c n).cbs = n.cbs := by
  simp [onComplete, h]

theorem onComplete_pending (p : Nat) (c : CB) (n : Net) (h : n.status p = none) :
    (onComplete p c n).pool = n.pool ∧ (onComplete p c n).cbs p = n.cbs p ++ [c] := by
  simp [onComplete, h]

/-- A future created by Apply/Apply2/FuncN always completes once its task runs — with the Failure the
    panic was turned into if the function panicked (the `W (Try Val)` result already is that Try).
    NOTE (audit finding 7): here the `defer recover()` of future_op.go:53-57 is folded into the type of `f`; the
    statement in which the user function has an explicit panic outcome and the recover is part of the modelled
    task is `apply_completes_on_panic` / `apply_always_completes` / `applyGo_of` in `Spec/C06Methods.lean`
    (`mApply f = .apply (applyGo f)`, of which this theorem is the instance `f := applyGo g`). -/
theorem apply_completes (f : Unit → W (Try Val)) (n : Net) (h : n.status n.next = none) :
    (build (.apply f) n).1 = n.next ∧
    (build (.apply f) n).2.pool = n.pool ++ [Task.applyT f n.next] ∧
    (runTask (Task.applyT f n.next) (build (.apply f) n).2).status n.next = some (f ()).1 := by
  simp [build, fresh, runTask, complete, h]

end FpVerif.Spec.C06
