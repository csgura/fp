import FpVerif.Model.StateTExt
import FpVerif.Spec.C17
import FpVerif.Spec.C01TExt
/-!
# C17 (extension) — `statet.Run`, `Merge`, `ApTry`, `ApOption` equal their definitions through
`FlatMap` / `Get` / `Put` / `Pure` / `FromTry`, including state threading and the state reported on failure.
All functions are arbitrary `GoM` computations, all states universally quantified.
-/
namespace FpVerif.Spec.C17
open FpVerif MonadFamily FpVerif.Spec.C01

variable {S A B : Type}

/-- `Run(f)`: read the state, run `f` on it, install the state it returns, yield its value -/
theorem run_def (f : S → GoM (A × S)) :
    StM.run f = StM.flatMap StM.get (fun s => do
      let (a, ns) ← f s
      Pure.pure (StM.flatMap (StM.put ns) (fun _ => Pure.pure (StM.pure a)))) := by
  funext s0
  simp only [StM.run, StM.flatMap, StM.get, StM.put, StM.pure, bind_assoc, pure_bind]

/-- HYPOTHESIS-FREE (audit finding 14): for EVERY `f` (it may log and panic): `Run(f)` from `s` runs `f s` — once,
    with all its effects —, never fails, and reports exactly the value and the state `f` returned -/
theorem run_eq (f : S → GoM (A × S)) (s : S) :
    StM.run f s = (f s >>= fun x => Pure.pure (.success x.1, x.2)) := by
  rfl

/-- GENERAL form of `run_state`: `f` may have effects `act` before it returns; they are kept -/
theorem run_state_eff {X : Type} (f : S → GoM (A × S)) (s ns : S) (a : A) (act : GoM X)
    (h : f s = act >>= fun _ => Pure.pure (a, ns)) :
    StM.run f s = act >>= fun _ => Pure.pure (.success a, ns) :=
  bind_of_returns h _

/-- `Run` never fails and reports exactly the state `f` returned (the effect-free instance of `run_state_eff`) -/
theorem run_state (f : S → GoM (A × S)) (s ns : S) (a : A) (h : f s = Pure.pure (a, ns)) :
    StM.run f s = Pure.pure (.success a, ns) := by
  exact run_state_eff f s ns a (Pure.pure ()) h

/-- `Merge(fss, fsa) = ModifyS(fss, fsa)`: the value function runs FIRST, then the state function, both on the
    incoming state -/
theorem merge_def (fss : S → GoM S) (fsa : S → GoM A) : StM.merge fss fsa = StM.modifyS fss fsa := by
  funext s
  simp only [StM.merge, StM.run, StM.fn1Merge, StM.modifyS, bind_assoc, pure_bind]

theorem merge_order (fss : S → GoM S) (fsa : S → GoM A) (s : S) :
    StM.merge fss fsa s = (do let a ← fsa s; let ns ← fss s; Pure.pure (.success a, ns)) :=
  congrFun (merge_def fss fsa) s

/-- `ApTry(st, a)` through `FlatMap`: run the function side, then apply the function under `try.Map` and lift the
    resulting Try with `FromTry` — the state is the one the function side leaves -/
theorem apTry_def (st : StM.StT S (A → GoM B)) (a : Try A) :
    StM.apTry st a = StM.flatMap st (fun f => do
      let r ← tryMap a f
      Pure.pure (StM.fromTry r)) := by
  funext s
  refine StM.bind_outcome_congr _ (fun f ns => ?_) fun e ns => ?_
  · simp only [MonadFamily.ap, TryM.ops_flatMap_pure, TryM.flatMap_success]
    rw [show map TryM.ops (pure a) f = tryMap a f from transformT_def a f]
    simp only [bind_assoc, pure_bind, StM.fromTry]
  · simp only [MonadFamily.ap, TryM.ops_flatMap_pure, TryM.flatMap_failure_eq, bind_assoc, pure_bind]

/-- GENERAL form (audit finding 14): the function side may have effects `act` (a log, other callbacks) before it
    returns the function; ORDER: those effects, then the applied function's; the state is the function side's -/
theorem apTry_success_eff {X : Type} (st : StM.StT S (A → GoM B)) (s ns : S) (f : A → GoM B) (v : A) (act : GoM X)
    (h : st s = act >>= fun _ => Pure.pure (.success f, ns)) :
    StM.apTry st (.success v) s = act >>= fun _ => (do let b ← f v; Pure.pure (.success b, ns)) := by
  rw [apTry_def, flatMap_success_eff st _ s ns f act h]
  simp only [tryMap, bind_assoc, pure_bind, StM.fromTry]

/-- both sides succeed: the function is applied once, AFTER the function side ran, and the state is the function side's -/
theorem apTry_success (st : StM.StT S (A → GoM B)) (s ns : S) (f : A → GoM B) (v : A)
    (h : st s = Pure.pure (.success f, ns)) :
    StM.apTry st (.success v) s = (do let b ← f v; Pure.pure (.success b, ns)) := by
  exact apTry_success_eff st s ns f v (Pure.pure ()) h

/-- GENERAL form: the function side fails after effects `act`: they are kept, and the state reported is the state at
    the point of failure (`ns`, not the initial `s`) -/
theorem apTry_failure_state_eff {X : Type} (st : StM.StT S (A → GoM B)) (a : Try A) (s ns : S) (e : Err)
    (he : e ≠ .nil) (act : GoM X) (h : st s = act >>= fun _ => Pure.pure (.failure e, ns)) :
    StM.apTry st a s = act >>= fun _ => Pure.pure (.failure e, ns) := by
  rw [apTry_def]
  exact flatMap_failure_eff st _ s ns e he act h

/-- the function side fails: the state reported is the state at the point of failure (`ns`, not the initial `s`) -/
theorem apTry_failure_state (st : StM.StT S (A → GoM B)) (a : Try A) (s ns : S) (e : Err) (he : e ≠ .nil)
    (h : st s = Pure.pure (.failure e, ns)) :
    StM.apTry st a s = Pure.pure (.failure e, ns) := by
  exact apTry_failure_state_eff st a s ns e he (Pure.pure ()) h

/-- `ApOption(st, a) = ApTry(st, try.FromOption(a))` -/
theorem apOption_def (st : StM.StT S (A → GoM B)) (a : Option A) :
    StM.apOption st a = StM.apTry st (TryM.fromOption a) := rfl

theorem apOption_some_eff {X : Type} (st : StM.StT S (A → GoM B)) (s ns : S) (f : A → GoM B) (v : A) (act : GoM X)
    (h : st s = act >>= fun _ => Pure.pure (.success f, ns)) :
    StM.apOption st (some v) s = act >>= fun _ => (do let b ← f v; Pure.pure (.success b, ns)) := by
  simp only [apOption_def, TryM.fromOption, apTry_success_eff st s ns f v act h]

theorem apOption_some (st : StM.StT S (A → GoM B)) (s ns : S) (f : A → GoM B) (v : A)
    (h : st s = Pure.pure (.success f, ns)) :
    StM.apOption st (some v) s = (do let b ← f v; Pure.pure (.success b, ns)) := by
  exact apOption_some_eff st s ns f v (Pure.pure ()) h

-- non-vacuity: a function side that changes the state and succeeds / fails
example : ∃ (st : StM.StT Nat (Nat → GoM Nat)) (f : Nat → GoM Nat), st 1 = Pure.pure (.success f, 5) :=
  ⟨fun _ => Pure.pure (.success (fun x => Pure.pure (x + 1)), 5), fun x => Pure.pure (x + 1), rfl⟩
example : ∃ (st : StM.StT Nat (Nat → GoM Nat)), st 1 = Pure.pure (.failure (.code 2), 5) :=
  ⟨fun _ => Pure.pure (.failure (.code 2), 5), rfl⟩
example : StM.apTry (fun (_ : Nat) => (Pure.pure (.success (fun (x : Nat) => (Pure.pure (x + 1) : GoM Nat)), 5) : GoM _)) (.success 2) 1
    = Pure.pure (.success 3, 5) := by
  simp only [apTry_success (ns := 5) (f := fun (x : Nat) => (Pure.pure (x + 1) : GoM Nat)), pure_bind]

/-- a function side that LOGS, moves the state and succeeds: the general form applies — "k" first, then the function -/
example : StM.apTry (fun (_ : Nat) => (do emit "k"; Pure.pure (.success (fun (x : Nat) => (do emit "f"; Pure.pure (x + 1) : GoM Nat)), 5) : GoM _))
      (.success 2) 1
    = (emit "k" >>= fun _ => emit "f" >>= fun _ => Pure.pure (.success 3, 5)) := by
  rw [apTry_success_eff (ns := 5) (f := fun (x : Nat) => (do emit "f"; Pure.pure (x + 1) : GoM Nat)) (act := emit "k") (h := rfl)]
  simp

end FpVerif.Spec.C17
