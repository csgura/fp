import FpVerif.Model.MonadFamily
/-!
# C01 (part 1) — the generated monad family equals its definition in terms of FlatMap and Pure

For ANY package whose `FlatMap`/`Pure` satisfy `MonadOps.Lawful` (instances: `Spec/C01Inst.lean`),
every derived combinator of `X_monad.go` / `X_traverse.go` equals its normal form written with
`flatMap`, `pure'` and `seq` only: operands are run left to right, each user callback exactly once,
nothing dropped or duplicated.  All values and callbacks (arbitrary effectful `GoM` functions) are
universally quantified; arities are handled generically (operand lists of any length).
Termination: every definition in `Model/MonadFamily.lean` is accepted by Lean as total.
-/
namespace FpVerif.Spec.C01
open FpVerif MonadFamily

variable {C : Type → Type} (o : MonadOps C)
variable {A B D R : Type}

/-- Map(m,f) = FlatMap(m, unit ∘ f) -/
theorem map_def (m : C A) (f : A → GoM R) :
    map o m f = o.flatMap m (fun a => o.seq (f a) o.pure') := rfl

theorem flatten_def (tta : C (C A)) : flatten o tta = o.flatMap tta id := rfl

theorem replace_def (L : o.Lawful) (s : C A) (b : R) : replace o s b = o.flatMap s (fun _ => o.pure' b) := by
  simp only [replace, map_def, L.seq_pure]

theorem map2_def (first : C A) (second : C B) (fab : A → B → GoM R) :
    map2 o first second fab
      = o.flatMap first (fun a => o.flatMap second (fun b => o.seq (fab a b) o.pure')) := rfl

theorem zip_def (L : o.Lawful) (first : C A) (second : C B) :
    zip o first second = o.flatMap first (fun a => o.flatMap second (fun b => o.pure' (a, b))) := by
  simp only [zip, map2, map_def, L.seq_pure]

theorem ap_def (tfab : C (A → GoM B)) (ta : C A) :
    ap o tfab ta = o.flatMap tfab (fun fab => o.flatMap ta (fun a => o.seq (fab a) o.pure')) := rfl

theorem apFunc_def (tfab : C (A → GoM B)) (ta : Unit → C A) :
    apFunc o tfab ta = o.flatMap tfab (fun fab => o.flatMap (ta ()) (fun a => o.seq (fab a) o.pure')) := rfl

theorem liftA2_def (fab : A → B → GoM R) (a : C A) (b : C B) :
    liftA2 o fab a b = map2 o a b fab := rfl

/-- LiftM(f)(ta) = FlatMap(ta, f): the Pure/Flatten round trip inside the template cancels. -/
theorem liftM_def (L : o.Lawful) (fa : A → C R) (ta : C A) : liftM o fa ta = o.flatMap ta fa := by
  simp only [MonadFamily.liftM, flatten, L.assoc, L.left_id]

theorem liftM2_def (L : o.Lawful) (fab : A → B → C R) (a : C A) (b : C B) :
    liftM2 o fab a b = o.flatMap a (fun x => o.flatMap b (fun y => fab x y)) := by
  simp only [liftM2, flatten, L.assoc, L.left_id]

theorem flatMap2_def (L : o.Lawful) (a : C A) (b : C B) (fab : A → B → C R) :
    flatMap2 o a b fab = o.flatMap a (fun x => o.flatMap b (fun y => fab x y)) :=
  liftM2_def o L fab a b

theorem flap_def (L : o.Lawful) (tfa : C (A → GoM R)) (a : A) :
    flap o tfa a = o.flatMap tfa (fun f => o.seq (f a) o.pure') := by
  simp only [flap, ap, map_def, L.left_id]

/-- `FlatMap` after `Ap(tf, Pure(a))`: unwrap the function, run it on `a`, hand its result to the continuation -/
theorem flatMap_ap_pure (L : o.Lawful) (tf : C (A → GoM B)) (a : A) (k : B → C R) :
    o.flatMap (ap o tf (o.pure' a)) k = o.flatMap tf (fun f => o.seq (f a) k) := by
  simp only [ap, map_def, L.left_id, L.assoc, L.flatMap_seq]

theorem flap2_def (L : o.Lawful) (tf : C (A → GoM (B → GoM R))) (a : A) (b : B) :
    flap2 o tf a b = o.flatMap tf (fun f => o.seq (f a) (fun g => o.seq (g b) o.pure')) :=
  (flatMap_ap_pure o L tf a _).trans (by simp only [map_def, L.left_id])

theorem flapMap_def (L : o.Lawful) (f : A → B → GoM R) (a : C A) (b : B) :
    flapMap o f a b = o.flatMap a (fun x => o.seq (f x b) o.pure') := by
  simp only [flapMap, flap, ap, map_def, L.left_id, L.assoc, L.seq_pure]

theorem method1_def (L : o.Lawful) (ta : C A) (f : A → B → GoM R) (b : B) :
    method1 o ta f b = o.flatMap ta (fun x => o.seq (f x b) o.pure') :=
  flapMap_def o L f ta b

theorem method2_def (L : o.Lawful) (ta : C A) (f : A → B → D → GoM R) (b : B) (c : D) :
    method2 o ta f b c = o.flatMap ta (fun x => o.seq (f x b c) o.pure') := by
  simp only [method2, flap2, flap, ap, map_def, L.left_id, L.assoc, L.seq_pure]

theorem flatFlapMap_def (L : o.Lawful) (f : A → B → C R) (ta : C A) (b : B) :
    flatFlapMap o f ta b = o.flatMap ta (fun x => f x b) := by
  simp only [flatFlapMap, flatten, L.left_id, L.assoc]

theorem flatMethod1_def (L : o.Lawful) (ta : C A) (f : A → B → C R) (b : B) :
    flatMethod1 o ta f b = o.flatMap ta (fun x => f x b) := flatFlapMap_def o L f ta b

theorem flatMethod2_def (L : o.Lawful) (ta : C A) (f : A → B → D → C R) (b : B) (c : D) :
    flatMethod2 o ta f b c = o.flatMap ta (fun x => f x b c) := by
  simp only [flatMethod2, flatten, L.left_id, L.assoc]

theorem with_def (L : o.Lawful) (withf : A → B → GoM A) (v : C B) (a : A) :
    with_ o withf v a = o.flatMap v (fun b => o.seq (withf a b) o.pure') := by
  simp only [with_, flap, ap, map_def, L.left_id, L.assoc, L.seq_pure]

theorem unzip_def (L : o.Lawful) (t : C (A × B)) :
    unzip o t = (o.flatMap t (fun p => o.pure' p.1), o.flatMap t (fun p => o.pure' p.2)) := by
  simp only [unzip, map_def, L.seq_pure]

theorem compose_def (f1 : A → C B) (f2 : B → C D) (a : A) :
    compose o f1 f2 a = o.flatMap (f1 a) f2 := rfl

/-- Kleisli composition is associative (this is the monad associativity law in `Compose` form). -/
theorem compose_assoc {E : Type} (L : o.Lawful) (f1 : A → C B) (f2 : B → C D) (f3 : D → C E) :
    compose o (compose o f1 f2) f3 = compose o f1 (compose o f2 f3) := by
  funext a; simp only [compose, L.assoc]; rfl

-- every arity at once ----------------------------------------------------------------------------

/-- LiftAN / MapN / ZipN, any N: run the operands left to right, then call `f` once on their values. -/
theorem liftAList_def (ms : List (C A)) (f : List A → GoM R) :
    liftAList o ms f = bindAll o ms (fun xs => o.seq (f xs) o.pure') := by
  induction ms generalizing f with
  | nil => rfl
  | cons m ms ih => simp only [liftAList, bindAll, ih]

/-- LiftMN / FlatMapN, any N. -/
theorem liftMList_def (ms : List (C A)) (f : List A → C R) :
    liftMList o ms f = bindAll o ms f := by
  induction ms generalizing f with
  | nil => rfl
  | cons m ms ih => simp only [liftMList, bindAll, ih]

/-- operands that are already values: nothing runs, the continuation gets the values -/
theorem bindAll_pure (L : o.Lawful) (xs : List A) : ∀ k : List A → C R, bindAll o (xs.map o.pure') k = k xs := by
  induction xs with
  | nil => exact fun _ => rfl
  | cons x xs ih => exact fun k => (L.left_id x _).trans (ih _)

/-- the 2-operand instance of the generic definition is `Map2` (ties the list form to the code) -/
theorem liftAList_two (a b : C A) (f : List A → GoM R) :
    liftAList o [a, b] f = map2 o a b (fun x y => f [x, y]) := by
  rfl

/-- apply a curried Go function to its arguments one after the other -/
def applyAll : (n : Nat) → (A → GoM (Cur A R n)) → List A → GoM (Option R)
  | 0, f, [a] => do let r ← f a; Pure.pure (some r)
  | n + 1, f, a :: as => do let g ← f a; applyAll n g as
  | _, _, _ => Pure.pure none

/-- FlapN, any N: unwrap the function once, then feed it the arguments in order. -/
theorem flapN_def (L : o.Lawful) (n : Nat) (tf : C (A → GoM (Cur A R n))) (args : List A)
    (h : args.length = n + 1) :
    flapN o n tf args = o.flatMap tf (fun f => o.seq (applyAll n f args) o.pure') := by
  -- by computation `flapN` is a `FlatMap` after `Ap(tf, Pure a)` and `applyAll` is `f a >>= …`, split off by `seq_bind`
  induction n generalizing args with
  | zero =>
    match args, h with
    | [a], _ =>
      exact (flatMap_ap_pure o L tf a _).trans (congrArg _ (funext fun f => (L.seq_bind _ _ _).symm))
  | succ n ih =>
    match args, h with
    | a :: as, h =>
      exact (ih _ as (by simpa using h)).trans
        ((flatMap_ap_pure o L tf a _).trans (congrArg _ (funext fun f => (L.seq_bind _ _ _).symm)))

/-- ComposeN, any N: the chain is the left-to-right Kleisli composition. -/
theorem composeList_cons (f g : A → C A) (fs : List (A → C A)) (a : A) :
    composeList o (f :: g :: fs) a = o.flatMap (f a) (composeList o (g :: fs)) := rfl

theorem composeList_two (f g : A → C A) (a : A) :
    composeList o [f, g] a = o.flatMap (f a) g := rfl

/-- re-bracketing a chain does not change it (associativity, any lengths) -/
theorem composeList_append (L : o.Lawful) (fs gs : List (A → C A)) (hf : fs ≠ []) (hg : gs ≠ []) (a : A) :
    composeList o (fs ++ gs) a = o.flatMap (composeList o fs a) (composeList o gs) := by
  induction fs generalizing a with
  | nil => exact absurd rfl hf
  | cons f fs ih =>
    cases fs with
    | nil =>
      cases gs with
      | nil => exact absurd rfl hg
      | cons g gs => rfl
    | cons f' fs' =>
      simp only [List.cons_append, composeList, L.assoc]
      congr 1; funext b
      exact ih (by simp) b

-- traverse family ---------------------------------------------------------------------------------

theorem foldM_nil (z : B) (f : B → A → C B) : foldM o ([] : List A) z f = o.pure' z := rfl

/-- FoldM is the left-to-right chain of its steps. -/
theorem foldM_snoc (xs : List A) (x : A) (z : B) (f : B → A → C B) :
    foldM o (xs ++ [x]) z f = o.flatMap (foldM o xs z f) (fun b => f b x) := by
  simp [foldM, List.foldl_append]

theorem foldM_singleton (L : o.Lawful) (x : A) (z : B) (f : B → A → C B) :
    foldM o [x] z f = f z x := by
  simp [foldM, L.left_id]

/-- TraverseSeq / TraverseSlice / Traverse: elements are visited in order, results collected in order. -/
theorem traverseSeq_snoc (L : o.Lawful) (xs : List A) (x : A) (fa : A → C R) :
    traverseSeq o (foldM o) (xs ++ [x]) fa
      = o.flatMap (traverseSeq o (foldM o) xs fa) (fun acc => o.flatMap (fa x) (fun r => o.pure' (acc ++ [r]))) := by
  simp only [traverseSeq, foldM_snoc, map_def, L.seq_pure]

theorem sequence_snoc (L : o.Lawful) (ts : List (C A)) (t : C A) :
    sequenceSeq o (foldM o) (ts ++ [t])
      = o.flatMap (sequenceSeq o (foldM o) ts) (fun acc => o.flatMap t (fun r => o.pure' (acc ++ [r]))) :=
  traverseSeq_snoc o L ts t id

end FpVerif.Spec.C01
