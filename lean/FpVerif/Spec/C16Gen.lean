import FpVerif.Gen.LazyGen
import FpVerif.Spec.C16
/-!
# C16 / C01 (lazy.Eval) — Tie A: the REGENERATED translation of lazy/lazy.go + lazy/tailcall_gen.go is the model

`FpVerif/Gen/LazyGen.lean` is written by `harness/cmd/lazy2lean` from the working tree on every run (never committed).  It contains
the inductive type the translator emits for `type Eval[T] struct { firstFunc func() T; getNextFunc func(T) Eval[T] }` — the SAME
defunctionalisation as `Model/Eval.lean` (`leaf` = getNextFunc nil, `cont`, `logged` = events of the user function that produced the
Eval), but a type of its own — and one definition per function / method found.  This file is committed and states

* `toModel` / `ofModel`: the translated type and `EvalM.Eval` are isomorphic (`toModel_ofModel`, `ofModel_toModel`);
* per declaration `<name>_is_model` (the translated definition, seen through `toModel`, IS the definition of `Model/Eval.lean` the
  theorems of `Spec/C16.lean` are about) or `<name>_def` (no model definition: the statement is the specification);
* coverage: the functions found in lazy/*.go are exactly the translated ones and the listed exceptions (there are none), nothing is
  untranslatable, `Eval` is the only type, `Call` and `TailCall` (and nothing else) route their thunk through `Memoize`;
* the headline theorems of C16 / C01 restated for the translated definitions (`runG` = what the translated `Run` loop returns for
  every sufficient fuel: `Run_spec`).
-/
namespace FpVerif.Spec.C16Gen
open FpVerif FpVerif.Gen
open FpVerif.EvalM (W)

variable {T : Type}

-- the two representations -----------------------------------------------------------------------------------------------

def toModel : LazyGen.Eval T → EvalM.Eval T
  | .leaf f => .leaf f
  | .cont f n => .cont f (fun v => toModel (n v))
  | .logged evs e => .logged evs (toModel e)

def ofModel : EvalM.Eval T → LazyGen.Eval T
  | .leaf f => .leaf f
  | .cont f n => .cont f (fun v => ofModel (n v))
  | .logged evs e => .logged evs (ofModel e)

theorem toModel_ofModel (e : EvalM.Eval T) : toModel (ofModel e) = e := by
  induction e with
  | leaf f => rfl
  | cont f n ih => simp only [ofModel, toModel]; congr 1; funext v; exact ih v
  | logged evs e ih => simp only [ofModel, toModel, ih]

theorem ofModel_toModel (e : LazyGen.Eval T) : ofModel (toModel e) = e := by
  induction e with
  | leaf f => rfl
  | cont f n ih => simp only [ofModel, toModel]; congr 1; funext v; exact ih v
  | logged evs e ih => simp only [ofModel, toModel, ih]

/-- the translated struct has the model's three shapes (`getNextFunc == nil`, `!= nil`, pending events) -/
theorem Eval_is_model : Function.LeftInverse (ofModel (T := T)) toModel ∧ Function.RightInverse (ofModel (T := T)) toModel :=
  ⟨ofModel_toModel, toModel_ofModel⟩

variable [Inhabited T]

-- ties: one per translated declaration ------------------------------------------------------------------------------------------

theorem Done_is_model (t : T) : toModel (LazyGen.Done t) = EvalM.done t := rfl

theorem Memoize_is_model {α : Type} (f : Unit → α) : LazyGen.Memoize f = EvalM.memoCell f := rfl

omit [Inhabited T] in
/-- the first request of the fresh cell `Memoize(f)` is the first `get` of the Once-guarded cell of `Model/Memo.lean` -/
theorem Memoize_first_get (f : Unit → W T) :
    LazyGen.Memoize f () = ((Memo.get f none).1, (Memo.get f none).2.2) := rfl

theorem Call_is_model (f : Unit → W T) : toModel (LazyGen.Call f) = EvalM.call f := rfl

theorem TailCall_is_model (f : Unit → LazyGen.Eval T) :
    toModel (LazyGen.TailCall f) = EvalM.tailCall (fun u => toModel (f u)) := rfl

theorem Eval_FlatMap_is_model (r : LazyGen.Eval T) (f : T → LazyGen.Eval T) :
    toModel (LazyGen.Eval.FlatMap r f) = EvalM.flatMap (toModel r) (fun v => toModel (f v)) := by
  induction r with
  | leaf first => rfl
  | cont first next ih =>
    simp only [LazyGen.Eval.FlatMap, toModel, EvalM.flatMap]; congr 1; funext v; exact ih v
  | logged evs e ih => simp only [LazyGen.Eval.FlatMap, toModel, EvalM.flatMap, ih]

theorem Eval_Map_is_model (r : LazyGen.Eval T) (f : T → W T) :
    toModel (LazyGen.Eval.Map r f) = EvalM.map (toModel r) f := by
  simp only [LazyGen.Eval.Map, Eval_FlatMap_is_model, EvalM.map]
  rfl

theorem Map2_is_model (a b : LazyGen.Eval T) (f : T → T → W T) :
    toModel (LazyGen.Map2 a b f) = EvalM.map2 (toModel a) (toModel b) f := by
  simp only [LazyGen.Map2, Eval_FlatMap_is_model, Eval_Map_is_model, EvalM.map2]

theorem Map_is_model (t : LazyGen.Eval T) (f : T → W T) : toModel (LazyGen.Map t f) = EvalM.map (toModel t) f :=
  Eval_Map_is_model t f

theorem FlatMap_is_model (t : LazyGen.Eval T) (f : T → LazyGen.Eval T) :
    toModel (LazyGen.FlatMap t f) = EvalM.flatMap (toModel t) (fun v => toModel (f v)) :=
  Eval_FlatMap_is_model t f

/-- Go's `Resume` returns `(value, closure)`; the model's `resume` is `Resume` followed by the call of the closure (which is what the
    loop of `Run` does next, in the same iteration) -/
def resumeView (x : W (T × Option (Unit → W (LazyGen.Eval T)))) : W (T ⊕ EvalM.Eval T) :=
  match x with
  | ((v, none), l) => (.inl v, l)
  | ((_, some k), l) => ((.inr (toModel (k ()).1)), l ++ (k ()).2)

theorem Eval_Resume_is_model (r : LazyGen.Eval T) : resumeView (LazyGen.Eval.Resume r) = EvalM.resume (toModel r) := by
  cases r with
  | leaf first => cases first <;> rfl
  | cont first next => cases first <;> simp [LazyGen.Eval.Resume, resumeView, toModel, EvalM.resume, EvalM.callFirst]
  | logged evs e => simp [LazyGen.Eval.Resume, resumeView, toModel, EvalM.resume]

/-- a finished Eval resumes to its value and NO continuation; an unfinished one to a continuation -/
theorem Eval_Resume_nil_iff (r : LazyGen.Eval T) :
    (LazyGen.Eval.Resume r).1.2.isNone = true ↔ ∃ first, r = .leaf first := by
  cases r with
  | leaf first => cases first <;> simp [LazyGen.Eval.Resume]
  | cont first next => cases first <;> simp [LazyGen.Eval.Resume]
  | logged evs e => simp [LazyGen.Eval.Resume]

/-- the translated `for` loop of `Run` IS the model's fuelled loop, for every fuel, start and log -/
theorem Run_is_model (n : Nat) (t : LazyGen.Eval T) (log : List Event) :
    LazyGen.Run n t log = EvalM.runLoop n (toModel t) log := by
  induction n generalizing t log with
  | zero => rfl
  | succ n ih =>
    rw [LazyGen.Run, EvalM.runLoop, ← Eval_Resume_is_model]
    rcases LazyGen.Eval.Resume t with ⟨⟨v, _ | k⟩, l⟩
    · rfl
    · simp only [resumeView, ih, List.append_assoc]

theorem Eval_Get_def (n : Nat) (r : LazyGen.Eval T) : LazyGen.Eval.Get n r = LazyGen.Run n r [] := rfl

theorem Eval_Get_is_model (n : Nat) (r : LazyGen.Eval T) : LazyGen.Eval.Get n r = EvalM.runLoop n (toModel r) [] :=
  Run_is_model n r []

-- lazy.Func1..3: a deferred call of `f` (nothing runs when the Eval is built; the closure itself has no events)
theorem Func1_def {A R : Type} [Inhabited A] [Inhabited R] (f : A → W R) (a : A) :
    LazyGen.Func1 f a = (LazyGen.Call (fun _ => f a), []) := rfl
theorem Func2_def {A B R : Type} [Inhabited A] [Inhabited B] [Inhabited R] (f : A → B → W R) (a : A) (b : B) :
    LazyGen.Func2 f a b = (LazyGen.Call (fun _ => f a b), []) := rfl
theorem Func3_def {A B C R : Type} [Inhabited A] [Inhabited B] [Inhabited C] [Inhabited R] (f : A → B → C → W R) (a : A) (b : B) (c : C) :
    LazyGen.Func3 f a b c = (LazyGen.Call (fun _ => f a b c), []) := rfl

-- lazy.TailCall1..9 (tailcall_gen.go): `TailCall` of the closure that applies `f`
section tailCallN
variable {A1 A2 A3 A4 A5 A6 A7 A8 A9 : Type} [Inhabited A1] [Inhabited A2] [Inhabited A3] [Inhabited A4] [Inhabited A5]
  [Inhabited A6] [Inhabited A7] [Inhabited A8] [Inhabited A9]
theorem TailCall1_is_model (f : A1 → LazyGen.Eval T) (a1 : A1) :
    toModel (LazyGen.TailCall1 f a1) = EvalM.tailCall (fun _ => toModel (f a1)) := rfl
theorem TailCall2_is_model (f : A1 → A2 → LazyGen.Eval T) (a1 : A1) (a2 : A2) :
    toModel (LazyGen.TailCall2 f a1 a2) = EvalM.tailCall (fun _ => toModel (f a1 a2)) := rfl
theorem TailCall3_is_model (f : A1 → A2 → A3 → LazyGen.Eval T) (a1 : A1) (a2 : A2) (a3 : A3) :
    toModel (LazyGen.TailCall3 f a1 a2 a3) = EvalM.tailCall (fun _ => toModel (f a1 a2 a3)) := rfl
theorem TailCall4_is_model (f : A1 → A2 → A3 → A4 → LazyGen.Eval T) (a1 : A1) (a2 : A2) (a3 : A3) (a4 : A4) :
    toModel (LazyGen.TailCall4 f a1 a2 a3 a4) = EvalM.tailCall (fun _ => toModel (f a1 a2 a3 a4)) := rfl
theorem TailCall5_is_model (f : A1 → A2 → A3 → A4 → A5 → LazyGen.Eval T) (a1 : A1) (a2 : A2) (a3 : A3) (a4 : A4) (a5 : A5) :
    toModel (LazyGen.TailCall5 f a1 a2 a3 a4 a5) = EvalM.tailCall (fun _ => toModel (f a1 a2 a3 a4 a5)) := rfl
theorem TailCall6_is_model (f : A1 → A2 → A3 → A4 → A5 → A6 → LazyGen.Eval T) (a1 : A1) (a2 : A2) (a3 : A3) (a4 : A4) (a5 : A5) (a6 : A6) :
    toModel (LazyGen.TailCall6 f a1 a2 a3 a4 a5 a6) = EvalM.tailCall (fun _ => toModel (f a1 a2 a3 a4 a5 a6)) := rfl
theorem TailCall7_is_model (f : A1 → A2 → A3 → A4 → A5 → A6 → A7 → LazyGen.Eval T) (a1 : A1) (a2 : A2) (a3 : A3) (a4 : A4) (a5 : A5)
    (a6 : A6) (a7 : A7) :
    toModel (LazyGen.TailCall7 f a1 a2 a3 a4 a5 a6 a7) = EvalM.tailCall (fun _ => toModel (f a1 a2 a3 a4 a5 a6 a7)) := rfl
theorem TailCall8_is_model (f : A1 → A2 → A3 → A4 → A5 → A6 → A7 → A8 → LazyGen.Eval T) (a1 : A1) (a2 : A2) (a3 : A3) (a4 : A4) (a5 : A5)
    (a6 : A6) (a7 : A7) (a8 : A8) :
    toModel (LazyGen.TailCall8 f a1 a2 a3 a4 a5 a6 a7 a8) = EvalM.tailCall (fun _ => toModel (f a1 a2 a3 a4 a5 a6 a7 a8)) := rfl
theorem TailCall9_is_model (f : A1 → A2 → A3 → A4 → A5 → A6 → A7 → A8 → A9 → LazyGen.Eval T) (a1 : A1) (a2 : A2) (a3 : A3) (a4 : A4)
    (a5 : A5) (a6 : A6) (a7 : A7) (a8 : A8) (a9 : A9) :
    toModel (LazyGen.TailCall9 f a1 a2 a3 a4 a5 a6 a7 a8 a9) = EvalM.tailCall (fun _ => toModel (f a1 a2 a3 a4 a5 a6 a7 a8 a9)) := rfl
end tailCallN

-- coverage ----------------------------------------------------------------------------------------------------------------------

/-- the functions / methods with a committed tie above -/
def translatedFns : List String :=
  ["Call", "Done", "Eval.FlatMap", "Eval.Get", "Eval.Map", "Eval.Resume", "FlatMap", "Func1", "Func2", "Func3", "Map", "Map2", "Memoize",
   "Run", "TailCall", "TailCall1", "TailCall2", "TailCall3", "TailCall4", "TailCall5", "TailCall6", "TailCall7", "TailCall8", "TailCall9"]

/-- declarations deliberately left to the differential tie (cmd/eval, cmd/evalstack, cmd/memopanic): none -/
def exceptionFns : List String := []

theorem nothing_untranslatable : LazyGen.untranslatable = [] := rfl
theorem translated_as_committed : LazyGen.translated = translatedFns := rfl
theorem exceptions_as_committed : LazyGen.exceptions = exceptionFns := rfl

/-- every function / method with a body in lazy/*.go is translated or a listed exception, and nothing else is -/
theorem coverage :
    (LazyGen.found.all (fun x => translatedFns.contains x || exceptionFns.contains x)
      && (translatedFns ++ exceptionFns).all LazyGen.found.contains
      && LazyGen.found.length == translatedFns.length + exceptionFns.length) = true :=
  -- the found functions ARE the committed lists, in order
  covered_of_eq (rfl : LazyGen.found = translatedFns ++ exceptionFns)
/-- `Eval` is the only type declared (its fields are checked by the translator: a changed struct is untranslatable) -/
theorem types_as_committed : LazyGen.types = ["Eval"] := rfl
/-- exactly `Call` and `TailCall` route their thunk through `Memoize`, once each (the cell is transparent for `toModel`, so this
    is the statement a `Call` WITHOUT `Memoize` breaks) -/
theorem memoSites_as_committed : LazyGen.memoSites = ["Call:1", "TailCall:1"] := rfl

-- the headline theorems of C16 / C01, for the translated definitions ---------------------------------------------------------------

/-- the denotation of a translated Eval -/
def runG (e : LazyGen.Eval T) : W T := EvalM.run (toModel e)
/-- the number of iterations the translated loop needs -/
def stepsG (e : LazyGen.Eval T) : Nat := EvalM.steps (toModel e)

/-- `runLoop_spec`: the translated `for` loop of `Run` terminates, for EVERY fuel ≥ `stepsG e`, with `runG e` (so `runG` is what the
    translated loop computes, independent of the fuel) -/
theorem Run_spec (e : LazyGen.Eval T) (log : List Event) (n : Nat) (h : stepsG e ≤ n) :
    LazyGen.Run n e log = some ((runG e).1, log ++ (runG e).2) := by
  rw [Run_is_model]; exact C16.runLoop_spec (toModel e) log n h

theorem Eval_Get_spec (e : LazyGen.Eval T) (n : Nat) (h : stepsG e ≤ n) : LazyGen.Eval.Get n e = some (runG e) := by
  rw [Eval_Get_def, Run_spec e [] n h]; simp

/-- the result does not depend on the fuel: two sufficient budgets agree, an insufficient one gives no result rather than a wrong one -/
theorem Run_fuel_irrelevant (e : LazyGen.Eval T) (log : List Event) (n : Nat) (r : W T) (h : LazyGen.Run n e log = some r) :
    r = ((runG e).1, log ++ (runG e).2) := by
  rw [Run_is_model, C16.runLoop_eq] at h
  split at h
  · exact (Option.some.inj h).symm
  · cases h

theorem run_done (t : T) : runG (LazyGen.Done t) = (t, []) := rfl
theorem run_call (f : Unit → W T) : runG (LazyGen.Call f) = f () := rfl

/-- `TailCall(f)` evaluates to what `f()` evaluates to -/
theorem run_tailCall (f : Unit → LazyGen.Eval T) : runG (LazyGen.TailCall f) = runG (f ()) := by
  simp only [runG, TailCall_is_model]; exact C16.run_tailCall _

/-- `Run(r.FlatMap(f)) = Run(f(Run(r)))`, including the order of all side effects -/
theorem run_flatMap (r : LazyGen.Eval T) (f : T → LazyGen.Eval T) :
    runG (LazyGen.Eval.FlatMap r f) = (let (v, l1) := runG r; let (w, l2) := runG (f v); (w, l1 ++ l2)) := by
  simp only [runG, Eval_FlatMap_is_model]; exact C16.run_flatMap _ _

theorem run_map (r : LazyGen.Eval T) (f : T → W T) :
    runG (LazyGen.Eval.Map r f) = (let (v, l1) := runG r; let (w, l2) := f v; (w, l1 ++ l2)) := by
  simp only [runG, Eval_Map_is_model]; exact C16.run_map _ _

theorem run_map2 (a b : LazyGen.Eval T) (f : T → T → W T) :
    runG (LazyGen.Map2 a b f)
      = (let (v1, l1) := runG a; let (v2, l2) := runG b; let (w, l3) := f v1 v2; (w, l1 ++ (l2 ++ l3))) := by
  simp only [runG, Map2_is_model]; exact C16.run_map2 _ _ _

/-- monad laws of the translated `Done` / `FlatMap` under the translated loop (C01 for lazy.Eval) -/
theorem left_id (t : T) (f : T → LazyGen.Eval T) : runG (LazyGen.FlatMap (LazyGen.Done t) f) = runG (f t) := by
  simp only [runG, FlatMap_is_model, Done_is_model]; exact C16.left_id t _

theorem right_id (r : LazyGen.Eval T) : runG (LazyGen.FlatMap r LazyGen.Done) = runG r := by
  simp only [runG, FlatMap_is_model]; exact C16.right_id _

theorem assoc (r : LazyGen.Eval T) (f g : T → LazyGen.Eval T) :
    runG (LazyGen.FlatMap (LazyGen.FlatMap r f) g) = runG (LazyGen.FlatMap r (fun v => LazyGen.FlatMap (f v) g)) := by
  simp only [runG, FlatMap_is_model]; exact C16.assoc _ _ _

/-- what the TRANSLATED library builds for a program tree of `Spec/C16.lean` -/
def denoteG : C16.Prog T → LazyGen.Eval T
  | .done t => LazyGen.Done t
  | .call f => LazyGen.Call f
  | .tailCall f => LazyGen.TailCall (fun u => denoteG (f u))
  | .map p f => LazyGen.Eval.Map (denoteG p) f
  | .flatMap p k => LazyGen.Eval.FlatMap (denoteG p) (fun v => denoteG (k v))
  | .map2 p q f => LazyGen.Map2 (denoteG p) (denoteG q) f

theorem denoteG_is_model (p : C16.Prog T) : toModel (denoteG p) = C16.denote p := by
  induction p with
  | done t => rfl
  | call f => rfl
  | tailCall f ih => simp only [denoteG, TailCall_is_model, C16.denote, ih]
  | map p f ih => simp only [denoteG, Eval_Map_is_model, C16.denote, ih]
  | flatMap p k ihp ihk => simp only [denoteG, Eval_FlatMap_is_model, C16.denote, ihp, ihk]
  | map2 p q f ihp ihq => simp only [denoteG, Map2_is_model, C16.denote, ihp, ihq]

/-- Faithfulness for the translated code: for every program tree, the translated trampoline = strict evaluation -/
theorem faithful (p : C16.Prog T) : runG (denoteG p) = C16.strict p := by
  simp only [runG, denoteG_is_model]; exact C16.faithful p

/-- … and in terms of the translated `Get` alone: with enough fuel `Get` returns the strict result, value and events in program order -/
theorem Get_faithful (p : C16.Prog T) : ∃ n, ∀ m, n ≤ m → LazyGen.Eval.Get m (denoteG p) = some (C16.strict p) :=
  ⟨stepsG (denoteG p), fun m h => by rw [Eval_Get_spec _ m h, faithful]⟩

/-- one iteration of the translated loop on a `TailCall` node hands the loop the Eval that `f()` returns directly -/
theorem resume_tailCall (f : Unit → LazyGen.Eval T) :
    resumeView (LazyGen.Eval.Resume (LazyGen.TailCall f)) = (.inr (toModel (f ())), []) := by
  rw [Eval_Resume_is_model, TailCall_is_model]; exact C16.resume_tailCall _

-- non-vacuity: the translated definitions compute ---------------------------------------------------------------------------------

/-- `Map2(Call(f1), TailCall(Call(f2)), +)`: events in program order, 5 iterations -/
example :
    LazyGen.Eval.Get 10 (LazyGen.Map2 (LazyGen.Call (fun _ => ((1 : Nat), ["a"])))
        (LazyGen.TailCall (fun _ => LazyGen.Call (fun _ => (2, ["b"])))) (fun x y => (x + y, ["f"])))
      = some (3, ["a", "b", "f"]) := by decide
/-- too little fuel: no result -/
example : LazyGen.Eval.Get 1 (LazyGen.TailCall (fun _ => LazyGen.Done (5 : Nat))) = none := by decide
example : LazyGen.Eval.Get 2 (LazyGen.TailCall (fun _ => LazyGen.Done (5 : Nat))) = some (5, []) := by decide
/-- the zero value `Eval[T]{}` evaluates to the zero value of `T` -/
example : LazyGen.Eval.Get 1 (LazyGen.Eval.leaf none : LazyGen.Eval Nat) = some (0, []) := by decide

end FpVerif.Spec.C16Gen
