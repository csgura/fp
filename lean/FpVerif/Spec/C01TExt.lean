import FpVerif.Model.TryOptExt
import FpVerif.Spec.C01T
import FpVerif.Lemmas.TryOptExt
import FpVerif.Lemmas.MonadInst
/-!
# C01 (part 3b) — the remaining transformer functions and hand-written functions equal their definitions

* every `XSeqT` / `XOptionT` of try_seqt.go / try_optiont.go obeys the TRANSFORMER LAW
  `XT(t, args) = try.Map(t, s => s.X(args))`, where the right-hand side is spelled out as the plain meaning
  `tryMap` of `try.Map` (callback on a Success, the error re-wrapped on a Failure, the stated panic on the
  zero-value Try) and `s.X(args)` is given by its list-level specification (`++`, `[i]?`, `isEmpty`,
  `joinSep`, running fold `scanTail` …) — for ALL `t`, all arguments, all callbacks;
* `try.TraverseOption`, `try.FoldRight`, `option.FoldRight` equal their specification as folds over the
  0/1-element list of the container;
* the remaining functions of package option / either and the methods `All`, `Foreach`, `Unapply`, `OrZero`,
  `OrPtr`, `Ptr` of fp.Option / fp.Try equal their reference meaning.

`Sort/Min/Max`SeqT: `Spec/C10Ext.lean`.  Short-circuit statements: `Spec/C02Ext.lean`.  statet: `Spec/C17Ext.lean`.
-/
namespace FpVerif.Spec.C01
open FpVerif MonadFamily TryT

variable {A B R I O T E L : Type}

-- ------------------------------------------------------------------------------------------ try.Map, plainly

/-- the plain meaning of `try.Map(t, g)`: `g` runs exactly when `t` is a Success; a Failure comes back with
    its own error; the zero-value Try (`failure .nil`) panics with "Try not initialized correctly". -/
def tryMap (t : Try I) (g : I → GoM O) : GoM (Try O) :=
  match t with
  | .success i => do let o ← g i; pure (.success o)
  | .failure e => do let e ← Try.failedGet (.failure e : Try I); pure (.failure e)

/-- THE TRANSFORMER LAW, generically: a `Transform` entry is `try.Map` of the inner function, for every `t`. -/
theorem transformT_def (t : Try I) (g : I → GoM O) : transformT (pure t) g = tryMap t g := by
  rw [transformT, TryM.map_pure]
  cases t <;> rfl

-- ------------------------------------------------------------------------------------------ fp.Seq methods = list operations

theorem seq_append_spec (r items : List A) : SeqM.append r items = r ++ items := by
  cases items <;> simp [SeqM.append]

theorem seq_add_spec (r : List A) (x : A) : SeqM.add r x = r ++ [x] := by
  rfl

theorem seq_concat_spec (r tail : List A) : SeqM.concat r tail = r ++ tail := by
  cases tail <;> simp [SeqM.concat]

theorem seq_isEmpty_spec (r : List A) : SeqM.isEmpty r = r.isEmpty := by
  cases r <;> rfl

theorem seq_nonEmpty_spec (r : List A) : SeqM.nonEmpty r = !r.isEmpty := by
  cases r <;> rfl

/-- `Get(idx)` for a non-negative index is the partial list lookup -/
theorem seq_get_spec (r : List A) (idx : Int) (h : 0 ≤ idx) : SeqM.get r idx = pure r[idx.toNat]? := by
  unfold SeqM.get SeqM.size
  by_cases hlt : (r.length : Int) > idx
  · have : ¬ idx < 0 := by omega
    simp [hlt, this]
  · have hn : r.length ≤ idx.toNat := by omega
    simp [hlt, List.getElem?_eq_none hn]

/-- `Get` of a negative index panics with Go's index error (the guard `Size() > idx` lets it through) -/
theorem seq_get_negative (r : List A) (idx : Int) (h : idx < 0) :
    SeqM.get r idx = throw s!"runtime:runtime error: index out of range [{idx}]" := by
  unfold SeqM.get SeqM.size
  have : (r.length : Int) > idx := by omega
  simp [this, h]

/-- `seq.Scan(s, zero, f)` = `zero ::` the running left fold, `f` invoked once per element, left to right;
    in particular the result always has `len(s) + 1` entries and starts with `zero` -/
theorem seq_scan_spec (s : List A) (zero : B) (f : B → A → GoM B) :
    SeqM.scan s zero f = (do let tl ← scanTail f s zero; pure (zero :: tl)) := by
  cases s with
  | nil => rfl
  | cons v vs => simp [SeqM.scan, SeqM.isEmpty, SeqM.size, scanLoop_spec]

/-- `MakeString(sep)` is `strings.Join` of the rendered elements -/
theorem seq_makeString_spec (sprint : A → String) (r : List A) (sep : String) :
    SeqM.makeString sprint r sep = joinSep sep (r.map sprint) := by
  cases r with
  | nil => rfl
  | cons v vs => simp [SeqM.makeString, SeqM.makeStringLoop, joinSep, makeStringLoop_spec]

-- ------------------------------------------------------------------------------------------ the SeqT transformer functions

theorem appendSeqT_law (t : Try (List A)) (x : A) :
    appendSeqT (pure t) x = tryMap t (fun l => pure (l ++ [x])) := by
  simp only [appendSeqT, transformT_def, seq_append_spec]

theorem concatSeqT_law (t : Try (List A)) (tail : List A) :
    concatSeqT (pure t) tail = tryMap t (fun l => pure (l ++ tail)) := by
  simp only [concatSeqT, transformT_def, seq_concat_spec]

theorem getSeqT_law (t : Try (List A)) (idx : Int) (h : 0 ≤ idx) :
    getSeqT (pure t) idx = tryMap t (fun l => pure l[idx.toNat]?) := by
  simp only [getSeqT, transformT_def, seq_get_spec _ _ h]

/-- out of range on the low side: on a Success the index error of `Seq.Get` propagates; a Failure still passes -/
theorem getSeqT_negative (l : List A) (idx : Int) (h : idx < 0) :
    getSeqT (pure (.success l)) idx = throw s!"runtime:runtime error: index out of range [{idx}]" := by
  simp [getSeqT, transformT_def, tryMap, seq_get_negative _ _ h]

theorem isEmptySeqT_law (t : Try (List A)) :
    isEmptySeqT (pure t) = tryMap t (fun l => pure l.isEmpty) := by
  simp only [isEmptySeqT, transformT_def, seq_isEmpty_spec]

theorem nonEmptySeqT_law (t : Try (List A)) :
    nonEmptySeqT (pure t) = tryMap t (fun l => pure (!l.isEmpty)) := by
  simp only [nonEmptySeqT, transformT_def, seq_nonEmpty_spec]

theorem makeStringSeqT_law (sprint : A → String) (t : Try (List A)) (sep : String) :
    makeStringSeqT sprint (pure t) sep = tryMap t (fun l => pure (joinSep sep (l.map sprint))) := by
  simp only [makeStringSeqT, transformT_def, seq_makeString_spec]

theorem scanSeqT_law (t : Try (List A)) (zero : B) (f : B → A → GoM B) :
    scanSeqT (pure t) zero f = tryMap t (fun l => do let tl ← scanTail f l zero; pure (zero :: tl)) := by
  simp only [scanSeqT, transformT_def, seq_scan_spec]

-- ------------------------------------------------------------------------------------------ the OptionT transformer functions

theorem option_orZero_spec (zero : A) (r : Option A) : OptM.orZero zero r = pure (r.getD zero) := by
  cases r <;> rfl

theorem option_orPtr_spec (r v : Option A) :
    OptM.orPtr r v = (match r with | some x => some x | none => v) := by
  cases r <;> cases v <;> rfl

theorem orZeroOptionT_law (zero : A) (t : Try (Option A)) :
    orZeroOptionT zero (pure t) = tryMap t (fun o => pure (o.getD zero)) := by
  simp only [orZeroOptionT, transformT_def, option_orZero_spec]

theorem orPtrOptionT_law (t : Try (Option A)) (v : Option A) :
    orPtrOptionT (pure t) v = tryMap t (fun o => pure (match o with | some x => some x | none => v)) := by
  simp only [orPtrOptionT, transformT_def, option_orPtr_spec]

-- ------------------------------------------------------------------------------------------ try.TraverseOption, FoldRight

/-- `try.TraverseOption(opta, fa)`: `None` traverses to `Success(None)`; on `Some(a)` the function runs once and
    its Try is the result (`Some` inside a Success, the error re-wrapped on a Failure). -/
theorem traverseOption_def (opta : Option A) (fa : A → GoM (Try R)) :
    TryM.traverseOption opta fa =
      (match opta with
       | none => pure (.success none)
       | some a => do
         match ← fa a with
         | .success r => pure (.success (some r))
         | .failure e => do let e ← Try.failedGet (.failure e : Try R); pure (.failure e)) := by
  cases opta with
  | none => rfl
  | some a =>
    simp only [TryM.traverseOption, traverse, traverseSeq, map_def, TryM.ops, TryM.foldM, Option.toList,
      bind_assoc, pure_bind]
    refine bind_congr fun r => ?_
    cases r with
    | success b => rfl
    | failure e =>
      simp only [TryM.flatMap_failure_eq, bind_assoc, pure_bind, Try.failedGet_bind_failedGet]

/-- the right fold with a lazily passed accumulator, over a list: `f` is handed the element and the (already
    built, not yet forced) fold of the elements to its right -/
def foldrEval (f : A → EvalM.Eval B → GoM (EvalM.Eval B)) (zero : B) (xs : List A) : GoM (EvalM.Eval B) :=
  xs.foldr (fun a acc => do let e ← acc; f a e) (pure (EvalM.done zero))

/-- `option.FoldRight` is the right fold over the 0/1 elements of the option -/
theorem option_foldRight_def (s : Option A) (zero : B) (f : A → EvalM.Eval B → GoM (EvalM.Eval B)) :
    OptM.foldRight s zero f = foldrEval f zero s.toList := by
  cases s <;> rfl

/-- `try.FoldRight` is the right fold over the 0/1 elements of the Try (a Failure has none) -/
theorem try_foldRight_def (ta : Try A) (bzero : B) (fab : A → EvalM.Eval B → GoM (EvalM.Eval B)) :
    TryM.foldRight ta bzero fab = foldrEval fab bzero (TryM.toSeq ta) := by
  cases ta <;> rfl

/-- lazy in the accumulator: what `f` receives evaluates to `zero` and evaluating it has no effect -/
theorem foldRight_accumulator [Inhabited B] (zero : B) : EvalM.run (EvalM.done zero) = (zero, []) := by
  rfl

-- ------------------------------------------------------------------------------------------ methods of fp.Option / fp.Try

/-- a Go iterator function `func(yield func(T) bool)` over a list: stops when `yield` returns false -/
def iterYield (yield : A → GoM Bool) : List A → GoM Unit
  | [] => pure ()
  | a :: as => do
    if ← yield a then iterYield yield as else pure ()

/-- `Option.All()` iterates over the 0/1 elements of the option -/
theorem option_all_def (r : Option A) (yield : A → GoM Bool) :
    OptM.all r yield = iterYield yield r.toList := by
  cases r with
  | none => rfl
  | some v =>
    exact bind_congr fun b => by cases b <;> rfl

/-- `Try.All()` iterates over the 0/1 elements of the Try -/
theorem try_all_def (r : Try A) (yield : A → GoM Bool) :
    TryM.all r yield = iterYield yield (TryM.toSeq r) := by
  cases r with
  | failure e => rfl
  | success v =>
    exact bind_congr fun b => by cases b <;> rfl

theorem option_foreach_def (r : Option A) (f : A → GoM Unit) :
    OptM.foreach r f = r.toList.forM f := by
  cases r <;> simp [OptM.foreach]

theorem either_foreach_def (e : Either L A) (f : A → GoM Unit) :
    EitM.foreach e f = (match e with | .right r => f r | .left _ => pure ()) := by
  cases e <;> rfl

theorem either_notRight_def (l : L) : (EitM.notRight l : Either L A) = .left l := rfl

/-- `Unapply()`: the flag is `IsDefined`, the value is the content or the zero value -/
theorem option_unapply_spec (zero : A) (r : Option A) :
    OptM.unapply zero r = (r.getD zero, r.isSome) := by
  cases r <;> rfl

theorem try_orZero_spec (zero : A) (r : Try A) : TryM.orZero zero r = pure (TryM.orElse r zero) := by
  cases r <;> rfl

/-- `Option.Ptr()` is nil exactly for `None`, otherwise it points at (a copy of) the content;
    `option.Ptr` is its inverse -/
theorem option_ptr_roundtrip (r : Option A) : OptM.ptr (OptM.mPtr r) = r ∧ OptM.mPtr (OptM.ptr r) = r := by
  cases r <;> simp [OptM.ptr, OptM.mPtr]

-- ------------------------------------------------------------------------------------------ package option

theorem option_some_def (v : A) : OptM.some' v = pure (some v) := by
  rfl

theorem option_constNone_def (a : A) : (OptM.constNone a : Option B) = none := rfl

/-- `option.Of(v)` is `None` exactly when the interface is nil or holds a nil chan/func/map/pointer/slice… -/
theorem option_of_spec (ifaceNil kindNil : A → Bool) (v : A) :
    OptM.of ifaceNil kindNil v = (if ifaceNil v || kindNil v then none else some v) := by
  cases h1 : ifaceNil v <;> cases h2 : kindNil v <;> simp [OptM.of, h1, h2]

theorem option_nonZero_spec [BEq A] [LawfulBEq A] (zero t : A) :
    (OptM.nonZero zero t = none ↔ t = zero) ∧ (t ≠ zero → OptM.nonZero zero t = some t) := by
  by_cases h : t = zero <;> simp [OptM.nonZero, h]

theorem option_string_spec (v : String) :
    (OptM.string v = none ↔ v = "") ∧ (v ≠ "" → OptM.string v = some v) := by
  simpa [OptM.string] using option_nonZero_spec "" v

/-- as written, `NonEmptySlice` is `None` exactly for the NIL slice -/
theorem option_nonEmptySlice_spec (t : Option (List E)) :
    OptM.nonEmptySlice t = none ↔ t = none := by
  cases t <;> simp [OptM.nonEmptySlice]

/-- … in particular an empty, non-nil slice is `Some` (the name suggests otherwise; no property fixes it) -/
example : OptM.nonEmptySlice (some ([] : List Nat)) = some (some []) := rfl

/-- `ComposePure(f)`, `Pure1(f)` = `f` followed by the unit; `Pure0` likewise -/
theorem option_composePure_def (fab : A → GoM B) (a : A) :
    OptM.composePure fab a = lift OptM.ops (fab a) := rfl

theorem option_pure1_def (f : A → GoM R) (a : A) : OptM.pure1 f a = lift OptM.ops (f a) := rfl

theorem option_pure0_def (f : Unit → GoM R) : OptM.pure0 f () = lift OptM.ops (f ()) := rfl

theorem option_flatPtr_spec (opt : Option (Option A)) : OptM.flatPtr opt = pure opt.join := by
  cases opt with
  | none => rfl
  | some p => cases p <;> rfl

/-- `Deref(opt) = Map(opt, T.Deref)`: the method runs exactly on `Some` (and its panic, e.g. on a nil receiver, propagates) -/
theorem option_deref_def (opt : Option T) (d : T → GoM R) :
    OptM.deref opt d = (match opt with
      | none => pure none
      | some t => do let r ← d t; pure (some r)) := by
  cases opt <;> rfl

-- ------------------------------------------------------------------------------------------ non-vacuity

example : appendSeqT (pure (.success [1, 2])) 3 = (pure (.success [1, 2, 3]) : GoM (Try (List Nat))) := rfl
example : getSeqT (pure (.success [7, 8])) 1 = (pure (.success (some 8)) : GoM (Try (Option Nat))) := rfl
example : (0 : Int) ≤ 1 := by decide
example : ((-1 : Int) < 0) := by decide
example : scanSeqT (pure (.success [1, 2, 3])) 10 (fun b a => pure (b + a))
    = (pure (.success [10, 11, 13, 16]) : GoM (Try (List Nat))) := rfl
example : TryM.traverseOption (some 3) (fun a => pure (.success (a + 1)))
    = (pure (.success (some 4)) : GoM (Try (Option Nat))) := rfl

end FpVerif.Spec.C01
