import FpVerif.Model.SliceHeap
import FpVerif.Lemmas.SliceHeap
/-!
# C04 (slice part) — persistence of fp.Seq values at the level of backing arrays

The model (Model/SliceHeap.lean) writes the library functions as programs over Go's `make` / `append` / `s[i] = x`,
where `append` DOES write in place when the capacity suffices.  Proved here, for every modelled operation
(fp.Seq's methods, package seq incl. FlatMap / Flatten / Ap / Map2 / FilterMap / Concat / Of / Pure, the
MergeSeq / MergeSlice monoids and Reduce over them, Iterator.ToSeq, Option.ToSeq), all slices, all heaps:

* `frame_step`   — no array that existed before the call is written, over its full capacity;
* `persistent`   — hence every earlier value (incl. slices with spare capacity and sub-slices sharing an array)
                   shows the same elements forever, along every branching history;
* `fresh_results`, `fresh_disjoint` — the result of a non-aliasing operation lives in an array allocated by the
                   call: it shares storage with NO existing value;
* `alias_is_window` — an aliasing result is nil or a window of the receiver (inside its length);
* `mergeSeqBad_writes` — the discipline is not vacuous: `Combine` written as `append(a, b...)` does write.

WHICH constructors of `Op` the above is a statement about (audit finding 5; last section of this file):
`frame_step` / `persistent` / `arrays_persistent` quantify over every `Op`, but they say something only where
`Model/SliceHeap.lean` has a program (`frame_step_nontrivial`, 22 constructors always, 4 more when their argument
is non-empty) or a window result (8 constructors: Go's `s[a:b]`, which indeed neither allocates nor writes).
For `fold`, `groupBy`, `toGoMap` (`unmodelled_tags`, decided) the model has NEITHER a program NOR a result
(`exec_unmodelled`: `exec h s op = ([], h)`), so for them the theorems reduce to `h[a]? = h[a]?` and claim
nothing about `seq.Fold*`, `seq.GroupBy`, `seq.ToGoMap`; those are covered by the harness only
(`C04Frame.named_functions_covered`).
-/
namespace FpVerif.Spec.C04
open FpVerif FpVerif.SliceHeap

/-- every program of the library model obeys the ownership discipline -/
theorem prog_safe (s : Slice) (op : Op) (p : Step) (hp : prog s op = some p) : Safe p := by
  cases op with
  | filter _ | filterNot _ =>
    cases hp
    exact safe_seq (safe_mkA _ _) (safe_iter _ fun _ => safe_cond _ (safe_appA _) safe_skip)
  | distinct =>
    cases hp
    exact safe_seq (safe_mkA _ _) (safe_iter _ fun _ => safe_cond _ safe_skip (safe_appA _))
  | map _ | flatMap _ | flatMapPkg _ | flatten _ =>
    cases hp
    exact safe_seq (safe_mkA _ _) (safe_iter _ fun _ => safe_appA _)
  | reverse | mapPkg _ =>
    cases hp
    exact safe_seq (safe_mkA _ _) (safe_iter _ fun _ => safe_setA _ _)
  | add _ =>
    cases hp
    exact safe_concatInto _ _ _
  | append _ | concat _ | mergeCombine _ =>
    change (if _ then _ else _) = _ at hp
    split at hp
    · cases hp
      exact safe_concatInto _ _ _
    · cases hp
  | sort _ =>
    cases hp
    exact safe_seq (safe_mkA _ _) (safe_seq (safe_setA _ _) (safe_setA _ _))
  | scan _ _ =>
    change (if _ then _ else _) = _ at hp
    split at hp
    · cases hp
      exact safe_litA _
    · cases hp
      exact safe_seq (safe_mkA _ _) (safe_seq (safe_setA _ _) (safe_iter _ fun _ => safe_setA _ _))
  | span _ | partition _ =>
    cases hp
    exact safe_seq (safe_litA _) (safe_seq (safe_litB _)
      (safe_iter _ fun _ => safe_cond _ (safe_appA _) (safe_appB _)))
  | collect | iterToSeq =>
    cases hp
    exact safe_seq (safe_litA _) (safe_iter _ fun _ => safe_appA _)
  | ap _ =>
    cases hp
    exact safe_seq (safe_mkA _ _) (safe_iter _ fun _ => safe_seq (safe_mapIntoB _ _) (safe_appA _))
  | map2 _ _ =>
    cases hp
    exact safe_flatMapWith _ fun _ => safe_mapIntoB _ _
  | filterMap _ =>
    cases hp
    exact safe_seq (safe_mkA _ _)
      (safe_iter _ fun _ => safe_cond _ (safe_seq (safe_litB _) (safe_appA _)) safe_skip)
  | concatPkg _ =>
    change (if _ then _ else _) = _ at hp
    split at hp
    · cases hp
      exact safe_seq (safe_litB _) (safe_seq (safe_mkA _ _)
        (safe_seq (safe_setA _ _) (safe_iter _ fun _ => safe_setA _ _)))
    · cases hp
      exact safe_litA _
  | pure _ =>
    cases hp
    exact safe_litA _
  | optToSeq o =>
    cases o with
    | none => cases hp
    | some _ =>
      cases hp
      exact safe_litA _
  | reduceMerge _ =>
    cases hp
    exact safe_seq safe_nilA (safe_iter _ fun _ => safe_cond _
      (safe_dep fun _ => safe_seq (safe_mkB _ _) (safe_seq (safe_setB _ _) (safe_seq (safe_setB _ _) safe_moveBA)))
      safe_skip)
  | _ => cases hp

/-- the state a call starts in satisfies the invariant relative to its own heap -/
theorem inv_init (h : Heap) : Inv h.length h { heap := h, a := Slice.nil, b := Slice.nil } :=
  ⟨Nat.le_refl _, fun _ _ => rfl, own_nil _, own_nil _, inHeap_nil _, inHeap_nil _⟩

def finalSt (h : Heap) (s : Slice) (op : Op) : St :=
  match prog s op with
  | some p => p { heap := h, a := Slice.nil, b := Slice.nil }
  | none => { heap := h, a := Slice.nil, b := Slice.nil }

/-- the slices an operation returns: the alias `resOf` names, or registers of the final state -/
def results : Res → St → List Slice
  | .alias t, _ => [t]
  | .regA, st => [st.a]
  | .regAB, st => [st.a, st.b]
  | .none, _ => []

theorem mem_results : ∀ {r : Res} {st : St} {x : Slice}, x ∈ results r st → r = .alias x ∨ x = st.a ∨ x = st.b
  | .alias _, _, _, hx => .inl (congrArg Res.alias (List.mem_singleton.mp hx).symm)
  | .regA, _, _, hx => .inr (.inl (List.mem_singleton.mp hx))
  | .regAB, _, _, hx => .inr ((List.mem_cons.mp hx).imp_right List.mem_singleton.mp)
  | .none, _, _, hx => nomatch hx

theorem exec_eq (h : Heap) (s : Slice) (op : Op) :
    exec h s op = (results (resOf s op) (finalSt h s op), (finalSt h s op).heap) := by
  unfold exec finalSt
  cases prog s op <;> cases resOf s op <;> rfl

theorem inv_final (h : Heap) (s : Slice) (op : Op) : Inv h.length h (finalSt h s op) := by
  unfold finalSt
  cases hp : prog s op with
  | none => exact inv_init h
  | some p => exact prog_safe s op p hp _ _ _ (inv_init h)

theorem exec_ext (h : Heap) (s : Slice) (op : Op) : Ext h.length h (exec h s op).2 := by
  rw [exec_eq]
  exact ⟨(inv_final h s op).len, (inv_final h s op).old⟩

/-- **Frame**: no operation writes to an array that existed before it (over the array's full capacity) … -/
theorem frame_step (h : Heap) (s : Slice) (op : Op) (a : Nat) (ha : a < h.length) :
    (exec h s op).2[a]? = h[a]? :=
  (exec_ext h s op).old a ha

/-- **Freshness**: a result that is not an alias lives in an array allocated by the call itself … -/
theorem fresh_results (h : Heap) (s : Slice) (op : Op) (hna : ∀ t, resOf s op ≠ .alias t) :
    ∀ x ∈ (exec h s op).1, ∀ a, x.arr = some a → h.length ≤ a := by
  intro x hx a hxa
  rw [exec_eq] at hx
  rcases mem_results hx with hr | rfl | rfl
  · exact absurd hr (hna x)
  · exact (inv_final h s op).ownA a hxa
  · exact (inv_final h s op).ownB a hxa

/-- … so it shares its array with NO value that existed before the call -/
theorem fresh_disjoint (h : Heap) (s : Slice) (op : Op) (hna : ∀ t, resOf s op ≠ .alias t)
    (y : Slice) (hy : ∀ b, y.arr = some b → b < h.length) :
    ∀ x ∈ (exec h s op).1, ∀ a, x.arr = some a → y.arr ≠ some a := by
  intro x hx a hxa hya
  have := fresh_results h s op hna x hx a hxa
  have := hy a hya
  omega

/-- an aliasing result is nil or Go's `s[i:j]` of the receiver with `i ≤ j ≤ len(s)` -/
theorem alias_window (s : Slice) (op : Op) (t : Slice) (hr : resOf s op = .alias t) : Window s t := by
  cases op with
  | widen | ofPkg =>
    cases hr
    exact .refl s
  | mergeEmpty =>
    cases hr
    exact .nil
  | init => exact .of_ite hr (fun _ => .sub 0 (s.len - 1) (Nat.zero_le _) (Nat.sub_le _ _)) fun _ => .nil
  | tail | unSeq => exact .of_ite hr (fun h => .sub 1 s.len h (Nat.le_refl _)) fun _ => .nil
  | take n => exact .of_ite hr (fun _ => .refl s) fun h => .sub 0 n (Nat.zero_le _) (Nat.le_of_not_lt h)
  | drop n => exact .of_ite hr (fun _ => .nil) fun h => .sub n s.len (Nat.le_of_not_lt h) (Nat.le_refl _)
  | append _ | concat _ | mergeCombine _ =>
    change (if _ then _ else _) = _ at hr
    split at hr <;> cases hr
    exact .refl s
  | optToSeq _ =>
    change (if _ then _ else _) = _ at hr
    split at hr <;> cases hr
    exact .nil
  | _ => cases hr

/-- an aliasing result is nil, or a window of the receiver inside its length (the receiver itself for
    Widen / Of / a no-op Take / Append / Concat / Combine of nothing) -/
theorem alias_is_window (s : Slice) (op : Op) (t : Slice) (hr : resOf s op = .alias t) :
    t = Slice.nil ∨ (t.arr = s.arr ∧ s.off ≤ t.off ∧ t.off + t.len ≤ s.off + s.len) ∨ t = s := by
  cases alias_window s op t hr with
  | nil => exact .inl rfl
  | sub i j hij hj =>
    refine .inr (.inl ⟨rfl, Nat.le_add_right _ _, ?_⟩)
    show s.off + i + (j - i) ≤ s.off + s.len
    omega

/-- … and its capacity stays inside the receiver's capacity (for a receiver with `len ≤ cap`, as every Go slice) -/
theorem alias_cap_within (s : Slice) (op : Op) (t : Slice) (hr : resOf s op = .alias t) (hcap : s.len ≤ s.cap) :
    t = Slice.nil ∨ (t.off + t.cap ≤ s.off + s.cap ∧ t.len ≤ t.cap) := by
  cases alias_window s op t hr with
  | nil => exact .inl rfl
  | sub i j hij hj =>
    refine .inr ?_
    show s.off + i + (s.cap - i) ≤ s.off + s.cap ∧ j - i ≤ s.cap - i
    omega

/-- well-formed world: every live slice points into the heap -/
def WF (w : World) : Prop := ∀ x ∈ w.live, ∀ a, x.arr = some a → a < w.heap.length

theorem results_wf (h : Heap) (s : Slice) (op : Op) (hs : ∀ a, s.arr = some a → a < h.length) :
    ∀ x ∈ (exec h s op).1, ∀ a, x.arr = some a → a < (exec h s op).2.length := by
  intro x hx a hxa
  rw [exec_eq] at hx ⊢
  have inv := inv_final h s op
  rcases mem_results hx with hr | rfl | rfl
  · cases alias_window s op x hr with
    | nil => cases hxa
    | sub => exact Nat.lt_of_lt_of_le (hs a hxa) inv.len
  · exact inv.inA a hxa
  · exact inv.inB a hxa

theorem wf_step (w : World) (i : Nat) (op : Op) (hw : WF w) : WF (stepW w i op) := by
  intro x hx a hxa
  simp only [stepW, List.mem_append] at hx
  have hs : InHeap w.heap (w.live.getD i Slice.nil) := by
    rw [List.getD_eq_getElem?_getD]
    cases hi : w.live[i]? with
    | none => exact inHeap_nil _
    | some y => exact hw y (List.mem_of_getElem? hi)
  rcases hx with hold | hnew
  · exact Nat.lt_of_lt_of_le (hw x hold a hxa) (exec_ext _ _ _).len
  · exact results_wf w.heap _ op hs x hnew a hxa

theorem runW_ext (w : World) (hw : WF w) (ops : List (Nat × Op)) :
    Ext w.heap.length w.heap (runW w ops).heap ∧ ∀ x ∈ w.live, x ∈ (runW w ops).live := by
  induction ops generalizing w with
  | nil => exact ⟨.refl _ _, fun _ hx => hx⟩
  | cons io ops ih =>
    obtain ⟨h1, h2⟩ := ih (stepW w io.1 io.2) (wf_step w io.1 io.2 hw)
    have e := exec_ext w.heap (w.live.getD io.1 Slice.nil) io.2
    exact ⟨e.trans h1 e.len, fun x hx => h2 x (List.mem_append_left _ hx)⟩

/-- **Persistence along every history**: whatever operations are applied later, to this value or to
    values derived from it or to anything else, a live slice keeps showing exactly the same elements. -/
theorem persistent (w : World) (hw : WF w) (ops : List (Nat × Op)) (x : Slice) (hx : x ∈ w.live) :
    view (runW w ops).heap x = view w.heap x ∧ x ∈ (runW w ops).live :=
  ⟨(runW_ext w hw ops).1.view_eq (hw x hx), (runW_ext w hw ops).2 x hx⟩

/-- … and not only what it SHOWS: the whole backing array, spare capacity included, stays as it was -/
theorem arrays_persistent (w : World) (hw : WF w) (ops : List (Nat × Op)) (a : Nat) (ha : a < w.heap.length) :
    (runW w ops).heap[a]? = w.heap[a]? :=
  (runW_ext w hw ops).1.old a ha

/-- value-level meaning of the aliasing operations (they show the right elements) -/
theorem view_take (h : Heap) (s : Slice) (n : Nat) (a : Nat) (hs : s.arr = some a) :
    ∀ t, resOf s (.take n) = .alias t → view h t = (view h s).take n := by
  intro t ht
  change (if _ then _ else _) = _ at ht
  split at ht <;> cases ht
  · exact (List.take_of_length_le (Nat.le_trans (view_length_le h s) (Nat.le_of_lt ‹_›))).symm
  · exact view_sub h s 0 n (Nat.le_of_not_lt ‹_›)

theorem view_drop (h : Heap) (s : Slice) (n : Nat) (a : Nat) (hs : s.arr = some a) (hn : n ≤ s.len) :
    ∀ t, resOf s (.drop n) = .alias t → view h t = (view h s).drop n := by
  intro t ht
  change (if _ then _ else _) = _ at ht
  rw [if_neg (Nat.not_lt.mpr hn)] at ht
  cases ht
  exact (view_sub h s n s.len (Nat.le_refl _)).trans
    (congrArg (List.drop n) (List.take_of_length_le (view_length_le h s)))

/-- Sort, Reverse, Distinct, Append/Concat (of something), FlatMap, Flatten, Ap, Map2, FilterMap, MergeSeq.Combine
    (of something), Iterator.ToSeq … return FRESH storage -/
theorem sort_fresh (h : Heap) (s : Slice) (lt : Int → Int → Bool) :
    ∀ x ∈ (exec h s (.sort lt)).1, ∀ a, x.arr = some a → h.length ≤ a :=
  fresh_results h s _ nofun

theorem flatMap_fresh (h : Heap) (s : Slice) (mf : Int → Slice) :
    ∀ x ∈ (exec h s (.flatMapPkg mf)).1, ∀ a, x.arr = some a → h.length ≤ a :=
  fresh_results h s _ nofun

theorem mergeCombine_fresh (h : Heap) (s t : Slice) (ht : t.len > 0) :
    ∀ x ∈ (exec h s (.mergeCombine t)).1, ∀ a, x.arr = some a → h.length ≤ a :=
  fresh_results h s _ fun u hu => by
    change (if _ then _ else _) = _ at hu
    rw [if_pos ht] at hu
    cases hu

/-- the discipline is not vacuous: Go's `append` does write into the spare capacity of its first argument;
    `Combine` written as `append(a, b...)` changes the array that `a` — and every other window — lives in -/
theorem mergeSeqBad_writes :
    let h : Heap := [[1, 2, 3, 4, 5]]
    let a : Slice := { arr := some 0, off := 0, len := 2, cap := 5 }
    let b : Slice := { arr := some 0, off := 3, len := 2, cap := 2 }
    (mergeSeqBad h a b).2[0]? ≠ h[0]? := by decide

/-- … whereas the library's Combine on the same operands leaves it alone and returns a new array -/
example :
    let h : Heap := [[1, 2, 3, 4, 5]]
    let a : Slice := { arr := some 0, off := 0, len := 2, cap := 5 }
    let b : Slice := { arr := some 0, off := 3, len := 2, cap := 2 }
    (exec h a (.mergeCombine b)).2[0]? = h[0]? ∧ view (exec h a (.mergeCombine b)).2 ((exec h a (.mergeCombine b)).1.getD 0 Slice.nil) = [1, 2, 4, 5] := by
  decide

/-- non-vacuity: a world with a slice with spare capacity and a sub-slice of the same array -/
example : WF { heap := [[1, 2, 3, 4, 5]],
               live := [{ arr := some 0, off := 0, len := 3, cap := 5 }, { arr := some 0, off := 1, len := 2, cap := 4 }] } := by
  intro x hx a ha
  simp at hx
  rcases hx with rfl | rfl <;> simp at ha <;> subst ha <;> decide

-- which constructors have a real program (audit finding 5) ------------------------------------------------------

/-- `Op` carries functions, so it has no decidable equality: `OpTag` names its 37 constructors. -/
inductive OpTag where
  | widen | init | tail | take | drop | unSeq | filter | filterNot | map | flatMap | add | append | concat
  | reverse | sort | distinct | scan | span | partition | fold | groupBy | toGoMap | collect | mapPkg
  | flatMapPkg | flatten | ap | map2 | filterMap | concatPkg | ofPkg | pure | mergeCombine | mergeEmpty
  | reduceMerge | iterToSeq | optToSeq
  deriving DecidableEq, Repr

def opTag : Op → OpTag
  | .widen => .widen | .init => .init | .tail => .tail | .take _ => .take | .drop _ => .drop | .unSeq => .unSeq
  | .filter _ => .filter | .filterNot _ => .filterNot | .map _ => .map | .flatMap _ => .flatMap
  | .add _ => .add | .append _ => .append | .concat _ => .concat | .reverse => .reverse
  | .sort _ => .sort | .distinct => .distinct | .scan _ _ => .scan | .span _ => .span | .partition _ => .partition
  | .fold => .fold | .groupBy => .groupBy | .toGoMap => .toGoMap | .collect => .collect | .mapPkg _ => .mapPkg
  | .flatMapPkg _ => .flatMapPkg | .flatten _ => .flatten | .ap _ => .ap | .map2 _ _ => .map2
  | .filterMap _ => .filterMap | .concatPkg _ => .concatPkg | .ofPkg => .ofPkg | .pure _ => .pure
  | .mergeCombine _ => .mergeCombine | .mergeEmpty => .mergeEmpty | .reduceMerge _ => .reduceMerge
  | .iterToSeq => .iterToSeq | .optToSeq _ => .optToSeq

/-- how `Model/SliceHeap.lean` treats a constructor -/
inductive Modelling where
  /-- `prog` is a program over `make` / `append` / `s[i] = x`, the result is a register of it -/
  | program
  /-- no program: the result is nil or a window `s[a:b]` of the receiver (no allocation, no write in Go either) -/
  | window
  /-- a program when the argument is non-empty, otherwise the receiver itself / nil -/
  | programOrWindow
  /-- NO program and NO result: the theorems of this file say nothing about the Go function -/
  | unmodelled
  deriving DecidableEq, Repr

def OpTag.modelling : OpTag → Modelling
  | .widen | .init | .tail | .take | .drop | .unSeq | .ofPkg | .mergeEmpty => .window
  | .append | .concat | .mergeCombine | .optToSeq => .programOrWindow
  | .fold | .groupBy | .toGoMap => .unmodelled
  | _ => .program

def allTags : List OpTag :=
  [.widen, .init, .tail, .take, .drop, .unSeq, .filter, .filterNot, .map, .flatMap, .add, .append, .concat,
   .reverse, .sort, .distinct, .scan, .span, .partition, .fold, .groupBy, .toGoMap, .collect, .mapPkg,
   .flatMapPkg, .flatten, .ap, .map2, .filterMap, .concatPkg, .ofPkg, .pure, .mergeCombine, .mergeEmpty,
   .reduceMerge, .iterToSeq, .optToSeq]

/-- `allTags` lists the constructors in the order of their declaration -/
theorem allTags_complete (t : OpTag) : t ∈ allTags := by
  have h : allTags[t.ctorIdx]? = some t := by cases t <;> rfl
  exact List.mem_of_getElem? h

/-- **The constructors WITHOUT a program or result** (decided over the complete list): `seq.Fold*`, `seq.GroupBy`,
    `seq.ToGoMap` are covered by the harness only. -/
theorem unmodelled_tags :
    allTags.filter (fun t => t.modelling == .unmodelled) = [.fold, .groupBy, .toGoMap] := by decide

/-- the constructors with a program for every receiver and argument -/
theorem program_tags :
    allTags.filter (fun t => t.modelling == .program) =
      [.filter, .filterNot, .map, .flatMap, .add, .reverse, .sort, .distinct, .scan, .span, .partition, .collect,
       .mapPkg, .flatMapPkg, .flatten, .ap, .map2, .filterMap, .concatPkg, .pure, .reduceMerge, .iterToSeq] := by
  decide

/-- what `Model/SliceHeap.lean` has for a constructor of each class -/
abbrev Modelling.Holds (s : Slice) (op : Op) : Modelling → Prop
  | .program => (∃ p, prog s op = some p) ∧ (resOf s op = .regA ∨ resOf s op = .regAB)
  | .window => prog s op = none ∧ ∃ t, resOf s op = .alias t
  | .programOrWindow =>
    ((∃ p, prog s op = some p) ∧ resOf s op = .regA) ∨ (prog s op = none ∧ ∃ t, resOf s op = .alias t)
  | .unmodelled => prog s op = none ∧ resOf s op = Res.none

theorem Modelling.holds_ite {c : Prop} [Decidable c] {s t : Slice} {op : Op} {q : Step}
    (hp : prog s op = if c then some q else none) (hr : resOf s op = if c then .regA else .alias t) :
    Modelling.programOrWindow.Holds s op := by
  rw [Modelling.Holds, hp, hr]
  split
  · exact .inl ⟨⟨_, rfl⟩, rfl⟩
  · exact .inr ⟨rfl, _, rfl⟩

theorem modelling_holds (s : Slice) (op : Op) {m : Modelling} (hm : (opTag op).modelling = m) :
    m.Holds s op := by
  subst hm
  cases op with
  | fold | groupBy | toGoMap =>
    show Modelling.unmodelled.Holds s _
    exact ⟨rfl, rfl⟩
  | widen | ofPkg | mergeEmpty =>
    show Modelling.window.Holds s _
    exact ⟨rfl, _, rfl⟩
  | init | tail | unSeq | take _ | drop _ =>
    show Modelling.window.Holds s _
    exact ⟨rfl, _, (apply_ite Res.alias _ _ _).symm⟩
  | append _ | concat _ | mergeCombine _ =>
    exact Modelling.holds_ite rfl rfl
  | optToSeq o =>
    show Modelling.programOrWindow.Holds s _
    cases o with
    | none => exact .inr ⟨rfl, _, rfl⟩
    | some _ => exact .inl ⟨⟨_, rfl⟩, rfl⟩
  | span _ | partition _ =>
    show Modelling.program.Holds s _
    exact ⟨⟨_, rfl⟩, .inr rfl⟩
  | scan _ _ | concatPkg _ =>
    show Modelling.program.Holds s _
    exact ⟨⟨_, (apply_ite some _ _ _).symm⟩, .inl rfl⟩
  | _ =>
    show Modelling.program.Holds s _
    exact ⟨⟨_, rfl⟩, .inl rfl⟩

/-- `unmodelled` is exactly "no program and no result", and then a call is the identity on the heap and
    returns nothing: `frame_step` is `h[a]? = h[a]?` there. -/
theorem exec_unmodelled (op : Op) (hu : (opTag op).modelling = .unmodelled) (h : Heap) (s : Slice) :
    prog s op = none ∧ resOf s op = Res.none ∧ exec h s op = ([], h) := by
  have hm := modelling_holds s op hu
  refine ⟨hm.1, hm.2, ?_⟩
  unfold exec
  rw [hm.1, hm.2]

/-- conversely every other constructor has a result for every receiver -/
theorem modelled_has_result (op : Op) (hu : (opTag op).modelling ≠ .unmodelled) (s : Slice) :
    resOf s op ≠ Res.none := by
  intro hr
  cases hc : (opTag op).modelling <;> have hm := modelling_holds s op hc
  · rcases hm.2 with h | h <;> cases h.symm.trans hr
  · obtain ⟨_, _, h⟩ := hm
    cases h.symm.trans hr
  · rcases hm with ⟨_, h⟩ | ⟨_, _, h⟩ <;> cases h.symm.trans hr
  · exact hu hc

/-- a `program` constructor has a program for every receiver, and its result is never an alias -/
theorem program_has_prog (op : Op) (hp : (opTag op).modelling = .program) (s : Slice) :
    (∃ p, prog s op = some p) ∧ ∀ t, resOf s op ≠ .alias t := by
  have hm := modelling_holds s op hp
  refine ⟨hm.1, fun t ht => ?_⟩
  rcases hm.2 with h | h <;> cases h.symm.trans ht

/-- a `window` constructor has no program and returns nil or a window of the receiver -/
theorem window_no_prog (op : Op) (hw : (opTag op).modelling = .window) (h : Heap) (s : Slice) :
    prog s op = none ∧ (∃ t, resOf s op = .alias t) ∧ (exec h s op).2 = h := by
  have hm := modelling_holds s op hw
  refine ⟨hm.1, hm.2, ?_⟩
  rw [exec_eq, finalSt, hm.1]

/-- a `programOrWindow` constructor: a program with a fresh result, or (empty argument) the receiver / nil -/
theorem programOrWindow_cases (op : Op) (hw : (opTag op).modelling = .programOrWindow) (s : Slice) :
    ((∃ p, prog s op = some p) ∧ resOf s op = .regA) ∨ (prog s op = none ∧ ∃ t, resOf s op = .alias t) :=
  modelling_holds s op hw

/-- **Frame, restricted to the operations that HAVE a program**: the heap after the call is the heap the
    program `p` (a sequence of `make` / `append` / `s[i] = x` / `copy` statements, `append` writing in place when
    the capacity suffices) leaves behind, `p` obeys the ownership discipline, and that heap agrees with the old
    one on every array that existed before — a statement about what `p` did, not `h[a]? = h[a]?`. -/
theorem frame_step_nontrivial (h : Heap) (s : Slice) (op : Op) (p : Step) (hp : prog s op = some p) :
    (exec h s op).2 = (p { heap := h, a := Slice.nil, b := Slice.nil }).heap ∧ Safe p ∧
    (∀ a, a < h.length → (p { heap := h, a := Slice.nil, b := Slice.nil }).heap[a]? = h[a]?) ∧
    (opTag op).modelling ≠ .unmodelled := by
  refine ⟨by rw [exec_eq, finalSt, hp], prog_safe s op p hp,
    (prog_safe s op p hp _ _ _ (inv_init h)).old, fun hu => ?_⟩
  rw [(exec_unmodelled op hu h s).1] at hp
  cases hp

/-- the programs really allocate and write: `Reverse` of a window with spare capacity inside a shared array
    leaves that array alone and returns the reversed elements in a NEW array (index 1) -/
example :
    let h : Heap := [[1, 2, 3, 4, 5]]
    let s : Slice := { arr := some 0, off := 1, len := 3, cap := 4 }
    (exec h s .reverse).2 = [[1, 2, 3, 4, 5], [4, 3, 2]] ∧
    (exec h s .reverse).1 = [{ arr := some 1, off := 0, len := 3, cap := 3 }] := by decide

end FpVerif.Spec.C04
