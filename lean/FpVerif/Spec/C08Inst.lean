import FpVerif.Spec.C08
import FpVerif.Lemmas.DeriveInst
import FpVerif.Lemmas.DeriveFuel
/-!
# C08 — the concrete component instances satisfy the law bundles (non-vacuity made concrete)

`Spec/C08.lean` proves: *if* the components `ds` of a derived instance are lawful, the derived
instance is lawful and field-wise.  The oracle `oracle_derive` runs `derivedEqG` … on the concrete
dictionaries `Inst.eq / Inst.ord / Inst.hash / Inst.monoid / Inst.clone` of `Model/DeriveInst.lean`
(primitive instances of the packages eq/ord/hash/monoid/clone, the local overriding instances and
the instances of package `dep` the grammar emits, `Option`/`Seq`/`Slice`/`Ptr`/`GoMap`/`Tuple2`
combinators, derived instances of nested structs, the recursive reference, parameter dictionaries).
This file proves that EVERY well-formed instance expression denotes a lawful component, and hence
that the instance of every declaration the oracle evaluates (`Decl.eqInst` …, every unfolding depth)
is lawful: the general theorems instantiate to the concrete oracle dictionaries.
-/
namespace FpVerif.Spec.C08Inst
open FpVerif.Rec FpVerif.Derive FpVerif.Spec.C08

/-! ## Eq -/

theorem primEq_lawful (n : String) : LawfulEq ((primEq? n).getD EqD.trivial) := by
  unfold primEq?
  split
  case h_1 | h_2 => exact eqInt_lawful  -- "eq.Given[int]", "eq.Time"
  case h_3 | h_4 | h_5 => exact eqStr_lawful  -- "eq.Given[string]", "eq.String", "eq.Bytes"
  case h_6 => exact eqBool_lawful  -- "eq.Given[bool]"
  case h_7 => exact eqMod10_lawful  -- "EqMyInt"
  case h_8 => exact eqMoney100_lawful  -- "dep.EqMoney"
  case h_9 => exact eqMoney7_lawful  -- "EqMoney"
  case h_10 => exact eqTrivial_lawful  -- any other name: `none`

/-- the derived `Eq` of a nested struct is a lawful component -/
theorem eqRec_lawful (s : StructSpec) (ds : List (EqD DV)) (h : ∀ d ∈ ds, LawfulEq d)
    (hd : ds.length = s.nApp) : LawfulEq (eqRec s ds) :=
  lawfulEq_asN (derivedEq_lawful s ds h hd)

mutual
  /-- every well-formed instance expression denotes an equivalence relation (in a lawful environment) -/
  theorem eq_lawful (env : Env (EqD DV)) (hs : LawfulEq env.self) (hp : ∀ n, LawfulEq (env.param n)) :
      (i : Inst) → i.WF → LawfulEq (i.eq env)
    | .prim n, _ => primEq_lawful n
    | .option i, h => eqOption_lawful (eq_lawful env hs hp i h)
    | .seq i, h => eqSeq_lawful (eq_lawful env hs hp i h)
    | .slice i, h => eqSlice_lawful (eq_lawful env hs hp i h)
    | .ptr i, h => eqPtr_lawful (eq_lawful env hs hp i h)
    | .gomap i, h => eqGoMap_lawful (eq_lawful env hs hp i h)
    | .tuple2 a b, h => eqTuple2_lawful (eq_lawful env hs hp a h.1) (eq_lawful env hs hp b h.2)
    | .struct s is, h =>
      eqRec_lawful s _ (eqs_lawful env hs hp is h.2) ((eqs_length env is).trans h.1)
    | .self, _ => hs
    | .tparam n, _ => hp n
  theorem eqs_lawful (env : Env (EqD DV)) (hs : LawfulEq env.self) (hp : ∀ n, LawfulEq (env.param n)) :
      (is : List Inst) → Inst.WFs is → ∀ d ∈ Inst.eqs env is, LawfulEq d
    | [], _ => fun _ hd => nomatch hd
    | i :: is, h =>
      List.forall_mem_cons.2 ⟨eq_lawful env hs hp i h.1, eqs_lawful env hs hp is h.2⟩
end

/-- The `Eq` instance the oracle evaluates for a declaration — at every unfolding depth of a
    recursive type — is an equivalence relation on the values of the struct. -/
theorem eqInst_lawful (d : Decl) (wf : d.WF) :
    ∀ fuel, LawfulEqOn (WFG d.spec) (d.eqInst fuel)
  | 0 => ⟨fun _ _ => rfl, fun _ _ _ _ _ => rfl, fun _ _ _ _ _ _ _ _ => rfl⟩
  | fuel + 1 => by
    have hs : LawfulEq ((d.eqInst fuel).comap (DV.asN d.spec.fields.length)) :=
      lawfulEq_asN (eqInst_lawful d wf fuel)
    have hpd : ∀ n, LawfulEq ((d.paramInst n).eq ⟨_, fun _ => EqD.trivial⟩) := fun n =>
      eq_lawful _ hs (fun _ => eqTrivial_lawful) _ (paramInst_WF d wf n)
    exact derivedEq_lawful _ _
      (components_all LawfulEq _ _ _ _
        (fun t => eq_lawful _ hs hpd _ (givenInst_WF d wf t)) hpd)
      (components_length _ _ _ _)

/-- … and is the conjunction of the component equalities (`derivedEq_iff_fields` at the oracle's
    component list).  (Existential form: SOME component list of the right length; the statement that names the
    component of every field is `eqInst_fieldwise_real` / `eqInst_structural` below.) -/
theorem eqInst_fieldwise (d : Decl) (fuel : Nat) :
    ∃ ds : List (EqD DV), ds.length = d.spec.nApp ∧ d.eqInst (fuel + 1) = derivedEq d.spec ds :=
  ⟨_, components_length _ _ _ _, rfl⟩

/-! ## Hashable -/

theorem primHash_lawful (n : String) : LawfulHash ((primHash? n).getD HashD.trivial) := by
  unfold primHash?
  split
  case h_1 => exact hashNumber_lawful  -- "hash.Number"
  case h_2 | h_3 => exact hashStr_lawful  -- "hash.String", "hash.Bytes"
  case h_4 => exact hashMod10_lawful  -- "HashableMyInt"
  case h_5 => exact hashMoney100_lawful  -- "dep.HashableMoney"
  case h_6 => exact hashTrivial_lawful  -- any other name: `none`

theorem hashRec_lawful (s : StructSpec) (ds : List (HashD DV)) (h : ∀ d ∈ ds, LawfulHash d)
    (hd : ds.length = s.nApp) : LawfulHash (hashRec s ds) :=
  lawfulHash_asN (derivedHash_lawful s ds h hd)

mutual
  /-- every well-formed instance expression denotes a `Hashable` that agrees with its `Eqv` -/
  theorem hash_lawful (env : Env (HashD DV)) (hs : LawfulHash env.self)
      (hp : ∀ n, LawfulHash (env.param n)) : (i : Inst) → i.WF → LawfulHash (i.hash env)
    | .prim n, _ => primHash_lawful n
    | .option i, h => hashOption_lawful (hash_lawful env hs hp i h)
    | .seq i, h => hashSeq_lawful (hash_lawful env hs hp i h)
    | .slice i, h => hashSlice_lawful (hash_lawful env hs hp i h)
    | .ptr i, h => hashPtr_lawful (hash_lawful env hs hp i h)
    | .gomap _, _ => hashTrivial_lawful
    | .tuple2 a b, h =>
      hashTuple2_lawful (hash_lawful env hs hp a h.1) (hash_lawful env hs hp b h.2)
    | .struct s is, h =>
      hashRec_lawful s _ (hashes_lawful env hs hp is h.2) ((hashes_length env is).trans h.1)
    | .self, _ => hs
    | .tparam n, _ => hp n
  theorem hashes_lawful (env : Env (HashD DV)) (hs : LawfulHash env.self)
      (hp : ∀ n, LawfulHash (env.param n)) :
      (is : List Inst) → Inst.WFs is → ∀ d ∈ Inst.hashes env is, LawfulHash d
    | [], _ => fun _ hd => nomatch hd
    | i :: is, h =>
      List.forall_mem_cons.2 ⟨hash_lawful env hs hp i h.1, hashes_lawful env hs hp is h.2⟩
end

/-- The `Hashable` instance the oracle evaluates for a declaration agrees with its `Eqv`. -/
theorem hashInst_lawful (d : Decl) (wf : d.WF) :
    ∀ fuel, LawfulHashOn (WFG d.spec) (d.hashInst fuel)
  | 0 => ⟨fun _ _ _ _ _ => rfl⟩
  | fuel + 1 => by
    have hs : LawfulHash ((d.hashInst fuel).comap (DV.asN d.spec.fields.length)) :=
      lawfulHash_asN (hashInst_lawful d wf fuel)
    have hpd : ∀ n, LawfulHash ((d.paramInst n).hash ⟨_, fun _ => HashD.trivial⟩) := fun n =>
      hash_lawful _ hs (fun _ => hashTrivial_lawful) _ (paramInst_WF d wf n)
    exact derivedHash_lawful _ _
      (components_all LawfulHash _ _ _ _
        (fun t => hash_lawful _ hs hpd _ (givenInst_WF d wf t)) hpd)
      (components_length _ _ _ _)

/-! ## Ord -/

theorem primOrd_lawful (n : String) : LawfulOrd ((primOrd? n).getD OrdD.trivial) := by
  unfold primOrd?
  split
  case h_1 | h_2 => exact ordInt_lawful  -- "ord.Given[int]", "ord.Time"
  case h_3 => exact ordStr_lawful  -- "ord.Given[string]"
  case h_4 => exact ordMod10_lawful  -- "OrdMyInt"
  case h_5 => exact ordMoney100_lawful  -- "dep.OrdMoney"
  case h_6 => exact ordTrivial_lawful  -- any other name: `none`

theorem ordRec_lawful (s : StructSpec) (ds : List (OrdD DV)) (h : ∀ d ∈ ds, LawfulOrd d)
    (hd : ds.length = s.nApp) : LawfulOrd (ordRec s ds) :=
  lawfulOrd_asN (derivedOrd_lawful s ds h hd)

mutual
  /-- every well-formed instance expression denotes a lawful order (irreflexive, transitive,
      `Eqv` = "neither is less", `Eqv` transitive) — `ord.Seq` / `ord.Slice` included -/
  theorem ord_lawful (env : Env (OrdD DV)) (hs : LawfulOrd env.self)
      (hp : ∀ n, LawfulOrd (env.param n)) : (i : Inst) → i.WF → LawfulOrd (i.ord env)
    | .prim n, _ => primOrd_lawful n
    | .option i, h => ordOption_lawful (ord_lawful env hs hp i h)
    | .seq i, h => ordSeq_lawful (ord_lawful env hs hp i h)
    | .slice i, h => ordSlice_lawful (ord_lawful env hs hp i h)
    | .ptr i, h => ordPtr_lawful (ord_lawful env hs hp i h)
    | .gomap _, _ => ordTrivial_lawful
    | .tuple2 a b, h => ordTuple2_lawful (ord_lawful env hs hp a h.1) (ord_lawful env hs hp b h.2)
    | .struct s is, h =>
      ordRec_lawful s _ (ords_lawful env hs hp is h.2) ((ords_length env is).trans h.1)
    | .self, _ => hs
    | .tparam n, _ => hp n
  theorem ords_lawful (env : Env (OrdD DV)) (hs : LawfulOrd env.self)
      (hp : ∀ n, LawfulOrd (env.param n)) :
      (is : List Inst) → Inst.WFs is → ∀ d ∈ Inst.ords env is, LawfulOrd d
    | [], _ => fun _ hd => nomatch hd
    | i :: is, h =>
      List.forall_mem_cons.2 ⟨ord_lawful env hs hp i h.1, ords_lawful env hs hp is h.2⟩
end

/-- the components of a declaration's `Ord` instance are lawful when the recursive reference is -/
theorem ord_components_lawful (d : Decl) (wf : d.WF) (self : OrdD DV) (hs : LawfulOrd self) :
    ∀ c ∈ components d.spec d.params
        (fun t => (d.givenInst t).ord
          ⟨self, fun n => (d.paramInst n).ord ⟨self, fun _ => OrdD.trivial⟩⟩)
        (fun n => (d.paramInst n).ord ⟨self, fun _ => OrdD.trivial⟩), LawfulOrd c := by
  have hpd : ∀ n, LawfulOrd ((d.paramInst n).ord ⟨self, fun _ => OrdD.trivial⟩) := fun n =>
    ord_lawful _ hs (fun _ => ordTrivial_lawful) _ (paramInst_WF d wf n)
  exact components_all LawfulOrd _ _ _ _ (fun t => ord_lawful _ hs hpd _ (givenInst_WF d wf t)) hpd

/-- The `Ord` instance the oracle evaluates for a declaration is a lawful order on the values of
    the struct … -/
theorem ordInst_lawful (d : Decl) (wf : d.WF) :
    ∀ fuel, LawfulOrdOn (WFG d.spec) (d.ordInst fuel)
  | 0 => ⟨fun _ _ => rfl, fun _ _ _ _ _ _ h => by simp [Decl.ordInst] at h,
      fun _ _ _ _ => by simp [Decl.ordInst], fun _ _ _ _ _ _ _ _ => rfl⟩
  | fuel + 1 =>
    derivedOrd_lawful _ _
      (ord_components_lawful d wf _ (lawfulOrd_asN (ordInst_lawful d wf fuel)))
      (components_length _ _ _ _)

/-- … namely the lexicographic order of the applicable fields, compared with the components the
    expressions denote (`derivedOrd_less_iff_lex` applies: every component is `OrdCompat`). -/
theorem ordInst_components_compat (d : Decl) (wf : d.WF) (fuel : Nat) :
    ∃ ds : List (OrdD DV), ds.length = d.spec.nApp ∧ (∀ c ∈ ds, OrdCompat c) ∧
      d.ordInst (fuel + 1) = derivedOrd d.spec ds :=
  ⟨_, components_length _ _ _ _, fun c hc =>
    (ord_components_lawful d wf _ (lawfulOrd_asN (ordInst_lawful d wf fuel)) c hc).compat, rfl⟩

/-! ## Monoid

Lawful on the carrier of the expression (`Inst.carrier`: the values of the field type).  Excluded
(empty carrier): `monoid.MergeGoMap` (laws up to map content: C11), `monoid.Ptr` and the recursive
reference (the grammar derives no `Monoid` for them). -/

theorem primMonoidTable_lawful (n : String) :
    ∀ p, primMonoidTable n = some p → LawfulMonoidOn p.2 p.1 := by
  unfold primMonoidTable
  split <;> intro p hp <;> cases hp
  case h_1 | h_2 | h_3 => exact monoidProduct_lawful _  -- "monoid.Product[int64]", "…[int8]", "…[uint64]"
  case h_4 | h_5 => exact monoidStr_lawful  -- "monoid.String", "monoid.Sum[string]"
  case h_6 | h_7 => exact monoidSum_lawful _  -- "MonoidMyInt", "dep.MonoidMoney"
  case h_8 => exact monoidMerge_lawful  -- "monoid.Merge"
  case h_9 => exact monoid_vacuous _  -- "monoid.MergeGoMap": empty carrier

theorem primMonoid_lawful (n : String) :
    LawfulMonoidOn (primCarrier n) ((primMonoid? n).getD MonoidD.trivial) := by
  unfold primCarrier primMonoid?
  cases h : primMonoidTable n with
  | none => exact monoid_vacuous _
  | some p => exact primMonoidTable_lawful n p h

/-- the derived `Monoid` of a nested struct (all of whose fields are applicable) is a lawful
    component on the struct's values -/
theorem monoidRec_lawful (s : StructSpec) (ds : List (MonoidD DV)) (Ps : List (DV → Prop))
    (h : LawfulMonoids ds Ps) (hd : ds.length = s.nApp)
    (happ : ∀ f ∈ s.fields, f.applicable = true) :
    LawfulMonoidOn (fun v => ∃ vs, v = .record vs ∧ vs.length = s.fields.length ∧
        InCarriers Ps (unapplyG s vs)) (monoidRec s (nestedZero s) ds) := by
  have hz := nestedZero_WFG s
  have he : (derivedMonoid s (nestedZero s) ds).empty.length = s.fields.length :=
    fromZero_WFG s _ _ hz
  have hc : ∀ a b, ((derivedMonoid s (nestedZero s) ds).combine a b).length = s.fields.length :=
    fun a b => combine_WF s _ ds a b hz
  refine ⟨fun v pv => ?_, fun v pv => ?_, fun u v w pu pv pw => ?_⟩
  · obtain ⟨vs, rfl, hl, hcar⟩ := pv
    simp only [monoidRec, asN_record _ _ he, asN_record _ _ hl]
    rw [combine_left_id_all_applicable s _ ds Ps h hz hd vs hl hcar happ]
  · obtain ⟨vs, rfl, hl, hcar⟩ := pv
    simp only [monoidRec, asN_record _ _ he, asN_record _ _ hl]
    rw [combine_right_id_all_applicable s _ ds Ps h hz hd vs hl hcar happ]
  · obtain ⟨us, rfl, hu, cu⟩ := pu
    obtain ⟨vs, rfl, hv, cv⟩ := pv
    obtain ⟨ws, rfl, hw, cw⟩ := pw
    simp only [monoidRec, asN_record _ _ hu, asN_record _ _ hv, asN_record _ _ hw,
      asN_record _ _ (hc _ _)]
    rw [combine_assoc s _ ds Ps h hz hd us vs ws hu hv hw cu cv cw]

mutual
  /-- every instance expression denotes a monoid that is lawful on the carrier of the expression -/
  theorem monoid_lawful (env : Env (MonoidD DV)) (penv : String → DV → Prop)
      (hp : ∀ n, LawfulMonoidOn (penv n) (env.param n)) :
      (i : Inst) → i.WFm → LawfulMonoidOn (i.carrier penv) (i.monoid env)
    | .prim n, _ => primMonoid_lawful n
    | .option i, h => monoidOption_lawful (monoid_lawful env penv hp i h)
    | .seq _, _ => monoidMerge_lawful
    | .slice _, _ => monoidMerge_lawful
    | .ptr _, _ => monoid_vacuous _
    | .gomap _, _ => monoid_vacuous _
    | .tuple2 a b, h =>
      monoidTuple2_lawful (monoid_lawful env penv hp a h.1) (monoid_lawful env penv hp b h.2)
    | .struct s is, h =>
      monoidRec_lawful s _ _ (monoids_lawful env penv hp is h.2.2)
        ((monoids_length env is).trans h.1) h.2.1
    | .self, _ => monoid_vacuous _
    | .tparam n, _ => hp n
  theorem monoids_lawful (env : Env (MonoidD DV)) (penv : String → DV → Prop)
      (hp : ∀ n, LawfulMonoidOn (penv n) (env.param n)) :
      (is : List Inst) → Inst.WFms is →
        LawfulMonoids (Inst.monoids env is) (Inst.carriers penv is)
    | [], _ => .nil
    | i :: is, h => .cons (monoid_lawful env penv hp i h.1) (monoids_lawful env penv hp is h.2)
end

/-- the carriers of the components of a declaration's `Monoid` instance -/
def monoidCarriers (d : Decl) : List (DV → Prop) :=
  let penv : String → DV → Prop := fun n => (d.paramInst n).carrier fun _ _ => False
  components d.spec d.params (fun t => (d.givenInst t).carrier penv) penv

/-- The `Monoid` instance the oracle evaluates for a declaration is a lawful monoid on the values
    it produces (non-applicable fields zero) whose applicable fields lie in the carriers of their
    component expressions; `Combine(Empty, a)` is `a` with the non-applicable fields reset
    (`combine_left_id` applies with these carriers). -/
theorem monoidInst_lawful (d : Decl) (hi : Inst.WFms d.insts) (hpi : Inst.WFms (d.pinsts.map (·.2)))
    (zero : List DV) (hz : WFG d.spec zero) :
    LawfulMonoidOn
      (fun a => WFG d.spec a ∧ maskG d.spec.fields zero a = a ∧
        InCarriers (monoidCarriers d) (unapplyG d.spec a))
      (d.monoidInst zero) := by
  have hpd : ∀ n, LawfulMonoidOn ((d.paramInst n).carrier fun _ _ => False)
      ((d.paramInst n).monoid ⟨MonoidD.trivial, fun _ => MonoidD.trivial⟩) := fun n =>
    monoid_lawful _ _ (fun _ => monoid_vacuous _) _ (paramInst_WFm d hpi n)
  simp only [Decl.monoidInst, derivedMonoidG]
  exact derivedMonoid_lawful d.spec zero _ (monoidCarriers d)
    (components_forall2 (fun m P => LawfulMonoidOn P m) _ _ _ _ _ _
      (fun t => monoid_lawful _ _ hpd _ (givenInst_WFm d hi t)) hpd)
    hz (components_length _ _ _ _)

/-! ## Clone

`CloneOK d v` = at the value `v` the clone `d` returns an equal copy all of whose storage is fresh
and pairwise distinct.  Every instance expression denotes such a clone at every value of its shape
(`Inst.shape`: the heap values of the field type). -/

/-- a record clone of a struct all of whose fields are applicable, wrapped as the clone of the
    struct VALUE (the spine of its fields) -/
theorem spineRec_ok {s : StructSpec} {c : CloneD HRec} {d : CloneD HV} {vs : List HV}
    (hl : vs.length = s.fields.length) (happ : ∀ f ∈ s.fields, f.applicable = true)
    (K : CloneOKRec s c vs)
    (hR : ∀ n, (runAlloc (c.clone vs) n).1.length = s.fields.length)
    (run : ∀ n, runAlloc (d.clone (spine vs)) n =
      (spine (runAlloc (c.clone vs) n).1, (runAlloc (c.clone vs) n).2)) :
    CloneOK d (spine vs) :=
  cloneOK_of_run fun n => by
    rw [run n]
    refine ⟨?_, K.mono n, ?_⟩
    · rw [spine_same]
      have := K.same n
      rwa [projectG_all_applicable _ _ (hR n) happ, projectG_all_applicable _ _ hl happ] at this
    · rw [spine_addrs]
      exact ⟨K.fresh n, K.nodup n⟩

/-- the derived `Clone` of a nested struct all of whose fields are applicable, at a struct value -/
theorem cloneRec_ok (s : StructSpec) (ds : List (CloneD HV)) (vs : List HV)
    (hl : vs.length = s.fields.length) (happ : ∀ f ∈ s.fields, f.applicable = true)
    (h : Forall2 CloneOK ds (projectG s.fields vs)) : CloneOK (cloneRec s ds) (spine vs) :=
  spineRec_ok hl happ (derivedClone_ok s ds vs hl h)
    (fun n => (injectG_length s.fields (zeroH s) _).trans (List.length_map _))
    (fun n => by simp only [cloneRec, unspine_spine]; rfl)

/-- `clone.Seq` / `clone.Slice` / `clone.GoMap` (the clone of the entries): nil, or a new backing array holding
    the cloned elements -/
theorem cloneSlice_ok {c : CloneD HV} {P : HV → Prop} (hc : ∀ w, P w → CloneOK c w) (v : HV)
    (hv : (∃ t, v = .leaf t) ∨ ∃ a sp, v = .ref a sp ∧ SpineOf P sp) : CloneOK (cloneSlice c) v := by
  rcases hv with ⟨t, rfl⟩ | ⟨a, sp, rfl, hsp⟩
  · exact ptrCloneDeep_ok_nil _ t
  · exact ptrCloneDeep_ok _ a sp (spineClone_ok hc hsp)

mutual
  /-- every instance expression denotes a lawful clone at every value of its shape -/
  theorem clone_ok (env : Env (CloneD HV)) (senv : String → HV → Prop) (self : HV → Prop)
      (hs : ∀ v, self v → CloneOK env.self v) (hp : ∀ n v, senv n v → CloneOK (env.param n) v) :
      (i : Inst) → i.WFm → ∀ v, i.shape senv self v → CloneOK (i.clone env) v
    | .prim n, _, v, hv => by
      rw [Inst.clone, primClone_given]
      exact given_ok v hv
    | .option i, h, v, hv => by
      rcases hv with ⟨t, rfl⟩ | ⟨w, rfl, hw⟩
      · exact pure_ok_leaf _ t fun n => rfl
      · exact cloneOption_ok (clone_ok env senv self hs hp i h w hw)
    | .seq i, h, v, hv => cloneSlice_ok (clone_ok env senv self hs hp i h) v hv
    | .slice i, h, v, hv => cloneSlice_ok (clone_ok env senv self hs hp i h) v hv
    | .ptr i, h, v, hv => by
      rcases hv with ⟨t, rfl⟩ | ⟨a, w, rfl, hw⟩
      · exact ptrCloneDeep_ok_nil _ t
      · exact ptrCloneDeep_ok _ a w (clone_ok env senv self hs hp i h w hw)
    | .gomap i, h, v, hv =>
      cloneSlice_ok (cloneEntry_ok (fun k hk => given_ok k hk) (clone_ok env senv self hs hp i h)) v hv
    | .tuple2 a b, h, v, hv => by
      obtain ⟨x, y, rfl, hx, hy⟩ := hv
      exact spineTuple_ok _ [a.clone env, b.clone env] [x, y]
        (.cons (clone_ok env senv self hs hp a h.1 x hx)
          (.cons (clone_ok env senv self hs hp b h.2 y hy) .nil))
        (fun n => rfl)
    | .struct s is, h, v, hv => by
      obtain ⟨vs, rfl, hl, hc⟩ := hv
      exact cloneRec_ok s _ vs hl h.2.1 (clones_ok env senv self hs hp is h.2.2 _ hc)
    | .self, _, v, hv => hs v hv
    | .tparam n, _, v, hv => hp n v hv
  theorem clones_ok (env : Env (CloneD HV)) (senv : String → HV → Prop) (self : HV → Prop)
      (hs : ∀ v, self v → CloneOK env.self v) (hp : ∀ n v, senv n v → CloneOK (env.param n) v) :
      (is : List Inst) → Inst.WFms is → ∀ vs, InCarriers (Inst.shapes senv self is) vs →
        Forall2 CloneOK (Inst.clones env is) vs
    | [], _, vs, hv => by
      cases hv
      exact .nil
    | i :: is, h, vs, hv => by
      cases hv with
      | cons pv hrest =>
        exact .cons (clone_ok env senv self hs hp i h.1 _ pv)
          (clones_ok env senv self hs hp is h.2 _ hrest)
end

/-- the shapes of the components of a declaration's `Clone` instance, when the values behind a
    recursive reference satisfy `S` -/
def cloneShapes (d : Decl) (S : HV → Prop) : List (HV → Prop) :=
  let penv : String → HV → Prop := fun n => (d.paramInst n).shape (fun _ _ => False) S
  components d.spec d.params (fun t => (d.givenInst t).shape penv S) penv

/-- values of the (possibly recursive) struct whose recursive references nest less than `k` deep -/
def selfShape (d : Decl) : Nat → HV → Prop
  | 0 => fun _ => False
  | k + 1 => fun v => ∃ vs, v = spine vs ∧ vs.length = d.spec.fields.length ∧
      InCarriers (cloneShapes d (selfShape d k)) (projectG d.spec.fields vs)

/-- component-wise: the clone of every component is lawful on the shape of that component -/
theorem components_clone_ok (d : Decl) (hi : Inst.WFms d.insts)
    (hpi : Inst.WFms (d.pinsts.map (·.2))) (selfC : CloneD HV) (S : HV → Prop)
    (hs : ∀ v, S v → CloneOK selfC v) (vs : List HV) (hc : InCarriers (cloneShapes d S) vs) :
    Forall2 CloneOK
      (components d.spec d.params
        (fun t => (d.givenInst t).clone
          ⟨selfC, fun n => (d.paramInst n).clone ⟨selfC, fun _ => CloneD.given⟩⟩)
        (fun n => (d.paramInst n).clone ⟨selfC, fun _ => CloneD.given⟩)) vs := by
  have hpar : ∀ n v, (d.paramInst n).shape (fun _ _ => False) S v →
      CloneOK ((d.paramInst n).clone ⟨selfC, fun _ => CloneD.given⟩) v := fun n v hv =>
    clone_ok _ _ S hs (fun _ _ h => h.elim) _ (paramInst_WFm d hpi n) v hv
  exact Forall2.of_carriers
    (components_forall2 _ d.spec d.params _ _ _ _
      (fun t v pv => clone_ok _ _ S hs hpar _ (givenInst_WFm d hi t) v pv) hpar) hc

/-- one step: if the previous unfolding is a lawful clone on the values behind the recursive
    reference, this unfolding is a lawful clone of every struct value over them -/
theorem cloneInst_step (d : Decl) (hi : Inst.WFms d.insts) (hpi : Inst.WFms (d.pinsts.map (·.2)))
    (fuel : Nat) (S : HV → Prop)
    (hs : ∀ v, S v → CloneOK ⟨fun v => do
      let r ← (d.cloneInst fuel).clone (unspine v)
      pure (spine r)⟩ v)
    (x : HRec) (hx : x.length = d.spec.fields.length)
    (hc : InCarriers (cloneShapes d S) (projectG d.spec.fields x)) :
    CloneOKRec d.spec (d.cloneInst (fuel + 1)) x := by
  simp only [Decl.cloneInst]
  exact derivedClone_ok d.spec _ x hx (components_clone_ok d hi hpi _ S hs _ hc)

/-- The `Clone` instance the oracle evaluates for a NON-recursive declaration is an equal copy
    sharing no mutable storage at every value whose fields have the shapes of their components. -/
theorem cloneInst_ok (d : Decl) (hi : Inst.WFms d.insts) (hpi : Inst.WFms (d.pinsts.map (·.2)))
    (fuel : Nat) (x : HRec) (hx : x.length = d.spec.fields.length)
    (hc : InCarriers (cloneShapes d fun _ => False) (projectG d.spec.fields x)) :
    CloneOKRec d.spec (d.cloneInst (fuel + 1)) x :=
  cloneInst_step d hi hpi fuel _ (fun _ h => h.elim) x hx hc

/-- … and for a recursive declaration (all of whose fields are applicable): unfolding `k + 1` times
    clones every value whose recursive references nest at most `k` deep. -/
theorem cloneInst_ok_rec (d : Decl) (hi : Inst.WFms d.insts) (hpi : Inst.WFms (d.pinsts.map (·.2)))
    (happ : ∀ f ∈ d.spec.fields, f.applicable = true) :
    ∀ k (x : HRec), x.length = d.spec.fields.length →
      InCarriers (cloneShapes d (selfShape d k)) (projectG d.spec.fields x) →
      CloneOKRec d.spec (d.cloneInst (k + 1)) x
  | 0, x, hx, hc => cloneInst_step d hi hpi 0 _ (fun _ h => h.elim) x hx hc
  | k + 1, x, hx, hc => by
    refine cloneInst_step d hi hpi (k + 1) _ ?_ x hx hc
    intro v hv
    obtain ⟨vs, rfl, hl, hcs⟩ := hv
    exact spineRec_ok hl happ (cloneInst_ok_rec d hi hpi happ k vs hl hcs)
      (fun n => (injectG_length d.spec.fields (zeroH d.spec) _).trans (List.length_map _))
      (fun n => by simp only [unspine_spine]; rfl)

/-! ## Fuel adequacy (audit finding 10)

`eqInst_lawful` & co. hold for EVERY fuel, including the degenerate fuel-0 instance (all values
equal), so by themselves they do not say that the oracle's fuel computes the real recursive
instance.  This section does: `d.depthLE k x` (`Lemmas/DeriveFuel.lean`) says that the recursive
references inside the struct value `x` nest less than `k` deep — defined by following exactly the
projections the instance expressions of the fields use (`Inst.within`); on such values EVERY
unfolding with at least `k` levels computes the same function, and that function satisfies the
recursive equation of the Go code `EqS = eq.ContraMap(eq.TupleN(d1..dn), S.AsTuple)` in which the
component behind `lazy.Call(func() fp.Eq[S] { return EqS() })` is the instance ITSELF
(`eqInst_structural`).  The oracle uses fuel 24 (`Oracle/Derive.lean: fuel`); the grammar's value
generator stops following recursive references at depth 3 (`harness/gombokgen/emit.go`:
`if r.Depth < 3`: at most three nested values of the recursive struct), far below 24, so 24 is
adequate for everything the harness sends (`oracle_fuel_adequate`). -/

/-- `Eq`: on values of depth `≤ k` the unfolding with `k + 1` levels and every deeper one agree. -/
theorem eqInst_fuel_adequate (d : Decl) (k j : Nat) (x y : List DV)
    (hx : d.depthLE (k + 1) x) (hy : d.depthLE (k + 1) y) :
    (d.eqInst (k + 1 + j)).eqv x y = (d.eqInst (k + 1)).eqv x y :=
  eqInst_agree d (k + 1) j x y hx hy

/-- `Ord`: the same for `Eqv` and `Less`. -/
theorem ordInst_fuel_adequate (d : Decl) (k j : Nat) (x y : List DV)
    (hx : d.depthLE (k + 1) x) (hy : d.depthLE (k + 1) y) :
    (d.ordInst (k + 1 + j)).eqv x y = (d.ordInst (k + 1)).eqv x y ∧
      (d.ordInst (k + 1 + j)).less x y = (d.ordInst (k + 1)).less x y :=
  ordInst_agree d (k + 1) j x y hx hy

/-- `Hashable`: the same for `Eqv` and `Hash`. -/
theorem hashInst_fuel_adequate (d : Decl) (k j : Nat) (x y : List DV)
    (hx : d.depthLE (k + 1) x) (hy : d.depthLE (k + 1) y) :
    (d.hashInst (k + 1 + j)).eqv x y = (d.hashInst (k + 1)).eqv x y ∧
      (d.hashInst (k + 1 + j)).hash x = (d.hashInst (k + 1)).hash x :=
  ⟨(hashInst_agree d (k + 1) j).1 x y hx hy, (hashInst_agree d (k + 1) j).2 x hx⟩

/-- Any two fuels above the depth of both values give the same answer (the values may have
    different depths: `depthLE` is monotone, `Decl.depthLE_mono`). -/
theorem eqInst_fuel_irrelevant (d : Decl) (k f1 f2 : Nat) (h1 : k ≤ f1) (h2 : k ≤ f2)
    (x y : List DV) (hx : d.depthLE k x) (hy : d.depthLE k y) :
    (d.eqInst f1).eqv x y = (d.eqInst f2).eqv x y := by
  obtain ⟨j1, rfl⟩ := Nat.exists_eq_add_of_le h1
  obtain ⟨j2, rfl⟩ := Nat.exists_eq_add_of_le h2
  exact (eqInst_agree d k j1 x y hx hy).trans (eqInst_agree d k j2 x y hx hy).symm

theorem ordInst_fuel_irrelevant (d : Decl) (k f1 f2 : Nat) (h1 : k ≤ f1) (h2 : k ≤ f2)
    (x y : List DV) (hx : d.depthLE k x) (hy : d.depthLE k y) :
    (d.ordInst f1).eqv x y = (d.ordInst f2).eqv x y ∧
      (d.ordInst f1).less x y = (d.ordInst f2).less x y := by
  obtain ⟨j1, rfl⟩ := Nat.exists_eq_add_of_le h1
  obtain ⟨j2, rfl⟩ := Nat.exists_eq_add_of_le h2
  have a1 := ordInst_agree d k j1 x y hx hy
  have a2 := ordInst_agree d k j2 x y hx hy
  exact ⟨a1.1.trans a2.1.symm, a1.2.trans a2.2.symm⟩

theorem hashInst_fuel_irrelevant (d : Decl) (k f1 f2 : Nat) (h1 : k ≤ f1) (h2 : k ≤ f2)
    (x y : List DV) (hx : d.depthLE k x) (hy : d.depthLE k y) :
    (d.hashInst f1).eqv x y = (d.hashInst f2).eqv x y ∧
      (d.hashInst f1).hash x = (d.hashInst f2).hash x := by
  obtain ⟨j1, rfl⟩ := Nat.exists_eq_add_of_le h1
  obtain ⟨j2, rfl⟩ := Nat.exists_eq_add_of_le h2
  have a1 := hashInst_agree d k j1
  have a2 := hashInst_agree d k j2
  exact ⟨(a1.1 x y hx hy).trans (a2.1 x y hx hy).symm, (a1.2 x hx).trans (a2.2 x hx).symm⟩

/-- The oracle's fuel (24) answers like every deeper unfolding on all values whose recursive
    references nest less than 24 deep — in particular on everything the grammar generates. -/
theorem oracle_fuel_adequate (d : Decl) (x y : List DV) (hx : d.depthLE 24 x)
    (hy : d.depthLE 24 y) (j : Nat) :
    (d.eqInst (24 + j)).eqv x y = (d.eqInst 24).eqv x y ∧
      ((d.ordInst (24 + j)).eqv x y = (d.ordInst 24).eqv x y ∧
        (d.ordInst (24 + j)).less x y = (d.ordInst 24).less x y) ∧
      ((d.hashInst (24 + j)).eqv x y = (d.hashInst 24).eqv x y ∧
        (d.hashInst (24 + j)).hash x = (d.hashInst 24).hash x) :=
  ⟨eqInst_agree d 24 j x y hx hy, ordInst_agree d 24 j x y hx hy,
    (hashInst_agree d 24 j).1 x y hx hy, (hashInst_agree d 24 j).2 x hx⟩

/-- The component that compares field `f` in the unfolding `fuel + 1`: the dictionary of the type
    parameter when `f`'s type is one, else the denotation of the expression resolved for `f`'s
    type — in both the recursive reference is `eqInst fuel` (on the fields of the record value). -/
def eqField (d : Decl) (fuel : Nat) (f : Field) : EqD DV :=
  let self : EqD DV := (d.eqInst fuel).comap (DV.asN d.spec.fields.length)
  let pd : String → EqD DV := fun n => (d.paramInst n).eq ⟨self, fun _ => EqD.trivial⟩
  resolve d.params pd (fun t => (d.givenInst t).eq ⟨self, pd⟩) f

/-- which component compares which field: the component list of `eqInst (fuel + 1)` is `eqField`
    mapped over the applicable fields in declaration order -/
theorem eqInst_succ (d : Decl) (fuel : Nat) :
    d.eqInst (fuel + 1) = derivedEq d.spec (d.spec.applicableFields.map (eqField d fuel)) := rfl

/-- The field-wise statement proper (`eqInst_fieldwise` is only existential): two values are
    `Eqv` iff for every applicable field — the `i`-th in declaration order — the two field values
    are `Eqv` under THAT field's component. -/
theorem eqInst_fieldwise_real (d : Decl) (fuel : Nat) (x y : List DV) (hx : WFG d.spec x)
    (hy : WFG d.spec y) :
    (d.eqInst (fuel + 1)).eqv x y = true ↔
      ∀ i (h : i < d.spec.nApp),
        (eqField d fuel (d.spec.applicableFields[i]'h)).eqv
          ((unapplyG d.spec x)[i]'(by rw [unapplyG_length d.spec x hx]; exact h))
          ((unapplyG d.spec y)[i]'(by rw [unapplyG_length d.spec y hy]; exact h)) = true := by
  rw [eqInst_succ, derivedEq_iff_fields d.spec _ x y hx hy (by simp [StructSpec.nApp])]
  simp only [List.getElem_map]
  exact Iff.rfl

/-- At adequate fuel the instance satisfies the recursive equation of the generated code: `E x y`
    iff every applicable field is `Eqv` under its component, where the component of a recursive
    reference is `E` ITSELF (same fuel on both sides; no fuel-0 degenerate instance is involved as
    soon as `1 ≤ k`, and for `k = 0` the hypothesis is empty). -/
theorem eqInst_structural (d : Decl) (k fuel : Nat) (hk : k ≤ fuel) (x y : List DV)
    (hx : WFG d.spec x) (hy : WFG d.spec y) (dx : d.depthLE k x) (dy : d.depthLE k y) :
    (d.eqInst fuel).eqv x y = true ↔
      ∀ i (h : i < d.spec.nApp),
        (eqField d fuel (d.spec.applicableFields[i]'h)).eqv
          ((unapplyG d.spec x)[i]'(by rw [unapplyG_length d.spec x hx]; exact h))
          ((unapplyG d.spec y)[i]'(by rw [unapplyG_length d.spec y hy]; exact h)) = true := by
  rw [eqInst_fuel_irrelevant d k fuel (fuel + 1) hk (by omega) x y dx dy]
  exact eqInst_fieldwise_real d fuel x y hx hy

/-! ## The hypotheses are satisfiable, the denotations compute -/

/-- `type S struct { a MyInt; _p int; b fp.Option[string]; next *S }` in a package with the local
    overriding `EqMyInt` (mod 10) -/
def sampleDecl : Decl where
  spec := { name := "S", fields := [{ name := "a", ty := .conc "MyInt" }, { name := "_p", ty := .conc "int" },
    { name := "b", ty := .conc "fp.Option[string]" }, { name := "next", ty := .conc "*S" }] }
  params := []
  insts := [.prim "EqMyInt", .option (.prim "eq.String"), .ptr .self]
  pinsts := []

example : sampleDecl.WF :=
  ⟨by decide +kernel, by simp [sampleDecl, Inst.WFs, Inst.WF], by simp [sampleDecl, Inst.WFs]⟩

/-- 13 and 3 are `Eqv` under the local mod-10 instance, `_p` is ignored, the pointees are compared
    through the recursive reference -/
example : (sampleDecl.eqInst 3).eqv
    [.int 13, .opaque "1", .some (.str [97]), .ptr (.record [.int 7, .opaque "5", .none, .nil])]
    [.int 3, .opaque "2", .some (.str [97]), .ptr (.record [.int 17, .opaque "6", .none, .nil])] = true := by
  decide +kernel

example : (sampleDecl.eqInst 3).eqv
    [.int 13, .opaque "1", .some (.str [97]), .ptr (.record [.int 7, .opaque "5", .none, .nil])]
    [.int 3, .opaque "2", .some (.str [97]), .ptr (.record [.int 18, .opaque "6", .none, .nil])] = false := by
  decide +kernel

/-- `hash.Tuple2`-style combination at the concrete primitive hashers: `Hash(a)*31 + Hash(b)` with
    `hash.Number` and FNV-1 -/
example : (derivedHash { name := "T", fields := [{ name := "a", ty := .conc "int" }, { name := "b", ty := .conc "string" }] }
      [hashNumber, hashStr]).hash [.int 1, .str [97, 98]] = 1886858583 := by
  decide +kernel

example : IntKind.i64.InRange (.int (-5)) := ⟨-5, rfl, by decide +kernel⟩
example : IntKind.u64.InRange (.int 18446744073709551615) := ⟨_, rfl, by decide +kernel⟩
/-- `monoid.Product[int8]`: 100 * 2 wraps to -56 -/
example : ((monoidProduct .i8).combine (.int 100) (.int 2)).asInt = -56 := by decide +kernel
example : Inst.WFm (.option (.prim "monoid.String")) := by simp [Inst.WFm]
example : (Inst.option (.prim "monoid.String")).carrier (fun _ _ => False) (.some (.str [1])) := by
  simp [Inst.carrier, primCarrier, primMonoidTable, DV.IsStr]

/-- the clone of `B{p: &A{"x", []string{"e"}}, n: 7}` through the expression gombok resolves
    (`clone.Ptr(lazy CloneA)`, `CloneA = Tuple2(Given, Slice(Given))`): all storage is new -/
example :
    let iA : Inst := .struct { name := "A", fields := [{ name := "name", ty := .conc "string" },
      { name := "sl", ty := .conc "[]string" }] } [.prim "clone.Given", .slice (.prim "clone.Given")]
    let dB : Decl := { spec := specB, params := [], insts := [.ptr iA, .prim "clone.Given"], pinsts := [] }
    (runAlloc ((dB.cloneInst 2).clone
        [.ref 0 (spine [.leaf "x", .ref 1 (spine [.leaf "e"])]), .leaf "7"]) 2).1 =
      [.ref 2 (spine [.leaf "x", .ref 3 (spine [.leaf "e"])]), .leaf "7"] := by
  decide +kernel

/-! ### Fuel adequacy: the hypotheses are satisfiable and needed -/

/-- which fields of `S` take part: all but `_p` -/
theorem sample_applicable :
    Field.applicable { name := "a", ty := .conc "MyInt" } = true ∧
      Field.applicable { name := "_p", ty := .conc "int" } = false ∧
      Field.applicable { name := "b", ty := .conc "fp.Option[string]" } = true ∧
      Field.applicable { name := "next", ty := .conc "*S" } = true := by
  decide +kernel

theorem sample_applicableFields :
    sampleDecl.spec.applicableFields = [{ name := "a", ty := .conc "MyInt" },
      { name := "b", ty := .conc "fp.Option[string]" }, { name := "next", ty := .conc "*S" }] := by
  simp [StructSpec.applicableFields, sampleDecl, List.filter, sample_applicable]

/-- which expression compares which field of `S` (resolution by field type) -/
theorem sample_givenInst :
    sampleDecl.givenInst (.conc "MyInt") = .prim "EqMyInt" ∧
      sampleDecl.givenInst (.conc "fp.Option[string]") = .option (.prim "eq.String") ∧
      sampleDecl.givenInst (.conc "*S") = .ptr .self := by
  refine ⟨?_, ?_, ?_⟩ <;> simp [Decl.givenInst, sample_applicableFields] <;> simp [sampleDecl]

/-- every `S` value whose `next` is nil or points to an `S` whose `next` is nil has depth `≤ 2`
    (here: one concrete such value with a non-nil pointer, so `self` IS reached) -/
theorem sample_depthLE (a a' : Int) (p p' : String) (b b' : DV) :
    sampleDecl.depthLE 2 [.int a, .opaque p, b, .ptr (.record [.int a', .opaque p', b', .nil])] := by
  have hp : sampleDecl.params = [] := rfl
  obtain ⟨a1, a2, a3, a4⟩ := sample_applicable
  have hf : sampleDecl.spec.fields = [{ name := "a", ty := .conc "MyInt" },
      { name := "_p", ty := .conc "int" }, { name := "b", ty := .conc "fp.Option[string]" },
      { name := "next", ty := .conc "*S" }] := rfl
  simp only [Decl.depthLE, Decl.withinFields, components, sample_applicableFields, List.map_cons,
    List.map_nil, resolve, hp, List.contains_nil, sample_givenInst.1, sample_givenInst.2.1,
    sample_givenInst.2.2, Inst.within, unapplyG, hf, projectG, a1, a2, a3, a4, if_true, DV.asPtr,
    DV.asOpt, Bool.false_eq_true, if_false]
  refine .cons trivial (.cons (fun _ _ => trivial) (.cons ?_ .nil))
  intro w hw
  cases hw
  simp only [DV.asN, List.length_cons, List.length_nil, if_true, projectG, a1, a2, a3, a4,
    Bool.false_eq_true, if_false]
  refine .cons trivial (.cons (fun _ _ => trivial) (.cons ?_ .nil))
  intro w hw
  cases hw

/-- … hence on these values the oracle's fuel-24 instance is the fuel-2 instance, and the latter
    really looks behind the pointer (`7` vs `18` differ mod 10) -/
example : (sampleDecl.eqInst 24).eqv
    [.int 13, .opaque "1", .some (.str [97]), .ptr (.record [.int 7, .opaque "5", .none, .nil])]
    [.int 3, .opaque "2", .some (.str [97]), .ptr (.record [.int 18, .opaque "6", .none, .nil])] = false := by
  rw [eqInst_fuel_irrelevant sampleDecl 2 24 2 (by omega) (by omega) _ _
    (sample_depthLE _ _ _ _ _ _) (sample_depthLE _ _ _ _ _ _)]
  decide +kernel

/-- the depth hypothesis cannot be dropped: with ONE unfolding the recursive reference is the
    degenerate all-equal instance and the same two values (depth 2) are wrongly `Eqv` -/
example : (sampleDecl.eqInst 1).eqv
    [.int 13, .opaque "1", .some (.str [97]), .ptr (.record [.int 7, .opaque "5", .none, .nil])]
    [.int 3, .opaque "2", .some (.str [97]), .ptr (.record [.int 18, .opaque "6", .none, .nil])] = true := by
  decide +kernel

end FpVerif.Spec.C08Inst
