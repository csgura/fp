import FpVerif.Gen.AtomFacts
import FpVerif.Model.Cow
import FpVerif.Lemmas.FactsAtom
import FpVerif.Lemmas.FactsCode
/-!
# C19 — regenerated facts: the atomic-step structure of `mutable.CopyOnWriteMap` is the one `Model/Cow.lean` steps through

`FpVerif/Gen/AtomFacts.lean` is regenerated from the working tree on every run by `harness/cmd/atomfacts`.
`Spec/C19.lean` proves linearizability for every interleaving of the atomic blocks of `Model/Cow.stepT`
(`Variant.recheck`, the repaired `ComputeIf`); the theorems below tie that block structure to `mutable/copyonwrite.go`.

## Program counter `Model/Cow.Pc`  ↔  atomic block of the Go code

| pc | yield label (`Local.point`) | block (events after the yield) | Go |
|---|---|---|---|
| `load`      | "cow.load"      | `load` (lock-free); nil → `loadLock`, else the operation's pure continuation | `load()`: `m := r.value.Load()` |
| `loadLock`  | "cow.load.lock" | `lock; load; [store]; unlock` – blocked while the lock is taken; ONE block: right-mover, both-mover, the single non-mover, left-mover | `load()`: `r.lock.Lock(); defer r.lock.Unlock(); m = r.value.Load(); if m == nil { …; r.value.Store(m) }` |
| `enter`     | "cow.enter"     | `lock; load; f(m)` – blocked while the lock is taken; the callback runs under the lock | `copyOnWrite`: `r.lock.Lock(); defer r.lock.Unlock(); m := r.value.Load(); nm := f(m)` |
| `store nm out` | "cow.store"  | `store; unlock` | `copyOnWrite`: `r.value.Store(nm); return nm` (+ deferred Unlock) |
| `hold m`    | "iter.hold" (harness) | – the iterator over the immutable snapshot is consumed later | `Iterator()` = `load().Iterator()` |
| `load2`, `load2Lock` | "cow.load", "cow.load.lock" | ONLY `Variant.asIs`: the final `r.Get(k)` of the unrepaired `ComputeIf` – `skeleton_computeIf` shows the code has NO such third section | – |

`startNext`: `Updated` / `Removed` / `UpdatedWith` begin at `enter` (they are `copyOnWrite(<closure>)` and nothing else),
`Get` / `Size` / `Iterator` / `ComputeIf` begin at `load`.
-/
namespace FpVerif.Spec.C19Facts
open FpVerif.AtomShape FpVerif.Gen.Atom

def cowFuncs : List AFunc := funcs.filter (fun f => f.file == "mutable/copyonwrite.go")

/-- the cell (`value atomic.Value`) is stored to under `lock` only -/
def locked (m : Mode) : Disc := ⟨m, true⟩

/-- (a) a lock-free access and a `Lock` are immediately preceded by exactly one yield; under the lock a block is
    loads, at most one store, the unlock -/
theorem one_yield_per_access : violations (locked .strict) [] cowFuncs = [] := by decide +kernel

/-- (b) on every path a block is (Lock | load under the lock)* (one non-commuting access)? (Unlock)*; every store
    happens while holding the lock; no return while holding the lock without a deferred Unlock; no other
    synchronisation construct -/
theorem well_hooked : violations (locked .mover) [] cowFuncs = [] :=
  violations_mover true one_yield_per_access

/-- non-vacuity of the discipline -/
theorem cow_funcs_nonempty : cowFuncs.length ≥ 15 := by decide +kernel
example : check (locked .strict) (seq [y "e", a .lock, a .deferUnlock, a .load, a .cb, y "s", a .store, a .ret]) = none := by decide +kernel
example : check (locked .strict) (seq [y "s", a .store, a .ret]) = some "store without holding the lock" := by decide +kernel
example : check (locked .strict) (seq [y "e", a .lock, a .load, a .store, a .ret]) = some "returns while holding the lock" := by decide +kernel
example : check (locked .strict) (seq [y "e", a .lock, a .deferUnlock, a .load, a .store, a .store, a .ret]) ≠ none := by decide +kernel
example : check (locked .strict) (seq [y "l", a .load, a .load, a .ret]) ≠ none := by decide +kernel
example : check (locked .strict) (seq [y "l", a .load, a .lock, a .unlock, a .ret]) ≠ none := by decide +kernel

/-! ### (c) skeletons -/

def body (name : String) : Sq := bodyOf funcs name

/-- no function earlier in the table has the name of a function of this file -/
theorem cow_found : cowFuncs.map (fun f => lookup funcs f.name) = cowFuncs.map some := by
  -- every name of this file against every name in front of it, compared on the numeric codes of the names
  -- (`beq_byCode`), not on the strings
  unfold lookup
  rw [FactsCode.beq_byCode]
  decide +kernel

/-- so the bodies of this file's functions are read from `cowFuncs`: the kernel compares the name asked for with the few
    names of this file instead of with every name of the table in front of them -/
theorem body_eq : body = bodyVia funcs cowFuncs := bodyOf_via cow_found

/-- `Pc.load` then (nil) `Pc.loadLock`: lock-free load; double-checked initialisation under the lock -/
theorem skeleton_load :
    body "mutable.CopyOnWriteMap.load" =
      seq [y "cow.load", a .load,
           br [seq [y "cow.load.lock", a .lock, a .deferUnlock, a .load, br [seq [a .store], seq []]], seq []],
           a .ret] := by
  rw [body_eq]
  decide +kernel

/-- `Pc.enter` then `Pc.store`: lock, ONE load, the callback under the lock, yield, ONE store, (deferred) unlock -/
theorem skeleton_copyOnWrite :
    body "mutable.CopyOnWriteMap.copyOnWrite" =
      seq [y "cow.enter", a .lock, a .deferUnlock, a .load, a .cb, y "cow.store", a .store, a .ret] := by
  rw [body_eq]
  decide +kernel

/-- readers: one `load()` -/
theorem skeleton_readers :
    ["mutable.CopyOnWriteMap.Get", "mutable.CopyOnWriteMap.Size", "mutable.CopyOnWriteMap.Iterator"].map body =
      List.replicate 3 (seq [a (.call "mutable.CopyOnWriteMap.load"), a .ret]) := by
  rw [body_eq]
  decide +kernel

/-- writers: one `copyOnWrite(closure)`; the closures touch nothing shared (`UpdatedWith`'s calls `remap` once, first) -/
theorem skeleton_writers :
    ["mutable.CopyOnWriteMap.Updated", "mutable.CopyOnWriteMap.Removed", "mutable.CopyOnWriteMap.UpdatedWith"].map body =
      List.replicate 3 (seq [a (.call "mutable.CopyOnWriteMap.copyOnWrite"), a .ret]) ∧
    body "mutable.CopyOnWriteMap.Updated$1" = seq [a .ret] ∧
    body "mutable.CopyOnWriteMap.Removed$1" = seq [a (.call "mutable.unsafeSet"), a .ret] ∧
    body "mutable.unsafeSet" = seq [a .ret] ∧
    body "mutable.CopyOnWriteMap.UpdatedWith$1" =
      seq [a .cb, br [seq [a .ret], seq [br [seq [a .ret], seq []]]], a .ret] := by
  rw [body_eq]
  decide +kernel

/-- `ComputeIf` = `Variant.recheck`: ONE read section (`Get`), early return, `f()`, ONE write section whose closure
    decides again and reports through the captured variable `out` (variable 0), which is read after `copyOnWrite`
    returned — and NO third section (`Pc.load2` of `Variant.asIs`) -/
theorem skeleton_computeIf :
    body "mutable.CopyOnWriteMap.ComputeIf" =
      seq [a (.call "mutable.CopyOnWriteMap.Get"), br [seq [a .ret], seq []], a .cb,
           a (.call "mutable.CopyOnWriteMap.copyOnWrite"), a (.rvar 0), a .ret] ∧
    body "mutable.CopyOnWriteMap.ComputeIf$1" = seq [br [seq [a (.wvar 0), a .ret], seq []], a (.wvar 0), a .ret] ∧
    body "mutable.CopyOnWriteMap.ComputeIfAbsent" = seq [a (.call "mutable.CopyOnWriteMap.ComputeIf"), a .ret] ∧
    body "mutable.CopyOnWriteMap.ComputeIfAbsent$1" = seq [a .ret] := by
  rw [body_eq]
  decide +kernel

/-- the yield labels of the code are the yield points of the model (`Local.point`; "iter.hold" is harness-level) -/
theorem labels_are_model_points :
    (cowFuncs.flatMap AFunc.labels).eraseDups = ["cow.load", "cow.load.lock", "cow.enter", "cow.store"] ∧
    ([Cow.Pc.load, .loadLock, .enter, .store [] .unit, .load2, .load2Lock].map
        (fun pc => (Cow.Local.mk 0 [] (.running .size pc) []).point))
      = ["cow.load", "cow.load.lock", "cow.enter", "cow.store", "cow.load", "cow.load.lock"] := by decide +kernel

/-! ### (d) who touches the cell -/

/-- `value` and `lock` are touched by `load` and `copyOnWrite` and by nothing else -/
theorem cell_accessors :
    directTouchers cowFuncs = ["mutable.CopyOnWriteMap.load", "mutable.CopyOnWriteMap.copyOnWrite"] ∧
    (cowFuncs.filter (fun f => !f.labels.isEmpty)).map (·.name) =
      ["mutable.CopyOnWriteMap.load", "mutable.CopyOnWriteMap.copyOnWrite"] := by decide +kernel

/-- who enters which section -/
theorem cell_readers_writers :
    (cowFuncs.filter (fun f => f.callees.contains "mutable.CopyOnWriteMap.load")).map (·.name) =
      ["mutable.CopyOnWriteMap.Get", "mutable.CopyOnWriteMap.Size", "mutable.CopyOnWriteMap.Iterator"] ∧
    (cowFuncs.filter (fun f => f.callees.contains "mutable.CopyOnWriteMap.copyOnWrite")).map (·.name) =
      ["mutable.CopyOnWriteMap.Removed", "mutable.CopyOnWriteMap.ComputeIf", "mutable.CopyOnWriteMap.Updated",
       "mutable.CopyOnWriteMap.UpdatedWith"] ∧
    (cowFuncs.filter (fun f => f.callees.contains "mutable.CopyOnWriteMap.Get")).map (·.name) =
      ["mutable.CopyOnWriteMap.ComputeIf"] := by decide +kernel

/-- the functions of the file from which the cell can NOT be reached: the closures handed to `copyOnWrite` (they get
    the old map as an argument) and the set helper -/
theorem cell_reach :
    (cowFuncs.filter (fun f => !(reach cowFuncs [] 6 (directTouchers cowFuncs)).contains f.name)).map (·.name) =
      ["mutable.unsafeSet", "mutable.CopyOnWriteMap.Removed$1", "mutable.CopyOnWriteMap.ComputeIfAbsent$1",
       "mutable.CopyOnWriteMap.ComputeIf$1", "mutable.CopyOnWriteMap.Updated$1", "mutable.CopyOnWriteMap.UpdatedWith$1"] ∧
    reach cowFuncs [] 7 (directTouchers cowFuncs) = reach cowFuncs [] 6 (directTouchers cowFuncs) := by
  rw [reach_eq_by, reach_eq_by, FactsCode.beq_byCode]
  decide +kernel

/-- (d) the fields `value` and `lock` are selected by `load` and `copyOnWrite` only, in ANY file of package `mutable` -/
theorem cell_field_users :
    cellFieldUsers.filter (fun u => u.1 == "mutable.CopyOnWriteMap.lock" || u.1 == "mutable.CopyOnWriteMap.value") =
      [("mutable.CopyOnWriteMap.lock", "mutable/copyonwrite.go", "mutable.CopyOnWriteMap.load"),
       ("mutable.CopyOnWriteMap.lock", "mutable/copyonwrite.go", "mutable.CopyOnWriteMap.copyOnWrite"),
       ("mutable.CopyOnWriteMap.value", "mutable/copyonwrite.go", "mutable.CopyOnWriteMap.load"),
       ("mutable.CopyOnWriteMap.value", "mutable/copyonwrite.go", "mutable.CopyOnWriteMap.copyOnWrite")] := by decide +kernel

/-- no struct field is assigned after construction; the only captured variable a closure writes is `ComputeIf`'s
    `out` (goroutine-local: written by the closure running inside the caller's own `copyOnWrite`); no other
    synchronisation construct -/
theorem no_plain_shared_state :
    writtenFields = [] ∧
    (cowFuncs.filter (fun f => f.events.any (fun e =>
      match e with
      | .rvar _ | .wvar _ | .fload _ | .fstore _ | .rmw | .cas | .append | .onceDo _ | .goStmt | .spawnHook | .other _ => true
      | _ => false))).map (·.name) = ["mutable.CopyOnWriteMap.ComputeIf", "mutable.CopyOnWriteMap.ComputeIf$1"] := by decide +kernel

end FpVerif.Spec.C19Facts
