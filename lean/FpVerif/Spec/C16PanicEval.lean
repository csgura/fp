import FpVerif.Lemmas.EvalPanic
import FpVerif.Lemmas.ListPanic
/-!
# C16, run-once with panicking thunks — the Eval level (`lazy.Call`, `lazy.TailCall`) and the list cells (`fp.MakeList`)

Models: `Model/EvalPanic.lean`, `Model/ListPanic.lean` (memo cells in a heap; a cell is forced by `MemoPanic.get`).
What the Go code does (checked against the real code by the `memopanic` harness):

* `c := lazy.Call(f)`, `f` panics: the first `c.Get()` panics with `f`'s panic; every later `c.Get()` returns the
  ZERO value of `T`, runs nothing.
* `t := lazy.TailCall(f)`, `f` panics before returning its Eval: the first `t.Get()` panics; the memo then holds the
  zero `Eval[T]{}`, which `Run` evaluates to the zero value of `T`: every later `t.Get()` returns zero, runs nothing.
* `l := fp.MakeList(head, tail)`, `head` panics: the first `l.Head()` / `l.IsEmpty()` panics; afterwards the cell holds
  `None`: `l.IsEmpty()` is true and `l.Head()` panics with "List.empty" — the list has silently become empty.
  `tail` panics: the first `l.Tail()` panics, afterwards `l.Tail()` returns the nil interface.
In all cases the thunk is never started a second time, whatever the client program does in between.
-/
namespace FpVerif.Spec.C16PanicEval
open FpVerif FpVerif.It FpVerif.MemoPanic

deriving instance DecidableEq for Except
deriving instance DecidableEq for FpVerif.ListP.Ans

-- ================================================================================== lazy.Eval
section Eval
open FpVerif.EvalP
variable {T : Type}

/-- For EVERY client program (any sequence of `x_j := <Eval expression>` and `x_j.Get()`, expressions built from Done,
    Call, TailCall(N), Map, FlatMap, Map2 and earlier variables, thunks that log, panic and change behaviour between
    executions, every iteration budget): at the end every `Call` / `TailCall` thunk has been started at most once, and
    exactly once iff its `Once` has fired. -/
theorem evalp_run_once (zero : T) (fuel : Nat) (cmds : List (Cmd T)) (lg : Log) :
    (∀ cc ∈ (execAll zero fuel cmds {} lg).2.1.calls, cc.cell.runs ≤ 1 ∧ (cc.cell.runs = 1 ↔ cc.cell.done = true))
    ∧ (∀ tc ∈ (execAll zero fuel cmds {} lg).2.1.tails, tc.cell.runs ≤ 1 ∧ (tc.cell.runs = 1 ↔ tc.cell.done = true)) := by
  have h := (goodE_execAll zero fuel cmds {} lg).ok ok_empty
  exact ⟨fun cc hcc => runs_of_cellOK (h.1 cc hcc), fun tc htc => runs_of_cellOK (h.2 tc htc)⟩

/-- a cell, once fired, is frozen: no later statement of the client program changes it -/
theorem evalp_fired_cell_frozen (zero : T) (fuel : Nat) (cmds : List (Cmd T)) (hp : Heap T) (lg : Log)
    (c : Nat) (cc : CallCell T) (hc : hp.calls[c]? = some cc) (hd : cc.cell.done = true) :
    (execAll zero fuel cmds hp lg).2.1.calls[c]? = some cc :=
  (goodE_execAll zero fuel cmds hp lg).calls.frozen hc hd

/-- `c := lazy.Call(f); c.Get(); …anything…; c.Get()`: the first `Get` IS the first execution of `f` (value or panic,
    its events); every later `Get` — after any further statements of the program — returns the memoised value,
    the ZERO value if `f` panicked, logs nothing and changes nothing. -/
theorem call_get_then_get (zero : T) (f : Nat → GoM T) (hp : Heap T) (lg : Log) (fuel : Nat) :
    ∃ e hp1, build zero (.call f) hp lg = (.ok e, hp1, lg)
      ∧ ∃ hp2, runLoop zero (fuel + 1) e hp1 lg = (((f 0).run.run lg).1, hp2, ((f 0).run.run lg).2)
      ∧ ∀ (between : List (Cmd T)) (fuel' fuel'' : Nat) (lg2 lg3 : Log),
          runLoop zero (fuel'' + 1) e (execAll zero fuel' between hp2 lg2).2.1 lg3
            = (.ok (memoOf zero ((f 0).run.run lg).1), (execAll zero fuel' between hp2 lg2).2.1, lg3) := by
  refine ⟨_, _, build_call zero f hp lg, ?_⟩
  obtain ⟨hp2, h2, hl⟩ := call_once zero fuel hp.calls.length f
    { hp with calls := hp.calls ++ [{ f := f, cell := Cell.fresh zero }] } lg List.getElem?_concat_length
  exact ⟨hp2, h2, fun between fuel' fuel'' lg2 lg3 => hl _ (goodE_execAll zero fuel' between hp2 lg2) fuel'' lg3⟩

/-- specialisation: the thunk panics — first `Get` panics, every later `Get` returns the zero value -/
theorem call_panics_get_then_get (zero : T) (f : Nat → GoM T) (hp : Heap T) (lg lg' : Log) (p : PanicVal) (fuel : Nat)
    (hf : (f 0).run.run lg = (.error p, lg')) :
    ∃ e hp1, build zero (.call f) hp lg = (.ok e, hp1, lg)
      ∧ ∃ hp2, runLoop zero (fuel + 1) e hp1 lg = (.error p, hp2, lg')
      ∧ ∀ (between : List (Cmd T)) (fuel' fuel'' : Nat) (lg2 lg3 : Log),
          runLoop zero (fuel'' + 1) e (execAll zero fuel' between hp2 lg2).2.1 lg3
            = (.ok zero, (execAll zero fuel' between hp2 lg2).2.1, lg3) := by
  obtain ⟨e, hp1, h1, hp2, h2, h3⟩ := call_get_then_get zero f hp lg fuel
  rw [hf] at h2 h3
  exact ⟨e, hp1, h1, hp2, h2, h3⟩

theorem evalp_fired_tail_frozen (zero : T) (fuel : Nat) (cmds : List (Cmd T)) (hp : Heap T) (lg : Log)
    (c : Nat) (tc : TailCell T) (hc : hp.tails[c]? = some tc) (hd : tc.cell.done = true) :
    (execAll zero fuel cmds hp lg).2.1.tails[c]? = some tc :=
  (goodE_execAll zero fuel cmds hp lg).tails.frozen hc hd

/-- `t := lazy.TailCall(f); t.Get(); …anything…; t.Get()` where `f` panics (after logging whatever it logs) instead of
    returning its Eval: the first `Get` panics with that panic; every later `Get` returns the ZERO value of `T`
    (the memo holds the zero `Eval[T]{}`), logs nothing, changes nothing: `f` is not started again. -/
theorem tailCall_panics_get_then_get (zero : T) (f : Nat → Prog T) (hp : Heap T) (lg : Log) (fuel : Nat) :
    ∃ e hp1, build zero (.tailCall f) hp lg = (.ok e, hp1, lg)
      ∧ ∀ (p : PanicVal) (hp1' : Heap T) (lg' : Log), build zero (f 0) hp1 lg = (.error p, hp1', lg') →
        ∃ hp2, runLoop zero (fuel + 1) e hp1 lg = (.error p, hp2, lg')
        ∧ ∀ (between : List (Cmd T)) (fuel' fuel'' : Nat) (lg2 lg3 : Log),
            runLoop zero (fuel'' + 2) e (execAll zero fuel' between hp2 lg2).2.1 lg3
              = (.ok zero, (execAll zero fuel' between hp2 lg2).2.1, lg3) := by
  refine ⟨_, _, build_tailCall zero f hp lg, ?_⟩
  intro p hp1' lg' hb
  obtain ⟨hp2, h2, hl⟩ := tail_once zero hp.tails.length
    { f := f, cell := Cell.fresh (.leaf .nil) }
    { hp with tails := hp.tails ++ [{ f := f, cell := Cell.fresh (.leaf .nil) }] } hp1' lg lg' (.error p)
    List.getElem?_concat_length rfl hb
  refine ⟨hp2, by rw [runLoop_tail, bind_apply, h2], ?_⟩
  intro between fuel' fuel'' lg2 lg3
  rw [runLoop_tail, bind_apply, hl _ (goodE_execAll zero fuel' between hp2 lg2) lg3]
  exact runLoop_zero zero fuel'' _ lg3

/-- … where `f` returns the Eval `e'`: the first `Get` continues with `e'`; every later `Get` continues with the SAME
    `e'` (the memo) without consulting `f` again — what `f` would do in a second execution is irrelevant. -/
theorem tailCall_returns_get_then_get (zero : T) (f : Nat → Prog T) (hp : Heap T) (lg : Log) (fuel : Nat) :
    ∃ e hp1, build zero (.tailCall f) hp lg = (.ok e, hp1, lg)
      ∧ ∀ (e' : EvalV T) (hp1' : Heap T) (lg' : Log), build zero (f 0) hp1 lg = (.ok e', hp1', lg') →
        ∃ hp2, runLoop zero (fuel + 1) e hp1 lg = runLoop zero fuel e' hp2 lg'
        ∧ ∀ (between : List (Cmd T)) (fuel' fuel'' : Nat) (lg2 lg3 : Log),
            runLoop zero (fuel'' + 1) e (execAll zero fuel' between hp2 lg2).2.1 lg3
              = runLoop zero fuel'' e' (execAll zero fuel' between hp2 lg2).2.1 lg3 := by
  refine ⟨_, _, build_tailCall zero f hp lg, ?_⟩
  intro e' hp1' lg' hb
  obtain ⟨hp2, h2, hl⟩ := tail_once zero hp.tails.length
    { f := f, cell := Cell.fresh (.leaf .nil) }
    { hp with tails := hp.tails ++ [{ f := f, cell := Cell.fresh (.leaf .nil) }] } hp1' lg lg' (.ok e')
    List.getElem?_concat_length rfl hb
  refine ⟨hp2, ?_, ?_⟩
  · rw [runLoop_tail, bind_apply, h2]
  · intro between fuel' fuel'' lg2 lg3
    rw [runLoop_tail, bind_apply, hl _ (goodE_execAll zero fuel' between hp2 lg2) lg3]
    rfl

-- non-vacuity, computed by the model ------------------------------------------------------------------------------

/-- logs `run<k>`, panics "boom" the first time, would return 42 the second time -/
def flaky : Nat → GoM Int := fun k => do
  emit s!"run{k}"
  if k = 0 then goPanic "boom" else pure 42

/-- `c := lazy.Call(flaky); c.Get(); c.Get()` -/
example : (execAll (0 : Int) 10 [.define (.call flaky), .get 0, .get 0] {} []).1
    = .ok [.ok none, .error "boom", .ok (some 0)] := by decide +kernel
example : (execAll (0 : Int) 10 [.define (.call flaky), .get 0, .get 0] {} []).2.2 = ["run0"] := by decide +kernel

/-- `t := lazy.TailCall(func() Eval { log; panic / return Done(42) }); t.Get(); t.Get()` -/
def flakyE : Nat → Prog Int := fun k => .logged [s!"run{k}"] (if k = 0 then .panic "boom" else .done 42)
example : (execAll (0 : Int) 10 [.define (.tailCall flakyE), .get 0, .get 0] {} []).1
    = .ok [.ok none, .error "boom", .ok (some 0)] := by decide +kernel
example : (execAll (0 : Int) 10 [.define (.tailCall flakyE), .get 0, .get 0] {} []).2.2 = ["run0"] := by decide +kernel

/-- `c.Map(f)` after the panic: `f` is applied to the zero value (`Call.Map#2 = 100` on the real code) -/
example : (execAll (0 : Int) 10 [.define (.map (.call flaky) (fun x => pure (x + 100))), .get 0, .get 0] {} []).1
    = .ok [.ok none, .error "boom", .ok (some 100)] := by decide +kernel

end Eval

-- ================================================================================== fp.MakeList cells
section Lists
open FpVerif.ListP
variable {T : Type}

/-- For EVERY client program over lists built with `fp.MakeList`, `list.GenerateFrom`, `list.Recurrence1`, `list.Apply`
    (statements: define, IsEmpty, Head, Tail, ToSeq; thunks that log, panic and change behaviour between executions):
    every head / tail thunk has been started at most once, exactly once iff its `Once` has fired. -/
theorem listp_run_once (fuel : Nat) (cmds : List (Cmd T)) (lg : Log) :
    (∀ hc ∈ (execAll fuel cmds {} lg).2.1.heads, hc.cell.runs ≤ 1 ∧ (hc.cell.runs = 1 ↔ hc.cell.done = true))
    ∧ (∀ tc ∈ (execAll fuel cmds {} lg).2.1.tails, tc.cell.runs ≤ 1 ∧ (tc.cell.runs = 1 ↔ tc.cell.done = true)) := by
  have h := (goodE_execAll fuel cmds {} lg).ok ok_empty
  exact ⟨fun hc hhc => runs_of_cellOK (h.1 hc hhc), fun tc htc => runs_of_cellOK (h.2 tc htc)⟩

theorem listp_fired_head_frozen (fuel : Nat) (cmds : List (Cmd T)) (hp : Heap T) (lg : Log)
    (c : Nat) (hc : HCell T) (h : hp.heads[c]? = some hc) (hd : hc.cell.done = true) :
    (execAll fuel cmds hp lg).2.1.heads[c]? = some hc :=
  (goodE_execAll fuel cmds hp lg).heads.frozen h hd

theorem listp_fired_tail_frozen (fuel : Nat) (cmds : List (Cmd T)) (hp : Heap T) (lg : Log)
    (c : Nat) (tc : TCell T) (h : hp.tails[c]? = some tc) (hd : tc.cell.done = true) :
    (execAll fuel cmds hp lg).2.1.tails[c]? = some tc :=
  (goodE_execAll fuel cmds hp lg).tails.frozen h hd

/-- `l := fp.MakeList(head, tl)` whose HEAD thunk panics: the first `l.Head()` (and likewise a first `l.IsEmpty()`)
    panics with the thunk's panic; from then on — after any further statements — `l.IsEmpty()` is `true` and
    `l.Head()` panics with "List.empty", nothing is logged, nothing changes: the head thunk is not started again. -/
theorem makeList_head_panics (head : Nat → GoM (Option T)) (tl : Nat → LProg T) (hp : Heap T) (lg lg' : Log)
    (p : PanicVal) (hf : (head 0).run.run lg = (.error p, lg')) :
    ∃ l hp1, build (.make head tl) hp lg = (.ok l, hp1, lg)
      ∧ ∃ hp2, ListP.head l hp1 lg = (.error p, hp2, lg') ∧ ListP.isEmpty l hp1 lg = (.error p, hp2, lg')
      ∧ ∀ (between : List (Cmd T)) (fuel' : Nat) (lg2 lg3 : Log),
          ListP.isEmpty l (execAll fuel' between hp2 lg2).2.1 lg3 = (.ok true, (execAll fuel' between hp2 lg2).2.1, lg3)
          ∧ ListP.head l (execAll fuel' between hp2 lg2).2.1 lg3
              = (.error listEmpty, (execAll fuel' between hp2 lg2).2.1, lg3) := by
  refine ⟨_, _, build_make head tl hp lg, ?_⟩
  obtain ⟨hp2, h2, hl⟩ := head_once hp.heads.length head
    { hp with heads := hp.heads ++ [{ f := head, cell := Cell.fresh none }],
              tails := hp.tails ++ [{ f := tl, cell := Cell.fresh .nilIface }] } lg List.getElem?_concat_length
  rw [hf] at h2 hl
  refine ⟨hp2, ?_, ?_, ?_⟩
  · simp only [ListP.head, bind_apply, h2]
  · simp only [ListP.isEmpty, bind_apply, h2]
  · intro between fuel' lg2 lg3
    have hl := hl _ (goodE_execAll fuel' between hp2 lg2) lg3
    constructor
    · simp only [ListP.isEmpty, bind_apply, hl]; rfl
    · simp only [ListP.head, bind_apply, hl]; rfl

/-- … whose head thunk returns `Some v` / `None`: every later `Head()` / `IsEmpty()` answers from the memo -/
theorem makeList_head_returns (head : Nat → GoM (Option T)) (tl : Nat → LProg T) (hp : Heap T) (lg lg' : Log)
    (o : Option T) (hf : (head 0).run.run lg = (.ok o, lg')) :
    ∃ l hp1, build (.make head tl) hp lg = (.ok l, hp1, lg)
      ∧ ∃ hp2, ListP.isEmpty l hp1 lg = (.ok o.isNone, hp2, lg')
      ∧ ∀ (between : List (Cmd T)) (fuel' : Nat) (lg2 lg3 : Log),
          ListP.isEmpty l (execAll fuel' between hp2 lg2).2.1 lg3
            = (.ok o.isNone, (execAll fuel' between hp2 lg2).2.1, lg3) := by
  refine ⟨_, _, build_make head tl hp lg, ?_⟩
  obtain ⟨hp2, h2, hl⟩ := head_once hp.heads.length head
    { hp with heads := hp.heads ++ [{ f := head, cell := Cell.fresh none }],
              tails := hp.tails ++ [{ f := tl, cell := Cell.fresh .nilIface }] } lg List.getElem?_concat_length
  rw [hf] at h2 hl
  refine ⟨hp2, ?_, ?_⟩
  · simp only [ListP.isEmpty, bind_apply, h2]; rfl
  · intro between fuel' lg2 lg3
    have hl := hl _ (goodE_execAll fuel' between hp2 lg2) lg3
    simp only [ListP.isEmpty, bind_apply, hl]; rfl

/-- `l := fp.MakeList(head, tl)` whose TAIL thunk panics: the first `l.Tail()` panics with the thunk's panic; from
    then on `l.Tail()` returns the NIL interface, logs nothing, changes nothing (and every method call on that nil
    value is a nil dereference): the tail thunk is not started again. -/
theorem makeList_tail_panics (head : Nat → GoM (Option T)) (tl : Nat → LProg T) (hp : Heap T) (lg : Log) :
    ∃ l hp1, build (.make head tl) hp lg = (.ok l, hp1, lg)
      ∧ ∀ (p : PanicVal) (hp1' : Heap T) (lg' : Log), build (tl 0) hp1 lg = (.error p, hp1', lg') →
        ∃ hp2, ListP.tail l hp1 lg = (.error p, hp2, lg')
        ∧ ∀ (between : List (Cmd T)) (fuel' : Nat) (lg2 lg3 : Log),
            ListP.tail l (execAll fuel' between hp2 lg2).2.1 lg3
              = (.ok .nilIface, (execAll fuel' between hp2 lg2).2.1, lg3) := by
  refine ⟨_, _, build_make head tl hp lg, ?_⟩
  intro p hp1' lg' hb
  obtain ⟨hp2, h2, tc', htc, hd, hr⟩ := tail_first hp.tails.length
    { f := tl, cell := Cell.fresh .nilIface }
    { hp with heads := hp.heads ++ [{ f := head, cell := Cell.fresh none }],
              tails := hp.tails ++ [{ f := tl, cell := Cell.fresh .nilIface }] } hp1' lg lg' (.error p)
    List.getElem?_concat_length rfl hb
  refine ⟨hp2, h2, ?_⟩
  intro between fuel' lg2 lg3
  have hl := tail_later hp.tails.length tc' htc hd (goodE_execAll fuel' between hp2 lg2) lg3
  rw [hr] at hl
  exact hl

/-- every method of the nil interface is a nil dereference -/
theorem nilIface_methods (hp : Heap T) (lg : Log) :
    ListP.isEmpty (.nilIface : LV T) hp lg = (.error nilDeref, hp, lg)
    ∧ ListP.head (.nilIface : LV T) hp lg = (.error nilDeref, hp, lg)
    ∧ ListP.tail (.nilIface : LV T) hp lg = (.error nilDeref, hp, lg) := ⟨rfl, rfl, rfl⟩

-- non-vacuity ---------------------------------------------------------------------------------------------------

def flakyHead : Nat → GoM (Option Int) := fun k => do
  emit s!"head{k}"
  if k = 0 then goPanic "boom" else pure (some 42)

/-- `l := MakeList(flakyHead, …); l.Head(); l.Head(); l.IsEmpty()` -/
example : (execAll 10 [.define (.make flakyHead (fun _ => .empty)), .head 0, .head 0, .isEmpty 0] {} []).2.2
    = ["head0"] := by decide +kernel

/-- a generated list `0, 10, 20` whose element 1 panics once: the second traversal silently stops before it -/
def gen3 : Int → Nat → GoM (Option Int) := fun i k =>
  if i = 1 ∧ k = 0 then goPanic "boom" else pure (if i < 3 then some (10 * i) else none)

example : (execAll 5 [.define (.generateFrom 0 gen3), .toSeq 0, .toSeq 0] ({} : Heap Int) []).1
    = .ok [.ok .unit, .error "boom", .ok (.seq [0])] := by decide +kernel

end Lists

end FpVerif.Spec.C16PanicEval
