import FpVerif.Gen.AtomFacts
import FpVerif.Model.Promise
import FpVerif.Lemmas.FactsAtom
import FpVerif.Lemmas.FactsCode
/-!
# C05 — regenerated facts: the atomic-step structure of `fp.Promise` is the one `Model/Promise.lean` steps through

`FpVerif/Gen/AtomFacts.lean` is regenerated from the working tree on every run by `harness/cmd/atomfacts`
(go/ast + go/types).  `Spec/C05.lean` proves the property for every interleaving of the ATOMIC BLOCKS of
`Model/Promise.stepT`; a block is "the code between two `verifhook.Yield` calls".  The theorems below are what ties
that block structure to the code:

* (a) `one_yield_per_access`   every shared-memory access of `future.go`, `internal/atomic/atomic.go`, `promise/*.go` is
                               immediately preceded by exactly one yield, on every path;
* (b) `well_hooked`            no path performs two non-commuting accesses without a yield between them;
* (c) `skeleton_*`             per function, the shape (sequence / branch / retry recursion / loop over the events) EQUALS the
                               skeleton written next to the model below;
* (d) `cell_accessors`, `cell_readers_writers`, `cell_reach`   the set of functions touching the cell is the expected one.

## Program counter of `Model/Promise.Local`  ↔  atomic block of the Go code

| pc constructor | yield label (`Local.point`) | block (events after the yield) | Go |
|---|---|---|---|
| `cGet r`        | "get"    | `load`; type switch            | `tryCompleteAndGetListeners`: `ap := r.status.Get()` |
| `cCas r ap c`   | "cas"    | `cas`; success → return, failure → RECURSE (→ `cGet`) | `r.status.CompareAndSwap(ap, v)` (both cases) |
| `cRun r s i cb` | "spawn"  | one user callback of the loop   | `Complete`: `for _, cf := range cbs { cf(result) }` (yield inside `cf`: executor's spawn hook) |
| `cRet r b`      | –        | finished                        | `return ret` |
| `rGet cb`       | "get"    | `load`; type switch             | `dispatchOrAddCallback`: `ap := r.status.Get()` |
| `rAppend cb ap s` | "append" | `append` (writes the backing array when it has spare capacity) | `append(status[...], cb)` |
| `rCas cb ap new` | "cas"   | `cas`; success → return, failure → RECURSE (→ `rGet`) | `r.status.CompareAndSwap(ap, …)` (both cases) |
| `rCall cb r`    | "spawn"  | the callback, directly          | `case Try[T]: cb(status)` |
| `rRet cb`       | –        | finished                        | |
| `oLoad1`        | "load"   | `load`                          | `IsCompleted`: `r.status.Load()` |
| `oLoad2`        | "load"   | `load`; not a result → panic    | `Value`: `r.status.Load()` |
| `oRet v`        | –        | finished                        | |

`Prog.start zero`: on the zero value (`status == nil`) every method returns before its first block — the leading
`br [seq [ret], seq []]` of `Complete`, `dispatchOrAddCallback`, `IsCompleted` (`Value`: panic).
-/
namespace FpVerif.Spec.C05Facts
open FpVerif.AtomShape FpVerif.Gen.Atom

/-! ### the wrappers of `internal/atomic` -/

/-- `Promise.status` is an `atomic.Reference`; the only type implementing it is `atomic.Value`, so an interface
    call resolves to these methods -/
theorem reference_single_impl : impls.lookup "atomic.Reference" = some ["atomic.Value"] := by decide +kernel

def wrapperNames : List (String × String) :=
  [("atomic.Reference.Get", "atomic.Value.Get"), ("atomic.Reference.Load", "atomic.Value.Load"),
   ("atomic.Reference.Store", "atomic.Value.Store"), ("atomic.Reference.CompareAndSwap", "atomic.Value.CompareAndSwap")]

/-- functions that do nothing but return: calls of them are dropped when inlining -/
def pureFns : List String :=
  (funcs.filter (fun f => f.events.all (fun e => e == .ret))).map (·.name)

def wrappers : Wrappers :=
  (wrapperNames ++ wrapperNames.map (fun p => (p.2, p.2))).filterMap
      (fun p => (straight (bodyOf funcs p.2)).map (fun evs => (p.1, evs.filter (fun e =>
        match e with
        | .call c => !pureFns.contains c
        | _ => true))))
    ++ pureFns.map (fun n => (n, []))

/-- (c) each wrapper is ONE block: its yield, then its single `sync/atomic` operation -/
theorem skeleton_wrappers :
    wrapperNames.map (fun p => bodyOf funcs p.2) =
      [seq [y "get", a .load, a .ret],
       seq [y "load", a .load, a (.call "atomic.ValuePtr.Value"), a .ret],
       seq [y "store", a .store],
       seq [y "cas", a .cas, a .ret]] := by decide +kernel

/-- `ValuePtr.Value` (dropped above) only reads the immutable box it is given -/
theorem valuePtr_pure : pureFns.contains "atomic.ValuePtr.Value" = true := by decide +kernel

/-! ### the functions of the Promise -/

def promiseFiles : List String := ["internal/atomic/atomic.go", "future.go", "promise/promise_op.go", "promise/future_op.go"]

def promiseFuncs : List AFunc := funcs.filter (fun f => promiseFiles.contains f.file)

def lockFree (m : Mode) : Disc := ⟨m, false⟩

/-- (a) immediately in front of every access: exactly one yield (checked on every path, wrappers inlined) -/
theorem one_yield_per_access : violations (lockFree .strict) wrappers promiseFuncs = [] := by decide +kernel

/-- (b) no two accesses without a yield between them on any path; nothing but the vocabulary of `Ev` occurs
    (`Ev.other` — a channel operation, `select`, `sync.WaitGroup`, a deferred call … — is a violation) -/
theorem well_hooked : violations (lockFree .mover) wrappers promiseFuncs = [] :=
  violations_mover false one_yield_per_access

/-- no mutex anywhere in these files: the cell is lock-free -/
theorem no_locks :
    promiseFuncs.all (fun f => f.events.all (fun e => e != .lock && e != .unlock && e != .deferUnlock)) = true := by decide +kernel

/-- non-vacuity: the functions are there, and the analysis does see accesses (and rejects an unhooked one) -/
theorem promise_funcs_nonempty : promiseFuncs.length ≥ 50 := by decide +kernel
example : check (lockFree .strict) (seq [y "get", a .load, a .load, a .ret]) ≠ none := by decide +kernel
example : check (lockFree .strict) (seq [a .load, a .ret]) ≠ none := by decide +kernel
example : check (lockFree .strict) (seq [y "a", y "b", a .load]) ≠ none := by decide +kernel
example : check (lockFree .mover) (seq [y "a", y "b", a .load]) = none := by decide +kernel
example : check (lockFree .mover) (seq [y "a", a .load, loop (seq [a .cas])]) ≠ none := by decide +kernel
example : check (lockFree .strict) (seq [y "a", a .load, loop (seq [y "b", a .cas])]) = none := by decide +kernel

/-! ### (c) skeletons -/

def inl (name : String) : Sq := inlineSq wrappers (bodyOf funcs name)

/-- `cGet` / `cCas`: load; in the cases `nil` and callback-slice one CAS whose failure RETRIES from the load
    (a recursive tail call, not a single attempt); case result: return; no other case -/
theorem skeleton_tryComplete :
    inl "fp.Promise.tryCompleteAndGetListeners" =
      seq [y "get", a .load,
           br [seq [y "cas", a .cas, br [seq [a .ret], seq []], a (.call "fp.Promise.tryCompleteAndGetListeners"), a .ret],
               seq [y "cas", a .cas, br [seq [a .ret], seq []], a (.call "fp.Promise.tryCompleteAndGetListeners"), a .ret],
               seq [a .ret],
               seq []],
           a .panic] := by decide +kernel

/-- `Prog.start`, then `cGet…`, then the `cRun` loop: the callbacks run AFTER the CAS, one per iteration -/
theorem skeleton_complete :
    inl "fp.Promise.Complete" =
      seq [br [seq [a .ret], seq []], a (.call "fp.Promise.tryCompleteAndGetListeners"), loop (seq [a .cb]), a .ret] := by decide +kernel

/-- `rGet`; nil: `rCas`; slice: `rAppend` then `rCas` (the append comes BEFORE the CAS and in its own block);
    result: `rCall`.  A failing CAS retries from the load. -/
theorem skeleton_dispatch :
    inl "fp.Promise.dispatchOrAddCallback" =
      seq [br [seq [a .ret], seq []],
           y "get", a .load,
           br [seq [y "cas", a .cas, br [seq [a .ret], seq []], a (.call "fp.Promise.dispatchOrAddCallback"), a .ret],
               seq [y "append", a .append, y "cas", a .cas, br [seq [a .ret], seq []],
                    a (.call "fp.Promise.dispatchOrAddCallback"), a .ret],
               seq [a .cb],
               seq []]] := by decide +kernel

/-- `oLoad1`: a single load -/
theorem skeleton_isCompleted :
    inl "fp.Promise.IsCompleted" =
      seq [br [seq [a .ret], seq []], y "load", a .load, br [seq [a .ret], seq []], a .ret] := by decide +kernel

/-- `oLoad2`: a single load, panic when it is not a result -/
theorem skeleton_value :
    inl "fp.Promise.Value" = seq [br [seq [a .panic], seq []], y "load", a .load, br [seq [a .ret], seq []], a .panic] ∧
    inl "fp.Future.Value" = seq [br [seq [a .panic], seq []], y "load", a .load, br [seq [a .ret], seq []], a .panic] := by decide +kernel

/-- `Prog.observe` = `Future.String()`: `IsCompleted()` and, if true, `Value()` -/
theorem skeleton_observe :
    inl "fp.Future.String" =
      seq [a (.call "fp.Promise.IsCompleted"), br [seq [a (.call "fp.Promise.Value"), a .ret], seq [a .ret]]] := by decide +kernel

/-- `Success` / `Failure` / `Future.IsCompleted` / `Future.OnComplete` are the core functions, nothing more -/
theorem skeleton_delegates :
    inl "fp.Promise.Success" = seq [a (.call "fp.Promise.Complete"), a .ret] ∧
    inl "fp.Promise.Failure" = seq [a (.call "fp.Promise.Complete"), a .ret] ∧
    inl "fp.Future.IsCompleted" = seq [a (.call "fp.Promise.IsCompleted"), a .ret] ∧
    inl "fp.Future.OnComplete" = seq [a (.call "fp.Promise.dispatchOrAddCallback")] := by decide +kernel

/-- the yield labels of the code are the yield points of the model (`Local.point`; "spawn" is the harness's
    spawn hook inside the executor) -/
theorem labels_are_model_points :
    (promiseFuncs.flatMap AFunc.labels).eraseDups = ["get", "load", "store", "cas", "append"] ∧
    [(Promise.Local.cGet (0 : Nat)).point, (Promise.Local.oLoad1 : Promise.Local Nat).point,
     (Promise.Local.cCas (0 : Nat) 0 .nil).point, (Promise.Local.rAppend (R := Nat) ⟨0, .all⟩ 0 ⟨0, 0, 0⟩).point,
     (Promise.Local.rGet (R := Nat) ⟨0, .all⟩).point, (Promise.Local.oLoad2 : Promise.Local Nat).point,
     (Promise.Local.rCas (R := Nat) ⟨0, .all⟩ 0 ⟨0, 0, 0⟩).point]
      = ["get", "load", "cas", "append", "get", "load", "cas"] := by decide +kernel

/-! ### (d) who touches the cell -/

/-- the functions performing a shared-memory operation THEMSELVES: the four wrappers, and the append -/
theorem cell_accessors :
    directTouchers promiseFuncs =
      ["atomic.Value.Get", "atomic.Value.Load", "atomic.Value.Store", "atomic.Value.CompareAndSwap",
       "fp.Promise.dispatchOrAddCallback"] ∧
    (promiseFuncs.filter (fun f => !f.labels.isEmpty)).map (·.name) =
      ["atomic.Value.Get", "atomic.Value.Load", "atomic.Value.Store", "atomic.Value.CompareAndSwap",
       "fp.Promise.dispatchOrAddCallback"] := by decide +kernel

def callersOfAny (cs : List String) : List String :=
  (funcs.filter (fun f => f.callees.any cs.contains)).map (·.name)

/-- who calls which wrapper.  Nobody calls `Store`: the cell changes by CAS only (the version counter of the model
    is renewed by successful CASes only). -/
theorem cell_readers_writers :
    callersOfAny ["atomic.Reference.Get", "atomic.Value.Get"] =
      ["fp.Promise.tryCompleteAndGetListeners", "fp.Promise.dispatchOrAddCallback"] ∧
    callersOfAny ["atomic.Reference.CompareAndSwap", "atomic.Value.CompareAndSwap"] =
      ["fp.Promise.tryCompleteAndGetListeners", "fp.Promise.dispatchOrAddCallback"] ∧
    callersOfAny ["atomic.Reference.Load", "atomic.Value.Load"] =
      ["fp.Promise.Value", "fp.Promise.IsCompleted", "fp.Future.Value"] ∧
    callersOfAny ["atomic.Reference.Store", "atomic.Value.Store"] = [] := by decide +kernel

/-- the functions of these files from which the cell can NOT be reached (everything else reaches it through the
    core functions above) -/
theorem cell_reach :
    (promiseFuncs.filter (fun f => !(reach promiseFuncs wrapperNames 8 (directTouchers promiseFuncs)).contains f.name)).map (·.name) =
      ["atomic.ValuePtr.Value", "atomic.New", "fp.RunnableFunc.Run", "fp.NewPromise", "fp.Promise.Future",
       "fp.Future.OnFailure$1", "fp.Future.OnSuccess$1", "fp.goExecutor.ExecuteUnsafe", "fp.getExecutor",
       "fp.Future.OnComplete$1", "fp.Future.OnComplete$1$1", "promise.New", "promise.WithTimeout"] ∧
    reach promiseFuncs wrapperNames 9 (directTouchers promiseFuncs) = reach promiseFuncs wrapperNames 8 (directTouchers promiseFuncs) := by
  -- every round compares every name with every member of the set; they are compared on the numeric codes of
  -- the names (`beq_byCode`), not on the strings
  rw [reach_eq_by, reach_eq_by, FactsCode.beq_byCode]
  decide +kernel

/-- (d) the cell FIELDS (`Promise.status`, the pointer inside `atomic.Value`) are selected by exactly these functions — in
    ANY file of the packages `fp` and `internal/atomic`, not only the analysed ones — and `future.go` is the only non-test
    file of the repository importing `internal/atomic`: an accessor added elsewhere is a failing obligation -/
theorem cell_field_users :
    cellFieldUsers.filter (fun u => u.1 == "fp.Promise.status" || u.1 == "atomic.Value.value") =
      [("atomic.Value.value", "internal/atomic/atomic.go", "atomic.Value.Get"),
       ("atomic.Value.value", "internal/atomic/atomic.go", "atomic.Value.Load"),
       ("atomic.Value.value", "internal/atomic/atomic.go", "atomic.Value.Store"),
       ("atomic.Value.value", "internal/atomic/atomic.go", "atomic.Value.CompareAndSwap"),
       ("fp.Promise.status", "future.go", "fp.Promise.Value"),
       ("fp.Promise.status", "future.go", "fp.Promise.IsCompleted"),
       ("fp.Promise.status", "future.go", "fp.Promise.Complete"),
       ("fp.Promise.status", "future.go", "fp.Promise.tryCompleteAndGetListeners"),
       ("fp.Promise.status", "future.go", "fp.Promise.dispatchOrAddCallback"),
       ("fp.Promise.status", "future.go", "fp.Future.Value")] ∧
    atomicImporters = ["future.go"] ∧
    (cellFieldUsers.map (·.1)).eraseDups =
      ["atomic.Value.value", "fp.Promise.status", "mutable.CopyOnWriteMap.lock", "mutable.CopyOnWriteMap.value"] := by decide +kernel

/-- no plain (non-atomic) access to a struct field that is assigned after construction, no captured variable written by a closure -/
theorem no_plain_shared_state :
    writtenFields = [] ∧
    promiseFuncs.all (fun f => f.events.all (fun e =>
      match e with
      | .rvar _ | .wvar _ | .fload _ | .fstore _ | .rmw | .onceDo _ | .other _ => false
      | _ => true)) = true := by decide +kernel

end FpVerif.Spec.C05Facts
