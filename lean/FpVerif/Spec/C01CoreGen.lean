import FpVerif.Gen.CoreGen
import FpVerif.Model.Arity
import FpVerif.Spec.C01Inst
import FpVerif.Spec.C02
import FpVerif.Spec.C17
import FpVerif.Spec.C17Ext
import FpVerif.Spec.C02Ext
import FpVerif.Lemmas.MonadInst
/-!
# C01 / C02 / C17 — the hand-written cores of Option / Try / Either / StateT, TRANSLATED from the source on every run

`FpVerif/Gen/CoreGen.lean` is produced by `harness/cmd/core2lean` (a Go-AST → Lean translator into the effect monad
`GoM`) from `try.go`, `option.go`, `either.go`, `state.go`, `try/try_op.go`, `option/option_op.go`,
`either/either_op.go`, `statet/statet_op.go` of the working tree: one Lean definition per Go function / method, same
structure (the `if`/`return` chains become `match`/`if`, every user callback is an `A → GoM B` bound in Go's evaluation
order, `defer`/`recover` is `tryCatch`, loops over an iterator are recursion over the elements it yields).

The theorems below — statements fixed here under version control — say, function by function, that the translated
definition IS the hand-written model (`Model/TryOpt.lean`, `TryOptExt.lean`, `StateT.lean`, `StateTExt.lean`) about
which `Spec/C01Inst`, `C02`, `C02Ext`, `C17`, `C17Ext`, `C01TExt` prove the properties.  Most proofs are `rfl` (the
kernel unfolds both sides), the rest a case split.  A change of ONE Go function (wrong operand, dropped branch,
swapped state, callback applied on the wrong side) changes its translated definition and exactly its theorem stops
checking; a function outside the translated fragment is a failing obligation of the extractor; a NEW exported
function makes the coverage theorem fail.

Representation (trusted, see `reports/core2lean-REPORT.md`): `fp.Try[T]{success, v, err}` is `Try T` (`.failure .nil` = the zero value),
`fp.Option[T]` is `Option T`, the interface `fp.Either` is the inductive `Either` and a method call on it dispatches on
the constructor (`left` / `right` structs), `fp.StateT[S,A]` is `S → GoM (Try A × S)`, `*T` is `Option T`,
`fp.Seq` / `fp.Iterator` are `List`, `error` is `Err`, a recovered panic value is its rendering.
`t.Failed().Get()` is the primitive `Try.failedGet`; `Try_Failed_Get_is_failedGet` ties the primitive to the
translated `Failed` and `Get`.
-/
namespace FpVerif.Spec.C01CoreGen
open FpVerif FpVerif.Gen.CoreGen

variable {A B C D R S T U V L X : Type}

-- ============================================================================================== try.go (type fp.Try)
theorem fp_Success_is_model (t : T) : fp.Success t = Try.success t := rfl
theorem fp_Failure_is_model (e : Err) : (fp.Failure e : Try T) = Try.failure e := rfl
theorem fp_Try_All_is_model (r : Try T) : fp.Try_All r = TryM.all r := rfl
theorem fp_Try_IsSuccess_is_model (r : Try T) : fp.Try_IsSuccess r = Try.isSuccess r := rfl
theorem fp_Try_IsFailure_is_model (r : Try T) : fp.Try_IsFailure r = !Try.isSuccess r := rfl
theorem fp_Try_Get_is_model : @fp.Try_Get T = TryM.get := rfl
/-- `Unapply` has no separate model: success gives `(v, nil)`, failure `(zero, the error)` (panicking on the zero value) -/
theorem fp_Try_Unapply_def (zero : T) (r : Try T) : fp.Try_Unapply zero r =
    (match r with
     | .success v => pure (v, Err.nil)
     | .failure e => do let e ← Try.failedGet (.failure e : Try T); pure (zero, e)) := rfl
theorem fp_Try_Map_is_model : @fp.Try_Map T = TryM.mMap := rfl
theorem fp_Try_MapError_is_model : @fp.Try_MapError T = TryM.mapError := rfl
theorem fp_Try_FlatMap_is_model : @fp.Try_FlatMap T = TryM.mFlatMap := rfl
theorem fp_Try_Foreach_is_model : @fp.Try_Foreach T = TryM.foreach := rfl
/-- `Failed()`: `Failure(ErrTryNotFailed)` on a success, `Failure(not initialised)` on the zero value, else `Success(err)` -/
theorem fp_Try_Failed_def (r : Try T) : fp.Try_Failed r =
    (match r with
     | .success _ => .failure .tryNotFailed
     | .failure e => if e = .nil then .failure .notInit else .success e) := rfl
/-- the primitive the translator uses for `t.Failed().Get()` IS the translated `Get` of the translated `Failed` -/
theorem Try_Failed_Get_is_failedGet (r : Try T) : fp.Try_Get (fp.Try_Failed r) = Try.failedGet r := by
  cases r with
  | success v => rfl
  | failure e => cases e <;> rfl
theorem fp_Try_OrElse_is_model : @fp.Try_OrElse T = TryM.orElse := rfl
theorem fp_Try_OrElseGet_is_model : @fp.Try_OrElseGet T = TryM.orElseGet := rfl
theorem fp_Try_OrZero_is_model : @fp.Try_OrZero T = TryM.orZero := rfl
theorem fp_Try_Or_is_model : @fp.Try_Or T = TryM.or := rfl
theorem fp_Try_OrTry_is_model : @fp.Try_OrTry T = TryM.orTry := rfl
theorem fp_Try_Recover_is_model : @fp.Try_Recover T = TryM.recover := rfl
theorem fp_Try_RecoverWith_is_model : @fp.Try_RecoverWith T = TryM.recoverWith := rfl
/-- the Go code evaluates `r.Failed().Get()` twice (once for `isDefinedAt`, once for `then`), the model once: the second
    evaluation cannot panic where the first did not -/
theorem fp_Try_RecoverCase_is_model (r : Try T) (p : Err → GoM Bool) (f : Err → GoM T) :
    fp.Try_RecoverCase r p f = TryM.recoverCase r p f := by
  cases r with
  | success v => rfl
  | failure e => exact Try.failedGet_bind_congr e _ _ fun he => by simp [he, fp.Success]
theorem fp_Try_RecoverCaseWith_is_model (r : Try T) (p : Err → GoM Bool) (f : Err → GoM (Try T)) :
    fp.Try_RecoverCaseWith r p f = TryM.recoverCaseWith r p f := by
  cases r with
  | success v => rfl
  | failure e => exact Try.failedGet_bind_congr e _ _ fun he => by simp [he]
theorem fp_Try_ToSeq_is_model : @fp.Try_ToSeq T = TryM.toSeq := rfl

-- ============================================================================================== option.go (type fp.Option)
theorem fp_Some_is_model (v : T) : fp.Some v = some v := rfl
theorem fp_None_is_model : (fp.None : Option T) = none := rfl
theorem fp_Option_All_is_model : @fp.Option_All T = OptM.all := rfl
theorem fp_Option_Foreach_is_model : @fp.Option_Foreach T = OptM.foreach := rfl
theorem fp_Option_IsDefined_is_model (r : Option T) : fp.Option_IsDefined r = r.isSome := rfl
theorem fp_Option_IsEmpty_is_model (r : Option T) : fp.Option_IsEmpty r = !r.isSome := rfl
theorem fp_Option_Get_is_model : @fp.Option_Get T = OptM.get := rfl
theorem fp_Option_Unapply_is_model : @fp.Option_Unapply T = OptM.unapply := rfl
theorem fp_Option_Filter_is_model : @fp.Option_Filter T = OptM.filter := rfl
theorem fp_Option_FilterNot_is_model (r : Option T) (p : T → GoM Bool) : fp.Option_FilterNot r p = OptM.filterNot r p := by
  cases r with
  | none => rfl
  | some v =>
    exact bind_congr fun c => by cases c <;> rfl
theorem fp_Option_Map_is_model : @fp.Option_Map T = OptM.mMap := rfl
theorem fp_Option_FlatMap_is_model : @fp.Option_FlatMap T = OptM.mFlatMap := rfl
theorem fp_Option_OrElse_is_model (r : Option T) (t : T) : fp.Option_OrElse r t = OptM.orElse r t := by cases r <;> rfl
theorem fp_Option_OrZero_is_model : @fp.Option_OrZero T = OptM.orZero := rfl
theorem fp_Option_OrElseGet_is_model : @fp.Option_OrElseGet T = OptM.orElseGet := rfl
theorem fp_Option_Or_is_model : @fp.Option_Or T = OptM.or := rfl
theorem fp_Option_OrOption_is_model : @fp.Option_OrOption T = OptM.orOption := rfl
theorem fp_Option_OrPtr_is_model (r v : Option T) : fp.Option_OrPtr r v = OptM.orPtr r v := by cases r <;> cases v <;> rfl
theorem fp_Option_Recover_is_model : @fp.Option_Recover T = OptM.recover := rfl
theorem fp_Option_ToSeq_def (r : Option T) : fp.Option_ToSeq r = r.toList := by cases r <;> rfl
theorem fp_Option_Ptr_is_model : @fp.Option_Ptr T = OptM.mPtr := rfl
theorem fp_Option_Exists_is_model : @fp.Option_Exists T = OptM.exists_ := rfl
theorem fp_Option_ForAll_is_model (r : Option T) (p : T → GoM Bool) : fp.Option_ForAll r p = OptM.forAll r p := by
  cases r <;> rfl

-- ============================================================================================== either.go (interface fp.Either, structs left / right)
theorem fp_Left_is_model (l : L) : (fp.Left l : Either L R) = .left l := rfl
theorem fp_Right_is_model (r : R) : (fp.Right r : Either L R) = .right r := rfl
theorem fp_left_IsLeft_def (v : L) : fp.left_IsLeft L R v = true := rfl
theorem fp_left_IsRight_def (v : L) : fp.left_IsRight L R v = false := rfl
theorem fp_left_Left_def (v : L) : fp.left_Left L R v = v := rfl
theorem fp_left_Get_def (v : L) : fp.left_Get L R v = throw "Either.left" := rfl
theorem fp_left_Recover_def (v : L) (f : Unit → GoM R) :
    fp.left_Recover L R v f = (do let r ← f (); pure (.right r)) := rfl
theorem fp_right_IsLeft_def (v : R) : fp.right_IsLeft L R v = false := rfl
theorem fp_right_IsRight_def (v : R) : fp.right_IsRight L R v = true := rfl
theorem fp_right_Left_def (v : R) : fp.right_Left L R v = throw "Either.right" := rfl
theorem fp_right_Get_def (v : R) : fp.right_Get L R v = v := rfl
theorem fp_right_Recover_def (v : R) (f : Unit → GoM R) : fp.right_Recover L R v f = (.right v : Either L R) := rfl
/-- the guards the translator reads as a `match` on the constructor ARE the translated methods -/
theorem fp_Either_IsLeft_def (e : Either L R) : fp.Either_IsLeft e = (match e with | .left _ => true | .right _ => false) := by cases e <;> rfl
theorem fp_Either_IsRight_def (e : Either L R) : fp.Either_IsRight e = (match e with | .left _ => false | .right _ => true) := by cases e <;> rfl
theorem fp_Either_Get_is_model (e : Either L R) : fp.Either_Get e = EitM.get e := by cases e <;> rfl
theorem fp_Either_Left_is_model (e : Either L R) : fp.Either_Left e = EitM.getLeft e := by cases e <;> rfl
theorem fp_Either_Recover_is_model (e : Either L R) (f : Unit → GoM R) : fp.Either_Recover e f = EitM.recover e f := by
  cases e <;> rfl

-- ============================================================================================== state.go (type fp.StateT)
theorem fp_StateT_Run_def (r : StM.StT S A) (s : S) : fp.StateT_Run r s = r s := rfl
theorem fp_StateT_Exec_is_model : @fp.StateT_Exec S A = StM.exec := rfl
theorem fp_StateT_Eval_is_model : @fp.StateT_Eval S A = StM.eval := rfl
theorem fp_StateT_Recover_is_model : @fp.StateT_Recover S A = StM.recover := by
  funext r f s; exact StM.bind_outcome_congr _ (fun _ _ => rfl) (fun _ _ => rfl)
theorem fp_StateT_RecoverT_is_model : @fp.StateT_RecoverT S A = StM.recoverT := by
  funext r f s; exact StM.bind_outcome_congr _ (fun _ _ => rfl) (fun _ _ => rfl)
theorem fp_StateT_RecoverWithState_is_model : @fp.StateT_RecoverWithState S A = StM.recoverWithState := by
  funext r f s; exact StM.bind_outcome_congr _ (fun _ _ => rfl) (fun _ _ => rfl)
theorem fp_StateT_RecoverWithStateT_is_model : @fp.StateT_RecoverWithStateT S A = StM.recoverWithStateT := by
  funext r f s; exact StM.bind_outcome_congr _ (fun _ _ => rfl) (fun _ _ => rfl)
theorem fp_StateT_RecoverWith_is_model : @fp.StateT_RecoverWith S A = StM.recoverWith := by
  funext r f s; exact StM.bind_outcome_congr _ (fun _ _ => rfl) (fun _ _ => by simp [fp.StateT_Run])

/-- as for `Try.RecoverCase`: the Go code evaluates `at.Failed().Get()` twice, the model once -/
theorem fp_StateT_RecoverCase_is_model : @fp.StateT_RecoverCase S A = StM.recoverCase := by
  funext r p f s
  exact StM.bind_outcome_congr _ (fun _ _ => rfl) fun e _ =>
    Try.failedGet_bind_congr e _ _ fun he => by simp [he, fp.Success]
theorem fp_StateT_RecoverCaseT_is_model : @fp.StateT_RecoverCaseT S A = StM.recoverCaseT := by
  funext r p f s
  exact StM.bind_outcome_congr _ (fun _ _ => rfl) fun e _ =>
    Try.failedGet_bind_congr e _ _ fun he => by simp [he]
theorem fp_StateT_RecoverCaseWith_is_model : @fp.StateT_RecoverCaseWith S A = StM.recoverCaseWith := by
  funext r p f s
  exact StM.bind_outcome_congr _ (fun _ _ => rfl) fun e _ =>
    Try.failedGet_bind_congr e _ _ fun he => by simp [he]

-- ============================================================================================== try/try_op.go
theorem try_Pure_is_model (t : T) : try_.Pure t = Try.success t := rfl
theorem try_Success_is_model (t : T) : try_.Success t = Try.success t := rfl
theorem try_Failure_is_model (e : Err) : (try_.Failure e : Try T) = Try.failure e := rfl
/-- the unit of the `MonadOps` instance the C01 laws are proved about is the translated `Pure` -/
theorem try_ops_pure_is_Pure (a : A) : TryM.ops.pure' a = pure (try_.Pure a) := rfl
theorem try_FromOption_is_model : @try_.FromOption T = TryM.fromOption := rfl
theorem try_FromPtr_is_model : @try_.FromPtr T = Arity.fromPtr := rfl
theorem try_Of_is_model : @try_.Of T = TryM.of := rfl
theorem try_Call_is_model : @try_.Call T = TryM.call := rfl
theorem try_CallUnit_is_model : try_.CallUnit = TryM.callUnit := rfl
theorem try_Apply_is_model (v : T) (e : Err) : try_.Apply v e = TryM.apply v e := by
  unfold try_.Apply TryM.apply; split <;> rfl
theorem try_ComposeOption_is_model : @try_.ComposeOption A B C = TryM.composeOption := rfl
/-- `ComposePure(fab) = fp.Compose(fab, Success)` -/
theorem try_ComposePure_def (fab : A → GoM B) :
    try_.ComposePure fab = (fun a => do let b ← fab a; pure (.success b)) := rfl
/-- the hand-written `try.Map` is the family's `Map` (`FlatMap(opt, Compose2(f, Pure))`) -/
theorem try_Map_is_model (opt : Try T) (f : T → GoM U) : try_.Map opt f = MonadFamily.map TryM.ops (pure opt) f := rfl
theorem try_FlatMap_is_model : @try_.FlatMap A B = TryM.flatMap := rfl
/-- the `flatMap` of the `MonadOps` instance is the translated `FlatMap` after running the operand -/
theorem try_ops_flatMap_is_FlatMap (m : GoM (Try A)) (k : A → GoM (Try B)) :
    TryM.ops.flatMap m k = (do let t ← m; try_.FlatMap t k) := rfl
theorem try_Fold_is_model (ta : Try A) (z : B) (f : B → A → GoM B) : try_.Fold ta z f = TryM.fold ta z f := by
  cases ta <;> rfl
theorem try_FoldRight_is_model (ta : Try A) (z : B) (f : A → EvalM.Eval B → GoM (EvalM.Eval B)) :
    try_.FoldRight ta z f = TryM.foldRight ta z f := by cases ta <;> rfl
theorem try_ToSeq_is_model : @try_.ToSeq A = TryM.toSeq := rfl
/-- `try.Iterator(ta) = fp.IteratorOfSeq(ToSeq(ta))`: an iterator is the list it yields -/
theorem try_Iterator_def (ta : Try A) : try_.Iterator ta = TryM.toSeq ta := rfl
theorem try_FoldM_loop_is_model (z0 : B) (f : B → A → GoM (Try B)) (xs : List A) (z : B) :
    try_.FoldM_loop z0 f xs z = TryM.foldM xs z f := by
  induction xs generalizing z with
  | nil => rfl
  | cons x xs ih =>
    refine bind_congr fun t => ?_
    cases t with
    | success v => exact ih v
    | failure e => rfl
theorem try_FoldM_is_model (xs : List A) (z : B) (f : B → A → GoM (Try B)) : try_.FoldM xs z f = TryM.foldM xs z f :=
  try_FoldM_loop_is_model z f xs z

-- ============================================================================================== option/option_op.go
/-- `option.Some(v) = fp.None().Recover(func() T { return v })` … -/
theorem option_Some_is_model : @option.Some T = OptM.some' := rfl
/-- … which is `Some(v)` without effects -/
theorem option_Some_pure (v : T) : option.Some v = pure (some v) := rfl
theorem option_Pure_is_model (v : T) : option.Pure v = pure (some v) := rfl
theorem option_ops_pure_is_Pure (a : A) : OptM.ops.pure' a = option.Pure a := rfl
theorem option_None_is_model : (option.None : Option T) = none := rfl
theorem option_ConstNone_is_model : @option.ConstNone A B = OptM.constNone := rfl
theorem option_Ptr_is_model (v : Option T) : option.Ptr v = pure (OptM.ptr v) := by cases v <;> rfl
theorem option_FromTry_is_model (t : Try T) : option.FromTry t = pure (OptM.fromTry t) := by cases t <;> rfl
theorem option_ComposePure_is_model (fab : A → GoM B) : option.ComposePure fab = OptM.composePure fab := by
  funext a; rfl
theorem option_FlatMap_is_model : @option.FlatMap T U = OptM.flatMap := rfl
theorem option_ops_flatMap_is_FlatMap (m : GoM (Option A)) (k : A → GoM (Option B)) :
    OptM.ops.flatMap m k = (do let t ← m; option.FlatMap t k) := rfl
theorem option_FlatPtr_is_model (opt : Option (Option T)) : option.FlatPtr opt = OptM.flatPtr opt := by
  cases opt with
  | none => rfl
  | some v => cases v <;> rfl
theorem option_Fold_is_model (s : Option A) (z : B) (f : B → A → GoM B) : option.Fold s z f = OptM.fold s z f := by
  cases s <;> rfl
theorem option_FoldRight_is_model (s : Option A) (z : B) (f : A → EvalM.Eval B → GoM (EvalM.Eval B)) :
    option.FoldRight s z f = OptM.foldRight s z f := by cases s <;> rfl
theorem option_FoldM_loop_is_model (z0 : B) (f : B → A → GoM (Option B)) (xs : List A) (z : B) :
    option.FoldM_loop z0 f xs z = OptM.foldM xs z f := by
  induction xs generalizing z with
  | nil => rfl
  | cons x xs ih =>
    refine bind_congr fun t => ?_
    cases t with
    | some v => exact ih v
    | none => rfl
theorem option_FoldM_is_model (xs : List A) (z : B) (f : B → A → GoM (Option B)) : option.FoldM xs z f = OptM.foldM xs z f :=
  option_FoldM_loop_is_model z f xs z
theorem option_ToSeq_def (r : Option T) : option.ToSeq r = r.toList := by cases r <;> rfl
theorem option_Iterator_def (r : Option T) : option.Iterator r = r.toList := by cases r <;> rfl

-- ============================================================================================== either/either_op.go
theorem either_Left_is_model (l : L) : (either.Left l : Either L R) = .left l := rfl
theorem either_NotRight_is_model (l : L) : (either.NotRight l : Either L R) = EitM.notRight l := rfl
theorem either_Right_is_model (r : R) : (either.Right r : Either L R) = .right r := rfl
theorem either_Pure_is_model (r : R) : (either.Pure r : Either L R) = .right r := rfl
theorem either_ops_pure_is_Pure (a : A) : (EitM.ops L).pure' a = pure (either.Pure a) := rfl
theorem either_Swap_is_model (e : Either L R) : either.Swap e = EitM.swap e := by cases e <;> rfl
theorem either_FlatMap_is_model (e : Either L A) (fn : A → GoM (Either L B)) : either.FlatMap e fn = EitM.flatMap e fn := by
  cases e <;> rfl
theorem either_ops_flatMap_is_FlatMap (m : GoM (Either L A)) (k : A → GoM (Either L B)) :
    (EitM.ops L).flatMap m k = (do let t ← m; either.FlatMap t k) := by
  exact bind_congr fun t => (either_FlatMap_is_model t k).symm
theorem either_Fold_is_model : @either.Fold L R V = EitM.fold := rfl
theorem either_Foreach_is_model (e : Either L R) (f : R → GoM Unit) : either.Foreach e f = EitM.foreach e f := by
  cases e <;> rfl
theorem either_OrElse_is_model (e : Either L R) (t : R) : either.OrElse e t = EitM.orElse e t := by cases e <;> rfl
theorem either_OrElseGet_is_model (e : Either L R) (f : Unit → GoM R) : either.OrElseGet e f = EitM.orElseGet e f := by
  cases e <;> rfl
theorem either_Exists_is_model (e : Either L R) (p : R → GoM Bool) : either.Exists e p = EitM.exists_ e p := by
  cases e <;> rfl
theorem either_ForAll_is_model (e : Either L R) (p : R → GoM Bool) : either.ForAll e p = EitM.forAll e p := by
  cases e <;> rfl
theorem either_FoldM_loop_is_model (z0 : B) (f : B → A → GoM (Either L B)) (xs : List A) (z : B) :
    either.FoldM_loop z0 f xs z = EitM.foldM xs z f := by
  induction xs generalizing z with
  | nil => rfl
  | cons x xs ih =>
    refine bind_congr fun t => ?_
    cases t with
    | right v => exact ih v
    | left l => rfl
theorem either_FoldM_is_model (xs : List A) (z : B) (f : B → A → GoM (Either L B)) : either.FoldM xs z f = EitM.foldM xs z f :=
  either_FoldM_loop_is_model z f xs z

-- ============================================================================================== statet/statet_op.go
theorem statet_Run_is_model : @statet.Run S A = StM.run := rfl
theorem statet_Merge_is_model : @statet.Merge S A = StM.merge := rfl
theorem statet_Put_is_model : @statet.Put S = StM.put := rfl
/-- `PutWith(withf)` returns a Go closure: calling it (no effects) gives the model's state function -/
theorem statet_PutWith_is_model (withf : S → V → GoM S) (v : V) : statet.PutWith withf v = pure (StM.putWith withf v) := rfl
theorem statet_Get_is_model : @statet.Get S = StM.get := rfl
theorem statet_Modify_is_model : @statet.Modify S = StM.modify := rfl
theorem statet_ModifyS_is_model : @statet.ModifyS S A = StM.modifyS := rfl
theorem statet_ModifyT_is_model : @statet.ModifyT S = StM.modifyT := rfl
theorem statet_GetS_is_model : @statet.GetS S A = StM.getS := rfl
theorem statet_GetST_is_model : @statet.GetST S A = StM.getST := rfl
theorem statet_Pure_is_model : @statet.Pure S A = StM.pure := rfl
theorem statet_FromTry_is_model : @statet.FromTry S A = StM.fromTry := rfl
theorem statet_FlatMap_is_model : @statet.FlatMap S A B = StM.flatMap := rfl
theorem statet_FlatMapConst_is_model : @statet.FlatMapConst S A B = StM.flatMapConst := rfl
theorem statet_WithState_is_model : @statet.WithState S A = StM.withState := rfl
theorem statet_ApTry_is_model : @statet.ApTry S A B = StM.apTry := rfl
theorem statet_ApOption_is_model : @statet.ApOption S A B = StM.apOption := rfl
theorem statet_Transform_is_model : @statet.Transform S A B = StM.transform := rfl
theorem statet_TransformWith_is_model : @statet.TransformWith S A B = StM.transformWith := by
  funext st f s; simp [statet.TransformWith, StM.transformWith, fp.StateT_Run]
theorem statet_PeekState_is_model : @statet.PeekState S A = StM.peekState := rfl
/-- `MapT(st, f)` is written with `try.FlatMap`, the model spells the match out -/
theorem statet_MapT_is_model : @statet.MapT S A B = StM.mapT := by
  funext st f s
  exact StM.bind_outcome_congr _ (fun _ _ => rfl) fun e _ => by
    simp only [try_.FlatMap, try_.Failure, fp.Failure, bind_assoc, pure_bind]
/-- `MapWithState(st, f)` is written with the generated `try.Map2(try.Success(ns), a, f)`, the model spells the match out -/
theorem statet_MapWithState_is_model : @statet.MapWithState S A B = StM.mapWithState := by
  funext st f s
  refine bind_congr fun (t, ns) => ?_
  simp only [MonadFamily.map2, try_.Success, fp.Success, TryM.ops_flatMap_pure, TryM.flatMap_success, TryM.map_pure]
  cases t with
  | success v => simp only [TryM.flatMap_success, bind_assoc, pure_bind]
  | failure e => simp only [TryM.flatMap_failure_eq, bind_assoc, pure_bind]
/-- `MapWithStateT(st, f)` is written with the generated `try.LiftM2(f)(try.Success(ns), a)` -/
theorem statet_MapWithStateT_is_model : @statet.MapWithStateT S A B = StM.mapWithStateT := by
  funext st f s
  refine bind_congr fun (t, ns) => ?_
  simp only [MonadFamily.liftM2, MonadFamily.flatten, try_.Success, fp.Success, TryM.ops_flatMap_pure,
    TryM.flatMap_success]
  cases t with
  | success v => rfl
  | failure e =>
    simp only [TryM.ops, TryM.flatMap_failure_eq, bind_assoc, pure_bind, Try.failedGet_bind_failedGet]
theorem statet_FoldM_loop_is_model (z0 : B) (f : B → A → GoM (StM.StT S B)) (xs : List A) (acc : StM.StT S B) :
    statet.FoldM_loop z0 f xs acc = xs.foldl (fun sum na => StM.flatMap sum (fun b => f b na)) acc := by
  induction xs generalizing acc with
  | nil => rfl
  | cons x xs ih => simp only [statet.FoldM_loop, List.foldl_cons]; exact ih _
theorem statet_FoldM_is_model (xs : List A) (z : B) (f : B → A → GoM (StM.StT S B)) : statet.FoldM xs z f = StM.foldM xs z f :=
  statet_FoldM_loop_is_model z f xs _
theorem statet_Concat_loop_is_model (st0 : StM.StT S A) (tail : List (StM.StT S A)) (acc : StM.StT S A) :
    statet.Concat_loop st0 tail acc = tail.foldl (fun ret v => StM.flatMapConst ret v) acc := by
  induction tail generalizing acc with
  | nil => rfl
  | cons x xs ih => simp only [statet.Concat_loop, List.foldl_cons]; exact ih _
theorem statet_Concat_is_model (st : StM.StT S A) (tail : List (StM.StT S A)) : statet.Concat st tail = StM.concat st tail :=
  statet_Concat_loop_is_model st tail st

-- ============================================================================================== coverage
/-- the functions the theorems above speak about (one `_is_model` / `_def` theorem each; the dispatch functions `fp.Either_*` included) -/
def translatedFns : List String := [
  "either.Exists", "either.FlatMap", "either.Fold", "either.FoldM", "either.ForAll", "either.Foreach",
   "either.Left", "either.NotRight", "either.OrElse", "either.OrElseGet", "either.Pure", "either.Right",
   "either.Swap", "fp.Either_Get", "fp.Either_IsLeft", "fp.Either_IsRight", "fp.Either_Left", "fp.Either_Recover",
   "fp.Failure", "fp.Left", "fp.None", "fp.Option_All", "fp.Option_Exists", "fp.Option_Filter",
   "fp.Option_FilterNot", "fp.Option_FlatMap", "fp.Option_ForAll", "fp.Option_Foreach", "fp.Option_Get",
   "fp.Option_IsDefined", "fp.Option_IsEmpty", "fp.Option_Map", "fp.Option_Or", "fp.Option_OrElse",
   "fp.Option_OrElseGet", "fp.Option_OrOption", "fp.Option_OrPtr", "fp.Option_OrZero", "fp.Option_Ptr",
   "fp.Option_Recover", "fp.Option_ToSeq", "fp.Option_Unapply", "fp.Right", "fp.Some", "fp.StateT_Eval",
   "fp.StateT_Exec", "fp.StateT_Recover", "fp.StateT_RecoverCase", "fp.StateT_RecoverCaseT",
   "fp.StateT_RecoverCaseWith", "fp.StateT_RecoverT", "fp.StateT_RecoverWith", "fp.StateT_RecoverWithState",
   "fp.StateT_RecoverWithStateT", "fp.StateT_Run", "fp.Success", "fp.Try_All", "fp.Try_Failed", "fp.Try_FlatMap",
   "fp.Try_Foreach", "fp.Try_Get", "fp.Try_IsFailure", "fp.Try_IsSuccess", "fp.Try_Map", "fp.Try_MapError",
   "fp.Try_Or", "fp.Try_OrElse", "fp.Try_OrElseGet", "fp.Try_OrTry", "fp.Try_OrZero", "fp.Try_Recover",
   "fp.Try_RecoverCase", "fp.Try_RecoverCaseWith", "fp.Try_RecoverWith", "fp.Try_ToSeq", "fp.Try_Unapply",
   "fp.left_Get", "fp.left_IsLeft", "fp.left_IsRight", "fp.left_Left", "fp.left_Recover", "fp.right_Get",
   "fp.right_IsLeft", "fp.right_IsRight", "fp.right_Left", "fp.right_Recover", "option.ComposePure",
   "option.ConstNone", "option.FlatMap", "option.FlatPtr", "option.Fold", "option.FoldM", "option.FoldRight",
   "option.FromTry", "option.Iterator", "option.None", "option.Ptr", "option.Pure", "option.Some", "option.ToSeq",
   "statet.ApOption", "statet.ApTry", "statet.Concat", "statet.FlatMap", "statet.FlatMapConst", "statet.FoldM",
   "statet.FromTry", "statet.Get", "statet.GetS", "statet.GetST", "statet.MapT", "statet.MapWithState",
   "statet.MapWithStateT", "statet.Merge", "statet.Modify", "statet.ModifyS", "statet.ModifyT", "statet.PeekState",
   "statet.Pure", "statet.Put", "statet.PutWith", "statet.Run", "statet.Transform", "statet.TransformWith",
   "statet.WithState", "try.Apply", "try.Call", "try.CallUnit", "try.ComposeOption", "try.ComposePure",
   "try.Failure", "try.FlatMap", "try.Fold", "try.FoldM", "try.FoldRight", "try.FromOption", "try.FromPtr",
   "try.Iterator", "try.Map", "try.Of", "try.Pure", "try.Success", "try.ToSeq"]

/-- THE EXCEPTION LIST: hand-written functions of the eight files that are NOT translated; they stay tied to their models by
    the differential harnesses only (cmd/transx, cmd/tryopt).  Reasons (the same table is in harness/cmd/core2lean/lists.go):
    * `fp.Try_String`, `fp.Option_String` — `fmt.Sprintf` rendering, not part of C01 / C02 / C17;
    * `try.PtrpanicError_Error/_Stack/_Panic` — the internal representation of a recovered panic (`Err.panicErr p` in the
      model exposes `p` by construction; the stack trace is not modelled);
    * `option.Of` — reflection (`reflect.ValueOf`, `Kind`): parameter predicates in `Model/TryOptExt.lean`;
    * `option.NonZero`, `option.String` (= `NonZero`) — `==` on a comparable type parameter against `fp.Zero`;
    * `option.NonEmptySlice` — nil-ness of a slice type parameter;
    * `option.Deref` — defined through the generated `option.Map` and the method value `T.Deref`;
    * `try.TraverseOption` — defined through the generated `try.Traverse` and the method value `fp.Iterator.NextOption`;
    * `try.Traverse_` — defined through `iterator.FoldError` (package iterator: the C12 machinery). -/
def exceptionsFns : List String := [
  "fp.Option_String", "fp.Try_String", "option.Deref", "option.NonEmptySlice", "option.NonZero", "option.Of",
   "option.String", "try.PtrpanicError_Error", "try.PtrpanicError_Panic", "try.PtrpanicError_Stack",
   "try.TraverseOption", "try.Traverse_"]

/-- functions of the eight files that belong to another tie (C14 arity families, C15 JSON) -/
def otherTiesFns : List String := [
  "fp.Option_MarshalJSON", "fp.PtrOption_UnmarshalJSON", "fp.left_MarshalJSON", "fp.right_MarshalJSON",
   "option.Applicative1", "option.ApplicativeFunctor1_Ap", "option.ApplicativeFunctor1_ApFunc",
   "option.ApplicativeFunctor1_ApOption", "option.ApplicativeFunctor1_ApOptionFunc", "option.Chain1",
   "option.MonadChain1_Ap", "option.MonadChain1_ApFunc", "option.MonadChain1_ApOption",
   "option.MonadChain1_ApOptionFunc", "option.MonadChain1_FlatMap", "option.MonadChain1_HListFlatMap",
   "option.MonadChain1_HListMap", "option.MonadChain1_Map", "option.Pure0", "option.Pure1", "try.Applicative1",
   "try.ApplicativeFunctor1_Ap", "try.ApplicativeFunctor1_ApFunc", "try.ApplicativeFunctor1_ApOption",
   "try.ApplicativeFunctor1_ApOptionFunc", "try.ApplicativeFunctor1_ApTry", "try.ApplicativeFunctor1_ApTryFunc",
   "try.Chain1", "try.Func0", "try.MonadChain1_Ap", "try.MonadChain1_ApFunc", "try.MonadChain1_ApOption",
   "try.MonadChain1_ApOptionFunc", "try.MonadChain1_ApTry", "try.MonadChain1_ApTryFunc", "try.MonadChain1_FlatMap",
   "try.MonadChain1_HListFlatMap", "try.MonadChain1_HListMap", "try.MonadChain1_Map", "try.Pure0", "try.Unit0"]

/-- nothing found in the eight files is outside the translated fragment without being listed -/
theorem nothing_untranslatable : Gen.CoreGen.untranslatable = [] := rfl
/-- the translator translated exactly the functions the theorems above speak about … -/
theorem translated_as_committed : Gen.CoreGen.translated = translatedFns := rfl
/-- … skipped exactly the listed exceptions … -/
theorem exceptions_as_committed : Gen.CoreGen.exceptions = exceptionsFns := rfl
/-- … and left exactly the listed functions to the other ties -/
theorem otherTies_as_committed : Gen.CoreGen.otherTies = otherTiesFns := rfl
/-- COVERAGE: the exported functions / methods with a body found in the eight files are EXACTLY the translated ones (each
    tied to its model above), the listed exceptions and the functions of the other ties — nothing else.  A new function
    without a model (or one that left the fragment) makes this fail. -/
theorem coverage : Gen.CoreGen.found = translatedFns ++ exceptionsFns ++ otherTiesFns := by rfl

-- ============================================================================================== what the ties buy
/-! The `MonadOps` instances built FROM THE TRANSLATED `Pure` / `FlatMap` are the instances the C01 laws (and through
    `Spec/C01.lean` every equation about the generated families) are proved for. -/

/-- the operations of package `try` as found in the source -/
def tryOps : MonadOps (fun X => GoM (Try X)) where
  pure' a := pure (try_.Pure a)
  seq g k := g >>= k
  flatMap m k := m >>= fun t => try_.FlatMap t k
def optionOps : MonadOps (fun X => GoM (Option X)) where
  pure' a := option.Pure a
  seq g k := g >>= k
  flatMap m k := m >>= fun t => option.FlatMap t k
def eitherOps (L : Type) : MonadOps (fun X => GoM (Either L X)) where
  pure' a := pure (either.Pure a)
  seq g k := g >>= k
  flatMap m k := m >>= fun t => either.FlatMap t k
def statetOps (S : Type) : MonadOps (StM.StT S) where
  pure' a := statet.Pure a
  seq g k := fun s => do let a ← g; k a s
  flatMap m k := statet.FlatMap m (fun a => Pure.pure (k a))

theorem tryOps_is_model : tryOps = TryM.ops := rfl
theorem optionOps_is_model : optionOps = OptM.ops := rfl
theorem eitherOps_is_model : eitherOps L = EitM.ops L := by
  unfold eitherOps EitM.ops
  congr; funext α β m k; congr 1; funext t; exact either_FlatMap_is_model t k
theorem statetOps_is_model : statetOps S = StM.ops S := rfl

-- C01: the monad laws, for the translated code ---------------------------------------------------------------------
theorem tryOps_lawful : tryOps.Lawful := tryOps_is_model ▸ Spec.C01.try_lawful
theorem optionOps_lawful : optionOps.Lawful := optionOps_is_model ▸ Spec.C01.option_lawful
theorem eitherOps_lawful : (eitherOps L).Lawful := eitherOps_is_model (L := L) ▸ Spec.C01.either_lawful
theorem statetOps_lawful : (statetOps S).Lawful := statetOps_is_model (S := S) ▸ Spec.C01.statet_lawful

/-- left identity of the translated `try.FlatMap` / `try.Pure` -/
theorem try_left_id (a : A) (k : A → GoM (Try B)) : try_.FlatMap (try_.Pure a) k = k a := rfl
/-- associativity of the translated `try.FlatMap`, for EVERY value (the zero value included: both sides panic) -/
theorem try_assoc (t : Try A) (k : A → GoM (Try B)) (h : B → GoM (Try C)) :
    (do let u ← try_.FlatMap t k; try_.FlatMap u h) = try_.FlatMap t (fun a => do let u ← k a; try_.FlatMap u h) :=
  TryM.flatMap_assoc t k h
/-- right identity of the translated `try.FlatMap` on every value except the zero value `Try{}` … -/
theorem try_right_id (t : Try A) (ht : t ≠ .failure .nil) : try_.FlatMap t (fun a => pure (try_.Pure a)) = pure t :=
  TryM.flatMap_pure t ht
/-- … on which it panics (the excluded branch) -/
theorem try_flatMap_zero (k : A → GoM (Try B)) : try_.FlatMap (.failure .nil) k = throw "ErrNotInit" :=
  TryM.flatMap_nil k

theorem option_left_id (a : A) (k : A → GoM (Option B)) : (do let t ← option.Pure a; option.FlatMap t k) = k a :=
  pure_bind _ _
theorem option_right_id (o : Option A) : option.FlatMap o (fun a => option.Pure a) = pure o :=
  OptM.flatMap_pure o
theorem option_assoc (o : Option A) (k : A → GoM (Option B)) (h : B → GoM (Option C)) :
    (do let u ← option.FlatMap o k; option.FlatMap u h) = option.FlatMap o (fun a => do let u ← k a; option.FlatMap u h) :=
  OptM.flatMap_assoc o k h

theorem either_left_id (a : A) (k : A → GoM (Either L B)) : either.FlatMap (either.Pure a) k = k a := rfl
theorem either_right_id (e : Either L A) : either.FlatMap e (fun a => pure (either.Pure a)) = pure e := by
  cases e <;> rfl
theorem either_assoc (e : Either L A) (k : A → GoM (Either L B)) (h : B → GoM (Either L C)) :
    (do let u ← either.FlatMap e k; either.FlatMap u h) = either.FlatMap e (fun a => do let u ← k a; either.FlatMap u h) := by
  simp only [either_FlatMap_is_model]
  exact EitM.flatMap_assoc e k h

theorem statet_left_id (a : A) (k : A → GoM (StM.StT S B)) (s : S) :
    statet.FlatMap (statet.Pure a) k s = (do (← k a) s) := Spec.C17.left_id a k s
theorem statet_right_id (m : StM.StT S A) (hm : Spec.C17.NoNil m) :
    statet.FlatMap m (fun a => Pure.pure (statet.Pure a)) = m := Spec.C17.right_id m hm
theorem statet_assoc (m : StM.StT S A) (k : A → GoM (StM.StT S B)) (h : B → GoM (StM.StT S C)) :
    statet.FlatMap (statet.FlatMap m k) h = statet.FlatMap m (fun a => do let mb ← k a; Pure.pure (statet.FlatMap mb h)) :=
  Spec.C17.assoc m k h

-- C02: short circuit and panic capture, for the translated code ------------------------------------------------------
/-- `try.Of` as found in the source, for EVERY supplied function and every prior log: it never panics, keeps exactly
    `f`'s log, gives `Success v` iff `f` returned `v` normally and `Failure(panicErr p)` iff `f` panicked with `p`. -/
theorem try_Of_spec (f : Unit → GoM A) (s : List Event) :
    (try_.Of f).run.run s =
      (match (f ()).run.run s with
       | (.ok v, log) => (.ok (.success v), log)
       | (.error p, log) => (.ok (.failure (.panicErr p)), log)) := Spec.C02.of_spec f s
theorem try_Of_pure (v : A) : try_.Of (fun _ => pure v) = pure (.success v) := Spec.C02.of_pure v
theorem try_Of_panic (p : PanicVal) : try_.Of (fun _ => (throw p : GoM A)) = pure (.failure (.panicErr p)) := Spec.C02.of_panic p
theorem try_CallUnit_panic (p : PanicVal) : try_.CallUnit (fun _ => (throw p : GoM Err)) = pure (.failure (.panicErr p)) :=
  Spec.C02.callUnit_panic p
/-- a failure passes through the translated `FlatMap` untouched; the continuation is absent (never invoked) -/
theorem try_FlatMap_failure (e : Err) (he : e ≠ .nil) (k : A → GoM (Try B)) :
    try_.FlatMap (.failure e) k = pure (.failure e) :=
  TryM.flatMap_failure e he k
theorem option_FlatMap_none (k : A → GoM (Option B)) : option.FlatMap none k = pure none := rfl
theorem either_FlatMap_left (l : L) (k : A → GoM (Either L B)) : either.FlatMap (.left l) k = pure (.left l) := rfl
/-- `FoldM` as found in the source stops at the first failing step: the elements after it are never visited -/
theorem try_FoldM_stops (xs ys : List A) (a : A) (z s : B) (e : Err) (f : B → A → GoM (Try B))
    (hxs : try_.FoldM xs z f = pure (.success s)) (ha : f s a = pure (.failure e)) :
    try_.FoldM (xs ++ a :: ys) z f = pure (.failure e) := by
  rw [try_FoldM_is_model] at *
  exact Spec.C02.try_foldM_stops xs ys a z s e f hxs ha
/-- the translated methods of fp.Try leave successes untouched (no handler runs) … -/
theorem fp_Try_success_untouched (v : A) (f : Err → GoM A) (fw : Err → GoM (Try A)) (p : Err → GoM Bool)
    (g : Unit → GoM A) (gt : Unit → GoM (Try A)) (t : Try A) :
    fp.Try_Recover (.success v) f = pure (.success v) ∧
    fp.Try_RecoverWith (.success v) fw = pure (.success v) ∧
    fp.Try_RecoverCase (.success v) p f = pure (.success v) ∧
    fp.Try_RecoverCaseWith (.success v) p fw = pure (.success v) ∧
    fp.Try_Or (.success v) gt = pure (.success v) ∧
    fp.Try_OrTry (.success v) t = .success v ∧
    fp.Try_OrElse (.success v) v = v ∧
    fp.Try_OrElseGet (.success v) g = pure v := by
  rw [fp_Try_RecoverCase_is_model, fp_Try_RecoverCaseWith_is_model]
  exact Spec.C02.try_success_untouched v f fw p g gt t
/-- … and on a failure run the handler exactly once, with the failure's own error -/
theorem fp_Try_failure_handled (e : Err) (he : e ≠ .nil) (f : Err → GoM A) (fw : Err → GoM (Try A))
    (g : Unit → GoM A) (gt : Unit → GoM (Try A)) (t : Try A) (d : A) :
    fp.Try_Recover (.failure e) f = (do let a ← f e; pure (.success a)) ∧
    fp.Try_RecoverWith (.failure e) fw = fw e ∧
    fp.Try_Or (.failure e) gt = gt () ∧
    fp.Try_OrTry (.failure e) t = t ∧
    fp.Try_OrElse (.failure e) d = d ∧
    fp.Try_OrElseGet (.failure e) g = g () := Spec.C02.try_failure_handled e he f fw g gt t d

-- C17: state threading, for the translated code --------------------------------------------------------------------
/-- `Put(s)` then `Get` yields `s` and leaves state `s` — from every initial state -/
theorem statet_put_get (s s0 : S) :
    statet.FlatMap (statet.Put s) (fun _ => Pure.pure statet.Get) s0 = Pure.pure (.success s, s) := Spec.C17.put_get s s0
theorem statet_get_put (s0 : S) :
    statet.FlatMap statet.Get (fun s => Pure.pure (statet.Put s)) s0 = (statet.Pure () : StM.StT S Unit) s0 :=
  Spec.C17.get_put s0
theorem statet_put_put (s s' s0 : S) :
    statet.FlatMap (statet.Put s) (fun _ => Pure.pure (statet.Put s')) s0 = statet.Put s' s0 := Spec.C17.put_put s s' s0
theorem statet_modify_def (f : S → GoM S) :
    statet.Modify f = statet.FlatMap statet.Get (fun s => do let s' ← f s; Pure.pure (statet.Put s')) := Spec.C17.modify_def f
/-- a failing step: the continuation is not run and the state reported is the state at the point of failure -/
theorem statet_flatMap_failure (st : StM.StT S A) (k : A → GoM (StM.StT S B)) (s ns : S) (e : Err) (he : e ≠ .nil)
    (h : st s = Pure.pure (.failure e, ns)) : statet.FlatMap st k s = Pure.pure (.failure e, ns) :=
  Spec.C17.flatMap_failure st k s ns e he h
/-- on failure every translated `Recover*` hands its handler the error together with the POST-failure state `ns`, and
    `ns` is the state returned -/
theorem statet_recover_failure (st : StM.StT S A) (s ns : S) (e : Err) (he : e ≠ .nil) (hs : st s = Pure.pure (.failure e, ns))
    (f : Err → GoM A) (ft : Err → GoM (Try A)) (f2 : S → Err → GoM A) (f2t : S → Err → GoM (Try A))
    (fw : Err → GoM (StM.StT S A)) :
    fp.StateT_Recover st f s = (do let a ← f e; Pure.pure (.success a, ns)) ∧
    fp.StateT_RecoverT st ft s = (do let t ← ft e; Pure.pure (t, ns)) ∧
    fp.StateT_RecoverWithState st f2 s = (do let a ← f2 ns e; Pure.pure (.success a, ns)) ∧
    fp.StateT_RecoverWithStateT st f2t s = (do let t ← f2t ns e; Pure.pure (t, ns)) ∧
    fp.StateT_RecoverWith st fw s = (do (← fw e) ns) := by
  rw [fp_StateT_Recover_is_model, fp_StateT_RecoverT_is_model, fp_StateT_RecoverWithState_is_model,
    fp_StateT_RecoverWithStateT_is_model, fp_StateT_RecoverWith_is_model]
  exact Spec.C17.recover_failure st s ns e he hs f ft f2 f2t fw
theorem statet_recover_success (st : StM.StT S A) (s ns : S) (v : A) (hs : st s = Pure.pure (.success v, ns))
    (f : Err → GoM A) (f2t : S → Err → GoM (Try A)) :
    fp.StateT_Recover st f s = Pure.pure (.success v, ns) ∧
    fp.StateT_RecoverWithStateT st f2t s = Pure.pure (.success v, ns) := by
  rw [fp_StateT_Recover_is_model, fp_StateT_RecoverWithStateT_is_model]
  have := Spec.C17.recover_success st s ns v hs f (fun _ => pure (.success v)) (fun _ => f) f2t (fun _ => pure st) (fun _ => pure true)
  exact ⟨this.1, this.2.2.2.1⟩
theorem statet_FoldM_failure (xs ys : List A) (z : B) (f : B → A → GoM (StM.StT S B)) (s ns : S) (e : Err) (he : e ≠ .nil)
    (h : statet.FoldM xs z f s = Pure.pure (.failure e, ns)) : statet.FoldM (xs ++ ys) z f s = Pure.pure (.failure e, ns) := by
  rw [statet_FoldM_is_model] at *
  exact Spec.C17.foldM_failure xs ys z f s ns e he h

-- C17Ext / C02Ext (Merge, ApTry, OrZero), for the translated code ------------------------------------------------------
/-- `Merge(fss, fsa)` as found in the source runs `fsa` BEFORE `fss`, both on the incoming state -/
theorem statet_Merge_order (fss : S → GoM S) (fsa : S → GoM A) (s : S) :
    statet.Merge fss fsa s = (do let a ← fsa s; let ns ← fss s; Pure.pure (.success a, ns)) := Spec.C17.merge_order fss fsa s
/-- `ApTry`: when the function side fails the state reported is the state at the point of failure (`ns`, not `s`) -/
theorem statet_ApTry_failure_state (st : StM.StT S (A → GoM B)) (a : Try A) (s ns : S) (e : Err) (he : e ≠ .nil)
    (h : st s = Pure.pure (.failure e, ns)) : statet.ApTry st a s = Pure.pure (.failure e, ns) :=
  Spec.C17.apTry_failure_state st a s ns e he h
/-- `ApTry`: the function side succeeds, the argument is a Failure: that error, the carried function is not applied -/
theorem statet_ApTry_argument_failure (st : StM.StT S (A → GoM B)) (s ns : S) (f : A → GoM B) (e : Err) (he : e ≠ .nil)
    (h : st s = Pure.pure (.success f, ns)) : statet.ApTry st (.failure e) s = Pure.pure (.failure e, ns) :=
  Spec.C02.apTry_argument_failure st s ns f e he h
theorem fp_Try_OrZero_failure (zero : A) (e : Err) : fp.Try_OrZero zero (.failure e : Try A) = pure zero :=
  Spec.C02.try_orZero_failure zero e

-- non-vacuity: the hypotheses above are met by concrete values / programs of the translated code -------------------------
example : Err.code 1 ≠ .nil := by decide
example : (Try.failure (.code 1) : Try Int) ≠ .failure .nil := by decide
example : (statet.FromTry (S := Int) (A := Int) (.failure (.code 3))) 5 = Pure.pure (.failure (.code 3), 5) := rfl
example : (statet.Put (7 : Int)) 5 = Pure.pure (.success (), 7) := rfl
example : try_.FoldM ([] : List Int) (0 : Int) (fun _ _ => pure (.failure (.code 1))) = pure (.success 0) := rfl
example : Spec.C17.NoNil (statet.Get (S := Int)) := by intro s; simp only [statet.Get, try_.Success, fp.Success, pure_bind]
/-- the ties are not vacuous: the translated definitions compute (here: the callback of `FlatMap` is really run once) -/
example : (try_.FlatMap (.success (3 : Int)) (fun a => do emit "k"; pure (.success (a + 1)))).exec = (.ok (.success 4), ["k"]) := rfl
example : (try_.FlatMap (.failure (.code 2) : Try Int) (fun a => do emit "k"; pure (.success (a + 1)))).exec
    = (.ok (.failure (.code 2)), []) := rfl

end FpVerif.Spec.C01CoreGen
