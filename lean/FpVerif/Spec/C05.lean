import FpVerif.Lemmas.PromiseFinal
import FpVerif.Lemmas.PromiseFair
/-!
# C05 — Promise: single assignment and exactly-once callback delivery.

Model: `FpVerif/Model/Promise.lean` (one `step` = one atomic block of future.go between two yield
points; schedules are arbitrary lists of thread ids; any number of `Complete` / registering /
observing threads; "already registered callbacks" are registrations the schedule ran first).

* Part A holds for future.go before fix f17f413 and after it (`∀ v : Variant`).
* Part B (exactly-once) holds for the code since that fix, `Variant.copyFirst`
  (`append(status[:len(status):len(status)], cb)`); Part C is the kernel-checked witness that
  future.go before it (`Variant.asIs`, in-place `append` into shared spare capacity) violates it.
* Part B' (audit finding 18): the PER-CALLBACK exactly-once theorems that need no global
  quiescence, `∃!` for "exactly one Complete returns true", and the FAIR-schedule corollaries.
* Part D: the zero-value Promise.
-/
namespace FpVerif.Spec.C05
open FpVerif FpVerif.Sched FpVerif.Promise

variable {R : Type}

/-! ## Part A — single assignment, no early callback, termination (both variants) -/

/-- At most one `Complete` call returns true. -/
theorem at_most_one_complete_returns_true (v : Variant) (progs : List (Prog R)) (sched : List Tid)
    (i j : Nat) (r r' : R)
    (hi : (prun v (init false progs) sched).threads[i]? = some (.cRet r true))
    (hj : (prun v (init false progs) sched).threads[j]? = some (.cRet r' true)) : i = j :=
  winner_unique (InvA_run v (InvA_init progs) sched) hi hj rfl rfl

/-- The call that returned true is the one whose result the promise holds;
    a call that returned false found the promise already completed. -/
theorem complete_return_value (v : Variant) (progs : List (Prog R)) (sched : List Tid)
    (i : Nat) (r : R) (b : Bool)
    (hi : (prun v (init false progs) sched).threads[i]? = some (.cRet r b)) :
    (b = true → (prun v (init false progs) sched).shared.cell = .done r) ∧
    (b = false → (prun v (init false progs) sched).shared.cell.isDone = true) := by
  have hA := InvA_run v (InvA_init progs) sched
  have := hA.threads _ (List.mem_of_getElem? hi)
  cases b <;> simpa [TInvA] using this

/-- Once completed with `r` the promise stays completed with `r`, whatever happens next. -/
theorem done_is_final (v : Variant) (progs : List (Prog R)) (sched more : List Tid) (r : R)
    (h : (prun v (init false progs) sched).shared.cell = .done r) :
    (prun v (init false progs) (sched ++ more)).shared.cell = .done r := by
  have hA := InvA_run v (InvA_init progs) sched
  show (run (stepT v) _ (sched ++ more)).shared.cell = _
  rw [run_append]
  exact done_run v hA h more

/-- Every observer (`IsCompleted` + `Value`) that saw a value saw the promise's value, and never
    panics with "not completed" after `IsCompleted` returned true. -/
theorem observers_agree (v : Variant) (progs : List (Prog R)) (sched : List Tid) (i : Nat) :
    (∀ r, (prun v (init false progs) sched).threads[i]? = some (.oRet (some r)) →
      (prun v (init false progs) sched).shared.cell = .done r) ∧
    (prun v (init false progs) sched).threads[i]? ≠ some (.panicked .observe) := by
  have hA := InvA_run v (InvA_init progs) sched
  exact ⟨fun r hi => hA.threads _ (List.mem_of_getElem? hi), fun hi => hA.threads _ (List.mem_of_getElem? hi)⟩

/-- Every callback invocation carries the promise's result … -/
theorem invocations_carry_the_result (v : Variant) (progs : List (Prog R)) (sched : List Tid)
    (cb : Cb) (r : R) (h : (cb, r) ∈ (prun v (init false progs) sched).shared.log) :
    (prun v (init false progs) sched).shared.cell = .done r :=
  (InvA_run v (InvA_init progs) sched).log _ h

/-- … hence no callback runs before completion. -/
theorem no_callback_before_completion (v : Variant) (progs : List (Prog R)) (sched : List Tid)
    (h : (prun v (init false progs) sched).shared.cell.isDone = false) :
    (prun v (init false progs) sched).shared.log = [] :=
  log_empty_of_not_done (InvA_run v (InvA_init progs) sched) h

/-- Termination of the CAS retry loops: every executed atomic block strictly decreases
    `Promise.measure` (a failing CAS is paid for by the successful CAS that made it stale). -/
theorem measure_decreases (v : Variant) (progs : List (Prog R)) (sched : List Tid) (t : Tid)
    (s' : PSys R) (h : step (stepT v) (prun v (init false progs) sched) t = some s') :
    Promise.measure s' < Promise.measure (prun v (init false progs) sched) :=
  measure_step v _ t s' (InvA_run v (InvA_init progs) sched) h

/-- A thread whose CAS is going to fail lost against a CAS that succeeded after its `Get`:
    the identity it captured is older than the current one. -/
theorem failing_cas_was_overtaken (v : Variant) (progs : List (Prog R)) (sched : List Tid)
    (l : Local R) (hl : l ∈ (prun v (init false progs) sched).threads) :
    (∀ r ap c, l = .cCas r ap c → ap ≠ (prun v (init false progs) sched).shared.ver →
        ap < (prun v (init false progs) sched).shared.ver) ∧
    (∀ cb ap new, l = .rCas cb ap new → ap ≠ (prun v (init false progs) sched).shared.ver →
        ap < (prun v (init false progs) sched).shared.ver) := by
  have hA := InvA_run v (InvA_init progs) sched
  have hT := hA.threads l hl
  constructor
  · rintro r ap c rfl hne
    have : ap ≤ _ := hT.1
    omega
  · rintro cb ap new rfl hne
    have : ap ≤ _ := hT.1
    omega

/-- No schedule can execute more than `measure init` atomic blocks: all retry loops terminate. -/
theorem bounded_work (v : Variant) (progs : List (Prog R)) (sched : List Tid) :
    effSteps (stepT v) (init false progs) sched ≤ Promise.measure (init false progs) :=
  (progress v).effSteps_le (InvA_init progs) sched

/-- From every reachable state the round-robin driver (`finishSched`) reaches quiescence. -/
theorem round_robin_reaches_quiescence (v : Variant) (progs : List (Prog R)) (sched : List Tid) :
    allFinished (prun v (prun v (init false progs) sched)
      (finishSched (prun v (init false progs) sched))) = true :=
  rounds_finish v _ _ (InvA_run v (InvA_init progs) sched) _ (Nat.le_refl _) (hasRounds_roundRobin _ _)

/-- At quiescence the promise is completed iff some thread called `Complete`, and then AT LEAST
    one `Complete` call is the winner: it returned true — or (possible only for `Variant.asIs`,
    future.go before the fix, where an in-place `append` can leave a nil slot) it won the CAS and
    then panicked inside its callback loop.  (This statement alone gives existence for both
    variants; uniqueness is `at_most_one_complete_returns_true`; for the current code
    (`copyFirst`) the `∃!` form without the panic disjunct is
    `exactly_one_complete_returns_true` below.) -/
theorem completed_iff_some_complete (v : Variant) (progs : List (Prog R)) (sched : List Tid)
    (hq : allFinished (prun v (init false progs) sched) = true) :
    ((prun v (init false progs) sched).shared.cell.isDone = true ↔ ∃ p ∈ progs, p.isComplete = true) ∧
    ((∃ p ∈ progs, Prog.isComplete p = true) →
      ∃ (i : Nat) (r : R), (prun v (init false progs) sched).threads[i]? = some (Local.cRet r true) ∨
             (prun v (init false progs) sched).threads[i]? = some (Local.panicked (.complete r))) := by
  have hA := InvA_run v (InvA_init progs) sched
  have hprogs : (prun v (init false progs) sched).threads.map Local.prog = progs := by
    rw [prog_run, progs_init]
  generalize prun v (init false progs) sched = s at *
  have hdone_of : (∃ p ∈ progs, Prog.isComplete p = true) → s.shared.cell.isDone = true := by
    rintro ⟨p, hp, hc⟩
    rw [← hprogs] at hp
    obtain ⟨l, hl, rfl⟩ := List.mem_map.mp hp
    exact done_of_finished_complete (hA.threads l hl) (finished_of_allFinished hq hl) hc
  -- once the cell is done there is a winner, and like every thread it has finished
  have hwin_of : s.shared.cell.isDone = true → ∃ (i : Nat) (r : R),
      s.threads[i]? = some (Local.cRet r true) ∨ s.threads[i]? = some (Local.panicked (.complete r)) := by
    intro hd
    have hw := hA.winner
    rw [hd] at hw
    obtain ⟨i, l, hl, hlw⟩ := exists_of_sumBy_ind_pos (p := Local.isWinner) (Nat.le_of_eq hw.symm)
    obtain ⟨r, rfl | rfl⟩ := finished_winner (finished_of_allFinished hq (List.mem_of_getElem? hl)) hlw
    · exact ⟨i, r, .inl hl⟩
    · exact ⟨i, r, .inr hl⟩
  refine ⟨⟨fun hd => ?_, hdone_of⟩, fun hex => hwin_of (hdone_of hex)⟩
  obtain ⟨i, r, h⟩ := hwin_of hd
  refine ⟨.complete r, ?_, rfl⟩
  rw [← hprogs]
  rcases h with h | h
  · exact List.mem_map.mpr ⟨_, List.mem_of_getElem? h, rfl⟩
  · exact List.mem_map.mpr ⟨_, List.mem_of_getElem? h, rfl⟩

/-! ## Part B — exactly-once delivery (repaired algorithm: copy before append) -/

/-- No thread ever panics (no nil callback slot is ever called). -/
theorem no_panic (progs : List (Prog R)) (sched : List Tid) (p : Prog R) :
    Local.panicked p ∉ (prun .copyFirst (init false progs) sched).threads := by
  intro h
  exact (InvAB_run (InvA_init progs) (InvB_init progs) sched).2.threads _ h

/-- At every moment, every callback has been invoked at most as often as it was registered
    (at most once when callbacks are distinct). -/
theorem at_most_once (progs : List (Prog R)) (sched : List Tid) (cb : Cb) :
    invocations cb (prun .copyFirst (init false progs) sched) ≤ (regCbs progs).count cb :=
  invocations_le (InvAB_run (InvA_init progs) (InvB_init progs) sched).2 cb

/-- Exactly once at quiescence: when all threads have returned, every registered callback has
    been invoked exactly as often as it was registered if the promise was completed, and not at
    all otherwise. -/
theorem exactly_once_at_quiescence (progs : List (Prog R)) (sched : List Tid)
    (hq : allFinished (prun .copyFirst (init false progs) sched) = true) (cb : Cb) :
    invocations cb (prun .copyFirst (init false progs) sched) =
      if (prun .copyFirst (init false progs) sched).shared.cell.isDone
      then (regCbs progs).count cb else 0 := by
  obtain ⟨hA, hB⟩ := InvAB_run (InvA_init progs) (InvB_init progs) sched
  split
  · rename_i hd
    exact invocations_settled hB cb hd (no_cRun_of_allFinished hq)
      (fun l hl _ => finished_of_allFinished hq hl)
  · rename_i hd
    have := log_empty_of_not_done hA (by simpa using hd)
    simp [invocations, this]

/-- The user-visible form: with pairwise distinct callbacks, at quiescence of a completed
    promise every registered callback whose filter (`OnComplete` / `OnSuccess` / `OnFailure`)
    accepts the result has been delivered exactly once — with that result — and the others
    not at all. -/
theorem delivered_exactly_once {α : Type} (progs : List (Prog (Try α))) (sched : List Tid)
    (hq : allFinished (prun .copyFirst (init false progs) sched) = true)
    (hnd : (regCbs progs).Nodup) (r : Try α)
    (hd : (prun .copyFirst (init false progs) sched).shared.cell = .done r)
    (cb : Cb) (hcb : cb ∈ regCbs progs) :
    ((delivered (prun .copyFirst (init false progs) sched).shared.log).filter
        (fun p => p.1 = cb)).length = (if cb.wants r then 1 else 0) ∧
    ∀ p ∈ delivered (prun .copyFirst (init false progs) sched).shared.log, p.2 = r := by
  refine delivered_of_invoked_once (InvA_run .copyFirst (InvA_init progs) sched) hd ?_
  rw [exactly_once_at_quiescence progs sched hq cb, hd, hnd.count]
  simp [Cell.isDone, hcb]

/-! ## Part B' — exactly-once PER CALLBACK, without global quiescence; `∃!`; fair schedules

(Audit finding 18.)  `exactly_once_at_quiescence` needs `allFinished`: EVERY thread of
the system has returned.  The conservation invariant `InvB.cons` says more: a callback is always in
exactly as many places (a registering thread, the cell's slice, the remaining part of the running
completer's captured slice, the log) as it was registered.  So as soon as
  (1) the `Complete` call that won has returned (then the cell is `done` and no completer is inside
      its callback loop — there is at most one winner), and
  (2) the threads registering THIS callback have returned,
every registration of this callback is in the log — whatever the other threads (other
registrations, losing `Complete` calls, observers) are doing, finished or not. -/

/-- the general counting form: cell done, no thread inside the callback loop of `Complete`, the
    registrations of `cb` have returned ⇒ `cb` has been invoked exactly as often as registered -/
theorem callback_count_settled (progs : List (Prog R)) (sched : List Tid) (cb : Cb)
    (hd : (prun .copyFirst (init false progs) sched).shared.cell.isDone = true)
    (hrun : ∀ l ∈ (prun .copyFirst (init false progs) sched).threads, ∀ r sl i c, l ≠ .cRun r sl i c)
    (hreg : ∀ l ∈ (prun .copyFirst (init false progs) sched).threads,
      l.prog = .register cb → l.finished = true) :
    invocations cb (prun .copyFirst (init false progs) sched) = (regCbs progs).count cb :=
  invocations_settled (InvAB_run (InvA_init progs) (InvB_init progs) sched).2 cb hd hrun hreg

/-- PER-CALLBACK EXACTLY-ONCE.  Once the winning `Complete` call (thread `i`) has returned true and
    the threads registering `cb` have returned, `cb` has been invoked exactly as often as it was
    registered — no hypothesis on any other thread. -/
theorem callback_exactly_once (progs : List (Prog R)) (sched : List Tid) (cb : Cb) (i : Nat) (r : R)
    (hwin : (prun .copyFirst (init false progs) sched).threads[i]? = some (.cRet r true))
    (hreg : ∀ l ∈ (prun .copyFirst (init false progs) sched).threads,
      l.prog = .register cb → l.finished = true) :
    invocations cb (prun .copyFirst (init false progs) sched) = (regCbs progs).count cb := by
  have hA := InvA_run .copyFirst (InvA_init progs) sched
  have hd : (prun .copyFirst (init false progs) sched).shared.cell = .done r :=
    hA.threads _ (List.mem_of_getElem? hwin)
  exact callback_count_settled progs sched cb (by rw [hd]; rfl)
    (no_cRun_of_winner_returned hA hwin) hreg

/-- … and it stays so under every continuation of the schedule (the other threads may go on). -/
theorem callback_exactly_once_stable (progs : List (Prog R)) (sched more : List Tid) (cb : Cb)
    (i : Nat) (r : R)
    (hwin : (prun .copyFirst (init false progs) sched).threads[i]? = some (.cRet r true))
    (hreg : ∀ l ∈ (prun .copyFirst (init false progs) sched).threads,
      l.prog = .register cb → l.finished = true) :
    invocations cb (prun .copyFirst (init false progs) (sched ++ more)) = (regCbs progs).count cb := by
  have h1 := callback_exactly_once progs sched cb i r hwin hreg
  have h2 := at_most_once progs (sched ++ more) cb
  have hmono := invocations_mono .copyFirst cb (prun .copyFirst (init false progs) sched) more
  have hrun : prun .copyFirst (init false progs) (sched ++ more) =
      prun .copyFirst (prun .copyFirst (init false progs) sched) more := run_append _ _ _
  rw [hrun] at h2 ⊢
  omega

/-- The user-visible form of the per-callback theorem: callbacks pairwise distinct, the winning
    `Complete(r)` has returned, the registration of `cb` has returned ⇒ the user callback behind
    `cb` has been delivered exactly once if its filter (`OnComplete` / `OnSuccess` / `OnFailure`)
    accepts `r`, not at all otherwise, and every delivery so far carries `r`. -/
theorem callback_delivered_exactly_once {α : Type} (progs : List (Prog (Try α))) (sched : List Tid)
    (hnd : (regCbs progs).Nodup) (cb : Cb) (hcb : cb ∈ regCbs progs) (i : Nat) (r : Try α)
    (hwin : (prun .copyFirst (init false progs) sched).threads[i]? = some (.cRet r true))
    (hreg : ∀ l ∈ (prun .copyFirst (init false progs) sched).threads,
      l.prog = .register cb → l.finished = true) :
    ((delivered (prun .copyFirst (init false progs) sched).shared.log).filter
        (fun p => p.1 = cb)).length = (if cb.wants r then 1 else 0) ∧
    ∀ p ∈ delivered (prun .copyFirst (init false progs) sched).shared.log, p.2 = r := by
  have hA := InvA_run .copyFirst (InvA_init progs) sched
  have hd : (prun .copyFirst (init false progs) sched).shared.cell = .done r :=
    hA.threads _ (List.mem_of_getElem? hwin)
  refine delivered_of_invoked_once hA hd ?_
  rw [callback_exactly_once progs sched cb i r hwin hreg, hnd.count]
  simp [hcb]

/-- `exactly_once_at_quiescence` (completed case) is the special case "every thread has returned" -/
theorem exactly_once_at_quiescence_of_settled (progs : List (Prog R)) (sched : List Tid)
    (hq : allFinished (prun .copyFirst (init false progs) sched) = true) (cb : Cb)
    (hd : (prun .copyFirst (init false progs) sched).shared.cell.isDone = true) :
    invocations cb (prun .copyFirst (init false progs) sched) = (regCbs progs).count cb :=
  callback_count_settled progs sched cb hd (no_cRun_of_allFinished hq)
    (fun _ hl _ => finished_of_allFinished hq hl)

/-- EXACTLY ONE `Complete` call returns true (current code, at quiescence, `∃!`): if some thread
    calls `Complete` there is a unique thread index whose call returned true; all the other
    `Complete` calls returned false. -/
theorem exactly_one_complete_returns_true (progs : List (Prog R)) (sched : List Tid)
    (hq : allFinished (prun .copyFirst (init false progs) sched) = true)
    (hex : ∃ p ∈ progs, Prog.isComplete p = true) :
    (∃ i : Nat, (∃ r : R, (prun .copyFirst (init false progs) sched).threads[i]? = some (Local.cRet r true)) ∧
      ∀ j : Nat, (∃ r : R, (prun .copyFirst (init false progs) sched).threads[j]? = some (Local.cRet r true)) →
        j = i) ∧
    (∀ (j : Nat) (r : R), progs[j]? = some (Prog.complete r) →
      ∃ b, (prun .copyFirst (init false progs) sched).threads[j]? = some (Local.cRet r b)) := by
  obtain ⟨i, r, h | h⟩ := (completed_iff_some_complete .copyFirst progs sched hq).2 hex
  · refine ⟨⟨i, ⟨r, h⟩, fun j ⟨r', hj⟩ => ?_⟩, ?_⟩
    · exact at_most_one_complete_returns_true .copyFirst progs sched j i r' r hj h
    · intro j r' hj
      have hprogs : (prun .copyFirst (init false progs) sched).threads.map Local.prog = progs := by
        rw [prog_run, progs_init]
      rw [← hprogs] at hj
      simp only [List.getElem?_map, Option.map_eq_some_iff] at hj
      obtain ⟨l, hl, hp⟩ := hj
      have hlm := List.mem_of_getElem? hl
      rcases finished_complete (finished_of_allFinished hq hlm) hp with ⟨b, rfl⟩ | rfl
      · exact ⟨b, hl⟩
      · exact absurd hlm (no_panic progs sched _)
  · exact absurd (List.mem_of_getElem? h) (no_panic progs sched _)

/-- `∃!`-style packaging of the first half (core Lean has no `∃!` notation) -/
theorem existsUnique_complete_returns_true (progs : List (Prog R)) (sched : List Tid)
    (hq : allFinished (prun .copyFirst (init false progs) sched) = true)
    (hex : ∃ p ∈ progs, Prog.isComplete p = true) :
    ∃ i : Nat, (fun i : Nat => ∃ r, (prun .copyFirst (init false progs) sched).threads[i]? =
            some (Local.cRet r true)) i ∧
      ∀ j : Nat, (fun i : Nat => ∃ r, (prun .copyFirst (init false progs) sched).threads[i]? =
            some (Local.cRet r true)) j → j = i :=
  (exactly_one_complete_returns_true progs sched hq hex).1

/-! ### fair schedules -/

/-- FAIR SCHEDULES REACH QUIESCENCE (both variants).  `σ` is an infinite schedule; `Fair` says
    only that a thread which is unfinished after `n` entries is named again by some later entry
    (weak fairness, and only for threads that still have work).  Then after finitely many entries
    every thread has returned, and nothing changes afterwards.  (`round_robin_reaches_quiescence`
    is one particular fair schedule.) -/
theorem fair_schedule_reaches_quiescence (v : Variant) (progs : List (Prog R)) (σ : Nat → Tid)
    (hfair : Fair v (init false progs) σ) :
    ∃ n, ∀ m, n ≤ m → allFinished (prun v (init false progs) (prefixOf σ m)) = true ∧
      prun v (init false progs) (prefixOf σ m) = prun v (init false progs) (prefixOf σ n) :=
  (progress v).fair_finishes_stable (InvA_init progs) σ hfair

/-- the same from any reachable state: after an arbitrary finite prefix `sched`, any fair
    continuation reaches quiescence -/
theorem fair_continuation_reaches_quiescence (v : Variant) (progs : List (Prog R))
    (sched : List Tid) (σ : Nat → Tid)
    (hfair : Fair v (prun v (init false progs) sched) σ) :
    ∃ n, allFinished (prun v (init false progs) (sched ++ prefixOf σ n)) = true :=
  (progress v).fair_finishes_after (InvA_init progs) sched σ hfair

/-- finite form: any schedule that contains `measure` many fair rounds (segments naming every
    thread) ends in a quiescent state — `finishSched` is the instance made of `List.range n`s
    (`hasRounds_roundRobin`) -/
theorem fair_rounds_reach_quiescence (v : Variant) (progs : List (Prog R)) (sched rounds : List Tid)
    (hr : HasRounds progs.length (Promise.measure (prun v (init false progs) sched)) rounds) :
    allFinished (prun v (prun v (init false progs) sched) rounds) = true := by
  apply rounds_finish v _ _ (InvA_run v (InvA_init progs) sched) rounds (Nat.le_refl _)
  rw [prun, run_length]
  simpa [init] using hr

/-- LIVENESS OF DELIVERY (current code): under every fair schedule, eventually and for ever
    after, the promise is completed iff some thread calls `Complete`, and then every registered
    callback has been invoked exactly as often as it was registered. -/
theorem fair_schedule_delivers (progs : List (Prog R)) (σ : Nat → Tid)
    (hfair : Fair .copyFirst (init false progs) σ) :
    ∃ n, ∀ m, n ≤ m → ∀ cb,
      invocations cb (prun .copyFirst (init false progs) (prefixOf σ m)) =
        if (∃ p ∈ progs, Prog.isComplete p = true) then (regCbs progs).count cb else 0 := by
  obtain ⟨n, hn⟩ := fair_schedule_reaches_quiescence .copyFirst progs σ hfair
  refine ⟨n, fun m hm cb => ?_⟩
  obtain ⟨hq, _⟩ := hn m hm
  rw [exactly_once_at_quiescence progs _ hq cb]
  exact ite_congr (propext (completed_iff_some_complete .copyFirst progs _ hq).1) (fun _ => rfl) (fun _ => rfl)

/-! ## Part C — future.go before fix f17f413 violates exactly-once (kernel-checked witness)

Three callbacks are registered (slice `len 3, cap 4`), then two registrations race:
both `Get` the same slice, both `append` IN PLACE into slot 3 of the shared backing array (the
second overwrites the first), the first CAS succeeds, the second fails, retries and appends
itself again.  Callback 4 is lost, callback 5 runs twice.  Replayed on the real library by
`harness/cmd/promise -replay`. -/

def witnessProgs : List (Prog (Try Nat)) :=
  [.register ⟨1, .all⟩, .register ⟨2, .all⟩, .register ⟨3, .all⟩,
   .register ⟨4, .all⟩, .register ⟨5, .all⟩, .complete (.success 7)]

def witnessSched : List Tid :=
  [0, 0, 1, 1, 1, 2, 2, 2,          -- three registrations, one after the other
   3, 4, 3, 4, 3, 4, 4, 4, 4,       -- the race: get get append append cas cas(fails) get append cas
   5, 5, 5, 5, 5, 5, 5]             -- Complete: get cas, then runs the five captured callbacks

/-- The model of future.go before the fix loses callback 4 and runs callback 5 twice. -/
theorem asIs_violates_exactly_once :
    let s := prun .asIs (init false witnessProgs) witnessSched
    allFinished s = true ∧ s.shared.cell = .done (.success 7) ∧
    invocations ⟨4, .all⟩ s = 0 ∧ invocations ⟨5, .all⟩ s = 2 := by
  decide

/-- Hence the universally quantified exactly-once statement is FALSE for future.go before the fix. -/
theorem asIs_not_exactly_once :
    ¬ ∀ (progs : List (Prog (Try Nat))) (sched : List Tid) (cb : Cb),
      allFinished (prun .asIs (init false progs) sched) = true →
      invocations cb (prun .asIs (init false progs) sched) =
        if (prun .asIs (init false progs) sched).shared.cell.isDone
        then (regCbs progs).count cb else 0 := by
  intro h
  obtain ⟨hq, hd, h4, _⟩ := asIs_violates_exactly_once
  have := h witnessProgs witnessSched ⟨4, .all⟩ hq
  rw [h4, hd] at this
  revert this
  decide

/-- The same programs and schedule under the repaired algorithm: every callback exactly once. -/
example :
    let s := prun .copyFirst (init false witnessProgs) witnessSched
    allFinished s = true ∧
    (s.shared.log.map (·.1.id)) = [1, 2, 3, 4, 5] := by
  decide

/-! ## Part D — the zero-value Promise / Future -/

/-- On a zero-value promise nothing ever happens: every `Complete` has returned false, every
    registration has returned without effect, observers see "not completed"; no schedule changes
    anything and nothing panics.

    WHAT IS AND IS NOT MODELLED.  The only thing of future.go this theorem rests on is
    `Prog.start true`: the guards `if r.status == nil { return false }` (`Complete`, future.go),
    `if r.status == nil { return }` (`dispatchOrAddCallback`) and `IsCompleted() = false` on a nil
    `status` are transcribed there as "the thread starts in its returned state".  Given that
    transcription the statement is true BY CONSTRUCTION of the model (every thread is `finished`
    from the start, so no schedule has an enabled step); it is a sanity statement about the
    model — "the zero branch never touches the shared cell" — not a verification of the Go
    guards.  That the Go methods really have these guards (and do not dereference the nil
    `*atomic.Reference`) is checked only by the harness (`harness/cmd/promise`, zero-value
    cases: `Complete` returns false, `OnComplete` never fires, `IsCompleted` false, no panic).
    NOT modelled: `Future.Value()` / `Await` on a zero-value future, `Promise.Success/Failure`
    wrappers (they call `Complete`), and a zero `Future{}` obtained otherwise than from a zero
    `Promise`. -/
theorem zero_value (v : Variant) (progs : List (Prog R)) (sched : List Tid) :
    prun v (init true progs) sched = init true progs ∧
    allFinished (init true progs) = true ∧
    (init true progs : PSys R).shared.log = [] ∧
    (init true progs : PSys R).shared.cell.isDone = false ∧
    (∀ l ∈ (init true progs).threads,
      (∃ r, l = .cRet r false) ∨ (∃ cb, l = .rRet cb) ∨ l = .oRet none) := by
  have hfin : allFinished (init true progs) = true := by
    simp only [allFinished, init, List.all_eq_true, List.mem_map]
    rintro l ⟨p, _, rfl⟩
    cases p <;> rfl
  refine ⟨(progress v).run_of_finished hfin sched, hfin, rfl, rfl, ?_⟩
  simp only [init, List.mem_map]
  rintro l ⟨p, _, rfl⟩
  cases p with
  | complete r => exact Or.inl ⟨r, rfl⟩
  | register cb => exact Or.inr (Or.inl ⟨cb, rfl⟩)
  | observe => exact Or.inr (Or.inr rfl)

/-! ## Non-vacuity -/

/-- quiescent completed states exist (so the hypotheses of Part B are satisfiable) -/
example : allFinished (prun .copyFirst (init false witnessProgs) witnessSched) = true ∧
    (regCbs witnessProgs).Nodup ∧
    (prun .copyFirst (init false witnessProgs) witnessSched).shared.cell = .done (.success 7) := by
  decide

/-- CAS failures really occur (the retry loop is exercised) -/
example : (prun .copyFirst (init false witnessProgs) (witnessSched.take 14)).threads[4]? =
    some (.rGet ⟨5, .all⟩) := by decide

/-- the hypotheses of the per-callback theorem are satisfiable strictly BEFORE quiescence:
    callbacks 1–3 are registered, `Complete` has run to its end and returned true, threads 3 and 4
    (registrations of callbacks 4 and 5) have not even started: not `allFinished`, yet
    `callback_exactly_once` applies to callback 2 (and gives 1). -/
example :
    let sched : List Tid := [0, 0, 1, 1, 1, 2, 2, 2, 5, 5, 5, 5, 5]
    let s := prun .copyFirst (init false witnessProgs) sched
    allFinished s = false ∧ s.threads[5]? = some (.cRet (.success 7) true) ∧
    (∀ l ∈ s.threads, l.prog = .register ⟨2, .all⟩ → l.finished = true) ∧
    invocations ⟨2, .all⟩ s = 1 := by
  decide

/-- fair infinite schedules exist: round robin over the six witness threads -/
example : Fair .copyFirst (init false witnessProgs) (fun n => n % 6) := by
  apply Fair.of_infinitely_often
  intro n t ht
  have ht : t < 6 := ht
  refine ⟨6 * n + t, by omega, ?_⟩
  show (6 * n + t) % 6 = t
  rw [Nat.mul_add_mod, Nat.mod_eq_of_lt ht]

end FpVerif.Spec.C05
