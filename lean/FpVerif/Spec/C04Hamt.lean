import FpVerif.Lemmas.HeapFrameWrap
import FpVerif.Lemmas.HeapWorldRun
import FpVerif.Spec.C03
/-!
# C04 (immutable Map / Set part) — persistence at the level of Go POINTERS

`Spec/C03.lean` speaks about a VALUE model of `immutable/map.go`, in which every version is a Lean
tree and therefore trivially persistent.  This file is about `Model/HamtHeap.lean`: addresses, a heap
of cells (`*hamt` headers, the five node structs, backing arrays of the `entries` / `nodes` slices),
`set` / `delete` / `mergeIntoNode` / builders as heap transformers with the in-place branches of the
`mutable` flag as explicit `store`s.  Helper lemmas: `Lemmas/Heap*.lean`.

Vocabulary (defined in `Model/HamtHeap.lean`, `Model/HamtWorld.lean`, and `Lemmas/HeapBasic.lean` (`Heap.le`,
`Pres`), `Lemmas/HeapSlice.lean` (`Eff`), `Lemmas/HeapPersist.lean` (`PRes`; `Hamt.updatedWith`, `Hamt.filterInto`:
the value-level loops of `UpdatedWith`, `Diff` / `Intersect`), `Lemmas/HeapWorldInv.lean` (`fpOf`, `WInv`)):

* `Heap.le H H'` — `H'` extends `H`: every address of `H` holds the SAME cell in `H'`
  (`H.size ≤ H'.size ∧ ∀ a < H.size, H'[a]? = H[a]?`);
* `Eff H H' W` — as `Heap.le`, except that the old cells listed in `W` may have been overwritten;
* `absF fuel shift H p = some (n, fp)` — pointer `p` represents the value-level node `n`
  (`Model/Hamt.lean`) and `fp` is its FOOTPRINT, the list of all addresses reachable from `p`;
  `absHamt H m = some (a, fp)` the same for a `*hamt` header and a value-level `Hamt`;
* `fp.Nodup` — the trie is a TREE (no cell is reachable twice; needed for in-place updates);
* `World` — one heap + EVERY collection ever handed out (`vers`) + the builders; `Op` — one library
  call on ANY older version (branching history) or on a builder; `World.run h ops W`;
  `W.absV i` — what version `i` shows in the current heap.

Everything is for arbitrary key / value types and an arbitrary hasher; `LawfulHash h` (C03) is
needed only where the value-level operation must be known not to panic.
-/
namespace FpVerif.Spec.C04Hamt
open FpVerif FpVerif.Hamt FpVerif.HamtHeap

variable {K V : Type} {h : Hasher K}

-- ═══ (a) FRAME: the copying path never writes an existing cell ═══════════════════════════════════════
-- No well-formedness, no lawfulness, ANY heap (even cyclic or ill-typed): if the call returns, the
-- heap it leaves extends the heap it started from.  `mutable = false` is the only hypothesis.

/-- `mapNode.set(…, mutable=false, …)` on all five node kinds (incl. the array-node expansion loop,
    both conversions and `mergeIntoNode`) writes no cell that existed before the call. -/
theorem set_writes_nothing (F : Nat) (n : Addr) (k : K) (v : V) (shift : Nat) (kh : UInt32) (r : Bool)
    {H H' : Heap K V} {res : Addr × Bool} (hrun : hsetN h F n k v shift kh false r H = .ok (res, H')) :
    Heap.le H H' := Pres.hsetN h F n k v shift kh r H res H' hrun

/-- `mapNode.delete(…, mutable=false, …)` on all five node kinds writes no existing cell. -/
theorem delete_writes_nothing (F : Nat) (n : Addr) (k : K) (shift : Nat) (kh : UInt32) (r : Bool)
    {H H' : Heap K V} {res : Option Addr × Bool} (hrun : hdeleteN h F n k shift kh false r H = .ok (res, H')) :
    Heap.le H H' := Pres.hdeleteN h F n k shift kh r H res H' hrun

/-- `(*hamt).Updated` (= `set(key, value, false)`: header cloned, path copied). -/
theorem updated_writes_nothing (m : Addr) (k : K) (v : V) {H H' : Heap K V} {m' : Addr}
    (hrun : hamtUpdated h m k v H = .ok (m', H')) : Heap.le H H' := Pres.hamtUpdated h m k v H m' H' hrun

/-- `(*hamt).Removed(k...)`: EVERY key is deleted with `mutable = false`. -/
theorem removed_writes_nothing (m : Addr) (ks : List K) {H H' : Heap K V} {m' : Addr}
    (hrun : hamtRemoved (V := V) h m ks H = .ok (m', H')) : Heap.le H H' := Pres.hamtRemoved h m ks H m' H' hrun

section wrappers
variable [BEq K]

/-- `fp.Map.Updated / Removed / UpdatedWith / Concat` (trie-backed or zero-value receiver). -/
theorem map_wrappers_write_nothing (r : HFMap K V) :
    (∀ k v, Pres (r.updated h k v)) ∧ (∀ ks, Pres (r.removed h ks)) ∧
    (∀ k remap, Pres (r.updatedWith h k remap)) ∧ (∀ other, Pres (r.concat h other)) :=
  ⟨Pres.HFMap_updated h r, Pres.HFMap_removed h r, Pres.HFMap_updatedWith h r, Pres.HFMap_concat h r⟩

/-- `fp.Set.Incl / Excl / Concat / Diff / Intersect / Contains / Iterator`. -/
theorem set_wrappers_write_nothing (r : HFSet K) :
    (∀ v, Pres (r.incl h v)) ∧ (∀ v, Pres (r.excl h v)) ∧ (∀ other, Pres (r.concat h other)) ∧
    (∀ other, Pres (r.diff h other)) ∧ (∀ other, Pres (r.intersect h other)) ∧
    (∀ v, Pres (r.contains h v)) ∧ Pres r.iterList :=
  ⟨Pres.HFSet_incl h r, Pres.HFSet_excl h r, Pres.HFSet_concat h r, Pres.HFSet_diff h r,
   Pres.HFSet_intersect h r, Pres.HFSet_contains h r, Pres.HFSet_iterList r⟩

/-- the wrapper methods on a trie-backed receiver are the operations of the histories below -/
theorem wrappers_are_hamt_ops (m : Addr) :
    (∀ k (v : V), (⟨some (.hamt m)⟩ : HFMap K V).updated h k v = (do pure ⟨some (.hamt (← hamtUpdated h m k v))⟩)) ∧
    (∀ ks, (⟨some (.hamt m)⟩ : HFMap K V).removed h ks = (do pure ⟨some (.hamt (← hamtRemoved h m ks))⟩)) ∧
    (∀ v, (HSetMin.hamt m).incl h v = (do pure (.hamt (← hamtUpdated h m v true)))) ∧
    (∀ v, (HSetMin.hamt m).excl h v = (do pure (.hamt (← hamtRemoved h m [v])))) :=
  ⟨HFMap_updated_hamt h m, HFMap_removed_hamt h m, HSetMin_incl_hamt h m, HSetMin_excl_hamt h m⟩

end wrappers

/-- `Pres x` means exactly: whatever heap `x` leaves extends the heap it started from. -/
theorem pres_iff {α : Type} (x : HM K V α) :
    Pres x ↔ ∀ H a H', x H = .ok (a, H') → H.size ≤ H'.size ∧ ∀ p, p < H.size → H'[p]? = H[p]? := Iff.rfl

/-- The abstraction of an existing pointer is the same in every extension of the heap: so each of
    the calls above leaves the abstraction of EVERY pointer that was valid before the call alone. -/
theorem abstraction_stable {H H' : Heap K V} (hle : Heap.le H H') :
    (∀ f s p n fp, absF f s H p = some (n, fp) → absF f s H' p = some (n, fp)) ∧
    (∀ m a fp, absHamt H m = some (a, fp) → absHamt H' m = some (a, fp)) :=
  ⟨fun _ _ _ _ _ habs => absF_le habs hle, fun _ _ _ habs => absHamt_le habs hle⟩

/-- FRAME RULE: the abstraction depends on the cells of its footprint only. -/
theorem abstraction_frame {H H' : Heap K V} {f s : Nat} {p : Addr} {n : Node K V} {fp : List Addr}
    (habs : absF f s H p = some (n, fp)) (hag : ∀ a ∈ fp, H'[a]? = H[a]?) : absF f s H' p = some (n, fp) :=
  absF_agree habs hag

-- ═══ REFINEMENT: the heap-level operations compute the value-level results ═════════════════════════

/-- **`mapNode.set` refines the value model** — every node kind, both values of `mutable`.
    If pointer `p` represents the node `n` as a tree and the value-level `n.set` returns `(n', r')`,
    then the heap-level `set` returns `(p', r')` with `p'` representing `n'` as a tree; it wrote only
    cells of the footprint of `p` (and only if `mutable`), and the new footprint consists of old
    footprint cells and cells allocated by the call.  (`16 ≤ shift/5 + F`: enough recursion budget;
    the in-place path assumes the trie well-formed, the copying path assumes nothing.) -/
theorem node_set_refines (F : Nat) (p : Addr) (s : Nat) (H : Heap K V) (n : Node K V) (fp : List Addr)
    (k : K) (v : V) (kh : UInt32) (mu r : Bool) (n' : Node K V) (r' : Bool)
    (habs : absF F s H p = some (n, fp)) (htree : fp.Nodup) (hfuel : 16 ≤ s / 5 + F)
    (hwf : mu = true → WF h s n) (hval : n.set h k v s kh mu r = .ok (n', r')) :
    ∃ p' H' fp', hsetN h F p k v s kh mu r H = .ok ((p', r'), H') ∧
      absF F s H' p' = some (n', fp') ∧ fp'.Nodup ∧ Eff H H' (if mu then fp else []) ∧
      ∀ a ∈ fp', a ∈ fp ∨ H.size ≤ a := by
  obtain ⟨⟨p', _⟩, H', h1, rfl, fp', h2, h3, h4, h5⟩ :=
    hsetN_sim h F p s H n fp k v kh mu r habs htree hfuel hwf (n', r') hval
  exact ⟨p', H', fp', h1, h2, h3, h4, h5⟩

/-- **`mapNode.delete` refines the value model** on the copying path (`delete(…, true)` has no caller
    in the library: `mapBuilder.Delete` is commented out). -/
theorem node_delete_refines (F : Nat) (p : Addr) (s : Nat) (H : Heap K V) (n : Node K V) (fp : List Addr)
    (k : K) (kh : UInt32) (r : Bool) (n' : Option (Node K V)) (r' : Bool)
    (habs : absF F s H p = some (n, fp)) (htree : fp.Nodup) (hfuel : 16 ≤ s / 5 + F)
    (hval : n.delete h k s kh false r = .ok (n', r')) :
    ∃ p' H', hdeleteN h F p k s kh false r H = .ok ((p', r'), H') ∧ Heap.le H H' ∧
      (n' = none → p' = none) ∧
      (∀ nn, n' = some nn → ∃ pp fp', p' = some pp ∧ absF F s H' pp = some (nn, fp') ∧ fp'.Nodup ∧
        ∀ a ∈ fp', a ∈ fp ∨ H.size ≤ a) := by
  obtain ⟨⟨p', _⟩, H', h1, rfl, h2, h3⟩ := delSim h F p s H n fp k kh r habs htree hfuel (n', r') hval
  refine ⟨p', H', h1, h2, ?_, ?_⟩
  · intro hn; subst hn
    cases p' with
    | none => rfl
    | some _ => exact absurd h3 (by simp)
  · intro nn hn; subst hn
    cases p' with
    | none => exact absurd h3 (by simp)
    | some pp =>
      obtain ⟨fp', h4, h5, -, h6⟩ := h3
      exact ⟨pp, fp', rfl, h4, h5, h6⟩

/-- **`(*hamt).set` refines `Hamt.set`** for every well-formed map and both values of `mutable`: it
    never panics, the returned `*hamt` represents the value-level result (so every theorem of
    `Spec/C03.lean` holds of what the pointer shows), the result is well-formed again; the copying
    path wrote nothing, the in-place path wrote cells of the receiver's own footprint only. -/
theorem hamt_set_refines (hl : LawfulHash h) {H : Heap K V} {m : Addr} {a : Hamt K V} {fp : List Addr}
    (habs : absHamt H m = some (a, fp)) (htree : fp.Nodup) (hinv : Hamt.Inv h a) (k : K) (v : V) (mu : Bool) :
    ∃ a' m' H' fp', a.set h k v mu = .ok a' ∧ Hamt.Inv h a' ∧ hamtSet h m k v mu H = .ok (m', H') ∧
      absHamt H' m' = some (a', fp') ∧ fp'.Nodup ∧ Eff H H' (if mu then fp else []) ∧
      ∀ x ∈ fp', x ∈ fp ∨ H.size ≤ x := by
  obtain ⟨a', m', H', h1, h2, h3, fp', h4, h5, h6, h7⟩ := hamtSet_step hl habs htree hinv k v mu
  exact ⟨a', m', H', fp', h1, h2, h3, h4, h5, h6, h7⟩

/-- **`(*hamt).Removed(k...)` refines `Hamt.removed`.** -/
theorem hamt_removed_refines (hl : LawfulHash h) {H : Heap K V} {m : Addr} {a : Hamt K V} {fp : List Addr}
    (habs : absHamt H m = some (a, fp)) (htree : fp.Nodup) (hinv : Hamt.Inv h a) (ks : List K) :
    ∃ a' m' H' fp', a.removed h ks = .ok a' ∧ Hamt.Inv h a' ∧ hamtRemoved h m ks H = .ok (m', H') ∧
      absHamt H' m' = some (a', fp') ∧ fp'.Nodup ∧ Heap.le H H' ∧ ∀ x ∈ fp', x ∈ fp ∨ H.size ≤ x := by
  obtain ⟨a', h1, h2, _⟩ := Hamt.removed_spec hl ks hinv
  obtain ⟨m', H', h3, fp', h4, h5, h6, h7⟩ := hamtRemoved_sim h ks habs htree _ h1
  exact ⟨a', m', H', fp', h1, h2, h3, h4, h5, h6.to_le, h7⟩

/-- `Concat`, `UpdatedWith`, `Diff` / `Intersect` and the constructors refine their value-level loops
    (`PRes H fps x a'`: `x` run in `H` returns a `*hamt` representing `a'` as a tree, the heap only
    grew, and the result's footprint is made of cells of `fps` and new cells). -/
theorem composite_ops_refine (hl : LawfulHash h) {H : Heap K V} {m mj : Addr} {a aj : Hamt K V} {fp fpj : List Addr}
    (habs : absHamt H m = some (a, fp)) (htree : fp.Nodup) (hinv : Hamt.Inv h a)
    (habsj : absHamt H mj = some (aj, fpj)) (hinvj : Hamt.Inv h aj) :
    (∀ kvs, ∃ a', kvs.foldlM (fun (ret : Hamt K V) kv => ret.set h kv.1 kv.2 false) a = .ok a' ∧ Hamt.Inv h a' ∧
        PRes H fp (hamtConcat h m kvs) a') ∧
    (∀ k remap, ∃ a', Hamt.updatedWith h a k remap = .ok a' ∧ Hamt.Inv h a' ∧
        PRes H fp (hamtUpdatedWith h m k remap) a') ∧
    (∀ neg tt, ∃ a', Hamt.filterInto h a aj neg tt = .ok a' ∧ Hamt.Inv h a' ∧
        PRes H [] (hamtFilterInto h m mj neg tt) a') ∧
    (∀ t, ∃ a', Hamt.ofList h t = .ok a' ∧ Hamt.Inv h a' ∧ PRes H [] (hamtOfList h t) a') := by
  refine ⟨fun kvs => ?_, fun k remap => ?_, fun neg tt => ?_, fun t => hamtOfList_sim hl t H⟩
  · obtain ⟨a', h1, h2⟩ := concat_ok hl kvs hinv
    exact ⟨a', h1, h2, hamtConcat_sim h kvs habs htree _ h1⟩
  · obtain ⟨a', h1, h2⟩ := updatedWith_ok hl hinv k remap
    exact ⟨a', h1, h2, hamtUpdatedWith_sim h habs htree k remap _ h1⟩
  · obtain ⟨a', h1, h2⟩ := filterInto_ok hl hinv hinvj neg tt
    exact ⟨a', h1, h2, hamtFilterInto_sim h habs habsj neg tt _ h1⟩

-- ═══ PERSISTENCE over arbitrary branching histories ════════════════════════════════════════════════

/-- **Every older version stays intact.**  Run any history `ops₁`, then any further history `ops₂`
    (each step of either may use ANY version produced so far, and the builders — also after `Build`).
    Every collection that existed after `ops₁` is still the same pointer and shows, in the final heap,
    exactly the well-formed value-level map it showed then. -/
theorem every_version_stays_intact (hl : LawfulHash h) (ops₁ ops₂ : List (HamtHeap.Op K V)) (i : Nat)
    (hi : i < (World.run h ops₁ ({} : World K V)).vers.length) :
    (World.run h (ops₁ ++ ops₂) ({} : World K V)).vers[i]? = (World.run h ops₁ ({} : World K V)).vers[i]? ∧
    (World.run h (ops₁ ++ ops₂) ({} : World K V)).absV i = (World.run h ops₁ ({} : World K V)).absV i ∧
    ∃ a, (World.run h ops₁ ({} : World K V)).absV i = some a ∧ Hamt.Inv h a := by
  obtain ⟨hinv1, _⟩ := run_inv hl ops₁ (WInv.init h (V := V))
  obtain ⟨_, hint⟩ := run_inv hl ops₂ hinv1
  rw [run_append]
  obtain ⟨h1, h2⟩ := hint.absV hi
  exact ⟨h1, h2, hinv1.absV_some hi⟩

/-- The invariant behind it, after every history: every collection handed out is represented as a
    tree by a well-formed trie; a builder that still updates in place reaches only cells it allocated
    itself, none of which is reachable from any collection handed out or from the other builder. -/
theorem history_invariant (hl : LawfulHash h) (ops : List (HamtHeap.Op K V)) :
    WInv h (World.run h ops ({} : World K V)) := (run_inv hl ops (WInv.init h)).1

/-- One step, seen from the value model: in any reachable world, `vers[i].Updated(k, v)` is a new
    version that shows `Hamt.set` of what version `i` shows (and version `i` keeps showing the same). -/
theorem step_updated_refines (hl : LawfulHash h) (ops : List (HamtHeap.Op K V)) (i : Nat) (k : K) (v : V)
    (hi : i < (World.run h ops ({} : World K V)).vers.length) :
    ∃ W' a a', (World.run h ops ({} : World K V)).step h (.updated i k v) = .ok W' ∧
      (World.run h ops ({} : World K V)).absV i = some a ∧ a.set h k v false = .ok a' ∧
      W'.vers.length = (World.run h ops ({} : World K V)).vers.length + 1 ∧
      W'.absV (World.run h ops ({} : World K V)).vers.length = some a' ∧ W'.absV i = some a := by
  obtain ⟨hW, _⟩ := run_inv hl ops (WInv.init h (V := V))
  generalize World.run h ops ({} : World K V) = W at hi hW
  have hm : W.vers[i]? = some W.vers[i] := List.getElem?_eq_getElem hi
  obtain ⟨a, fp, habs, hnd, hinv⟩ := hW.vers _ (List.getElem_mem hi)
  obtain ⟨a', h1, hi1, _⟩ := Hamt.set_spec hl hinv k v false
  obtain ⟨W', hc, hW', hint, m', hv', ha'⟩ := hW.call (hamtUpdated_sim h habs hnd k v _ h1) hi1
    (fun y hy => ⟨W.vers[i], List.getElem_mem hi, by rw [fpOf_eq habs]; exact hy⟩)
  have hai : W.absV i = some a := by unfold World.absV; rw [hm]; simp [habs]
  refine ⟨W', a, a', ?_, hai, h1, by rw [hv']; simp, ?_, ?_⟩
  · simp only [World.step, World.ver, hm, bind, Except.bind]
    exact hc
  · unfold World.absV
    rw [hv', List.getElem?_append_right (Nat.le_refl _)]
    simpa using ha'
  · rw [(hint.absV hi).2, hai]

-- ═══ (b) BUILDERS ══════════════════════════════════════════════════════════════════════════════════

/-- **Ownership.**  In any reachable world, an `Add` of the MapBuilder changes only old cells that (1)
    are reachable from the builder's own trie, (2) were allocated by this builder's own calls
    (`mbOwned`: the header from `MapBuilder(…)` and whatever its `Add`s allocated), and (3) are not
    reachable from ANY collection ever handed out. -/
theorem mapBuilder_writes_only_its_own_cells (hl : LawfulHash h) (ops : List (HamtHeap.Op K V)) (k : K) (v : V)
    {W' : World K V} (hs : (World.run h ops ({} : World K V)).step h (.mbAdd k v) = .ok W')
    (p : Addr) (hp : p < (World.run h ops ({} : World K V)).heap.size)
    (hchanged : W'.heap[p]? ≠ (World.run h ops ({} : World K V)).heap[p]?) :
    p ∈ (World.run h ops ({} : World K V)).mbOwned ∧
    ∀ m ∈ (World.run h ops ({} : World K V)).vers, p ∉ fpOf (World.run h ops ({} : World K V)).heap m := by
  have hW := (run_inv hl ops (WInv.init h (V := V))).1
  obtain ⟨-, -, heff⟩ := hW.step hl _ hs
  exact hW.writes_mbAdd (heff.mem_of_ne hp hchanged)

/-- The same for the SetBuilder as the code is NOW (field `shared`): before the first `Build` an `Add`
    changes only old cells the builder allocated itself and nobody else reaches; after `Build` it
    changes NO old cell at all (it updates persistently). -/
theorem setBuilder_writes_only_its_own_cells (hl : LawfulHash h) (ops : List (HamtHeap.Op K V)) (k : K) (tt : V)
    {W' : World K V} (hs : (World.run h ops ({} : World K V)).step h (.sbAdd k tt) = .ok W')
    (p : Addr) (hp : p < (World.run h ops ({} : World K V)).heap.size)
    (hchanged : W'.heap[p]? ≠ (World.run h ops ({} : World K V)).heap[p]?) :
    ∃ b, (World.run h ops ({} : World K V)).sb = some b ∧ b.shared = false ∧
      p ∈ (World.run h ops ({} : World K V)).sbOwned ∧
      ∀ m ∈ (World.run h ops ({} : World K V)).vers, p ∉ fpOf (World.run h ops ({} : World K V)).heap m := by
  have hW := (run_inv hl ops (WInv.init h (V := V))).1
  obtain ⟨-, -, heff⟩ := hW.step hl _ hs
  exact hW.writes_sbAdd (heff.mem_of_ne hp hchanged)

/-- **A collection handed out by `Build` is never changed by later use of the builder**: whatever
    happens after the `Build` (more `Add`s, more `Build`s, anything else), the Set / Map it returned
    keeps showing the same contents. (Instance of `every_version_stays_intact`.) -/
theorem built_collection_never_changes (hl : LawfulHash h) (before after : List (HamtHeap.Op K V)) (build : HamtHeap.Op K V)
    (hb : build = .sbBuild ∨ build = .mbBuild) (i : Nat)
    (hi : i < (World.run h (before ++ [build]) ({} : World K V)).vers.length) :
    (World.run h ((before ++ [build]) ++ after) ({} : World K V)).absV i =
      (World.run h (before ++ [build]) ({} : World K V)).absV i :=
  (every_version_stays_intact hl (before ++ [build]) after i hi).2.1

/-- MapBuilder: valid use only — after `Build` the builder is invalid, `Add` and a second `Build`
    panic (and therefore change nothing). -/
theorem mapBuilder_invalid_after_build (W : World K V) (m : Addr) (hmb : W.mb = some ⟨some m⟩) :
    ∃ W', W.step h .mbBuild = .ok W' ∧ W'.heap = W.heap ∧ W'.vers = W.vers ++ [m] ∧
      (∀ k v, W'.step h (.mbAdd k v) = .error "immutable.MapBuilder: builder invalid after Build() invocation") ∧
      W'.step h .mbBuild = .error "immutable.SortedMapBuilder.Build(): duplicate call to fetch map" := by
  refine ⟨{ W with mb := some ⟨none⟩, vers := W.vers ++ [m] }, ?_, rfl, rfl, fun k v => rfl, rfl⟩
  unfold World.step
  rw [hmb]; rfl

-- the NEGATIVE result: the SetBuilder as it was before commit 5a0c6c4 ------------------------------------

/-- **Before the fix the property is FALSE**: `Add` after `Build` (`r.m.set(v, true, true)` on the
    `*hamt` the built Set holds) changes the Set that was handed out — here the empty Set `s`
    (version 0) has one element afterwards — while the code as it is now leaves it empty. -/
theorem setBuilder_before_fix_changes_built_set :
    (builtEmpty.absV 0).map (·.size) = some 0 ∧
    ((builtEmpty.sbAddOld natHasher 7 true).toOption.bind (·.absV 0)).map (·.size) = some 1 ∧
    ((builtEmpty.run natHasher [.sbAdd 7 true]).absV 0).map (·.size) = some 0 := by decide

/-- … and it also corrupts collections DERIVED from the built Set (children are shared): with the old
    code `b.Add(5)` after `Build` makes `s` show 3 elements instead of 2. -/
theorem setBuilder_before_fix_changes_derived_state :
    (builtTwo.absV 0).map (·.size) = some 2 ∧ (builtTwo.absV 1).map (·.size) = some 3 ∧
    ((builtTwo.sbAddOld natHasher 5 true).toOption.bind (·.absV 0)).map (·.size) = some 3 ∧
    ((builtTwo.run natHasher [.sbAdd 5 true]).absV 0).map (·.size) = some 2 := by decide

-- ═══ the hypotheses are satisfiable, the statements are not vacuous ══════════════════════════════════

/-- the hasher of the witnesses is lawful -/
example : LawfulHash natHasher := FpVerif.Spec.C03.lawful_of_eq _

/-- the history runs: 25 versions; version 19 shows 20 keys, version 21 (two deletions) 18, the Diff 3
    and the built Map 2 — and path copying really shares (far fewer cells than 25 separate tries) -/
example :
    let W := World.run natHasher sampleHistory {}
    W.vers.length = 25 ∧ (W.absV 19).map (·.size) = some 20 ∧ (W.absV 21).map (·.size) = some 18 ∧
    (W.absV 22).map (·.size) = some 3 ∧ (W.absV 23).map (·.size) = some 2 ∧ W.heap.size < 25 * 20 := by
  decide +kernel

end FpVerif.Spec.C04Hamt
