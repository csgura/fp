import FpVerif.Model.EvalStack
import FpVerif.Lemmas.EvalStack
import FpVerif.Spec.C16
/-!
# C16 (stack part) — tail calls run in constant call depth; what nests and what does not

`Model/EvalStack.lean` instruments the model of lazy.Eval with call frames.  Here:
(d) the instrumentation erases to `Model/Eval.lean` (so all of `Spec/C16` transfers),
(a) tail-recursive programs run in depth ≤ constant + depth of the user functions, for every n,
(b) the same recursion through `Call(… .Get())` needs depth 8·n,
(c) FlatMap: a continuation costs one frame per *pending* FlatMap (left nesting grows linearly, exactly),
    right nesting and recursion in continuation position are constant.
The bound of (a) comes after (c), under (a'): it is proved for every `TailProg`, which covers the constant cases of (c)
too; under (a) there is only its exactness.  (d) for whole program trees (`faithful_stack`) is at the end.
-/
namespace FpVerif.Spec.C16Stack
open FpVerif FpVerif.EvalStack FpVerif.EvalStack.Cost

variable {T : Type} [Inhabited T]

-- (d) erasure -----------------------------------------------------------------------------------------

/-- The instrumented `Run` computes the same value and the same events in the same order as the
    uninstrumented model on the erased program. -/
theorem runBody_erase (e : SEval T) : (runBody e).erase = EvalM.run (erase e) := by
  induction e with
  | leaf first =>
    have := callFirst_erase first
    simp only [erase_eq] at this
    simp [runBody, EvalStack.erase, EvalM.run, erase_eq, ← this]
  | cont first nextC next ih =>
    have h := callFirst_erase first
    simp only [erase_eq] at h
    have ih' := ih (EvalStack.callFirst first).val
    simp only [erase_eq] at ih'
    simp [runBody, EvalStack.erase, EvalM.run, erase_eq, ← h, ← ih', List.append_assoc]

/-- (d) `EvalStack.run e = (EvalM.run (erase e), depth)`: value and log of `lazy.Run(e)` -/
theorem run_erase (e : SEval T) : (EvalStack.run e).erase = EvalM.run (erase e) := by
  rw [← runBody_erase]; simp [EvalStack.run, erase_eq]

theorem get_erase (e : SEval T) : (EvalStack.get e).erase = EvalM.run (erase e) := by
  rw [← run_erase]; simp [EvalStack.get, erase_eq]

-- depth of one evaluation -----------------------------------------------------------------------------

/-- `Call(f)`: `Resume` → `mf` → `Do` → `doSlow` → `func1.1` → `f`: the user function runs 6 frames above `Run` -/
theorem peak_runBody_callE (f : Unit → Cost T) : (runBody (callE f)).peak = 6 + (f ()).peak := by
  simp [runBody, callE, EvalStack.callFirst, memoBody, onceDo]; omega

/-- `TailCall(f)`: the thunk `f` runs 7 frames above `Run`, and the `Eval` it returns is run by the SAME loop
    in the SAME frame (`max`, not `+`): this is the whole point of the trampoline. -/
theorem peak_runBody_tailCall (f : Unit → Cost (SEval T)) :
    (runBody (tailCall f)).peak = max (7 + (f ()).peak) (runBody (f ()).val).peak := by
  simp [tailCall, peak_runBody_cont, EvalStack.callFirst, memoBody, onceDo]; omega

theorem peak_runBody_tailCallN (f : Unit → Cost (SEval T)) :
    (runBody (tailCallN f)).peak = max (8 + (f ()).peak) (runBody (f ()).val).peak := by
  rw [tailCallN, peak_runBody_tailCall, peak_call, val_call, ← Nat.add_assoc, Nat.add_right_comm]

-- (a) tail recursion ------------------------------------------------------------------------------------

/-- the bound `8 + K` of `tailLoop_runBody_bounded` (below) is attained by `TailCallN` as soon as there is one step -/
theorem tailLoop_depth_exact (u : Nat → T → Cost T) (K : Nat)
    (hK : ∀ i a, (u i a).peak = K) (n : Nat) (acc : T) :
    (runBody (tailLoop false u (n + 1) acc)).peak = 7 + K
    ∧ (runBody (tailLoop true u (n + 1) acc)).peak = 8 + K := by
  induction n generalizing acc with
  | zero =>
    have h1 := hK 1 acc
    simp [tailLoop, tc, peak_runBody_tailCall, peak_runBody_tailCallN, peak_runBody_done, h1]; omega
  | succ n ih =>
    have h1 := hK (n + 2) acc
    have h2 := ih (u (n + 2) acc).val
    constructor
    · rw [tailLoop]; simp [tc, peak_runBody_tailCall, h1, h2]
    · rw [tailLoop]; simp [tc, peak_runBody_tailCallN, h1, h2]

-- (b) the contrast: recursion that is NOT in tail position ------------------------------------------------

/-- (b) The same recursion written `Call(func() T { …; return loop(n-1).Get() })` nests a whole run loop per
    level: `Resume`, `mf`, `Do`, `doSlow`, `func1.1`, `f`, `Get`, `Run` = 8 frames per level, for every user code. -/
theorem callLoop_depth_ge (u : Nat → T → Cost T) (post : T → T) (n : Nat) (acc : T) :
    8 * n + 6 ≤ (runBody (callLoop u post n acc)).peak := by
  induction n generalizing acc with
  | zero => simp [callLoop, peak_runBody_callE]
  | succ n ih =>
    have := ih (u (n + 1) acc).val
    simp [callLoop, peak_runBody_callE, peak_get]; omega

/-- … and not more than that: the growth is linear with slope exactly 8. -/
theorem callLoop_depth_le (u : Nat → T → Cost T) (post : T → T) (K : Nat) (hK : ∀ i a, (u i a).peak ≤ K)
    (n : Nat) (acc : T) :
    (runBody (callLoop u post n acc)).peak ≤ 8 * n + 6 + K := by
  induction n generalizing acc with
  | zero => have := hK 0 acc; simp [callLoop, peak_runBody_callE]; omega
  | succ n ih =>
    have := ih (u (n + 1) acc).val
    have := hK (n + 1) acc
    simp [callLoop, peak_runBody_callE, peak_get]; omega

theorem callLoop_depth_unbounded (u : Nat → T → Cost T) (post : T → T) (acc : T) (B : Nat) :
    ∃ n, B < (EvalStack.run (callLoop u post n acc)).peak := by
  refine ⟨B, ?_⟩
  have := callLoop_depth_ge u post B acc
  simp [EvalStack.run]; omega

/-- (b) at the level the harness measures: if every level of the non-tail recursion logs once in its own frame,
    the logged frames are at depths 6, 14, 22, …, 6 + 8·n above `Run` (slope 8, as measured). -/
theorem callLoop_event_depths (u : Nat → T → Cost T) (post : T → T)
    (h1 : ∀ i a, (u i a).log.map Prod.snd = [0]) (n : Nat) (acc : T) :
    (runBody (callLoop u post n acc)).log.map Prod.snd = (List.range (n + 1)).map (fun i => 8 * i + 6) := by
  have hb : ∀ (k : Nat) (l : List DEvent), (bump k l).map Prod.snd = (l.map Prod.snd).map (· + k) := by
    intro k l; simp [bump, List.map_map, Function.comp_def]
  induction n generalizing acc with
  | zero => rw [callLoop, log_runBody_callE, hb, h1]; rfl
  | succ n ih =>
    have h := h1 (n + 1) acc
    have ih' := ih (u (n + 1) acc).val
    rw [callLoop, log_runBody_callE, hb]
    simp only [log_bind, log_pure, List.append_nil, List.map_append, EvalStack.get, EvalStack.run, log_call, hb, h, ih']
    rw [List.range_succ_eq_map (n := n + 1)]
    simp [List.map_map, Function.comp_def]
    intro a _; omega

/-- The defect the model must be able to express: a `TailCall` implemented as `Call(func() T { return f().Get() })`
    makes the tail loop nest a run loop per step — depth ≥ 8·n instead of ≤ 8 + K. -/
theorem nestLoop_depth_ge (u : Nat → T → Cost T) (n : Nat) (acc : T) :
    8 * n + 2 ≤ (runBody (nestLoop u n acc)).peak := by
  induction n generalizing acc with
  | zero => simp [nestLoop, peak_runBody_done]
  | succ n ih =>
    have := ih (u (n + 1) acc).val
    simp [nestLoop, tailCallViaGet, peak_runBody_callE, peak_get]; omega

-- (c) FlatMap ---------------------------------------------------------------------------------------------

/-- (c) What `FlatMap` costs: a continuation attached to `r` makes `r`'s own steps ONE frame deeper (the wrapper
    closure `func(value) { return getNextFunc(value).FlatMap(f) }`), and then `f`'s result is run by the same loop
    at the same level.  So the depth is governed by the number of PENDING continuations, not by the length of
    the computation. -/
theorem flatMap_peak_le_of (r : SEval T) (f : T → Cost (SEval T)) (B : Nat)
    (h1 : (runBody r).peak + 1 ≤ B) (h2 : 2 + (f (runBody r).val).peak ≤ B)
    (h3 : (runBody (f (runBody r).val).val).peak ≤ B) : (runBody (flatMap r f)).peak ≤ B := by
  induction r with
  | leaf first =>
    rw [peak_runBody_leaf] at h1
    rw [val_runBody_leaf] at h2 h3
    rw [flatMap, peak_runBody_cont_le]
    exact ⟨by omega, by rw [peak_void]; omega, h3⟩
  | cont first nextC next ih =>
    rw [val_runBody_cont] at h2 h3
    have h1' : (runBody (.cont first nextC next)).peak ≤ B - 1 := by omega
    rw [peak_runBody_cont_le] at h1'
    rw [flatMap, peak_runBody_cont_le]
    refine ⟨by omega, ?_, ih _ (by omega) h2 h3⟩
    simp only [peak_bind, peak_call, peak_pure]
    omega

theorem flatMap_peak_ge (r : SEval T) (f : T → Cost (SEval T)) :
    max (runBody r).peak (max (2 + (f (runBody r).val).peak) (runBody (f (runBody r).val).val).peak)
      ≤ (runBody (flatMap r f)).peak :=
  have h := le_of_flatMap_peak_le r f _ (Nat.le_refl _)
  Nat.max_le.mpr ⟨h.1, Nat.max_le.mpr h.2⟩

/-- Right-nested chains `Done(v).FlatMap(func(w) { …; return rc(n-1, …) })` run in constant depth, for every n. -/
theorem rchain_depth_bounded (k : Nat → T → Cost T) (K : Nat) (hK : ∀ i a, (k i a).peak ≤ K) (n : Nat) (v : T) :
    (runBody (rchain k n v)).peak ≤ 3 + K := by
  induction n generalizing v with
  | zero => simp [rchain, peak_runBody_done]; omega
  | succ n ih =>
    have h1 := hK (n + 1) v
    rw [rchain]
    refine flatMap_peak_le_of _ _ _ (by rw [peak_runBody_done]; omega) ?_ (ih (k (n + 1) v).val)
    simp only [val_runBody_leaf, done, callFirst, val_call, val_pure, peak_bind, peak_pure]
    omega

/-- (c) Left-nested chains DO grow the stack in the real code, one frame per pending `FlatMap`:
    the first continuation of a chain of length `n` on a leaf runs `n + 1` frames above `Run`.  For every `k`. -/
theorem lchain_depth_ge (k : Nat → T → Cost (SEval T)) (first : Option (Unit → Cost T)) (n : Nat) :
    n + 1 ≤ (runBody (lchain k n (.leaf first))).peak := by
  cases n with
  | zero => cases first <;> simp [lchain, peak_runBody_leaf, callFirst]
  | succ n =>
    obtain ⟨nC, nx, h, hp⟩ := lchain_leaf k first n
    have := hp (callFirst first).val
    rw [h, peak_runBody_cont]; omega

/-- … and exactly linearly: with continuations of depth ≤ K whose results run in depth ≤ R, a chain of length `n`
    on `e` needs at most `n` frames more than `e`, the continuations and their results. -/
theorem lchain_depth_le (k : Nat → T → Cost (SEval T)) (K R : Nat)
    (hK : ∀ i a, (k i a).peak ≤ K ∧ (runBody (k i a).val).peak ≤ R) (e : SEval T) (n : Nat) :
    (runBody (lchain k n e)).peak ≤ max (runBody e).peak (max (2 + K) R) + n := by
  have h0 : (runBody e).peak ≤ max (runBody e).peak (max (2 + K) R) := Nat.le_max_left _ _
  have h1 : 2 + K ≤ max (runBody e).peak (max (2 + K) R) := Nat.le_trans (Nat.le_max_left _ _) (Nat.le_max_right _ _)
  have h2 : R ≤ max (runBody e).peak (max (2 + K) R) := Nat.le_trans (Nat.le_max_right _ _) (Nat.le_max_right _ _)
  generalize max (runBody e).peak (max (2 + K) R) = M at h0 h1 h2 ⊢
  induction n with
  | zero => exact h0
  | succ n ih =>
    have h := hK (n + 1) (runBody (lchain k n e)).val
    rw [lchain]
    exact flatMap_peak_le_of _ _ _ (by omega) (by omega) (by omega)

omit [Inhabited T] in
/-- `e.Map(f 1)….Map(f n)` is a left-nested chain too (`Map` is `FlatMap`): depth grows with the height of the tower -/
theorem mapTower_eq_lchain (f : Nat → T → Cost T) (n : Nat) (e : SEval T) :
    mapTower f n e = lchain (fun j v => call (f j v) >>= fun w => call (pure (done w))) n e := by
  induction n with
  | zero => rfl
  | succ n ih => simp [mapTower, lchain, map, ih]

theorem mapTower_depth_ge (f : Nat → T → Cost T) (first : Option (Unit → Cost T)) (n : Nat) :
    n + 1 ≤ (runBody (mapTower f n (.leaf first))).peak := by
  rw [mapTower_eq_lchain]; exact lchain_depth_ge _ first n

omit [Inhabited T] in
/-- `Map2(Map2(…), b, g)` nested on the left is a left-nested `FlatMap` chain as well -/
theorem map2Left_eq_lchain (b : SEval T) (g : Nat → T → T → Cost T) (n : Nat) (e : SEval T) :
    map2Left b g n e
      = lchain (fun j v1 => call (call (pure ())) >>= fun _ => pure (map b (fun v2 => call (g j v1 v2)))) n e := by
  induction n with
  | zero => rfl
  | succ n ih => simp [map2Left, lchain, map2, ih]

theorem map2Left_depth_ge (b : SEval T) (g : Nat → T → T → Cost T) (first : Option (Unit → Cost T)) (n : Nat) :
    n + 1 ≤ (runBody (map2Left b g n (.leaf first))).peak := by
  rw [map2Left_eq_lchain]; exact lchain_depth_ge _ first n

-- (a') every program whose recursive calls are in tail position ---------------------------------------------

/-- Programs in which everything that follows a step is handed back to the run loop: leaves (`Done`, `Call`, the
    zero value), `TailCall`/`TailCallN` of a thunk that returns such a program, and `leaf.FlatMap(k)` where `k`
    returns such a program (recursion in continuation position).  `K` bounds the depth of the user functions.
    The predicate follows the path the evaluation takes; it says nothing about `n`. -/
inductive TailProg (K : Nat) : SEval T → Prop where
  | leaf (first : Option (Unit → Cost T)) (h : (callFirst first).peak ≤ 5 + K) : TailProg K (.leaf first)
  | tailCall (f : Unit → Cost (SEval T)) (h : (f ()).peak ≤ K) (ht : TailProg K (f ()).val) :
      TailProg K (tailCall f)
  | tailCallN (f : Unit → Cost (SEval T)) (h : (f ()).peak ≤ K) (ht : TailProg K (f ()).val) :
      TailProg K (tailCallN f)
  | bind (first : Option (Unit → Cost T)) (k : T → Cost (SEval T)) (h : (callFirst first).peak ≤ 5 + K)
      (hk : (k (callFirst first).val).peak ≤ K) (ht : TailProg K (k (callFirst first).val).val) :
      TailProg K (flatMap (.leaf first) k)

/-- (a, general form) Every tail program runs in call depth ≤ 8 + K above `Run`'s frame — whatever its length. -/
theorem tailProg_depth_bounded (K : Nat) (e : SEval T) (h : TailProg K e) : (runBody e).peak ≤ 8 + K := by
  induction h with
  | leaf first h => rw [peak_runBody_leaf]; omega
  | tailCall f h _ ih => rw [peak_runBody_tailCall]; exact Nat.max_le.mpr ⟨by omega, ih⟩
  | tailCallN f h _ ih => rw [peak_runBody_tailCallN]; exact Nat.max_le.mpr ⟨by omega, ih⟩
  | bind first k h hk _ ih =>
    rw [flatMap, peak_runBody_cont_le]
    exact ⟨by omega, by rw [peak_void]; omega, ih⟩

/-- a continuation attached to a whole tail program costs one more frame, not one per step -/
theorem tailProg_flatMap_depth_bounded (K : Nat) (e : SEval T) (h : TailProg K e) (f : T → Cost (SEval T))
    (hf : (f (runBody e).val).peak ≤ K) (hr : (runBody (f (runBody e).val).val).peak ≤ 9 + K) :
    (runBody (flatMap e f)).peak ≤ 9 + K := by
  have := tailProg_depth_bounded K e h
  exact flatMap_peak_le_of e f _ (by omega) (by omega) hr

theorem tailProg_done (K : Nat) (t : T) : TailProg K (done t) :=
  .leaf _ (by simp [callFirst]; omega)

theorem tailProg_callE (K : Nat) (f : Unit → Cost T) (h : (f ()).peak ≤ K) : TailProg K (callE f) :=
  .leaf _ (by simp [callFirst, memoBody, onceDo]; omega)

theorem tailLoop_tailProg (viaN : Bool) (u : Nat → T → Cost T) (K : Nat) (hK : ∀ i a, (u i a).peak ≤ K)
    (n : Nat) (acc : T) : TailProg K (tailLoop viaN u n acc) := by
  induction n generalizing acc with
  | zero => exact tailProg_done K acc
  | succ n ih =>
    have h1 := hK (n + 1) acc
    cases viaN
    · exact .tailCall _ (by simpa using h1) (by simpa using ih _)
    · exact .tailCallN _ (by simpa using h1) (by simpa using ih _)

theorem tailLoop_runBody_bounded (viaN : Bool) (u : Nat → T → Cost T) (K : Nat)
    (hK : ∀ i a, (u i a).peak ≤ K) (n : Nat) (acc : T) :
    (runBody (tailLoop viaN u n acc)).peak ≤ 8 + K :=
  tailProg_depth_bounded K _ (tailLoop_tailProg viaN u K hK n acc)

/-- (a) The tail-recursive loop runs in call depth ≤ 9 + (depth of the user's step function), for EVERY `n`:
    `Run` (1) + closure of `Resume`, `getNextFunc`, `mf`, `Do`, `doSlow`, `func1.1`, [`TailCallN`'s closure], `f` (8). -/
theorem tailLoop_depth_bounded (viaN : Bool) (u : Nat → T → Cost T) (K : Nat)
    (hK : ∀ i a, (u i a).peak ≤ K) (n : Nat) (acc : T) :
    (EvalStack.run (tailLoop viaN u n acc)).peak ≤ 9 + K
    ∧ (EvalStack.get (tailLoop viaN u n acc)).peak ≤ 10 + K := by
  have := tailLoop_runBody_bounded viaN u K hK n acc
  simp [EvalStack.run, EvalStack.get]; omega

theorem rchain_tailProg (k : Nat → T → Cost T) (K : Nat) (hK : ∀ i a, (k i a).peak ≤ K) (n : Nat) (v : T) :
    TailProg K (rchain k n v) := by
  induction n generalizing v with
  | zero => exact tailProg_done K v
  | succ n ih =>
    refine .bind _ _ (by simp [callFirst]; omega) ?_ ?_
    · simpa [callFirst] using hK (n + 1) v
    · simpa [callFirst] using ih _

/-- monadic tail recursion (the recursive call in the continuation of a `FlatMap` on `Done`, under `TailCall`) is a
    tail program: constant depth -/
theorem tailFlat_tailProg (u : Nat → T → Cost T) (K : Nat) (hK : ∀ i a, (u i a).peak ≤ K) (n : Nat) (acc : T) :
    TailProg (1 + K) (tailFlat u n acc) := by
  induction n generalizing acc with
  | zero => exact tailProg_done _ acc
  | succ n ih =>
    refine .tailCall _ (by simp) ?_
    refine .bind _ _ (by simp [callFirst]; omega) ?_ ?_
    · have := hK (n + 1) acc; simp [callFirst]; omega
    · simpa [callFirst] using ih _

theorem tailFlat_depth_bounded (u : Nat → T → Cost T) (K : Nat) (hK : ∀ i a, (u i a).peak ≤ K) (n : Nat) (acc : T) :
    (runBody (tailFlat u n acc)).peak ≤ 9 + K := by
  have := tailProg_depth_bounded _ _ (tailFlat_tailProg u K hK n acc); omega

-- non-vacuity
example : TailProg 0 (tailLoop true (fun _ (a : Nat) => pure (a + 1)) 1000 0) :=
  tailLoop_tailProg _ _ 0 (fun _ _ => by simp) _ _
example : (runBody (tailLoop false (fun _ (a : Nat) => pure (a + 1)) 3 0)).peak = 7 := by decide +kernel
example : (runBody (tailLoop false (fun _ (a : Nat) => pure (a + 1)) 30 0)).peak = 7 := by decide +kernel
example : (runBody (callLoop (fun _ (a : Nat) => pure (a + 1)) id 3 0)).peak = 30 := by decide +kernel
example : (runBody (nestLoop (fun _ (a : Nat) => pure (a + 1)) 3 0)).peak = 26 := by decide +kernel
example : (runBody (lchain (fun _ (a : Nat) => pure (done (a + 1))) 5 (done 0))).peak = 6 := by decide +kernel
example : (runBody (rchain (fun _ (a : Nat) => pure (a + 1)) 5 0)).peak = 2 := by decide +kernel

-- what the harness measures: the depth of the user frames that log -------------------------------------------

/-- Every step of the tail loop runs its user function at the SAME depth (7 frames above `Run` for `TailCall`,
    8 for `TailCallN`), for every `n`: this is literally what the direct check of the harness observes
    (`runtime.Callers` inside the step function: min = max, equal for n = 30 and n = 3000). -/
theorem tailLoop_event_depths (viaN : Bool) (u : Nat → T → Cost T)
    (h0 : ∀ i a, ∀ p ∈ (u i a).log, p.2 = 0) (n : Nat) (acc : T) :
    ∀ p ∈ (runBody (tailLoop viaN u n acc)).log, p.2 = if viaN then 8 else 7 := by
  induction n generalizing acc with
  | zero => intro p hp; simp [tailLoop, runBody, done, callFirst] at hp
  | succ n ih =>
    intro p hp
    rw [tailLoop, log_runBody_tc] at hp
    simp [bump] at hp
    rcases hp with ⟨a, b, hab, rfl⟩ | hp
    · have := h0 _ _ _ hab; simp at this ⊢; omega
    · simpa using ih _ p hp

/-- hereditarily: every user function of the program logs below its own peak -/
def WFE : SEval T → Prop
  | .leaf first => ∀ f, first = some f → WF (f ())
  | .cont first nextC next => (∀ f, first = some f → WF (f ())) ∧ ∀ v, WF (nextC v) ∧ WFE (next v)

/-- The maximal depth the model reports dominates the depth of every frame that logged: an upper bound on `peak`
    (theorems above) is an upper bound on everything the harness can measure. -/
theorem runBody_wf (e : SEval T) (h : WFE e) : WF (runBody e) := by
  induction e with
  | leaf first => exact wf_call (wf_callFirst first h)
  | cont first nextC next ih =>
    obtain ⟨h1, h2⟩ := h
    rw [runBody]
    refine wf_bind (wf_bind (wf_call (wf_pure _)) (wf_call (wf_bind (wf_callFirst first h1) ?_))) (ih _ (h2 _).2)
    exact wf_bind (wf_call (h2 _).1) (wf_pure _)

omit [Inhabited T] in
theorem wfe_flatMap (r : SEval T) (f : T → Cost (SEval T)) (hr : WFE r) (hf : ∀ v, WF (f v) ∧ WFE (f v).val) :
    WFE (flatMap r f) := by
  induction r with
  | leaf first => exact ⟨hr, fun v => ⟨wf_void (hf v).1, (hf v).2⟩⟩
  | cont first nextC next ih =>
    obtain ⟨h1, h2⟩ := hr
    exact ⟨h1, fun v => ⟨wf_bind (wf_call (h2 v).1) (wf_call (wf_pure _)), ih v (h2 v).2⟩⟩

omit [Inhabited T] in
theorem wfe_done (t : T) : WFE (done t) := by
  intro f hf; cases hf; exact wf_pure _

omit [Inhabited T] in
theorem wfe_callE (f : Unit → Cost T) (h : WF (f ())) : WFE (callE f) := by
  intro g hg; cases hg; exact wf_call (wf_call (wf_call (wf_call h)))

theorem wfe_tailCall (f : Unit → Cost (SEval T)) (h : WF (f ())) (hv : WFE (f ()).val) : WFE (tailCall f) := by
  refine ⟨fun g hg => by cases hg; exact wf_pure _, fun _ => ⟨?_, hv⟩⟩
  exact wf_call (wf_call (wf_call (wf_call (wf_call (wf_void h)))))

-- the loop -----------------------------------------------------------------------------------------------------

/-- `Run`'s `for` loop (with an iteration budget) does exactly what `runBody` says, after what came before it in the
    same frame: same value, same log with the same depths, same peak — for every budget ≥ `steps e`. -/
theorem runLoop_spec (e : SEval T) (acc : Cost Unit) (n : Nat) (h : steps e ≤ n) :
    runLoop n e acc = some ⟨(runBody e).val, acc.log ++ (runBody e).log, max acc.peak (runBody e).peak⟩ := by
  induction e generalizing n acc with
  | leaf first =>
    cases n with
    | zero => simp [steps] at h
    | succ n =>
      simp only [runLoop, iter, resume, val_bind, val_call, val_pure, log_bind, log_call, log_pure, List.append_nil,
        peak_bind, peak_call, peak_pure, Nat.zero_le, Nat.max_eq_left, Nat.le_add_left, runBody]
  | cont first nextC next ih =>
    cases n with
    | zero => simp [steps] at h
    | succ n =>
      have h' : steps (next (callFirst first).val) ≤ n := by simp [steps] at h; omega
      simp only [runLoop, iter, resume, val_bind, val_call, val_pure, ih _ _ n h', log_void, log_bind, log_call,
        log_pure, bump_nil, List.append_nil, bump_append, bump_bump, Nat.reduceAdd, List.nil_append, List.append_assoc,
        peak_void, peak_bind, peak_call, peak_pure, Nat.zero_add, Nat.le_add_left, Nat.max_eq_left, Nat.max_eq_right,
        Nat.max_assoc, runBody]

theorem runLoop_run (e : SEval T) (n : Nat) (h : steps e ≤ n) :
    (runLoop n e (pure ())).map call = some (EvalStack.run e) := by
  rw [runLoop_spec e _ n h]
  simp [EvalStack.run]

-- (d) continued: the constructors erase to the constructors of Model/Eval, and faithfulness transfers -----------

omit [Inhabited T] in
theorem erase_flatMap (r : SEval T) (f : T → Cost (SEval T)) :
    EvalStack.erase (flatMap r f)
      = EvalM.flatMap (EvalStack.erase r) (fun v => .logged (f v).events (EvalStack.erase (f v).val)) := by
  induction r with
  | leaf first => simp [flatMap, EvalStack.erase, EvalM.flatMap]
  | cont first nextC next ih => simp [flatMap, EvalStack.erase, EvalM.flatMap, ih]

omit [Inhabited T] in
theorem erase_done (t : T) : EvalStack.erase (done t) = EvalM.done t := by
  simp [done, EvalStack.erase, EvalM.done, erase_eq]

omit [Inhabited T] in
theorem erase_callE (f : Unit → Cost T) : EvalStack.erase (callE f) = EvalM.call (fun u => (f u).erase) := by
  simp [callE, EvalStack.erase, EvalM.call, erase_eq, memoBody, onceDo]

theorem erase_tailCall (f : Unit → Cost (SEval T)) :
    EvalStack.erase (tailCall f) = EvalM.tailCall (fun u => .logged (f u).events (EvalStack.erase (f u).val)) := by
  simp [tailCall, EvalStack.erase, EvalM.tailCall, erase_eq, memoBody, onceDo]

omit [Inhabited T] in
theorem erase_map (r : SEval T) (f : T → Cost T) :
    EvalStack.erase (map r f) = EvalM.map (EvalStack.erase r) (fun v => (f v).erase) := by
  simp [map, EvalM.map, erase_flatMap, erase_done, erase_eq]

theorem run_erase_flatMap (r : SEval T) (f : T → Cost (SEval T)) :
    EvalM.run (EvalStack.erase (flatMap r f))
      = ((EvalM.run (EvalStack.erase (f (EvalM.run (EvalStack.erase r)).1).val)).1,
         (EvalM.run (EvalStack.erase r)).2 ++ ((f (EvalM.run (EvalStack.erase r)).1).events
           ++ (EvalM.run (EvalStack.erase (f (EvalM.run (EvalStack.erase r)).1).val)).2)) := by
  simp [erase_flatMap, C16.run_flatMap, EvalM.run]

/-- Programs whose user functions carry stack depths.  The functions that PRODUCE programs (`tailCall`, `flatMap`)
    have a depth `pk` and do not log — as in `Spec/C16.Prog`, where they are pure. -/
inductive SProg (T : Type) where
  | done (t : T)
  | call (f : Unit → Cost T)
  | tailCall (pk : Nat) (f : Unit → SProg T)
  | tailCallN (pk : Nat) (f : Unit → SProg T)
  | map (p : SProg T) (f : T → Cost T)
  | flatMap (p : SProg T) (pk : T → Nat) (k : T → SProg T)
  | map2 (p q : SProg T) (f : T → T → Cost T)

def quiet {α : Type} (pk : Nat) (a : α) : Cost α := ⟨a, [], pk⟩

/-- what the library builds for a program (instrumented) -/
def sdenote : SProg T → SEval T
  | .done t => done t
  | .call f => callE f
  | .tailCall pk f => tailCall (fun u => quiet pk (sdenote (f u)))
  | .tailCallN pk f => tailCallN (fun u => quiet pk (sdenote (f u)))
  | .map p f => map (sdenote p) f
  | .flatMap p pk k => flatMap (sdenote p) (fun v => quiet (pk v) (sdenote (k v)))
  | .map2 p q f => map2 (sdenote p) (sdenote q) f

/-- the program of `Spec/C16` it stands for -/
def eraseP : SProg T → C16.Prog T
  | .done t => .done t
  | .call f => .call (fun u => (f u).erase)
  | .tailCall _ f => .tailCall (fun u => eraseP (f u))
  | .tailCallN _ f => .tailCall (fun u => eraseP (f u))
  | .map p f => .map (eraseP p) (fun v => (f v).erase)
  | .flatMap p _ k => .flatMap (eraseP p) (fun v => eraseP (k v))
  | .map2 p q f => .map2 (eraseP p) (eraseP q) (fun a b => (f a b).erase)

/-- (d) Faithfulness transfers to the instrumented semantics: for every program tree, the instrumented trampolined
    evaluation has the value and the events of strict evaluation; the third component is the call depth. -/
theorem faithful_stack (p : SProg T) : (EvalStack.run (sdenote p)).erase = C16.strict (eraseP p) := by
  rw [run_erase]
  induction p with
  | done t => simp [sdenote, eraseP, C16.strict, erase_done, C16.run_done]
  | call f => simp [sdenote, eraseP, C16.strict, erase_callE, C16.run_call]
  | tailCall pk f ih =>
    simp [sdenote, eraseP, C16.strict, erase_tailCall, C16.run_tailCall, EvalM.run, quiet, events, ih]
  | tailCallN pk f ih =>
    simp [sdenote, eraseP, C16.strict, tailCallN, erase_tailCall, C16.run_tailCall, EvalM.run, quiet, events, ih]
  | map p f ih => simp [sdenote, eraseP, C16.strict, erase_map, C16.run_map, ih, erase_eq]
  | flatMap p pk k ihp ihk =>
    simp [sdenote, eraseP, C16.strict, run_erase_flatMap, ihp, ihk, quiet, events]
  | map2 p q f ihp ihq =>
    simp [sdenote, eraseP, C16.strict, map2, run_erase_flatMap, erase_map, C16.run_map, ihp, ihq, erase_eq, events]

/-- the erased instrumented denotation evaluates like the uninstrumented denotation of `Spec/C16` -/
theorem sdenote_erases (p : SProg T) :
    (EvalStack.run (sdenote p)).erase = EvalM.run (C16.denote (eraseP p)) := by
  rw [faithful_stack, C16.faithful]

end FpVerif.Spec.C16Stack
