import FpVerif.Lemmas.HamtAllSet
import FpVerif.Lemmas.HamtStrat
/-!
# C03 — Immutable Map/Set equal a mathematical map for every history and hasher.

Property theorems, and the few lemmas only they use (the other helper lemmas:
`FpVerif/Lemmas/Hamt*.lean`).  Everything is stated for an
ARBITRARY hasher `h : Hasher K` (`hash : K → UInt32`, `eqv : K → K → Bool`) under `LawfulHash h`
(`eqv` is an equivalence relation and `eqv a b → hash a = hash b`), for arbitrary key and value
types, for all keys, values and operation histories; no size bounds.

The model functions return `Except String _`: `.error` is a Go panic / a non-terminating recursion.
Every theorem below therefore also says "no internal panic (index out of range, nil slot, iterator
overrun of its 32-element stack, `mergeIntoNode` recursing forever) is reachable".

SCOPE (audit finding 11).  §5 (`refinement`) is the refinement theorem for `set` / `delete` histories of
the TRIE starting from `Hamt.empty`; §6 gives one-step specifications of the `fp.Map` / `fp.Set`
wrappers over a hamt base.  The refinement theorem over ALL operations the property lists (Updated,
Removed, UpdatedWith, Concat, Incl, Excl, Diff, Intersect, SubsetOf, MapBuilder / SetBuilder) for
every mixed history starting from ANY constructor INCLUDING THE ZERO VALUE (`FMap.base = none`,
`FSet.set = none`, the `UnsafeGoMap` / `UnsafeGoSet` fallbacks), with Get / Contains / Size / IsEmpty /
Iterator of the wrappers related to the reference, is `Spec/C03All.lean`
(`refinement_all`, `refinement_from`, `set_refinement_all`, `subsetOf_all`, `setBuilder_history`; the
hypothesis `Agree h` = "Eqv is Go's ==" needed exactly for the zero-value fallbacks, and the
counterexamples `zero_value_needs_agree` / `zero_set_needs_agree` without it).
-/
namespace FpVerif.Spec.C03
open FpVerif FpVerif.Hamt

variable {K V : Type} {h : Hasher K}

-- the hypothesis is satisfiable: the adversarial but lawful hashers of the property statement ------

/-- `Eqv` = "same image under `g`" is lawful with any hash that is a function of that image -/
theorem lawful_of_proj {K G : Type} [BEq G] [LawfulBEq G] (g : K → G) (f : G → UInt32) :
    LawfulHash ⟨fun k => f (g k), fun a b => g a == g b⟩ where
  refl a := beq_self_eq_true (g a)
  symm a b hab := by
    show (g b == g a) = true
    rw [eq_of_beq hab]; exact beq_self_eq_true (g b)
  trans a b c hab hbc := by
    show (g a == g c) = true
    rw [eq_of_beq hab]; exact hbc
  hash_eq a b hab := congrArg f (eq_of_beq hab)

/-- any hash function whatsoever is lawful together with decidable equality -/
theorem lawful_of_eq (f : Nat → UInt32) : LawfulHash ⟨f, fun a b => a == b⟩ := lawful_of_proj id f

/-- identity hasher -/
example : LawfulHash ⟨fun k : Nat => UInt32.ofNat k, fun a b => a == b⟩ := lawful_of_eq _
/-- constant hasher: every key collides -/
example : LawfulHash ⟨fun _ : Nat => 7, fun a b => a == b⟩ := lawful_of_eq _
/-- low-entropy hasher: five hash values -/
example : LawfulHash ⟨fun k : Nat => UInt32.ofNat (k % 5), fun a b => a == b⟩ := lawful_of_eq _
/-- high-bit-only hasher: the keys differ in the last trie level only -/
example : LawfulHash ⟨fun k : Nat => UInt32.ofNat k <<< 27, fun a b => a == b⟩ := lawful_of_eq _
/-- an `Eqv` coarser than equality, with a hash that respects it -/
example : LawfulHash ⟨fun k : Nat => UInt32.ofNat (k % 97) * 40503, fun a b => a % 97 == b % 97⟩ :=
  lawful_of_proj (· % 97) (UInt32.ofNat · * 40503)

-- 1. well-formedness invariant ---------------------------------------------------------------------

/-- The empty map is well-formed. -/
theorem wf_empty : Hamt.Inv h (Hamt.empty : Hamt K V) := Hamt.Inv_empty

/-- `set` (copying or in place) never panics and preserves the trie invariant `Hamt.Inv`
    (bitmap/popcount alignment, slot = hash fragment at every level, thresholds 8/16/32 respected,
    collision nodes ≥ 2 pairwise non-`Eqv` entries of one hash, `size` = number of entries). -/
theorem wf_set (hl : LawfulHash h) {m : Hamt K V} (hwf : Hamt.Inv h m) (k : K) (v : V) (mutable : Bool) :
    ∃ m', m.set h k v mutable = .ok m' ∧ Hamt.Inv h m' := by
  obtain ⟨m', h1, h2, _⟩ := Hamt.set_spec hl hwf k v mutable
  exact ⟨m', h1, h2⟩

/-- `delete` never panics and preserves the trie invariant. -/
theorem wf_delete (hl : LawfulHash h) {m : Hamt K V} (hwf : Hamt.Inv h m) (k : K) (mutable : Bool) :
    ∃ m', m.delete h k mutable = .ok m' ∧ Hamt.Inv h m' := by
  obtain ⟨m', h1, h2, _⟩ := Hamt.delete_spec hl hwf k mutable
  exact ⟨m', h1, h2⟩

-- 2. get / set / delete ------------------------------------------------------------------------------

/-- A lookup after `set` returns the value written for every `Eqv` key and is unchanged otherwise. -/
theorem get_set (hl : LawfulHash h) {m : Hamt K V} (hwf : Hamt.Inv h m) (k : K) (v : V) (mutable : Bool) :
    ∃ m', m.set h k v mutable = .ok m' ∧
      ∀ k', m'.get h k' = if h.eqv k k' then .ok (some v) else m.get h k' := by
  obtain ⟨m', h1, h2, h3, _⟩ := Hamt.set_spec hl hwf k v mutable
  refine ⟨m', h1, fun k' => ?_⟩
  rw [Hamt.get_spec hl h2, Hamt.get_spec hl hwf, h3]
  cases h.eqv k k' <;> rfl

/-- A lookup after `delete` finds nothing for every `Eqv` key and is unchanged otherwise. -/
theorem get_delete (hl : LawfulHash h) {m : Hamt K V} (hwf : Hamt.Inv h m) (k : K) (mutable : Bool) :
    ∃ m', m.delete h k mutable = .ok m' ∧
      ∀ k', m'.get h k' = if h.eqv k k' then .ok none else m.get h k' := by
  obtain ⟨m', h1, h2, h3, _⟩ := Hamt.delete_spec hl hwf k mutable
  refine ⟨m', h1, fun k' => ?_⟩
  rw [Hamt.get_spec hl h2, Hamt.get_spec hl hwf, h3]
  cases h.eqv k k' <;> rfl

/-- Nothing is found in the empty map. -/
theorem get_empty (k : K) : (Hamt.empty : Hamt K V).get h k = .ok none := rfl

-- 3. size ---------------------------------------------------------------------------------------------

/-- `Size()` is the number of stored entries, and their keys are pairwise not `Eqv`:
    `size` = number of distinct keys. -/
theorem size_eq_distinct_keys (hl : LawfulHash h) {m : Hamt K V} (hwf : Hamt.Inv h m) :
    m.size = m.toList.length ∧ DistinctKeys h m.toList :=
  ⟨hwf.size_eq, hwf.distinct hl⟩

/-- `set` grows the size by one exactly when the key was absent. -/
theorem size_set (hl : LawfulHash h) {m : Hamt K V} (hwf : Hamt.Inv h m) (k : K) (v : V) (mutable : Bool) :
    ∃ m' found, m.set h k v mutable = .ok m' ∧ m.get h k = .ok found ∧
      m'.size = m.size + (if found.isSome then 0 else 1) := by
  obtain ⟨m', h1, _, _, h4, _⟩ := Hamt.set_spec hl hwf k v mutable
  exact ⟨m', _, h1, Hamt.get_spec hl hwf k, h4⟩

/-- `delete` shrinks the size by one exactly when the key was present. -/
theorem size_delete (hl : LawfulHash h) {m : Hamt K V} (hwf : Hamt.Inv h m) (k : K) (mutable : Bool) :
    ∃ m' found, m.delete h k mutable = .ok m' ∧ m.get h k = .ok found ∧
      m'.size + (if found.isSome then 1 else 0) = m.size := by
  obtain ⟨m', h1, _, _, h4, _⟩ := Hamt.delete_spec hl hwf k mutable
  exact ⟨m', _, h1, Hamt.get_spec hl hwf k, h4⟩

-- 4. iterator --------------------------------------------------------------------------------------------

/-- The explicit-stack iterator (`MapIterator`: `first`/`moveStack`/`next` over a 32-element stack)
    terminates without panic and yields exactly the recursive listing of the trie: every entry once,
    in depth-first order. -/
theorem iterator_eq_toList {m : Hamt K V} (hwf : Hamt.Inv h m) : m.iterList = .ok m.toList :=
  Hamt.iterList_spec hwf

/-- Every entry the iterator yields is what `Get` returns for its key, and every key that `Get`
    finds is yielded (with that value, under a key `Eqv` to the one asked for). -/
theorem iterator_entries (hl : LawfulHash h) {m : Hamt K V} (hwf : Hamt.Inv h m) :
    ∃ l, m.iterList = .ok l ∧ l.length = m.size ∧ DistinctKeys h l ∧
      (∀ e ∈ l, m.get h e.1 = .ok (some e.2)) ∧
      (∀ k v, m.get h k = .ok (some v) → ∃ e ∈ l, h.eqv e.1 k = true ∧ e.2 = v) := by
  refine ⟨m.toList, Hamt.iterList_spec hwf, hwf.size_eq.symm, hwf.distinct hl, ?_, ?_⟩
  · intro e he
    rw [Hamt.get_spec hl hwf, lookup_of_mem hl (hwf.distinct hl) he (hl.refl _)]
  · intro k v hg
    rw [Hamt.get_spec hl hwf] at hg
    exact lookup_eq_some (Except.ok.inj hg)

/-- `Next()` on an exhausted iterator panics (the only panic of the iterator). -/
theorem next_on_empty : (MapIter.mk ([] : List (IterElem K V))).next = .error "next on empty" := rfl

-- 5. refinement: every history ------------------------------------------------------------------------------

/-
The statement below uses these definitions of `FpVerif/Lemmas/HamtRefine.lean`:

  inductive Op K V | set (k) (v) (mutable : Bool) | delete (k) (mutable : Bool)
  run h ops m      := ops.foldlM (Op.apply h) m            -- Op.apply = Hamt.set / Hamt.delete (the model)
  Ref.apply h r (.set k v _)  := r.filter (fun e => !h.eqv e.1 k) ++ [(k, v)]   -- reference: association list
  Ref.apply h r (.delete k _) := r.filter (fun e => !h.eqv e.1 k)
  Ref.run h ops r  := ops.foldl (Ref.apply h) r
-/

/-- **Refinement.** For every finite history of `set`/`delete` operations (immutable or through a
    builder), every lawful hasher and all keys: the history runs without panic, and `Get`, `Size`,
    `IsEmpty` and `Iterator` of the resulting map agree with the reference association list:
    * `Get k` is the reference lookup (last value written, nothing after removal);
    * `Size` is the number of reference entries = number of distinct keys; `IsEmpty` agrees;
    * `Iterator` terminates and yields a list `l` of exactly `Size` entries with pairwise
      non-`Eqv` keys that represents the same finite map as the reference (each reference entry is
      yielded exactly once, with its latest value, under an `Eqv` key). -/
theorem refinement (hl : LawfulHash h) (ops : List (Op K V)) :
    ∃ m, run h ops Hamt.empty = .ok m ∧ Hamt.Inv h m ∧
      (∀ k, m.get h k = .ok (lookup h k (Ref.run h ops []))) ∧
      m.size = (Ref.run h ops []).length ∧
      (m.size == 0) = (Ref.run h ops []).isEmpty ∧
      ∃ l, m.iterList = .ok l ∧ l.length = (Ref.run h ops []).length ∧ DistinctKeys h l ∧
        DistinctKeys h (Ref.run h ops []) ∧ ∀ k, lookup h k l = lookup h k (Ref.run h ops []) := by
  obtain ⟨m, h1, hr⟩ := repr_run hl ops ((repr_empty : Represents h (Hamt.empty : Hamt K V) []))
  refine ⟨m, h1, hr.wf, ?_, hr.size, ?_, m.toList, Hamt.iterList_spec hr.wf, ?_, hr.wf.distinct hl, hr.distinct, hr.look⟩
  · intro k; rw [Hamt.get_spec hl hr.wf, hr.look]
  · rw [hr.size]; cases Ref.run h ops [] <;> rfl
  · rw [← hr.wf.size_eq, hr.size]

/-- With `Eqv` = equality the iterator's output is a permutation of the reference entries
    (iterator-as-multiset = reference-as-multiset). -/
theorem refinement_perm (hl : LawfulHash h) (heq : ∀ a b, h.eqv a b = true ↔ a = b) (ops : List (Op K V)) :
    ∃ m l, run h ops Hamt.empty = .ok m ∧ m.iterList = .ok l ∧ l.Perm (Ref.run h ops []) := by
  obtain ⟨m, h1, _, _, _, _, l, hl1, _, hd1, hd2, hlook⟩ := refinement hl ops
  exact ⟨m, l, h1, hl1, perm_of_lookup_eq hl heq hd1 hd2 hlook⟩

-- 6. constructors and the fp.Map / fp.Set wrapper operations (immutable base) ----------------------------
-- (one-step specifications over a hamt base; every base incl. the zero value, whole histories, and
--  Size / IsEmpty / Iterator of the wrappers: `Spec/C03All.lean`)

/-- `immutable.Map(hasher, tuples...)` — equally `MapBuilder`, `Add`…, `Build` — never panics,
    yields a well-formed map in which, for every key, the LAST tuple with an `Eqv` key wins. -/
theorem ofList_spec (hl : LawfulHash h) (t : List (K × V)) :
    ∃ m, Hamt.ofList h t = .ok m ∧ Hamt.Inv h m ∧
      ∀ k, m.get h k = .ok (concatLookup h t k none) := by
  obtain ⟨m, h1, h2, h3⟩ := Hamt.ofList_spec hl t
  exact ⟨m, h1, h2, fun k => by rw [Hamt.get_spec hl h2, h3]⟩

section wrappers
variable [BEq K]

/-- `Map.Removed(k...)`: every listed key (up to `Eqv`) disappears, all others keep their value. -/
theorem removed_spec (hl : LawfulHash h) {m : Hamt K V} (hwf : Hamt.Inv h m) (ks : List K) :
    ∃ m', (hmap m).removed h ks = .ok (hmap m') ∧ Hamt.Inv h m' ∧
      ∀ k, (hmap m').get h k = .ok (if ks.any (fun x => h.eqv x k) then none else lookup h k m.toList) :=
  FMap.spec_hmap hl (FMap.removed_spec hl (m := hmap m) hwf ks)

/-- `Map.UpdatedWith(k, remap)`: the entry of `k` becomes `remap(Get(k))` (removed when that is
    `None`), every other key is untouched — for an arbitrary `remap`. -/
theorem updatedWith_spec (hl : LawfulHash h) {m : Hamt K V} (hwf : Hamt.Inv h m) (k : K)
    (remap : Option V → Option V) :
    ∃ m', (hmap m).updatedWith h k remap = .ok (hmap m') ∧ Hamt.Inv h m' ∧
      ∀ k', (hmap m').get h k' =
        .ok (if h.eqv k k' then remap (lookup h k m.toList) else lookup h k' m.toList) :=
  FMap.spec_hmap hl (FMap.updatedWith_spec hl (m := hmap m) hwf k remap)

/-- `Map.Concat(other)`: for every key the last entry of `other` with an `Eqv` key wins, keys not in
    `other` keep their value. -/
theorem concat_spec (hl : LawfulHash h) {m : Hamt K V} (hwf : Hamt.Inv h m) (other : List (K × V)) :
    ∃ m', (hmap m).concat h other = .ok (hmap m') ∧ Hamt.Inv h m' ∧
      ∀ k, (hmap m').get h k = .ok (concatLookup h other k (lookup h k m.toList)) :=
  FMap.spec_hmap hl (FMap.concat_spec hl other (m := hmap m) hwf)

/-- `Set.Contains` is membership of an `Eqv` key among the entries. -/
theorem contains_spec (hl : LawfulHash h) {a : Hamt K Bool} (ha : Hamt.Inv h a) (k : K) :
    (hset a).contains h k = .ok (mem h a k) := by
  rw [FSet.contains_spec hl (FSet.inv_hset ha), memL_hset]

/-- `Set.Incl` / `Set.Excl`. -/
theorem incl_spec (hl : LawfulHash h) {a : Hamt K Bool} (ha : Hamt.Inv h a) (k : K) :
    ∃ r, (hset a).incl h k = .ok (hset r) ∧ Hamt.Inv h r ∧ ∀ k', mem h r k' = (h.eqv k k' || mem h a k') := by
  obtain ⟨r, h1, h2, h3⟩ := SetMin.incl_hamt hl ha k
  exact ⟨r, bind_ok h1 rfl, h2, h3⟩

theorem excl_spec (hl : LawfulHash h) {a : Hamt K Bool} (ha : Hamt.Inv h a) (k : K) :
    ∃ r, (hset a).excl h k = .ok (hset r) ∧ Hamt.Inv h r ∧ ∀ k', mem h r k' = (!h.eqv k k' && mem h a k') := by
  obtain ⟨r, h1, h2, h3⟩ := SetMin.excl_hamt hl ha k
  exact ⟨r, bind_ok h1 rfl, h2, h3⟩

/-- `Set.Diff`: a well-formed set (so `Size` = number of distinct members, iterator = members once)
    whose members are exactly the members of `a` that are not in `b`. -/
theorem diff_spec (hl : LawfulHash h) {a b : Hamt K Bool} (ha : Hamt.Inv h a) (hb : Hamt.Inv h b) :
    ∃ r, (hset a).diff h (hset b) = .ok (hset r) ∧ Hamt.Inv h r ∧
      ∀ k, mem h r k = (mem h a k && !mem h b k) := by
  obtain ⟨r, h1, h2, hk, h3⟩ := FSet.diff_spec hl (FSet.inv_hset ha) (FSet.inv_hset hb)
  obtain ⟨r', rfl, hr⟩ := h2.eq_hamt hk
  refine ⟨r', h1, hr, fun k => ?_⟩
  rw [← memL_hset, ← memL_hset, ← memL_hset]
  exact h3 k

/-- `Set.Intersect`. -/
theorem intersect_spec (hl : LawfulHash h) {a b : Hamt K Bool} (ha : Hamt.Inv h a) (hb : Hamt.Inv h b) :
    ∃ r, (hset a).intersect h (hset b) = .ok (hset r) ∧ Hamt.Inv h r ∧
      ∀ k, mem h r k = (mem h a k && mem h b k) := by
  obtain ⟨r, h1, h2, hk, h3⟩ := FSet.intersect_spec hl (FSet.inv_hset ha) (FSet.inv_hset hb)
  obtain ⟨r', rfl, hr⟩ := h2.eq_hamt hk
  refine ⟨r', h1, hr, fun k => ?_⟩
  rw [← memL_hset, ← memL_hset, ← memL_hset]
  exact h3 k

/-- `Set.SubsetOf` decides inclusion. -/
theorem subsetOf_spec (hl : LawfulHash h) {a b : Hamt K Bool} (ha : Hamt.Inv h a) (hb : Hamt.Inv h b) :
    ∃ r, (hset a).subsetOf h (hset b) = .ok r ∧ (r = true ↔ ∀ k, mem h a k = true → mem h b k = true) := by
  obtain ⟨r, h1, h2⟩ := FSet.subsetOf_spec hl (FSet.inv_hset ha) (FSet.inv_hset hb)
  exact ⟨r, h1, by simpa only [memL_hset] using h2⟩

end wrappers

-- 7. the array -> trie expansion reads as in the Go source ---------------------------------------------------

/-- The model defines `set` in two strata (Lean needs a termination argument for the expansion loop
    of a full array node, which calls `set` on freshly built nodes).  This theorem states that the
    definition satisfies the recursive equation of the Go source: a full `mapArrayNode` that receives
    a new key becomes `newMapValueNode(hash key, key, value)` with every old entry `set` into it. -/
theorem set_array_expansion (hl : LawfulHash h) {es : List (K × V)} (k : K) (v : V) (mutable resized : Bool)
    (hnew : indexOf h es k = none) (hfull : es.length ≥ maxArrayMapSize) :
    (Node.array es).set h k v 0 (h.hash k) mutable resized =
      es.foldlM (fun (acc : Node K V × Bool) entry =>
        acc.1.set h entry.1 entry.2 0 (h.hash entry.1) false acc.2)
        (Node.value (h.hash k) k v, true) := by
  rw [← expand_loop_eq hl es _ true (WF.value rfl) (by intro es; simp)]
  unfold Node.set
  unfold Node.setCore
  have : decide (es.length ≥ maxArrayMapSize) = true := by simpa using hfull
  simp only [hnew, beq_self_eq_true, if_true, this, Bool.and_self, expandArray]

end FpVerif.Spec.C03
