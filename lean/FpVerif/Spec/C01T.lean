import FpVerif.Model.TryOpt
import FpVerif.Lemmas.MonadInst
import FpVerif.Spec.C01Inst
/-!
# C01 (part 3) — the OptionT / SeqT transformer functions of package try equal their definitions

`try.OptionT[A] = Try[Option[A]]`, `try.SeqT[A] = Try[Seq[A]]`.  Each transformer function, written in the
generated code with the outer `Map`/`FlatMap`, the inner monad's `FlatMap`/`Pure` and the directive's
`Sequence`, is shown equal to its definition by cases on the carried value.
-/
namespace FpVerif.Spec.C01
open FpVerif MonadFamily TryT

variable {A B : Type}

/-- the plain meaning of `FlatMap` on the stacked monad Try[Option[_]] -/
def optTBind (t : Try (Option A)) (k : A → GoM (Try (Option B))) : GoM (Try (Option B)) :=
  match t with
  | .success (some a) => k a
  | .success none => pure (.success none)
  | .failure e => do let e ← Try.failedGet (.failure e : Try (Option A)); pure (.failure e)

/-- The outer `FlatMap` after a stacked bind moves into the continuation, provided it keeps `None` as it is:
    `None` and a Failure pass through both. -/
theorem optTBind_flatMap {D : Type} (t : Try (Option A)) (k : A → GoM (Try (Option B)))
    (h : Option B → GoM (Try (Option D))) (hn : h none = pure (.success none)) :
    TryM.ops.flatMap (optTBind t k) h = optTBind t (fun a => TryM.ops.flatMap (k a) h) := by
  rcases t with (_ | a) | e
  · simp [optTBind, TryM.ops_flatMap_pure, hn]
  · rfl
  · simp only [optTBind, TryM.ops, TryM.flatMap_failure_eq, bind_assoc, pure_bind, Try.failedGet_bind_failedGet]

/-- MapOptionT maps under both layers; `f` runs exactly when there is a value. -/
theorem mapOptionT_def (t : Try (Option A)) (f : A → GoM B) :
    mapOptionT (pure t) f = optTBind t (fun a => do let b ← f a; pure (.success (some b))) := by
  rw [mapOptionT, TryM.map_pure]
  rcases t with (_ | a) | e
  · rfl
  · simp [OptM.flatMap, optTBind]
  · rfl

/-- TraverseOptionT(t, f): `f` runs on the carried value (if any) and its Try is merged into the outer one;
    a successful `f` always yields `Some` of its value — whatever that value is. -/
theorem traverseOptionT_def (t : Try (Option A)) (f : A → GoM (Try B)) :
    traverseOptionT (pure t) f = optTBind t (fun a => do
      match ← f a with
      | .success b => pure (.success (some b))
      | .failure e => do let e ← Try.failedGet (.failure e : Try B); pure (.failure e)) := by
  rw [traverseOptionT, mapOptionT_def, optTBind_flatMap _ _ _ rfl]
  congr 1
  funext a
  simp only [TryM.ops, bind_assoc, pure_bind, TryM.flatMap_success]
  rfl

/-- FlatMapOptionT is the bind of the stacked monad. -/
theorem flatMapOptionT_def (t : Try (Option A)) (f : A → GoM (Try (Option B)))
    :
    flatMapOptionT (pure t) f = optTBind t (fun a => do
      match ← f a with
      | .success o => pure (.success o)
      | .failure e => do let e ← Try.failedGet (.failure e : Try (Option B)); pure (.failure e)) := by
  rw [flatMapOptionT, traverseOptionT_def, map, optTBind_flatMap _ _ _ rfl]
  congr 1
  funext a
  simp only [TryM.ops, bind_assoc]
  congr 1
  funext r
  cases r with
  | success o => cases o <;> rfl
  | failure e =>
    simp only [TryM.flatMap_failure_eq, bind_assoc, pure_bind, Try.failedGet_bind_failedGet]

/-- left identity of the stacked monad -/
theorem flatMapOptionT_pure (a : A) (f : A → GoM (Try (Option B))) :
    flatMapOptionT (pureOptionT a) f = (do
      match ← f a with
      | .success o => pure (.success o)
      | .failure e => do let e ← Try.failedGet (.failure e : Try (Option B)); pure (.failure e)) :=
  flatMapOptionT_def (.success (some a)) f

/-- every `Transform` entry is `Map` of the inner method: the inner method runs iff the outer Try succeeded -/
theorem transformT_success {I O : Type} (i : I) (g : I → GoM O) :
    transformT (pure (.success i)) g = (do let o ← g i; pure (.success o)) := by
  rfl

theorem transformT_failure {I O : Type} (e : Err) (he : e ≠ .nil) (g : I → GoM O) :
    transformT (pure (.failure e : Try I)) g = pure (.failure e) := by
  simp [transformT, TryM.map_pure, he]

/-- MapSeqT applies `f` to every element, in order. -/
theorem mapSeqT_success (l : List A) (f : A → GoM B) :
    mapSeqT (pure (.success l)) f
      = (do let r ← seqFlatMap l (fun a => do let b ← f a; pure [b]); pure (.success r)) := by
  rfl

/-- As written, TraverseSeqT runs `f` on ALL elements first (through MapSeqT) and only then looks for the
    first failure: its VALUE is the left-to-right sequence of the results, but functions of elements after
    a failing one have already been invoked (recorded as a known finding under C02). -/
theorem traverseSeqT_success (l : List A) (f : A → GoM (Try B)) :
    traverseSeqT (pure (.success l)) f
      = (do let rs ← seqFlatMap l (fun a => do let b ← f a; pure [b]); sequenceSeqT rs) := by
  simp [traverseSeqT, mapSeqT_success, TryM.ops]

end FpVerif.Spec.C01
