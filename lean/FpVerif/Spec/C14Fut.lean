import FpVerif.Lemmas.FutChainBuilt
/-!
# C14 / C06 — the arity-indexed builder families of package `future`, at EVERY arity

`future.ChainN` / `MonadChainN`, `future.ApplicativeN` / `ApplicativeFunctorN` (applicative_gen.go + the
hand-written arity 1) and `LiftAN`, `LiftMN`, `FlapN`, `MethodN`, `FlatMethodN`, `FuncN`, `ComposeN`, `Zip`/`Zip3`
(func_gen.go + hand-written bases), as modelled in `Model/FutureChain.lean` on the network model of C06.

All statements are for every arity (`steps.length`, `ins.length`), every list of method calls, every user
function / supplier / callback (arbitrary logging functions, told on which executor they run), every net.

(a) denotation — `chain_denotation`, `chain_sound`, `chain_complete` (and `applicative_*`): the future a builder
    returns denotes the do-notation reading over fp.Try (`chainSpec`): operands left to right, each callback
    sees exactly the values so far, the first failure short-circuits, nothing dropped / duplicated / reordered;
(b) `fo_*`: everything the builders construct is in the first-order fragment `FO` of Spec/C06Sound (curried
    function values and hlists are data), so `sound_every_schedule` applies — `Spec/C06Chain.lean`;
    exceptions: `LiftMN` and `FlatMethod1` build a future of a future (`Flatten ∘ Map`);
(c) the func_gen.go families: `evalS_liftA`, `evalS_zipN`, `evalS_methodN`, `evalS_flatMethodN`, `evalS_funcN`,
    `evalS_composeN`, each with its `fo_*` companion; `evalS_liftMFO` and `flap_denotation`, which have none;
(d) building never runs user code: `runChain_log`, `runApplicative_log`, `flapRun_log`; the seeded defect
    (`ApFutureFunc` evaluating its supplier while the chain is being built) violates exactly this:
    `eager_apFutureFunc_differs` (`Spec/C06Chain.lean`).
-/
namespace FpVerif.Spec.C14Fut
open FpVerif FpVerif.Fut FpVerif.Spec.C06

/-- **(a) soundness form.**  If `σ` never knows more than the construction expressions justify (e.g. `σ` = the statuses of
    a sound net, `Sound n`), then the chain's future, once determined, holds what the do-notation reading gives over
    the operands' current statuses: never earlier, never different. -/
theorem chain_sound (fn : NFn) (steps : List (Ex × Step)) (n : Net) (hne : steps ≠ [])
    (hwf : ∀ cs ∈ steps, StepWF n.next cs.2) (n' : Net) (hle : SpecLe (runChain fn steps n).2 n')
    (σ : Nat → TV) (hσ : ∀ p v, σ p = some v → evalS σ (n'.spec p) = some v) (r : Try Val)
    (hq : σ (runChain fn steps n).1 = some r) : chainSpec σ fn steps [] = some r :=
  chain_rel erel_below (R := Below) (fun p v hv => hσ p v hv) fn ((runChain_built fn steps n hne hwf).1.mono hle) r hq

/-- **(a) completeness form**: if `σ` knows everything the construction expressions determine, the chain's future is
    determined as soon as the do-notation reading is. -/
theorem chain_complete (fn : NFn) (steps : List (Ex × Step)) (n : Net) (hne : steps ≠ [])
    (hwf : ∀ cs ∈ steps, StepWF n.next cs.2) (n' : Net) (hle : SpecLe (runChain fn steps n).2 n')
    (σ : Nat → TV) (hσ : ∀ p v, evalS σ (n'.spec p) = some v → σ p = some v) (r : Try Val)
    (hq : chainSpec σ fn steps [] = some r) : σ (runChain fn steps n).1 = some r :=
  chain_rel erel_above (R := fun a b => Below b a) (fun p v hv => hσ p v hv) fn
    ((runChain_built fn steps n hne hwf).1.mono hle) r hq

/-- **(a) denotation**: for every assignment `σ` that solves the net's equations (`σ p = evalS σ (spec p)` — sources are
    free, `spec p = ref p`), the future `ChainN(fn).m1(…)…mN(…)` returns denotes exactly the do-notation reading. -/
theorem chain_denotation (fn : NFn) (steps : List (Ex × Step)) (n : Net) (hne : steps ≠ [])
    (hwf : ∀ cs ∈ steps, StepWF n.next cs.2) (n' : Net) (hle : SpecLe (runChain fn steps n).2 n')
    (σ : Nat → TV) (hσ : ∀ p, σ p = evalS σ (n'.spec p)) :
    σ (runChain fn steps n).1 = chainSpec σ fn steps [] ∧
    evalS σ (n'.spec (runChain fn steps n).1) = chainSpec σ fn steps [] := by
  have h := chain_rel erel_eq (R := Eq) hσ fn ((runChain_built fn steps n hne hwf).1.mono hle)
  exact ⟨h, by rw [← hσ]; exact h⟩

/-- non-vacuity of the fixpoint hypothesis of `chain_denotation` -/
example :
    let fn : NFn := fun _ vs => (.seq vs, ["fn"])
    let steps : List (Ex × Step) := [(.d, .a (.apFuture 0)), (.d, .a (.ap (.int 7)))]
    let n' := (runChain fn steps (Net.empty 1)).2
    ∃ σ : Nat → TV, (∀ p, σ p = evalS σ (n'.spec p)) ∧ σ 0 = some (.success (.int 5)) ∧
      σ (runChain fn steps (Net.empty 1)).1 = some (.success (.seq [.int 5, .int 7])) := by
  intro fn steps n'
  refine ⟨fun p => match p with
    | 0 => some (.success (.int 5))
    | 1 => some (.success (hl []))
    | 2 => some (.success (pa []))
    | 3 => some (.success (hl [.int 5]))
    | 4 => some (.success (pa [.int 5]))
    | 5 => some (.success (.int 7))
    | 6 => some (.success (.seq [.int 5, .int 7]))
    | _ => none, ?_, rfl, rfl⟩
  intro p
  match p with
  | 0 => rfl
  | 1 => rfl
  | 2 => rfl
  | 3 => rfl
  | 4 => rfl
  | 5 => rfl
  | 6 => rfl
  | k + 7 => rfl

/-- **(d)** constructing a chain — whatever its arity, its method calls, and whether the earlier positions are pending,
    failed or complete — logs nothing: no supplier, callback or `fn` runs synchronously. -/
theorem runChain_log (fn : NFn) (steps : List (Ex × Step)) (n : Net) (hne : steps ≠ [])
    (hwf : ∀ cs ∈ steps, StepWF n.next cs.2) : (runChain fn steps n).2.log = n.log :=
  (runChain_built fn steps n hne hwf).2.2

/-- **(a) soundness form for `ApplicativeN(fn).m1(…)…mN(…)`** -/
theorem applicative_sound (fn : NFn) (steps : List (Ex × AStep)) (n : Net)
    (hne : steps ≠ [])
    (hwf : ∀ cs ∈ steps, AStepWF n.next cs.2) (n' : Net) (hle : SpecLe (runApplicative fn steps n).2 n')
    (σ : Nat → TV) (hσ : ∀ p v, σ p = some v → evalS σ (n'.spec p) = some v) (r : Try Val)
    (hq : σ (runApplicative fn steps n).1 = some r) : applicativeSpec σ fn steps [] = some r :=
  (runApplicative_means fn steps n hwf).1 hne Below erel_below σ n' hle (fun p v hv => hσ p v hv) r hq

/-- **(a) completeness form** -/
theorem applicative_complete (fn : NFn) (steps : List (Ex × AStep)) (n : Net)
    (hne : steps ≠ [])
    (hwf : ∀ cs ∈ steps, AStepWF n.next cs.2) (n' : Net) (hle : SpecLe (runApplicative fn steps n).2 n')
    (σ : Nat → TV) (hσ : ∀ p v, evalS σ (n'.spec p) = some v → σ p = some v) (r : Try Val)
    (hq : applicativeSpec σ fn steps [] = some r) : σ (runApplicative fn steps n).1 = some r :=
  (runApplicative_means fn steps n hwf).1 hne (fun a b => Below b a) erel_above σ n' hle (fun p v hv => hσ p v hv) r hq

/-- **(a) denotation**: the future `ApplicativeN(fn).m1(…)…mN(…)` returns denotes the do-notation reading -/
theorem applicative_denotation (fn : NFn) (steps : List (Ex × AStep)) (n : Net)
    (hne : steps ≠ [])
    (hwf : ∀ cs ∈ steps, AStepWF n.next cs.2) (n' : Net) (hle : SpecLe (runApplicative fn steps n).2 n')
    (σ : Nat → TV) (hσ : ∀ p, σ p = evalS σ (n'.spec p)) :
    σ (runApplicative fn steps n).1 = applicativeSpec σ fn steps [] :=
  (runApplicative_means fn steps n hwf).1 hne Eq erel_eq σ n' hle hσ

/-- **(d)** constructing an applicative builder logs nothing -/
theorem runApplicative_log (fn : NFn) (steps : List (Ex × AStep)) (n : Net)
    (hwf : ∀ cs ∈ steps, AStepWF n.next cs.2) : (runApplicative fn steps n).2.log = n.log :=
  (runApplicative_means fn steps n hwf).2.2

/-- a chain used with the applicative methods only denotes what the applicative builder denotes, when no executor is
    passed (with executors the two differ in which executor the suppliers see) -/
theorem chainSpec_applicative (σ : Nat → TV) (fn : NFn) (steps : List AStep) (vs : List Val) :
    chainSpec σ fn (steps.map (fun s => (Ex.d, Step.a s))) vs = applicativeSpec σ fn (steps.map (fun s => (Ex.d, s))) vs := by
  induction steps generalizing vs with
  | nil => rfl
  | cons s ss ih =>
    cases ss with
    | nil => simp [chainSpec, applicativeSpec, operandS]
    | cons s2 ss2 => exact congrArg (bindOk _) (funext fun a => ih _)

/-- the Try-level reading of `LiftAN(f)(ins1, …, insN)`: the operands left to right, then `f` -/
def liftASpec (σ : Nat → TV) (f : List Val → W Val) : List Nat → List Val → TV
  | [], vs => some (.success (f vs).1)
  | p :: ps, vs => bindOk (σ p) (fun v => liftASpec σ f ps (vs ++ [v]))

theorem evalS_liftAFrom (σ : Nat → TV) (f : List Val → W Val) (ins : List Nat) (vs : List Val) :
    evalS σ (liftAFrom f ins vs) = liftASpec σ f ins vs := by
  induction ins generalizing vs with
  | nil => rfl
  | cons p ps ih => exact congrArg (bindOk _) (funext fun v => ih _)

/-- **LiftAN at every arity** (N = 1: `Lift`, N = 2: `LiftA2` = `Map2`, N ≥ 3 generated) -/
theorem evalS_liftA (σ : Nat → TV) (f : NFn) (c : Ex) (ins : List Nat) :
    evalS σ (liftA f c ins) = liftASpec σ (f c) ins [] := evalS_liftAFrom σ (f c) ins []

/-- successful operands in front are bound to their values, in positional order -/
theorem liftASpec_prefix (σ : Nat → TV) (f : List Val → W Val) (pvs : List (Nat × Val)) (rest : List Nat) (vs : List Val)
    (h : ∀ pv ∈ pvs, σ pv.1 = some (.success pv.2)) :
    liftASpec σ f (pvs.map (·.1) ++ rest) vs = liftASpec σ f rest (vs ++ pvs.map (·.2)) := by
  induction pvs generalizing vs with
  | nil => rw [List.map_nil, List.map_nil, List.nil_append, List.append_nil]
  | cons pv pvs ih =>
    rw [List.forall_mem_cons] at h
    rw [List.map_cons, List.cons_append, liftASpec, h.1, bindOk_success, ih _ h.2, List.map_cons, List.append_assoc]
    rfl

/-- all operands successful: `f` applied to their values in positional order -/
theorem liftASpec_all_success (σ : Nat → TV) (f : List Val → W Val) (pvs : List (Nat × Val)) (vs : List Val)
    (h : ∀ pv ∈ pvs, σ pv.1 = some (.success pv.2)) :
    liftASpec σ f (pvs.map (·.1)) vs = some (.success (f (vs ++ pvs.map (·.2))).1) := by
  rw [← List.append_nil (pvs.map (·.1)), liftASpec_prefix σ f pvs [] vs h]
  rfl

/-- the first failing operand (in positional order) decides, whatever the later operands are or will be -/
theorem liftASpec_first_failure (σ : Nat → TV) (f : List Val → W Val) (pvs : List (Nat × Val)) (q : Nat) (e : Err)
    (rest : List Nat) (vs : List Val) (h : ∀ pv ∈ pvs, σ pv.1 = some (.success pv.2)) (hq : σ q = some (.failure e)) :
    liftASpec σ f (pvs.map (·.1) ++ q :: rest) vs = some (.failure e) := by
  rw [liftASpec_prefix σ f pvs _ vs h, liftASpec, hq]
  rfl

/-- …and while an earlier operand is undetermined the result is undetermined, even if a later one has failed -/
theorem liftASpec_pending (σ : Nat → TV) (f : List Val → W Val) (pvs : List (Nat × Val)) (q : Nat)
    (rest : List Nat) (vs : List Val) (h : ∀ pv ∈ pvs, σ pv.1 = some (.success pv.2)) (hq : σ q = none) :
    liftASpec σ f (pvs.map (·.1) ++ q :: rest) vs = none := by
  rw [liftASpec_prefix σ f pvs _ vs h, liftASpec, hq]
  rfl

theorem fo_liftAFrom {b : Nat} (f : List Val → W Val) (ins : List Nat) (vs : List Val) (h : ∀ p ∈ ins, p < b) :
    FO b (liftAFrom f ins vs) := by
  induction ins generalizing vs with
  | nil => exact .logged _ _ (.successful _)
  | cons p ps ih =>
    exact .flatMap _ _ (.ref p (h p (by simp))) (fun v => ih _ (fun x hx => h x (by simp [hx])))

/-- (b) `LiftAN` and `Zip`/`Zip3` are first-order -/
theorem fo_liftA {b : Nat} (f : NFn) (c : Ex) (ins : List Nat) (h : ∀ p ∈ ins, p < b) : FO b (liftA f c ins) :=
  fo_liftAFrom _ ins [] h

theorem fo_zipN {b : Nat} (ins : List Nat) (h : ∀ p ∈ ins, p < b) : FO b (zipN ins) := fo_liftAFrom _ ins [] h

/-- `Zip`/`Zip3`: the tuple of the operands' values in positional order -/
theorem evalS_zipN (σ : Nat → TV) (ins : List Nat) : evalS σ (zipN ins) = liftASpec σ (fun vs => (.tup vs, [])) ins [] :=
  evalS_liftAFrom σ _ ins []

/-- the Try-level reading of `LiftMN(f)(ins1, …, insN)` (f returns a future) -/
def liftMSpec (σ : Nat → TV) (f : List Val → FExpr) : List Nat → List Val → TV
  | [], vs => evalS σ (f vs)
  | p :: ps, vs => bindOk (σ p) (fun v => liftMSpec σ f ps (vs ++ [v]))

/-- the first-order reading of `LiftMN` (`Flatten(Map2(a, b, f))` read as nested `FlatMap`s) denotes `liftMSpec` -/
theorem evalS_liftMFO (σ : Nat → TV) (f : List Val → FExpr) (ins : List Nat) (vs : List Val) :
    evalS σ (liftMFO f ins vs) = liftMSpec σ f ins vs := by
  induction ins generalizing vs with
  | nil => rfl
  | cons p ps ih => exact congrArg (bindOk _) (funext fun v => ih _)

/-- what `LiftMN` really builds agrees with that reading on every level but the innermost one: for N ≥ 3 the first
    operand is bound by the same `FlatMap` … -/
theorem liftMFrom_cons (f : List Val → FExpr) (p q r : Nat) (ps : List Nat) (vs : List Val) :
    liftMFrom f (p :: q :: r :: ps) vs = .flatMap (.ref p) (fun v => liftMFrom f (q :: r :: ps) (vs ++ [v])) := rfl

/-- … and the innermost two are `LiftM2 = Flatten(Map2(a, b, f))`: a future of a future (`successfulOf`), which has no
    first-order denotation and is outside `FO` -/
theorem liftMFrom_two (f : List Val → FExpr) (a b : Nat) (vs : List Val) :
    liftMFrom f [a, b] vs
      = flatten (.flatMap (.ref a) (fun v1 => .flatMap (.ref b) (fun v2 => .successfulOf (f (vs ++ [v1, v2]))))) := rfl

theorem liftMFrom_bind (f : List Val → FExpr) (p : Nat) (ps : List Nat) (vs : List Val) (h : 2 ≤ ps.length) :
    liftMFrom f (p :: ps) vs = .flatMap (.ref p) (fun v => liftMFrom f ps (vs ++ [v])) :=
  match ps, h with
  | _ :: _ :: _, _ => rfl

theorem not_fo_liftM2 {b : Nat} (f : List Val → FExpr) (p q : Nat) (vs : List Val) : ¬ FO b (liftMFrom f [p, q] vs) := by
  intro h
  rw [liftMFrom_two] at h
  cases h with
  | flatMap _ _ he _ =>
    cases he with
    | flatMap _ _ _ hk =>
      have := hk (.int 0)
      cases this with
      | flatMap _ _ _ hk2 => exact nomatch hk2 (.int 0)

/-- the outer levels of the REAL `LiftMN` short-circuit like the reading: if the first undetermined-or-failed operand among
    all but the last two is a failure, the result is that failure.  (When all but the last two succeed the `Flatten ∘ Map2`
    node decides; `evalS` has no value for it.  That case is `HO.den_tLiftMFrom` (Lemmas/FutHOFrag.lean: the typed `LiftMN`
    denotes its do-notation reading at every arity) with `ho_built_future_sound` / `ho_built_future_exact` of Spec/C06HO.lean.) -/
theorem evalS_liftMFrom_outer_failure (σ : Nat → TV) (f : List Val → FExpr) (pvs : List (Nat × Val)) (q : Nat) (e : Err)
    (r1 r2 : Nat) (rest : List Nat) (vs : List Val) (h : ∀ pv ∈ pvs, σ pv.1 = some (.success pv.2))
    (hq : σ q = some (.failure e)) :
    evalS σ (liftMFrom f (pvs.map (·.1) ++ q :: r1 :: r2 :: rest) vs) = some (.failure e) := by
  induction pvs generalizing vs with
  | nil => simp [liftMFrom, evalS, hq, bindOk]
  | cons pv pvs ih =>
    rw [List.forall_mem_cons] at h
    rw [List.map_cons, List.cons_append, liftMFrom_bind f _ _ vs (by simp; omega), evalS, evalS, h.1]
    exact ih _ h.2

/-- `MethodN(ta1, fa1)(a2, …, aN)` (and `Method1`, `Method2`, `FlapMap`): `fa1(a1, a2, …, aN)` on the value of `ta1` -/
theorem evalS_methodN (σ : Nat → TV) (ta : Nat) (f : NFn) (c : Ex) (rest : List Val) :
    evalS σ (methodN ta f c rest) = bindOk (σ ta) (fun x => some (.success (f c (x :: rest)).1)) := by
  simp only [methodN, evalS_map, evalS]

theorem fo_methodN {b : Nat} (ta : Nat) (f : NFn) (c : Ex) (rest : List Val) (h : ta < b) : FO b (methodN ta f c rest) :=
  fo_map _ _ (.ref ta h)

/-- `FlatMethodN` for N ≥ 2: the future `fa1(a1, …, aN)` returns, on the value of `ta1`
    (`FlatMethod2` ignores executors altogether) -/
theorem evalS_flatMethodN (σ : Nat → TV) (N : Nat) (hN : 2 ≤ N) (ta : Nat) (f : Ex → List Val → FExpr) (c : Ex)
    (rest : List Val) :
    evalS σ (flatMethodN N ta f c rest)
      = bindOk (σ ta) (fun x => evalS σ (f (if N = 2 then .d else c) (x :: rest))) := by
  match N, hN with
  | 2, _ => simp [flatMethodN, evalS]
  | n + 3, _ => simp [flatMethodN, evalS]

theorem fo_flatMethodN {b : Nat} (N : Nat) (hN : 2 ≤ N) (ta : Nat) (f : Ex → List Val → FExpr) (c : Ex) (rest : List Val)
    (h : ta < b) (hf : ∀ c xs, FO b (f c xs)) : FO b (flatMethodN N ta f c rest) := by
  match N, hN with
  | 2, _ => exact .flatMap _ _ (.ref ta h) (fun _ => hf _ _)
  | n + 3, _ => exact .flatMap _ _ (.ref ta h) (fun _ => hf _ _)

/-- `FlatMethod1 = Flatten ∘ Map`: a future of a future, outside `FO` -/
theorem not_fo_flatMethod1 {b : Nat} (ta : Nat) (f : Ex → List Val → FExpr) (c : Ex) (rest : List Val) :
    ¬ FO b (flatMethodN 1 ta f c rest) := by
  intro h
  simp only [flatMethodN, flatten] at h
  cases h with
  | flatMap _ _ he _ =>
    cases he with
    | flatMap _ _ _ hk => exact nomatch hk (.int 0)

/-- `FuncN(f)(a1, …, aN)`: a task computing `f(a1, …, aN)` on the DEFAULT executor; a panic is already a `Failure` -/
theorem evalS_funcN (σ : Nat → TV) (f : Ex → List Val → W (Try Val)) (args : List Val) :
    evalS σ (funcN f args) = some (f .d args).1 := rfl

theorem fo_funcN {b : Nat} (f : Ex → List Val → W (Try Val)) (args : List Val) : FO b (funcN f args) := .apply _

/-- the Try-level reading of `ComposeN(f1, …, fN)(a)`: Kleisli composition left to right -/
def composeSpec (σ : Nat → TV) (c : Ex) : List (Ex → Val → FExpr) → Ex → Val → TV
  | [], _, a => some (.success a)
  | [f], cur, a => evalS σ (f cur a)
  | f :: fs, cur, a => bindOk (evalS σ (f cur a)) (fun b => composeSpec σ c fs c b)

theorem evalS_composeN (σ : Nat → TV) (c : Ex) (fs : List (Ex → Val → FExpr)) (cur : Ex) (a : Val) :
    evalS σ (composeN c fs cur a) = composeSpec σ c fs cur a := by
  induction fs generalizing cur a with
  | nil => rfl
  | cons f fs ih =>
    cases fs with
    | nil => rfl
    | cons g gs => exact congrArg (bindOk _) (funext fun b => ih _ _)

theorem fo_composeN {b : Nat} (c : Ex) (fs : List (Ex → Val → FExpr)) (cur : Ex) (a : Val)
    (h : ∀ f ∈ fs, ∀ x v, FO b (f x v)) : FO b (composeN c fs cur a) := by
  induction fs generalizing cur a with
  | nil => exact .successful _
  | cons f fs ih =>
    cases fs with
    | nil => exact h f (by simp) _ _
    | cons g gs =>
      exact .flatMap _ _ (h f (by simp) _ _) (fun v => ih _ _ (fun x hx => h x (by simp [hx])))

theorem flapRun_log (app : Ex → Val → Val → W Val) (c : Ex) (xs : List Val) (tf : Nat) (n : Net) (htf : tf < n.next) :
    (flapRun app c tf xs n).2.log = n.log := (flapRun_means app c xs tf n).2.2

/-- `FlapN(Successful(curried.FuncN(fn)))(x1)…(xN)` is `fn(x1, …, xN)` (run on the executor handed to `Flap`) -/
theorem flapVal_applyC (fn : NFn) (c : Ex) (xs : List Val) (hne : xs ≠ []) :
    ∀ (vs : List Val), flapVal (applyC (vs.length + xs.length) fn) c (pa vs) xs = (fn c (vs ++ xs)).1 := by
  induction xs with
  | nil => exact absurd rfl hne
  | cons x xs ih =>
    intro vs
    cases xs with
    | nil => simp only [flapVal]; rw [applyC_last _ _ _ _ _ (by simp)]
    | cons y ys =>
      simp only [flapVal]
      rw [applyC_partial _ _ _ _ _ (by simp)]
      have := ih (by simp) (vs ++ [x])
      simp only [List.length_append, List.length_cons, List.length_nil, List.append_assoc, List.cons_append,
        List.nil_append] at this ⊢
      rw [show vs.length + (ys.length + 1 + 1) = vs.length + (0 + 1) + (ys.length + 1) by omega]
      exact this

/-- **FlapN, soundness form** (every arity): once completed, `FlapN(tf)(x1)…(xN)` holds the value of the function future
    applied to the arguments in order; combined with `flapVal_applyC`: `fn(x1, …, xN)` -/
theorem flap_sound (app : Ex → Val → Val → W Val) (c : Ex) (xs : List Val) (tf : Nat) (n : Net) (htf : tf < n.next)
    (n' : Net) (hle : SpecLe (flapRun app c tf xs n).2 n') (σ : Nat → TV)
    (hσ : ∀ p v, σ p = some v → evalS σ (n'.spec p) = some v) (r : Try Val)
    (hq : σ (flapRun app c tf xs n).1 = some r) :
    bindOk (σ tf) (fun f => some (.success (flapVal app c f xs))) = some r :=
  (flapRun_means app c xs tf n).1 Below erel_below σ n' hle (fun p v hv => hσ p v hv) r hq

/-- **FlapN, denotation** -/
theorem flap_denotation (app : Ex → Val → Val → W Val) (c : Ex) (xs : List Val) (tf : Nat) (n : Net) (htf : tf < n.next)
    (n' : Net) (hle : SpecLe (flapRun app c tf xs n).2 n') (σ : Nat → TV) (hσ : ∀ p, σ p = evalS σ (n'.spec p)) :
    σ (flapRun app c tf xs n).1 = bindOk (σ tf) (fun f => some (.success (flapVal app c f xs))) :=
  (flapRun_means app c xs tf n).1 Eq erel_eq σ n' hle hσ

/-- `future.Ap(Map(h1, x => y => fn(x, y)), a, ctx...)`: function future first, then the operand; sound form and denotation -/
theorem ap_sound (fn : NFn) (c : Ex) (h1 a : Nat) (n : Net) (ha : a < n.next) (n' : Net)
    (hle : SpecLe (apRun fn c h1 a n).2 n') (σ : Nat → TV) (hσ : ∀ p v, σ p = some v → evalS σ (n'.spec p) = some v)
    (r : Try Val) (hq : σ (apRun fn c h1 a n).1 = some r) :
    bindOk (σ h1) (fun x => bindOk (σ a) (fun y => some (.success (fn c [x, y]).1))) = some r :=
  (apRun_means fn c h1 a n).1 Below erel_below σ n' hle (fun p v hv => hσ p v hv) r hq

theorem ap_denotation (fn : NFn) (c : Ex) (h1 a : Nat) (n : Net) (ha : a < n.next) (n' : Net)
    (hle : SpecLe (apRun fn c h1 a n).2 n') (σ : Nat → TV) (hσ : ∀ p, σ p = evalS σ (n'.spec p)) :
    σ (apRun fn c h1 a n).1 = bindOk (σ h1) (fun x => bindOk (σ a) (fun y => some (.success (fn c [x, y]).1))) :=
  (apRun_means fn c h1 a n).1 Eq erel_eq σ n' hle hσ

/-- `future.ApFunc`: the supplier's future is consulted only after the function future succeeded -/
theorem apFunc_denotation (fn : NFn) (c : Ex) (h1 : Nat) (a : Ex → FExpr) (n : Net) (n' : Net)
    (hle : SpecLe (apFuncRun fn c h1 a n).2 n') (σ : Nat → TV) (hσ : ∀ p, σ p = evalS σ (n'.spec p)) :
    σ (apFuncRun fn c h1 a n).1
      = bindOk (σ h1) (fun x => bindOk (evalS σ (a c)) (fun y => some (.success (fn c [x, y]).1))) ∧
    (apFuncRun fn c h1 a n).2.log = n.log :=
  ⟨(apFuncRun_means fn c h1 a n).1 Eq erel_eq σ n' hle hσ, (apFuncRun_means fn c h1 a n).2⟩

theorem apFunc_sound (fn : NFn) (c : Ex) (h1 : Nat) (a : Ex → FExpr) (n : Net) (n' : Net)
    (hle : SpecLe (apFuncRun fn c h1 a n).2 n') (σ : Nat → TV)
    (hσ : ∀ p v, σ p = some v → evalS σ (n'.spec p) = some v) (r : Try Val)
    (hq : σ (apFuncRun fn c h1 a n).1 = some r) :
    bindOk (σ h1) (fun x => bindOk (evalS σ (a c)) (fun y => some (.success (fn c [x, y]).1))) = some r :=
  (apFuncRun_means fn c h1 a n).1 Below erel_below σ n' hle (fun p v hv => hσ p v hv) r hq

/-- `future.With(withf, v, ctx...)(a)`: `withf(a, b)` on the value `b` of `v` -/
theorem with_denotation (fn : NFn) (c : Ex) (v : Nat) (a : Val) (n : Net) (n' : Net)
    (hle : SpecLe (withRun fn c v a n).2 n') (σ : Nat → TV) (hσ : ∀ p, σ p = evalS σ (n'.spec p)) :
    σ (withRun fn c v a n).1 = bindOk (σ v) (fun b => some (.success (fn c [a, b]).1)) ∧
    (withRun fn c v a n).2.log = n.log :=
  ⟨(withRun_means fn c v a n).1 Eq erel_eq σ n' hle hσ, (withRun_means fn c v a n).2⟩

theorem evalS_replace (σ : Nat → TV) (ta : Nat) (b : Val) :
    evalS σ (Fut.replace ta b) = bindOk (σ ta) (fun _ => some (.success b)) := by
  simp only [Fut.replace, evalS_map, evalS]

/-- `ComposeTry(f1, f2)(a)`: `f1(a)` (run by the caller), then `f2` on its value -/
theorem evalS_composeTry (σ : Nat → TV) (f1 : Ex → Val → W (Try Val)) (f2 : Ex → Val → FExpr) (c : Ex) (a : Val) :
    evalS σ (composeTry f1 f2 c a) = bindOk (some (f1 .s a).1) (fun v => evalS σ (f2 c v)) := by
  simp only [composeTry, evalS, evalS_fromTry]

theorem evalS_composeOption (σ : Nat → TV) (f1 : Ex → Val → W (Option Val)) (f2 : Ex → Val → FExpr) (c : Ex) (a : Val) :
    evalS σ (composeOption f1 f2 c a) = bindOk (some (tryOfOption (f1 .s a).1)) (fun v => evalS σ (f2 c v)) := by
  simp only [composeOption, evalS, evalS_fromOption]

theorem evalS_composePure (σ : Nat → TV) (f : Ex → Val → W Val) (a : Val) :
    evalS σ (composePure f a) = some (.success (f .s a).1) := rfl

/-- `Func0` passes its executor on (unlike `FuncN`, N ≥ 1) -/
theorem evalS_func0 (σ : Nat → TV) (f : Ex → List Val → W (Try Val)) (c : Ex) : evalS σ (func0 f c) = some (f c []).1 := rfl

theorem evalS_flatMapTraverseSeq (σ : Nat → TV) (ta : FExpr) (f : Val → FExpr) :
    evalS σ (flatMapTraverseSeq ta f) = bindOk (evalS σ ta) (fun xs => evalS σ (traverseSeq (elems xs) f)) := rfl

theorem evalS_mapSeqLift (σ : Nat → TV) (ta : FExpr) (f : Ex → Val → W Val) (c : Ex) :
    evalS σ (mapSeqLift ta f c)
      = bindOk (evalS σ ta) (fun xs => some (.success (.seq ((elems xs).map (fun x => (f c x).1))))) := by
  simp only [mapSeqLift, evalS_map, List.map_map]
  rfl

end FpVerif.Spec.C14Fut
