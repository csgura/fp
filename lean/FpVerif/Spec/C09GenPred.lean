import FpVerif.Gen.TCGen
import FpVerif.Lemmas.TCGenCheck
import FpVerif.Spec.C09Gen
/-!
# C09 — the predicate helpers of `eq/eq_op.go` (`GivenValue`, `NotNilAnd`, `SomeAnd`, `FieldNilOr`, …), TRANSLATED from the
# source on every run

They are `fp.Predicate`s built from `eq.Given` / `eq.PtrGiven` and nil / `None` / zero-value tests, not type-class
instances: `Model/TypeClasses.lean` has no definition for them, so each translated function is characterised directly
(`…_def`).  In `NotZero…` / `ZeroOr` (as in the `Empty`s of `Spec/C11Gen`) `GoZero.zero` is the Go zero value itself, not the
value of a panicking read.  Nothing imports this module: a change to a helper touches only these theorems.
-/
namespace FpVerif.Spec.C09GenPred
open FpVerif.TC FpVerif.GoSem FpVerif.Gen.TC FpVerif.Spec.C09Gen

variable {T A : Type}

theorem eq_GivenValue_def [DecidableEq T] [GoZero T] (a b : T) : eq_GivenValue a b = decide (a = b) := rfl
theorem eq_GivenPtr_def [DecidableEq T] [GoZero T] (a b : Ptr T) : eq_GivenPtr a b = (EqD.ptrGiven : EqD (Ptr T)).eqv a b := by
  unfold eq_GivenPtr; rw [eq_PtrGiven_is_model]
theorem eq_GivenFieldValue_def {S : Type} [GoZero S] [DecidableEq T] [GoZero T] (getter : S → T) (a : T) (s : S) :
    eq_GivenFieldValue getter a s = decide (getter s = a) := rfl
theorem eq_GivenFieldPtr_def {S : Type} [GoZero S] [DecidableEq T] [GoZero T] (getter : S → Ptr T) (a : Ptr T) (s : S) :
    eq_GivenFieldPtr getter a s = (EqD.ptrGiven : EqD (Ptr T)).eqv (getter s) a := by
  unfold eq_GivenFieldPtr; rw [eq_PtrGiven_is_model]
theorem eq_NotNilAnd_def [GoZero A] (pf : A → Bool) (a : Ptr A) :
    eq_NotNilAnd pf a = match a with | none => false | some r => pf r.val := by cases a <;> rfl
theorem eq_NilOr_def [GoZero A] (pf : A → Bool) (a : Ptr A) :
    eq_NilOr pf a = match a with | none => true | some r => pf r.val := by cases a <;> rfl
theorem eq_NotZero_def [DecidableEq A] [GoZero A] (v : A) : eq_NotZero v = decide (v ≠ GoZero.zero) := rfl
theorem eq_NotZeroAnd_def [DecidableEq A] [GoZero A] (pf : A → Bool) (a : A) :
    eq_NotZeroAnd pf a = (decide (a ≠ GoZero.zero) && pf a) := by
  unfold eq_NotZeroAnd; by_cases h : a = GoZero.zero <;> simp [h]
theorem eq_ZeroOr_def [DecidableEq A] [GoZero A] (pf : A → Bool) (a : A) :
    eq_ZeroOr pf a = (decide (a = GoZero.zero) || pf a) := by
  unfold eq_ZeroOr; by_cases h : a = GoZero.zero <;> simp [h]
theorem eq_SomeAnd_def [GoZero A] (pf : A → Bool) (a : Option A) :
    eq_SomeAnd pf a = match a with | none => false | some v => pf v := by cases a <;> rfl
theorem eq_NoneOr_def [GoZero A] (pf : A → Bool) (a : Option A) :
    eq_NoneOr pf a = match a with | none => true | some v => pf v := by cases a <;> rfl
theorem eq_FieldNotNilAnd_def {B : Type} [GoZero A] [GoZero B] (getter : A → Ptr B) (pf : B → Bool) (a : A) :
    eq_FieldNotNilAnd getter pf a = eq_NotNilAnd pf (getter a) := rfl
theorem eq_FieldNilOr_def {B : Type} [GoZero A] [GoZero B] (getter : A → Ptr B) (pf : B → Bool) (a : A) :
    eq_FieldNilOr getter pf a = eq_NilOr pf (getter a) := rfl
theorem eq_FieldSomeAnd_def {B : Type} [GoZero A] [GoZero B] (getter : A → Option B) (pf : B → Bool) (a : A) :
    eq_FieldSomeAnd getter pf a = eq_SomeAnd pf (getter a) := rfl
theorem eq_FieldNoneOr_def {B : Type} [GoZero A] [GoZero B] (getter : A → Option B) (pf : B → Bool) (a : A) :
    eq_FieldNoneOr getter pf a = eq_NoneOr pf (getter a) := rfl

end FpVerif.Spec.C09GenPred

-- every translated helper has its theorem above (fails the build otherwise)
#tc_ties FpVerif.Spec.C09GenPred "eq.GivenValue" "eq.GivenPtr" "eq.GivenFieldValue" "eq.GivenFieldPtr" "eq.NotNilAnd" "eq.NilOr" "eq.NotZero" "eq.NotZeroAnd" "eq.ZeroOr" "eq.SomeAnd" "eq.NoneOr" "eq.FieldNotNilAnd" "eq.FieldNilOr" "eq.FieldSomeAnd" "eq.FieldNoneOr"
