import FpVerif.Lemmas.TCEq
import FpVerif.Model.TCInst
/-!
# C09 — Eq instances are equivalences and hold exactly when the components are pairwise equal;
#        Hashable agrees with Eq.

For every combinator of package eq:  `*_eqv_iff` (what `Eqv` decides, in terms of the component
instances) and `*_lawful` (reflexive, symmetric, transitive given lawful components).
For every combinator of package hash: `*_lawful` (`LawfulHash`: the embedded Eq is lawful and
`Eqv a b → Hash a = Hash b`; `Hash` is a function, i.e. deterministic).
`einst_lawful` / `hinst_lawful`: every instance expression, nested to any depth and at every tuple
arity (`TupleN` = `tupleN i₁ (… (tuple1 iₙ))`), is lawful.
-/
namespace FpVerif.Spec.C09
open FpVerif.TC

variable {α β τ κ ν : Type}

-- ============================================================================ package eq

theorem given_eqv_iff [DecidableEq α] (a b : α) : (EqD.given : EqD α).eqv a b = true ↔ a = b :=
  decide_eq_true_iff

theorem given_lawful [DecidableEq α] : LawfulEq (EqD.given : EqD α) :=
  .of_iff given_eqv_iff (fun _ => rfl) (fun _ _ => Eq.symm) (fun _ _ _ => Eq.trans)

/-- `eq.ContraMap`: compares the images. -/
theorem contraMap_eqv_iff (e : EqD β) (fn : α → β) (a b : α) :
    (EqD.contraMap e fn).eqv a b = e.eqv (fn a) (fn b) := rfl

theorem contraMap_lawful {e : EqD β} (h : LawfulEq e) (fn : α → β) : LawfulEq (EqD.contraMap e fn) where
  refl a := h.refl (fn a)
  symm a b := h.symm (fn a) (fn b)
  trans a b c := h.trans (fn a) (fn b) (fn c)

theorem bytes_eqv_iff (a b : List UInt8) : EqD.bytes.eqv a b = true ↔ a = b := decide_eq_true_iff

theorem bytes_lawful : LawfulEq EqD.bytes := given_lawful (α := List UInt8)

/-- `eq.Time`: the same instant, whatever the location. -/
theorem time_eqv_iff (a b : TimeV) : EqD.time.eqv a b = true ↔ a.instant = b.instant :=
  decide_eq_true_iff

theorem time_lawful : LawfulEq EqD.time := contraMap_lawful given_lawful TimeV.instant

theorem tuple1_eqv_iff (e : EqD α) (a b : T1 α) : (EqD.tuple1 e).eqv a b = e.eqv a.i1 b.i1 := rfl

theorem tuple1_lawful {e : EqD α} (h : LawfulEq e) : LawfulEq (EqD.tuple1 e) := contraMap_lawful h T1.i1

/-- `eq.Option`: both empty, or both defined with equivalent contents. -/
theorem option_eqv_iff (e : EqD α) (a b : Option α) :
    (EqD.option e).eqv a b = true ↔ OptRel (fun x y => e.eqv x y = true) a b :=
  FpVerif.TC.option_eqv_iff e a b

theorem option_lawful {e : EqD α} (h : LawfulEq e) : LawfulEq (EqD.option e) := FpVerif.TC.option_lawful h

/-- `eq.Seq`: same size and pairwise equivalent elements (position by position). -/
theorem seq_eqv_iff (e : EqD α) (a b : List α) :
    (EqD.seq e).eqv a b = true ↔
      ∃ h : a.length = b.length, ∀ (i : Nat) (hi : i < a.length), e.eqv (a[i]) (b[i]'(h ▸ hi)) = true := by
  rw [FpVerif.TC.seq_eqv_iff, pointwise_iff_getElem]

theorem seq_lawful {e : EqD α} (h : LawfulEq e) : LawfulEq (EqD.seq e) := FpVerif.TC.seq_lawful h

/-- `eq.Slice` is `eq.Seq` (a nil and an empty slice are equal: both have size 0). -/
theorem slice_eqv_iff (e : EqD α) (a b : List α) : (EqD.slice e).eqv a b = (EqD.seq e).eqv a b := rfl

theorem slice_lawful {e : EqD α} (h : LawfulEq e) : LawfulEq (EqD.slice e) := contraMap_lawful (seq_lawful h) id

theorem hnil_lawful : LawfulEq EqD.hnil := given_lawful

/-- `eq.HCons`: heads equivalent and tails equivalent. -/
theorem hcons_eqv_iff (he : EqD α) (te : EqD τ) (a b : α × τ) :
    (EqD.hcons he te).eqv a b = true ↔ he.eqv a.1 b.1 = true ∧ te.eqv a.2 b.2 = true :=
  Bool.and_eq_true_iff

theorem hcons_lawful {he : EqD α} {te : EqD τ} (h1 : LawfulEq he) (h2 : LawfulEq te) :
    LawfulEq (EqD.hcons he te) :=
  .of_iff (hcons_eqv_iff he te) (fun _ => ⟨h1.refl _, h2.refl _⟩)
    (fun _ _ x => ⟨h1.symm _ _ x.1, h2.symm _ _ x.2⟩)
    (fun _ _ _ x y => ⟨h1.trans _ _ _ x.1 y.1, h2.trans _ _ _ x.2 y.2⟩)

/-- `eq.TupleN`: first components equivalent and the remaining N-1 components equivalent. -/
theorem tupleN_eqv_iff (e1 : EqD α) (pt : EqD τ) (a b : α × τ) :
    (EqD.tupleN e1 pt).eqv a b = true ↔ e1.eqv a.1 b.1 = true ∧ pt.eqv a.2 b.2 = true :=
  Bool.and_eq_true_iff

theorem tupleN_lawful {e1 : EqD α} {pt : EqD τ} (h1 : LawfulEq e1) (h2 : LawfulEq pt) :
    LawfulEq (EqD.tupleN e1 pt) := hcons_lawful h1 h2

/-- `eq.Ptr` is `eq.Option` on the targets -/
theorem ptr_eq (e : Unit → EqD α) : EqD.ptr e = EqD.contraMap (EqD.option (e ())) (Option.map Ref.val) := by
  unfold EqD.ptr EqD.contraMap
  congr
  funext a b
  cases a <;> cases b <;> rfl

/-- `eq.Ptr`: both nil, or both non-nil with equivalent targets — the pointer identity plays no role. -/
theorem ptr_eqv_iff (e : Unit → EqD α) (a b : Ptr α) :
    (EqD.ptr e).eqv a b = true ↔ OptRel (fun x y => (e ()).eqv x.val y.val = true) a b := by
  rw [ptr_eq, contraMap_eqv_iff, option_eqv_iff, optRel_map]

theorem ptr_lawful {e : Unit → EqD α} (h : LawfulEq (e ())) : LawfulEq (EqD.ptr e) :=
  ptr_eq e ▸ contraMap_lawful (option_lawful h) _

/-- different pointers with equal targets are equal -/
theorem ptr_eqv_ignores_address (e : Unit → EqD α) (h : LawfulEq (e ())) (p q : Nat) (v : α) :
    (EqD.ptr e).eqv (some ⟨p, v⟩) (some ⟨q, v⟩) = true := h.refl v

theorem ptrGiven_lawful [DecidableEq α] : LawfulEq (EqD.ptrGiven : EqD (Ptr α)) := ptr_lawful given_lawful

/-- `eq.GoMap` / `eq.FpMap`: the same key set and equivalent values under every key — independent of
    the iteration order of either map. -/
theorem goMap_eqv_iff [DecidableEq κ] (e : EqD ν) (a b : GoMap κ ν) :
    (EqD.goMap e).eqv a b = true ↔ ∀ k, OptRel (fun x y => e.eqv x y = true) (a.get k) (b.get k) :=
  FpVerif.TC.goMap_eqv_iff e a b

theorem fpMap_eq_goMap [DecidableEq κ] (e : EqD ν) : (EqD.fpMap e : EqD (GoMap κ ν)) = EqD.goMap e := rfl

theorem goMap_lawful [DecidableEq κ] {e : EqD ν} (h : LawfulEq e) : LawfulEq (EqD.goMap e : EqD (GoMap κ ν)) :=
  FpVerif.TC.goMap_lawful h

theorem fpMap_lawful [DecidableEq κ] {e : EqD ν} (h : LawfulEq e) : LawfulEq (EqD.fpMap e : EqD (GoMap κ ν)) :=
  goMap_lawful h

/-- Every Eq instance expression is an equivalence relation. -/
theorem einst_lawful : ∀ {α : Type} (i : EInst α), LawfulEq i.denote := by
  intro α i
  induction i with
  | given => exact given_lawful
  | bytes => exact bytes_lawful
  | time => exact time_lawful
  | hnil => exact hnil_lawful
  | tuple1 _ ih => exact tuple1_lawful ih
  | tupleN _ _ ih1 ih2 => exact tupleN_lawful ih1 ih2
  | option _ ih => exact option_lawful ih
  | seq _ ih => exact seq_lawful ih
  | slice _ ih => exact slice_lawful ih
  | hcons _ _ ih1 ih2 => exact hcons_lawful ih1 ih2
  | ptr _ ih => exact ptr_lawful ih
  | ptrGiven => exact ptrGiven_lawful
  | contraMap _ fn ih => exact contraMap_lawful ih fn
  | goMap _ _ ih => exact goMap_lawful ih
  | fpMap _ _ ih => exact fpMap_lawful ih

-- ============================================================================ package hash

/-- any hasher over the built-in `==` is lawful: `Eqv a b` means `a = b` (Number, String) -/
theorem hash_given_lawful [DecidableEq α] (f : α → UInt32) : LawfulHash (HashD.new EqD.given f) where
  eq := given_lawful
  hash_eqv a b h := congrArg f ((given_eqv_iff a b).mp h)

theorem numberInt_lawful : LawfulHash HashD.numberInt := hash_given_lawful _
theorem numberInt64_lawful : LawfulHash HashD.numberInt64 := hash_given_lawful _
theorem string_lawful : LawfulHash HashD.string := hash_given_lawful _

theorem bytes_hash_lawful : LawfulHash HashD.bytes := hash_given_lawful _

theorem hash_contraMap_lawful {h : HashD β} (hl : LawfulHash h) (fn : α → β) : LawfulHash (HashD.contraMap h fn) where
  eq := contraMap_lawful hl.eq fn
  hash_eqv a b hab := hl.hash_eqv (fn a) (fn b) hab

theorem hash_tuple1_lawful {h : HashD α} (hl : LawfulHash h) : LawfulHash (HashD.tuple1 h) :=
  hash_contraMap_lawful hl T1.i1

theorem hash_hnil_lawful : LawfulHash HashD.hnil := ⟨hnil_lawful, fun _ _ _ => rfl⟩

theorem hash_pair_lawful {hh : HashD α} {th : HashD τ} (h1 : LawfulHash hh) (h2 : LawfulHash th)
    (g : UInt32 → UInt32 → UInt32) :
    LawfulHash (HashD.new (EqD.hcons hh.toEq th.toEq) fun a => g (hh.hash a.1) (th.hash a.2)) where
  eq := hcons_lawful h1.eq h2.eq
  hash_eqv a b hab := by
    have := (hcons_eqv_iff hh.toEq th.toEq a b).mp hab
    show g _ _ = g _ _
    rw [h1.hash_eqv _ _ this.1, h2.hash_eqv _ _ this.2]

theorem hash_hcons_lawful [HListT τ] {hh : HashD α} {th : HashD τ} (h1 : LawfulHash hh) (h2 : LawfulHash th) :
    LawfulHash (HashD.hcons hh th) :=
  hash_pair_lawful h1 h2 fun x y => if HListT.isNil τ then x else x * 31 + y

theorem hash_tupleN_lawful {h1 : HashD α} {pt : HashD τ} (l1 : LawfulHash h1) (l2 : LawfulHash pt) :
    LawfulHash (HashD.tupleN h1 pt) :=
  hash_pair_lawful l1 l2 fun x y => x * 31 + y

/-- `hash.Seq`: pairwise equivalent sequences fold to the same hash (a nil and an empty slice are
    the same model value and hash to 0). -/
theorem hash_seq_lawful {h : HashD α} (hl : LawfulHash h) : LawfulHash (HashD.seq h) where
  eq := seq_lawful hl.eq
  hash_eqv a b hab :=
    ((FpVerif.TC.seq_eqv_iff h.toEq a b).mp hab).foldl_congr
      (fun c x y hxy => congrArg (c * 31 + ·) (hl.hash_eqv x y hxy)) 0

theorem hash_slice_lawful {h : HashD α} (hl : LawfulHash h) : LawfulHash (HashD.slice h) :=
  hash_contraMap_lawful (hash_seq_lawful hl) id

theorem hash_option_lawful {h : HashD α} (hl : LawfulHash h) : LawfulHash (HashD.option h) where
  eq := option_lawful hl.eq
  hash_eqv
    | none, none, _ => rfl
    | some a, some b, hab => hl.hash_eqv a b hab
    | none, some _, hab => nomatch hab
    | some _, none, hab => nomatch hab

/-- `hash.Ptr` is `hash.Option` on the targets -/
theorem hash_ptr_eq (h : Unit → HashD α) :
    HashD.ptr h = HashD.contraMap (HashD.option (h ())) (Option.map Ref.val) := by
  unfold HashD.ptr HashD.contraMap
  congr
  · exact ptr_eq fun _ => (h ()).toEq
  · funext a
    cases a <;> rfl

/-- `hash.Ptr`: equal targets behind different pointers hash alike; nil hashes to 0. -/
theorem hash_ptr_lawful {h : Unit → HashD α} (hl : LawfulHash (h ())) : LawfulHash (HashD.ptr h) :=
  hash_ptr_eq h ▸ hash_contraMap_lawful (hash_option_lawful hl) _

/-- Every Hashable instance expression is an equivalence with an agreeing hash. -/
theorem hinst_lawful : ∀ {α : Type} (i : HInst α), LawfulHash i.denote := by
  intro α i
  induction i with
  | numberInt => exact numberInt_lawful
  | numberInt64 => exact numberInt64_lawful
  | string => exact string_lawful
  | bytes => exact bytes_hash_lawful
  | hnil => exact hash_hnil_lawful
  | tuple1 _ ih => exact hash_tuple1_lawful ih
  | tupleN _ _ ih1 ih2 => exact hash_tupleN_lawful ih1 ih2
  | hcons _ _ ih1 ih2 => exact hash_hcons_lawful ih1 ih2
  | seq _ ih => exact hash_seq_lawful ih
  | slice _ ih => exact hash_slice_lawful ih
  | ptr _ ih => exact hash_ptr_lawful ih
  | option _ ih => exact hash_option_lawful ih
  | contraMap _ fn ih => exact hash_contraMap_lawful ih fn

/-- The Eq embedded in a Hashable built by package hash is the eq-package instance of the same
    shape (so `*_eqv_iff` above describe it). -/
theorem hash_seq_toEq (h : HashD α) : (HashD.seq h).toEq = EqD.seq h.toEq := rfl
theorem hash_option_toEq (h : HashD α) : (HashD.option h).toEq = EqD.option h.toEq := rfl
theorem hash_ptr_toEq (h : Unit → HashD α) : (HashD.ptr h).toEq = EqD.ptr fun _ => (h ()).toEq := rfl
theorem hash_tupleN_toEq (h : HashD α) (pt : HashD τ) : (HashD.tupleN h pt).toEq = EqD.tupleN h.toEq pt.toEq := rfl
theorem hash_hcons_toEq [HListT τ] (h : HashD α) (t : HashD τ) : (HashD.hcons h t).toEq = EqD.hcons h.toEq t.toEq := rfl

-- non-vacuity / concrete cases -------------------------------------------------------------------

/-- different pointers to equal targets: equal and equally hashed -/
example : (HashD.ptr fun _ => HashD.numberInt).eqv (some ⟨1, 7⟩) (some ⟨2, 7⟩) = true ∧
    (HashD.ptr fun _ => HashD.numberInt).hash (some ⟨1, 7⟩) = (HashD.ptr fun _ => HashD.numberInt).hash (some ⟨2, 7⟩) :=
  ⟨by decide, rfl⟩

example : LawfulHash (HashD.tupleN HashD.string (HashD.tupleN (HashD.option HashD.numberInt)
    (HashD.tuple1 (HashD.seq (HashD.ptr fun _ => HashD.numberInt))))) :=
  hinst_lawful (HInst.tupleN .string (.tupleN (.option .numberInt) (.tuple1 (.seq (.ptr .numberInt)))))

/-- an equivalence that is coarser than `=`: ContraMap through a non-injective function -/
example : (EqD.contraMap (EqD.given : EqD Int) (fun x : Int => x % 3)).eqv 1 4 = true := by decide

end FpVerif.Spec.C09
