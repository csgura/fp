import FpVerif.Gen.AtomFacts
/-!
# C16 — regenerated facts: the shape of the three memo cells (`lazy.Memoize`, `fp.Memoize`, `fn1.Memoize`)

`Model/Memo.lean` / `Model/MemoPanic.lean` model a memo cell as: `once.Do(func() { ret = f() }); return ret`, with the
atomic steps of `sync.Once` itself (fast-path load, Lock, second load, f, deferred done.Store, deferred Unlock) trusted
(`checks_config.py`, assumptions of C16).  There are no yield hooks in these functions (the concurrent runs of the
memopanic harness use real goroutines), so what is checked here is the SHAPE (c) and the accessor set (d) — labels as
at the head of `Spec/C05Facts.lean`:

| model (`MemoPanic.step`) | Go |
|---|---|
| the six steps of `sync.Once.Do` | `once.Do(<closure>)` — first event of the returned closure, on every path |
| `f k` runs inside the Once, its value is stored into the cell | closure handed to `Do`: `ret = f()` — the callback, THEN the write of `ret` |
| the answer is read after `Do` returned | `return ret` — the read of `ret` comes after `once.Do`, never before |
-/
namespace FpVerif.Spec.C16AtomFacts
open FpVerif.AtomShape FpVerif.Gen.Atom

def body (name : String) : Sq := bodyOf funcs name

def memoNames : List String := ["lazy.Memoize", "fp.Memoize", "fn1.Memoize"]

def memoFuncs : List AFunc := funcs.filter (fun f => ["lazy/lazy.go", "fp.go", "fn1/fn1.go"].contains f.file)

/-- (c) the constructor only allocates; the returned closure is `once.Do(inner); read ret; return`; the inner closure
    is `f(); write ret` -/
theorem skeleton_memoize :
    memoNames.map body = List.replicate 3 (seq [a .ret]) ∧
    body "lazy.Memoize$1" = seq [a (.onceDo "lazy.Memoize$1$1"), a (.rvar 0), a .ret] ∧
    body "fp.Memoize$1" = seq [a (.onceDo "fp.Memoize$1$1"), a (.rvar 0), a .ret] ∧
    body "fn1.Memoize$1" = seq [a (.onceDo "fn1.Memoize$1$1"), a (.rvar 0), a .ret] ∧
    ["lazy.Memoize$1$1", "fp.Memoize$1$1", "fn1.Memoize$1$1"].map body = List.replicate 3 (seq [a .cb, a (.wvar 0)]) := by
  decide +kernel

/-- (d) exactly these nine functions exist; the thunk is called by the inner closures only, the cell variable is
    written by the inner closures only and read by the returned closures only -/
theorem cell_accessors :
    memoFuncs.map (·.name) =
      ["lazy.Memoize", "lazy.Memoize$1", "lazy.Memoize$1$1", "fp.Memoize", "fp.Memoize$1", "fp.Memoize$1$1",
       "fn1.Memoize", "fn1.Memoize$1", "fn1.Memoize$1$1"] ∧
    (memoFuncs.filter (fun f => f.events.contains .cb)).map (·.name) = ["lazy.Memoize$1$1", "fp.Memoize$1$1", "fn1.Memoize$1$1"] ∧
    (memoFuncs.filter (fun f => f.events.contains (.wvar 0))).map (·.name) = ["lazy.Memoize$1$1", "fp.Memoize$1$1", "fn1.Memoize$1$1"] ∧
    (memoFuncs.filter (fun f => f.events.contains (.rvar 0))).map (·.name) = ["lazy.Memoize$1", "fp.Memoize$1", "fn1.Memoize$1"] := by
  decide +kernel

/-- no other synchronisation, no atomics, no locks of their own -/
theorem only_once :
    memoFuncs.all (fun f => f.events.all (fun e =>
      match e with
      | .onceDo _ | .cb | .rvar 0 | .wvar 0 | .ret => true
      | _ => false)) = true := by decide +kernel

end FpVerif.Spec.C16AtomFacts
