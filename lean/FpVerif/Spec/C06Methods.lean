import FpVerif.Lemmas.CollRun
import FpVerif.Spec.C06Sound
import FpVerif.Model.FutureMethods
/-!
# C06 — the `fp.Future` methods evaluate like the C01/C02-verified `fp.Try` functions (audit finding 7)

`evalS` gives `.transform e f` the value `(f t).1` for an ARBITRARY `f`; the property ("the value obtained by evaluating
the same expression over fp.Try") is about the CONCRETE functions of future.go.  This module

 1. embeds writer functions into the effect monad of the Try model (`lift : W α → GoM α`),
 2. proves that the Try function of each method (`Model/FutureMethods.lean`: `mMapF`, `mRecoverF`, `mRecoverCaseF`,
    `mFailedF`) IS, on every well-formed Try, the Go task body read in the Try model — `TryM.flatMap` (`Future.Map`:
    `np.Failure(t.Failed().Get())`), `TryM.recover`, `TryM.recoverCase`, and `goFailed` — as an equation between `GoM`
    computations (value AND log), with the panic companions for `failure .nil` (the excluded branch of finding 1),
 3. restates `evalS` of every method (`mMap`, `mRecover`, `mRecoverCase`, `mFailed`, `mFlatMap`, `mRecoverWith`,
    `mRecoverCaseWith`, `mOr`, `mOrFuture`) through those `TryM` functions (`evalS_*_TryM`), and `bindOk` / `bindTry`
    through `TryM.flatMap` / `TryM.recoverCaseWith` / `TryM.or` / `TryM.orTry`,
 4. shows that a pooled `transformA` task IS "run the TryM function on the net's log, then `Complete`" (`runTask_*_TryM`),
 5. states that the lambdas `Oracle/Future.lean:150-182` writes inline are instances of the same functions (`oracle_*`),
 6. gives `future.Apply` / `Apply2` with an explicitly panicking user function (`mApply`, `mApply2`): the recover is part
    of the modelled task (`applyGo_of`: the task body is `TryM.of f`), and the future completes with
    `Failure(PanicError(p))` (`apply_completes_on_panic`), keeping what was logged before the panic.
-/
namespace FpVerif.Spec.C06
open FpVerif FpVerif.Fut

/-- on a well-formed failure `t.Failed().Get()` returns the error -/
theorem failedGet_wf {α : Type} {e : Err} (h : WFTry (.failure e)) : Try.failedGet (.failure e : Try α) = pure e :=
  Try.failedGet_failure e ((wfTry_failure e).1 h)

-- 1. writer functions as computations of the Try model ------------------------------------------------------------------

/-- a writer result as a `GoM` computation: append the events, return the value (never panics) -/
def lift {α : Type} (x : W α) : GoM α := do modify (· ++ x.2); pure x.1

theorem lift_run {α : Type} (x : W α) (l : List Event) : (lift x).run.run l = (.ok x.1, l ++ x.2) := rfl

theorem lift_exec {α : Type} (x : W α) : (lift x).exec = (.ok x.1, x.2) := rfl

theorem lift_nil {α : Type} (a : α) : lift ((a, []) : W α) = pure a := by
  funext l
  simp [lift]
  rfl

theorem lift_bind_pure {α β : Type} (x : W α) (g : α → β) :
    (lift x >>= fun a => pure (g a)) = lift ((g x.1, x.2) : W β) := rfl

theorem lift_bind_lift {α β : Type} (x : W α) (y : α → W β) :
    (lift x >>= fun a => lift (y a)) = lift (((y x.1).1, x.2 ++ (y x.1).2) : W β) := by
  funext l
  show (lift x >>= fun a => lift (y a)).run.run l = (lift _).run.run l
  simp only [lift_run]
  show (Except.ok (y x.1).1, (l ++ x.2) ++ (y x.1).2) = _
  rw [List.append_assoc]

-- 2. the task bodies of the methods, read in the Try model ----------------------------------------------------------------

/-- `Future.Failed()`'s task (future.go:212-218) in the Try model: `t.Failed().Get()` may panic -/
def goFailed (t : Try Val) : GoM (Try Val) :=
  match t with
  | .success _ => pure (.failure .futureNotFailed)
  | .failure e => do let e ← Try.failedGet (.failure e : Try Val); pure (.success (.str e.toStr))

/-- `Future.Map(mf)` (future.go:318-324): success → `np.Success(mf(t.Get()))`, failure → `np.Failure(t.Failed().Get())`:
    that is `try.FlatMap(t, v => Success(mf(v)))` of the C01 model, whose failure branch also goes through
    `t.Failed().Get()`. -/
theorem mMapF_TryM (mf : Val → W Val) (t : Try Val) (h : WFTry t) :
    lift (mMapF mf t) = TryM.flatMap t (fun v => do let r ← lift (mf v); pure (.success r)) := by
  cases t with
  | success v => rfl
  | failure e => simp [mMapF, TryM.flatMap, failedGet_wf h, lift_nil]

/-- … and it is also the method `Try.Map` (try.go:55-60; no `Failed().Get()` there), for EVERY `t` -/
theorem mMapF_TryM_mMap (mf : Val → W Val) (t : Try Val) :
    lift (mMapF mf t) = TryM.mMap t (fun v => lift (mf v)) := by
  cases t with
  | success v => rfl
  | failure e => simp [mMapF, TryM.mMap, lift_nil]

/-- `Future.Recover(f)` (future.go:258-264) is `Try.Recover` (try.go:122-128) -/
theorem mRecoverF_TryM (f : Err → W Val) (t : Try Val) (h : WFTry t) :
    lift (mRecoverF f t) = TryM.recover t (fun e => lift (f e)) := by
  cases t with
  | success v => simp [mRecoverF, TryM.recover, lift_nil]
  | failure e =>
    simp [mRecoverF, TryM.recover, failedGet_wf h]
    rfl

/-- `Future.RecoverCase(isDefinedAt, then)` (future.go:272-274) is `Try.RecoverCase` (try.go:130-140): `isDefinedAt`
    is evaluated first (and may log), `then` only if it said true -/
theorem mRecoverCaseF_TryM (d : Err → W Bool) (f : Err → W Val) (t : Try Val) (h : WFTry t) :
    lift (mRecoverCaseF d f t) = TryM.recoverCase t (fun e => lift (d e)) (fun e => lift (f e)) := by
  cases t with
  | success v => simp [mRecoverCaseF, TryM.recoverCase, lift_nil]
  | failure e =>
    simp only [mRecoverCaseF, TryM.recoverCase, failedGet_wf h, pure_bind]
    funext l
    show (lift _).run.run l = (lift (d e) >>= fun b => if b = true then _ else _).run.run l
    rcases hd : d e with ⟨b, evs1⟩
    cases b with
    | false => rfl
    | true =>
      show _ = (Except.ok (Try.success (f e).1), (l ++ evs1) ++ (f e).2)
      rw [List.append_assoc]; rfl

theorem mFailedF_go (t : Try Val) (h : WFTry t) : lift (mFailedF t) = goFailed t := by
  cases t with
  | success v => simp [mFailedF, goFailed, lift_nil]
  | failure e => simp [mFailedF, goFailed, failedGet_wf h, lift_nil]

/-- **Panic companions** (the branch excluded by `WFTry`, cf. `illformed_source_excluded`): on the zero-value Try every one
    of these task bodies panics in `t.Failed().Get()` before it reaches `np.Complete`, whatever the callbacks are — the
    model functions are total there (`mMapF mf (.failure .nil) = (.failure .nil, [])`, …). -/
theorem method_tasks_panic_on_nil (k : Val → GoM (Try Val)) (f : Err → GoM Val) (d : Err → GoM Bool) :
    TryM.flatMap (.failure .nil) k = throw "ErrNotInit" ∧
    TryM.recover (.failure .nil : Try Val) f = throw "ErrNotInit" ∧
    TryM.recoverCase (.failure .nil : Try Val) d f = throw "ErrNotInit" ∧
    goFailed (.failure .nil) = throw "ErrNotInit" :=
  ⟨rfl, rfl, rfl, rfl⟩

/-- the method functions never introduce an ill-formed Try -/
theorem mMapF_wf (mf : Val → W Val) (t : Try Val) (h : WFTry t) : WFTry (mMapF mf t).1 := by
  cases t with
  | success v => exact wfTry_success _
  | failure e => exact h

theorem mRecoverF_wf (f : Err → W Val) (t : Try Val) : WFTry (mRecoverF f t).1 := by
  cases t <;> exact wfTry_success _

theorem mRecoverCaseF_wf (d : Err → W Bool) (f : Err → W Val) (t : Try Val) (h : WFTry t) :
    WFTry (mRecoverCaseF d f t).1 := by
  cases t with
  | success v => exact wfTry_success _
  | failure e =>
    simp only [mRecoverCaseF]
    split
    · exact wfTry_success _
    · exact h

theorem mFailedF_wf (t : Try Val) : WFTry (mFailedF t).1 := by
  cases t with
  | success v => exact (wfTry_failure _).2 (by decide)
  | failure e => exact wfTry_success _

theorem wfe_mMap (e : FExpr) (mf : Val → W Val) (he : WFE e) : WFE (mMap e mf) := .transform _ _ he (mMapF_wf mf)
theorem wfe_mRecover (e : FExpr) (f : Err → W Val) (he : WFE e) : WFE (mRecover e f) :=
  .transform _ _ he (fun t _ => mRecoverF_wf f t)
theorem wfe_mRecoverCase (e : FExpr) (d : Err → W Bool) (f : Err → W Val) (he : WFE e) : WFE (mRecoverCase e d f) :=
  .transform _ _ he (mRecoverCaseF_wf d f)
theorem wfe_mFailed (e : FExpr) (he : WFE e) : WFE (mFailed e) := .transform _ _ he (fun t _ => mFailedF_wf t)

theorem fo_mMap {b : Nat} (e : FExpr) (mf : Val → W Val) (he : FO b e) : FO b (mMap e mf) := .transform _ _ he
theorem fo_mRecover {b : Nat} (e : FExpr) (f : Err → W Val) (he : FO b e) : FO b (mRecover e f) := .transform _ _ he
theorem fo_mRecoverCase {b : Nat} (e : FExpr) (d : Err → W Bool) (f : Err → W Val) (he : FO b e) :
    FO b (mRecoverCase e d f) := .transform _ _ he
theorem fo_mFailed {b : Nat} (e : FExpr) (he : FO b e) : FO b (mFailed e) := .transform _ _ he

-- 3. `evalS` of the methods through the Try model ----------------------------------------------------------------------------

/-- generic: if the writer function `g` is, on the operand's value `t`, the `GoM` computation `G`, then the
    `.transform` evaluates to exactly what `G` returns (and `G` does not panic and logs what `g t` logs) -/
theorem evalS_transform_TryM (σ : Nat → Option (Try Val)) (e : FExpr) (g : Try Val → W (Try Val))
    (G : GoM (Try Val)) (t : Try Val) (he : evalS σ e = some t) (hG : lift (g t) = G) :
    ∃ r, evalS σ (.transform e g) = some r ∧ G.exec = (.ok r, (g t).2) := by
  subst hG
  refine ⟨(g t).1, ?_, rfl⟩
  simp only [evalS, he, Option.map_some]

/-- pending operand: pending result -/
theorem evalS_transform_none (σ : Nat → Option (Try Val)) (e : FExpr) (g : Try Val → W (Try Val))
    (he : evalS σ e = none) : evalS σ (.transform e g) = none := by simp [evalS, he]

/-- **`Future.Map` over fp.Try**: the value of `r.Map(mf)` is what `try.FlatMap(t, v => Success(mf(v)))` returns on the
    operand's (well-formed) value -/
theorem evalS_mMap_TryM (σ : Nat → Option (Try Val)) (e : FExpr) (mf : Val → W Val) (t : Try Val)
    (he : evalS σ e = some t) (h : WFTry t) :
    ∃ r, evalS σ (mMap e mf) = some r ∧
      (TryM.flatMap t (fun v => do let r ← lift (mf v); pure (.success r))).exec = (.ok r, (mMapF mf t).2) :=
  evalS_transform_TryM σ e _ _ t he (mMapF_TryM mf t h)

/-- **`Future.Recover` over fp.Try** -/
theorem evalS_mRecover_TryM (σ : Nat → Option (Try Val)) (e : FExpr) (f : Err → W Val) (t : Try Val)
    (he : evalS σ e = some t) (h : WFTry t) :
    ∃ r, evalS σ (mRecover e f) = some r ∧
      (TryM.recover t (fun x => lift (f x))).exec = (.ok r, (mRecoverF f t).2) :=
  evalS_transform_TryM σ e _ _ t he (mRecoverF_TryM f t h)

/-- **`Future.RecoverCase` over fp.Try** -/
theorem evalS_mRecoverCase_TryM (σ : Nat → Option (Try Val)) (e : FExpr) (d : Err → W Bool) (f : Err → W Val)
    (t : Try Val) (he : evalS σ e = some t) (h : WFTry t) :
    ∃ r, evalS σ (mRecoverCase e d f) = some r ∧
      (TryM.recoverCase t (fun x => lift (d x)) (fun x => lift (f x))).exec = (.ok r, (mRecoverCaseF d f t).2) :=
  evalS_transform_TryM σ e _ _ t he (mRecoverCaseF_TryM d f t h)

/-- **`Future.Failed`** -/
theorem evalS_mFailed_go (σ : Nat → Option (Try Val)) (e : FExpr) (t : Try Val)
    (he : evalS σ e = some t) (h : WFTry t) :
    ∃ r, evalS σ (mFailed e) = some r ∧ (goFailed t).exec = (.ok r, []) := by
  obtain ⟨r, h1, h2⟩ := evalS_transform_TryM σ e _ _ t he (mFailedF_go t h)
  refine ⟨r, h1, ?_⟩
  rw [h2]; cases t <;> rfl

/-- `bindOk` (the evaluation of `FlatMap`) is `try.FlatMap` of the C01 model -/
theorem bindOk_TryM (t : Try Val) (K : Val → Try Val) (h : WFTry t) :
    ∃ r, bindOk (some t) (fun v => some (K v)) = some r ∧ TryM.flatMap t (fun v => pure (K v)) = pure r := by
  cases t with
  | success v => exact ⟨K v, rfl, rfl⟩
  | failure e => exact ⟨.failure e, rfl, by simp [TryM.flatMap, failedGet_wf h]⟩

/-- **`Future.FlatMap` / `future.FlatMap` over fp.Try**: if the future the user function builds for `v` evaluates to `K v`,
    the whole evaluates to `try.FlatMap(t, K)` -/
theorem evalS_mFlatMap_TryM (σ : Nat → Option (Try Val)) (e : FExpr) (k : Val → FExpr) (t : Try Val) (K : Val → Try Val)
    (he : evalS σ e = some t) (h : WFTry t) (hK : ∀ v, evalS σ (k v) = some (K v)) :
    ∃ r, evalS σ (mFlatMap e k) = some r ∧ TryM.flatMap t (fun v => pure (K v)) = pure r := by
  obtain ⟨r, h1, h2⟩ := bindOk_TryM t K h
  refine ⟨r, ?_, h2⟩
  simp only [mFlatMap, evalS, he]
  rw [← h1]; congr 1; funext v; exact hK v

/-- **`Future.RecoverCaseWith` / `RecoverWith` over fp.Try** (`Try.RecoverCaseWith`, try.go:142-152) -/
theorem evalS_mRecoverCaseWith_TryM (σ : Nat → Option (Try Val)) (e : FExpr) (d : Err → Bool) (k : Err → FExpr)
    (t : Try Val) (K : Err → Try Val) (he : evalS σ e = some t) (h : WFTry t) (hK : ∀ x, evalS σ (k x) = some (K x)) :
    ∃ r, evalS σ (mRecoverCaseWith e d k) = some r ∧
      TryM.recoverCaseWith t (fun x => pure (d x)) (fun x => pure (K x)) = pure r := by
  cases t with
  | success v => exact ⟨.success v, by simp [mRecoverCaseWith, evalS, he, bindTry], rfl⟩
  | failure x =>
    cases hd : d x with
    | true =>
      exact ⟨K x, by simp [mRecoverCaseWith, evalS, he, bindTry, hd, hK],
        by simp [TryM.recoverCaseWith, failedGet_wf h, hd]⟩
    | false =>
      exact ⟨.failure x, by simp [mRecoverCaseWith, evalS, he, bindTry, hd],
        by simp [TryM.recoverCaseWith, failedGet_wf h, hd]⟩

theorem evalS_mRecoverWith_TryM (σ : Nat → Option (Try Val)) (e : FExpr) (k : Err → FExpr)
    (t : Try Val) (K : Err → Try Val) (he : evalS σ e = some t) (h : WFTry t) (hK : ∀ x, evalS σ (k x) = some (K x)) :
    ∃ r, evalS σ (mRecoverWith e k) = some r ∧ TryM.recoverWith t (fun x => pure (K x)) = pure r := by
  cases t with
  | success v => exact ⟨.success v, by simp [mRecoverWith, evalS, he, bindTry], rfl⟩
  | failure x =>
    exact ⟨K x, by simp [mRecoverWith, evalS, he, bindTry, hK],
      by simp [TryM.recoverWith, failedGet_wf h]⟩

/-- **`Future.Or` over fp.Try** (`Try.Or`, try.go:108-113; neither goes through `Failed().Get()`: no `WFTry` needed) -/
theorem evalS_mOr_TryM (σ : Nat → Option (Try Val)) (e : FExpr) (k : Unit → FExpr)
    (t : Try Val) (K : Try Val) (he : evalS σ e = some t) (hK : evalS σ (k ()) = some K) :
    ∃ r, evalS σ (mOr e k) = some r ∧ TryM.or t (fun _ => pure K) = pure r := by
  cases t with
  | success v => exact ⟨.success v, by simp [mOr, evalS, he, bindTry], rfl⟩
  | failure x => exact ⟨K, by simp [mOr, evalS, he, bindTry, hK], rfl⟩

/-- **`Future.OrFuture` over fp.Try** (`Try.OrTry`, try.go:115-120) -/
theorem evalS_mOrFuture_TryM (σ : Nat → Option (Try Val)) (e alt : FExpr) (t K : Try Val)
    (he : evalS σ e = some t) (hK : evalS σ alt = some K) :
    evalS σ (mOrFuture e alt) = some (TryM.orTry t K) := by
  cases t with
  | success v => simp [mOrFuture, evalS, he, bindTry, TryM.orTry]
  | failure x => simp [mOrFuture, evalS, he, bindTry, TryM.orTry, hK]

/-- `bindTry` on a determined operand is plain application of the continuation (`future.TransformWith`) -/
theorem bindTry_some_eq (t : Try Val) (f : Try Val → Option (Try Val)) : bindTry (some t) f = f t := rfl

-- 4. the pooled task is "run the Try function on the log, then Complete" ---------------------------------------------------------

theorem runTask_transform_TryM (g : Try Val → W (Try Val)) (G : GoM (Try Val)) (t : Try Val)
    (hG : lift (g t) = G) (np : Nat) (n : Net) :
    ∃ r l', G.run.run n.log = (.ok r, l') ∧
      runTask (.cb (.transformA g np) t) n = complete np r { n with log := l' } := by
  subst hG
  exact ⟨(g t).1, n.log ++ (g t).2, rfl, rfl⟩

/-- the task of `r.Recover(f)` that carries the well-formed result `t` of `r`: it runs `Try.Recover` of the Try model on
    the current log — the handler's events are appended, in the order the Try model produces them — and completes the
    derived promise with the Try that returns -/
theorem runTask_mRecover_TryM (f : Err → W Val) (t : Try Val) (h : WFTry t) (np : Nat) (n : Net) :
    ∃ r l', (TryM.recover t (fun x => lift (f x))).run.run n.log = (.ok r, l') ∧
      runTask (.cb (.transformA (mRecoverF f) np) t) n = complete np r { n with log := l' } :=
  runTask_transform_TryM _ _ t (mRecoverF_TryM f t h) np n

theorem runTask_mRecoverCase_TryM (d : Err → W Bool) (f : Err → W Val) (t : Try Val) (h : WFTry t) (np : Nat) (n : Net) :
    ∃ r l', (TryM.recoverCase t (fun x => lift (d x)) (fun x => lift (f x))).run.run n.log = (.ok r, l') ∧
      runTask (.cb (.transformA (mRecoverCaseF d f) np) t) n = complete np r { n with log := l' } :=
  runTask_transform_TryM _ _ t (mRecoverCaseF_TryM d f t h) np n

theorem runTask_mMap_TryM (mf : Val → W Val) (t : Try Val) (h : WFTry t) (np : Nat) (n : Net) :
    ∃ r l', (TryM.flatMap t (fun v => do let r ← lift (mf v); pure (.success r))).run.run n.log = (.ok r, l') ∧
      runTask (.cb (.transformA (mMapF mf) np) t) n = complete np r { n with log := l' } :=
  runTask_transform_TryM _ _ t (mMapF_TryM mf t h) np n

theorem runTask_mFailed_go (t : Try Val) (h : WFTry t) (np : Nat) (n : Net) :
    ∃ r l', (goFailed t).run.run n.log = (.ok r, l') ∧
      runTask (.cb (.transformA mFailedF np) t) n = complete np r { n with log := l' } :=
  runTask_transform_TryM _ _ t (mFailedF_go t h) np n

/-- every task pooled in any state of any valid schedule carries a well-formed Try: the hypothesis `WFTry t` of the
    `runTask_*_TryM` theorems holds for every task that can ever be run -/
theorem pooled_task_wf (nsrc : Nat) (evs : List Ev) (hv : Valid nsrc (Net.empty nsrc) evs) (c : CB) (t : Try Val)
    (hm : Task.cb c t ∈ (runEvs (Net.empty nsrc) evs).pool) : WFTry t :=
  ((wellformed_every_schedule nsrc evs hv).tasks _ hm).1

/-- … so, for every valid schedule, running a pooled `Recover` task IS running `Try.Recover` of the Try model on the log
    and completing the derived promise with its result (never a panic) -/
theorem pooled_recover_task_TryM (nsrc : Nat) (evs : List Ev) (hv : Valid nsrc (Net.empty nsrc) evs)
    (f : Err → W Val) (np : Nat) (t : Try Val)
    (hm : Task.cb (.transformA (mRecoverF f) np) t ∈ (runEvs (Net.empty nsrc) evs).pool) (n : Net) :
    ∃ r l', (TryM.recover t (fun x => lift (f x))).run.run n.log = (.ok r, l') ∧
      runTask (.cb (.transformA (mRecoverF f) np) t) n = complete np r { n with log := l' } :=
  runTask_mRecover_TryM f t (pooled_task_wf nsrc evs hv _ t hm) np n

/-- **End to end, every schedule**: in any state reached by a valid schedule, a completed promise that was created for
    `p.Recover(f)` holds what `Try.Recover` of the C02-verified Try model returns on the (well-formed) result of `p` in
    that same state. -/
theorem recover_every_schedule (nsrc : Nat) (evs : List Ev) (hv : Valid nsrc (Net.empty nsrc) evs)
    (q p : Nat) (f : Err → W Val) (r : Try Val)
    (hspec : (runEvs (Net.empty nsrc) evs).spec q = mRecover (.ref p) f)
    (hq : (runEvs (Net.empty nsrc) evs).status q = some r) :
    ∃ t, (runEvs (Net.empty nsrc) evs).status p = some t ∧ WFTry t ∧
      (TryM.recover t (fun x => lift (f x))).exec = (.ok r, (mRecoverF f t).2) := by
  have hs := sound_every_schedule nsrc evs hv q r hq
  rw [hspec] at hs
  simp only [mRecover, evalS, Option.map_eq_some_iff] at hs
  obtain ⟨t, ht, hr⟩ := hs
  have hwf := (wellformed_every_schedule nsrc evs hv).status p t ht
  refine ⟨t, ht, hwf, ?_⟩
  rw [← mRecoverF_TryM f t hwf, ← hr]; rfl

-- 5. the oracle's inline lambdas are these functions ---------------------------------------------------------------------------------

/-- `Oracle/Future.lean` `m.map` -/
theorem oracle_mMap (f : Val → W Val) :
    (fun t : Try Val => match t with
      | .success v => let (r, evs) := f v; ((.success r : Try Val), evs)
      | .failure e => (.failure e, [])) = mMapF f := by
  funext t; cases t <;> rfl

/-- `Oracle/Future.lean` `m.recover` (handler `h<id>` returning `v`) -/
theorem oracle_mRecover (id v : Int) :
    (fun t : Try Val => match t with
      | .success x => ((.success x : Try Val), ([] : List Event))
      | .failure e => (.success (.int v), [s!"h{id}:{e}"]))
      = mRecoverF (fun e => (.int v, [s!"h{id}:{e}"])) := by
  funext t; cases t <;> rfl

/-- `Oracle/Future.lean` `m.recoverCase` (predicate `pe<id>`: `e == e0`, handler `h<id>`) -/
theorem oracle_mRecoverCase (id e0 v : Int) :
    (fun t : Try Val => match t with
      | .success x => ((.success x : Try Val), ([] : List Event))
      | .failure e =>
        if e == .code e0 then (.success (.int v), [s!"pe{id}:{e}", s!"h{id}:{e}"])
        else (.failure e, [s!"pe{id}:{e}"]))
      = mRecoverCaseF (fun e => (e == .code e0, [s!"pe{id}:{e}"])) (fun e => (.int v, [s!"h{id}:{e}"])) := by
  funext t
  cases t with
  | success x => rfl
  | failure e =>
    simp only [mRecoverCaseF]
    split <;> rfl

/-- `Oracle/Future.lean` `m.failed` -/
theorem oracle_mFailed :
    (fun t : Try Val => match t with
      | .success _ => ((.failure .futureNotFailed : Try Val), ([] : List Event))
      | .failure e => (.success (.str e.toStr), [])) = mFailedF := by
  funext t; cases t <;> rfl

-- 6. Apply with a panicking user function ------------------------------------------------------------------------------------------------

/-- `tryCatch` around `m` followed by a pure step, from any prior log: `m`'s outcome is mapped to a normal return and
    its log kept (`try.Of`, `try.Call` are instances; cf. `C02.of_spec`) -/
theorem catch_run {α β : Type} (m : GoM α) (g : α → β) (c : PanicVal → β) (s : List Event) :
    (tryCatch (m >>= fun a => pure (g a)) (fun p => pure (c p)) : GoM β).run.run s =
      (match m.run.run s with
       | (.ok a, log) => (.ok (g a), log)
       | (.error p, log) => (.ok (c p), log)) := by
  rw [Coll.run_tryCatch, Coll.run_bind]
  rcases m.run.run s with ⟨p | a, log⟩ <;> rfl

/-- the modelled task body of `future.Apply(f)` is `try.Of(f)` of the C02 model (`TryM.of`: run `f`, a panic becomes
    `Failure(PanicError(p))`, what was logged before the panic stays logged): the `defer recover()` of
    future_op.go:53-57 is part of the modelled task, not of the type of `f` -/
theorem applyGo_of (f : Unit → GoM Val) : (TryM.of f).exec = (.ok (applyGo f ()).1, (applyGo f ()).2) := by
  refine (catch_run (f ()) Try.success (fun p => .failure (.panicErr p)) []).trans ?_
  unfold applyGo GoM.exec
  rcases (f ()).run.run [] with ⟨r, log⟩
  cases r <;> rfl

/-- … and of `future.Apply2(f)` it is `try.Call(f)` -/
theorem apply2Go_call (f : Unit → GoM (Val × Err)) : (TryM.call f).exec = (.ok (apply2Go f ()).1, (apply2Go f ()).2) := by
  refine (catch_run (f ()) (fun x => TryM.apply x.1 x.2) (fun p => .failure (.panicErr p)) []).trans ?_
  unfold apply2Go GoM.exec
  rcases (f ()).run.run [] with ⟨r, log⟩
  cases r <;> rfl

/-- whatever the user function does, the Try the `Apply` task completes the promise with is well formed -/
theorem applyGo_wf (f : Unit → GoM Val) : WFTry (applyGo f ()).1 := by
  simp only [applyGo]
  rcases (f ()).exec with ⟨r, log⟩
  cases r with
  | error p => exact (wfTry_failure _).2 (by simp)
  | ok v => exact wfTry_success _

theorem apply2Go_wf (f : Unit → GoM (Val × Err)) : WFTry (apply2Go f ()).1 := by
  simp only [apply2Go]
  rcases (f ()).exec with ⟨r, log⟩
  cases r with
  | error p => exact (wfTry_failure _).2 (by simp)
  | ok x =>
    obtain ⟨v, err⟩ := x
    by_cases h : err = .nil
    · simp [h]
    · simp [h]

/-- `Apply` / `Apply2` of ANY user function (panicking or not) may be constructed at any moment of a valid schedule -/
theorem evOK_mApply (nsrc : Nat) (n : Net) (f : Unit → GoM Val) : EvOK nsrc n (.mk (mApply f)) :=
  ⟨.apply _, .apply _ (applyGo_wf f)⟩

theorem evOK_mApply2 (nsrc : Nat) (n : Net) (f : Unit → GoM (Val × Err)) : EvOK nsrc n (.mk (mApply2 f)) :=
  ⟨.apply _, .apply _ (apply2Go_wf f)⟩

/-- the `Apply` task appends what the function logged (its status is `apply_completes`) -/
theorem apply_log (g : Unit → W (Try Val)) (n : Net) :
    (runTask (Task.applyT g n.next) (build (.apply g) n).2).log = n.log ++ (g ()).2 :=
  (complete_frame _ _ _).2.2

/-- **`Apply` completes on panic.**  The user function logs `evs` and then panics with `p`: `future.Apply(f)` allocates the
    promise and pools ONE task; when that task runs (whenever the scheduler picks it) the promise is completed with
    `Failure(PanicError(p))`, and the log has grown by exactly `evs`. -/
theorem apply_completes_on_panic (f : Unit → GoM Val) (p : PanicVal) (evs : List Event)
    (hf : (f ()).exec = (.error p, evs)) (n : Net) (h : n.status n.next = none) :
    (build (mApply f) n).1 = n.next ∧
    (build (mApply f) n).2.pool = n.pool ++ [Task.applyT (applyGo f) n.next] ∧
    (runTask (Task.applyT (applyGo f) n.next) (build (mApply f) n).2).status n.next = some (.failure (.panicErr p)) ∧
    (runTask (Task.applyT (applyGo f) n.next) (build (mApply f) n).2).log = n.log ++ evs := by
  have hc := apply_completes (applyGo f) n h
  have hl := apply_log (applyGo f) n
  rw [show applyGo f () = (.failure (.panicErr p), evs) by simp [applyGo, hf]] at hc hl
  exact ⟨hc.1, hc.2.1, hc.2.2, hl⟩

/-- … and on normal return with `Success(v)` -/
theorem apply_completes_on_return (f : Unit → GoM Val) (v : Val) (evs : List Event)
    (hf : (f ()).exec = (.ok v, evs)) (n : Net) (h : n.status n.next = none) :
    (runTask (Task.applyT (applyGo f) n.next) (build (mApply f) n).2).status n.next = some (.success v) ∧
    (runTask (Task.applyT (applyGo f) n.next) (build (mApply f) n).2).log = n.log ++ evs := by
  have hc := apply_completes (applyGo f) n h
  have hl := apply_log (applyGo f) n
  rw [show applyGo f () = (.success v, evs) by simp [applyGo, hf]] at hc hl
  exact ⟨hc.2.2, hl⟩

/-- in one statement: the `Apply` future ALWAYS completes once its task runs, with the well-formed Try that `try.Of(f)`
    returns — so "panic inside `Apply` completes the future with a Failure" is a theorem about the modelled task -/
theorem apply_always_completes (f : Unit → GoM Val) (n : Net) (h : n.status n.next = none) :
    ∃ r, (runTask (Task.applyT (applyGo f) n.next) (build (mApply f) n).2).status n.next = some r ∧ WFTry r ∧
      (TryM.of f).exec.1 = .ok r :=
  ⟨(applyGo f ()).1, (apply_completes (applyGo f) n h).2.2, applyGo_wf f, by rw [applyGo_of]⟩

/-- non-vacuity: a user function that logs and then panics -/
example :
    let f : Unit → GoM Val := fun _ => do emit "before"; goPanic "boom"
    let n := runEvs (Net.empty 0) [.mk (mApply f), .run 0]
    Valid 0 (Net.empty 0) [.mk (mApply f), .run 0] ∧
    n.status 0 = some (.failure (.panicErr "boom")) ∧ n.log = ["before"] ∧ n.pool = [] :=
  ⟨⟨evOK_mApply 0 _ _, trivial, trivial⟩, rfl, rfl, rfl⟩

/-- non-vacuity of the method theorems: `s0.Recover(h)` with a logging handler, source fails -/
example :
    let f : Err → W Val := fun e => (.int 9, [s!"h:{e}"])
    let evs : List Ev := [.mk (mRecover (.ref 0) f), .src 0 (.failure (.code 3)), .run 0]
    let n := runEvs (Net.empty 1) evs
    Valid 1 (Net.empty 1) evs ∧ n.status 1 = some (.success (.int 9)) ∧ n.log = ["h:e3"] ∧
    (TryM.recover (.failure (.code 3) : Try Val) (fun x => lift (f x))).exec = (.ok (.success (.int 9)), ["h:e3"]) :=
  ⟨⟨⟨.transform _ _ (.ref 0 (by decide)), wfe_mRecover _ _ (.ref 0)⟩,
    ⟨(by decide : (0 : Nat) < 1), (wfTry_failure _).2 (by decide)⟩, trivial, trivial⟩, rfl, rfl, rfl⟩

end FpVerif.Spec.C06
