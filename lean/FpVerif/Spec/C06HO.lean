import FpVerif.Lemmas.FutHOLive
import FpVerif.Lemmas.FutHOFrag
import FpVerif.Spec.C06Drain
import FpVerif.Spec.C06Once
/-!
# C06 — futures of futures: `Flatten`, `LiftM`, `LiftMN`, `FlatMethod1` inside the theorems, for every schedule

`Spec/C06Sound.lean` … `Spec/C06Once.lean` cover the first-order fragment `FO` (no `successfulOf`, so no `Fut.flatten`,
`Fut.liftM`, `liftMFrom`).  This file covers the fragment `HO` (`Lemmas/FutHO.lean`): the erasures of the TYPED
construction programs `TExpr τ` (`Lemmas/FutHO.lean`) — every first-order combinator at value type (and, where the Go types
allow it, at the type of a future of futures), `Successful` of a future, `Flatten`; hereditarily through user functions.
The executable model (`build`, `runTask`, `step`) is the one of the first-order files.

Denotation (`den`): `Sem`-level three-valued Try — a completed future of futures holds the three-valued status of its inner
future, not a handle; `Flatten` is the monadic join; `den (tLiftM fa ta) = bindOk (σ ta) (fun v => den (fa v))`;
`den (flatten (successfulOf e)) = den e`.  For programs whose handles are all value futures (`ValRefs`, e.g. everything
built over sources) the denotation mentions only the Try results of those handles (`srcE`, `den_valRefs`).

* `ho_flatten`, `ho_liftM`, `ho_liftMFrom`, `ho_flatMethod1`, `fo_ho` (Lemmas/FutHOFrag.lean) — membership;
* `ho_built_future_sound` / `ho_built_future_below` / `ho_sound_every_schedule` — soundness for every schedule;
* `ho_built_future_exact` / `ho_exact_at_quiescence` — completeness at quiescence;
* `ho_eventually_exact` — the queue drains under every strategy and then the built future holds exactly its denotation;
* `ho_exactly_one_completer`, `ho_derived_complete_never_fails` — exactly one completer;
* `valid_of_fo`, `fo_built_future_sound_of_ho` — the first-order theorem is a corollary;
* non-vacuity examples, `liftM2_mutant_differs` (seeded mutant C06-4: `LiftM2` binds its second argument first).
-/
namespace FpVerif.Fut.Drain
open FpVerif FpVerif.Fut FpVerif.Spec.C06

/-- `Uniq` needs of a run only that the environment completes source promises (`uniq_runEvs_src`): it holds along
    the higher-order runs too -/
theorem uniq_runEvs_ho {nsrc : Nat} (evs : List Ev) : ∀ (n : Net), (∃ B, Uniq nsrc n B) → HO.Valid nsrc evs →
    ∃ B, Uniq nsrc (runEvs n evs) B := by
  intro n h hv
  refine uniq_runEvs_src h fun ev hm p t e => ?_
  subst e
  exact (hv _ hm).1

end FpVerif.Fut.Drain

namespace FpVerif.Spec.C06.HO
open FpVerif FpVerif.Fut FpVerif.Spec.C06 FpVerif.Fut.Drain

theorem valid_append {nsrc : Nat} {evs evs' : List Ev} (h1 : Valid nsrc evs) (h2 : Valid nsrc evs') :
    Valid nsrc (evs ++ evs') := by
  intro ev hm
  rcases List.mem_append.1 hm with h | h
  · exact h1 ev h
  · exact h2 ev h

theorem valid_runs {nsrc : Nat} {runs : List Ev} (h : ∀ ev ∈ runs, ∃ i, ev = .run i) : Valid nsrc runs := by
  intro ev hm
  obtain ⟨i, rfl⟩ := h ev hm
  trivial

theorem valid_mk_split {nsrc : Nat} {evs evs' : List Ev} {e : FExpr} (hv : Valid nsrc (evs ++ .mk e :: evs')) :
    Valid nsrc evs ∧ Valid nsrc evs' :=
  ⟨fun ev hm => hv ev (by simp [hm]), fun ev hm => hv ev (by simp [hm])⟩

/-- **Soundness for every schedule (all promises).**  Start from `nsrc` pending sources; let the program construct futures
    from typed programs (futures of futures, `Flatten`, `LiftM` included) at any moments, the environment complete the
    sources in any order (and repeatedly), and the pooled tasks run in any order.  In every state reached there is a typed
    spec for every promise (`ref p` for the sources; a typed reading of the model's own ghost spec `Net.spec p`) such that
    the Try-level reading of every promise's status is below — at value type: if completed, equal to — the denotation of
    its spec over the statuses in that same state. -/
theorem ho_sound_every_schedule (nsrc : Nat) (evs : List Ev) (hv : Valid nsrc evs) :
    ∃ T : TSpec, (∀ p, p < nsrc → T p = ⟨.val, .ref .val p⟩) ∧
      ∀ p, p < (runEvs (Net.empty nsrc) evs).next →
        (runEvs (Net.empty nsrc) evs).spec p = erase (T p).2 ∧
        leS (T p).1 (absS (runEvs (Net.empty nsrc) evs).status (T p).1 p)
          (den (absE (runEvs (Net.empty nsrc) evs).status) (T p).2) := by
  obtain ⟨T, hi, _⟩ := inv_run evs T0 _ (inv_init nsrc) hv
  exact ⟨T, hi.srcs.2, fun p hp => ⟨hi.spec p hp, all_good_le hi p hp⟩⟩

/-- the handle `build (erase t)` returns reads, in every later state, as `t` denotes once the promises it allocated do -/
theorem ho_built_future_root (nsrc : Nat) (evs evs' : List Ev) {τ : Ty} (t : TExpr τ)
    (hv : Valid nsrc (evs ++ .mk (erase t) :: evs')) :
    let n := runEvs (Net.empty nsrc) evs
    let q := (build (erase t) n).1
    let n' := runEvs (Net.empty nsrc) (evs ++ .mk (erase t) :: evs')
    ∃ T lo, Inv nsrc T n' ∧ Denotes T n' lo q t := by
  intro n q n'
  obtain ⟨hv1, hv2⟩ := valid_mk_split hv
  obtain ⟨T1, hi1, _⟩ := inv_run evs T0 _ (inv_init nsrc) hv1
  obtain ⟨T2, hi2, _, hr2⟩ := inv_build (nsrc := nsrc) t T1 n hi1
  obtain ⟨T3, hi3, hle3⟩ := inv_run evs' _ _ hi2 hv2
  have hrun : n' = runEvs (build (erase t) n).2 evs' := by
    show runEvs _ (evs ++ .mk (erase t) :: evs') = _
    rw [runEvs_append]; rfl
  rw [hrun]
  exact ⟨T3, n.next, hi3, hr2.mono hle3 (Nat.le_refl _)⟩

/-- **Soundness of a built future, every type.**  The Try-level reading of the future `build (erase t)` returned is, in
    every later state of every schedule, below the denotation of `t` over the statuses of that state. -/
theorem ho_built_future_below (nsrc : Nat) (evs evs' : List Ev) {τ : Ty} (t : TExpr τ)
    (hv : Valid nsrc (evs ++ .mk (erase t) :: evs')) :
    let n := runEvs (Net.empty nsrc) evs
    let q := (build (erase t) n).1
    let n' := runEvs (Net.empty nsrc) (evs ++ .mk (erase t) :: evs')
    leS τ (absS n'.status τ q) (den (absE n'.status) t) := by
  intro n q n'
  obtain ⟨T, lo, hi, hr⟩ := ho_built_future_root nsrc evs evs' t hv
  have hext : Ext n'.status n'.status := fun _ _ h => h
  have hgood : ∀ p', lo ≤ p' → p' < n'.next → Good .le T n'.status p' := fun p' _ hlt => all_good_le hi p' hlt
  exact hr .le n'.status hext hgood

/-- **Soundness of a built value future** (the analogue of `built_future_sound`): whenever the future that
    `build (erase t)` returned is completed, in any later state of any schedule, it holds exactly the denotation of `t`. -/
theorem ho_built_future_sound (nsrc : Nat) (evs evs' : List Ev) (t : TExpr .val) (r : Try Val)
    (hv : Valid nsrc (evs ++ .mk (erase t) :: evs')) :
    let n := runEvs (Net.empty nsrc) evs
    let q := (build (erase t) n).1
    let n' := runEvs (Net.empty nsrc) (evs ++ .mk (erase t) :: evs')
    n'.status q = some r → den (absE n'.status) t = some r := by
  intro n q n' hq
  obtain ⟨T, lo, hi, hr⟩ := ho_built_future_root nsrc evs evs' t hv
  exact root_sound hi lo t q r hr hq

/-- … for a program over value futures (e.g. over sources): in terms of the Try results of those futures only. -/
theorem ho_built_future_sound_src (nsrc : Nat) (evs evs' : List Ev) (t : TExpr .val) (r : Try Val) (ht : ValRefs t)
    (hv : Valid nsrc (evs ++ .mk (erase t) :: evs')) :
    let n := runEvs (Net.empty nsrc) evs
    let q := (build (erase t) n).1
    let n' := runEvs (Net.empty nsrc) (evs ++ .mk (erase t) :: evs')
    n'.status q = some r → den (srcE n'.status) t = some r := by
  intro n q n' hq
  rw [← den_valRefs _ ht]
  exact ho_built_future_sound nsrc evs evs' t r hv hq

/-- `LiftM(fa)(ta)` built at any moment of any schedule: once completed it holds `ta.flatMap(fa)` over fp.Try. -/
theorem liftM_sound (nsrc : Nat) (evs evs' : List Ev) (fa : Val → TExpr .val) (ta : Nat) (r : Try Val)
    (hv : Valid nsrc (evs ++ .mk (Fut.liftM (fun v => erase (fa v)) ta) :: evs')) :
    let n := runEvs (Net.empty nsrc) evs
    let q := (build (Fut.liftM (fun v => erase (fa v)) ta) n).1
    let n' := runEvs (Net.empty nsrc) (evs ++ .mk (Fut.liftM (fun v => erase (fa v)) ta) :: evs')
    n'.status q = some r → bindOk (n'.status ta) (fun v => den (absE n'.status) (fa v)) = some r := by
  intro n q n' hq
  rw [← den_tLiftM_val]
  exact ho_built_future_sound nsrc evs evs' (tLiftM fa ta) r hv hq

-- completeness -----------------------------------------------------------------------------------------------------------

/-- **Exactness at quiescence (all promises), for every schedule**: whenever the queue is empty, the Try-level reading of
    EVERY promise equals the denotation of its typed spec over the statuses. -/
theorem ho_exact_at_quiescence (nsrc : Nat) (evs : List Ev) (hv : Valid nsrc evs)
    (hq : (runEvs (Net.empty nsrc) evs).pool = []) :
    ∃ T : TSpec, (∀ p, p < nsrc → T p = ⟨.val, .ref .val p⟩) ∧
      ∀ p, p < (runEvs (Net.empty nsrc) evs).next →
        (runEvs (Net.empty nsrc) evs).spec p = erase (T p).2 ∧
        absS (runEvs (Net.empty nsrc) evs).status (T p).1 p = den (absE (runEvs (Net.empty nsrc) evs).status) (T p).2 := by
  obtain ⟨T, hi, _⟩ := inv_run evs T0 _ (inv_init nsrc) hv
  have hl := live_run (nsrc := nsrc) evs _ (live_init nsrc)
  exact ⟨T, hi.srcs.2, fun p hp => ⟨hi.spec p hp, all_exact hi hl hq p hp⟩⟩

/-- **Exactness of a built future at quiescence, every type** -/
theorem ho_built_future_exact_all (nsrc : Nat) (evs evs' : List Ev) {τ : Ty} (t : TExpr τ)
    (hv : Valid nsrc (evs ++ .mk (erase t) :: evs'))
    (hq : (runEvs (Net.empty nsrc) (evs ++ .mk (erase t) :: evs')).pool = []) :
    let n := runEvs (Net.empty nsrc) evs
    let q := (build (erase t) n).1
    let n' := runEvs (Net.empty nsrc) (evs ++ .mk (erase t) :: evs')
    absS n'.status τ q = den (absE n'.status) t := by
  intro n q n'
  obtain ⟨T, lo, hi, hr⟩ := ho_built_future_root nsrc evs evs' t hv
  have hl : Live nsrc (fun _ => False) n' := live_run (nsrc := nsrc) _ _ (live_init nsrc)
  exact root_exact hi hl hq lo t q hr

/-- **Exactness of a built value future at quiescence** (the analogue of `built_future_exact`): at every later quiescent
    state the future `build (erase t)` returned holds exactly `den t` — completed iff `t` is determined by what has
    completed so far. -/
theorem ho_built_future_exact (nsrc : Nat) (evs evs' : List Ev) (t : TExpr .val)
    (hv : Valid nsrc (evs ++ .mk (erase t) :: evs'))
    (hq : (runEvs (Net.empty nsrc) (evs ++ .mk (erase t) :: evs')).pool = []) :
    let n := runEvs (Net.empty nsrc) evs
    let q := (build (erase t) n).1
    let n' := runEvs (Net.empty nsrc) (evs ++ .mk (erase t) :: evs')
    n'.status q = den (absE n'.status) t := by
  intro n q n'
  have := ho_built_future_exact_all nsrc evs evs' t hv hq
  simp only [absS_val] at this
  exact this

/-- **Always complete** (the analogue of `eventually_exact`): after any valid run that built `t`, if from then on the
    executor just works off its queue, in WHATEVER order, it gets done after finitely many tasks (`runs_terminate` needs no
    assumption on the programs), and then the built future holds exactly what `t` denotes. -/
theorem ho_eventually_exact (nsrc : Nat) (evs evs' : List Ev) (t : TExpr .val)
    (hv : Valid nsrc (evs ++ .mk (erase t) :: evs'))
    (pick : Net → Nat) (hpick : ∀ n : Net, n.pool ≠ [] → pick n < n.pool.length) :
    let q := (build (erase t) (runEvs (Net.empty nsrc) evs)).1
    ∃ k, let m := follow pick k (runEvs (Net.empty nsrc) (evs ++ .mk (erase t) :: evs'))
      m.pool = [] ∧ m.status q = den (absE m.status) t := by
  intro q
  obtain ⟨k, hk⟩ := any_strategy_drains nsrc (evs ++ .mk (erase t) :: evs') pick hpick
  refine ⟨k, hk, ?_⟩
  have hv' := valid_append hv (valid_runs (followEvs_runs pick k (runEvs (Net.empty nsrc) (evs ++ .mk (erase t) :: evs'))))
  rw [follow_runEvs, List.append_assoc] at hk ⊢
  rw [List.append_assoc] at hv'
  exact ho_built_future_exact nsrc evs _ t hv' hk

-- exactly once -------------------------------------------------------------------------------------------------------------

/-- **Exactly one completer**: in every net reachable by a higher-order valid run every pending derived promise is the
    target of exactly one queued task or registered callback. -/
theorem ho_exactly_one_completer (nsrc : Nat) (evs : List Ev) (hv : Valid nsrc evs) :
    ∃ B, Supp (runEvs (Net.empty nsrc) evs) B ∧
      ∀ p, nsrc ≤ p → p < (runEvs (Net.empty nsrc) evs).next → (runEvs (Net.empty nsrc) evs).status p = none →
        (TM (runEvs (Net.empty nsrc) evs) B).count (some p) = 1 := by
  obtain ⟨B, h⟩ := uniq_runEvs_ho evs _ ⟨0, uniq_empty nsrc⟩ hv
  refine ⟨B, h.supp, fun p h1 h2 h3 => ?_⟩
  have hl := live_run (nsrc := nsrc) evs _ (live_init nsrc)
  have hb := hl.blocked p h1 h2 h3 (fun h => h)
  have hpos := Multiset.count_pos.2 (blocked_mem h.supp p hb)
  have := h.cnt p
  omega

/-- **No `Complete` of the library ever fails**, futures of futures included: the completion attempts that returned false
    in any higher-order valid run are all on source promises. -/
theorem ho_derived_complete_never_fails (nsrc : Nat) (evs : List Ev) (hv : Valid nsrc evs) :
    ∀ pb ∈ (runEvs (Net.empty nsrc) evs).completes, pb.2 = false → pb.1 < nsrc := by
  obtain ⟨B, h⟩ := uniq_runEvs_ho evs _ ⟨0, uniq_empty nsrc⟩ hv
  exact h.good

/-- **No ill-formed Try, for every higher-order schedule** (audit finding 1): under `HO.Valid` (sources never completed
    with `Try{}` / `Failure(nil)`, every constructed program `WFE`) no completed promise holds `failure .nil`, no pooled
    task carries it, no registered callback can produce it — futures of futures, `Flatten`, `LiftM` included.  So the
    branch on which the executable model is total but the Go task panics in `t.Failed().Get()`
    (`C06.illformed_source_excluded`) is never taken along a valid run. -/
theorem ho_wellformed_every_schedule (nsrc : Nat) (evs : List Ev) (hv : Valid nsrc evs) :
    WFNet (runEvs (Net.empty nsrc) evs) :=
  wf_runEvs evs _ (wfNet_empty nsrc) (fun ev hm => (hv ev hm).wf)

theorem ho_never_failure_nil (nsrc : Nat) (evs : List Ev) (hv : Valid nsrc evs) (p : Nat) :
    (runEvs (Net.empty nsrc) evs).status p ≠ some (.failure .nil) :=
  fun h => (ho_wellformed_every_schedule nsrc evs hv).status p _ h rfl

/-- the executable model agrees with the panic-aware reading of the Go tasks along every higher-order valid run -/
theorem ho_go_agrees_every_schedule (nsrc : Nat) (evs : List Ev) (hv : Valid nsrc evs) :
    runEvsGo (Net.empty nsrc) evs = some (runEvs (Net.empty nsrc) evs) :=
  runEvsGo_eq evs _ (wfNet_empty nsrc) (fun ev hm => (hv ev hm).wf)

-- the first-order theorems as corollaries -------------------------------------------------------------------------------------

theorem evOK_of_fo {nsrc : Nat} {m : Net} {ev : Ev} (h : C06.EvOK nsrc m ev) : EvOK nsrc ev := by
  cases ev with
  | mk e => exact ⟨⟨.val, fo_ho h.1⟩, h.2⟩
  | _ => exact h

/-- a first-order valid run (`Spec/C06Sound.lean`) is a higher-order valid run -/
theorem valid_of_fo {nsrc : Nat} : ∀ (evs : List Ev) (n : Net), C06.Valid nsrc n evs → Valid nsrc evs :=
  fun evs n hv ev hm => (valid_mem evs n hv ev hm).elim fun _ h => evOK_of_fo h

/-- `built_future_sound` of `Spec/C06Sound.lean` (same statement), derived from the higher-order theorem -/
theorem fo_built_future_sound_of_ho (nsrc : Nat) (evs evs' : List Ev) (e : FExpr) (r : Try Val)
    (hv : C06.Valid nsrc (Net.empty nsrc) (evs ++ .mk e :: evs')) :
    let n := runEvs (Net.empty nsrc) evs
    let q := (build e n).1
    let n' := runEvs (Net.empty nsrc) (evs ++ .mk e :: evs')
    n'.status q = some r → evalS n'.status e = some r := by
  intro n q n' hq
  have hfo : FO n.next e := (valid_mk evs _ hv).2.1.1
  have h := ho_built_future_sound nsrc evs evs' (embed e) r
  rw [erase_embed hfo] at h
  have := h (valid_of_fo _ _ hv) hq
  rw [den_embed _ hfo] at this
  exact this

-- non-vacuity --------------------------------------------------------------------------------------------------------------

/-- a user function returning a future: `v ↦ Map(s1, y => (v, y))` -/
def demoFa : Val → TExpr .val := fun v => .flatMap (.ref .val 1) (fun y => .logged [] (.successful (.tup [v, y])))

/-- `LiftM(demoFa)(s0)` over two sources -/
def demoLiftM : TExpr .val := tLiftM demoFa 0

theorem demoLiftM_valRefs : ValRefs demoLiftM :=
  valRefs_tLiftM _ _ (fun _ => .flatMap _ _ (.ref 1) (fun _ => .logged _ _ (.successful _)))

theorem wfe_flatten (e : FExpr) (he : WFE e) : WFE (Fut.flatten e) := .flatMap _ _ he (fun _ => .ref _)

theorem wfe_liftM (fa : Val → FExpr) (ta : Nat) (hfa : ∀ v, WFE (fa v)) : WFE (Fut.liftM fa ta) :=
  wfe_flatten _ (.flatMap _ _ (.ref ta) (fun v => .successfulOf _ (hfa v)))

theorem demoLiftM_wfe : WFE (erase demoLiftM) :=
  wfe_liftM (fun v => erase (demoFa v)) 0 (fun _ => .flatMap _ _ (.ref 1) (fun _ => .logged _ _ (.successful _)))

/-- what is built is the model's `Fut.liftM` of the erased user function -/
example : erase demoLiftM = Fut.liftM (fun v => erase (demoFa v)) 0 := rfl

/-- the hypotheses of `ho_built_future_sound` / `ho_built_future_exact` are satisfiable: `LiftM` built over two PENDING
    sources, the second source completes first, then the first, six tasks run: valid, quiescent, the derived future (3)
    is completed with exactly what the program denotes over the sources' results. -/
example :
    let evs : List Ev := [.mk (erase demoLiftM), .src 1 (.success (.int 5)), .src 0 (.success (.int 4))] ++ List.replicate 6 (.run 0)
    let n' := runEvs (Net.empty 2) evs
    Valid 2 evs ∧ (build (erase demoLiftM) (Net.empty 2)).1 = 3 ∧ n'.pool = [] ∧
    n'.status 3 = some (.success (.tup [.int 4, .int 5])) ∧
    den (srcE n'.status) demoLiftM = some (.success (.tup [.int 4, .int 5])) := by
  refine ⟨?_, rfl, rfl, rfl, rfl⟩
  intro ev hm
  simp only [List.replicate, List.cons_append, List.nil_append, List.mem_cons, List.mem_nil_iff, or_false] at hm
  rcases hm with rfl | rfl | rfl | hm
  · exact ⟨⟨.val, demoLiftM, rfl⟩, demoLiftM_wfe⟩
  · exact ⟨(by decide : (1 : Nat) < 2), wfTry_success _⟩
  · exact ⟨(by decide : (0 : Nat) < 2), wfTry_success _⟩
  · rcases hm with rfl | rfl | rfl | rfl | rfl | rfl <;> trivial

/-- the other direction of exactness: a quiescent state in which the first source is still pending — the derived future is
    pending, and indeed the program does not denote anything yet (although the second source has completed). -/
example :
    let evs : List Ev := [.mk (erase demoLiftM), .src 1 (.success (.int 5))]
    let n' := runEvs (Net.empty 2) evs
    n'.pool = [] ∧ n'.status 3 = none ∧ den (srcE n'.status) demoLiftM = none := ⟨rfl, rfl, rfl⟩

/-- first source fails while the second is pending: `LiftM` completes with that failure at once (left-to-right
    short-circuit), the user function is never run -/
example :
    let evs : List Ev := [.mk (erase demoLiftM), .src 0 (.failure (.code 7))] ++ List.replicate 2 (.run 0)
    let n' := runEvs (Net.empty 2) evs
    n'.pool = [] ∧ n'.status 1 = none ∧ n'.status 3 = some (.failure (.code 7)) ∧
    den (srcE n'.status) demoLiftM = some (.failure (.code 7)) := ⟨rfl, rfl, rfl, rfl⟩

/-- deeper nesting: `Flatten(Successful(LiftM(demoFa)(s0)))`, built before any source completes; eight tasks -/
def demoNested : TExpr .val := .flatten (.successfulOf demoLiftM)

example :
    let evs : List Ev := [.mk (erase demoNested), .src 1 (.success (.int 5)), .src 0 (.success (.int 4))] ++ List.replicate 8 (.run 0)
    let n' := runEvs (Net.empty 2) evs
    (build (erase demoNested) (Net.empty 2)).1 = 5 ∧ n'.pool = [] ∧
    n'.status 5 = some (.success (.tup [.int 4, .int 5])) ∧
    den (srcE n'.status) demoNested = some (.success (.tup [.int 4, .int 5])) ∧
    den (srcE n'.status) demoNested = den (srcE n'.status) demoLiftM := ⟨rfl, rfl, rfl, rfl, rfl⟩

/-- a program that HOLDS a future of a future: first `ff := Successful(Map(s0, id))` (handle 2, completed at once with the
    handle of the still pending inner future 1), later `Flatten(ff)` (handle 3).  While the source is pending the
    flattened future is pending at quiescence and denotes nothing; after the source completes it holds the source's value.
    (Here the denotation reads the status of `ff` at the Try level: `absE`.) -/
def demoFF : TExpr (.fut .val) := .successfulOf (.flatMap (.ref .val 0) (fun v => .logged [] (.successful v)))
def demoFlat : TExpr .val := .flatten (.ref (.fut .val) 2)

example :
    let evs : List Ev := [.mk (erase demoFF), .mk (erase demoFlat), .run 0]
    let n' := runEvs (Net.empty 1) evs
    let n'' := runEvs n' (.src 0 (.success (.int 9)) :: List.replicate 3 (.run 0))
    (build (erase demoFF) (Net.empty 1)).1 = 2 ∧ n'.status 2 = some (.success (handle 1)) ∧
    n'.pool = [] ∧ n'.status 3 = none ∧ den (absE n'.status) demoFlat = none ∧
    absS n'.status (.fut .val) 2 = some (.success none) ∧
    n''.pool = [] ∧ n''.status 3 = some (.success (.int 9)) ∧ den (absE n''.status) demoFlat = some (.success (.int 9)) ∧
    absS n''.status (.fut .val) 2 = some (.success (some (.success (.int 9)))) :=
  ⟨rfl, rfl, rfl, rfl, rfl, rfl, rfl, rfl, rfl, rfl⟩

-- the seeded mutant -----------------------------------------------------------------------------------------------------------

/-- seeded defect C06-4: `LiftM2(fab)(a, b)` rewritten as `FlatMap(b, vb => FlatMap(a, va => fab(va, vb)))` — it binds its
    SECOND argument first -/
def liftM2Mut (fab : Val → Val → FExpr) (a b : Nat) : FExpr :=
  .flatMap (.ref b) (fun vb => .flatMap (.ref a) (fun va => fab va vb))

/-- the user function of the demonstration: `(va, vb) ↦ Successful([va, vb])` -/
def demoFab : List Val → TExpr .val := fun vs => .successful (.seq vs)

/-- what the correct `LiftM2` is: `Flatten(Map2(a, b, fab))` (`Model/FutureChain.lean: liftMFrom`), typed -/
def demoLiftM2 : TExpr .val := tLiftMFrom demoFab [0, 1] []

example : erase demoLiftM2 = liftMFrom (fun vs => erase (demoFab vs)) [0, 1] [] := rfl

/-- what `LiftM2` must denote: bind the first operand, then the second -/
example (σ : Nat → Option (Try Val)) :
    den (srcE σ) demoLiftM2 = bindOk (σ 0) (fun v1 => bindOk (σ 1) (fun v2 => some (.success (.seq [v1, v2])))) := by
  rw [show demoLiftM2 = tLiftMFrom demoFab [0, 1] [] from rfl, den_tLiftMFrom]
  simp only [liftMDen, bindOkS_eq_bindOk]
  rfl

/-- **The mutant does not satisfy the theorems.**  Both sources have failed (with different errors), every task has run.
    The future the correct `LiftM2` built holds what `ho_built_future_sound` demands — the FIRST operand's failure, which
    is what the program denotes; the future the mutant built holds the second operand's failure: it is completed with a
    value different from the denotation, which `ho_built_future_sound` excludes for everything `build` constructs from
    the typed program.  And with the first source failed and the second still pending, the correct future is completed
    at quiescence, the mutant's is pending although the program denotes a result — excluded by `ho_built_future_exact`. -/
theorem liftM2_mutant_differs :
    let mutant : FExpr := liftM2Mut (fun va vb => erase (demoFab [va, vb])) 0 1
    let n := runEvs (Net.empty 2) [.src 0 (.failure (.code 1)), .src 1 (.failure (.code 2))]
    let good := runEvs (build (erase demoLiftM2) n).2 (List.replicate 2 (.run 0))
    let bad := runEvs (build mutant n).2 (List.replicate 2 (.run 0))
    let m := runEvs (Net.empty 2) [.src 0 (.failure (.code 1))]
    let good' := runEvs (build (erase demoLiftM2) m).2 (List.replicate 2 (.run 0))
    let bad' := build mutant m
    (good.pool = [] ∧ good.status (build (erase demoLiftM2) n).1 = some (.failure (.code 1)) ∧
      den (srcE good.status) demoLiftM2 = some (.failure (.code 1))) ∧
    (bad.pool = [] ∧ bad.status (build mutant n).1 = some (.failure (.code 2)) ∧
      den (srcE bad.status) demoLiftM2 = some (.failure (.code 1))) ∧
    (good'.pool = [] ∧ good'.status (build (erase demoLiftM2) m).1 = some (.failure (.code 1))) ∧
    (bad'.2.pool = [] ∧ bad'.2.status bad'.1 = none ∧ den (srcE bad'.2.status) demoLiftM2 = some (.failure (.code 1))) :=
  ⟨⟨rfl, rfl, rfl⟩, ⟨rfl, rfl, rfl⟩, ⟨rfl, rfl⟩, ⟨rfl, rfl, rfl⟩⟩

end FpVerif.Spec.C06.HO
