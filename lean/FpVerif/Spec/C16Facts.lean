import FpVerif.Gen.Facts
/-!
# C16 — regenerated facts: every deferred computation is wrapped in a `sync.Once`

`FpVerif/Gen/Facts.lean` is regenerated from /repo's source on every run by harness/cmd/factx.
These expectations are what ties the Once model of `Model/Memo.lean` to the code: `lazy.Call`,
`lazy.TailCall`, memoised list cells (`fp.MakeList`) route their thunk through a `Memoize`, and every
`Memoize` declares a `sync.Once` and runs the function inside `once.Do`.
-/
namespace FpVerif.Spec.C16
open FpVerif.Gen

def lookup (pkg recv name : String) : Option FuncFact :=
  funcs.find? (fun f => f.pkg == pkg && f.recv == recv && f.name == name)

def callsOf (pkg recv name : String) : List String :=
  match lookup pkg recv name with
  | some f => f.calls
  | none => []

theorem memoize_uses_once :
    (funcs.filter (fun f => f.name == "Memoize")).length = 3 ∧
    (funcs.filter (fun f => f.name == "Memoize")).all (fun f => f.usesOnce && f.calls.contains "once.Do" && f.calls.contains "f") = true := by
  decide +kernel

theorem call_is_memoised : (callsOf "lazy" "" "Call").contains "Memoize" = true := by decide +kernel

theorem tailCall_is_memoised :
    (callsOf "lazy" "" "TailCall").contains "Memoize" = true ∧ (callsOf "lazy" "" "TailCall").contains "mf" = true := by decide +kernel

theorem list_cells_memoised : (callsOf "fp" "" "MakeList").contains "Memoize" = true := by decide +kernel

end FpVerif.Spec.C16
