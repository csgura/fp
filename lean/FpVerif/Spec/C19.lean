import FpVerif.Lemmas.CowFinal
import FpVerif.Lemmas.CowProgress
/-!
# C19 — CopyOnWriteMap is linearizable; ComputeIfAbsent is atomic per key.

Model: `FpVerif/Model/Cow.lean` — shared `(snapshot, lock)`; any number of threads, each running
any program of Get / Size / Iterator / Updated / Removed / UpdatedWith / ComputeIf /
ComputeIfAbsent calls with arbitrary pure callbacks; one `step` = the code between two yield
points (entry of `load()`, its slow path, entry of `copyOnWrite()`, the `Store`); schedules are
arbitrary lists of thread ids.  The ghost history records `call`, `lin` (linearization point,
with the result of the ATOMIC map `Op.apply`) and `ret` events.

* Part A (`Variant.recheck`: ComputeIf re-checks under the write lock — the minimal repair; all
  other operations are as written in copyonwrite.go): forward simulation to the atomic map with
  explicit linearization points ⇒ every history of every schedule is linearizable; nobody panics;
  ComputeIfAbsent agreement.
* Part A' (audit finding 26; BOTH variants): progress and termination — no deadlock,
  every executed atomic block decreases `totalWork`, `finishSched` (the oracle's round-robin
  driver) and every weakly fair infinite schedule reach quiescence; with Part A: under every fair
  schedule every operation of every program is eventually linearized and returns.
* Part B (`Variant.asIs`): kernel-checked witness schedules showing that ComputeIf before fix
  7ab4713 violates the property (two ComputeIfAbsent calls return different values; `.Get()` panics
  after a concurrent Removed).
-/
namespace FpVerif.Spec.C19
open FpVerif FpVerif.Sched FpVerif.Cow

/-! ## Part A — the repaired algorithm is linearizable -/

/-- (L1) The linearization order is a legal sequential history: applying the linearized
    operations one after the other to an atomic map, starting from the empty map, yields exactly
    the recorded results and ends in the current snapshot.  No update is lost. -/
theorem linearization_is_legal (progs : List (List Op)) (sched : List Tid) :
    seqRun [] ((linsOf (crun .recheck (init progs) sched).shared.hist).map (·.1)) =
      ((crun .recheck (init progs) sched).shared.map,
       (linsOf (crun .recheck (init progs) sched).shared.hist).map (·.2)) :=
  (Inv_run (Inv_init progs) sched).lins

/-- (L2) Every thread's part of the history is exactly: for each completed operation
    `call; lin; ret` with the SAME result in `lin` and `ret` (what the caller got is what the atomic
    map answered), then the call (and possibly the linearization point) of the operation in
    progress.  Each operation is linearized exactly once, between its call and its return. -/
theorem thread_view (progs : List (List Op)) (sched : List Tid) (l : Local)
    (hl : l ∈ (crun .recheck (init progs) sched).threads) :
    proj l.tid (crun .recheck (init progs) sched).shared.hist =
      doneEvents l.tid 0 l.done ++ curEvents l :=
  (Inv_run (Inv_init progs) sched).views l hl

/-- thread `t` executes program `progs[t]`, in order -/
theorem programs_kept (progs : List (List Op)) (sched : List Tid) :
    (crun .recheck (init progs) sched).threads.map Local.ops = progs :=
  (Inv_run (Inv_init progs) sched).ops

/-- (L3) Real-time order: in the global history the linearization point of every completed
    operation lies between its call and its return. -/
theorem lin_inside_interval (progs : List (List Op)) (sched : List Tid) (t j : Nat) (l : Local)
    (op : Op) (r : Ret)
    (hl : (crun .recheck (init progs) sched).threads[t]? = some l) (hj : l.done[j]? = some (op, r)) :
    ∃ h1 h2 h3 h4, (crun .recheck (init progs) sched).shared.hist =
      h1 ++ HEv.call t j op :: h2 ++ HEv.lin t j op r :: h3 ++ HEv.ret t j r :: h4 := by
  have hinv := Inv_run (Inv_init progs) sched
  have hview := hinv.views l (List.mem_of_getElem? hl)
  have htid := hinv.tids t l hl
  obtain ⟨x, z, hd⟩ := doneEvents_order (t := l.tid) (n := 0) hj
  rw [expected, hd, htid] at hview
  simp only [Nat.zero_add, List.append_assoc, List.cons_append] at hview
  -- split the global history at the three events
  obtain ⟨a1, a2, ha, _, h2⟩ := List.filter_eq_append_iff.mp hview
  obtain ⟨b1, b2, rfl, _, _, h3⟩ := List.filter_eq_cons_iff.mp h2
  obtain ⟨c1, c2, rfl, _, _, h4⟩ := List.filter_eq_cons_iff.mp h3
  obtain ⟨d1, d2, rfl, _, _, _⟩ := List.filter_eq_cons_iff.mp h4
  exact ⟨a1 ++ b1, c1, d1, d2, by rw [ha]; simp⟩

/-- The linearized operations are operations of the programs. -/
theorem linearized_ops_are_program_ops (progs : List (List Op)) (sched : List Tid) (op : Op) (r : Ret)
    (h : (op, r) ∈ linsOf (crun .recheck (init progs) sched).shared.hist) :
    ∃ p ∈ progs, op ∈ p :=
  lin_op_in_prog (Inv_run (Inv_init progs) sched) h

/-- At quiescence every operation of every program has been linearized and has returned the
    linearized result: the thread's history is `call; lin; ret` for each operation of its program. -/
theorem complete_at_quiescence (progs : List (List Op)) (sched : List Tid) (t : Nat) (l : Local)
    (hq : allFinished (crun .recheck (init progs) sched) = true)
    (hl : (crun .recheck (init progs) sched).threads[t]? = some l) :
    l.done.map (·.1) = progs[t]?.getD [] ∧
    proj t (crun .recheck (init progs) sched).shared.hist = doneEvents t 0 l.done := by
  have hinv := Inv_run (Inv_init progs) sched
  have hlm := List.mem_of_getElem? hl
  have hfin : l.phase = .finished := by
    simp only [allFinished, List.all_eq_true] at hq
    have := hq l hlm
    unfold Local.isFinished at this
    cases hp : l.phase <;> simp_all
  have htid := hinv.tids t l hl
  constructor
  · have hops := hinv.ops
    have : (progs[t]?).getD [] = l.ops := by
      rw [← hops]; simp [hl]
    rw [this]
    simp [Local.ops, hfin, hinv.fin l hlm hfin]
  · have := hinv.views l hlm
    rw [htid] at this
    rw [this, expected, curEvents, hfin, htid]
    simp

/-- No operation panics. -/
theorem no_panic (progs : List (List Op)) (sched : List Tid) (l : Local)
    (hl : l ∈ (crun .recheck (init progs) sched).threads) : Ret.panic ∉ l.rets :=
  (Inv_run (Inv_init progs) sched).noPanic l hl

/-- ComputeIfAbsent is atomic per key: if `ComputeIfAbsent k` is the only kind of operation in the
    programs that writes key `k`, then ALL such calls — however they interleave — are answered
    with the same value, and that value is the one stored under `k`. -/
theorem computeIfAbsent_agree (progs : List (List Op)) (sched : List Tid) (k : K)
    (honly : ∀ p ∈ progs, ∀ op ∈ p, op.writes k → op.isCiaOn k)
    (op : Op) (r : Ret) (hop : op.isCiaOn k)
    (h : (op, r) ∈ linsOf (crun .recheck (init progs) sched).shared.hist) :
    ∃ v, r = .val v ∧ AMap.get (crun .recheck (init progs) sched).shared.map k = some v := by
  have hinv := Inv_run (Inv_init progs) sched
  have hleg := hinv.lins
  generalize hL : linsOf (crun .recheck (init progs) sched).shared.hist = lins at *
  have hall : ∀ o ∈ lins.map (·.1), o.writes k → o.isCiaOn k := by
    intro o ho hw
    obtain ⟨⟨o', r'⟩, hmem, rfl⟩ := List.mem_map.mp ho
    obtain ⟨p, hp, hop'⟩ := lin_op_in_prog hinv (by rw [hL]; exact hmem)
    exact honly p hp o' hop' hw
  obtain ⟨i, hi, hget⟩ := List.getElem_of_mem h
  have := (seq_cia_agree k (lins.map (·.1)) [] hall).2 i op r
    (by simp [List.getElem?_eq_getElem hi, hget])
    (by rw [hleg]; simp [List.getElem?_eq_getElem hi, hget]) hop
  rw [hleg] at this
  exact this

/-- On the atomic map itself: the value `ComputeIfAbsent` returns is the value stored. -/
theorem computeIfAbsent_returns_stored (k : K) (fid : Nat) (nv : V) (m : AMap) :
    ∃ v, ((Op.computeIf k none (fun _ => false) fid nv).apply m).2 = .val v ∧
      AMap.get ((Op.computeIf k none (fun _ => false) fid nv).apply m).1 k = some v := by
  obtain ⟨v, h1, h2, _⟩ := cia_apply (op := .computeIf k none (fun _ => false) fid nv) (k := k)
    ⟨rfl, fun _ => rfl⟩ m
  exact ⟨v, h1, h2⟩

/-- the association lists used as snapshots obey the map laws -/
theorem map_laws (m : AMap) (k k' : K) (v : V) (h : k' ≠ k) :
    AMap.get (AMap.put m k v) k = some v ∧ AMap.get (AMap.put m k' v) k = AMap.get m k ∧
    AMap.get (AMap.del m k) k = none ∧ AMap.get (AMap.del m k') k = AMap.get m k :=
  ⟨AMap.get_put_self m k v, AMap.get_put_ne m v h, AMap.get_del_self m k, AMap.get_del_ne m h⟩

/-- The defect is confined to ComputeIf: on programs without ComputeIf / ComputeIfAbsent,
    copyonwrite.go before the fix runs exactly like the repaired algorithm, so all theorems of
    Part A held for the code as it was (Get / Size / Iterator / Updated / Removed / UpdatedWith
    were linearizable then). -/
theorem asIs_eq_recheck_without_computeIf (progs : List (List Op)) (sched : List Tid)
    (hno : ∀ p ∈ progs, ∀ op ∈ p, op.isCif = false) :
    crun .asIs (init progs) sched = crun .recheck (init progs) sched :=
  run_asIs_eq hno sched (init progs) (Inv_init progs)

/-! ## Part A' — progress and termination (both variants)

The safety theorems above say nothing about a schedule under which nothing happens.  A thread of
this model CAN be blocked: `stepT = none` at `cow.enter`, `cow.load.lock` (and `load2Lock`) while
another thread holds the mutex.  Progress therefore rests on the invariant `WF` of
`Lemmas/CowProgress.lean`: every program counter fits its operation, and the mutex is held iff
exactly one thread sits at `cow.store` — which is always enabled.  `totalWork` (6 atomic blocks
per operation not yet begun, `pcW pc ≤ 6` for the one in progress) bounds the remaining work. -/

/-- DEADLOCK FREEDOM: in every reachable state in which some thread has not finished its program,
    some thread can execute an atomic block (the lock holder if the mutex is taken, any unfinished
    thread otherwise). -/
theorem no_deadlock (v : Variant) (progs : List (List Op)) (sched : List Tid)
    (h : allFinished (crun v (init progs) sched) = false) :
    ∃ t, t < progs.length ∧ (step (stepT v) (crun v (init progs) sched) t).isSome = true := by
  obtain ⟨t, hlt, hen⟩ := exists_enabled v (WF_run v (WF_init progs) sched) h
  refine ⟨t, ?_, hen⟩
  rw [crun, run_length] at hlt
  have := congrArg List.length (Inv_init progs).ops
  simp only [List.length_map] at this
  omega

/-- quiescence is exactly "nobody can move": `Sched.Quiescent` ↔ `allFinished` in reachable states
    (no reachable state is stuck with work left) -/
theorem quiescent_iff_allFinished (v : Variant) (progs : List (List Op)) (sched : List Tid) :
    Quiescent (stepT v) (crun v (init progs) sched) ↔
      allFinished (crun v (init progs) sched) = true :=
  (progress v).quiescent_iff (WF_run v (WF_init progs) sched)

/-- every executed atomic block strictly decreases `totalWork` -/
theorem work_decreases (v : Variant) (progs : List (List Op)) (sched : List Tid) (t : Tid)
    (s' : CSys) (h : step (stepT v) (crun v (init progs) sched) t = some s') :
    totalWork s' < totalWork (crun v (init progs) sched) :=
  (WF_step v _ t s' (WF_run v (WF_init progs) sched) h).2

/-- no schedule executes more than `totalWork init ≤ 6 · (number of operations)` atomic blocks:
    there is no livelock (no retry loop: every block is paid for by the program text) -/
theorem bounded_work (v : Variant) (progs : List (List Op)) (sched : List Tid) :
    effSteps (stepT v) (init progs) sched ≤ totalWork (init progs) :=
  (progress v).effSteps_le (WF_init progs) sched

/-- TERMINATION OF `finishSched`: from every reachable state the round-robin driver that the
    oracle (and, mirrored, the harness) appends to the explicit schedule ends in a state in which
    every thread has finished its program. -/
theorem finishSched_reaches_quiescence (v : Variant) (progs : List (List Op)) (sched : List Tid) :
    allFinished (crun v (crun v (init progs) sched)
      (finishSched (crun v (init progs) sched))) = true :=
  (progress v).roundRobin_finishes _ (WF_run v (WF_init progs) sched) (totalWork_le_fuel _)

/-- EVERY FAIR SCHEDULE TERMINATES.  `σ` is an infinite schedule; `Fair`: a thread that is
    unfinished after `n` entries — running or waiting for the mutex — is named again by some later
    entry.  Then after finitely many entries every thread has finished, and nothing changes any
    more.  (Weak fairness suffices although threads can block: a blocked thread waits for the lock
    holder, which is itself unfinished, enabled, and therefore scheduled.) -/
theorem fair_schedule_reaches_quiescence (v : Variant) (progs : List (List Op)) (σ : Nat → Tid)
    (hfair : Fair v (init progs) σ) :
    ∃ n, ∀ m, n ≤ m → allFinished (crun v (init progs) (prefixOf σ m)) = true ∧
      crun v (init progs) (prefixOf σ m) = crun v (init progs) (prefixOf σ n) :=
  (progress v).fair_finishes_stable (WF_init progs) σ hfair

/-- the same from any reachable state -/
theorem fair_continuation_reaches_quiescence (v : Variant) (progs : List (List Op))
    (sched : List Tid) (σ : Nat → Tid) (hfair : Fair v (crun v (init progs) sched) σ) :
    ∃ n, allFinished (crun v (init progs) (sched ++ prefixOf σ n)) = true :=
  (progress v).fair_finishes_after (WF_init progs) sched σ hfair

/-- LIVENESS of the repaired algorithm: under every fair schedule, eventually every operation of
    every program has been linearized and has returned the linearized result
    (`complete_at_quiescence` becomes applicable). -/
theorem fair_schedule_completes_all (progs : List (List Op)) (σ : Nat → Tid)
    (hfair : Fair .recheck (init progs) σ) :
    ∃ n, ∀ (t : Nat) (l : Local),
      (crun .recheck (init progs) (prefixOf σ n)).threads[t]? = some l →
      l.done.map (·.1) = progs[t]?.getD [] ∧
      proj t (crun .recheck (init progs) (prefixOf σ n)).shared.hist = doneEvents t 0 l.done := by
  obtain ⟨n, hn⟩ := fair_schedule_reaches_quiescence .recheck progs σ hfair
  exact ⟨n, fun t l hl => complete_at_quiescence progs _ t l (hn n (Nat.le_refl _)).1 hl⟩

/-! ## Part B — copyonwrite.go before fix 7ab4713 violates the property (kernel-checked witnesses) -/

def cia (k : K) (fid : Nat) (nv : V) : Op := .computeIf k none (fun _ => false) fid nv

/-- Two concurrent `ComputeIfAbsent(0, …)`: both find the key absent, both write; the calls return
    DIFFERENT values (20 and 21) and the first caller's value is not the one that stays stored. -/
theorem asIs_computeIfAbsent_disagree :
    let s := crun .asIs (init [[cia 0 1 20], [cia 0 2 21]]) [0, 1, 0, 1, 0, 0, 0, 1, 1, 1]
    allFinished s = true ∧ s.threads.map Local.rets = [[.val 20], [.val 21]] ∧
    s.shared.map = [(0, 21)] := by
  decide

/-- … and no sequential order of the two calls explains these answers: not linearizable. -/
theorem asIs_history_not_linearizable :
    (seqRun [] [cia 0 1 20, cia 0 2 21]).2 ≠ [.val 20, .val 21] ∧
    (seqRun [] [cia 0 2 21, cia 0 1 20]).2 ≠ [.val 21, .val 20] := by
  decide

/-- `ComputeIfAbsent` racing with `Removed`: the final `r.Get(k).Get()` finds the key gone and
    panics (`Option.empty`). -/
theorem asIs_computeIfAbsent_panics :
    let s := crun .asIs (init [[cia 0 1 20], [.removed [0]]]) [0, 0, 0, 0, 1, 1, 0]
    allFinished s = true ∧ s.threads.map Local.rets = [[.panic], [.unit]] := by
  decide

/-- The same programs and schedules under the repaired algorithm. -/
example :
    (crun .recheck (init [[cia 0 1 20], [cia 0 2 21]]) [0, 1, 0, 1, 0, 0, 0, 1, 1, 1]).threads.map Local.rets
      = [[.val 20], [.val 20]] ∧
    (crun .recheck (init [[cia 0 1 20], [.removed [0]]]) [0, 0, 0, 0, 1, 1, 0]).threads.map Local.rets
      = [[.val 20], [.unit]] := by
  decide

/-! ## Non-vacuity -/

/-- a schedule in which a writer is really blocked by the lock (its skipped turns) and the history
    contains linearization points of both threads -/
example :
    let s := crun .recheck (init [[.updated 0 1], [.updated 0 2, .get 0]]) [0, 1, 1, 0, 1, 1, 1, 1]
    allFinished s = true ∧ (linsOf s.shared.hist).length = 3 ∧
    s.threads.map Local.rets = [[.unit], [.unit, .opt (some 2)]] := by
  decide

/-- fair infinite schedules exist (round robin over two threads), and blocking really occurs: in
    the non-vacuity schedule above thread 1's first two turns are skipped entries (it waits at
    `cow.enter` while thread 0 holds the mutex; the last example checks the first) -/
example : Fair .recheck (init [[.updated 0 1], [.updated 0 2, .get 0]]) (fun n => n % 2) := by
  apply Fair.of_infinitely_often
  intro n t ht
  have ht : t < 2 := ht
  refine ⟨2 * n + t, by omega, ?_⟩
  show (2 * n + t) % 2 = t
  rw [Nat.mul_add_mod, Nat.mod_eq_of_lt ht]

example :
    step (stepT .recheck) (crun .recheck (init [[.updated 0 1], [.updated 0 2, .get 0]]) [0]) 1 = none ∧
    allFinished (crun .recheck (init [[.updated 0 1], [.updated 0 2, .get 0]]) [0]) = false := by
  decide

end FpVerif.Spec.C19
