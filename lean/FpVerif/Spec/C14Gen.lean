import FpVerif.Gen.TupleGen
import FpVerif.Spec.C09
/-!
# C14 / C09 / C10 / C11 / C18 — the generated `TupleN` instance functions, TRANSLATED from the source on every run

`FpVerif/Gen/TupleGen.lean` is produced by `harness/cmd/go2lean` (a Go-AST → Lean translator for the pure fragment
these generated files are written in) from `eq/tuple_gen.go`, `hash/tuple_gen.go`, `ord/tuple_gen.go`,
`monoid/tuple_gen.go` and `clone/clone_gen.go` of the working tree: one Lean definition per Go function, same
structure (`pt := TupleN-1(ins2 …)`, the closures handed to `New`, the `if`/`return` chains, every `t1.Ik`).

The theorems below — one per family and arity, statements fixed here under version control — say that the translated
function IS the arity-generic model instance `tupleN i₁ (tupleN i₂ (… (tuple1 iₙ)))` about which `Spec/C09`, `C10`,
`C11` prove lawfulness and the characterisations (`tupleN_eqv_iff`, `tupleN_less_iff`, …), resp. for `clone` the
defining equation of C14 (component `k` is cloned by instance `k` and lands at position `k`).  `eq`, `hash` and `ord`
call the arity below (`pt := TupleN-1(ins2 …)`), and so do their proofs: one unfolding step, then the theorem of N-1;
`monoid` and `clone` are written out flat and hold by unfolding (`rfl`; for `monoid` the tactic: its long unfolding
the term `rfl` would have the elaborator repeat three times).  A wrong variable, swapped operands or a dropped component
in ONE generated function changes the translated definition and exactly that theorem stops checking.

`fp.TupleN[A1..AN]` is `A1 × (A2 × … × T1 AN)`; `t.Ik` is the k-th projection, `as.TupleN-1(t.Tail())` is `t.2`
(the C14 arity harness ties `Tail`/`as.TupleK`/`product.TupleN` themselves to the code).
-/
namespace FpVerif.Spec.C14Gen
open FpVerif.TC FpVerif.Gen.Tuple

-- eq.Tuple2 .. eq.Tuple21 ------------------------------------------------------------
theorem eq_tuple2_is_model {A1 A2 : Type} (i1 : EqD A1) (i2 : EqD A2) :
    eqTuple2 i1 i2 = EqD.tupleN i1 (EqD.tuple1 i2) := rfl
theorem eq_tuple3_is_model {A1 A2 A3 : Type} (i1 : EqD A1) (i2 : EqD A2) (i3 : EqD A3) :
    eqTuple3 i1 i2 i3 = EqD.tupleN i1 (EqD.tupleN i2 (EqD.tuple1 i3)) :=
  congrArg (EqD.tupleN i1) (eq_tuple2_is_model ..)
theorem eq_tuple4_is_model {A1 A2 A3 A4 : Type} (i1 : EqD A1) (i2 : EqD A2) (i3 : EqD A3) (i4 : EqD A4) :
    eqTuple4 i1 i2 i3 i4 = EqD.tupleN i1 (EqD.tupleN i2 (EqD.tupleN i3 (EqD.tuple1 i4))) :=
  congrArg (EqD.tupleN i1) (eq_tuple3_is_model ..)
theorem eq_tuple5_is_model {A1 A2 A3 A4 A5 : Type} (i1 : EqD A1) (i2 : EqD A2) (i3 : EqD A3) (i4 : EqD A4) (i5 : EqD A5) :
    eqTuple5 i1 i2 i3 i4 i5 = EqD.tupleN i1 (EqD.tupleN i2 (EqD.tupleN i3 (EqD.tupleN i4 (EqD.tuple1 i5)))) :=
  congrArg (EqD.tupleN i1) (eq_tuple4_is_model ..)
theorem eq_tuple6_is_model {A1 A2 A3 A4 A5 A6 : Type} (i1 : EqD A1) (i2 : EqD A2) (i3 : EqD A3) (i4 : EqD A4) (i5 : EqD A5) (i6 : EqD A6) :
    eqTuple6 i1 i2 i3 i4 i5 i6 = EqD.tupleN i1 (EqD.tupleN i2 (EqD.tupleN i3 (EqD.tupleN i4 (EqD.tupleN i5 (EqD.tuple1 i6))))) :=
  congrArg (EqD.tupleN i1) (eq_tuple5_is_model ..)
theorem eq_tuple7_is_model {A1 A2 A3 A4 A5 A6 A7 : Type} (i1 : EqD A1) (i2 : EqD A2) (i3 : EqD A3) (i4 : EqD A4) (i5 : EqD A5) (i6 : EqD A6) (i7 : EqD A7) :
    eqTuple7 i1 i2 i3 i4 i5 i6 i7 = EqD.tupleN i1 (EqD.tupleN i2 (EqD.tupleN i3 (EqD.tupleN i4 (EqD.tupleN i5 (EqD.tupleN i6 (EqD.tuple1 i7)))))) :=
  congrArg (EqD.tupleN i1) (eq_tuple6_is_model ..)
theorem eq_tuple8_is_model {A1 A2 A3 A4 A5 A6 A7 A8 : Type} (i1 : EqD A1) (i2 : EqD A2) (i3 : EqD A3) (i4 : EqD A4) (i5 : EqD A5) (i6 : EqD A6) (i7 : EqD A7) (i8 : EqD A8) :
    eqTuple8 i1 i2 i3 i4 i5 i6 i7 i8 = EqD.tupleN i1 (EqD.tupleN i2 (EqD.tupleN i3 (EqD.tupleN i4 (EqD.tupleN i5 (EqD.tupleN i6 (EqD.tupleN i7 (EqD.tuple1 i8))))))) :=
  congrArg (EqD.tupleN i1) (eq_tuple7_is_model ..)
theorem eq_tuple9_is_model {A1 A2 A3 A4 A5 A6 A7 A8 A9 : Type} (i1 : EqD A1) (i2 : EqD A2) (i3 : EqD A3) (i4 : EqD A4) (i5 : EqD A5) (i6 : EqD A6) (i7 : EqD A7) (i8 : EqD A8) (i9 : EqD A9) :
    eqTuple9 i1 i2 i3 i4 i5 i6 i7 i8 i9 = EqD.tupleN i1 (EqD.tupleN i2 (EqD.tupleN i3 (EqD.tupleN i4 (EqD.tupleN i5 (EqD.tupleN i6 (EqD.tupleN i7 (EqD.tupleN i8 (EqD.tuple1 i9)))))))) :=
  congrArg (EqD.tupleN i1) (eq_tuple8_is_model ..)
theorem eq_tuple10_is_model {A1 A2 A3 A4 A5 A6 A7 A8 A9 A10 : Type} (i1 : EqD A1) (i2 : EqD A2) (i3 : EqD A3) (i4 : EqD A4) (i5 : EqD A5) (i6 : EqD A6) (i7 : EqD A7) (i8 : EqD A8) (i9 : EqD A9) (i10 : EqD A10) :
    eqTuple10 i1 i2 i3 i4 i5 i6 i7 i8 i9 i10 = EqD.tupleN i1 (EqD.tupleN i2 (EqD.tupleN i3 (EqD.tupleN i4 (EqD.tupleN i5 (EqD.tupleN i6 (EqD.tupleN i7 (EqD.tupleN i8 (EqD.tupleN i9 (EqD.tuple1 i10))))))))) :=
  congrArg (EqD.tupleN i1) (eq_tuple9_is_model ..)
theorem eq_tuple11_is_model {A1 A2 A3 A4 A5 A6 A7 A8 A9 A10 A11 : Type} (i1 : EqD A1) (i2 : EqD A2) (i3 : EqD A3) (i4 : EqD A4) (i5 : EqD A5) (i6 : EqD A6) (i7 : EqD A7) (i8 : EqD A8) (i9 : EqD A9) (i10 : EqD A10) (i11 : EqD A11) :
    eqTuple11 i1 i2 i3 i4 i5 i6 i7 i8 i9 i10 i11 = EqD.tupleN i1 (EqD.tupleN i2 (EqD.tupleN i3 (EqD.tupleN i4 (EqD.tupleN i5 (EqD.tupleN i6 (EqD.tupleN i7 (EqD.tupleN i8 (EqD.tupleN i9 (EqD.tupleN i10 (EqD.tuple1 i11)))))))))) :=
  congrArg (EqD.tupleN i1) (eq_tuple10_is_model ..)
theorem eq_tuple12_is_model {A1 A2 A3 A4 A5 A6 A7 A8 A9 A10 A11 A12 : Type} (i1 : EqD A1) (i2 : EqD A2) (i3 : EqD A3) (i4 : EqD A4) (i5 : EqD A5) (i6 : EqD A6) (i7 : EqD A7) (i8 : EqD A8) (i9 : EqD A9) (i10 : EqD A10) (i11 : EqD A11) (i12 : EqD A12) :
    eqTuple12 i1 i2 i3 i4 i5 i6 i7 i8 i9 i10 i11 i12 = EqD.tupleN i1 (EqD.tupleN i2 (EqD.tupleN i3 (EqD.tupleN i4 (EqD.tupleN i5 (EqD.tupleN i6 (EqD.tupleN i7 (EqD.tupleN i8 (EqD.tupleN i9 (EqD.tupleN i10 (EqD.tupleN i11 (EqD.tuple1 i12))))))))))) :=
  congrArg (EqD.tupleN i1) (eq_tuple11_is_model ..)
theorem eq_tuple13_is_model {A1 A2 A3 A4 A5 A6 A7 A8 A9 A10 A11 A12 A13 : Type} (i1 : EqD A1) (i2 : EqD A2) (i3 : EqD A3) (i4 : EqD A4) (i5 : EqD A5) (i6 : EqD A6) (i7 : EqD A7) (i8 : EqD A8) (i9 : EqD A9) (i10 : EqD A10) (i11 : EqD A11) (i12 : EqD A12) (i13 : EqD A13) :
    eqTuple13 i1 i2 i3 i4 i5 i6 i7 i8 i9 i10 i11 i12 i13 = EqD.tupleN i1 (EqD.tupleN i2 (EqD.tupleN i3 (EqD.tupleN i4 (EqD.tupleN i5 (EqD.tupleN i6 (EqD.tupleN i7 (EqD.tupleN i8 (EqD.tupleN i9 (EqD.tupleN i10 (EqD.tupleN i11 (EqD.tupleN i12 (EqD.tuple1 i13)))))))))))) :=
  congrArg (EqD.tupleN i1) (eq_tuple12_is_model ..)
theorem eq_tuple14_is_model {A1 A2 A3 A4 A5 A6 A7 A8 A9 A10 A11 A12 A13 A14 : Type} (i1 : EqD A1) (i2 : EqD A2) (i3 : EqD A3) (i4 : EqD A4) (i5 : EqD A5) (i6 : EqD A6) (i7 : EqD A7) (i8 : EqD A8) (i9 : EqD A9) (i10 : EqD A10) (i11 : EqD A11) (i12 : EqD A12) (i13 : EqD A13) (i14 : EqD A14) :
    eqTuple14 i1 i2 i3 i4 i5 i6 i7 i8 i9 i10 i11 i12 i13 i14 = EqD.tupleN i1 (EqD.tupleN i2 (EqD.tupleN i3 (EqD.tupleN i4 (EqD.tupleN i5 (EqD.tupleN i6 (EqD.tupleN i7 (EqD.tupleN i8 (EqD.tupleN i9 (EqD.tupleN i10 (EqD.tupleN i11 (EqD.tupleN i12 (EqD.tupleN i13 (EqD.tuple1 i14))))))))))))) :=
  congrArg (EqD.tupleN i1) (eq_tuple13_is_model ..)
theorem eq_tuple15_is_model {A1 A2 A3 A4 A5 A6 A7 A8 A9 A10 A11 A12 A13 A14 A15 : Type} (i1 : EqD A1) (i2 : EqD A2) (i3 : EqD A3) (i4 : EqD A4) (i5 : EqD A5) (i6 : EqD A6) (i7 : EqD A7) (i8 : EqD A8) (i9 : EqD A9) (i10 : EqD A10) (i11 : EqD A11) (i12 : EqD A12) (i13 : EqD A13) (i14 : EqD A14) (i15 : EqD A15) :
    eqTuple15 i1 i2 i3 i4 i5 i6 i7 i8 i9 i10 i11 i12 i13 i14 i15 = EqD.tupleN i1 (EqD.tupleN i2 (EqD.tupleN i3 (EqD.tupleN i4 (EqD.tupleN i5 (EqD.tupleN i6 (EqD.tupleN i7 (EqD.tupleN i8 (EqD.tupleN i9 (EqD.tupleN i10 (EqD.tupleN i11 (EqD.tupleN i12 (EqD.tupleN i13 (EqD.tupleN i14 (EqD.tuple1 i15)))))))))))))) :=
  congrArg (EqD.tupleN i1) (eq_tuple14_is_model ..)
theorem eq_tuple16_is_model {A1 A2 A3 A4 A5 A6 A7 A8 A9 A10 A11 A12 A13 A14 A15 A16 : Type} (i1 : EqD A1) (i2 : EqD A2) (i3 : EqD A3) (i4 : EqD A4) (i5 : EqD A5) (i6 : EqD A6) (i7 : EqD A7) (i8 : EqD A8) (i9 : EqD A9) (i10 : EqD A10) (i11 : EqD A11) (i12 : EqD A12) (i13 : EqD A13) (i14 : EqD A14) (i15 : EqD A15) (i16 : EqD A16) :
    eqTuple16 i1 i2 i3 i4 i5 i6 i7 i8 i9 i10 i11 i12 i13 i14 i15 i16 = EqD.tupleN i1 (EqD.tupleN i2 (EqD.tupleN i3 (EqD.tupleN i4 (EqD.tupleN i5 (EqD.tupleN i6 (EqD.tupleN i7 (EqD.tupleN i8 (EqD.tupleN i9 (EqD.tupleN i10 (EqD.tupleN i11 (EqD.tupleN i12 (EqD.tupleN i13 (EqD.tupleN i14 (EqD.tupleN i15 (EqD.tuple1 i16))))))))))))))) :=
  congrArg (EqD.tupleN i1) (eq_tuple15_is_model ..)
theorem eq_tuple17_is_model {A1 A2 A3 A4 A5 A6 A7 A8 A9 A10 A11 A12 A13 A14 A15 A16 A17 : Type} (i1 : EqD A1) (i2 : EqD A2) (i3 : EqD A3) (i4 : EqD A4) (i5 : EqD A5) (i6 : EqD A6) (i7 : EqD A7) (i8 : EqD A8) (i9 : EqD A9) (i10 : EqD A10) (i11 : EqD A11) (i12 : EqD A12) (i13 : EqD A13) (i14 : EqD A14) (i15 : EqD A15) (i16 : EqD A16) (i17 : EqD A17) :
    eqTuple17 i1 i2 i3 i4 i5 i6 i7 i8 i9 i10 i11 i12 i13 i14 i15 i16 i17 = EqD.tupleN i1 (EqD.tupleN i2 (EqD.tupleN i3 (EqD.tupleN i4 (EqD.tupleN i5 (EqD.tupleN i6 (EqD.tupleN i7 (EqD.tupleN i8 (EqD.tupleN i9 (EqD.tupleN i10 (EqD.tupleN i11 (EqD.tupleN i12 (EqD.tupleN i13 (EqD.tupleN i14 (EqD.tupleN i15 (EqD.tupleN i16 (EqD.tuple1 i17)))))))))))))))) :=
  congrArg (EqD.tupleN i1) (eq_tuple16_is_model ..)
theorem eq_tuple18_is_model {A1 A2 A3 A4 A5 A6 A7 A8 A9 A10 A11 A12 A13 A14 A15 A16 A17 A18 : Type} (i1 : EqD A1) (i2 : EqD A2) (i3 : EqD A3) (i4 : EqD A4) (i5 : EqD A5) (i6 : EqD A6) (i7 : EqD A7) (i8 : EqD A8) (i9 : EqD A9) (i10 : EqD A10) (i11 : EqD A11) (i12 : EqD A12) (i13 : EqD A13) (i14 : EqD A14) (i15 : EqD A15) (i16 : EqD A16) (i17 : EqD A17) (i18 : EqD A18) :
    eqTuple18 i1 i2 i3 i4 i5 i6 i7 i8 i9 i10 i11 i12 i13 i14 i15 i16 i17 i18 = EqD.tupleN i1 (EqD.tupleN i2 (EqD.tupleN i3 (EqD.tupleN i4 (EqD.tupleN i5 (EqD.tupleN i6 (EqD.tupleN i7 (EqD.tupleN i8 (EqD.tupleN i9 (EqD.tupleN i10 (EqD.tupleN i11 (EqD.tupleN i12 (EqD.tupleN i13 (EqD.tupleN i14 (EqD.tupleN i15 (EqD.tupleN i16 (EqD.tupleN i17 (EqD.tuple1 i18))))))))))))))))) :=
  congrArg (EqD.tupleN i1) (eq_tuple17_is_model ..)
theorem eq_tuple19_is_model {A1 A2 A3 A4 A5 A6 A7 A8 A9 A10 A11 A12 A13 A14 A15 A16 A17 A18 A19 : Type} (i1 : EqD A1) (i2 : EqD A2) (i3 : EqD A3) (i4 : EqD A4) (i5 : EqD A5) (i6 : EqD A6) (i7 : EqD A7) (i8 : EqD A8) (i9 : EqD A9) (i10 : EqD A10) (i11 : EqD A11) (i12 : EqD A12) (i13 : EqD A13) (i14 : EqD A14) (i15 : EqD A15) (i16 : EqD A16) (i17 : EqD A17) (i18 : EqD A18) (i19 : EqD A19) :
    eqTuple19 i1 i2 i3 i4 i5 i6 i7 i8 i9 i10 i11 i12 i13 i14 i15 i16 i17 i18 i19 = EqD.tupleN i1 (EqD.tupleN i2 (EqD.tupleN i3 (EqD.tupleN i4 (EqD.tupleN i5 (EqD.tupleN i6 (EqD.tupleN i7 (EqD.tupleN i8 (EqD.tupleN i9 (EqD.tupleN i10 (EqD.tupleN i11 (EqD.tupleN i12 (EqD.tupleN i13 (EqD.tupleN i14 (EqD.tupleN i15 (EqD.tupleN i16 (EqD.tupleN i17 (EqD.tupleN i18 (EqD.tuple1 i19)))))))))))))))))) :=
  congrArg (EqD.tupleN i1) (eq_tuple18_is_model ..)
theorem eq_tuple20_is_model {A1 A2 A3 A4 A5 A6 A7 A8 A9 A10 A11 A12 A13 A14 A15 A16 A17 A18 A19 A20 : Type} (i1 : EqD A1) (i2 : EqD A2) (i3 : EqD A3) (i4 : EqD A4) (i5 : EqD A5) (i6 : EqD A6) (i7 : EqD A7) (i8 : EqD A8) (i9 : EqD A9) (i10 : EqD A10) (i11 : EqD A11) (i12 : EqD A12) (i13 : EqD A13) (i14 : EqD A14) (i15 : EqD A15) (i16 : EqD A16) (i17 : EqD A17) (i18 : EqD A18) (i19 : EqD A19) (i20 : EqD A20) :
    eqTuple20 i1 i2 i3 i4 i5 i6 i7 i8 i9 i10 i11 i12 i13 i14 i15 i16 i17 i18 i19 i20 = EqD.tupleN i1 (EqD.tupleN i2 (EqD.tupleN i3 (EqD.tupleN i4 (EqD.tupleN i5 (EqD.tupleN i6 (EqD.tupleN i7 (EqD.tupleN i8 (EqD.tupleN i9 (EqD.tupleN i10 (EqD.tupleN i11 (EqD.tupleN i12 (EqD.tupleN i13 (EqD.tupleN i14 (EqD.tupleN i15 (EqD.tupleN i16 (EqD.tupleN i17 (EqD.tupleN i18 (EqD.tupleN i19 (EqD.tuple1 i20))))))))))))))))))) :=
  congrArg (EqD.tupleN i1) (eq_tuple19_is_model ..)
theorem eq_tuple21_is_model {A1 A2 A3 A4 A5 A6 A7 A8 A9 A10 A11 A12 A13 A14 A15 A16 A17 A18 A19 A20 A21 : Type} (i1 : EqD A1) (i2 : EqD A2) (i3 : EqD A3) (i4 : EqD A4) (i5 : EqD A5) (i6 : EqD A6) (i7 : EqD A7) (i8 : EqD A8) (i9 : EqD A9) (i10 : EqD A10) (i11 : EqD A11) (i12 : EqD A12) (i13 : EqD A13) (i14 : EqD A14) (i15 : EqD A15) (i16 : EqD A16) (i17 : EqD A17) (i18 : EqD A18) (i19 : EqD A19) (i20 : EqD A20) (i21 : EqD A21) :
    eqTuple21 i1 i2 i3 i4 i5 i6 i7 i8 i9 i10 i11 i12 i13 i14 i15 i16 i17 i18 i19 i20 i21 = EqD.tupleN i1 (EqD.tupleN i2 (EqD.tupleN i3 (EqD.tupleN i4 (EqD.tupleN i5 (EqD.tupleN i6 (EqD.tupleN i7 (EqD.tupleN i8 (EqD.tupleN i9 (EqD.tupleN i10 (EqD.tupleN i11 (EqD.tupleN i12 (EqD.tupleN i13 (EqD.tupleN i14 (EqD.tupleN i15 (EqD.tupleN i16 (EqD.tupleN i17 (EqD.tupleN i18 (EqD.tupleN i19 (EqD.tupleN i20 (EqD.tuple1 i21)))))))))))))))))))) :=
  congrArg (EqD.tupleN i1) (eq_tuple20_is_model ..)

-- hash.Tuple2 .. hash.Tuple21 ------------------------------------------------------------
theorem hash_tuple2_is_model {A1 A2 : Type} (i1 : HashD A1) (i2 : HashD A2) :
    hashTuple2 i1 i2 = HashD.tupleN i1 (HashD.tuple1 i2) := rfl
theorem hash_tuple3_is_model {A1 A2 A3 : Type} (i1 : HashD A1) (i2 : HashD A2) (i3 : HashD A3) :
    hashTuple3 i1 i2 i3 = HashD.tupleN i1 (HashD.tupleN i2 (HashD.tuple1 i3)) :=
  congrArg (HashD.tupleN i1) (hash_tuple2_is_model ..)
theorem hash_tuple4_is_model {A1 A2 A3 A4 : Type} (i1 : HashD A1) (i2 : HashD A2) (i3 : HashD A3) (i4 : HashD A4) :
    hashTuple4 i1 i2 i3 i4 = HashD.tupleN i1 (HashD.tupleN i2 (HashD.tupleN i3 (HashD.tuple1 i4))) :=
  congrArg (HashD.tupleN i1) (hash_tuple3_is_model ..)
theorem hash_tuple5_is_model {A1 A2 A3 A4 A5 : Type} (i1 : HashD A1) (i2 : HashD A2) (i3 : HashD A3) (i4 : HashD A4) (i5 : HashD A5) :
    hashTuple5 i1 i2 i3 i4 i5 = HashD.tupleN i1 (HashD.tupleN i2 (HashD.tupleN i3 (HashD.tupleN i4 (HashD.tuple1 i5)))) :=
  congrArg (HashD.tupleN i1) (hash_tuple4_is_model ..)
theorem hash_tuple6_is_model {A1 A2 A3 A4 A5 A6 : Type} (i1 : HashD A1) (i2 : HashD A2) (i3 : HashD A3) (i4 : HashD A4) (i5 : HashD A5) (i6 : HashD A6) :
    hashTuple6 i1 i2 i3 i4 i5 i6 = HashD.tupleN i1 (HashD.tupleN i2 (HashD.tupleN i3 (HashD.tupleN i4 (HashD.tupleN i5 (HashD.tuple1 i6))))) :=
  congrArg (HashD.tupleN i1) (hash_tuple5_is_model ..)
theorem hash_tuple7_is_model {A1 A2 A3 A4 A5 A6 A7 : Type} (i1 : HashD A1) (i2 : HashD A2) (i3 : HashD A3) (i4 : HashD A4) (i5 : HashD A5) (i6 : HashD A6) (i7 : HashD A7) :
    hashTuple7 i1 i2 i3 i4 i5 i6 i7 = HashD.tupleN i1 (HashD.tupleN i2 (HashD.tupleN i3 (HashD.tupleN i4 (HashD.tupleN i5 (HashD.tupleN i6 (HashD.tuple1 i7)))))) :=
  congrArg (HashD.tupleN i1) (hash_tuple6_is_model ..)
theorem hash_tuple8_is_model {A1 A2 A3 A4 A5 A6 A7 A8 : Type} (i1 : HashD A1) (i2 : HashD A2) (i3 : HashD A3) (i4 : HashD A4) (i5 : HashD A5) (i6 : HashD A6) (i7 : HashD A7) (i8 : HashD A8) :
    hashTuple8 i1 i2 i3 i4 i5 i6 i7 i8 = HashD.tupleN i1 (HashD.tupleN i2 (HashD.tupleN i3 (HashD.tupleN i4 (HashD.tupleN i5 (HashD.tupleN i6 (HashD.tupleN i7 (HashD.tuple1 i8))))))) :=
  congrArg (HashD.tupleN i1) (hash_tuple7_is_model ..)
theorem hash_tuple9_is_model {A1 A2 A3 A4 A5 A6 A7 A8 A9 : Type} (i1 : HashD A1) (i2 : HashD A2) (i3 : HashD A3) (i4 : HashD A4) (i5 : HashD A5) (i6 : HashD A6) (i7 : HashD A7) (i8 : HashD A8) (i9 : HashD A9) :
    hashTuple9 i1 i2 i3 i4 i5 i6 i7 i8 i9 = HashD.tupleN i1 (HashD.tupleN i2 (HashD.tupleN i3 (HashD.tupleN i4 (HashD.tupleN i5 (HashD.tupleN i6 (HashD.tupleN i7 (HashD.tupleN i8 (HashD.tuple1 i9)))))))) :=
  congrArg (HashD.tupleN i1) (hash_tuple8_is_model ..)
theorem hash_tuple10_is_model {A1 A2 A3 A4 A5 A6 A7 A8 A9 A10 : Type} (i1 : HashD A1) (i2 : HashD A2) (i3 : HashD A3) (i4 : HashD A4) (i5 : HashD A5) (i6 : HashD A6) (i7 : HashD A7) (i8 : HashD A8) (i9 : HashD A9) (i10 : HashD A10) :
    hashTuple10 i1 i2 i3 i4 i5 i6 i7 i8 i9 i10 = HashD.tupleN i1 (HashD.tupleN i2 (HashD.tupleN i3 (HashD.tupleN i4 (HashD.tupleN i5 (HashD.tupleN i6 (HashD.tupleN i7 (HashD.tupleN i8 (HashD.tupleN i9 (HashD.tuple1 i10))))))))) :=
  congrArg (HashD.tupleN i1) (hash_tuple9_is_model ..)
theorem hash_tuple11_is_model {A1 A2 A3 A4 A5 A6 A7 A8 A9 A10 A11 : Type} (i1 : HashD A1) (i2 : HashD A2) (i3 : HashD A3) (i4 : HashD A4) (i5 : HashD A5) (i6 : HashD A6) (i7 : HashD A7) (i8 : HashD A8) (i9 : HashD A9) (i10 : HashD A10) (i11 : HashD A11) :
    hashTuple11 i1 i2 i3 i4 i5 i6 i7 i8 i9 i10 i11 = HashD.tupleN i1 (HashD.tupleN i2 (HashD.tupleN i3 (HashD.tupleN i4 (HashD.tupleN i5 (HashD.tupleN i6 (HashD.tupleN i7 (HashD.tupleN i8 (HashD.tupleN i9 (HashD.tupleN i10 (HashD.tuple1 i11)))))))))) :=
  congrArg (HashD.tupleN i1) (hash_tuple10_is_model ..)
theorem hash_tuple12_is_model {A1 A2 A3 A4 A5 A6 A7 A8 A9 A10 A11 A12 : Type} (i1 : HashD A1) (i2 : HashD A2) (i3 : HashD A3) (i4 : HashD A4) (i5 : HashD A5) (i6 : HashD A6) (i7 : HashD A7) (i8 : HashD A8) (i9 : HashD A9) (i10 : HashD A10) (i11 : HashD A11) (i12 : HashD A12) :
    hashTuple12 i1 i2 i3 i4 i5 i6 i7 i8 i9 i10 i11 i12 = HashD.tupleN i1 (HashD.tupleN i2 (HashD.tupleN i3 (HashD.tupleN i4 (HashD.tupleN i5 (HashD.tupleN i6 (HashD.tupleN i7 (HashD.tupleN i8 (HashD.tupleN i9 (HashD.tupleN i10 (HashD.tupleN i11 (HashD.tuple1 i12))))))))))) :=
  congrArg (HashD.tupleN i1) (hash_tuple11_is_model ..)
theorem hash_tuple13_is_model {A1 A2 A3 A4 A5 A6 A7 A8 A9 A10 A11 A12 A13 : Type} (i1 : HashD A1) (i2 : HashD A2) (i3 : HashD A3) (i4 : HashD A4) (i5 : HashD A5) (i6 : HashD A6) (i7 : HashD A7) (i8 : HashD A8) (i9 : HashD A9) (i10 : HashD A10) (i11 : HashD A11) (i12 : HashD A12) (i13 : HashD A13) :
    hashTuple13 i1 i2 i3 i4 i5 i6 i7 i8 i9 i10 i11 i12 i13 = HashD.tupleN i1 (HashD.tupleN i2 (HashD.tupleN i3 (HashD.tupleN i4 (HashD.tupleN i5 (HashD.tupleN i6 (HashD.tupleN i7 (HashD.tupleN i8 (HashD.tupleN i9 (HashD.tupleN i10 (HashD.tupleN i11 (HashD.tupleN i12 (HashD.tuple1 i13)))))))))))) :=
  congrArg (HashD.tupleN i1) (hash_tuple12_is_model ..)
theorem hash_tuple14_is_model {A1 A2 A3 A4 A5 A6 A7 A8 A9 A10 A11 A12 A13 A14 : Type} (i1 : HashD A1) (i2 : HashD A2) (i3 : HashD A3) (i4 : HashD A4) (i5 : HashD A5) (i6 : HashD A6) (i7 : HashD A7) (i8 : HashD A8) (i9 : HashD A9) (i10 : HashD A10) (i11 : HashD A11) (i12 : HashD A12) (i13 : HashD A13) (i14 : HashD A14) :
    hashTuple14 i1 i2 i3 i4 i5 i6 i7 i8 i9 i10 i11 i12 i13 i14 = HashD.tupleN i1 (HashD.tupleN i2 (HashD.tupleN i3 (HashD.tupleN i4 (HashD.tupleN i5 (HashD.tupleN i6 (HashD.tupleN i7 (HashD.tupleN i8 (HashD.tupleN i9 (HashD.tupleN i10 (HashD.tupleN i11 (HashD.tupleN i12 (HashD.tupleN i13 (HashD.tuple1 i14))))))))))))) :=
  congrArg (HashD.tupleN i1) (hash_tuple13_is_model ..)
theorem hash_tuple15_is_model {A1 A2 A3 A4 A5 A6 A7 A8 A9 A10 A11 A12 A13 A14 A15 : Type} (i1 : HashD A1) (i2 : HashD A2) (i3 : HashD A3) (i4 : HashD A4) (i5 : HashD A5) (i6 : HashD A6) (i7 : HashD A7) (i8 : HashD A8) (i9 : HashD A9) (i10 : HashD A10) (i11 : HashD A11) (i12 : HashD A12) (i13 : HashD A13) (i14 : HashD A14) (i15 : HashD A15) :
    hashTuple15 i1 i2 i3 i4 i5 i6 i7 i8 i9 i10 i11 i12 i13 i14 i15 = HashD.tupleN i1 (HashD.tupleN i2 (HashD.tupleN i3 (HashD.tupleN i4 (HashD.tupleN i5 (HashD.tupleN i6 (HashD.tupleN i7 (HashD.tupleN i8 (HashD.tupleN i9 (HashD.tupleN i10 (HashD.tupleN i11 (HashD.tupleN i12 (HashD.tupleN i13 (HashD.tupleN i14 (HashD.tuple1 i15)))))))))))))) :=
  congrArg (HashD.tupleN i1) (hash_tuple14_is_model ..)
theorem hash_tuple16_is_model {A1 A2 A3 A4 A5 A6 A7 A8 A9 A10 A11 A12 A13 A14 A15 A16 : Type} (i1 : HashD A1) (i2 : HashD A2) (i3 : HashD A3) (i4 : HashD A4) (i5 : HashD A5) (i6 : HashD A6) (i7 : HashD A7) (i8 : HashD A8) (i9 : HashD A9) (i10 : HashD A10) (i11 : HashD A11) (i12 : HashD A12) (i13 : HashD A13) (i14 : HashD A14) (i15 : HashD A15) (i16 : HashD A16) :
    hashTuple16 i1 i2 i3 i4 i5 i6 i7 i8 i9 i10 i11 i12 i13 i14 i15 i16 = HashD.tupleN i1 (HashD.tupleN i2 (HashD.tupleN i3 (HashD.tupleN i4 (HashD.tupleN i5 (HashD.tupleN i6 (HashD.tupleN i7 (HashD.tupleN i8 (HashD.tupleN i9 (HashD.tupleN i10 (HashD.tupleN i11 (HashD.tupleN i12 (HashD.tupleN i13 (HashD.tupleN i14 (HashD.tupleN i15 (HashD.tuple1 i16))))))))))))))) :=
  congrArg (HashD.tupleN i1) (hash_tuple15_is_model ..)
theorem hash_tuple17_is_model {A1 A2 A3 A4 A5 A6 A7 A8 A9 A10 A11 A12 A13 A14 A15 A16 A17 : Type} (i1 : HashD A1) (i2 : HashD A2) (i3 : HashD A3) (i4 : HashD A4) (i5 : HashD A5) (i6 : HashD A6) (i7 : HashD A7) (i8 : HashD A8) (i9 : HashD A9) (i10 : HashD A10) (i11 : HashD A11) (i12 : HashD A12) (i13 : HashD A13) (i14 : HashD A14) (i15 : HashD A15) (i16 : HashD A16) (i17 : HashD A17) :
    hashTuple17 i1 i2 i3 i4 i5 i6 i7 i8 i9 i10 i11 i12 i13 i14 i15 i16 i17 = HashD.tupleN i1 (HashD.tupleN i2 (HashD.tupleN i3 (HashD.tupleN i4 (HashD.tupleN i5 (HashD.tupleN i6 (HashD.tupleN i7 (HashD.tupleN i8 (HashD.tupleN i9 (HashD.tupleN i10 (HashD.tupleN i11 (HashD.tupleN i12 (HashD.tupleN i13 (HashD.tupleN i14 (HashD.tupleN i15 (HashD.tupleN i16 (HashD.tuple1 i17)))))))))))))))) :=
  congrArg (HashD.tupleN i1) (hash_tuple16_is_model ..)
theorem hash_tuple18_is_model {A1 A2 A3 A4 A5 A6 A7 A8 A9 A10 A11 A12 A13 A14 A15 A16 A17 A18 : Type} (i1 : HashD A1) (i2 : HashD A2) (i3 : HashD A3) (i4 : HashD A4) (i5 : HashD A5) (i6 : HashD A6) (i7 : HashD A7) (i8 : HashD A8) (i9 : HashD A9) (i10 : HashD A10) (i11 : HashD A11) (i12 : HashD A12) (i13 : HashD A13) (i14 : HashD A14) (i15 : HashD A15) (i16 : HashD A16) (i17 : HashD A17) (i18 : HashD A18) :
    hashTuple18 i1 i2 i3 i4 i5 i6 i7 i8 i9 i10 i11 i12 i13 i14 i15 i16 i17 i18 = HashD.tupleN i1 (HashD.tupleN i2 (HashD.tupleN i3 (HashD.tupleN i4 (HashD.tupleN i5 (HashD.tupleN i6 (HashD.tupleN i7 (HashD.tupleN i8 (HashD.tupleN i9 (HashD.tupleN i10 (HashD.tupleN i11 (HashD.tupleN i12 (HashD.tupleN i13 (HashD.tupleN i14 (HashD.tupleN i15 (HashD.tupleN i16 (HashD.tupleN i17 (HashD.tuple1 i18))))))))))))))))) :=
  congrArg (HashD.tupleN i1) (hash_tuple17_is_model ..)
theorem hash_tuple19_is_model {A1 A2 A3 A4 A5 A6 A7 A8 A9 A10 A11 A12 A13 A14 A15 A16 A17 A18 A19 : Type} (i1 : HashD A1) (i2 : HashD A2) (i3 : HashD A3) (i4 : HashD A4) (i5 : HashD A5) (i6 : HashD A6) (i7 : HashD A7) (i8 : HashD A8) (i9 : HashD A9) (i10 : HashD A10) (i11 : HashD A11) (i12 : HashD A12) (i13 : HashD A13) (i14 : HashD A14) (i15 : HashD A15) (i16 : HashD A16) (i17 : HashD A17) (i18 : HashD A18) (i19 : HashD A19) :
    hashTuple19 i1 i2 i3 i4 i5 i6 i7 i8 i9 i10 i11 i12 i13 i14 i15 i16 i17 i18 i19 = HashD.tupleN i1 (HashD.tupleN i2 (HashD.tupleN i3 (HashD.tupleN i4 (HashD.tupleN i5 (HashD.tupleN i6 (HashD.tupleN i7 (HashD.tupleN i8 (HashD.tupleN i9 (HashD.tupleN i10 (HashD.tupleN i11 (HashD.tupleN i12 (HashD.tupleN i13 (HashD.tupleN i14 (HashD.tupleN i15 (HashD.tupleN i16 (HashD.tupleN i17 (HashD.tupleN i18 (HashD.tuple1 i19)))))))))))))))))) :=
  congrArg (HashD.tupleN i1) (hash_tuple18_is_model ..)
theorem hash_tuple20_is_model {A1 A2 A3 A4 A5 A6 A7 A8 A9 A10 A11 A12 A13 A14 A15 A16 A17 A18 A19 A20 : Type} (i1 : HashD A1) (i2 : HashD A2) (i3 : HashD A3) (i4 : HashD A4) (i5 : HashD A5) (i6 : HashD A6) (i7 : HashD A7) (i8 : HashD A8) (i9 : HashD A9) (i10 : HashD A10) (i11 : HashD A11) (i12 : HashD A12) (i13 : HashD A13) (i14 : HashD A14) (i15 : HashD A15) (i16 : HashD A16) (i17 : HashD A17) (i18 : HashD A18) (i19 : HashD A19) (i20 : HashD A20) :
    hashTuple20 i1 i2 i3 i4 i5 i6 i7 i8 i9 i10 i11 i12 i13 i14 i15 i16 i17 i18 i19 i20 = HashD.tupleN i1 (HashD.tupleN i2 (HashD.tupleN i3 (HashD.tupleN i4 (HashD.tupleN i5 (HashD.tupleN i6 (HashD.tupleN i7 (HashD.tupleN i8 (HashD.tupleN i9 (HashD.tupleN i10 (HashD.tupleN i11 (HashD.tupleN i12 (HashD.tupleN i13 (HashD.tupleN i14 (HashD.tupleN i15 (HashD.tupleN i16 (HashD.tupleN i17 (HashD.tupleN i18 (HashD.tupleN i19 (HashD.tuple1 i20))))))))))))))))))) :=
  congrArg (HashD.tupleN i1) (hash_tuple19_is_model ..)
theorem hash_tuple21_is_model {A1 A2 A3 A4 A5 A6 A7 A8 A9 A10 A11 A12 A13 A14 A15 A16 A17 A18 A19 A20 A21 : Type} (i1 : HashD A1) (i2 : HashD A2) (i3 : HashD A3) (i4 : HashD A4) (i5 : HashD A5) (i6 : HashD A6) (i7 : HashD A7) (i8 : HashD A8) (i9 : HashD A9) (i10 : HashD A10) (i11 : HashD A11) (i12 : HashD A12) (i13 : HashD A13) (i14 : HashD A14) (i15 : HashD A15) (i16 : HashD A16) (i17 : HashD A17) (i18 : HashD A18) (i19 : HashD A19) (i20 : HashD A20) (i21 : HashD A21) :
    hashTuple21 i1 i2 i3 i4 i5 i6 i7 i8 i9 i10 i11 i12 i13 i14 i15 i16 i17 i18 i19 i20 i21 = HashD.tupleN i1 (HashD.tupleN i2 (HashD.tupleN i3 (HashD.tupleN i4 (HashD.tupleN i5 (HashD.tupleN i6 (HashD.tupleN i7 (HashD.tupleN i8 (HashD.tupleN i9 (HashD.tupleN i10 (HashD.tupleN i11 (HashD.tupleN i12 (HashD.tupleN i13 (HashD.tupleN i14 (HashD.tupleN i15 (HashD.tupleN i16 (HashD.tupleN i17 (HashD.tupleN i18 (HashD.tupleN i19 (HashD.tupleN i20 (HashD.tuple1 i21)))))))))))))))))))) :=
  congrArg (HashD.tupleN i1) (hash_tuple20_is_model ..)

-- ord.Tuple2 .. ord.Tuple21 ------------------------------------------------------------
theorem ord_tuple2_is_model {A1 A2 : Type} (i1 : OrdD A1) (i2 : OrdD A2) :
    ordTuple2 i1 i2 = OrdD.tupleN i1 (OrdD.tuple1 i2) := rfl
theorem ord_tuple3_is_model {A1 A2 A3 : Type} (i1 : OrdD A1) (i2 : OrdD A2) (i3 : OrdD A3) :
    ordTuple3 i1 i2 i3 = OrdD.tupleN i1 (OrdD.tupleN i2 (OrdD.tuple1 i3)) :=
  congrArg (OrdD.tupleN i1) (ord_tuple2_is_model ..)
theorem ord_tuple4_is_model {A1 A2 A3 A4 : Type} (i1 : OrdD A1) (i2 : OrdD A2) (i3 : OrdD A3) (i4 : OrdD A4) :
    ordTuple4 i1 i2 i3 i4 = OrdD.tupleN i1 (OrdD.tupleN i2 (OrdD.tupleN i3 (OrdD.tuple1 i4))) :=
  congrArg (OrdD.tupleN i1) (ord_tuple3_is_model ..)
theorem ord_tuple5_is_model {A1 A2 A3 A4 A5 : Type} (i1 : OrdD A1) (i2 : OrdD A2) (i3 : OrdD A3) (i4 : OrdD A4) (i5 : OrdD A5) :
    ordTuple5 i1 i2 i3 i4 i5 = OrdD.tupleN i1 (OrdD.tupleN i2 (OrdD.tupleN i3 (OrdD.tupleN i4 (OrdD.tuple1 i5)))) :=
  congrArg (OrdD.tupleN i1) (ord_tuple4_is_model ..)
theorem ord_tuple6_is_model {A1 A2 A3 A4 A5 A6 : Type} (i1 : OrdD A1) (i2 : OrdD A2) (i3 : OrdD A3) (i4 : OrdD A4) (i5 : OrdD A5) (i6 : OrdD A6) :
    ordTuple6 i1 i2 i3 i4 i5 i6 = OrdD.tupleN i1 (OrdD.tupleN i2 (OrdD.tupleN i3 (OrdD.tupleN i4 (OrdD.tupleN i5 (OrdD.tuple1 i6))))) :=
  congrArg (OrdD.tupleN i1) (ord_tuple5_is_model ..)
theorem ord_tuple7_is_model {A1 A2 A3 A4 A5 A6 A7 : Type} (i1 : OrdD A1) (i2 : OrdD A2) (i3 : OrdD A3) (i4 : OrdD A4) (i5 : OrdD A5) (i6 : OrdD A6) (i7 : OrdD A7) :
    ordTuple7 i1 i2 i3 i4 i5 i6 i7 = OrdD.tupleN i1 (OrdD.tupleN i2 (OrdD.tupleN i3 (OrdD.tupleN i4 (OrdD.tupleN i5 (OrdD.tupleN i6 (OrdD.tuple1 i7)))))) :=
  congrArg (OrdD.tupleN i1) (ord_tuple6_is_model ..)
theorem ord_tuple8_is_model {A1 A2 A3 A4 A5 A6 A7 A8 : Type} (i1 : OrdD A1) (i2 : OrdD A2) (i3 : OrdD A3) (i4 : OrdD A4) (i5 : OrdD A5) (i6 : OrdD A6) (i7 : OrdD A7) (i8 : OrdD A8) :
    ordTuple8 i1 i2 i3 i4 i5 i6 i7 i8 = OrdD.tupleN i1 (OrdD.tupleN i2 (OrdD.tupleN i3 (OrdD.tupleN i4 (OrdD.tupleN i5 (OrdD.tupleN i6 (OrdD.tupleN i7 (OrdD.tuple1 i8))))))) :=
  congrArg (OrdD.tupleN i1) (ord_tuple7_is_model ..)
theorem ord_tuple9_is_model {A1 A2 A3 A4 A5 A6 A7 A8 A9 : Type} (i1 : OrdD A1) (i2 : OrdD A2) (i3 : OrdD A3) (i4 : OrdD A4) (i5 : OrdD A5) (i6 : OrdD A6) (i7 : OrdD A7) (i8 : OrdD A8) (i9 : OrdD A9) :
    ordTuple9 i1 i2 i3 i4 i5 i6 i7 i8 i9 = OrdD.tupleN i1 (OrdD.tupleN i2 (OrdD.tupleN i3 (OrdD.tupleN i4 (OrdD.tupleN i5 (OrdD.tupleN i6 (OrdD.tupleN i7 (OrdD.tupleN i8 (OrdD.tuple1 i9)))))))) :=
  congrArg (OrdD.tupleN i1) (ord_tuple8_is_model ..)
theorem ord_tuple10_is_model {A1 A2 A3 A4 A5 A6 A7 A8 A9 A10 : Type} (i1 : OrdD A1) (i2 : OrdD A2) (i3 : OrdD A3) (i4 : OrdD A4) (i5 : OrdD A5) (i6 : OrdD A6) (i7 : OrdD A7) (i8 : OrdD A8) (i9 : OrdD A9) (i10 : OrdD A10) :
    ordTuple10 i1 i2 i3 i4 i5 i6 i7 i8 i9 i10 = OrdD.tupleN i1 (OrdD.tupleN i2 (OrdD.tupleN i3 (OrdD.tupleN i4 (OrdD.tupleN i5 (OrdD.tupleN i6 (OrdD.tupleN i7 (OrdD.tupleN i8 (OrdD.tupleN i9 (OrdD.tuple1 i10))))))))) :=
  congrArg (OrdD.tupleN i1) (ord_tuple9_is_model ..)
theorem ord_tuple11_is_model {A1 A2 A3 A4 A5 A6 A7 A8 A9 A10 A11 : Type} (i1 : OrdD A1) (i2 : OrdD A2) (i3 : OrdD A3) (i4 : OrdD A4) (i5 : OrdD A5) (i6 : OrdD A6) (i7 : OrdD A7) (i8 : OrdD A8) (i9 : OrdD A9) (i10 : OrdD A10) (i11 : OrdD A11) :
    ordTuple11 i1 i2 i3 i4 i5 i6 i7 i8 i9 i10 i11 = OrdD.tupleN i1 (OrdD.tupleN i2 (OrdD.tupleN i3 (OrdD.tupleN i4 (OrdD.tupleN i5 (OrdD.tupleN i6 (OrdD.tupleN i7 (OrdD.tupleN i8 (OrdD.tupleN i9 (OrdD.tupleN i10 (OrdD.tuple1 i11)))))))))) :=
  congrArg (OrdD.tupleN i1) (ord_tuple10_is_model ..)
theorem ord_tuple12_is_model {A1 A2 A3 A4 A5 A6 A7 A8 A9 A10 A11 A12 : Type} (i1 : OrdD A1) (i2 : OrdD A2) (i3 : OrdD A3) (i4 : OrdD A4) (i5 : OrdD A5) (i6 : OrdD A6) (i7 : OrdD A7) (i8 : OrdD A8) (i9 : OrdD A9) (i10 : OrdD A10) (i11 : OrdD A11) (i12 : OrdD A12) :
    ordTuple12 i1 i2 i3 i4 i5 i6 i7 i8 i9 i10 i11 i12 = OrdD.tupleN i1 (OrdD.tupleN i2 (OrdD.tupleN i3 (OrdD.tupleN i4 (OrdD.tupleN i5 (OrdD.tupleN i6 (OrdD.tupleN i7 (OrdD.tupleN i8 (OrdD.tupleN i9 (OrdD.tupleN i10 (OrdD.tupleN i11 (OrdD.tuple1 i12))))))))))) :=
  congrArg (OrdD.tupleN i1) (ord_tuple11_is_model ..)
theorem ord_tuple13_is_model {A1 A2 A3 A4 A5 A6 A7 A8 A9 A10 A11 A12 A13 : Type} (i1 : OrdD A1) (i2 : OrdD A2) (i3 : OrdD A3) (i4 : OrdD A4) (i5 : OrdD A5) (i6 : OrdD A6) (i7 : OrdD A7) (i8 : OrdD A8) (i9 : OrdD A9) (i10 : OrdD A10) (i11 : OrdD A11) (i12 : OrdD A12) (i13 : OrdD A13) :
    ordTuple13 i1 i2 i3 i4 i5 i6 i7 i8 i9 i10 i11 i12 i13 = OrdD.tupleN i1 (OrdD.tupleN i2 (OrdD.tupleN i3 (OrdD.tupleN i4 (OrdD.tupleN i5 (OrdD.tupleN i6 (OrdD.tupleN i7 (OrdD.tupleN i8 (OrdD.tupleN i9 (OrdD.tupleN i10 (OrdD.tupleN i11 (OrdD.tupleN i12 (OrdD.tuple1 i13)))))))))))) :=
  congrArg (OrdD.tupleN i1) (ord_tuple12_is_model ..)
theorem ord_tuple14_is_model {A1 A2 A3 A4 A5 A6 A7 A8 A9 A10 A11 A12 A13 A14 : Type} (i1 : OrdD A1) (i2 : OrdD A2) (i3 : OrdD A3) (i4 : OrdD A4) (i5 : OrdD A5) (i6 : OrdD A6) (i7 : OrdD A7) (i8 : OrdD A8) (i9 : OrdD A9) (i10 : OrdD A10) (i11 : OrdD A11) (i12 : OrdD A12) (i13 : OrdD A13) (i14 : OrdD A14) :
    ordTuple14 i1 i2 i3 i4 i5 i6 i7 i8 i9 i10 i11 i12 i13 i14 = OrdD.tupleN i1 (OrdD.tupleN i2 (OrdD.tupleN i3 (OrdD.tupleN i4 (OrdD.tupleN i5 (OrdD.tupleN i6 (OrdD.tupleN i7 (OrdD.tupleN i8 (OrdD.tupleN i9 (OrdD.tupleN i10 (OrdD.tupleN i11 (OrdD.tupleN i12 (OrdD.tupleN i13 (OrdD.tuple1 i14))))))))))))) :=
  congrArg (OrdD.tupleN i1) (ord_tuple13_is_model ..)
theorem ord_tuple15_is_model {A1 A2 A3 A4 A5 A6 A7 A8 A9 A10 A11 A12 A13 A14 A15 : Type} (i1 : OrdD A1) (i2 : OrdD A2) (i3 : OrdD A3) (i4 : OrdD A4) (i5 : OrdD A5) (i6 : OrdD A6) (i7 : OrdD A7) (i8 : OrdD A8) (i9 : OrdD A9) (i10 : OrdD A10) (i11 : OrdD A11) (i12 : OrdD A12) (i13 : OrdD A13) (i14 : OrdD A14) (i15 : OrdD A15) :
    ordTuple15 i1 i2 i3 i4 i5 i6 i7 i8 i9 i10 i11 i12 i13 i14 i15 = OrdD.tupleN i1 (OrdD.tupleN i2 (OrdD.tupleN i3 (OrdD.tupleN i4 (OrdD.tupleN i5 (OrdD.tupleN i6 (OrdD.tupleN i7 (OrdD.tupleN i8 (OrdD.tupleN i9 (OrdD.tupleN i10 (OrdD.tupleN i11 (OrdD.tupleN i12 (OrdD.tupleN i13 (OrdD.tupleN i14 (OrdD.tuple1 i15)))))))))))))) :=
  congrArg (OrdD.tupleN i1) (ord_tuple14_is_model ..)
theorem ord_tuple16_is_model {A1 A2 A3 A4 A5 A6 A7 A8 A9 A10 A11 A12 A13 A14 A15 A16 : Type} (i1 : OrdD A1) (i2 : OrdD A2) (i3 : OrdD A3) (i4 : OrdD A4) (i5 : OrdD A5) (i6 : OrdD A6) (i7 : OrdD A7) (i8 : OrdD A8) (i9 : OrdD A9) (i10 : OrdD A10) (i11 : OrdD A11) (i12 : OrdD A12) (i13 : OrdD A13) (i14 : OrdD A14) (i15 : OrdD A15) (i16 : OrdD A16) :
    ordTuple16 i1 i2 i3 i4 i5 i6 i7 i8 i9 i10 i11 i12 i13 i14 i15 i16 = OrdD.tupleN i1 (OrdD.tupleN i2 (OrdD.tupleN i3 (OrdD.tupleN i4 (OrdD.tupleN i5 (OrdD.tupleN i6 (OrdD.tupleN i7 (OrdD.tupleN i8 (OrdD.tupleN i9 (OrdD.tupleN i10 (OrdD.tupleN i11 (OrdD.tupleN i12 (OrdD.tupleN i13 (OrdD.tupleN i14 (OrdD.tupleN i15 (OrdD.tuple1 i16))))))))))))))) :=
  congrArg (OrdD.tupleN i1) (ord_tuple15_is_model ..)
theorem ord_tuple17_is_model {A1 A2 A3 A4 A5 A6 A7 A8 A9 A10 A11 A12 A13 A14 A15 A16 A17 : Type} (i1 : OrdD A1) (i2 : OrdD A2) (i3 : OrdD A3) (i4 : OrdD A4) (i5 : OrdD A5) (i6 : OrdD A6) (i7 : OrdD A7) (i8 : OrdD A8) (i9 : OrdD A9) (i10 : OrdD A10) (i11 : OrdD A11) (i12 : OrdD A12) (i13 : OrdD A13) (i14 : OrdD A14) (i15 : OrdD A15) (i16 : OrdD A16) (i17 : OrdD A17) :
    ordTuple17 i1 i2 i3 i4 i5 i6 i7 i8 i9 i10 i11 i12 i13 i14 i15 i16 i17 = OrdD.tupleN i1 (OrdD.tupleN i2 (OrdD.tupleN i3 (OrdD.tupleN i4 (OrdD.tupleN i5 (OrdD.tupleN i6 (OrdD.tupleN i7 (OrdD.tupleN i8 (OrdD.tupleN i9 (OrdD.tupleN i10 (OrdD.tupleN i11 (OrdD.tupleN i12 (OrdD.tupleN i13 (OrdD.tupleN i14 (OrdD.tupleN i15 (OrdD.tupleN i16 (OrdD.tuple1 i17)))))))))))))))) :=
  congrArg (OrdD.tupleN i1) (ord_tuple16_is_model ..)
theorem ord_tuple18_is_model {A1 A2 A3 A4 A5 A6 A7 A8 A9 A10 A11 A12 A13 A14 A15 A16 A17 A18 : Type} (i1 : OrdD A1) (i2 : OrdD A2) (i3 : OrdD A3) (i4 : OrdD A4) (i5 : OrdD A5) (i6 : OrdD A6) (i7 : OrdD A7) (i8 : OrdD A8) (i9 : OrdD A9) (i10 : OrdD A10) (i11 : OrdD A11) (i12 : OrdD A12) (i13 : OrdD A13) (i14 : OrdD A14) (i15 : OrdD A15) (i16 : OrdD A16) (i17 : OrdD A17) (i18 : OrdD A18) :
    ordTuple18 i1 i2 i3 i4 i5 i6 i7 i8 i9 i10 i11 i12 i13 i14 i15 i16 i17 i18 = OrdD.tupleN i1 (OrdD.tupleN i2 (OrdD.tupleN i3 (OrdD.tupleN i4 (OrdD.tupleN i5 (OrdD.tupleN i6 (OrdD.tupleN i7 (OrdD.tupleN i8 (OrdD.tupleN i9 (OrdD.tupleN i10 (OrdD.tupleN i11 (OrdD.tupleN i12 (OrdD.tupleN i13 (OrdD.tupleN i14 (OrdD.tupleN i15 (OrdD.tupleN i16 (OrdD.tupleN i17 (OrdD.tuple1 i18))))))))))))))))) :=
  congrArg (OrdD.tupleN i1) (ord_tuple17_is_model ..)
theorem ord_tuple19_is_model {A1 A2 A3 A4 A5 A6 A7 A8 A9 A10 A11 A12 A13 A14 A15 A16 A17 A18 A19 : Type} (i1 : OrdD A1) (i2 : OrdD A2) (i3 : OrdD A3) (i4 : OrdD A4) (i5 : OrdD A5) (i6 : OrdD A6) (i7 : OrdD A7) (i8 : OrdD A8) (i9 : OrdD A9) (i10 : OrdD A10) (i11 : OrdD A11) (i12 : OrdD A12) (i13 : OrdD A13) (i14 : OrdD A14) (i15 : OrdD A15) (i16 : OrdD A16) (i17 : OrdD A17) (i18 : OrdD A18) (i19 : OrdD A19) :
    ordTuple19 i1 i2 i3 i4 i5 i6 i7 i8 i9 i10 i11 i12 i13 i14 i15 i16 i17 i18 i19 = OrdD.tupleN i1 (OrdD.tupleN i2 (OrdD.tupleN i3 (OrdD.tupleN i4 (OrdD.tupleN i5 (OrdD.tupleN i6 (OrdD.tupleN i7 (OrdD.tupleN i8 (OrdD.tupleN i9 (OrdD.tupleN i10 (OrdD.tupleN i11 (OrdD.tupleN i12 (OrdD.tupleN i13 (OrdD.tupleN i14 (OrdD.tupleN i15 (OrdD.tupleN i16 (OrdD.tupleN i17 (OrdD.tupleN i18 (OrdD.tuple1 i19)))))))))))))))))) :=
  congrArg (OrdD.tupleN i1) (ord_tuple18_is_model ..)
theorem ord_tuple20_is_model {A1 A2 A3 A4 A5 A6 A7 A8 A9 A10 A11 A12 A13 A14 A15 A16 A17 A18 A19 A20 : Type} (i1 : OrdD A1) (i2 : OrdD A2) (i3 : OrdD A3) (i4 : OrdD A4) (i5 : OrdD A5) (i6 : OrdD A6) (i7 : OrdD A7) (i8 : OrdD A8) (i9 : OrdD A9) (i10 : OrdD A10) (i11 : OrdD A11) (i12 : OrdD A12) (i13 : OrdD A13) (i14 : OrdD A14) (i15 : OrdD A15) (i16 : OrdD A16) (i17 : OrdD A17) (i18 : OrdD A18) (i19 : OrdD A19) (i20 : OrdD A20) :
    ordTuple20 i1 i2 i3 i4 i5 i6 i7 i8 i9 i10 i11 i12 i13 i14 i15 i16 i17 i18 i19 i20 = OrdD.tupleN i1 (OrdD.tupleN i2 (OrdD.tupleN i3 (OrdD.tupleN i4 (OrdD.tupleN i5 (OrdD.tupleN i6 (OrdD.tupleN i7 (OrdD.tupleN i8 (OrdD.tupleN i9 (OrdD.tupleN i10 (OrdD.tupleN i11 (OrdD.tupleN i12 (OrdD.tupleN i13 (OrdD.tupleN i14 (OrdD.tupleN i15 (OrdD.tupleN i16 (OrdD.tupleN i17 (OrdD.tupleN i18 (OrdD.tupleN i19 (OrdD.tuple1 i20))))))))))))))))))) :=
  congrArg (OrdD.tupleN i1) (ord_tuple19_is_model ..)
theorem ord_tuple21_is_model {A1 A2 A3 A4 A5 A6 A7 A8 A9 A10 A11 A12 A13 A14 A15 A16 A17 A18 A19 A20 A21 : Type} (i1 : OrdD A1) (i2 : OrdD A2) (i3 : OrdD A3) (i4 : OrdD A4) (i5 : OrdD A5) (i6 : OrdD A6) (i7 : OrdD A7) (i8 : OrdD A8) (i9 : OrdD A9) (i10 : OrdD A10) (i11 : OrdD A11) (i12 : OrdD A12) (i13 : OrdD A13) (i14 : OrdD A14) (i15 : OrdD A15) (i16 : OrdD A16) (i17 : OrdD A17) (i18 : OrdD A18) (i19 : OrdD A19) (i20 : OrdD A20) (i21 : OrdD A21) :
    ordTuple21 i1 i2 i3 i4 i5 i6 i7 i8 i9 i10 i11 i12 i13 i14 i15 i16 i17 i18 i19 i20 i21 = OrdD.tupleN i1 (OrdD.tupleN i2 (OrdD.tupleN i3 (OrdD.tupleN i4 (OrdD.tupleN i5 (OrdD.tupleN i6 (OrdD.tupleN i7 (OrdD.tupleN i8 (OrdD.tupleN i9 (OrdD.tupleN i10 (OrdD.tupleN i11 (OrdD.tupleN i12 (OrdD.tupleN i13 (OrdD.tupleN i14 (OrdD.tupleN i15 (OrdD.tupleN i16 (OrdD.tupleN i17 (OrdD.tupleN i18 (OrdD.tupleN i19 (OrdD.tupleN i20 (OrdD.tuple1 i21)))))))))))))))))))) :=
  congrArg (OrdD.tupleN i1) (ord_tuple20_is_model ..)

-- monoid.Tuple2 .. monoid.Tuple21 ------------------------------------------------------------
theorem monoid_tuple2_is_model {A1 A2 : Type} (i1 : MonoidD A1) (i2 : MonoidD A2) :
    monoidTuple2 i1 i2 = MonoidD.tupleN i1 (MonoidD.tuple1 i2) := by rfl
theorem monoid_tuple3_is_model {A1 A2 A3 : Type} (i1 : MonoidD A1) (i2 : MonoidD A2) (i3 : MonoidD A3) :
    monoidTuple3 i1 i2 i3 = MonoidD.tupleN i1 (MonoidD.tupleN i2 (MonoidD.tuple1 i3)) := by rfl
theorem monoid_tuple4_is_model {A1 A2 A3 A4 : Type} (i1 : MonoidD A1) (i2 : MonoidD A2) (i3 : MonoidD A3) (i4 : MonoidD A4) :
    monoidTuple4 i1 i2 i3 i4 = MonoidD.tupleN i1 (MonoidD.tupleN i2 (MonoidD.tupleN i3 (MonoidD.tuple1 i4))) := by rfl
theorem monoid_tuple5_is_model {A1 A2 A3 A4 A5 : Type} (i1 : MonoidD A1) (i2 : MonoidD A2) (i3 : MonoidD A3) (i4 : MonoidD A4) (i5 : MonoidD A5) :
    monoidTuple5 i1 i2 i3 i4 i5 = MonoidD.tupleN i1 (MonoidD.tupleN i2 (MonoidD.tupleN i3 (MonoidD.tupleN i4 (MonoidD.tuple1 i5)))) := by rfl
theorem monoid_tuple6_is_model {A1 A2 A3 A4 A5 A6 : Type} (i1 : MonoidD A1) (i2 : MonoidD A2) (i3 : MonoidD A3) (i4 : MonoidD A4) (i5 : MonoidD A5) (i6 : MonoidD A6) :
    monoidTuple6 i1 i2 i3 i4 i5 i6 = MonoidD.tupleN i1 (MonoidD.tupleN i2 (MonoidD.tupleN i3 (MonoidD.tupleN i4 (MonoidD.tupleN i5 (MonoidD.tuple1 i6))))) := by rfl
theorem monoid_tuple7_is_model {A1 A2 A3 A4 A5 A6 A7 : Type} (i1 : MonoidD A1) (i2 : MonoidD A2) (i3 : MonoidD A3) (i4 : MonoidD A4) (i5 : MonoidD A5) (i6 : MonoidD A6) (i7 : MonoidD A7) :
    monoidTuple7 i1 i2 i3 i4 i5 i6 i7 = MonoidD.tupleN i1 (MonoidD.tupleN i2 (MonoidD.tupleN i3 (MonoidD.tupleN i4 (MonoidD.tupleN i5 (MonoidD.tupleN i6 (MonoidD.tuple1 i7)))))) := by rfl
theorem monoid_tuple8_is_model {A1 A2 A3 A4 A5 A6 A7 A8 : Type} (i1 : MonoidD A1) (i2 : MonoidD A2) (i3 : MonoidD A3) (i4 : MonoidD A4) (i5 : MonoidD A5) (i6 : MonoidD A6) (i7 : MonoidD A7) (i8 : MonoidD A8) :
    monoidTuple8 i1 i2 i3 i4 i5 i6 i7 i8 = MonoidD.tupleN i1 (MonoidD.tupleN i2 (MonoidD.tupleN i3 (MonoidD.tupleN i4 (MonoidD.tupleN i5 (MonoidD.tupleN i6 (MonoidD.tupleN i7 (MonoidD.tuple1 i8))))))) := by rfl
theorem monoid_tuple9_is_model {A1 A2 A3 A4 A5 A6 A7 A8 A9 : Type} (i1 : MonoidD A1) (i2 : MonoidD A2) (i3 : MonoidD A3) (i4 : MonoidD A4) (i5 : MonoidD A5) (i6 : MonoidD A6) (i7 : MonoidD A7) (i8 : MonoidD A8) (i9 : MonoidD A9) :
    monoidTuple9 i1 i2 i3 i4 i5 i6 i7 i8 i9 = MonoidD.tupleN i1 (MonoidD.tupleN i2 (MonoidD.tupleN i3 (MonoidD.tupleN i4 (MonoidD.tupleN i5 (MonoidD.tupleN i6 (MonoidD.tupleN i7 (MonoidD.tupleN i8 (MonoidD.tuple1 i9)))))))) := by rfl
theorem monoid_tuple10_is_model {A1 A2 A3 A4 A5 A6 A7 A8 A9 A10 : Type} (i1 : MonoidD A1) (i2 : MonoidD A2) (i3 : MonoidD A3) (i4 : MonoidD A4) (i5 : MonoidD A5) (i6 : MonoidD A6) (i7 : MonoidD A7) (i8 : MonoidD A8) (i9 : MonoidD A9) (i10 : MonoidD A10) :
    monoidTuple10 i1 i2 i3 i4 i5 i6 i7 i8 i9 i10 = MonoidD.tupleN i1 (MonoidD.tupleN i2 (MonoidD.tupleN i3 (MonoidD.tupleN i4 (MonoidD.tupleN i5 (MonoidD.tupleN i6 (MonoidD.tupleN i7 (MonoidD.tupleN i8 (MonoidD.tupleN i9 (MonoidD.tuple1 i10))))))))) := by rfl
theorem monoid_tuple11_is_model {A1 A2 A3 A4 A5 A6 A7 A8 A9 A10 A11 : Type} (i1 : MonoidD A1) (i2 : MonoidD A2) (i3 : MonoidD A3) (i4 : MonoidD A4) (i5 : MonoidD A5) (i6 : MonoidD A6) (i7 : MonoidD A7) (i8 : MonoidD A8) (i9 : MonoidD A9) (i10 : MonoidD A10) (i11 : MonoidD A11) :
    monoidTuple11 i1 i2 i3 i4 i5 i6 i7 i8 i9 i10 i11 = MonoidD.tupleN i1 (MonoidD.tupleN i2 (MonoidD.tupleN i3 (MonoidD.tupleN i4 (MonoidD.tupleN i5 (MonoidD.tupleN i6 (MonoidD.tupleN i7 (MonoidD.tupleN i8 (MonoidD.tupleN i9 (MonoidD.tupleN i10 (MonoidD.tuple1 i11)))))))))) := by rfl
theorem monoid_tuple12_is_model {A1 A2 A3 A4 A5 A6 A7 A8 A9 A10 A11 A12 : Type} (i1 : MonoidD A1) (i2 : MonoidD A2) (i3 : MonoidD A3) (i4 : MonoidD A4) (i5 : MonoidD A5) (i6 : MonoidD A6) (i7 : MonoidD A7) (i8 : MonoidD A8) (i9 : MonoidD A9) (i10 : MonoidD A10) (i11 : MonoidD A11) (i12 : MonoidD A12) :
    monoidTuple12 i1 i2 i3 i4 i5 i6 i7 i8 i9 i10 i11 i12 = MonoidD.tupleN i1 (MonoidD.tupleN i2 (MonoidD.tupleN i3 (MonoidD.tupleN i4 (MonoidD.tupleN i5 (MonoidD.tupleN i6 (MonoidD.tupleN i7 (MonoidD.tupleN i8 (MonoidD.tupleN i9 (MonoidD.tupleN i10 (MonoidD.tupleN i11 (MonoidD.tuple1 i12))))))))))) := by rfl
theorem monoid_tuple13_is_model {A1 A2 A3 A4 A5 A6 A7 A8 A9 A10 A11 A12 A13 : Type} (i1 : MonoidD A1) (i2 : MonoidD A2) (i3 : MonoidD A3) (i4 : MonoidD A4) (i5 : MonoidD A5) (i6 : MonoidD A6) (i7 : MonoidD A7) (i8 : MonoidD A8) (i9 : MonoidD A9) (i10 : MonoidD A10) (i11 : MonoidD A11) (i12 : MonoidD A12) (i13 : MonoidD A13) :
    monoidTuple13 i1 i2 i3 i4 i5 i6 i7 i8 i9 i10 i11 i12 i13 = MonoidD.tupleN i1 (MonoidD.tupleN i2 (MonoidD.tupleN i3 (MonoidD.tupleN i4 (MonoidD.tupleN i5 (MonoidD.tupleN i6 (MonoidD.tupleN i7 (MonoidD.tupleN i8 (MonoidD.tupleN i9 (MonoidD.tupleN i10 (MonoidD.tupleN i11 (MonoidD.tupleN i12 (MonoidD.tuple1 i13)))))))))))) := by rfl
theorem monoid_tuple14_is_model {A1 A2 A3 A4 A5 A6 A7 A8 A9 A10 A11 A12 A13 A14 : Type} (i1 : MonoidD A1) (i2 : MonoidD A2) (i3 : MonoidD A3) (i4 : MonoidD A4) (i5 : MonoidD A5) (i6 : MonoidD A6) (i7 : MonoidD A7) (i8 : MonoidD A8) (i9 : MonoidD A9) (i10 : MonoidD A10) (i11 : MonoidD A11) (i12 : MonoidD A12) (i13 : MonoidD A13) (i14 : MonoidD A14) :
    monoidTuple14 i1 i2 i3 i4 i5 i6 i7 i8 i9 i10 i11 i12 i13 i14 = MonoidD.tupleN i1 (MonoidD.tupleN i2 (MonoidD.tupleN i3 (MonoidD.tupleN i4 (MonoidD.tupleN i5 (MonoidD.tupleN i6 (MonoidD.tupleN i7 (MonoidD.tupleN i8 (MonoidD.tupleN i9 (MonoidD.tupleN i10 (MonoidD.tupleN i11 (MonoidD.tupleN i12 (MonoidD.tupleN i13 (MonoidD.tuple1 i14))))))))))))) := by rfl
theorem monoid_tuple15_is_model {A1 A2 A3 A4 A5 A6 A7 A8 A9 A10 A11 A12 A13 A14 A15 : Type} (i1 : MonoidD A1) (i2 : MonoidD A2) (i3 : MonoidD A3) (i4 : MonoidD A4) (i5 : MonoidD A5) (i6 : MonoidD A6) (i7 : MonoidD A7) (i8 : MonoidD A8) (i9 : MonoidD A9) (i10 : MonoidD A10) (i11 : MonoidD A11) (i12 : MonoidD A12) (i13 : MonoidD A13) (i14 : MonoidD A14) (i15 : MonoidD A15) :
    monoidTuple15 i1 i2 i3 i4 i5 i6 i7 i8 i9 i10 i11 i12 i13 i14 i15 = MonoidD.tupleN i1 (MonoidD.tupleN i2 (MonoidD.tupleN i3 (MonoidD.tupleN i4 (MonoidD.tupleN i5 (MonoidD.tupleN i6 (MonoidD.tupleN i7 (MonoidD.tupleN i8 (MonoidD.tupleN i9 (MonoidD.tupleN i10 (MonoidD.tupleN i11 (MonoidD.tupleN i12 (MonoidD.tupleN i13 (MonoidD.tupleN i14 (MonoidD.tuple1 i15)))))))))))))) := by rfl
theorem monoid_tuple16_is_model {A1 A2 A3 A4 A5 A6 A7 A8 A9 A10 A11 A12 A13 A14 A15 A16 : Type} (i1 : MonoidD A1) (i2 : MonoidD A2) (i3 : MonoidD A3) (i4 : MonoidD A4) (i5 : MonoidD A5) (i6 : MonoidD A6) (i7 : MonoidD A7) (i8 : MonoidD A8) (i9 : MonoidD A9) (i10 : MonoidD A10) (i11 : MonoidD A11) (i12 : MonoidD A12) (i13 : MonoidD A13) (i14 : MonoidD A14) (i15 : MonoidD A15) (i16 : MonoidD A16) :
    monoidTuple16 i1 i2 i3 i4 i5 i6 i7 i8 i9 i10 i11 i12 i13 i14 i15 i16 = MonoidD.tupleN i1 (MonoidD.tupleN i2 (MonoidD.tupleN i3 (MonoidD.tupleN i4 (MonoidD.tupleN i5 (MonoidD.tupleN i6 (MonoidD.tupleN i7 (MonoidD.tupleN i8 (MonoidD.tupleN i9 (MonoidD.tupleN i10 (MonoidD.tupleN i11 (MonoidD.tupleN i12 (MonoidD.tupleN i13 (MonoidD.tupleN i14 (MonoidD.tupleN i15 (MonoidD.tuple1 i16))))))))))))))) := by rfl
theorem monoid_tuple17_is_model {A1 A2 A3 A4 A5 A6 A7 A8 A9 A10 A11 A12 A13 A14 A15 A16 A17 : Type} (i1 : MonoidD A1) (i2 : MonoidD A2) (i3 : MonoidD A3) (i4 : MonoidD A4) (i5 : MonoidD A5) (i6 : MonoidD A6) (i7 : MonoidD A7) (i8 : MonoidD A8) (i9 : MonoidD A9) (i10 : MonoidD A10) (i11 : MonoidD A11) (i12 : MonoidD A12) (i13 : MonoidD A13) (i14 : MonoidD A14) (i15 : MonoidD A15) (i16 : MonoidD A16) (i17 : MonoidD A17) :
    monoidTuple17 i1 i2 i3 i4 i5 i6 i7 i8 i9 i10 i11 i12 i13 i14 i15 i16 i17 = MonoidD.tupleN i1 (MonoidD.tupleN i2 (MonoidD.tupleN i3 (MonoidD.tupleN i4 (MonoidD.tupleN i5 (MonoidD.tupleN i6 (MonoidD.tupleN i7 (MonoidD.tupleN i8 (MonoidD.tupleN i9 (MonoidD.tupleN i10 (MonoidD.tupleN i11 (MonoidD.tupleN i12 (MonoidD.tupleN i13 (MonoidD.tupleN i14 (MonoidD.tupleN i15 (MonoidD.tupleN i16 (MonoidD.tuple1 i17)))))))))))))))) := by rfl
theorem monoid_tuple18_is_model {A1 A2 A3 A4 A5 A6 A7 A8 A9 A10 A11 A12 A13 A14 A15 A16 A17 A18 : Type} (i1 : MonoidD A1) (i2 : MonoidD A2) (i3 : MonoidD A3) (i4 : MonoidD A4) (i5 : MonoidD A5) (i6 : MonoidD A6) (i7 : MonoidD A7) (i8 : MonoidD A8) (i9 : MonoidD A9) (i10 : MonoidD A10) (i11 : MonoidD A11) (i12 : MonoidD A12) (i13 : MonoidD A13) (i14 : MonoidD A14) (i15 : MonoidD A15) (i16 : MonoidD A16) (i17 : MonoidD A17) (i18 : MonoidD A18) :
    monoidTuple18 i1 i2 i3 i4 i5 i6 i7 i8 i9 i10 i11 i12 i13 i14 i15 i16 i17 i18 = MonoidD.tupleN i1 (MonoidD.tupleN i2 (MonoidD.tupleN i3 (MonoidD.tupleN i4 (MonoidD.tupleN i5 (MonoidD.tupleN i6 (MonoidD.tupleN i7 (MonoidD.tupleN i8 (MonoidD.tupleN i9 (MonoidD.tupleN i10 (MonoidD.tupleN i11 (MonoidD.tupleN i12 (MonoidD.tupleN i13 (MonoidD.tupleN i14 (MonoidD.tupleN i15 (MonoidD.tupleN i16 (MonoidD.tupleN i17 (MonoidD.tuple1 i18))))))))))))))))) := by rfl
theorem monoid_tuple19_is_model {A1 A2 A3 A4 A5 A6 A7 A8 A9 A10 A11 A12 A13 A14 A15 A16 A17 A18 A19 : Type} (i1 : MonoidD A1) (i2 : MonoidD A2) (i3 : MonoidD A3) (i4 : MonoidD A4) (i5 : MonoidD A5) (i6 : MonoidD A6) (i7 : MonoidD A7) (i8 : MonoidD A8) (i9 : MonoidD A9) (i10 : MonoidD A10) (i11 : MonoidD A11) (i12 : MonoidD A12) (i13 : MonoidD A13) (i14 : MonoidD A14) (i15 : MonoidD A15) (i16 : MonoidD A16) (i17 : MonoidD A17) (i18 : MonoidD A18) (i19 : MonoidD A19) :
    monoidTuple19 i1 i2 i3 i4 i5 i6 i7 i8 i9 i10 i11 i12 i13 i14 i15 i16 i17 i18 i19 = MonoidD.tupleN i1 (MonoidD.tupleN i2 (MonoidD.tupleN i3 (MonoidD.tupleN i4 (MonoidD.tupleN i5 (MonoidD.tupleN i6 (MonoidD.tupleN i7 (MonoidD.tupleN i8 (MonoidD.tupleN i9 (MonoidD.tupleN i10 (MonoidD.tupleN i11 (MonoidD.tupleN i12 (MonoidD.tupleN i13 (MonoidD.tupleN i14 (MonoidD.tupleN i15 (MonoidD.tupleN i16 (MonoidD.tupleN i17 (MonoidD.tupleN i18 (MonoidD.tuple1 i19)))))))))))))))))) := by rfl
theorem monoid_tuple20_is_model {A1 A2 A3 A4 A5 A6 A7 A8 A9 A10 A11 A12 A13 A14 A15 A16 A17 A18 A19 A20 : Type} (i1 : MonoidD A1) (i2 : MonoidD A2) (i3 : MonoidD A3) (i4 : MonoidD A4) (i5 : MonoidD A5) (i6 : MonoidD A6) (i7 : MonoidD A7) (i8 : MonoidD A8) (i9 : MonoidD A9) (i10 : MonoidD A10) (i11 : MonoidD A11) (i12 : MonoidD A12) (i13 : MonoidD A13) (i14 : MonoidD A14) (i15 : MonoidD A15) (i16 : MonoidD A16) (i17 : MonoidD A17) (i18 : MonoidD A18) (i19 : MonoidD A19) (i20 : MonoidD A20) :
    monoidTuple20 i1 i2 i3 i4 i5 i6 i7 i8 i9 i10 i11 i12 i13 i14 i15 i16 i17 i18 i19 i20 = MonoidD.tupleN i1 (MonoidD.tupleN i2 (MonoidD.tupleN i3 (MonoidD.tupleN i4 (MonoidD.tupleN i5 (MonoidD.tupleN i6 (MonoidD.tupleN i7 (MonoidD.tupleN i8 (MonoidD.tupleN i9 (MonoidD.tupleN i10 (MonoidD.tupleN i11 (MonoidD.tupleN i12 (MonoidD.tupleN i13 (MonoidD.tupleN i14 (MonoidD.tupleN i15 (MonoidD.tupleN i16 (MonoidD.tupleN i17 (MonoidD.tupleN i18 (MonoidD.tupleN i19 (MonoidD.tuple1 i20))))))))))))))))))) := by rfl
theorem monoid_tuple21_is_model {A1 A2 A3 A4 A5 A6 A7 A8 A9 A10 A11 A12 A13 A14 A15 A16 A17 A18 A19 A20 A21 : Type} (i1 : MonoidD A1) (i2 : MonoidD A2) (i3 : MonoidD A3) (i4 : MonoidD A4) (i5 : MonoidD A5) (i6 : MonoidD A6) (i7 : MonoidD A7) (i8 : MonoidD A8) (i9 : MonoidD A9) (i10 : MonoidD A10) (i11 : MonoidD A11) (i12 : MonoidD A12) (i13 : MonoidD A13) (i14 : MonoidD A14) (i15 : MonoidD A15) (i16 : MonoidD A16) (i17 : MonoidD A17) (i18 : MonoidD A18) (i19 : MonoidD A19) (i20 : MonoidD A20) (i21 : MonoidD A21) :
    monoidTuple21 i1 i2 i3 i4 i5 i6 i7 i8 i9 i10 i11 i12 i13 i14 i15 i16 i17 i18 i19 i20 i21 = MonoidD.tupleN i1 (MonoidD.tupleN i2 (MonoidD.tupleN i3 (MonoidD.tupleN i4 (MonoidD.tupleN i5 (MonoidD.tupleN i6 (MonoidD.tupleN i7 (MonoidD.tupleN i8 (MonoidD.tupleN i9 (MonoidD.tupleN i10 (MonoidD.tupleN i11 (MonoidD.tupleN i12 (MonoidD.tupleN i13 (MonoidD.tupleN i14 (MonoidD.tupleN i15 (MonoidD.tupleN i16 (MonoidD.tupleN i17 (MonoidD.tupleN i18 (MonoidD.tupleN i19 (MonoidD.tupleN i20 (MonoidD.tuple1 i21)))))))))))))))))))) := by rfl

-- clone.Tuple3 .. clone.Tuple21 (clone.Tuple2 is hand-written: Spec/C18Gen) ----------------------
theorem clone_tuple3_def {A1 A2 A3 : Type} (i1 : CloneD A1) (i2 : CloneD A2) (i3 : CloneD A3) (t : A1 × A2 × T1 A3) :
    cloneTuple3 i1 i2 i3 t = (i1 t.1, i2 t.2.1, (⟨i3 t.2.2.i1⟩ : T1 A3)) := rfl
theorem clone_tuple4_def {A1 A2 A3 A4 : Type} (i1 : CloneD A1) (i2 : CloneD A2) (i3 : CloneD A3) (i4 : CloneD A4) (t : A1 × A2 × A3 × T1 A4) :
    cloneTuple4 i1 i2 i3 i4 t = (i1 t.1, i2 t.2.1, i3 t.2.2.1, (⟨i4 t.2.2.2.i1⟩ : T1 A4)) := rfl
theorem clone_tuple5_def {A1 A2 A3 A4 A5 : Type} (i1 : CloneD A1) (i2 : CloneD A2) (i3 : CloneD A3) (i4 : CloneD A4) (i5 : CloneD A5) (t : A1 × A2 × A3 × A4 × T1 A5) :
    cloneTuple5 i1 i2 i3 i4 i5 t = (i1 t.1, i2 t.2.1, i3 t.2.2.1, i4 t.2.2.2.1, (⟨i5 t.2.2.2.2.i1⟩ : T1 A5)) := rfl
theorem clone_tuple6_def {A1 A2 A3 A4 A5 A6 : Type} (i1 : CloneD A1) (i2 : CloneD A2) (i3 : CloneD A3) (i4 : CloneD A4) (i5 : CloneD A5) (i6 : CloneD A6) (t : A1 × A2 × A3 × A4 × A5 × T1 A6) :
    cloneTuple6 i1 i2 i3 i4 i5 i6 t = (i1 t.1, i2 t.2.1, i3 t.2.2.1, i4 t.2.2.2.1, i5 t.2.2.2.2.1, (⟨i6 t.2.2.2.2.2.i1⟩ : T1 A6)) := rfl
theorem clone_tuple7_def {A1 A2 A3 A4 A5 A6 A7 : Type} (i1 : CloneD A1) (i2 : CloneD A2) (i3 : CloneD A3) (i4 : CloneD A4) (i5 : CloneD A5) (i6 : CloneD A6) (i7 : CloneD A7) (t : A1 × A2 × A3 × A4 × A5 × A6 × T1 A7) :
    cloneTuple7 i1 i2 i3 i4 i5 i6 i7 t = (i1 t.1, i2 t.2.1, i3 t.2.2.1, i4 t.2.2.2.1, i5 t.2.2.2.2.1, i6 t.2.2.2.2.2.1, (⟨i7 t.2.2.2.2.2.2.i1⟩ : T1 A7)) := rfl
theorem clone_tuple8_def {A1 A2 A3 A4 A5 A6 A7 A8 : Type} (i1 : CloneD A1) (i2 : CloneD A2) (i3 : CloneD A3) (i4 : CloneD A4) (i5 : CloneD A5) (i6 : CloneD A6) (i7 : CloneD A7) (i8 : CloneD A8) (t : A1 × A2 × A3 × A4 × A5 × A6 × A7 × T1 A8) :
    cloneTuple8 i1 i2 i3 i4 i5 i6 i7 i8 t = (i1 t.1, i2 t.2.1, i3 t.2.2.1, i4 t.2.2.2.1, i5 t.2.2.2.2.1, i6 t.2.2.2.2.2.1, i7 t.2.2.2.2.2.2.1, (⟨i8 t.2.2.2.2.2.2.2.i1⟩ : T1 A8)) := rfl
theorem clone_tuple9_def {A1 A2 A3 A4 A5 A6 A7 A8 A9 : Type} (i1 : CloneD A1) (i2 : CloneD A2) (i3 : CloneD A3) (i4 : CloneD A4) (i5 : CloneD A5) (i6 : CloneD A6) (i7 : CloneD A7) (i8 : CloneD A8) (i9 : CloneD A9) (t : A1 × A2 × A3 × A4 × A5 × A6 × A7 × A8 × T1 A9) :
    cloneTuple9 i1 i2 i3 i4 i5 i6 i7 i8 i9 t = (i1 t.1, i2 t.2.1, i3 t.2.2.1, i4 t.2.2.2.1, i5 t.2.2.2.2.1, i6 t.2.2.2.2.2.1, i7 t.2.2.2.2.2.2.1, i8 t.2.2.2.2.2.2.2.1, (⟨i9 t.2.2.2.2.2.2.2.2.i1⟩ : T1 A9)) := rfl
theorem clone_tuple10_def {A1 A2 A3 A4 A5 A6 A7 A8 A9 A10 : Type} (i1 : CloneD A1) (i2 : CloneD A2) (i3 : CloneD A3) (i4 : CloneD A4) (i5 : CloneD A5) (i6 : CloneD A6) (i7 : CloneD A7) (i8 : CloneD A8) (i9 : CloneD A9) (i10 : CloneD A10) (t : A1 × A2 × A3 × A4 × A5 × A6 × A7 × A8 × A9 × T1 A10) :
    cloneTuple10 i1 i2 i3 i4 i5 i6 i7 i8 i9 i10 t = (i1 t.1, i2 t.2.1, i3 t.2.2.1, i4 t.2.2.2.1, i5 t.2.2.2.2.1, i6 t.2.2.2.2.2.1, i7 t.2.2.2.2.2.2.1, i8 t.2.2.2.2.2.2.2.1, i9 t.2.2.2.2.2.2.2.2.1, (⟨i10 t.2.2.2.2.2.2.2.2.2.i1⟩ : T1 A10)) := rfl
theorem clone_tuple11_def {A1 A2 A3 A4 A5 A6 A7 A8 A9 A10 A11 : Type} (i1 : CloneD A1) (i2 : CloneD A2) (i3 : CloneD A3) (i4 : CloneD A4) (i5 : CloneD A5) (i6 : CloneD A6) (i7 : CloneD A7) (i8 : CloneD A8) (i9 : CloneD A9) (i10 : CloneD A10) (i11 : CloneD A11) (t : A1 × A2 × A3 × A4 × A5 × A6 × A7 × A8 × A9 × A10 × T1 A11) :
    cloneTuple11 i1 i2 i3 i4 i5 i6 i7 i8 i9 i10 i11 t = (i1 t.1, i2 t.2.1, i3 t.2.2.1, i4 t.2.2.2.1, i5 t.2.2.2.2.1, i6 t.2.2.2.2.2.1, i7 t.2.2.2.2.2.2.1, i8 t.2.2.2.2.2.2.2.1, i9 t.2.2.2.2.2.2.2.2.1, i10 t.2.2.2.2.2.2.2.2.2.1, (⟨i11 t.2.2.2.2.2.2.2.2.2.2.i1⟩ : T1 A11)) := rfl
theorem clone_tuple12_def {A1 A2 A3 A4 A5 A6 A7 A8 A9 A10 A11 A12 : Type} (i1 : CloneD A1) (i2 : CloneD A2) (i3 : CloneD A3) (i4 : CloneD A4) (i5 : CloneD A5) (i6 : CloneD A6) (i7 : CloneD A7) (i8 : CloneD A8) (i9 : CloneD A9) (i10 : CloneD A10) (i11 : CloneD A11) (i12 : CloneD A12) (t : A1 × A2 × A3 × A4 × A5 × A6 × A7 × A8 × A9 × A10 × A11 × T1 A12) :
    cloneTuple12 i1 i2 i3 i4 i5 i6 i7 i8 i9 i10 i11 i12 t = (i1 t.1, i2 t.2.1, i3 t.2.2.1, i4 t.2.2.2.1, i5 t.2.2.2.2.1, i6 t.2.2.2.2.2.1, i7 t.2.2.2.2.2.2.1, i8 t.2.2.2.2.2.2.2.1, i9 t.2.2.2.2.2.2.2.2.1, i10 t.2.2.2.2.2.2.2.2.2.1, i11 t.2.2.2.2.2.2.2.2.2.2.1, (⟨i12 t.2.2.2.2.2.2.2.2.2.2.2.i1⟩ : T1 A12)) := rfl
theorem clone_tuple13_def {A1 A2 A3 A4 A5 A6 A7 A8 A9 A10 A11 A12 A13 : Type} (i1 : CloneD A1) (i2 : CloneD A2) (i3 : CloneD A3) (i4 : CloneD A4) (i5 : CloneD A5) (i6 : CloneD A6) (i7 : CloneD A7) (i8 : CloneD A8) (i9 : CloneD A9) (i10 : CloneD A10) (i11 : CloneD A11) (i12 : CloneD A12) (i13 : CloneD A13) (t : A1 × A2 × A3 × A4 × A5 × A6 × A7 × A8 × A9 × A10 × A11 × A12 × T1 A13) :
    cloneTuple13 i1 i2 i3 i4 i5 i6 i7 i8 i9 i10 i11 i12 i13 t = (i1 t.1, i2 t.2.1, i3 t.2.2.1, i4 t.2.2.2.1, i5 t.2.2.2.2.1, i6 t.2.2.2.2.2.1, i7 t.2.2.2.2.2.2.1, i8 t.2.2.2.2.2.2.2.1, i9 t.2.2.2.2.2.2.2.2.1, i10 t.2.2.2.2.2.2.2.2.2.1, i11 t.2.2.2.2.2.2.2.2.2.2.1, i12 t.2.2.2.2.2.2.2.2.2.2.2.1, (⟨i13 t.2.2.2.2.2.2.2.2.2.2.2.2.i1⟩ : T1 A13)) := rfl
theorem clone_tuple14_def {A1 A2 A3 A4 A5 A6 A7 A8 A9 A10 A11 A12 A13 A14 : Type} (i1 : CloneD A1) (i2 : CloneD A2) (i3 : CloneD A3) (i4 : CloneD A4) (i5 : CloneD A5) (i6 : CloneD A6) (i7 : CloneD A7) (i8 : CloneD A8) (i9 : CloneD A9) (i10 : CloneD A10) (i11 : CloneD A11) (i12 : CloneD A12) (i13 : CloneD A13) (i14 : CloneD A14) (t : A1 × A2 × A3 × A4 × A5 × A6 × A7 × A8 × A9 × A10 × A11 × A12 × A13 × T1 A14) :
    cloneTuple14 i1 i2 i3 i4 i5 i6 i7 i8 i9 i10 i11 i12 i13 i14 t = (i1 t.1, i2 t.2.1, i3 t.2.2.1, i4 t.2.2.2.1, i5 t.2.2.2.2.1, i6 t.2.2.2.2.2.1, i7 t.2.2.2.2.2.2.1, i8 t.2.2.2.2.2.2.2.1, i9 t.2.2.2.2.2.2.2.2.1, i10 t.2.2.2.2.2.2.2.2.2.1, i11 t.2.2.2.2.2.2.2.2.2.2.1, i12 t.2.2.2.2.2.2.2.2.2.2.2.1, i13 t.2.2.2.2.2.2.2.2.2.2.2.2.1, (⟨i14 t.2.2.2.2.2.2.2.2.2.2.2.2.2.i1⟩ : T1 A14)) := rfl
theorem clone_tuple15_def {A1 A2 A3 A4 A5 A6 A7 A8 A9 A10 A11 A12 A13 A14 A15 : Type} (i1 : CloneD A1) (i2 : CloneD A2) (i3 : CloneD A3) (i4 : CloneD A4) (i5 : CloneD A5) (i6 : CloneD A6) (i7 : CloneD A7) (i8 : CloneD A8) (i9 : CloneD A9) (i10 : CloneD A10) (i11 : CloneD A11) (i12 : CloneD A12) (i13 : CloneD A13) (i14 : CloneD A14) (i15 : CloneD A15) (t : A1 × A2 × A3 × A4 × A5 × A6 × A7 × A8 × A9 × A10 × A11 × A12 × A13 × A14 × T1 A15) :
    cloneTuple15 i1 i2 i3 i4 i5 i6 i7 i8 i9 i10 i11 i12 i13 i14 i15 t = (i1 t.1, i2 t.2.1, i3 t.2.2.1, i4 t.2.2.2.1, i5 t.2.2.2.2.1, i6 t.2.2.2.2.2.1, i7 t.2.2.2.2.2.2.1, i8 t.2.2.2.2.2.2.2.1, i9 t.2.2.2.2.2.2.2.2.1, i10 t.2.2.2.2.2.2.2.2.2.1, i11 t.2.2.2.2.2.2.2.2.2.2.1, i12 t.2.2.2.2.2.2.2.2.2.2.2.1, i13 t.2.2.2.2.2.2.2.2.2.2.2.2.1, i14 t.2.2.2.2.2.2.2.2.2.2.2.2.2.1, (⟨i15 t.2.2.2.2.2.2.2.2.2.2.2.2.2.2.i1⟩ : T1 A15)) := rfl
theorem clone_tuple16_def {A1 A2 A3 A4 A5 A6 A7 A8 A9 A10 A11 A12 A13 A14 A15 A16 : Type} (i1 : CloneD A1) (i2 : CloneD A2) (i3 : CloneD A3) (i4 : CloneD A4) (i5 : CloneD A5) (i6 : CloneD A6) (i7 : CloneD A7) (i8 : CloneD A8) (i9 : CloneD A9) (i10 : CloneD A10) (i11 : CloneD A11) (i12 : CloneD A12) (i13 : CloneD A13) (i14 : CloneD A14) (i15 : CloneD A15) (i16 : CloneD A16) (t : A1 × A2 × A3 × A4 × A5 × A6 × A7 × A8 × A9 × A10 × A11 × A12 × A13 × A14 × A15 × T1 A16) :
    cloneTuple16 i1 i2 i3 i4 i5 i6 i7 i8 i9 i10 i11 i12 i13 i14 i15 i16 t = (i1 t.1, i2 t.2.1, i3 t.2.2.1, i4 t.2.2.2.1, i5 t.2.2.2.2.1, i6 t.2.2.2.2.2.1, i7 t.2.2.2.2.2.2.1, i8 t.2.2.2.2.2.2.2.1, i9 t.2.2.2.2.2.2.2.2.1, i10 t.2.2.2.2.2.2.2.2.2.1, i11 t.2.2.2.2.2.2.2.2.2.2.1, i12 t.2.2.2.2.2.2.2.2.2.2.2.1, i13 t.2.2.2.2.2.2.2.2.2.2.2.2.1, i14 t.2.2.2.2.2.2.2.2.2.2.2.2.2.1, i15 t.2.2.2.2.2.2.2.2.2.2.2.2.2.2.1, (⟨i16 t.2.2.2.2.2.2.2.2.2.2.2.2.2.2.2.i1⟩ : T1 A16)) := rfl
theorem clone_tuple17_def {A1 A2 A3 A4 A5 A6 A7 A8 A9 A10 A11 A12 A13 A14 A15 A16 A17 : Type} (i1 : CloneD A1) (i2 : CloneD A2) (i3 : CloneD A3) (i4 : CloneD A4) (i5 : CloneD A5) (i6 : CloneD A6) (i7 : CloneD A7) (i8 : CloneD A8) (i9 : CloneD A9) (i10 : CloneD A10) (i11 : CloneD A11) (i12 : CloneD A12) (i13 : CloneD A13) (i14 : CloneD A14) (i15 : CloneD A15) (i16 : CloneD A16) (i17 : CloneD A17) (t : A1 × A2 × A3 × A4 × A5 × A6 × A7 × A8 × A9 × A10 × A11 × A12 × A13 × A14 × A15 × A16 × T1 A17) :
    cloneTuple17 i1 i2 i3 i4 i5 i6 i7 i8 i9 i10 i11 i12 i13 i14 i15 i16 i17 t = (i1 t.1, i2 t.2.1, i3 t.2.2.1, i4 t.2.2.2.1, i5 t.2.2.2.2.1, i6 t.2.2.2.2.2.1, i7 t.2.2.2.2.2.2.1, i8 t.2.2.2.2.2.2.2.1, i9 t.2.2.2.2.2.2.2.2.1, i10 t.2.2.2.2.2.2.2.2.2.1, i11 t.2.2.2.2.2.2.2.2.2.2.1, i12 t.2.2.2.2.2.2.2.2.2.2.2.1, i13 t.2.2.2.2.2.2.2.2.2.2.2.2.1, i14 t.2.2.2.2.2.2.2.2.2.2.2.2.2.1, i15 t.2.2.2.2.2.2.2.2.2.2.2.2.2.2.1, i16 t.2.2.2.2.2.2.2.2.2.2.2.2.2.2.2.1, (⟨i17 t.2.2.2.2.2.2.2.2.2.2.2.2.2.2.2.2.i1⟩ : T1 A17)) := rfl
theorem clone_tuple18_def {A1 A2 A3 A4 A5 A6 A7 A8 A9 A10 A11 A12 A13 A14 A15 A16 A17 A18 : Type} (i1 : CloneD A1) (i2 : CloneD A2) (i3 : CloneD A3) (i4 : CloneD A4) (i5 : CloneD A5) (i6 : CloneD A6) (i7 : CloneD A7) (i8 : CloneD A8) (i9 : CloneD A9) (i10 : CloneD A10) (i11 : CloneD A11) (i12 : CloneD A12) (i13 : CloneD A13) (i14 : CloneD A14) (i15 : CloneD A15) (i16 : CloneD A16) (i17 : CloneD A17) (i18 : CloneD A18) (t : A1 × A2 × A3 × A4 × A5 × A6 × A7 × A8 × A9 × A10 × A11 × A12 × A13 × A14 × A15 × A16 × A17 × T1 A18) :
    cloneTuple18 i1 i2 i3 i4 i5 i6 i7 i8 i9 i10 i11 i12 i13 i14 i15 i16 i17 i18 t = (i1 t.1, i2 t.2.1, i3 t.2.2.1, i4 t.2.2.2.1, i5 t.2.2.2.2.1, i6 t.2.2.2.2.2.1, i7 t.2.2.2.2.2.2.1, i8 t.2.2.2.2.2.2.2.1, i9 t.2.2.2.2.2.2.2.2.1, i10 t.2.2.2.2.2.2.2.2.2.1, i11 t.2.2.2.2.2.2.2.2.2.2.1, i12 t.2.2.2.2.2.2.2.2.2.2.2.1, i13 t.2.2.2.2.2.2.2.2.2.2.2.2.1, i14 t.2.2.2.2.2.2.2.2.2.2.2.2.2.1, i15 t.2.2.2.2.2.2.2.2.2.2.2.2.2.2.1, i16 t.2.2.2.2.2.2.2.2.2.2.2.2.2.2.2.1, i17 t.2.2.2.2.2.2.2.2.2.2.2.2.2.2.2.2.1, (⟨i18 t.2.2.2.2.2.2.2.2.2.2.2.2.2.2.2.2.2.i1⟩ : T1 A18)) := rfl
theorem clone_tuple19_def {A1 A2 A3 A4 A5 A6 A7 A8 A9 A10 A11 A12 A13 A14 A15 A16 A17 A18 A19 : Type} (i1 : CloneD A1) (i2 : CloneD A2) (i3 : CloneD A3) (i4 : CloneD A4) (i5 : CloneD A5) (i6 : CloneD A6) (i7 : CloneD A7) (i8 : CloneD A8) (i9 : CloneD A9) (i10 : CloneD A10) (i11 : CloneD A11) (i12 : CloneD A12) (i13 : CloneD A13) (i14 : CloneD A14) (i15 : CloneD A15) (i16 : CloneD A16) (i17 : CloneD A17) (i18 : CloneD A18) (i19 : CloneD A19) (t : A1 × A2 × A3 × A4 × A5 × A6 × A7 × A8 × A9 × A10 × A11 × A12 × A13 × A14 × A15 × A16 × A17 × A18 × T1 A19) :
    cloneTuple19 i1 i2 i3 i4 i5 i6 i7 i8 i9 i10 i11 i12 i13 i14 i15 i16 i17 i18 i19 t = (i1 t.1, i2 t.2.1, i3 t.2.2.1, i4 t.2.2.2.1, i5 t.2.2.2.2.1, i6 t.2.2.2.2.2.1, i7 t.2.2.2.2.2.2.1, i8 t.2.2.2.2.2.2.2.1, i9 t.2.2.2.2.2.2.2.2.1, i10 t.2.2.2.2.2.2.2.2.2.1, i11 t.2.2.2.2.2.2.2.2.2.2.1, i12 t.2.2.2.2.2.2.2.2.2.2.2.1, i13 t.2.2.2.2.2.2.2.2.2.2.2.2.1, i14 t.2.2.2.2.2.2.2.2.2.2.2.2.2.1, i15 t.2.2.2.2.2.2.2.2.2.2.2.2.2.2.1, i16 t.2.2.2.2.2.2.2.2.2.2.2.2.2.2.2.1, i17 t.2.2.2.2.2.2.2.2.2.2.2.2.2.2.2.2.1, i18 t.2.2.2.2.2.2.2.2.2.2.2.2.2.2.2.2.2.1, (⟨i19 t.2.2.2.2.2.2.2.2.2.2.2.2.2.2.2.2.2.2.i1⟩ : T1 A19)) := rfl
theorem clone_tuple20_def {A1 A2 A3 A4 A5 A6 A7 A8 A9 A10 A11 A12 A13 A14 A15 A16 A17 A18 A19 A20 : Type} (i1 : CloneD A1) (i2 : CloneD A2) (i3 : CloneD A3) (i4 : CloneD A4) (i5 : CloneD A5) (i6 : CloneD A6) (i7 : CloneD A7) (i8 : CloneD A8) (i9 : CloneD A9) (i10 : CloneD A10) (i11 : CloneD A11) (i12 : CloneD A12) (i13 : CloneD A13) (i14 : CloneD A14) (i15 : CloneD A15) (i16 : CloneD A16) (i17 : CloneD A17) (i18 : CloneD A18) (i19 : CloneD A19) (i20 : CloneD A20) (t : A1 × A2 × A3 × A4 × A5 × A6 × A7 × A8 × A9 × A10 × A11 × A12 × A13 × A14 × A15 × A16 × A17 × A18 × A19 × T1 A20) :
    cloneTuple20 i1 i2 i3 i4 i5 i6 i7 i8 i9 i10 i11 i12 i13 i14 i15 i16 i17 i18 i19 i20 t = (i1 t.1, i2 t.2.1, i3 t.2.2.1, i4 t.2.2.2.1, i5 t.2.2.2.2.1, i6 t.2.2.2.2.2.1, i7 t.2.2.2.2.2.2.1, i8 t.2.2.2.2.2.2.2.1, i9 t.2.2.2.2.2.2.2.2.1, i10 t.2.2.2.2.2.2.2.2.2.1, i11 t.2.2.2.2.2.2.2.2.2.2.1, i12 t.2.2.2.2.2.2.2.2.2.2.2.1, i13 t.2.2.2.2.2.2.2.2.2.2.2.2.1, i14 t.2.2.2.2.2.2.2.2.2.2.2.2.2.1, i15 t.2.2.2.2.2.2.2.2.2.2.2.2.2.2.1, i16 t.2.2.2.2.2.2.2.2.2.2.2.2.2.2.2.1, i17 t.2.2.2.2.2.2.2.2.2.2.2.2.2.2.2.2.1, i18 t.2.2.2.2.2.2.2.2.2.2.2.2.2.2.2.2.2.1, i19 t.2.2.2.2.2.2.2.2.2.2.2.2.2.2.2.2.2.2.1, (⟨i20 t.2.2.2.2.2.2.2.2.2.2.2.2.2.2.2.2.2.2.2.i1⟩ : T1 A20)) := rfl
theorem clone_tuple21_def {A1 A2 A3 A4 A5 A6 A7 A8 A9 A10 A11 A12 A13 A14 A15 A16 A17 A18 A19 A20 A21 : Type} (i1 : CloneD A1) (i2 : CloneD A2) (i3 : CloneD A3) (i4 : CloneD A4) (i5 : CloneD A5) (i6 : CloneD A6) (i7 : CloneD A7) (i8 : CloneD A8) (i9 : CloneD A9) (i10 : CloneD A10) (i11 : CloneD A11) (i12 : CloneD A12) (i13 : CloneD A13) (i14 : CloneD A14) (i15 : CloneD A15) (i16 : CloneD A16) (i17 : CloneD A17) (i18 : CloneD A18) (i19 : CloneD A19) (i20 : CloneD A20) (i21 : CloneD A21) (t : A1 × A2 × A3 × A4 × A5 × A6 × A7 × A8 × A9 × A10 × A11 × A12 × A13 × A14 × A15 × A16 × A17 × A18 × A19 × A20 × T1 A21) :
    cloneTuple21 i1 i2 i3 i4 i5 i6 i7 i8 i9 i10 i11 i12 i13 i14 i15 i16 i17 i18 i19 i20 i21 t = (i1 t.1, i2 t.2.1, i3 t.2.2.1, i4 t.2.2.2.1, i5 t.2.2.2.2.1, i6 t.2.2.2.2.2.1, i7 t.2.2.2.2.2.2.1, i8 t.2.2.2.2.2.2.2.1, i9 t.2.2.2.2.2.2.2.2.1, i10 t.2.2.2.2.2.2.2.2.2.1, i11 t.2.2.2.2.2.2.2.2.2.2.1, i12 t.2.2.2.2.2.2.2.2.2.2.2.1, i13 t.2.2.2.2.2.2.2.2.2.2.2.2.1, i14 t.2.2.2.2.2.2.2.2.2.2.2.2.2.1, i15 t.2.2.2.2.2.2.2.2.2.2.2.2.2.2.1, i16 t.2.2.2.2.2.2.2.2.2.2.2.2.2.2.2.1, i17 t.2.2.2.2.2.2.2.2.2.2.2.2.2.2.2.2.1, i18 t.2.2.2.2.2.2.2.2.2.2.2.2.2.2.2.2.2.1, i19 t.2.2.2.2.2.2.2.2.2.2.2.2.2.2.2.2.2.2.1, i20 t.2.2.2.2.2.2.2.2.2.2.2.2.2.2.2.2.2.2.2.1, (⟨i21 t.2.2.2.2.2.2.2.2.2.2.2.2.2.2.2.2.2.2.2.2.i1⟩ : T1 A21)) := rfl

/-- every generated function of the five files was found and translated, and there is no arity the theorems above
    do not speak about -/
theorem all_arities_translated : arities = [("eq", 2), ("eq", 3), ("eq", 4), ("eq", 5), ("eq", 6), ("eq", 7), ("eq", 8), ("eq", 9), ("eq", 10), ("eq", 11), ("eq", 12), ("eq", 13), ("eq", 14), ("eq", 15), ("eq", 16), ("eq", 17), ("eq", 18), ("eq", 19), ("eq", 20), ("eq", 21), ("hash", 2), ("hash", 3), ("hash", 4), ("hash", 5), ("hash", 6), ("hash", 7), ("hash", 8), ("hash", 9), ("hash", 10), ("hash", 11), ("hash", 12), ("hash", 13), ("hash", 14), ("hash", 15), ("hash", 16), ("hash", 17), ("hash", 18), ("hash", 19), ("hash", 20), ("hash", 21), ("ord", 2), ("ord", 3), ("ord", 4), ("ord", 5), ("ord", 6), ("ord", 7), ("ord", 8), ("ord", 9), ("ord", 10), ("ord", 11), ("ord", 12), ("ord", 13), ("ord", 14), ("ord", 15), ("ord", 16), ("ord", 17), ("ord", 18), ("ord", 19), ("ord", 20), ("ord", 21), ("monoid", 2), ("monoid", 3), ("monoid", 4), ("monoid", 5), ("monoid", 6), ("monoid", 7), ("monoid", 8), ("monoid", 9), ("monoid", 10), ("monoid", 11), ("monoid", 12), ("monoid", 13), ("monoid", 14), ("monoid", 15), ("monoid", 16), ("monoid", 17), ("monoid", 18), ("monoid", 19), ("monoid", 20), ("monoid", 21), ("clone", 3), ("clone", 4), ("clone", 5), ("clone", 6), ("clone", 7), ("clone", 8), ("clone", 9), ("clone", 10), ("clone", 11), ("clone", 12), ("clone", 13), ("clone", 14), ("clone", 15), ("clone", 16), ("clone", 17), ("clone", 18), ("clone", 19), ("clone", 20), ("clone", 21)] := by rfl

-- what the ties buy: the laws proved for the model instances hold for the translated code (one representative each
-- for eq and hash; every other family and arity is the same two lines) ------------------------------------------------

theorem eq_tuple3_lawful {A1 A2 A3 : Type} {i1 : EqD A1} {i2 : EqD A2} {i3 : EqD A3}
    (h1 : LawfulEq i1) (h2 : LawfulEq i2) (h3 : LawfulEq i3) : LawfulEq (eqTuple3 i1 i2 i3) := by
  rw [eq_tuple3_is_model]; exact FpVerif.Spec.C09.tupleN_lawful h1 (FpVerif.Spec.C09.tupleN_lawful h2 (FpVerif.Spec.C09.tuple1_lawful h3))

theorem hash_tuple3_lawful {A1 A2 A3 : Type} {i1 : HashD A1} {i2 : HashD A2} {i3 : HashD A3}
    (h1 : LawfulHash i1) (h2 : LawfulHash i2) (h3 : LawfulHash i3) : LawfulHash (hashTuple3 i1 i2 i3) := by
  rw [hash_tuple3_is_model]; exact FpVerif.Spec.C09.hash_tupleN_lawful h1 (FpVerif.Spec.C09.hash_tupleN_lawful h2 (FpVerif.Spec.C09.hash_tuple1_lawful h3))

end FpVerif.Spec.C14Gen
