import FpVerif.Spec.C06Sound
/-!
# C06 (part 3) — completeness at quiescence: a determined future IS completed

`sound_every_schedule` says a completed promise holds what its expression evaluates to.  This file
proves the converse for every schedule: in every reachable state in which no task is runnable (the
executor's queue is empty), every promise whose expression evaluates — three-valued `evalS`, over the
statuses in that same state — to a value *is completed* (hence, by soundness, with exactly that value).
So a derived future completes "as soon as the sources its evaluation depends on are complete": the only
thing that can stand between the sources being complete and the future being complete is a task that
has not run yet.

Proof: a structural liveness invariant (`Live`: every pending derived promise is the target of a task in
the pool or of a callback registered on a *pending* promise — nothing is ever dropped), preserved by every
event with no validity assumption at all, combined with the soundness invariant `Inv` (what such a
callback means) by induction on the creation order of promises (`RootOf`'s lower bound: the promises a
user function's future allocates are younger than the promise waiting for it).

Audit finding 1: `Valid` includes the well-formedness side condition (`EvOK`: a source is never completed
with `Try{}` / `Failure(nil)`, every constructed program is `WFE` — Lemmas/FutWF.lean).  The theorems of this file take
`Valid` as hypothesis, so they do not speak about runs in which a task of the Go code would panic in
`t.Failed().Get()` and leave its promise pending (`C06.illformed_source_excluded`); along a valid run no ill-formed Try
ever exists (`C06.wellformed_every_schedule`).
-/
namespace FpVerif.Spec.C06
open FpVerif FpVerif.Fut

/-- somebody is going to complete `p`: a queued task, or a callback waiting on another promise -/
def Blocked (n : Net) (p : Nat) : Prop :=
  (∃ tk, tk ∈ n.pool ∧ taskTarget tk = some p) ∨ (∃ q c, c ∈ n.cbs q ∧ cbTarget c = some p)

/-- liveness invariant, up to a set `X` of promises that are "in the hands of" the code running now -/
structure Live (nsrc : Nat) (X : Nat → Prop) (n : Net) : Prop where
  blocked : ∀ p, nsrc ≤ p → p < n.next → n.status p = none → ¬ X p → Blocked n p
  cbsPending : ∀ q c, c ∈ n.cbs q → n.status q = none

theorem live_weaken {nsrc : Nat} {X X' : Nat → Prop} {n : Net} (h : Live nsrc X n) (hx : ∀ r, X r → X' r) :
    Live nsrc X' n :=
  ⟨fun p h1 h2 h3 h4 => h.blocked p h1 h2 h3 (fun hxp => h4 (hx p hxp)), h.cbsPending⟩

/-- only status, cbs, next and membership in the pool matter; the pool may grow -/
theorem live_mono {nsrc : Nat} {X : Nat → Prop} {n n' : Net} (h : Live nsrc X n)
    (h1 : n'.status = n.status) (h2 : n'.cbs = n.cbs) (h3 : n'.next = n.next)
    (h4 : ∀ tk, tk ∈ n.pool → tk ∈ n'.pool) : Live nsrc X n' := by
  refine ⟨?_, ?_⟩
  · intro p hp hlt hst hx
    rw [h3] at hlt; rw [h1] at hst
    rcases h.blocked p hp hlt hst hx with ⟨tk, htk, ht⟩ | ⟨q, c, hc, ht⟩
    · exact .inl ⟨tk, h4 tk htk, ht⟩
    · exact .inr ⟨q, c, by rw [h2]; exact hc, ht⟩
  · intro q c hc
    rw [h2] at hc; rw [h1]; exact h.cbsPending q c hc

theorem live_addTask {nsrc : Nat} {X : Nat → Prop} {n : Net} (h : Live nsrc X n) (tk : Task) :
    Live nsrc (fun r => X r ∧ taskTarget tk ≠ some r) { n with pool := n.pool ++ [tk] } := by
  refine ⟨?_, h.cbsPending⟩
  intro p hp hlt hst hx
  by_cases ht : taskTarget tk = some p
  · exact .inl ⟨tk, by simp, ht⟩
  · have hxp : ¬ X p := fun hxp => hx ⟨hxp, ht⟩
    rcases h.blocked p hp hlt hst hxp with ⟨tk', htk', ht'⟩ | ⟨q, c, hc, ht'⟩
    · exact .inl ⟨tk', by simp [htk'], ht'⟩
    · exact .inr ⟨q, c, hc, ht'⟩

theorem live_complete {nsrc : Nat} {X : Nat → Prop} {n : Net} (h : Live nsrc X n) (p : Nat) (t : Try Val) :
    Live nsrc (fun r => X r ∧ r ≠ p) (complete p t n) := by
  refine ⟨?_, ?_⟩
  · intro r hr hlt hsr hx
    rw [(complete_frame p t n).1] at hlt
    obtain ⟨hsr', hne⟩ := complete_status_none hsr
    rcases h.blocked r hr hlt hsr' (fun hxr => hx ⟨hxr, hne⟩) with ⟨tk, htk, ht⟩ | ⟨q, c, hc, ht⟩
    · exact .inl ⟨tk, mem_complete_pool.2 (.inl htk), ht⟩
    · by_cases hqp : q = p
      · subst hqp
        exact .inl ⟨Task.cb c t, mem_complete_pool.2 (.inr ⟨h.cbsPending q c hc, c, hc, rfl⟩), ht⟩
      · exact .inr ⟨q, c, mem_complete_cbs.2 ⟨hc, fun e => absurd e hqp⟩, ht⟩
  · intro q c hc
    obtain ⟨hc', hq⟩ := mem_complete_cbs.1 hc
    have hqs := h.cbsPending q c hc'
    rw [complete_status_ne p t n (fun e => hq e (e ▸ hqs))]
    exact hqs

theorem live_onComplete {nsrc : Nat} {X : Nat → Prop} {n : Net} (h : Live nsrc X n) (p : Nat) (c : CB) :
    Live nsrc (fun r => X r ∧ cbTarget c ≠ some r) (onComplete p c n) := by
  refine ⟨?_, ?_⟩
  · intro r hr hlt hsr hx
    rw [(onComplete_frame p c n).1] at hlt
    rw [onComplete_status] at hsr
    by_cases ht : cbTarget c = some r
    · cases hst : n.status p with
      | some t => exact .inl ⟨Task.cb c t, mem_onComplete_pool.2 (.inr ⟨t, hst, rfl⟩), ht⟩
      | none => exact .inr ⟨p, c, mem_onComplete_cbs.2 (.inr ⟨hst, rfl, rfl⟩), ht⟩
    · rcases h.blocked r hr hlt hsr (fun hxr => hx ⟨hxr, ht⟩) with ⟨tk, htk, ht'⟩ | ⟨q, c', hc', ht'⟩
      · exact .inl ⟨tk, mem_onComplete_pool.2 (.inl htk), ht'⟩
      · exact .inr ⟨q, c', mem_onComplete_cbs.2 (.inl hc'), ht'⟩
  · intro q c' hc'
    rw [onComplete_status]
    rcases mem_onComplete_cbs.1 hc' with hold | ⟨hst, rfl, _⟩
    · exact h.cbsPending q c' hold
    · exact hst

theorem live_fresh {nsrc : Nat} {X : Nat → Prop} {n : Net} (h : Live nsrc X n) (sp : FExpr) :
    Live nsrc (fun r => X r ∨ r = n.next) (fresh sp n).2 := by
  refine ⟨?_, h.cbsPending⟩
  intro r hr hlt hsr hx
  have hlt' : r < n.next + 1 := hlt
  have hne : r ≠ n.next := fun heq => hx (.inr heq)
  exact h.blocked r hr (by omega) hsr (fun hxr => hx (.inl hxr))

/-- the promises `Y` leave the hands of the running code once somebody else (`¬ P`) is responsible for them -/
theorem live_release {nsrc : Nat} {X Y P : Nat → Prop} {n : Net} (h : Live nsrc (fun r => (X r ∨ Y r) ∧ P r) n)
    (hp : ∀ r, Y r → ¬ P r) : Live nsrc X n :=
  live_weaken h (fun r hr => hr.1.resolve_right (fun hy => hp r hy hr.2))

/-- allocate a promise and register the callback that will complete it -/
theorem live_node {nsrc : Nat} {X : Nat → Prop} {n : Net} (h : Live nsrc X n) (sp : FExpr) (p : Nat) (c : CB)
    (hc : cbTarget c = some n.next) : Live nsrc X (onComplete p c (fresh sp n).2) :=
  live_release (live_onComplete (live_fresh h sp) p c) (fun _ heq hne => hne (heq ▸ hc))

/-- allocate a promise and complete it at once -/
theorem live_const {nsrc : Nat} {X : Nat → Prop} {n : Net} (h : Live nsrc X n) (sp : FExpr) (t : Try Val) :
    Live nsrc X (complete n.next t (fresh sp n).2) :=
  live_release (live_complete (live_fresh h sp) n.next t) (fun _ heq hne => hne heq)

theorem live_build {nsrc : Nat} (e : FExpr) (X : Nat → Prop) (n : Net) (h : Live nsrc X n) : Live nsrc X (build e n).2 :=
  build_rel (R := fun n n' => ∀ X, Live nsrc X n → Live nsrc X n')
    (hrefl := fun _ _ h => h)
    (htrans := fun h1 h2 X h => h2 X (h1 X h))
    (hlog := fun _ _ _ h => live_mono h rfl rfl rfl (fun _ htk => htk))
    (hconst := fun _ _ _ _ h => live_const h _ _)
    (hnode := fun _ _ _ _ hc _ h => live_node h _ _ _ hc)
    (happly := fun n f _ h => live_release (live_addTask (live_fresh h (.apply f)) (Task.applyT f n.next))
      (fun _ heq hne => hne (heq ▸ rfl)))
    e n X h

/-- running a task re-establishes the invariant for the promise the task was responsible for: the task completes it,
    or registers the callback that will -/
theorem live_runTask {nsrc : Nat} {X : Nat → Prop} {n : Net} (tk : Task)
    (h : Live nsrc (fun r => X r ∨ taskTarget tk = some r) n) : Live nsrc X (runTask tk n) := by
  rw [runTask_eq_act]
  have h' := live_mono (n' := { n with log := n.log ++ tk.act.1 }) h rfl rfl rfl (fun _ htk => htk)
  rw [← act_target] at h'
  generalize tk.act.2 = a at h' ⊢
  cases a with
  | done np r => exact live_release (live_complete h' np r) (fun _ hy hne => hne (Option.some.inj hy).symm)
  | chain e np => exact live_release (live_onComplete (live_build e _ _ h') _ (.completeWith np)) (fun _ hy hne => hne hy)
  | nop => exact live_weaken h' (fun _ hr => hr.resolve_right nofun)

theorem live_erase {nsrc : Nat} {X : Nat → Prop} {n : Net} (h : Live nsrc X n) (i : Nat) (tk : Task)
    (hi : n.pool[i]? = some tk) :
    Live nsrc (fun r => X r ∨ taskTarget tk = some r) { n with pool := n.pool.eraseIdx i } := by
  refine ⟨?_, h.cbsPending⟩
  intro p hp hlt hst hx
  rcases h.blocked p hp hlt hst (fun hxp => hx (.inl hxp)) with ⟨tk', htk', ht'⟩ | ⟨q, c, hc, ht'⟩
  · refine .inl ⟨tk', ?_, ht'⟩
    obtain ⟨j, hj⟩ := List.getElem?_of_mem htk'
    have hne : j ≠ i := by
      intro heq; subst heq
      rw [hi] at hj
      have : tk = tk' := Option.some.inj hj
      subst this
      exact hx (.inr ht')
    exact List.mem_eraseIdx_iff_getElem?.mpr ⟨j, hne, hj⟩
  · exact .inr ⟨q, c, hc, ht'⟩

/-- every event — whatever the program builds, whichever promise the environment completes, whichever
    task the executor picks — keeps every pending derived promise somebody's responsibility -/
theorem live_step {nsrc : Nat} {n : Net} (h : Live nsrc (fun _ => False) n) (ev : Ev) :
    Live nsrc (fun _ => False) (step n ev) := by
  cases ev with
  | run i =>
    simp only [step]
    cases hi : n.pool[i]? with
    | none => exact h
    | some tk =>
      simp only
      exact live_runTask tk (live_weaken (live_erase h i tk hi) (by
        intro r hr
        rcases hr with hx | heq
        · exact absurd hx id
        · exact .inr heq))
  | src p t => exact live_weaken (live_complete h p t) (fun r hr => hr.1)
  | mk e => exact live_build e _ n h
  | obs p id => exact live_weaken (live_onComplete h p (.observe id)) (fun r hr => hr.1)

theorem live_init (nsrc : Nat) : Live nsrc (fun _ => False) (Net.empty nsrc) where
  blocked := by
    intro p hp hlt _ _
    have : p < nsrc := hlt
    omega
  cbsPending := by intro q c hc; simp [Net.empty] at hc

theorem live_run {nsrc : Nat} (evs : List Ev) : ∀ (n : Net), Live nsrc (fun _ => False) n →
    Live nsrc (fun _ => False) (runEvs n evs) :=
  fun _ h => Fold.inv (P := Live nsrc fun _ => False) (fun _ ev h => live_step h ev) h evs

-- completeness -------------------------------------------------------------------------------------------

/-- if every promise the construction allocated holds exactly what its recorded expression evaluates to, the root
    holds exactly what the constructed expression evaluates to: the recorded expression of a node is the constructed one
    with every child replaced by its handle -/
theorem root_exact (n : Net) (lo : Nat) (e : FExpr) (q : Nat)
    (hG : ∀ p, lo ≤ p → p < n.next → n.status p = evalS n.status (n.spec p))
    (hr : RootOf n lo q e) : n.status q = evalS n.status e :=
  root_rel erel_eq n n.status lo hG e q hr

/-- if the root of a constructed expression is still pending, and every pending promise the construction
    allocated has an expression that does not evaluate yet, then the expression does not evaluate yet -/
theorem root_pending (n : Net) (hs : Sound n) (lo : Nat) (e : FExpr) (q : Nat)
    (hD : ∀ p, lo ≤ p → p < n.next → n.status p = none → evalS n.status (n.spec p) = none)
    (hr : RootOf n lo q e) (hq : n.status q = none) : evalS n.status e = none := by
  have hG : ∀ p, lo ≤ p → p < n.next → n.status p = evalS n.status (n.spec p) := by
    intro p hlo hlt
    cases hst : n.status p with
    | some v => exact (hs p v hst).symm
    | none => exact (hD p hlo hlt hst).symm
  rw [← root_exact n lo e q hG hr]
  exact hq

/-- **Completeness at quiescence** (one state): with no task left to run, a pending promise's expression
    does not evaluate — i.e. whatever evaluates has been completed. -/
theorem pending_undetermined {nsrc : Nat} {n : Net} (hi : Inv nsrc n) (hl : Live nsrc (fun _ => False) n)
    (hq : n.pool = []) : ∀ p, p < n.next → n.status p = none → evalS n.status (n.spec p) = none :=
  young_first fun p hlt ih hst => by
    by_cases hsrc : p < nsrc
    · rw [hi.srcs.2 p hsrc]; simpa [evalS] using hst
    · rcases hl.blocked p (Nat.le_of_not_lt hsrc) hlt hst id with ⟨tk, htk, _⟩ | ⟨q, c, hc, ht⟩
      · rw [hq] at htk; simp at htk
      · have hqs := hl.cbsPending q c hc
        have hok := hi.cbs q c hc
        cases c with
        | flatMapA k np =>
          cases ht
          rw [hok.2.1]; simp [evalS, hqs, bindOk]
        | completeWith np =>
          cases ht
          obtain ⟨_, e, lo, hlo, hr, hj⟩ := hok
          rw [hj n.status (fun _ _ h => h)]
          exact root_pending n hi.sound lo e q
            (fun p' hp' hlt' hst' => ih p' (Nat.lt_of_lt_of_le hlo hp') hlt' hst') hr hqs
        | transformA f np =>
          cases ht
          rw [hok.2]; simp [evalS, hqs]
        | transformWithA k np =>
          cases ht
          rw [hok.2.1]; simp [evalS, hqs, bindTry]
        | recoverWithA d' k np =>
          cases ht
          rw [hok.2.1]; simp [evalS, hqs, bindTry]
        | orFutureA alt np =>
          cases ht
          rw [hok.2]; simp [evalS, hqs, bindTry]
        | observe id => simp [cbTarget] at ht

/-- **Exactness at quiescence, for every schedule.**  Start from `nsrc` pending sources; let the program
    build first-order futures at any moments, the environment complete sources in any order, the executor
    run queued tasks in any order.  Whenever the queue is empty, the status of EVERY promise equals the
    three-valued evaluation of its expression over the statuses: completed with exactly the value the
    expression determines if it determines one, pending otherwise. -/
theorem exact_at_quiescence (nsrc : Nat) (evs : List Ev) (hv : Valid nsrc (Net.empty nsrc) evs)
    (hq : (runEvs (Net.empty nsrc) evs).pool = []) (p : Nat) (hp : p < (runEvs (Net.empty nsrc) evs).next) :
    (runEvs (Net.empty nsrc) evs).status p
      = evalS (runEvs (Net.empty nsrc) evs).status ((runEvs (Net.empty nsrc) evs).spec p) := by
  have hi := inv_run evs _ (inv_init nsrc) hv
  have hl := live_run (nsrc := nsrc) evs _ (live_init nsrc)
  cases hst : (runEvs (Net.empty nsrc) evs).status p with
  | some v => exact (hi.sound p v hst).symm
  | none => exact (pending_undetermined hi hl hq p hp hst).symm

/-- … in terms of the expression the program wrote: at every later quiescent state the handle `build e`
    returned holds exactly `evalS e` — completed iff `e` is determined by what has completed so far. -/
theorem built_future_exact (nsrc : Nat) (evs evs' : List Ev) (e : FExpr)
    (hv : Valid nsrc (Net.empty nsrc) (evs ++ .mk e :: evs'))
    (hq : (runEvs (Net.empty nsrc) (evs ++ .mk e :: evs')).pool = []) :
    let n := runEvs (Net.empty nsrc) evs
    let q := (build e n).1
    let n' := runEvs (Net.empty nsrc) (evs ++ .mk e :: evs')
    n'.status q = evalS n'.status e := by
  intro n q n'
  obtain ⟨lo, hroot⟩ := built_future_root nsrc evs evs' e hv
  exact root_exact n' lo e q (fun p _ hlt => exact_at_quiescence nsrc _ hv hq p hlt) hroot

/-- non-vacuity: the schedule of `Spec/C06Sound`'s example ends quiescent, and there the derived future is
    completed although the second operand's callback never had to run. -/
example :
    let evs : List Ev := [.mk (Fut.map2 0 1 (fun x y => (.tup [x, y], []))), .src 1 (.success (.int 5)), .run 0,
                          .src 0 (.failure (.code 3)), .run 0, .run 0]
    (runEvs (Net.empty 2) evs).pool = [] ∧ (runEvs (Net.empty 2) evs).status 2 = some (.failure (.code 3)) := by
  refine ⟨rfl, rfl⟩

/-- non-vacuity of the other direction: a quiescent state with a pending derived future (its first
    operand has not completed), whose expression indeed does not evaluate yet. -/
example :
    let evs : List Ev := [.mk (Fut.map2 0 1 (fun x y => (.tup [x, y], []))), .src 1 (.success (.int 5))]
    (runEvs (Net.empty 2) evs).pool = [] ∧ (runEvs (Net.empty 2) evs).status 2 = none := by
  refine ⟨rfl, rfl⟩

end FpVerif.Spec.C06
