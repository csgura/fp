import FpVerif.Gen.ArityGen
import FpVerif.Spec.C14
/-!
# C14 — the generated PURE arity families, TRANSLATED from the source on every run (Tie A, second part)

`FpVerif/Gen/ArityGen.lean` is produced by `harness/cmd/go2lean2` (a generic Go-AST → Lean translator for the pure
functional fragment the generated files are written in: function literals, calls, struct literals, field selection,
`x := e`, `return`) from the working tree: every declaration of

    tuple_gen.go labelled_gen.go func_gen.go                         (fp.TupleN/LabelledN + accessors, FuncN.ApplyFirst/ApplyLast/Widen, ComposeN, IdN)
    as/func_gen.go as/tuple_gen.go as/labelled_gen.go                (as.FuncN/SupplierN/CurriedN/UnTupledN, TupleN/HListN, LabelledN/HListNLabelled)
    curried/curried_gen.go                                           (curried.FuncN/RevertN/FlipN/SlipLN/ComposeN/FlipApplyN)
    hlist/of_gen.go case_gen.go lift_gen.go reverse_gen.go           (hlist.OfN/CaseN/LiftN/RiftN/ReverseN)
    product/tuple_gen.go                                             (product.TupleN/TupleFromHListN/FlattenN/LabelledFromHListN/LiftN)
    fn1/arrow_func_gen.go unit/func_gen.go                           (fn1.MergeN, unit.FuncN)

and the hand-written arity-1/2 members they bottom out in becomes ONE Lean definition with the Go declaration's own
type (type parameters stay type parameters, `func(A1,…,AN) R` is `A1 → … → AN → GoM R`, `fp.TupleN` / `hlist.Cons` are
structures with the Go field names) and the Go body's own structure (closures, calls of the lower arity by name, every
call of a function value an effect bound in Go's evaluation order).

The theorems below — statements fixed here under version control, one per family and EVERY arity found in the source —
instantiate all element types at one `A` and say that the translated function computes the arity-generic model of
`Model/Arity.lean` at `n := N`: for all `a1 … aN` (and all user functions, viewed as `NFun A R` through
`fun a1 … aN => f [a1, …, aN]`; every N-ary function is of this form, `lfN`/`nf_lfN`).  A tuple is read as its field list
`I1..IN` (`tupListN`, `labListN`), an hlist as `[head, tail.head, …]` (`hlN`), a multi-valued result as its components
(`plN`).  Proofs are `by rfl` (both sides unfold to the same term; the tactic has the elaborator check that once, where
the term `rfl` has it checked three times: once for the `defeq` attribute it infers, twice against the expected type)
except where a monad law is needed, and for `product.TupleFromHListN`, stated for an arbitrary hlist and proved from the
arity below.  A swapped argument, a dropped component, a wrong index or a wrong order of application in ONE generated
function changes the translated definition and the theorems of that arity (and of the arities built on it) stop
checking; a change Go's own type checker would reject makes the translated definition itself ill-typed.

`all_families_translated` pins the set of (family, arity) pairs found to the table derived from `internal/max/max.go`;
`exceptions_pinned` the declarations deliberately not translated.  The last section transports C14's property theorems
to the translated code at every generated arity.
-/
namespace FpVerif.Spec.C14ArityGen
open FpVerif FpVerif.Arity FpVerif.Gen.Arity MonadFamily
set_option linter.unusedVariables false

variable {A R GA GR : Type}

-- ------------------------------------------------------------------------------------------------
-- how the translated data is read (part of the statements)

def tupList1 (t : fp_Tuple1 A) : List A := [t.I1]
def tupList2 (t : fp_Tuple2 A A) : List A := [t.I1, t.I2]
def tupList3 (t : fp_Tuple3 A A A) : List A := [t.I1, t.I2, t.I3]
def tupList4 (t : fp_Tuple4 A A A A) : List A := [t.I1, t.I2, t.I3, t.I4]
def tupList5 (t : fp_Tuple5 A A A A A) : List A := [t.I1, t.I2, t.I3, t.I4, t.I5]
def tupList6 (t : fp_Tuple6 A A A A A A) : List A := [t.I1, t.I2, t.I3, t.I4, t.I5, t.I6]
def tupList7 (t : fp_Tuple7 A A A A A A A) : List A := [t.I1, t.I2, t.I3, t.I4, t.I5, t.I6, t.I7]
def tupList8 (t : fp_Tuple8 A A A A A A A A) : List A := [t.I1, t.I2, t.I3, t.I4, t.I5, t.I6, t.I7, t.I8]
def tupList9 (t : fp_Tuple9 A A A A A A A A A) : List A := [t.I1, t.I2, t.I3, t.I4, t.I5, t.I6, t.I7, t.I8, t.I9]
def tupList10 (t : fp_Tuple10 A A A A A A A A A A) : List A := [t.I1, t.I2, t.I3, t.I4, t.I5, t.I6, t.I7, t.I8, t.I9, t.I10]
def tupList11 (t : fp_Tuple11 A A A A A A A A A A A) : List A := [t.I1, t.I2, t.I3, t.I4, t.I5, t.I6, t.I7, t.I8, t.I9, t.I10, t.I11]
def tupList12 (t : fp_Tuple12 A A A A A A A A A A A A) : List A := [t.I1, t.I2, t.I3, t.I4, t.I5, t.I6, t.I7, t.I8, t.I9, t.I10, t.I11, t.I12]
def tupList13 (t : fp_Tuple13 A A A A A A A A A A A A A) : List A := [t.I1, t.I2, t.I3, t.I4, t.I5, t.I6, t.I7, t.I8, t.I9, t.I10, t.I11, t.I12, t.I13]
def tupList14 (t : fp_Tuple14 A A A A A A A A A A A A A A) : List A := [t.I1, t.I2, t.I3, t.I4, t.I5, t.I6, t.I7, t.I8, t.I9, t.I10, t.I11, t.I12, t.I13, t.I14]
def tupList15 (t : fp_Tuple15 A A A A A A A A A A A A A A A) : List A := [t.I1, t.I2, t.I3, t.I4, t.I5, t.I6, t.I7, t.I8, t.I9, t.I10, t.I11, t.I12, t.I13, t.I14, t.I15]
def tupList16 (t : fp_Tuple16 A A A A A A A A A A A A A A A A) : List A := [t.I1, t.I2, t.I3, t.I4, t.I5, t.I6, t.I7, t.I8, t.I9, t.I10, t.I11, t.I12, t.I13, t.I14, t.I15, t.I16]
def tupList17 (t : fp_Tuple17 A A A A A A A A A A A A A A A A A) : List A := [t.I1, t.I2, t.I3, t.I4, t.I5, t.I6, t.I7, t.I8, t.I9, t.I10, t.I11, t.I12, t.I13, t.I14, t.I15, t.I16, t.I17]
def tupList18 (t : fp_Tuple18 A A A A A A A A A A A A A A A A A A) : List A := [t.I1, t.I2, t.I3, t.I4, t.I5, t.I6, t.I7, t.I8, t.I9, t.I10, t.I11, t.I12, t.I13, t.I14, t.I15, t.I16, t.I17, t.I18]
def tupList19 (t : fp_Tuple19 A A A A A A A A A A A A A A A A A A A) : List A := [t.I1, t.I2, t.I3, t.I4, t.I5, t.I6, t.I7, t.I8, t.I9, t.I10, t.I11, t.I12, t.I13, t.I14, t.I15, t.I16, t.I17, t.I18, t.I19]
def tupList20 (t : fp_Tuple20 A A A A A A A A A A A A A A A A A A A A) : List A := [t.I1, t.I2, t.I3, t.I4, t.I5, t.I6, t.I7, t.I8, t.I9, t.I10, t.I11, t.I12, t.I13, t.I14, t.I15, t.I16, t.I17, t.I18, t.I19, t.I20]
def tupList21 (t : fp_Tuple21 A A A A A A A A A A A A A A A A A A A A A) : List A := [t.I1, t.I2, t.I3, t.I4, t.I5, t.I6, t.I7, t.I8, t.I9, t.I10, t.I11, t.I12, t.I13, t.I14, t.I15, t.I16, t.I17, t.I18, t.I19, t.I20, t.I21]
def labList1 (t : fp_Labelled1 A) : List A := [t.I1]
def labList2 (t : fp_Labelled2 A A) : List A := [t.I1, t.I2]
def labList3 (t : fp_Labelled3 A A A) : List A := [t.I1, t.I2, t.I3]
def labList4 (t : fp_Labelled4 A A A A) : List A := [t.I1, t.I2, t.I3, t.I4]
def labList5 (t : fp_Labelled5 A A A A A) : List A := [t.I1, t.I2, t.I3, t.I4, t.I5]
def labList6 (t : fp_Labelled6 A A A A A A) : List A := [t.I1, t.I2, t.I3, t.I4, t.I5, t.I6]
def labList7 (t : fp_Labelled7 A A A A A A A) : List A := [t.I1, t.I2, t.I3, t.I4, t.I5, t.I6, t.I7]
def labList8 (t : fp_Labelled8 A A A A A A A A) : List A := [t.I1, t.I2, t.I3, t.I4, t.I5, t.I6, t.I7, t.I8]
def labList9 (t : fp_Labelled9 A A A A A A A A A) : List A := [t.I1, t.I2, t.I3, t.I4, t.I5, t.I6, t.I7, t.I8, t.I9]
def labList10 (t : fp_Labelled10 A A A A A A A A A A) : List A := [t.I1, t.I2, t.I3, t.I4, t.I5, t.I6, t.I7, t.I8, t.I9, t.I10]
def labList11 (t : fp_Labelled11 A A A A A A A A A A A) : List A := [t.I1, t.I2, t.I3, t.I4, t.I5, t.I6, t.I7, t.I8, t.I9, t.I10, t.I11]
def labList12 (t : fp_Labelled12 A A A A A A A A A A A A) : List A := [t.I1, t.I2, t.I3, t.I4, t.I5, t.I6, t.I7, t.I8, t.I9, t.I10, t.I11, t.I12]
def labList13 (t : fp_Labelled13 A A A A A A A A A A A A A) : List A := [t.I1, t.I2, t.I3, t.I4, t.I5, t.I6, t.I7, t.I8, t.I9, t.I10, t.I11, t.I12, t.I13]
def labList14 (t : fp_Labelled14 A A A A A A A A A A A A A A) : List A := [t.I1, t.I2, t.I3, t.I4, t.I5, t.I6, t.I7, t.I8, t.I9, t.I10, t.I11, t.I12, t.I13, t.I14]
def labList15 (t : fp_Labelled15 A A A A A A A A A A A A A A A) : List A := [t.I1, t.I2, t.I3, t.I4, t.I5, t.I6, t.I7, t.I8, t.I9, t.I10, t.I11, t.I12, t.I13, t.I14, t.I15]
def labList16 (t : fp_Labelled16 A A A A A A A A A A A A A A A A) : List A := [t.I1, t.I2, t.I3, t.I4, t.I5, t.I6, t.I7, t.I8, t.I9, t.I10, t.I11, t.I12, t.I13, t.I14, t.I15, t.I16]
def labList17 (t : fp_Labelled17 A A A A A A A A A A A A A A A A A) : List A := [t.I1, t.I2, t.I3, t.I4, t.I5, t.I6, t.I7, t.I8, t.I9, t.I10, t.I11, t.I12, t.I13, t.I14, t.I15, t.I16, t.I17]
def labList18 (t : fp_Labelled18 A A A A A A A A A A A A A A A A A A) : List A := [t.I1, t.I2, t.I3, t.I4, t.I5, t.I6, t.I7, t.I8, t.I9, t.I10, t.I11, t.I12, t.I13, t.I14, t.I15, t.I16, t.I17, t.I18]
def labList19 (t : fp_Labelled19 A A A A A A A A A A A A A A A A A A A) : List A := [t.I1, t.I2, t.I3, t.I4, t.I5, t.I6, t.I7, t.I8, t.I9, t.I10, t.I11, t.I12, t.I13, t.I14, t.I15, t.I16, t.I17, t.I18, t.I19]
def labList20 (t : fp_Labelled20 A A A A A A A A A A A A A A A A A A A A) : List A := [t.I1, t.I2, t.I3, t.I4, t.I5, t.I6, t.I7, t.I8, t.I9, t.I10, t.I11, t.I12, t.I13, t.I14, t.I15, t.I16, t.I17, t.I18, t.I19, t.I20]
def labList21 (t : fp_Labelled21 A A A A A A A A A A A A A A A A A A A A A) : List A := [t.I1, t.I2, t.I3, t.I4, t.I5, t.I6, t.I7, t.I8, t.I9, t.I10, t.I11, t.I12, t.I13, t.I14, t.I15, t.I16, t.I17, t.I18, t.I19, t.I20, t.I21]
def hl1 {T : Type} (l : (hlist_Cons A T)) : List A := [l.head]
def hl2 {T : Type} (l : (hlist_Cons A (hlist_Cons A T))) : List A := [l.head, l.tail.head]
def hl3 {T : Type} (l : (hlist_Cons A (hlist_Cons A (hlist_Cons A T)))) : List A := [l.head, l.tail.head, l.tail.tail.head]
def hl4 {T : Type} (l : (hlist_Cons A (hlist_Cons A (hlist_Cons A (hlist_Cons A T))))) : List A := [l.head, l.tail.head, l.tail.tail.head, l.tail.tail.tail.head]
def hl5 {T : Type} (l : (hlist_Cons A (hlist_Cons A (hlist_Cons A (hlist_Cons A (hlist_Cons A T)))))) : List A := [l.head, l.tail.head, l.tail.tail.head, l.tail.tail.tail.head, l.tail.tail.tail.tail.head]
def hl6 {T : Type} (l : (hlist_Cons A (hlist_Cons A (hlist_Cons A (hlist_Cons A (hlist_Cons A (hlist_Cons A T))))))) : List A := [l.head, l.tail.head, l.tail.tail.head, l.tail.tail.tail.head, l.tail.tail.tail.tail.head, l.tail.tail.tail.tail.tail.head]
def hl7 {T : Type} (l : (hlist_Cons A (hlist_Cons A (hlist_Cons A (hlist_Cons A (hlist_Cons A (hlist_Cons A (hlist_Cons A T)))))))) : List A := [l.head, l.tail.head, l.tail.tail.head, l.tail.tail.tail.head, l.tail.tail.tail.tail.head, l.tail.tail.tail.tail.tail.head, l.tail.tail.tail.tail.tail.tail.head]
def hl8 {T : Type} (l : (hlist_Cons A (hlist_Cons A (hlist_Cons A (hlist_Cons A (hlist_Cons A (hlist_Cons A (hlist_Cons A (hlist_Cons A T))))))))) : List A := [l.head, l.tail.head, l.tail.tail.head, l.tail.tail.tail.head, l.tail.tail.tail.tail.head, l.tail.tail.tail.tail.tail.head, l.tail.tail.tail.tail.tail.tail.head, l.tail.tail.tail.tail.tail.tail.tail.head]
def hl9 {T : Type} (l : (hlist_Cons A (hlist_Cons A (hlist_Cons A (hlist_Cons A (hlist_Cons A (hlist_Cons A (hlist_Cons A (hlist_Cons A (hlist_Cons A T)))))))))) : List A := [l.head, l.tail.head, l.tail.tail.head, l.tail.tail.tail.head, l.tail.tail.tail.tail.head, l.tail.tail.tail.tail.tail.head, l.tail.tail.tail.tail.tail.tail.head, l.tail.tail.tail.tail.tail.tail.tail.head, l.tail.tail.tail.tail.tail.tail.tail.tail.head]
def hl10 {T : Type} (l : (hlist_Cons A (hlist_Cons A (hlist_Cons A (hlist_Cons A (hlist_Cons A (hlist_Cons A (hlist_Cons A (hlist_Cons A (hlist_Cons A (hlist_Cons A T))))))))))) : List A := [l.head, l.tail.head, l.tail.tail.head, l.tail.tail.tail.head, l.tail.tail.tail.tail.head, l.tail.tail.tail.tail.tail.head, l.tail.tail.tail.tail.tail.tail.head, l.tail.tail.tail.tail.tail.tail.tail.head, l.tail.tail.tail.tail.tail.tail.tail.tail.head, l.tail.tail.tail.tail.tail.tail.tail.tail.tail.head]
def hl11 {T : Type} (l : (hlist_Cons A (hlist_Cons A (hlist_Cons A (hlist_Cons A (hlist_Cons A (hlist_Cons A (hlist_Cons A (hlist_Cons A (hlist_Cons A (hlist_Cons A (hlist_Cons A T)))))))))))) : List A := [l.head, l.tail.head, l.tail.tail.head, l.tail.tail.tail.head, l.tail.tail.tail.tail.head, l.tail.tail.tail.tail.tail.head, l.tail.tail.tail.tail.tail.tail.head, l.tail.tail.tail.tail.tail.tail.tail.head, l.tail.tail.tail.tail.tail.tail.tail.tail.head, l.tail.tail.tail.tail.tail.tail.tail.tail.tail.head, l.tail.tail.tail.tail.tail.tail.tail.tail.tail.tail.head]
def hl12 {T : Type} (l : (hlist_Cons A (hlist_Cons A (hlist_Cons A (hlist_Cons A (hlist_Cons A (hlist_Cons A (hlist_Cons A (hlist_Cons A (hlist_Cons A (hlist_Cons A (hlist_Cons A (hlist_Cons A T))))))))))))) : List A := [l.head, l.tail.head, l.tail.tail.head, l.tail.tail.tail.head, l.tail.tail.tail.tail.head, l.tail.tail.tail.tail.tail.head, l.tail.tail.tail.tail.tail.tail.head, l.tail.tail.tail.tail.tail.tail.tail.head, l.tail.tail.tail.tail.tail.tail.tail.tail.head, l.tail.tail.tail.tail.tail.tail.tail.tail.tail.head, l.tail.tail.tail.tail.tail.tail.tail.tail.tail.tail.head, l.tail.tail.tail.tail.tail.tail.tail.tail.tail.tail.tail.head]
def hl13 {T : Type} (l : (hlist_Cons A (hlist_Cons A (hlist_Cons A (hlist_Cons A (hlist_Cons A (hlist_Cons A (hlist_Cons A (hlist_Cons A (hlist_Cons A (hlist_Cons A (hlist_Cons A (hlist_Cons A (hlist_Cons A T)))))))))))))) : List A := [l.head, l.tail.head, l.tail.tail.head, l.tail.tail.tail.head, l.tail.tail.tail.tail.head, l.tail.tail.tail.tail.tail.head, l.tail.tail.tail.tail.tail.tail.head, l.tail.tail.tail.tail.tail.tail.tail.head, l.tail.tail.tail.tail.tail.tail.tail.tail.head, l.tail.tail.tail.tail.tail.tail.tail.tail.tail.head, l.tail.tail.tail.tail.tail.tail.tail.tail.tail.tail.head, l.tail.tail.tail.tail.tail.tail.tail.tail.tail.tail.tail.head, l.tail.tail.tail.tail.tail.tail.tail.tail.tail.tail.tail.tail.head]
def hl14 {T : Type} (l : (hlist_Cons A (hlist_Cons A (hlist_Cons A (hlist_Cons A (hlist_Cons A (hlist_Cons A (hlist_Cons A (hlist_Cons A (hlist_Cons A (hlist_Cons A (hlist_Cons A (hlist_Cons A (hlist_Cons A (hlist_Cons A T))))))))))))))) : List A := [l.head, l.tail.head, l.tail.tail.head, l.tail.tail.tail.head, l.tail.tail.tail.tail.head, l.tail.tail.tail.tail.tail.head, l.tail.tail.tail.tail.tail.tail.head, l.tail.tail.tail.tail.tail.tail.tail.head, l.tail.tail.tail.tail.tail.tail.tail.tail.head, l.tail.tail.tail.tail.tail.tail.tail.tail.tail.head, l.tail.tail.tail.tail.tail.tail.tail.tail.tail.tail.head, l.tail.tail.tail.tail.tail.tail.tail.tail.tail.tail.tail.head, l.tail.tail.tail.tail.tail.tail.tail.tail.tail.tail.tail.tail.head, l.tail.tail.tail.tail.tail.tail.tail.tail.tail.tail.tail.tail.tail.head]
def hl15 {T : Type} (l : (hlist_Cons A (hlist_Cons A (hlist_Cons A (hlist_Cons A (hlist_Cons A (hlist_Cons A (hlist_Cons A (hlist_Cons A (hlist_Cons A (hlist_Cons A (hlist_Cons A (hlist_Cons A (hlist_Cons A (hlist_Cons A (hlist_Cons A T)))))))))))))))) : List A := [l.head, l.tail.head, l.tail.tail.head, l.tail.tail.tail.head, l.tail.tail.tail.tail.head, l.tail.tail.tail.tail.tail.head, l.tail.tail.tail.tail.tail.tail.head, l.tail.tail.tail.tail.tail.tail.tail.head, l.tail.tail.tail.tail.tail.tail.tail.tail.head, l.tail.tail.tail.tail.tail.tail.tail.tail.tail.head, l.tail.tail.tail.tail.tail.tail.tail.tail.tail.tail.head, l.tail.tail.tail.tail.tail.tail.tail.tail.tail.tail.tail.head, l.tail.tail.tail.tail.tail.tail.tail.tail.tail.tail.tail.tail.head, l.tail.tail.tail.tail.tail.tail.tail.tail.tail.tail.tail.tail.tail.head, l.tail.tail.tail.tail.tail.tail.tail.tail.tail.tail.tail.tail.tail.tail.head]
def hl16 {T : Type} (l : (hlist_Cons A (hlist_Cons A (hlist_Cons A (hlist_Cons A (hlist_Cons A (hlist_Cons A (hlist_Cons A (hlist_Cons A (hlist_Cons A (hlist_Cons A (hlist_Cons A (hlist_Cons A (hlist_Cons A (hlist_Cons A (hlist_Cons A (hlist_Cons A T))))))))))))))))) : List A := [l.head, l.tail.head, l.tail.tail.head, l.tail.tail.tail.head, l.tail.tail.tail.tail.head, l.tail.tail.tail.tail.tail.head, l.tail.tail.tail.tail.tail.tail.head, l.tail.tail.tail.tail.tail.tail.tail.head, l.tail.tail.tail.tail.tail.tail.tail.tail.head, l.tail.tail.tail.tail.tail.tail.tail.tail.tail.head, l.tail.tail.tail.tail.tail.tail.tail.tail.tail.tail.head, l.tail.tail.tail.tail.tail.tail.tail.tail.tail.tail.tail.head, l.tail.tail.tail.tail.tail.tail.tail.tail.tail.tail.tail.tail.head, l.tail.tail.tail.tail.tail.tail.tail.tail.tail.tail.tail.tail.tail.head, l.tail.tail.tail.tail.tail.tail.tail.tail.tail.tail.tail.tail.tail.tail.head, l.tail.tail.tail.tail.tail.tail.tail.tail.tail.tail.tail.tail.tail.tail.tail.head]
def hl17 {T : Type} (l : (hlist_Cons A (hlist_Cons A (hlist_Cons A (hlist_Cons A (hlist_Cons A (hlist_Cons A (hlist_Cons A (hlist_Cons A (hlist_Cons A (hlist_Cons A (hlist_Cons A (hlist_Cons A (hlist_Cons A (hlist_Cons A (hlist_Cons A (hlist_Cons A (hlist_Cons A T)))))))))))))))))) : List A := [l.head, l.tail.head, l.tail.tail.head, l.tail.tail.tail.head, l.tail.tail.tail.tail.head, l.tail.tail.tail.tail.tail.head, l.tail.tail.tail.tail.tail.tail.head, l.tail.tail.tail.tail.tail.tail.tail.head, l.tail.tail.tail.tail.tail.tail.tail.tail.head, l.tail.tail.tail.tail.tail.tail.tail.tail.tail.head, l.tail.tail.tail.tail.tail.tail.tail.tail.tail.tail.head, l.tail.tail.tail.tail.tail.tail.tail.tail.tail.tail.tail.head, l.tail.tail.tail.tail.tail.tail.tail.tail.tail.tail.tail.tail.head, l.tail.tail.tail.tail.tail.tail.tail.tail.tail.tail.tail.tail.tail.head, l.tail.tail.tail.tail.tail.tail.tail.tail.tail.tail.tail.tail.tail.tail.head, l.tail.tail.tail.tail.tail.tail.tail.tail.tail.tail.tail.tail.tail.tail.tail.head, l.tail.tail.tail.tail.tail.tail.tail.tail.tail.tail.tail.tail.tail.tail.tail.tail.head]
def hl18 {T : Type} (l : (hlist_Cons A (hlist_Cons A (hlist_Cons A (hlist_Cons A (hlist_Cons A (hlist_Cons A (hlist_Cons A (hlist_Cons A (hlist_Cons A (hlist_Cons A (hlist_Cons A (hlist_Cons A (hlist_Cons A (hlist_Cons A (hlist_Cons A (hlist_Cons A (hlist_Cons A (hlist_Cons A T))))))))))))))))))) : List A := [l.head, l.tail.head, l.tail.tail.head, l.tail.tail.tail.head, l.tail.tail.tail.tail.head, l.tail.tail.tail.tail.tail.head, l.tail.tail.tail.tail.tail.tail.head, l.tail.tail.tail.tail.tail.tail.tail.head, l.tail.tail.tail.tail.tail.tail.tail.tail.head, l.tail.tail.tail.tail.tail.tail.tail.tail.tail.head, l.tail.tail.tail.tail.tail.tail.tail.tail.tail.tail.head, l.tail.tail.tail.tail.tail.tail.tail.tail.tail.tail.tail.head, l.tail.tail.tail.tail.tail.tail.tail.tail.tail.tail.tail.tail.head, l.tail.tail.tail.tail.tail.tail.tail.tail.tail.tail.tail.tail.tail.head, l.tail.tail.tail.tail.tail.tail.tail.tail.tail.tail.tail.tail.tail.tail.head, l.tail.tail.tail.tail.tail.tail.tail.tail.tail.tail.tail.tail.tail.tail.tail.head, l.tail.tail.tail.tail.tail.tail.tail.tail.tail.tail.tail.tail.tail.tail.tail.tail.head, l.tail.tail.tail.tail.tail.tail.tail.tail.tail.tail.tail.tail.tail.tail.tail.tail.tail.head]
def hl19 {T : Type} (l : (hlist_Cons A (hlist_Cons A (hlist_Cons A (hlist_Cons A (hlist_Cons A (hlist_Cons A (hlist_Cons A (hlist_Cons A (hlist_Cons A (hlist_Cons A (hlist_Cons A (hlist_Cons A (hlist_Cons A (hlist_Cons A (hlist_Cons A (hlist_Cons A (hlist_Cons A (hlist_Cons A (hlist_Cons A T)))))))))))))))))))) : List A := [l.head, l.tail.head, l.tail.tail.head, l.tail.tail.tail.head, l.tail.tail.tail.tail.head, l.tail.tail.tail.tail.tail.head, l.tail.tail.tail.tail.tail.tail.head, l.tail.tail.tail.tail.tail.tail.tail.head, l.tail.tail.tail.tail.tail.tail.tail.tail.head, l.tail.tail.tail.tail.tail.tail.tail.tail.tail.head, l.tail.tail.tail.tail.tail.tail.tail.tail.tail.tail.head, l.tail.tail.tail.tail.tail.tail.tail.tail.tail.tail.tail.head, l.tail.tail.tail.tail.tail.tail.tail.tail.tail.tail.tail.tail.head, l.tail.tail.tail.tail.tail.tail.tail.tail.tail.tail.tail.tail.tail.head, l.tail.tail.tail.tail.tail.tail.tail.tail.tail.tail.tail.tail.tail.tail.head, l.tail.tail.tail.tail.tail.tail.tail.tail.tail.tail.tail.tail.tail.tail.tail.head, l.tail.tail.tail.tail.tail.tail.tail.tail.tail.tail.tail.tail.tail.tail.tail.tail.head, l.tail.tail.tail.tail.tail.tail.tail.tail.tail.tail.tail.tail.tail.tail.tail.tail.tail.head, l.tail.tail.tail.tail.tail.tail.tail.tail.tail.tail.tail.tail.tail.tail.tail.tail.tail.tail.head]
def hl20 {T : Type} (l : (hlist_Cons A (hlist_Cons A (hlist_Cons A (hlist_Cons A (hlist_Cons A (hlist_Cons A (hlist_Cons A (hlist_Cons A (hlist_Cons A (hlist_Cons A (hlist_Cons A (hlist_Cons A (hlist_Cons A (hlist_Cons A (hlist_Cons A (hlist_Cons A (hlist_Cons A (hlist_Cons A (hlist_Cons A (hlist_Cons A T))))))))))))))))))))) : List A := [l.head, l.tail.head, l.tail.tail.head, l.tail.tail.tail.head, l.tail.tail.tail.tail.head, l.tail.tail.tail.tail.tail.head, l.tail.tail.tail.tail.tail.tail.head, l.tail.tail.tail.tail.tail.tail.tail.head, l.tail.tail.tail.tail.tail.tail.tail.tail.head, l.tail.tail.tail.tail.tail.tail.tail.tail.tail.head, l.tail.tail.tail.tail.tail.tail.tail.tail.tail.tail.head, l.tail.tail.tail.tail.tail.tail.tail.tail.tail.tail.tail.head, l.tail.tail.tail.tail.tail.tail.tail.tail.tail.tail.tail.tail.head, l.tail.tail.tail.tail.tail.tail.tail.tail.tail.tail.tail.tail.tail.head, l.tail.tail.tail.tail.tail.tail.tail.tail.tail.tail.tail.tail.tail.tail.head, l.tail.tail.tail.tail.tail.tail.tail.tail.tail.tail.tail.tail.tail.tail.tail.head, l.tail.tail.tail.tail.tail.tail.tail.tail.tail.tail.tail.tail.tail.tail.tail.tail.head, l.tail.tail.tail.tail.tail.tail.tail.tail.tail.tail.tail.tail.tail.tail.tail.tail.tail.head, l.tail.tail.tail.tail.tail.tail.tail.tail.tail.tail.tail.tail.tail.tail.tail.tail.tail.tail.head, l.tail.tail.tail.tail.tail.tail.tail.tail.tail.tail.tail.tail.tail.tail.tail.tail.tail.tail.tail.head]
def hl21 {T : Type} (l : (hlist_Cons A (hlist_Cons A (hlist_Cons A (hlist_Cons A (hlist_Cons A (hlist_Cons A (hlist_Cons A (hlist_Cons A (hlist_Cons A (hlist_Cons A (hlist_Cons A (hlist_Cons A (hlist_Cons A (hlist_Cons A (hlist_Cons A (hlist_Cons A (hlist_Cons A (hlist_Cons A (hlist_Cons A (hlist_Cons A (hlist_Cons A T)))))))))))))))))))))) : List A := [l.head, l.tail.head, l.tail.tail.head, l.tail.tail.tail.head, l.tail.tail.tail.tail.head, l.tail.tail.tail.tail.tail.head, l.tail.tail.tail.tail.tail.tail.head, l.tail.tail.tail.tail.tail.tail.tail.head, l.tail.tail.tail.tail.tail.tail.tail.tail.head, l.tail.tail.tail.tail.tail.tail.tail.tail.tail.head, l.tail.tail.tail.tail.tail.tail.tail.tail.tail.tail.head, l.tail.tail.tail.tail.tail.tail.tail.tail.tail.tail.tail.head, l.tail.tail.tail.tail.tail.tail.tail.tail.tail.tail.tail.tail.head, l.tail.tail.tail.tail.tail.tail.tail.tail.tail.tail.tail.tail.tail.head, l.tail.tail.tail.tail.tail.tail.tail.tail.tail.tail.tail.tail.tail.tail.head, l.tail.tail.tail.tail.tail.tail.tail.tail.tail.tail.tail.tail.tail.tail.tail.head, l.tail.tail.tail.tail.tail.tail.tail.tail.tail.tail.tail.tail.tail.tail.tail.tail.head, l.tail.tail.tail.tail.tail.tail.tail.tail.tail.tail.tail.tail.tail.tail.tail.tail.tail.head, l.tail.tail.tail.tail.tail.tail.tail.tail.tail.tail.tail.tail.tail.tail.tail.tail.tail.tail.head, l.tail.tail.tail.tail.tail.tail.tail.tail.tail.tail.tail.tail.tail.tail.tail.tail.tail.tail.tail.head, l.tail.tail.tail.tail.tail.tail.tail.tail.tail.tail.tail.tail.tail.tail.tail.tail.tail.tail.tail.tail.head]
def pl2 (p : A × A) : List A := [p.1, p.2]
def pl3 (p : A × A × A) : List A := [p.1, p.2.1, p.2.2]
def pl4 (p : A × A × A × A) : List A := [p.1, p.2.1, p.2.2.1, p.2.2.2]
def pl5 (p : A × A × A × A × A) : List A := [p.1, p.2.1, p.2.2.1, p.2.2.2.1, p.2.2.2.2]
def pl6 (p : A × A × A × A × A × A) : List A := [p.1, p.2.1, p.2.2.1, p.2.2.2.1, p.2.2.2.2.1, p.2.2.2.2.2]
def pl7 (p : A × A × A × A × A × A × A) : List A := [p.1, p.2.1, p.2.2.1, p.2.2.2.1, p.2.2.2.2.1, p.2.2.2.2.2.1, p.2.2.2.2.2.2]
def pl8 (p : A × A × A × A × A × A × A × A) : List A := [p.1, p.2.1, p.2.2.1, p.2.2.2.1, p.2.2.2.2.1, p.2.2.2.2.2.1, p.2.2.2.2.2.2.1, p.2.2.2.2.2.2.2]
def pl9 (p : A × A × A × A × A × A × A × A × A) : List A := [p.1, p.2.1, p.2.2.1, p.2.2.2.1, p.2.2.2.2.1, p.2.2.2.2.2.1, p.2.2.2.2.2.2.1, p.2.2.2.2.2.2.2.1, p.2.2.2.2.2.2.2.2]
def pl10 (p : A × A × A × A × A × A × A × A × A × A) : List A := [p.1, p.2.1, p.2.2.1, p.2.2.2.1, p.2.2.2.2.1, p.2.2.2.2.2.1, p.2.2.2.2.2.2.1, p.2.2.2.2.2.2.2.1, p.2.2.2.2.2.2.2.2.1, p.2.2.2.2.2.2.2.2.2]
def pl11 (p : A × A × A × A × A × A × A × A × A × A × A) : List A := [p.1, p.2.1, p.2.2.1, p.2.2.2.1, p.2.2.2.2.1, p.2.2.2.2.2.1, p.2.2.2.2.2.2.1, p.2.2.2.2.2.2.2.1, p.2.2.2.2.2.2.2.2.1, p.2.2.2.2.2.2.2.2.2.1, p.2.2.2.2.2.2.2.2.2.2]
def pl12 (p : A × A × A × A × A × A × A × A × A × A × A × A) : List A := [p.1, p.2.1, p.2.2.1, p.2.2.2.1, p.2.2.2.2.1, p.2.2.2.2.2.1, p.2.2.2.2.2.2.1, p.2.2.2.2.2.2.2.1, p.2.2.2.2.2.2.2.2.1, p.2.2.2.2.2.2.2.2.2.1, p.2.2.2.2.2.2.2.2.2.2.1, p.2.2.2.2.2.2.2.2.2.2.2]
def pl13 (p : A × A × A × A × A × A × A × A × A × A × A × A × A) : List A := [p.1, p.2.1, p.2.2.1, p.2.2.2.1, p.2.2.2.2.1, p.2.2.2.2.2.1, p.2.2.2.2.2.2.1, p.2.2.2.2.2.2.2.1, p.2.2.2.2.2.2.2.2.1, p.2.2.2.2.2.2.2.2.2.1, p.2.2.2.2.2.2.2.2.2.2.1, p.2.2.2.2.2.2.2.2.2.2.2.1, p.2.2.2.2.2.2.2.2.2.2.2.2]
def pl14 (p : A × A × A × A × A × A × A × A × A × A × A × A × A × A) : List A := [p.1, p.2.1, p.2.2.1, p.2.2.2.1, p.2.2.2.2.1, p.2.2.2.2.2.1, p.2.2.2.2.2.2.1, p.2.2.2.2.2.2.2.1, p.2.2.2.2.2.2.2.2.1, p.2.2.2.2.2.2.2.2.2.1, p.2.2.2.2.2.2.2.2.2.2.1, p.2.2.2.2.2.2.2.2.2.2.2.1, p.2.2.2.2.2.2.2.2.2.2.2.2.1, p.2.2.2.2.2.2.2.2.2.2.2.2.2]
def pl15 (p : A × A × A × A × A × A × A × A × A × A × A × A × A × A × A) : List A := [p.1, p.2.1, p.2.2.1, p.2.2.2.1, p.2.2.2.2.1, p.2.2.2.2.2.1, p.2.2.2.2.2.2.1, p.2.2.2.2.2.2.2.1, p.2.2.2.2.2.2.2.2.1, p.2.2.2.2.2.2.2.2.2.1, p.2.2.2.2.2.2.2.2.2.2.1, p.2.2.2.2.2.2.2.2.2.2.2.1, p.2.2.2.2.2.2.2.2.2.2.2.2.1, p.2.2.2.2.2.2.2.2.2.2.2.2.2.1, p.2.2.2.2.2.2.2.2.2.2.2.2.2.2]
def pl16 (p : A × A × A × A × A × A × A × A × A × A × A × A × A × A × A × A) : List A := [p.1, p.2.1, p.2.2.1, p.2.2.2.1, p.2.2.2.2.1, p.2.2.2.2.2.1, p.2.2.2.2.2.2.1, p.2.2.2.2.2.2.2.1, p.2.2.2.2.2.2.2.2.1, p.2.2.2.2.2.2.2.2.2.1, p.2.2.2.2.2.2.2.2.2.2.1, p.2.2.2.2.2.2.2.2.2.2.2.1, p.2.2.2.2.2.2.2.2.2.2.2.2.1, p.2.2.2.2.2.2.2.2.2.2.2.2.2.1, p.2.2.2.2.2.2.2.2.2.2.2.2.2.2.1, p.2.2.2.2.2.2.2.2.2.2.2.2.2.2.2]
def pl17 (p : A × A × A × A × A × A × A × A × A × A × A × A × A × A × A × A × A) : List A := [p.1, p.2.1, p.2.2.1, p.2.2.2.1, p.2.2.2.2.1, p.2.2.2.2.2.1, p.2.2.2.2.2.2.1, p.2.2.2.2.2.2.2.1, p.2.2.2.2.2.2.2.2.1, p.2.2.2.2.2.2.2.2.2.1, p.2.2.2.2.2.2.2.2.2.2.1, p.2.2.2.2.2.2.2.2.2.2.2.1, p.2.2.2.2.2.2.2.2.2.2.2.2.1, p.2.2.2.2.2.2.2.2.2.2.2.2.2.1, p.2.2.2.2.2.2.2.2.2.2.2.2.2.2.1, p.2.2.2.2.2.2.2.2.2.2.2.2.2.2.2.1, p.2.2.2.2.2.2.2.2.2.2.2.2.2.2.2.2]
def pl18 (p : A × A × A × A × A × A × A × A × A × A × A × A × A × A × A × A × A × A) : List A := [p.1, p.2.1, p.2.2.1, p.2.2.2.1, p.2.2.2.2.1, p.2.2.2.2.2.1, p.2.2.2.2.2.2.1, p.2.2.2.2.2.2.2.1, p.2.2.2.2.2.2.2.2.1, p.2.2.2.2.2.2.2.2.2.1, p.2.2.2.2.2.2.2.2.2.2.1, p.2.2.2.2.2.2.2.2.2.2.2.1, p.2.2.2.2.2.2.2.2.2.2.2.2.1, p.2.2.2.2.2.2.2.2.2.2.2.2.2.1, p.2.2.2.2.2.2.2.2.2.2.2.2.2.2.1, p.2.2.2.2.2.2.2.2.2.2.2.2.2.2.2.1, p.2.2.2.2.2.2.2.2.2.2.2.2.2.2.2.2.1, p.2.2.2.2.2.2.2.2.2.2.2.2.2.2.2.2.2]
def pl19 (p : A × A × A × A × A × A × A × A × A × A × A × A × A × A × A × A × A × A × A) : List A := [p.1, p.2.1, p.2.2.1, p.2.2.2.1, p.2.2.2.2.1, p.2.2.2.2.2.1, p.2.2.2.2.2.2.1, p.2.2.2.2.2.2.2.1, p.2.2.2.2.2.2.2.2.1, p.2.2.2.2.2.2.2.2.2.1, p.2.2.2.2.2.2.2.2.2.2.1, p.2.2.2.2.2.2.2.2.2.2.2.1, p.2.2.2.2.2.2.2.2.2.2.2.2.1, p.2.2.2.2.2.2.2.2.2.2.2.2.2.1, p.2.2.2.2.2.2.2.2.2.2.2.2.2.2.1, p.2.2.2.2.2.2.2.2.2.2.2.2.2.2.2.1, p.2.2.2.2.2.2.2.2.2.2.2.2.2.2.2.2.1, p.2.2.2.2.2.2.2.2.2.2.2.2.2.2.2.2.2.1, p.2.2.2.2.2.2.2.2.2.2.2.2.2.2.2.2.2.2]
def pl20 (p : A × A × A × A × A × A × A × A × A × A × A × A × A × A × A × A × A × A × A × A) : List A := [p.1, p.2.1, p.2.2.1, p.2.2.2.1, p.2.2.2.2.1, p.2.2.2.2.2.1, p.2.2.2.2.2.2.1, p.2.2.2.2.2.2.2.1, p.2.2.2.2.2.2.2.2.1, p.2.2.2.2.2.2.2.2.2.1, p.2.2.2.2.2.2.2.2.2.2.1, p.2.2.2.2.2.2.2.2.2.2.2.1, p.2.2.2.2.2.2.2.2.2.2.2.2.1, p.2.2.2.2.2.2.2.2.2.2.2.2.2.1, p.2.2.2.2.2.2.2.2.2.2.2.2.2.2.1, p.2.2.2.2.2.2.2.2.2.2.2.2.2.2.2.1, p.2.2.2.2.2.2.2.2.2.2.2.2.2.2.2.2.1, p.2.2.2.2.2.2.2.2.2.2.2.2.2.2.2.2.2.1, p.2.2.2.2.2.2.2.2.2.2.2.2.2.2.2.2.2.2.1, p.2.2.2.2.2.2.2.2.2.2.2.2.2.2.2.2.2.2.2]
def pl21 (p : A × A × A × A × A × A × A × A × A × A × A × A × A × A × A × A × A × A × A × A × A) : List A := [p.1, p.2.1, p.2.2.1, p.2.2.2.1, p.2.2.2.2.1, p.2.2.2.2.2.1, p.2.2.2.2.2.2.1, p.2.2.2.2.2.2.2.1, p.2.2.2.2.2.2.2.2.1, p.2.2.2.2.2.2.2.2.2.1, p.2.2.2.2.2.2.2.2.2.2.1, p.2.2.2.2.2.2.2.2.2.2.2.1, p.2.2.2.2.2.2.2.2.2.2.2.2.1, p.2.2.2.2.2.2.2.2.2.2.2.2.2.1, p.2.2.2.2.2.2.2.2.2.2.2.2.2.2.1, p.2.2.2.2.2.2.2.2.2.2.2.2.2.2.2.1, p.2.2.2.2.2.2.2.2.2.2.2.2.2.2.2.2.1, p.2.2.2.2.2.2.2.2.2.2.2.2.2.2.2.2.2.1, p.2.2.2.2.2.2.2.2.2.2.2.2.2.2.2.2.2.2.1, p.2.2.2.2.2.2.2.2.2.2.2.2.2.2.2.2.2.2.2.1, p.2.2.2.2.2.2.2.2.2.2.2.2.2.2.2.2.2.2.2.2]
def lf1 (g : A → GoM R) : NFun A R := fun l => match l with | [a1] => g a1 | _ => arityPanic
theorem nf_lf1 (g : A → GoM R) : (fun a1 => lf1 g [a1]) = g := by rfl
def lf2 (g : A → A → GoM R) : NFun A R := fun l => match l with | [a1, a2] => g a1 a2 | _ => arityPanic
theorem nf_lf2 (g : A → A → GoM R) : (fun a1 a2 => lf2 g [a1, a2]) = g := by rfl
def lf3 (g : A → A → A → GoM R) : NFun A R := fun l => match l with | [a1, a2, a3] => g a1 a2 a3 | _ => arityPanic
theorem nf_lf3 (g : A → A → A → GoM R) : (fun a1 a2 a3 => lf3 g [a1, a2, a3]) = g := by rfl
def lf4 (g : A → A → A → A → GoM R) : NFun A R := fun l => match l with | [a1, a2, a3, a4] => g a1 a2 a3 a4 | _ => arityPanic
theorem nf_lf4 (g : A → A → A → A → GoM R) : (fun a1 a2 a3 a4 => lf4 g [a1, a2, a3, a4]) = g := by rfl
def lf5 (g : A → A → A → A → A → GoM R) : NFun A R := fun l => match l with | [a1, a2, a3, a4, a5] => g a1 a2 a3 a4 a5 | _ => arityPanic
theorem nf_lf5 (g : A → A → A → A → A → GoM R) : (fun a1 a2 a3 a4 a5 => lf5 g [a1, a2, a3, a4, a5]) = g := by rfl
def lf6 (g : A → A → A → A → A → A → GoM R) : NFun A R := fun l => match l with | [a1, a2, a3, a4, a5, a6] => g a1 a2 a3 a4 a5 a6 | _ => arityPanic
theorem nf_lf6 (g : A → A → A → A → A → A → GoM R) : (fun a1 a2 a3 a4 a5 a6 => lf6 g [a1, a2, a3, a4, a5, a6]) = g := by rfl
def lf7 (g : A → A → A → A → A → A → A → GoM R) : NFun A R := fun l => match l with | [a1, a2, a3, a4, a5, a6, a7] => g a1 a2 a3 a4 a5 a6 a7 | _ => arityPanic
theorem nf_lf7 (g : A → A → A → A → A → A → A → GoM R) : (fun a1 a2 a3 a4 a5 a6 a7 => lf7 g [a1, a2, a3, a4, a5, a6, a7]) = g := by rfl
def lf8 (g : A → A → A → A → A → A → A → A → GoM R) : NFun A R := fun l => match l with | [a1, a2, a3, a4, a5, a6, a7, a8] => g a1 a2 a3 a4 a5 a6 a7 a8 | _ => arityPanic
theorem nf_lf8 (g : A → A → A → A → A → A → A → A → GoM R) : (fun a1 a2 a3 a4 a5 a6 a7 a8 => lf8 g [a1, a2, a3, a4, a5, a6, a7, a8]) = g := by rfl
def lf9 (g : A → A → A → A → A → A → A → A → A → GoM R) : NFun A R := fun l => match l with | [a1, a2, a3, a4, a5, a6, a7, a8, a9] => g a1 a2 a3 a4 a5 a6 a7 a8 a9 | _ => arityPanic
theorem nf_lf9 (g : A → A → A → A → A → A → A → A → A → GoM R) : (fun a1 a2 a3 a4 a5 a6 a7 a8 a9 => lf9 g [a1, a2, a3, a4, a5, a6, a7, a8, a9]) = g := by rfl

-- ------------------------------------------------------------------------------------------------
-- curried/curried_gen.go (+ curried.go)

theorem curried_func1_is_model (f : NFun A R) : curried_Func1 (fun a1 => f [a1]) = curry 0 f := by rfl
theorem curried_func2_is_model (f : NFun A R) : curried_Func2 (fun a1 a2 => f [a1, a2]) = curry 1 f := by rfl
theorem curried_func3_is_model (f : NFun A R) : curried_Func3 (fun a1 a2 a3 => f [a1, a2, a3]) = curry 2 f := by rfl
theorem curried_func4_is_model (f : NFun A R) : curried_Func4 (fun a1 a2 a3 a4 => f [a1, a2, a3, a4]) = curry 3 f := by rfl
theorem curried_func5_is_model (f : NFun A R) : curried_Func5 (fun a1 a2 a3 a4 a5 => f [a1, a2, a3, a4, a5]) = curry 4 f := by rfl
theorem curried_func6_is_model (f : NFun A R) : curried_Func6 (fun a1 a2 a3 a4 a5 a6 => f [a1, a2, a3, a4, a5, a6]) = curry 5 f := by rfl
theorem curried_func7_is_model (f : NFun A R) : curried_Func7 (fun a1 a2 a3 a4 a5 a6 a7 => f [a1, a2, a3, a4, a5, a6, a7]) = curry 6 f := by rfl
theorem curried_func8_is_model (f : NFun A R) : curried_Func8 (fun a1 a2 a3 a4 a5 a6 a7 a8 => f [a1, a2, a3, a4, a5, a6, a7, a8]) = curry 7 f := by rfl
theorem curried_func9_is_model (f : NFun A R) : curried_Func9 (fun a1 a2 a3 a4 a5 a6 a7 a8 a9 => f [a1, a2, a3, a4, a5, a6, a7, a8, a9]) = curry 8 f := by rfl
theorem curried_revert2_is_model (f : CurF A R 1) (a1 a2 : A) :
    curried_Revert2 f a1 a2 = revert 1 f [a1, a2] := by rfl
theorem curried_revert3_is_model (f : CurF A R 2) (a1 a2 a3 : A) :
    curried_Revert3 f a1 a2 a3 = revert 2 f [a1, a2, a3] := by rfl
theorem curried_revert4_is_model (f : CurF A R 3) (a1 a2 a3 a4 : A) :
    curried_Revert4 f a1 a2 a3 a4 = revert 3 f [a1, a2, a3, a4] := by rfl
theorem curried_revert5_is_model (f : CurF A R 4) (a1 a2 a3 a4 a5 : A) :
    curried_Revert5 f a1 a2 a3 a4 a5 = revert 4 f [a1, a2, a3, a4, a5] := by rfl
theorem curried_revert6_is_model (f : CurF A R 5) (a1 a2 a3 a4 a5 a6 : A) :
    curried_Revert6 f a1 a2 a3 a4 a5 a6 = revert 5 f [a1, a2, a3, a4, a5, a6] := by rfl
theorem curried_revert7_is_model (f : CurF A R 6) (a1 a2 a3 a4 a5 a6 a7 : A) :
    curried_Revert7 f a1 a2 a3 a4 a5 a6 a7 = revert 6 f [a1, a2, a3, a4, a5, a6, a7] := by rfl
theorem curried_revert8_is_model (f : CurF A R 7) (a1 a2 a3 a4 a5 a6 a7 a8 : A) :
    curried_Revert8 f a1 a2 a3 a4 a5 a6 a7 a8 = revert 7 f [a1, a2, a3, a4, a5, a6, a7, a8] := by rfl
theorem curried_revert9_is_model (f : CurF A R 8) (a1 a2 a3 a4 a5 a6 a7 a8 a9 : A) :
    curried_Revert9 f a1 a2 a3 a4 a5 a6 a7 a8 a9 = revert 8 f [a1, a2, a3, a4, a5, a6, a7, a8, a9] := by rfl
theorem curried_flip_is_model (f : CurF A R 1) : curried_Flip f = flip1 f := by rfl
theorem curried_flip2_is_model (f : CurF A R 2) : curried_Flip2 f = Arity.flip 1 f := by rfl
theorem curried_flip3_is_model (f : CurF A R 3) : curried_Flip3 f = Arity.flip 2 f := by rfl
theorem curried_flip4_is_model (f : CurF A R 4) : curried_Flip4 f = Arity.flip 3 f := by rfl
theorem curried_flip5_is_model (f : CurF A R 5) : curried_Flip5 f = Arity.flip 4 f := by rfl
theorem curried_flip6_is_model (f : CurF A R 6) : curried_Flip6 f = Arity.flip 5 f := by rfl
theorem curried_flip7_is_model (f : CurF A R 7) : curried_Flip7 f = Arity.flip 6 f := by rfl
theorem curried_flip8_is_model (f : CurF A R 8) : curried_Flip8 f = Arity.flip 7 f := by rfl
theorem curried_slipL3_is_model (f : CurF A R 2) : curried_SlipL3 f = slipL 1 f := by rfl
theorem curried_slipL4_is_model (f : CurF A R 3) : curried_SlipL4 f = slipL 2 f := by rfl
theorem curried_slipL5_is_model (f : CurF A R 4) : curried_SlipL5 f = slipL 3 f := by rfl
theorem curried_slipL6_is_model (f : CurF A R 5) : curried_SlipL6 f = slipL 4 f := by rfl
theorem curried_slipL7_is_model (f : CurF A R 6) : curried_SlipL7 f = slipL 5 f := by rfl
theorem curried_slipL8_is_model (f : CurF A R 7) : curried_SlipL8 f = slipL 6 f := by rfl
theorem curried_slipL9_is_model (f : CurF A R 8) : curried_SlipL9 f = slipL 7 f := by rfl
theorem curried_compose2_is_model (f : CurF A GA 1) (g : GA → GoM GR) : curried_Compose2 f g = composeCur 0 f g := by rfl
theorem curried_compose3_is_model (f : CurF A GA 2) (g : GA → GoM GR) : curried_Compose3 f g = composeCur 1 f g := by rfl
theorem curried_compose4_is_model (f : CurF A GA 3) (g : GA → GoM GR) : curried_Compose4 f g = composeCur 2 f g := by rfl
theorem curried_compose5_is_model (f : CurF A GA 4) (g : GA → GoM GR) : curried_Compose5 f g = composeCur 3 f g := by rfl
theorem curried_compose6_is_model (f : CurF A GA 5) (g : GA → GoM GR) : curried_Compose6 f g = composeCur 4 f g := by rfl
theorem curried_compose7_is_model (f : CurF A GA 6) (g : GA → GoM GR) : curried_Compose7 f g = composeCur 5 f g := by rfl
theorem curried_compose8_is_model (f : CurF A GA 7) (g : GA → GoM GR) : curried_Compose8 f g = composeCur 6 f g := by rfl
theorem curried_compose9_is_model (f : CurF A GA 8) (g : GA → GoM GR) : curried_Compose9 f g = composeCur 7 f g := by rfl
theorem curried_flipApply_is_model (f : CurF A R 1) (b : A) : curried_FlipApply f b = flipApply 0 f [b] := by rfl
theorem curried_flipApply2_is_model (f : CurF A R 2) (a2 a3 : A) :
    curried_FlipApply2 f a2 a3 = flipApply 1 f [a2, a3] := by rfl
theorem curried_flipApply3_is_model (f : CurF A R 3) (a2 a3 a4 : A) :
    curried_FlipApply3 f a2 a3 a4 = flipApply 2 f [a2, a3, a4] := by rfl
theorem curried_flipApply4_is_model (f : CurF A R 4) (a2 a3 a4 a5 : A) :
    curried_FlipApply4 f a2 a3 a4 a5 = flipApply 3 f [a2, a3, a4, a5] := by rfl
theorem curried_flipApply5_is_model (f : CurF A R 5) (a2 a3 a4 a5 a6 : A) :
    curried_FlipApply5 f a2 a3 a4 a5 a6 = flipApply 4 f [a2, a3, a4, a5, a6] := by rfl
theorem curried_flipApply6_is_model (f : CurF A R 6) (a2 a3 a4 a5 a6 a7 : A) :
    curried_FlipApply6 f a2 a3 a4 a5 a6 a7 = flipApply 5 f [a2, a3, a4, a5, a6, a7] := by rfl
theorem curried_flipApply7_is_model (f : CurF A R 7) (a2 a3 a4 a5 a6 a7 a8 : A) :
    curried_FlipApply7 f a2 a3 a4 a5 a6 a7 a8 = flipApply 6 f [a2, a3, a4, a5, a6, a7, a8] := by rfl
theorem curried_flipApply8_is_model (f : CurF A R 8) (a2 a3 a4 a5 a6 a7 a8 a9 : A) :
    curried_FlipApply8 f a2 a3 a4 a5 a6 a7 a8 a9 = flipApply 7 f [a2, a3, a4, a5, a6, a7, a8, a9] := by rfl

-- ------------------------------------------------------------------------------------------------
-- as/func_gen.go

theorem as_func1_is_model (f : NFun A R) (a1 : A) : as_Func1 (fun a1 => f [a1]) a1 = asFunc f [a1] := by rfl
theorem as_func2_is_model (f : NFun A R) (a1 a2 : A) : as_Func2 (fun a1 a2 => f [a1, a2]) a1 a2 = asFunc f [a1, a2] := by rfl
theorem as_func3_is_model (f : NFun A R) (a1 a2 a3 : A) : as_Func3 (fun a1 a2 a3 => f [a1, a2, a3]) a1 a2 a3 = asFunc f [a1, a2, a3] := by rfl
theorem as_func4_is_model (f : NFun A R) (a1 a2 a3 a4 : A) : as_Func4 (fun a1 a2 a3 a4 => f [a1, a2, a3, a4]) a1 a2 a3 a4 = asFunc f [a1, a2, a3, a4] := by rfl
theorem as_func5_is_model (f : NFun A R) (a1 a2 a3 a4 a5 : A) : as_Func5 (fun a1 a2 a3 a4 a5 => f [a1, a2, a3, a4, a5]) a1 a2 a3 a4 a5 = asFunc f [a1, a2, a3, a4, a5] := by rfl
theorem as_func6_is_model (f : NFun A R) (a1 a2 a3 a4 a5 a6 : A) : as_Func6 (fun a1 a2 a3 a4 a5 a6 => f [a1, a2, a3, a4, a5, a6]) a1 a2 a3 a4 a5 a6 = asFunc f [a1, a2, a3, a4, a5, a6] := by rfl
theorem as_func7_is_model (f : NFun A R) (a1 a2 a3 a4 a5 a6 a7 : A) : as_Func7 (fun a1 a2 a3 a4 a5 a6 a7 => f [a1, a2, a3, a4, a5, a6, a7]) a1 a2 a3 a4 a5 a6 a7 = asFunc f [a1, a2, a3, a4, a5, a6, a7] := by rfl
theorem as_func8_is_model (f : NFun A R) (a1 a2 a3 a4 a5 a6 a7 a8 : A) : as_Func8 (fun a1 a2 a3 a4 a5 a6 a7 a8 => f [a1, a2, a3, a4, a5, a6, a7, a8]) a1 a2 a3 a4 a5 a6 a7 a8 = asFunc f [a1, a2, a3, a4, a5, a6, a7, a8] := by rfl
theorem as_func9_is_model (f : NFun A R) (a1 a2 a3 a4 a5 a6 a7 a8 a9 : A) : as_Func9 (fun a1 a2 a3 a4 a5 a6 a7 a8 a9 => f [a1, a2, a3, a4, a5, a6, a7, a8, a9]) a1 a2 a3 a4 a5 a6 a7 a8 a9 = asFunc f [a1, a2, a3, a4, a5, a6, a7, a8, a9] := by rfl
theorem as_supplier1_is_model (f : NFun A R) (a1 : A) : as_Supplier1 (fun a1 => f [a1]) a1 = supplier f [a1] := by rfl
theorem as_supplier2_is_model (f : NFun A R) (a1 a2 : A) : as_Supplier2 (fun a1 a2 => f [a1, a2]) a1 a2 = supplier f [a1, a2] := by rfl
theorem as_supplier3_is_model (f : NFun A R) (a1 a2 a3 : A) : as_Supplier3 (fun a1 a2 a3 => f [a1, a2, a3]) a1 a2 a3 = supplier f [a1, a2, a3] := by rfl
theorem as_supplier4_is_model (f : NFun A R) (a1 a2 a3 a4 : A) : as_Supplier4 (fun a1 a2 a3 a4 => f [a1, a2, a3, a4]) a1 a2 a3 a4 = supplier f [a1, a2, a3, a4] := by rfl
theorem as_supplier5_is_model (f : NFun A R) (a1 a2 a3 a4 a5 : A) : as_Supplier5 (fun a1 a2 a3 a4 a5 => f [a1, a2, a3, a4, a5]) a1 a2 a3 a4 a5 = supplier f [a1, a2, a3, a4, a5] := by rfl
theorem as_supplier6_is_model (f : NFun A R) (a1 a2 a3 a4 a5 a6 : A) : as_Supplier6 (fun a1 a2 a3 a4 a5 a6 => f [a1, a2, a3, a4, a5, a6]) a1 a2 a3 a4 a5 a6 = supplier f [a1, a2, a3, a4, a5, a6] := by rfl
theorem as_supplier7_is_model (f : NFun A R) (a1 a2 a3 a4 a5 a6 a7 : A) : as_Supplier7 (fun a1 a2 a3 a4 a5 a6 a7 => f [a1, a2, a3, a4, a5, a6, a7]) a1 a2 a3 a4 a5 a6 a7 = supplier f [a1, a2, a3, a4, a5, a6, a7] := by rfl
theorem as_supplier8_is_model (f : NFun A R) (a1 a2 a3 a4 a5 a6 a7 a8 : A) : as_Supplier8 (fun a1 a2 a3 a4 a5 a6 a7 a8 => f [a1, a2, a3, a4, a5, a6, a7, a8]) a1 a2 a3 a4 a5 a6 a7 a8 = supplier f [a1, a2, a3, a4, a5, a6, a7, a8] := by rfl
theorem as_supplier9_is_model (f : NFun A R) (a1 a2 a3 a4 a5 a6 a7 a8 a9 : A) : as_Supplier9 (fun a1 a2 a3 a4 a5 a6 a7 a8 a9 => f [a1, a2, a3, a4, a5, a6, a7, a8, a9]) a1 a2 a3 a4 a5 a6 a7 a8 a9 = supplier f [a1, a2, a3, a4, a5, a6, a7, a8, a9] := by rfl
theorem as_curried2_is_model (f : NFun A R) : as_Curried2 (fun a1 a2 => f [a1, a2]) = asCurried 0 f := by rfl
theorem as_curried3_is_model (f : NFun A R) : as_Curried3 (fun a1 a2 a3 => f [a1, a2, a3]) = asCurried 1 f := by rfl
theorem as_curried4_is_model (f : NFun A R) : as_Curried4 (fun a1 a2 a3 a4 => f [a1, a2, a3, a4]) = asCurried 2 f := by rfl
theorem as_curried5_is_model (f : NFun A R) : as_Curried5 (fun a1 a2 a3 a4 a5 => f [a1, a2, a3, a4, a5]) = asCurried 3 f := by rfl
theorem as_curried6_is_model (f : NFun A R) : as_Curried6 (fun a1 a2 a3 a4 a5 a6 => f [a1, a2, a3, a4, a5, a6]) = asCurried 4 f := by rfl
theorem as_curried7_is_model (f : NFun A R) : as_Curried7 (fun a1 a2 a3 a4 a5 a6 a7 => f [a1, a2, a3, a4, a5, a6, a7]) = asCurried 5 f := by rfl
theorem as_curried8_is_model (f : NFun A R) : as_Curried8 (fun a1 a2 a3 a4 a5 a6 a7 a8 => f [a1, a2, a3, a4, a5, a6, a7, a8]) = asCurried 6 f := by rfl
theorem as_curried9_is_model (f : NFun A R) : as_Curried9 (fun a1 a2 a3 a4 a5 a6 a7 a8 a9 => f [a1, a2, a3, a4, a5, a6, a7, a8, a9]) = asCurried 7 f := by rfl
theorem as_unTupled2_is_model (f : NFun A R) (a1 a2 : A) :
    as_UnTupled2 (fun t => f (tupList2 t)) a1 a2 = unTupled f [a1, a2] := by rfl
theorem as_unTupled3_is_model (f : NFun A R) (a1 a2 a3 : A) :
    as_UnTupled3 (fun t => f (tupList3 t)) a1 a2 a3 = unTupled f [a1, a2, a3] := by rfl
theorem as_unTupled4_is_model (f : NFun A R) (a1 a2 a3 a4 : A) :
    as_UnTupled4 (fun t => f (tupList4 t)) a1 a2 a3 a4 = unTupled f [a1, a2, a3, a4] := by rfl
theorem as_unTupled5_is_model (f : NFun A R) (a1 a2 a3 a4 a5 : A) :
    as_UnTupled5 (fun t => f (tupList5 t)) a1 a2 a3 a4 a5 = unTupled f [a1, a2, a3, a4, a5] := by rfl
theorem as_unTupled6_is_model (f : NFun A R) (a1 a2 a3 a4 a5 a6 : A) :
    as_UnTupled6 (fun t => f (tupList6 t)) a1 a2 a3 a4 a5 a6 = unTupled f [a1, a2, a3, a4, a5, a6] := by rfl
theorem as_unTupled7_is_model (f : NFun A R) (a1 a2 a3 a4 a5 a6 a7 : A) :
    as_UnTupled7 (fun t => f (tupList7 t)) a1 a2 a3 a4 a5 a6 a7 = unTupled f [a1, a2, a3, a4, a5, a6, a7] := by rfl
theorem as_unTupled8_is_model (f : NFun A R) (a1 a2 a3 a4 a5 a6 a7 a8 : A) :
    as_UnTupled8 (fun t => f (tupList8 t)) a1 a2 a3 a4 a5 a6 a7 a8 = unTupled f [a1, a2, a3, a4, a5, a6, a7, a8] := by rfl
theorem as_unTupled9_is_model (f : NFun A R) (a1 a2 a3 a4 a5 a6 a7 a8 a9 : A) :
    as_UnTupled9 (fun t => f (tupList9 t)) a1 a2 a3 a4 a5 a6 a7 a8 a9 = unTupled f [a1, a2, a3, a4, a5, a6, a7, a8, a9] := by rfl
theorem as_tupled2_is_model (f : NFun A R) (t : fp_Tuple2 A A) : as_Tupled2 (fun a1 a2 => f [a1, a2]) t = tupled f (tupList2 t) := by rfl

-- ------------------------------------------------------------------------------------------------
-- as/tuple_gen.go, as/labelled_gen.go

theorem as_tuple1_is_model (a1 : A) : tupList1 (as_Tuple1 a1) = mkTuple [a1] := by rfl
theorem as_tuple2_is_model (a1 a2 : A) : tupList2 (as_Tuple2 a1 a2) = mkTuple [a1, a2] := by rfl
theorem as_tuple3_is_model (a1 a2 a3 : A) : tupList3 (as_Tuple3 a1 a2 a3) = mkTuple [a1, a2, a3] := by rfl
theorem as_tuple4_is_model (a1 a2 a3 a4 : A) : tupList4 (as_Tuple4 a1 a2 a3 a4) = mkTuple [a1, a2, a3, a4] := by rfl
theorem as_tuple5_is_model (a1 a2 a3 a4 a5 : A) : tupList5 (as_Tuple5 a1 a2 a3 a4 a5) = mkTuple [a1, a2, a3, a4, a5] := by rfl
theorem as_tuple6_is_model (a1 a2 a3 a4 a5 a6 : A) : tupList6 (as_Tuple6 a1 a2 a3 a4 a5 a6) = mkTuple [a1, a2, a3, a4, a5, a6] := by rfl
theorem as_tuple7_is_model (a1 a2 a3 a4 a5 a6 a7 : A) : tupList7 (as_Tuple7 a1 a2 a3 a4 a5 a6 a7) = mkTuple [a1, a2, a3, a4, a5, a6, a7] := by rfl
theorem as_tuple8_is_model (a1 a2 a3 a4 a5 a6 a7 a8 : A) : tupList8 (as_Tuple8 a1 a2 a3 a4 a5 a6 a7 a8) = mkTuple [a1, a2, a3, a4, a5, a6, a7, a8] := by rfl
theorem as_tuple9_is_model (a1 a2 a3 a4 a5 a6 a7 a8 a9 : A) : tupList9 (as_Tuple9 a1 a2 a3 a4 a5 a6 a7 a8 a9) = mkTuple [a1, a2, a3, a4, a5, a6, a7, a8, a9] := by rfl
theorem as_tuple10_is_model (a1 a2 a3 a4 a5 a6 a7 a8 a9 a10 : A) : tupList10 (as_Tuple10 a1 a2 a3 a4 a5 a6 a7 a8 a9 a10) = mkTuple [a1, a2, a3, a4, a5, a6, a7, a8, a9, a10] := by rfl
theorem as_tuple11_is_model (a1 a2 a3 a4 a5 a6 a7 a8 a9 a10 a11 : A) : tupList11 (as_Tuple11 a1 a2 a3 a4 a5 a6 a7 a8 a9 a10 a11) = mkTuple [a1, a2, a3, a4, a5, a6, a7, a8, a9, a10, a11] := by rfl
theorem as_tuple12_is_model (a1 a2 a3 a4 a5 a6 a7 a8 a9 a10 a11 a12 : A) : tupList12 (as_Tuple12 a1 a2 a3 a4 a5 a6 a7 a8 a9 a10 a11 a12) = mkTuple [a1, a2, a3, a4, a5, a6, a7, a8, a9, a10, a11, a12] := by rfl
theorem as_tuple13_is_model (a1 a2 a3 a4 a5 a6 a7 a8 a9 a10 a11 a12 a13 : A) : tupList13 (as_Tuple13 a1 a2 a3 a4 a5 a6 a7 a8 a9 a10 a11 a12 a13) = mkTuple [a1, a2, a3, a4, a5, a6, a7, a8, a9, a10, a11, a12, a13] := by rfl
theorem as_tuple14_is_model (a1 a2 a3 a4 a5 a6 a7 a8 a9 a10 a11 a12 a13 a14 : A) : tupList14 (as_Tuple14 a1 a2 a3 a4 a5 a6 a7 a8 a9 a10 a11 a12 a13 a14) = mkTuple [a1, a2, a3, a4, a5, a6, a7, a8, a9, a10, a11, a12, a13, a14] := by rfl
theorem as_tuple15_is_model (a1 a2 a3 a4 a5 a6 a7 a8 a9 a10 a11 a12 a13 a14 a15 : A) : tupList15 (as_Tuple15 a1 a2 a3 a4 a5 a6 a7 a8 a9 a10 a11 a12 a13 a14 a15) = mkTuple [a1, a2, a3, a4, a5, a6, a7, a8, a9, a10, a11, a12, a13, a14, a15] := by rfl
theorem as_tuple16_is_model (a1 a2 a3 a4 a5 a6 a7 a8 a9 a10 a11 a12 a13 a14 a15 a16 : A) : tupList16 (as_Tuple16 a1 a2 a3 a4 a5 a6 a7 a8 a9 a10 a11 a12 a13 a14 a15 a16) = mkTuple [a1, a2, a3, a4, a5, a6, a7, a8, a9, a10, a11, a12, a13, a14, a15, a16] := by rfl
theorem as_tuple17_is_model (a1 a2 a3 a4 a5 a6 a7 a8 a9 a10 a11 a12 a13 a14 a15 a16 a17 : A) : tupList17 (as_Tuple17 a1 a2 a3 a4 a5 a6 a7 a8 a9 a10 a11 a12 a13 a14 a15 a16 a17) = mkTuple [a1, a2, a3, a4, a5, a6, a7, a8, a9, a10, a11, a12, a13, a14, a15, a16, a17] := by rfl
theorem as_tuple18_is_model (a1 a2 a3 a4 a5 a6 a7 a8 a9 a10 a11 a12 a13 a14 a15 a16 a17 a18 : A) : tupList18 (as_Tuple18 a1 a2 a3 a4 a5 a6 a7 a8 a9 a10 a11 a12 a13 a14 a15 a16 a17 a18) = mkTuple [a1, a2, a3, a4, a5, a6, a7, a8, a9, a10, a11, a12, a13, a14, a15, a16, a17, a18] := by rfl
theorem as_tuple19_is_model (a1 a2 a3 a4 a5 a6 a7 a8 a9 a10 a11 a12 a13 a14 a15 a16 a17 a18 a19 : A) : tupList19 (as_Tuple19 a1 a2 a3 a4 a5 a6 a7 a8 a9 a10 a11 a12 a13 a14 a15 a16 a17 a18 a19) = mkTuple [a1, a2, a3, a4, a5, a6, a7, a8, a9, a10, a11, a12, a13, a14, a15, a16, a17, a18, a19] := by rfl
theorem as_tuple20_is_model (a1 a2 a3 a4 a5 a6 a7 a8 a9 a10 a11 a12 a13 a14 a15 a16 a17 a18 a19 a20 : A) : tupList20 (as_Tuple20 a1 a2 a3 a4 a5 a6 a7 a8 a9 a10 a11 a12 a13 a14 a15 a16 a17 a18 a19 a20) = mkTuple [a1, a2, a3, a4, a5, a6, a7, a8, a9, a10, a11, a12, a13, a14, a15, a16, a17, a18, a19, a20] := by rfl
theorem as_tuple21_is_model (a1 a2 a3 a4 a5 a6 a7 a8 a9 a10 a11 a12 a13 a14 a15 a16 a17 a18 a19 a20 a21 : A) : tupList21 (as_Tuple21 a1 a2 a3 a4 a5 a6 a7 a8 a9 a10 a11 a12 a13 a14 a15 a16 a17 a18 a19 a20 a21) = mkTuple [a1, a2, a3, a4, a5, a6, a7, a8, a9, a10, a11, a12, a13, a14, a15, a16, a17, a18, a19, a20, a21] := by rfl
theorem as_hlist1_is_model (t : fp_Tuple1 A) : some (hl1 (as_HList1 t)) = asHList 0 (tupList1 t) := by rfl
theorem as_hlist2_is_model (t : fp_Tuple2 A A) : some (hl2 (as_HList2 t)) = asHList 1 (tupList2 t) := by rfl
theorem as_hlist3_is_model (t : fp_Tuple3 A A A) : some (hl3 (as_HList3 t)) = asHList 2 (tupList3 t) := by rfl
theorem as_hlist4_is_model (t : fp_Tuple4 A A A A) : some (hl4 (as_HList4 t)) = asHList 3 (tupList4 t) := by rfl
theorem as_hlist5_is_model (t : fp_Tuple5 A A A A A) : some (hl5 (as_HList5 t)) = asHList 4 (tupList5 t) := by rfl
theorem as_hlist6_is_model (t : fp_Tuple6 A A A A A A) : some (hl6 (as_HList6 t)) = asHList 5 (tupList6 t) := by rfl
theorem as_hlist7_is_model (t : fp_Tuple7 A A A A A A A) : some (hl7 (as_HList7 t)) = asHList 6 (tupList7 t) := by rfl
theorem as_hlist8_is_model (t : fp_Tuple8 A A A A A A A A) : some (hl8 (as_HList8 t)) = asHList 7 (tupList8 t) := by rfl
theorem as_hlist9_is_model (t : fp_Tuple9 A A A A A A A A A) : some (hl9 (as_HList9 t)) = asHList 8 (tupList9 t) := by rfl
theorem as_hlist10_is_model (t : fp_Tuple10 A A A A A A A A A A) : some (hl10 (as_HList10 t)) = asHList 9 (tupList10 t) := by rfl
theorem as_hlist11_is_model (t : fp_Tuple11 A A A A A A A A A A A) : some (hl11 (as_HList11 t)) = asHList 10 (tupList11 t) := by rfl
theorem as_hlist12_is_model (t : fp_Tuple12 A A A A A A A A A A A A) : some (hl12 (as_HList12 t)) = asHList 11 (tupList12 t) := by rfl
theorem as_hlist13_is_model (t : fp_Tuple13 A A A A A A A A A A A A A) : some (hl13 (as_HList13 t)) = asHList 12 (tupList13 t) := by rfl
theorem as_hlist14_is_model (t : fp_Tuple14 A A A A A A A A A A A A A A) : some (hl14 (as_HList14 t)) = asHList 13 (tupList14 t) := by rfl
theorem as_hlist15_is_model (t : fp_Tuple15 A A A A A A A A A A A A A A A) : some (hl15 (as_HList15 t)) = asHList 14 (tupList15 t) := by rfl
theorem as_hlist16_is_model (t : fp_Tuple16 A A A A A A A A A A A A A A A A) : some (hl16 (as_HList16 t)) = asHList 15 (tupList16 t) := by rfl
theorem as_hlist17_is_model (t : fp_Tuple17 A A A A A A A A A A A A A A A A A) : some (hl17 (as_HList17 t)) = asHList 16 (tupList17 t) := by rfl
theorem as_hlist18_is_model (t : fp_Tuple18 A A A A A A A A A A A A A A A A A A) : some (hl18 (as_HList18 t)) = asHList 17 (tupList18 t) := by rfl
theorem as_hlist19_is_model (t : fp_Tuple19 A A A A A A A A A A A A A A A A A A A) : some (hl19 (as_HList19 t)) = asHList 18 (tupList19 t) := by rfl
theorem as_hlist20_is_model (t : fp_Tuple20 A A A A A A A A A A A A A A A A A A A A) : some (hl20 (as_HList20 t)) = asHList 19 (tupList20 t) := by rfl
theorem as_hlist21_is_model (t : fp_Tuple21 A A A A A A A A A A A A A A A A A A A A A) : some (hl21 (as_HList21 t)) = asHList 20 (tupList21 t) := by rfl
theorem as_labelled1_is_model (a1 : A) : labList1 (as_Labelled1 a1) = mkTuple [a1] := by rfl
theorem as_labelled2_is_model (a1 a2 : A) : labList2 (as_Labelled2 a1 a2) = mkTuple [a1, a2] := by rfl
theorem as_labelled3_is_model (a1 a2 a3 : A) : labList3 (as_Labelled3 a1 a2 a3) = mkTuple [a1, a2, a3] := by rfl
theorem as_labelled4_is_model (a1 a2 a3 a4 : A) : labList4 (as_Labelled4 a1 a2 a3 a4) = mkTuple [a1, a2, a3, a4] := by rfl
theorem as_labelled5_is_model (a1 a2 a3 a4 a5 : A) : labList5 (as_Labelled5 a1 a2 a3 a4 a5) = mkTuple [a1, a2, a3, a4, a5] := by rfl
theorem as_labelled6_is_model (a1 a2 a3 a4 a5 a6 : A) : labList6 (as_Labelled6 a1 a2 a3 a4 a5 a6) = mkTuple [a1, a2, a3, a4, a5, a6] := by rfl
theorem as_labelled7_is_model (a1 a2 a3 a4 a5 a6 a7 : A) : labList7 (as_Labelled7 a1 a2 a3 a4 a5 a6 a7) = mkTuple [a1, a2, a3, a4, a5, a6, a7] := by rfl
theorem as_labelled8_is_model (a1 a2 a3 a4 a5 a6 a7 a8 : A) : labList8 (as_Labelled8 a1 a2 a3 a4 a5 a6 a7 a8) = mkTuple [a1, a2, a3, a4, a5, a6, a7, a8] := by rfl
theorem as_labelled9_is_model (a1 a2 a3 a4 a5 a6 a7 a8 a9 : A) : labList9 (as_Labelled9 a1 a2 a3 a4 a5 a6 a7 a8 a9) = mkTuple [a1, a2, a3, a4, a5, a6, a7, a8, a9] := by rfl
theorem as_labelled10_is_model (a1 a2 a3 a4 a5 a6 a7 a8 a9 a10 : A) : labList10 (as_Labelled10 a1 a2 a3 a4 a5 a6 a7 a8 a9 a10) = mkTuple [a1, a2, a3, a4, a5, a6, a7, a8, a9, a10] := by rfl
theorem as_labelled11_is_model (a1 a2 a3 a4 a5 a6 a7 a8 a9 a10 a11 : A) : labList11 (as_Labelled11 a1 a2 a3 a4 a5 a6 a7 a8 a9 a10 a11) = mkTuple [a1, a2, a3, a4, a5, a6, a7, a8, a9, a10, a11] := by rfl
theorem as_labelled12_is_model (a1 a2 a3 a4 a5 a6 a7 a8 a9 a10 a11 a12 : A) : labList12 (as_Labelled12 a1 a2 a3 a4 a5 a6 a7 a8 a9 a10 a11 a12) = mkTuple [a1, a2, a3, a4, a5, a6, a7, a8, a9, a10, a11, a12] := by rfl
theorem as_labelled13_is_model (a1 a2 a3 a4 a5 a6 a7 a8 a9 a10 a11 a12 a13 : A) : labList13 (as_Labelled13 a1 a2 a3 a4 a5 a6 a7 a8 a9 a10 a11 a12 a13) = mkTuple [a1, a2, a3, a4, a5, a6, a7, a8, a9, a10, a11, a12, a13] := by rfl
theorem as_labelled14_is_model (a1 a2 a3 a4 a5 a6 a7 a8 a9 a10 a11 a12 a13 a14 : A) : labList14 (as_Labelled14 a1 a2 a3 a4 a5 a6 a7 a8 a9 a10 a11 a12 a13 a14) = mkTuple [a1, a2, a3, a4, a5, a6, a7, a8, a9, a10, a11, a12, a13, a14] := by rfl
theorem as_labelled15_is_model (a1 a2 a3 a4 a5 a6 a7 a8 a9 a10 a11 a12 a13 a14 a15 : A) : labList15 (as_Labelled15 a1 a2 a3 a4 a5 a6 a7 a8 a9 a10 a11 a12 a13 a14 a15) = mkTuple [a1, a2, a3, a4, a5, a6, a7, a8, a9, a10, a11, a12, a13, a14, a15] := by rfl
theorem as_labelled16_is_model (a1 a2 a3 a4 a5 a6 a7 a8 a9 a10 a11 a12 a13 a14 a15 a16 : A) : labList16 (as_Labelled16 a1 a2 a3 a4 a5 a6 a7 a8 a9 a10 a11 a12 a13 a14 a15 a16) = mkTuple [a1, a2, a3, a4, a5, a6, a7, a8, a9, a10, a11, a12, a13, a14, a15, a16] := by rfl
theorem as_labelled17_is_model (a1 a2 a3 a4 a5 a6 a7 a8 a9 a10 a11 a12 a13 a14 a15 a16 a17 : A) : labList17 (as_Labelled17 a1 a2 a3 a4 a5 a6 a7 a8 a9 a10 a11 a12 a13 a14 a15 a16 a17) = mkTuple [a1, a2, a3, a4, a5, a6, a7, a8, a9, a10, a11, a12, a13, a14, a15, a16, a17] := by rfl
theorem as_labelled18_is_model (a1 a2 a3 a4 a5 a6 a7 a8 a9 a10 a11 a12 a13 a14 a15 a16 a17 a18 : A) : labList18 (as_Labelled18 a1 a2 a3 a4 a5 a6 a7 a8 a9 a10 a11 a12 a13 a14 a15 a16 a17 a18) = mkTuple [a1, a2, a3, a4, a5, a6, a7, a8, a9, a10, a11, a12, a13, a14, a15, a16, a17, a18] := by rfl
theorem as_labelled19_is_model (a1 a2 a3 a4 a5 a6 a7 a8 a9 a10 a11 a12 a13 a14 a15 a16 a17 a18 a19 : A) : labList19 (as_Labelled19 a1 a2 a3 a4 a5 a6 a7 a8 a9 a10 a11 a12 a13 a14 a15 a16 a17 a18 a19) = mkTuple [a1, a2, a3, a4, a5, a6, a7, a8, a9, a10, a11, a12, a13, a14, a15, a16, a17, a18, a19] := by rfl
theorem as_labelled20_is_model (a1 a2 a3 a4 a5 a6 a7 a8 a9 a10 a11 a12 a13 a14 a15 a16 a17 a18 a19 a20 : A) : labList20 (as_Labelled20 a1 a2 a3 a4 a5 a6 a7 a8 a9 a10 a11 a12 a13 a14 a15 a16 a17 a18 a19 a20) = mkTuple [a1, a2, a3, a4, a5, a6, a7, a8, a9, a10, a11, a12, a13, a14, a15, a16, a17, a18, a19, a20] := by rfl
theorem as_labelled21_is_model (a1 a2 a3 a4 a5 a6 a7 a8 a9 a10 a11 a12 a13 a14 a15 a16 a17 a18 a19 a20 a21 : A) : labList21 (as_Labelled21 a1 a2 a3 a4 a5 a6 a7 a8 a9 a10 a11 a12 a13 a14 a15 a16 a17 a18 a19 a20 a21) = mkTuple [a1, a2, a3, a4, a5, a6, a7, a8, a9, a10, a11, a12, a13, a14, a15, a16, a17, a18, a19, a20, a21] := by rfl

-- ------------------------------------------------------------------------------------------------
-- tuple_gen.go, labelled_gen.go: the accessors (+ Tuple1/Labelled1.Head of fp.go)

theorem fp_tuple1_head_is_model (t : fp_Tuple1 A) : some t.Head = tupHead (tupList1 t) := by rfl
theorem fp_tuple2_head_is_model (t : fp_Tuple2 A A) : some t.Head = tupHead (tupList2 t) := by rfl
theorem fp_tuple2_last_is_model (t : fp_Tuple2 A A) : some t.Last = tupLast (tupList2 t) := by rfl
theorem fp_tuple2_init_is_model (t : fp_Tuple2 A A) : [t.Init] = tupInit (tupList2 t) := by rfl
theorem fp_tuple2_tail_is_model (t : fp_Tuple2 A A) : [t.Tail] = tupTail (tupList2 t) := by rfl
theorem fp_tuple2_unapply_is_model (t : fp_Tuple2 A A) : pl2 t.Unapply = tupUnapply (tupList2 t) := by rfl
theorem fp_tuple3_head_is_model (t : fp_Tuple3 A A A) : some t.Head = tupHead (tupList3 t) := by rfl
theorem fp_tuple3_last_is_model (t : fp_Tuple3 A A A) : some t.Last = tupLast (tupList3 t) := by rfl
theorem fp_tuple3_init_is_model (t : fp_Tuple3 A A A) : pl2 t.Init = tupInit (tupList3 t) := by rfl
theorem fp_tuple3_tail_is_model (t : fp_Tuple3 A A A) : pl2 t.Tail = tupTail (tupList3 t) := by rfl
theorem fp_tuple3_unapply_is_model (t : fp_Tuple3 A A A) : pl3 t.Unapply = tupUnapply (tupList3 t) := by rfl
theorem fp_tuple4_head_is_model (t : fp_Tuple4 A A A A) : some t.Head = tupHead (tupList4 t) := by rfl
theorem fp_tuple4_last_is_model (t : fp_Tuple4 A A A A) : some t.Last = tupLast (tupList4 t) := by rfl
theorem fp_tuple4_init_is_model (t : fp_Tuple4 A A A A) : pl3 t.Init = tupInit (tupList4 t) := by rfl
theorem fp_tuple4_tail_is_model (t : fp_Tuple4 A A A A) : pl3 t.Tail = tupTail (tupList4 t) := by rfl
theorem fp_tuple4_unapply_is_model (t : fp_Tuple4 A A A A) : pl4 t.Unapply = tupUnapply (tupList4 t) := by rfl
theorem fp_tuple5_head_is_model (t : fp_Tuple5 A A A A A) : some t.Head = tupHead (tupList5 t) := by rfl
theorem fp_tuple5_last_is_model (t : fp_Tuple5 A A A A A) : some t.Last = tupLast (tupList5 t) := by rfl
theorem fp_tuple5_init_is_model (t : fp_Tuple5 A A A A A) : pl4 t.Init = tupInit (tupList5 t) := by rfl
theorem fp_tuple5_tail_is_model (t : fp_Tuple5 A A A A A) : pl4 t.Tail = tupTail (tupList5 t) := by rfl
theorem fp_tuple5_unapply_is_model (t : fp_Tuple5 A A A A A) : pl5 t.Unapply = tupUnapply (tupList5 t) := by rfl
theorem fp_tuple6_head_is_model (t : fp_Tuple6 A A A A A A) : some t.Head = tupHead (tupList6 t) := by rfl
theorem fp_tuple6_last_is_model (t : fp_Tuple6 A A A A A A) : some t.Last = tupLast (tupList6 t) := by rfl
theorem fp_tuple6_init_is_model (t : fp_Tuple6 A A A A A A) : pl5 t.Init = tupInit (tupList6 t) := by rfl
theorem fp_tuple6_tail_is_model (t : fp_Tuple6 A A A A A A) : pl5 t.Tail = tupTail (tupList6 t) := by rfl
theorem fp_tuple6_unapply_is_model (t : fp_Tuple6 A A A A A A) : pl6 t.Unapply = tupUnapply (tupList6 t) := by rfl
theorem fp_tuple7_head_is_model (t : fp_Tuple7 A A A A A A A) : some t.Head = tupHead (tupList7 t) := by rfl
theorem fp_tuple7_last_is_model (t : fp_Tuple7 A A A A A A A) : some t.Last = tupLast (tupList7 t) := by rfl
theorem fp_tuple7_init_is_model (t : fp_Tuple7 A A A A A A A) : pl6 t.Init = tupInit (tupList7 t) := by rfl
theorem fp_tuple7_tail_is_model (t : fp_Tuple7 A A A A A A A) : pl6 t.Tail = tupTail (tupList7 t) := by rfl
theorem fp_tuple7_unapply_is_model (t : fp_Tuple7 A A A A A A A) : pl7 t.Unapply = tupUnapply (tupList7 t) := by rfl
theorem fp_tuple8_head_is_model (t : fp_Tuple8 A A A A A A A A) : some t.Head = tupHead (tupList8 t) := by rfl
theorem fp_tuple8_last_is_model (t : fp_Tuple8 A A A A A A A A) : some t.Last = tupLast (tupList8 t) := by rfl
theorem fp_tuple8_init_is_model (t : fp_Tuple8 A A A A A A A A) : pl7 t.Init = tupInit (tupList8 t) := by rfl
theorem fp_tuple8_tail_is_model (t : fp_Tuple8 A A A A A A A A) : pl7 t.Tail = tupTail (tupList8 t) := by rfl
theorem fp_tuple8_unapply_is_model (t : fp_Tuple8 A A A A A A A A) : pl8 t.Unapply = tupUnapply (tupList8 t) := by rfl
theorem fp_tuple9_head_is_model (t : fp_Tuple9 A A A A A A A A A) : some t.Head = tupHead (tupList9 t) := by rfl
theorem fp_tuple9_last_is_model (t : fp_Tuple9 A A A A A A A A A) : some t.Last = tupLast (tupList9 t) := by rfl
theorem fp_tuple9_init_is_model (t : fp_Tuple9 A A A A A A A A A) : pl8 t.Init = tupInit (tupList9 t) := by rfl
theorem fp_tuple9_tail_is_model (t : fp_Tuple9 A A A A A A A A A) : pl8 t.Tail = tupTail (tupList9 t) := by rfl
theorem fp_tuple9_unapply_is_model (t : fp_Tuple9 A A A A A A A A A) : pl9 t.Unapply = tupUnapply (tupList9 t) := by rfl
theorem fp_tuple10_head_is_model (t : fp_Tuple10 A A A A A A A A A A) : some t.Head = tupHead (tupList10 t) := by rfl
theorem fp_tuple10_last_is_model (t : fp_Tuple10 A A A A A A A A A A) : some t.Last = tupLast (tupList10 t) := by rfl
theorem fp_tuple10_init_is_model (t : fp_Tuple10 A A A A A A A A A A) : pl9 t.Init = tupInit (tupList10 t) := by rfl
theorem fp_tuple10_tail_is_model (t : fp_Tuple10 A A A A A A A A A A) : pl9 t.Tail = tupTail (tupList10 t) := by rfl
theorem fp_tuple10_unapply_is_model (t : fp_Tuple10 A A A A A A A A A A) : pl10 t.Unapply = tupUnapply (tupList10 t) := by rfl
theorem fp_tuple11_head_is_model (t : fp_Tuple11 A A A A A A A A A A A) : some t.Head = tupHead (tupList11 t) := by rfl
theorem fp_tuple11_last_is_model (t : fp_Tuple11 A A A A A A A A A A A) : some t.Last = tupLast (tupList11 t) := by rfl
theorem fp_tuple11_init_is_model (t : fp_Tuple11 A A A A A A A A A A A) : pl10 t.Init = tupInit (tupList11 t) := by rfl
theorem fp_tuple11_tail_is_model (t : fp_Tuple11 A A A A A A A A A A A) : pl10 t.Tail = tupTail (tupList11 t) := by rfl
theorem fp_tuple11_unapply_is_model (t : fp_Tuple11 A A A A A A A A A A A) : pl11 t.Unapply = tupUnapply (tupList11 t) := by rfl
theorem fp_tuple12_head_is_model (t : fp_Tuple12 A A A A A A A A A A A A) : some t.Head = tupHead (tupList12 t) := by rfl
theorem fp_tuple12_last_is_model (t : fp_Tuple12 A A A A A A A A A A A A) : some t.Last = tupLast (tupList12 t) := by rfl
theorem fp_tuple12_init_is_model (t : fp_Tuple12 A A A A A A A A A A A A) : pl11 t.Init = tupInit (tupList12 t) := by rfl
theorem fp_tuple12_tail_is_model (t : fp_Tuple12 A A A A A A A A A A A A) : pl11 t.Tail = tupTail (tupList12 t) := by rfl
theorem fp_tuple12_unapply_is_model (t : fp_Tuple12 A A A A A A A A A A A A) : pl12 t.Unapply = tupUnapply (tupList12 t) := by rfl
theorem fp_tuple13_head_is_model (t : fp_Tuple13 A A A A A A A A A A A A A) : some t.Head = tupHead (tupList13 t) := by rfl
theorem fp_tuple13_last_is_model (t : fp_Tuple13 A A A A A A A A A A A A A) : some t.Last = tupLast (tupList13 t) := by rfl
theorem fp_tuple13_init_is_model (t : fp_Tuple13 A A A A A A A A A A A A A) : pl12 t.Init = tupInit (tupList13 t) := by rfl
theorem fp_tuple13_tail_is_model (t : fp_Tuple13 A A A A A A A A A A A A A) : pl12 t.Tail = tupTail (tupList13 t) := by rfl
theorem fp_tuple13_unapply_is_model (t : fp_Tuple13 A A A A A A A A A A A A A) : pl13 t.Unapply = tupUnapply (tupList13 t) := by rfl
theorem fp_tuple14_head_is_model (t : fp_Tuple14 A A A A A A A A A A A A A A) : some t.Head = tupHead (tupList14 t) := by rfl
theorem fp_tuple14_last_is_model (t : fp_Tuple14 A A A A A A A A A A A A A A) : some t.Last = tupLast (tupList14 t) := by rfl
theorem fp_tuple14_init_is_model (t : fp_Tuple14 A A A A A A A A A A A A A A) : pl13 t.Init = tupInit (tupList14 t) := by rfl
theorem fp_tuple14_tail_is_model (t : fp_Tuple14 A A A A A A A A A A A A A A) : pl13 t.Tail = tupTail (tupList14 t) := by rfl
theorem fp_tuple14_unapply_is_model (t : fp_Tuple14 A A A A A A A A A A A A A A) : pl14 t.Unapply = tupUnapply (tupList14 t) := by rfl
theorem fp_tuple15_head_is_model (t : fp_Tuple15 A A A A A A A A A A A A A A A) : some t.Head = tupHead (tupList15 t) := by rfl
theorem fp_tuple15_last_is_model (t : fp_Tuple15 A A A A A A A A A A A A A A A) : some t.Last = tupLast (tupList15 t) := by rfl
theorem fp_tuple15_init_is_model (t : fp_Tuple15 A A A A A A A A A A A A A A A) : pl14 t.Init = tupInit (tupList15 t) := by rfl
theorem fp_tuple15_tail_is_model (t : fp_Tuple15 A A A A A A A A A A A A A A A) : pl14 t.Tail = tupTail (tupList15 t) := by rfl
theorem fp_tuple15_unapply_is_model (t : fp_Tuple15 A A A A A A A A A A A A A A A) : pl15 t.Unapply = tupUnapply (tupList15 t) := by rfl
theorem fp_tuple16_head_is_model (t : fp_Tuple16 A A A A A A A A A A A A A A A A) : some t.Head = tupHead (tupList16 t) := by rfl
theorem fp_tuple16_last_is_model (t : fp_Tuple16 A A A A A A A A A A A A A A A A) : some t.Last = tupLast (tupList16 t) := by rfl
theorem fp_tuple16_init_is_model (t : fp_Tuple16 A A A A A A A A A A A A A A A A) : pl15 t.Init = tupInit (tupList16 t) := by rfl
theorem fp_tuple16_tail_is_model (t : fp_Tuple16 A A A A A A A A A A A A A A A A) : pl15 t.Tail = tupTail (tupList16 t) := by rfl
theorem fp_tuple16_unapply_is_model (t : fp_Tuple16 A A A A A A A A A A A A A A A A) : pl16 t.Unapply = tupUnapply (tupList16 t) := by rfl
theorem fp_tuple17_head_is_model (t : fp_Tuple17 A A A A A A A A A A A A A A A A A) : some t.Head = tupHead (tupList17 t) := by rfl
theorem fp_tuple17_last_is_model (t : fp_Tuple17 A A A A A A A A A A A A A A A A A) : some t.Last = tupLast (tupList17 t) := by rfl
theorem fp_tuple17_init_is_model (t : fp_Tuple17 A A A A A A A A A A A A A A A A A) : pl16 t.Init = tupInit (tupList17 t) := by rfl
theorem fp_tuple17_tail_is_model (t : fp_Tuple17 A A A A A A A A A A A A A A A A A) : pl16 t.Tail = tupTail (tupList17 t) := by rfl
theorem fp_tuple17_unapply_is_model (t : fp_Tuple17 A A A A A A A A A A A A A A A A A) : pl17 t.Unapply = tupUnapply (tupList17 t) := by rfl
theorem fp_tuple18_head_is_model (t : fp_Tuple18 A A A A A A A A A A A A A A A A A A) : some t.Head = tupHead (tupList18 t) := by rfl
theorem fp_tuple18_last_is_model (t : fp_Tuple18 A A A A A A A A A A A A A A A A A A) : some t.Last = tupLast (tupList18 t) := by rfl
theorem fp_tuple18_init_is_model (t : fp_Tuple18 A A A A A A A A A A A A A A A A A A) : pl17 t.Init = tupInit (tupList18 t) := by rfl
theorem fp_tuple18_tail_is_model (t : fp_Tuple18 A A A A A A A A A A A A A A A A A A) : pl17 t.Tail = tupTail (tupList18 t) := by rfl
theorem fp_tuple18_unapply_is_model (t : fp_Tuple18 A A A A A A A A A A A A A A A A A A) : pl18 t.Unapply = tupUnapply (tupList18 t) := by rfl
theorem fp_tuple19_head_is_model (t : fp_Tuple19 A A A A A A A A A A A A A A A A A A A) : some t.Head = tupHead (tupList19 t) := by rfl
theorem fp_tuple19_last_is_model (t : fp_Tuple19 A A A A A A A A A A A A A A A A A A A) : some t.Last = tupLast (tupList19 t) := by rfl
theorem fp_tuple19_init_is_model (t : fp_Tuple19 A A A A A A A A A A A A A A A A A A A) : pl18 t.Init = tupInit (tupList19 t) := by rfl
theorem fp_tuple19_tail_is_model (t : fp_Tuple19 A A A A A A A A A A A A A A A A A A A) : pl18 t.Tail = tupTail (tupList19 t) := by rfl
theorem fp_tuple19_unapply_is_model (t : fp_Tuple19 A A A A A A A A A A A A A A A A A A A) : pl19 t.Unapply = tupUnapply (tupList19 t) := by rfl
theorem fp_tuple20_head_is_model (t : fp_Tuple20 A A A A A A A A A A A A A A A A A A A A) : some t.Head = tupHead (tupList20 t) := by rfl
theorem fp_tuple20_last_is_model (t : fp_Tuple20 A A A A A A A A A A A A A A A A A A A A) : some t.Last = tupLast (tupList20 t) := by rfl
theorem fp_tuple20_init_is_model (t : fp_Tuple20 A A A A A A A A A A A A A A A A A A A A) : pl19 t.Init = tupInit (tupList20 t) := by rfl
theorem fp_tuple20_tail_is_model (t : fp_Tuple20 A A A A A A A A A A A A A A A A A A A A) : pl19 t.Tail = tupTail (tupList20 t) := by rfl
theorem fp_tuple20_unapply_is_model (t : fp_Tuple20 A A A A A A A A A A A A A A A A A A A A) : pl20 t.Unapply = tupUnapply (tupList20 t) := by rfl
theorem fp_tuple21_head_is_model (t : fp_Tuple21 A A A A A A A A A A A A A A A A A A A A A) : some t.Head = tupHead (tupList21 t) := by rfl
theorem fp_tuple21_last_is_model (t : fp_Tuple21 A A A A A A A A A A A A A A A A A A A A A) : some t.Last = tupLast (tupList21 t) := by rfl
theorem fp_tuple21_init_is_model (t : fp_Tuple21 A A A A A A A A A A A A A A A A A A A A A) : pl20 t.Init = tupInit (tupList21 t) := by rfl
theorem fp_tuple21_tail_is_model (t : fp_Tuple21 A A A A A A A A A A A A A A A A A A A A A) : pl20 t.Tail = tupTail (tupList21 t) := by rfl
theorem fp_tuple21_unapply_is_model (t : fp_Tuple21 A A A A A A A A A A A A A A A A A A A A A) : pl21 t.Unapply = tupUnapply (tupList21 t) := by rfl
theorem fp_labelled1_head_is_model (t : fp_Labelled1 A) : some t.Head = tupHead (labList1 t) := by rfl
theorem fp_labelled2_head_is_model (t : fp_Labelled2 A A) : some t.Head = tupHead (labList2 t) := by rfl
theorem fp_labelled2_last_is_model (t : fp_Labelled2 A A) : some t.Last = tupLast (labList2 t) := by rfl
theorem fp_labelled2_init_is_model (t : fp_Labelled2 A A) : [t.Init] = tupInit (labList2 t) := by rfl
theorem fp_labelled2_tail_is_model (t : fp_Labelled2 A A) : [t.Tail] = tupTail (labList2 t) := by rfl
theorem fp_labelled2_unapply_is_model (t : fp_Labelled2 A A) : pl2 t.Unapply = tupUnapply (labList2 t) := by rfl
theorem fp_labelled3_head_is_model (t : fp_Labelled3 A A A) : some t.Head = tupHead (labList3 t) := by rfl
theorem fp_labelled3_last_is_model (t : fp_Labelled3 A A A) : some t.Last = tupLast (labList3 t) := by rfl
theorem fp_labelled3_init_is_model (t : fp_Labelled3 A A A) : pl2 t.Init = tupInit (labList3 t) := by rfl
theorem fp_labelled3_tail_is_model (t : fp_Labelled3 A A A) : pl2 t.Tail = tupTail (labList3 t) := by rfl
theorem fp_labelled3_unapply_is_model (t : fp_Labelled3 A A A) : pl3 t.Unapply = tupUnapply (labList3 t) := by rfl
theorem fp_labelled4_head_is_model (t : fp_Labelled4 A A A A) : some t.Head = tupHead (labList4 t) := by rfl
theorem fp_labelled4_last_is_model (t : fp_Labelled4 A A A A) : some t.Last = tupLast (labList4 t) := by rfl
theorem fp_labelled4_init_is_model (t : fp_Labelled4 A A A A) : pl3 t.Init = tupInit (labList4 t) := by rfl
theorem fp_labelled4_tail_is_model (t : fp_Labelled4 A A A A) : pl3 t.Tail = tupTail (labList4 t) := by rfl
theorem fp_labelled4_unapply_is_model (t : fp_Labelled4 A A A A) : pl4 t.Unapply = tupUnapply (labList4 t) := by rfl
theorem fp_labelled5_head_is_model (t : fp_Labelled5 A A A A A) : some t.Head = tupHead (labList5 t) := by rfl
theorem fp_labelled5_last_is_model (t : fp_Labelled5 A A A A A) : some t.Last = tupLast (labList5 t) := by rfl
theorem fp_labelled5_init_is_model (t : fp_Labelled5 A A A A A) : pl4 t.Init = tupInit (labList5 t) := by rfl
theorem fp_labelled5_tail_is_model (t : fp_Labelled5 A A A A A) : pl4 t.Tail = tupTail (labList5 t) := by rfl
theorem fp_labelled5_unapply_is_model (t : fp_Labelled5 A A A A A) : pl5 t.Unapply = tupUnapply (labList5 t) := by rfl
theorem fp_labelled6_head_is_model (t : fp_Labelled6 A A A A A A) : some t.Head = tupHead (labList6 t) := by rfl
theorem fp_labelled6_last_is_model (t : fp_Labelled6 A A A A A A) : some t.Last = tupLast (labList6 t) := by rfl
theorem fp_labelled6_init_is_model (t : fp_Labelled6 A A A A A A) : pl5 t.Init = tupInit (labList6 t) := by rfl
theorem fp_labelled6_tail_is_model (t : fp_Labelled6 A A A A A A) : pl5 t.Tail = tupTail (labList6 t) := by rfl
theorem fp_labelled6_unapply_is_model (t : fp_Labelled6 A A A A A A) : pl6 t.Unapply = tupUnapply (labList6 t) := by rfl
theorem fp_labelled7_head_is_model (t : fp_Labelled7 A A A A A A A) : some t.Head = tupHead (labList7 t) := by rfl
theorem fp_labelled7_last_is_model (t : fp_Labelled7 A A A A A A A) : some t.Last = tupLast (labList7 t) := by rfl
theorem fp_labelled7_init_is_model (t : fp_Labelled7 A A A A A A A) : pl6 t.Init = tupInit (labList7 t) := by rfl
theorem fp_labelled7_tail_is_model (t : fp_Labelled7 A A A A A A A) : pl6 t.Tail = tupTail (labList7 t) := by rfl
theorem fp_labelled7_unapply_is_model (t : fp_Labelled7 A A A A A A A) : pl7 t.Unapply = tupUnapply (labList7 t) := by rfl
theorem fp_labelled8_head_is_model (t : fp_Labelled8 A A A A A A A A) : some t.Head = tupHead (labList8 t) := by rfl
theorem fp_labelled8_last_is_model (t : fp_Labelled8 A A A A A A A A) : some t.Last = tupLast (labList8 t) := by rfl
theorem fp_labelled8_init_is_model (t : fp_Labelled8 A A A A A A A A) : pl7 t.Init = tupInit (labList8 t) := by rfl
theorem fp_labelled8_tail_is_model (t : fp_Labelled8 A A A A A A A A) : pl7 t.Tail = tupTail (labList8 t) := by rfl
theorem fp_labelled8_unapply_is_model (t : fp_Labelled8 A A A A A A A A) : pl8 t.Unapply = tupUnapply (labList8 t) := by rfl
theorem fp_labelled9_head_is_model (t : fp_Labelled9 A A A A A A A A A) : some t.Head = tupHead (labList9 t) := by rfl
theorem fp_labelled9_last_is_model (t : fp_Labelled9 A A A A A A A A A) : some t.Last = tupLast (labList9 t) := by rfl
theorem fp_labelled9_init_is_model (t : fp_Labelled9 A A A A A A A A A) : pl8 t.Init = tupInit (labList9 t) := by rfl
theorem fp_labelled9_tail_is_model (t : fp_Labelled9 A A A A A A A A A) : pl8 t.Tail = tupTail (labList9 t) := by rfl
theorem fp_labelled9_unapply_is_model (t : fp_Labelled9 A A A A A A A A A) : pl9 t.Unapply = tupUnapply (labList9 t) := by rfl
theorem fp_labelled10_head_is_model (t : fp_Labelled10 A A A A A A A A A A) : some t.Head = tupHead (labList10 t) := by rfl
theorem fp_labelled10_last_is_model (t : fp_Labelled10 A A A A A A A A A A) : some t.Last = tupLast (labList10 t) := by rfl
theorem fp_labelled10_init_is_model (t : fp_Labelled10 A A A A A A A A A A) : pl9 t.Init = tupInit (labList10 t) := by rfl
theorem fp_labelled10_tail_is_model (t : fp_Labelled10 A A A A A A A A A A) : pl9 t.Tail = tupTail (labList10 t) := by rfl
theorem fp_labelled10_unapply_is_model (t : fp_Labelled10 A A A A A A A A A A) : pl10 t.Unapply = tupUnapply (labList10 t) := by rfl
theorem fp_labelled11_head_is_model (t : fp_Labelled11 A A A A A A A A A A A) : some t.Head = tupHead (labList11 t) := by rfl
theorem fp_labelled11_last_is_model (t : fp_Labelled11 A A A A A A A A A A A) : some t.Last = tupLast (labList11 t) := by rfl
theorem fp_labelled11_init_is_model (t : fp_Labelled11 A A A A A A A A A A A) : pl10 t.Init = tupInit (labList11 t) := by rfl
theorem fp_labelled11_tail_is_model (t : fp_Labelled11 A A A A A A A A A A A) : pl10 t.Tail = tupTail (labList11 t) := by rfl
theorem fp_labelled11_unapply_is_model (t : fp_Labelled11 A A A A A A A A A A A) : pl11 t.Unapply = tupUnapply (labList11 t) := by rfl
theorem fp_labelled12_head_is_model (t : fp_Labelled12 A A A A A A A A A A A A) : some t.Head = tupHead (labList12 t) := by rfl
theorem fp_labelled12_last_is_model (t : fp_Labelled12 A A A A A A A A A A A A) : some t.Last = tupLast (labList12 t) := by rfl
theorem fp_labelled12_init_is_model (t : fp_Labelled12 A A A A A A A A A A A A) : pl11 t.Init = tupInit (labList12 t) := by rfl
theorem fp_labelled12_tail_is_model (t : fp_Labelled12 A A A A A A A A A A A A) : pl11 t.Tail = tupTail (labList12 t) := by rfl
theorem fp_labelled12_unapply_is_model (t : fp_Labelled12 A A A A A A A A A A A A) : pl12 t.Unapply = tupUnapply (labList12 t) := by rfl
theorem fp_labelled13_head_is_model (t : fp_Labelled13 A A A A A A A A A A A A A) : some t.Head = tupHead (labList13 t) := by rfl
theorem fp_labelled13_last_is_model (t : fp_Labelled13 A A A A A A A A A A A A A) : some t.Last = tupLast (labList13 t) := by rfl
theorem fp_labelled13_init_is_model (t : fp_Labelled13 A A A A A A A A A A A A A) : pl12 t.Init = tupInit (labList13 t) := by rfl
theorem fp_labelled13_tail_is_model (t : fp_Labelled13 A A A A A A A A A A A A A) : pl12 t.Tail = tupTail (labList13 t) := by rfl
theorem fp_labelled13_unapply_is_model (t : fp_Labelled13 A A A A A A A A A A A A A) : pl13 t.Unapply = tupUnapply (labList13 t) := by rfl
theorem fp_labelled14_head_is_model (t : fp_Labelled14 A A A A A A A A A A A A A A) : some t.Head = tupHead (labList14 t) := by rfl
theorem fp_labelled14_last_is_model (t : fp_Labelled14 A A A A A A A A A A A A A A) : some t.Last = tupLast (labList14 t) := by rfl
theorem fp_labelled14_init_is_model (t : fp_Labelled14 A A A A A A A A A A A A A A) : pl13 t.Init = tupInit (labList14 t) := by rfl
theorem fp_labelled14_tail_is_model (t : fp_Labelled14 A A A A A A A A A A A A A A) : pl13 t.Tail = tupTail (labList14 t) := by rfl
theorem fp_labelled14_unapply_is_model (t : fp_Labelled14 A A A A A A A A A A A A A A) : pl14 t.Unapply = tupUnapply (labList14 t) := by rfl
theorem fp_labelled15_head_is_model (t : fp_Labelled15 A A A A A A A A A A A A A A A) : some t.Head = tupHead (labList15 t) := by rfl
theorem fp_labelled15_last_is_model (t : fp_Labelled15 A A A A A A A A A A A A A A A) : some t.Last = tupLast (labList15 t) := by rfl
theorem fp_labelled15_init_is_model (t : fp_Labelled15 A A A A A A A A A A A A A A A) : pl14 t.Init = tupInit (labList15 t) := by rfl
theorem fp_labelled15_tail_is_model (t : fp_Labelled15 A A A A A A A A A A A A A A A) : pl14 t.Tail = tupTail (labList15 t) := by rfl
theorem fp_labelled15_unapply_is_model (t : fp_Labelled15 A A A A A A A A A A A A A A A) : pl15 t.Unapply = tupUnapply (labList15 t) := by rfl
theorem fp_labelled16_head_is_model (t : fp_Labelled16 A A A A A A A A A A A A A A A A) : some t.Head = tupHead (labList16 t) := by rfl
theorem fp_labelled16_last_is_model (t : fp_Labelled16 A A A A A A A A A A A A A A A A) : some t.Last = tupLast (labList16 t) := by rfl
theorem fp_labelled16_init_is_model (t : fp_Labelled16 A A A A A A A A A A A A A A A A) : pl15 t.Init = tupInit (labList16 t) := by rfl
theorem fp_labelled16_tail_is_model (t : fp_Labelled16 A A A A A A A A A A A A A A A A) : pl15 t.Tail = tupTail (labList16 t) := by rfl
theorem fp_labelled16_unapply_is_model (t : fp_Labelled16 A A A A A A A A A A A A A A A A) : pl16 t.Unapply = tupUnapply (labList16 t) := by rfl
theorem fp_labelled17_head_is_model (t : fp_Labelled17 A A A A A A A A A A A A A A A A A) : some t.Head = tupHead (labList17 t) := by rfl
theorem fp_labelled17_last_is_model (t : fp_Labelled17 A A A A A A A A A A A A A A A A A) : some t.Last = tupLast (labList17 t) := by rfl
theorem fp_labelled17_init_is_model (t : fp_Labelled17 A A A A A A A A A A A A A A A A A) : pl16 t.Init = tupInit (labList17 t) := by rfl
theorem fp_labelled17_tail_is_model (t : fp_Labelled17 A A A A A A A A A A A A A A A A A) : pl16 t.Tail = tupTail (labList17 t) := by rfl
theorem fp_labelled17_unapply_is_model (t : fp_Labelled17 A A A A A A A A A A A A A A A A A) : pl17 t.Unapply = tupUnapply (labList17 t) := by rfl
theorem fp_labelled18_head_is_model (t : fp_Labelled18 A A A A A A A A A A A A A A A A A A) : some t.Head = tupHead (labList18 t) := by rfl
theorem fp_labelled18_last_is_model (t : fp_Labelled18 A A A A A A A A A A A A A A A A A A) : some t.Last = tupLast (labList18 t) := by rfl
theorem fp_labelled18_init_is_model (t : fp_Labelled18 A A A A A A A A A A A A A A A A A A) : pl17 t.Init = tupInit (labList18 t) := by rfl
theorem fp_labelled18_tail_is_model (t : fp_Labelled18 A A A A A A A A A A A A A A A A A A) : pl17 t.Tail = tupTail (labList18 t) := by rfl
theorem fp_labelled18_unapply_is_model (t : fp_Labelled18 A A A A A A A A A A A A A A A A A A) : pl18 t.Unapply = tupUnapply (labList18 t) := by rfl
theorem fp_labelled19_head_is_model (t : fp_Labelled19 A A A A A A A A A A A A A A A A A A A) : some t.Head = tupHead (labList19 t) := by rfl
theorem fp_labelled19_last_is_model (t : fp_Labelled19 A A A A A A A A A A A A A A A A A A A) : some t.Last = tupLast (labList19 t) := by rfl
theorem fp_labelled19_init_is_model (t : fp_Labelled19 A A A A A A A A A A A A A A A A A A A) : pl18 t.Init = tupInit (labList19 t) := by rfl
theorem fp_labelled19_tail_is_model (t : fp_Labelled19 A A A A A A A A A A A A A A A A A A A) : pl18 t.Tail = tupTail (labList19 t) := by rfl
theorem fp_labelled19_unapply_is_model (t : fp_Labelled19 A A A A A A A A A A A A A A A A A A A) : pl19 t.Unapply = tupUnapply (labList19 t) := by rfl
theorem fp_labelled20_head_is_model (t : fp_Labelled20 A A A A A A A A A A A A A A A A A A A A) : some t.Head = tupHead (labList20 t) := by rfl
theorem fp_labelled20_last_is_model (t : fp_Labelled20 A A A A A A A A A A A A A A A A A A A A) : some t.Last = tupLast (labList20 t) := by rfl
theorem fp_labelled20_init_is_model (t : fp_Labelled20 A A A A A A A A A A A A A A A A A A A A) : pl19 t.Init = tupInit (labList20 t) := by rfl
theorem fp_labelled20_tail_is_model (t : fp_Labelled20 A A A A A A A A A A A A A A A A A A A A) : pl19 t.Tail = tupTail (labList20 t) := by rfl
theorem fp_labelled20_unapply_is_model (t : fp_Labelled20 A A A A A A A A A A A A A A A A A A A A) : pl20 t.Unapply = tupUnapply (labList20 t) := by rfl
theorem fp_labelled21_head_is_model (t : fp_Labelled21 A A A A A A A A A A A A A A A A A A A A A) : some t.Head = tupHead (labList21 t) := by rfl
theorem fp_labelled21_last_is_model (t : fp_Labelled21 A A A A A A A A A A A A A A A A A A A A A) : some t.Last = tupLast (labList21 t) := by rfl
theorem fp_labelled21_init_is_model (t : fp_Labelled21 A A A A A A A A A A A A A A A A A A A A A) : pl20 t.Init = tupInit (labList21 t) := by rfl
theorem fp_labelled21_tail_is_model (t : fp_Labelled21 A A A A A A A A A A A A A A A A A A A A A) : pl20 t.Tail = tupTail (labList21 t) := by rfl
theorem fp_labelled21_unapply_is_model (t : fp_Labelled21 A A A A A A A A A A A A A A A A A A A A A) : pl21 t.Unapply = tupUnapply (labList21 t) := by rfl

-- ------------------------------------------------------------------------------------------------
-- func_gen.go (+ Func2.ApplyFirst/ApplyLast/Widen, Compose2 of fp.go)

theorem fp_func1_type : fp_Func1 A R = (A → GoM R) := rfl
theorem fp_func2_type : fp_Func2 A A R = (A → A → GoM R) := rfl
theorem fp_func3_type : fp_Func3 A A A R = (A → A → A → GoM R) := rfl
theorem fp_func4_type : fp_Func4 A A A A R = (A → A → A → A → GoM R) := rfl
theorem fp_func5_type : fp_Func5 A A A A A R = (A → A → A → A → A → GoM R) := rfl
theorem fp_func6_type : fp_Func6 A A A A A A R = (A → A → A → A → A → A → GoM R) := rfl
theorem fp_func7_type : fp_Func7 A A A A A A A R = (A → A → A → A → A → A → A → GoM R) := rfl
theorem fp_func8_type : fp_Func8 A A A A A A A A R = (A → A → A → A → A → A → A → A → GoM R) := rfl
theorem fp_func9_type : fp_Func9 A A A A A A A A A R = (A → A → A → A → A → A → A → A → A → GoM R) := rfl
theorem fp_func2_applyFirst_is_model (f : NFun A R) (a1 : A) : fp_Func2.ApplyFirst (fun a1 a2 => f [a1, a2]) a1 = applyFirst f [a1] := by rfl
theorem fp_func2_applyLast_is_model (f : NFun A R) (a2 : A) : fp_Func2.ApplyLast (fun a1 a2 => f [a1, a2]) a2 = applyLast f [a2] := by rfl
theorem fp_func2_widen_is_model (f : NFun A R) (a1 a2 : A) : fp_Func2.Widen (fun a1 a2 => f [a1, a2]) a1 a2 = widen f [a1, a2] := by rfl
theorem fp_func3_applyFirst_is_model (f : NFun A R) (a1 a2 : A) :
    fp_Func3.ApplyFirst2 (fun a1 a2 a3 => f [a1, a2, a3]) a1 a2 = applyFirst f [a1, a2] := by rfl
theorem fp_func3_applyLast_is_model (f : NFun A R) (a2 a3 : A) :
    fp_Func3.ApplyLast2 (fun a1 a2 a3 => f [a1, a2, a3]) a2 a3 = applyLast f [a2, a3] := by rfl
theorem fp_func3_widen_is_model (f : NFun A R) (a1 a2 a3 : A) :
    fp_Func3.Widen (fun a1 a2 a3 => f [a1, a2, a3]) a1 a2 a3 = widen f [a1, a2, a3] := by rfl
theorem fp_func4_applyFirst_is_model (f : NFun A R) (a1 a2 a3 : A) :
    fp_Func4.ApplyFirst3 (fun a1 a2 a3 a4 => f [a1, a2, a3, a4]) a1 a2 a3 = applyFirst f [a1, a2, a3] := by rfl
theorem fp_func4_applyLast_is_model (f : NFun A R) (a2 a3 a4 : A) :
    fp_Func4.ApplyLast3 (fun a1 a2 a3 a4 => f [a1, a2, a3, a4]) a2 a3 a4 = applyLast f [a2, a3, a4] := by rfl
theorem fp_func4_widen_is_model (f : NFun A R) (a1 a2 a3 a4 : A) :
    fp_Func4.Widen (fun a1 a2 a3 a4 => f [a1, a2, a3, a4]) a1 a2 a3 a4 = widen f [a1, a2, a3, a4] := by rfl
theorem fp_func5_applyFirst_is_model (f : NFun A R) (a1 a2 a3 a4 : A) :
    fp_Func5.ApplyFirst4 (fun a1 a2 a3 a4 a5 => f [a1, a2, a3, a4, a5]) a1 a2 a3 a4 = applyFirst f [a1, a2, a3, a4] := by rfl
theorem fp_func5_applyLast_is_model (f : NFun A R) (a2 a3 a4 a5 : A) :
    fp_Func5.ApplyLast4 (fun a1 a2 a3 a4 a5 => f [a1, a2, a3, a4, a5]) a2 a3 a4 a5 = applyLast f [a2, a3, a4, a5] := by rfl
theorem fp_func5_widen_is_model (f : NFun A R) (a1 a2 a3 a4 a5 : A) :
    fp_Func5.Widen (fun a1 a2 a3 a4 a5 => f [a1, a2, a3, a4, a5]) a1 a2 a3 a4 a5 = widen f [a1, a2, a3, a4, a5] := by rfl
theorem fp_func6_applyFirst_is_model (f : NFun A R) (a1 a2 a3 a4 a5 : A) :
    fp_Func6.ApplyFirst5 (fun a1 a2 a3 a4 a5 a6 => f [a1, a2, a3, a4, a5, a6]) a1 a2 a3 a4 a5 = applyFirst f [a1, a2, a3, a4, a5] := by rfl
theorem fp_func6_applyLast_is_model (f : NFun A R) (a2 a3 a4 a5 a6 : A) :
    fp_Func6.ApplyLast5 (fun a1 a2 a3 a4 a5 a6 => f [a1, a2, a3, a4, a5, a6]) a2 a3 a4 a5 a6 = applyLast f [a2, a3, a4, a5, a6] := by rfl
theorem fp_func6_widen_is_model (f : NFun A R) (a1 a2 a3 a4 a5 a6 : A) :
    fp_Func6.Widen (fun a1 a2 a3 a4 a5 a6 => f [a1, a2, a3, a4, a5, a6]) a1 a2 a3 a4 a5 a6 = widen f [a1, a2, a3, a4, a5, a6] := by rfl
theorem fp_func7_applyFirst_is_model (f : NFun A R) (a1 a2 a3 a4 a5 a6 : A) :
    fp_Func7.ApplyFirst6 (fun a1 a2 a3 a4 a5 a6 a7 => f [a1, a2, a3, a4, a5, a6, a7]) a1 a2 a3 a4 a5 a6 = applyFirst f [a1, a2, a3, a4, a5, a6] := by rfl
theorem fp_func7_applyLast_is_model (f : NFun A R) (a2 a3 a4 a5 a6 a7 : A) :
    fp_Func7.ApplyLast6 (fun a1 a2 a3 a4 a5 a6 a7 => f [a1, a2, a3, a4, a5, a6, a7]) a2 a3 a4 a5 a6 a7 = applyLast f [a2, a3, a4, a5, a6, a7] := by rfl
theorem fp_func7_widen_is_model (f : NFun A R) (a1 a2 a3 a4 a5 a6 a7 : A) :
    fp_Func7.Widen (fun a1 a2 a3 a4 a5 a6 a7 => f [a1, a2, a3, a4, a5, a6, a7]) a1 a2 a3 a4 a5 a6 a7 = widen f [a1, a2, a3, a4, a5, a6, a7] := by rfl
theorem fp_func8_applyFirst_is_model (f : NFun A R) (a1 a2 a3 a4 a5 a6 a7 : A) :
    fp_Func8.ApplyFirst7 (fun a1 a2 a3 a4 a5 a6 a7 a8 => f [a1, a2, a3, a4, a5, a6, a7, a8]) a1 a2 a3 a4 a5 a6 a7 = applyFirst f [a1, a2, a3, a4, a5, a6, a7] := by rfl
theorem fp_func8_applyLast_is_model (f : NFun A R) (a2 a3 a4 a5 a6 a7 a8 : A) :
    fp_Func8.ApplyLast7 (fun a1 a2 a3 a4 a5 a6 a7 a8 => f [a1, a2, a3, a4, a5, a6, a7, a8]) a2 a3 a4 a5 a6 a7 a8 = applyLast f [a2, a3, a4, a5, a6, a7, a8] := by rfl
theorem fp_func8_widen_is_model (f : NFun A R) (a1 a2 a3 a4 a5 a6 a7 a8 : A) :
    fp_Func8.Widen (fun a1 a2 a3 a4 a5 a6 a7 a8 => f [a1, a2, a3, a4, a5, a6, a7, a8]) a1 a2 a3 a4 a5 a6 a7 a8 = widen f [a1, a2, a3, a4, a5, a6, a7, a8] := by rfl
theorem fp_func9_applyFirst_is_model (f : NFun A R) (a1 a2 a3 a4 a5 a6 a7 a8 : A) :
    fp_Func9.ApplyFirst8 (fun a1 a2 a3 a4 a5 a6 a7 a8 a9 => f [a1, a2, a3, a4, a5, a6, a7, a8, a9]) a1 a2 a3 a4 a5 a6 a7 a8 = applyFirst f [a1, a2, a3, a4, a5, a6, a7, a8] := by rfl
theorem fp_func9_applyLast_is_model (f : NFun A R) (a2 a3 a4 a5 a6 a7 a8 a9 : A) :
    fp_Func9.ApplyLast8 (fun a1 a2 a3 a4 a5 a6 a7 a8 a9 => f [a1, a2, a3, a4, a5, a6, a7, a8, a9]) a2 a3 a4 a5 a6 a7 a8 a9 = applyLast f [a2, a3, a4, a5, a6, a7, a8, a9] := by rfl
theorem fp_func9_widen_is_model (f : NFun A R) (a1 a2 a3 a4 a5 a6 a7 a8 a9 : A) :
    fp_Func9.Widen (fun a1 a2 a3 a4 a5 a6 a7 a8 a9 => f [a1, a2, a3, a4, a5, a6, a7, a8, a9]) a1 a2 a3 a4 a5 a6 a7 a8 a9 = widen f [a1, a2, a3, a4, a5, a6, a7, a8, a9] := by rfl
theorem fp_compose2_is_model (f1 f2 : A → GoM A) : fp_Compose2 f1 f2 = composeN [f1, f2] := by rfl
theorem fp_compose3_is_model (f1 f2 f3 : A → GoM A) : fp_Compose3 f1 f2 f3 = composeN [f1, f2, f3] := by rfl
theorem fp_compose4_is_model (f1 f2 f3 f4 : A → GoM A) : fp_Compose4 f1 f2 f3 f4 = composeN [f1, f2, f3, f4] := by rfl
theorem fp_compose5_is_model (f1 f2 f3 f4 f5 : A → GoM A) : fp_Compose5 f1 f2 f3 f4 f5 = composeN [f1, f2, f3, f4, f5] := by rfl
theorem fp_id2_is_model (a1 r : A) : some (fp_Id2 a1 r) = idN [a1, r] := by rfl
theorem fp_id3_is_model (a1 a2 r : A) : some (fp_Id3 a1 a2 r) = idN [a1, a2, r] := by rfl
theorem fp_id4_is_model (a1 a2 a3 r : A) : some (fp_Id4 a1 a2 a3 r) = idN [a1, a2, a3, r] := by rfl
theorem fp_id5_is_model (a1 a2 a3 a4 r : A) : some (fp_Id5 a1 a2 a3 a4 r) = idN [a1, a2, a3, a4, r] := by rfl
theorem fp_id6_is_model (a1 a2 a3 a4 a5 r : A) : some (fp_Id6 a1 a2 a3 a4 a5 r) = idN [a1, a2, a3, a4, a5, r] := by rfl
theorem fp_id7_is_model (a1 a2 a3 a4 a5 a6 r : A) : some (fp_Id7 a1 a2 a3 a4 a5 a6 r) = idN [a1, a2, a3, a4, a5, a6, r] := by rfl
theorem fp_id8_is_model (a1 a2 a3 a4 a5 a6 a7 r : A) : some (fp_Id8 a1 a2 a3 a4 a5 a6 a7 r) = idN [a1, a2, a3, a4, a5, a6, a7, r] := by rfl
theorem fp_id9_is_model (a1 a2 a3 a4 a5 a6 a7 a8 r : A) : some (fp_Id9 a1 a2 a3 a4 a5 a6 a7 a8 r) = idN [a1, a2, a3, a4, a5, a6, a7, a8, r] := by rfl

-- ------------------------------------------------------------------------------------------------
-- hlist/of_gen.go, case_gen.go, lift_gen.go, reverse_gen.go (+ Of1, Case1, Lift1, Rift1 of hlist.go)

theorem hlist_of1_is_model (a1 : A) : some (hl1 (hlist_Of1 a1)) = hlistOf 0 [a1] := by rfl
theorem hlist_of2_is_model (a1 a2 : A) : some (hl2 (hlist_Of2 a1 a2)) = hlistOf 1 [a1, a2] := by rfl
theorem hlist_of3_is_model (a1 a2 a3 : A) : some (hl3 (hlist_Of3 a1 a2 a3)) = hlistOf 2 [a1, a2, a3] := by rfl
theorem hlist_of4_is_model (a1 a2 a3 a4 : A) : some (hl4 (hlist_Of4 a1 a2 a3 a4)) = hlistOf 3 [a1, a2, a3, a4] := by rfl
theorem hlist_of5_is_model (a1 a2 a3 a4 a5 : A) : some (hl5 (hlist_Of5 a1 a2 a3 a4 a5)) = hlistOf 4 [a1, a2, a3, a4, a5] := by rfl
theorem hlist_of6_is_model (a1 a2 a3 a4 a5 a6 : A) : some (hl6 (hlist_Of6 a1 a2 a3 a4 a5 a6)) = hlistOf 5 [a1, a2, a3, a4, a5, a6] := by rfl
theorem hlist_of7_is_model (a1 a2 a3 a4 a5 a6 a7 : A) : some (hl7 (hlist_Of7 a1 a2 a3 a4 a5 a6 a7)) = hlistOf 6 [a1, a2, a3, a4, a5, a6, a7] := by rfl
theorem hlist_of8_is_model (a1 a2 a3 a4 a5 a6 a7 a8 : A) : some (hl8 (hlist_Of8 a1 a2 a3 a4 a5 a6 a7 a8)) = hlistOf 7 [a1, a2, a3, a4, a5, a6, a7, a8] := by rfl
theorem hlist_of9_is_model (a1 a2 a3 a4 a5 a6 a7 a8 a9 : A) : some (hl9 (hlist_Of9 a1 a2 a3 a4 a5 a6 a7 a8 a9)) = hlistOf 8 [a1, a2, a3, a4, a5, a6, a7, a8, a9] := by rfl
theorem hlist_of10_is_model (a1 a2 a3 a4 a5 a6 a7 a8 a9 a10 : A) : some (hl10 (hlist_Of10 a1 a2 a3 a4 a5 a6 a7 a8 a9 a10)) = hlistOf 9 [a1, a2, a3, a4, a5, a6, a7, a8, a9, a10] := by rfl
theorem hlist_of11_is_model (a1 a2 a3 a4 a5 a6 a7 a8 a9 a10 a11 : A) : some (hl11 (hlist_Of11 a1 a2 a3 a4 a5 a6 a7 a8 a9 a10 a11)) = hlistOf 10 [a1, a2, a3, a4, a5, a6, a7, a8, a9, a10, a11] := by rfl
theorem hlist_of12_is_model (a1 a2 a3 a4 a5 a6 a7 a8 a9 a10 a11 a12 : A) : some (hl12 (hlist_Of12 a1 a2 a3 a4 a5 a6 a7 a8 a9 a10 a11 a12)) = hlistOf 11 [a1, a2, a3, a4, a5, a6, a7, a8, a9, a10, a11, a12] := by rfl
theorem hlist_of13_is_model (a1 a2 a3 a4 a5 a6 a7 a8 a9 a10 a11 a12 a13 : A) : some (hl13 (hlist_Of13 a1 a2 a3 a4 a5 a6 a7 a8 a9 a10 a11 a12 a13)) = hlistOf 12 [a1, a2, a3, a4, a5, a6, a7, a8, a9, a10, a11, a12, a13] := by rfl
theorem hlist_of14_is_model (a1 a2 a3 a4 a5 a6 a7 a8 a9 a10 a11 a12 a13 a14 : A) : some (hl14 (hlist_Of14 a1 a2 a3 a4 a5 a6 a7 a8 a9 a10 a11 a12 a13 a14)) = hlistOf 13 [a1, a2, a3, a4, a5, a6, a7, a8, a9, a10, a11, a12, a13, a14] := by rfl
theorem hlist_of15_is_model (a1 a2 a3 a4 a5 a6 a7 a8 a9 a10 a11 a12 a13 a14 a15 : A) : some (hl15 (hlist_Of15 a1 a2 a3 a4 a5 a6 a7 a8 a9 a10 a11 a12 a13 a14 a15)) = hlistOf 14 [a1, a2, a3, a4, a5, a6, a7, a8, a9, a10, a11, a12, a13, a14, a15] := by rfl
theorem hlist_of16_is_model (a1 a2 a3 a4 a5 a6 a7 a8 a9 a10 a11 a12 a13 a14 a15 a16 : A) : some (hl16 (hlist_Of16 a1 a2 a3 a4 a5 a6 a7 a8 a9 a10 a11 a12 a13 a14 a15 a16)) = hlistOf 15 [a1, a2, a3, a4, a5, a6, a7, a8, a9, a10, a11, a12, a13, a14, a15, a16] := by rfl
theorem hlist_of17_is_model (a1 a2 a3 a4 a5 a6 a7 a8 a9 a10 a11 a12 a13 a14 a15 a16 a17 : A) : some (hl17 (hlist_Of17 a1 a2 a3 a4 a5 a6 a7 a8 a9 a10 a11 a12 a13 a14 a15 a16 a17)) = hlistOf 16 [a1, a2, a3, a4, a5, a6, a7, a8, a9, a10, a11, a12, a13, a14, a15, a16, a17] := by rfl
theorem hlist_of18_is_model (a1 a2 a3 a4 a5 a6 a7 a8 a9 a10 a11 a12 a13 a14 a15 a16 a17 a18 : A) : some (hl18 (hlist_Of18 a1 a2 a3 a4 a5 a6 a7 a8 a9 a10 a11 a12 a13 a14 a15 a16 a17 a18)) = hlistOf 17 [a1, a2, a3, a4, a5, a6, a7, a8, a9, a10, a11, a12, a13, a14, a15, a16, a17, a18] := by rfl
theorem hlist_of19_is_model (a1 a2 a3 a4 a5 a6 a7 a8 a9 a10 a11 a12 a13 a14 a15 a16 a17 a18 a19 : A) : some (hl19 (hlist_Of19 a1 a2 a3 a4 a5 a6 a7 a8 a9 a10 a11 a12 a13 a14 a15 a16 a17 a18 a19)) = hlistOf 18 [a1, a2, a3, a4, a5, a6, a7, a8, a9, a10, a11, a12, a13, a14, a15, a16, a17, a18, a19] := by rfl
theorem hlist_of20_is_model (a1 a2 a3 a4 a5 a6 a7 a8 a9 a10 a11 a12 a13 a14 a15 a16 a17 a18 a19 a20 : A) : some (hl20 (hlist_Of20 a1 a2 a3 a4 a5 a6 a7 a8 a9 a10 a11 a12 a13 a14 a15 a16 a17 a18 a19 a20)) = hlistOf 19 [a1, a2, a3, a4, a5, a6, a7, a8, a9, a10, a11, a12, a13, a14, a15, a16, a17, a18, a19, a20] := by rfl
theorem hlist_of21_is_model (a1 a2 a3 a4 a5 a6 a7 a8 a9 a10 a11 a12 a13 a14 a15 a16 a17 a18 a19 a20 a21 : A) : some (hl21 (hlist_Of21 a1 a2 a3 a4 a5 a6 a7 a8 a9 a10 a11 a12 a13 a14 a15 a16 a17 a18 a19 a20 a21)) = hlistOf 20 [a1, a2, a3, a4, a5, a6, a7, a8, a9, a10, a11, a12, a13, a14, a15, a16, a17, a18, a19, a20, a21] := by rfl
-- `as.HListNLabelled(t) = hlist.OfN(t.Unapply())` (as/labelled_gen.go): the tie of `OfN` at the fields of `t`
theorem as_hlist1Labelled_is_model (t : fp_Labelled1 A) :
    some (hl1 (as_HList1Labelled t)) = asHListLabelled 0 (labList1 t) := by
  apply hlist_of1_is_model
theorem as_hlist2Labelled_is_model (t : fp_Labelled2 A A) :
    some (hl2 (as_HList2Labelled t)) = asHListLabelled 1 (labList2 t) := by
  apply hlist_of2_is_model
theorem as_hlist3Labelled_is_model (t : fp_Labelled3 A A A) :
    some (hl3 (as_HList3Labelled t)) = asHListLabelled 2 (labList3 t) := by
  apply hlist_of3_is_model
theorem as_hlist4Labelled_is_model (t : fp_Labelled4 A A A A) :
    some (hl4 (as_HList4Labelled t)) = asHListLabelled 3 (labList4 t) := by
  apply hlist_of4_is_model
theorem as_hlist5Labelled_is_model (t : fp_Labelled5 A A A A A) :
    some (hl5 (as_HList5Labelled t)) = asHListLabelled 4 (labList5 t) := by
  apply hlist_of5_is_model
theorem as_hlist6Labelled_is_model (t : fp_Labelled6 A A A A A A) :
    some (hl6 (as_HList6Labelled t)) = asHListLabelled 5 (labList6 t) := by
  apply hlist_of6_is_model
theorem as_hlist7Labelled_is_model (t : fp_Labelled7 A A A A A A A) :
    some (hl7 (as_HList7Labelled t)) = asHListLabelled 6 (labList7 t) := by
  apply hlist_of7_is_model
theorem as_hlist8Labelled_is_model (t : fp_Labelled8 A A A A A A A A) :
    some (hl8 (as_HList8Labelled t)) = asHListLabelled 7 (labList8 t) := by
  apply hlist_of8_is_model
theorem as_hlist9Labelled_is_model (t : fp_Labelled9 A A A A A A A A A) :
    some (hl9 (as_HList9Labelled t)) = asHListLabelled 8 (labList9 t) := by
  apply hlist_of9_is_model
theorem as_hlist10Labelled_is_model (t : fp_Labelled10 A A A A A A A A A A) :
    some (hl10 (as_HList10Labelled t)) = asHListLabelled 9 (labList10 t) := by
  apply hlist_of10_is_model
theorem as_hlist11Labelled_is_model (t : fp_Labelled11 A A A A A A A A A A A) :
    some (hl11 (as_HList11Labelled t)) = asHListLabelled 10 (labList11 t) := by
  apply hlist_of11_is_model
theorem as_hlist12Labelled_is_model (t : fp_Labelled12 A A A A A A A A A A A A) :
    some (hl12 (as_HList12Labelled t)) = asHListLabelled 11 (labList12 t) := by
  apply hlist_of12_is_model
theorem as_hlist13Labelled_is_model (t : fp_Labelled13 A A A A A A A A A A A A A) :
    some (hl13 (as_HList13Labelled t)) = asHListLabelled 12 (labList13 t) := by
  apply hlist_of13_is_model
theorem as_hlist14Labelled_is_model (t : fp_Labelled14 A A A A A A A A A A A A A A) :
    some (hl14 (as_HList14Labelled t)) = asHListLabelled 13 (labList14 t) := by
  apply hlist_of14_is_model
theorem as_hlist15Labelled_is_model (t : fp_Labelled15 A A A A A A A A A A A A A A A) :
    some (hl15 (as_HList15Labelled t)) = asHListLabelled 14 (labList15 t) := by
  apply hlist_of15_is_model
theorem as_hlist16Labelled_is_model (t : fp_Labelled16 A A A A A A A A A A A A A A A A) :
    some (hl16 (as_HList16Labelled t)) = asHListLabelled 15 (labList16 t) := by
  apply hlist_of16_is_model
theorem as_hlist17Labelled_is_model (t : fp_Labelled17 A A A A A A A A A A A A A A A A A) :
    some (hl17 (as_HList17Labelled t)) = asHListLabelled 16 (labList17 t) := by
  apply hlist_of17_is_model
theorem as_hlist18Labelled_is_model (t : fp_Labelled18 A A A A A A A A A A A A A A A A A A) :
    some (hl18 (as_HList18Labelled t)) = asHListLabelled 17 (labList18 t) := by
  apply hlist_of18_is_model
theorem as_hlist19Labelled_is_model (t : fp_Labelled19 A A A A A A A A A A A A A A A A A A A) :
    some (hl19 (as_HList19Labelled t)) = asHListLabelled 18 (labList19 t) := by
  apply hlist_of19_is_model
theorem as_hlist20Labelled_is_model (t : fp_Labelled20 A A A A A A A A A A A A A A A A A A A A) :
    some (hl20 (as_HList20Labelled t)) = asHListLabelled 19 (labList20 t) := by
  apply hlist_of20_is_model
theorem as_hlist21Labelled_is_model (t : fp_Labelled21 A A A A A A A A A A A A A A A A A A A A A) :
    some (hl21 (as_HList21Labelled t)) = asHListLabelled 20 (labList21 t) := by
  apply hlist_of21_is_model
theorem hlist_case1_is_model {T : Type} (a1 : A) (t : T) (rest : List A) (f : NFun A R) :
    hlist_Case1 ⟨a1, t⟩ (fun a1 => f [a1]) = hcase 0 (a1 :: rest) f := by rfl
theorem hlist_case2_is_model {T : Type} (a1 a2 : A) (t : T) (rest : List A) (f : NFun A R) :
    hlist_Case2 ⟨a1, ⟨a2, t⟩⟩ (fun a1 a2 => f [a1, a2]) = hcase 1 (a1 :: a2 :: rest) f := by rfl
theorem hlist_case3_is_model {T : Type} (a1 a2 a3 : A) (t : T) (rest : List A) (f : NFun A R) :
    hlist_Case3 ⟨a1, ⟨a2, ⟨a3, t⟩⟩⟩ (fun a1 a2 a3 => f [a1, a2, a3]) = hcase 2 (a1 :: a2 :: a3 :: rest) f := by rfl
theorem hlist_case4_is_model {T : Type} (a1 a2 a3 a4 : A) (t : T) (rest : List A) (f : NFun A R) :
    hlist_Case4 ⟨a1, ⟨a2, ⟨a3, ⟨a4, t⟩⟩⟩⟩ (fun a1 a2 a3 a4 => f [a1, a2, a3, a4]) = hcase 3 (a1 :: a2 :: a3 :: a4 :: rest) f := by rfl
theorem hlist_case5_is_model {T : Type} (a1 a2 a3 a4 a5 : A) (t : T) (rest : List A) (f : NFun A R) :
    hlist_Case5 ⟨a1, ⟨a2, ⟨a3, ⟨a4, ⟨a5, t⟩⟩⟩⟩⟩ (fun a1 a2 a3 a4 a5 => f [a1, a2, a3, a4, a5]) = hcase 4 (a1 :: a2 :: a3 :: a4 :: a5 :: rest) f := by rfl
theorem hlist_case6_is_model {T : Type} (a1 a2 a3 a4 a5 a6 : A) (t : T) (rest : List A) (f : NFun A R) :
    hlist_Case6 ⟨a1, ⟨a2, ⟨a3, ⟨a4, ⟨a5, ⟨a6, t⟩⟩⟩⟩⟩⟩ (fun a1 a2 a3 a4 a5 a6 => f [a1, a2, a3, a4, a5, a6]) = hcase 5 (a1 :: a2 :: a3 :: a4 :: a5 :: a6 :: rest) f := by rfl
theorem hlist_case7_is_model {T : Type} (a1 a2 a3 a4 a5 a6 a7 : A) (t : T) (rest : List A) (f : NFun A R) :
    hlist_Case7 ⟨a1, ⟨a2, ⟨a3, ⟨a4, ⟨a5, ⟨a6, ⟨a7, t⟩⟩⟩⟩⟩⟩⟩ (fun a1 a2 a3 a4 a5 a6 a7 => f [a1, a2, a3, a4, a5, a6, a7]) = hcase 6 (a1 :: a2 :: a3 :: a4 :: a5 :: a6 :: a7 :: rest) f := by rfl
theorem hlist_case8_is_model {T : Type} (a1 a2 a3 a4 a5 a6 a7 a8 : A) (t : T) (rest : List A) (f : NFun A R) :
    hlist_Case8 ⟨a1, ⟨a2, ⟨a3, ⟨a4, ⟨a5, ⟨a6, ⟨a7, ⟨a8, t⟩⟩⟩⟩⟩⟩⟩⟩ (fun a1 a2 a3 a4 a5 a6 a7 a8 => f [a1, a2, a3, a4, a5, a6, a7, a8]) = hcase 7 (a1 :: a2 :: a3 :: a4 :: a5 :: a6 :: a7 :: a8 :: rest) f := by rfl
theorem hlist_case9_is_model {T : Type} (a1 a2 a3 a4 a5 a6 a7 a8 a9 : A) (t : T) (rest : List A) (f : NFun A R) :
    hlist_Case9 ⟨a1, ⟨a2, ⟨a3, ⟨a4, ⟨a5, ⟨a6, ⟨a7, ⟨a8, ⟨a9, t⟩⟩⟩⟩⟩⟩⟩⟩⟩ (fun a1 a2 a3 a4 a5 a6 a7 a8 a9 => f [a1, a2, a3, a4, a5, a6, a7, a8, a9]) = hcase 8 (a1 :: a2 :: a3 :: a4 :: a5 :: a6 :: a7 :: a8 :: a9 :: rest) f := by rfl
theorem hlist_case10_is_model {T : Type} (a1 a2 a3 a4 a5 a6 a7 a8 a9 a10 : A) (t : T) (rest : List A) (f : NFun A R) :
    hlist_Case10 ⟨a1, ⟨a2, ⟨a3, ⟨a4, ⟨a5, ⟨a6, ⟨a7, ⟨a8, ⟨a9, ⟨a10, t⟩⟩⟩⟩⟩⟩⟩⟩⟩⟩ (fun a1 a2 a3 a4 a5 a6 a7 a8 a9 a10 => f [a1, a2, a3, a4, a5, a6, a7, a8, a9, a10]) = hcase 9 (a1 :: a2 :: a3 :: a4 :: a5 :: a6 :: a7 :: a8 :: a9 :: a10 :: rest) f := by rfl
theorem hlist_case11_is_model {T : Type} (a1 a2 a3 a4 a5 a6 a7 a8 a9 a10 a11 : A) (t : T) (rest : List A) (f : NFun A R) :
    hlist_Case11 ⟨a1, ⟨a2, ⟨a3, ⟨a4, ⟨a5, ⟨a6, ⟨a7, ⟨a8, ⟨a9, ⟨a10, ⟨a11, t⟩⟩⟩⟩⟩⟩⟩⟩⟩⟩⟩ (fun a1 a2 a3 a4 a5 a6 a7 a8 a9 a10 a11 => f [a1, a2, a3, a4, a5, a6, a7, a8, a9, a10, a11]) = hcase 10 (a1 :: a2 :: a3 :: a4 :: a5 :: a6 :: a7 :: a8 :: a9 :: a10 :: a11 :: rest) f := by rfl
theorem hlist_case12_is_model {T : Type} (a1 a2 a3 a4 a5 a6 a7 a8 a9 a10 a11 a12 : A) (t : T) (rest : List A) (f : NFun A R) :
    hlist_Case12 ⟨a1, ⟨a2, ⟨a3, ⟨a4, ⟨a5, ⟨a6, ⟨a7, ⟨a8, ⟨a9, ⟨a10, ⟨a11, ⟨a12, t⟩⟩⟩⟩⟩⟩⟩⟩⟩⟩⟩⟩ (fun a1 a2 a3 a4 a5 a6 a7 a8 a9 a10 a11 a12 => f [a1, a2, a3, a4, a5, a6, a7, a8, a9, a10, a11, a12]) = hcase 11 (a1 :: a2 :: a3 :: a4 :: a5 :: a6 :: a7 :: a8 :: a9 :: a10 :: a11 :: a12 :: rest) f := by rfl
theorem hlist_case13_is_model {T : Type} (a1 a2 a3 a4 a5 a6 a7 a8 a9 a10 a11 a12 a13 : A) (t : T) (rest : List A) (f : NFun A R) :
    hlist_Case13 ⟨a1, ⟨a2, ⟨a3, ⟨a4, ⟨a5, ⟨a6, ⟨a7, ⟨a8, ⟨a9, ⟨a10, ⟨a11, ⟨a12, ⟨a13, t⟩⟩⟩⟩⟩⟩⟩⟩⟩⟩⟩⟩⟩ (fun a1 a2 a3 a4 a5 a6 a7 a8 a9 a10 a11 a12 a13 => f [a1, a2, a3, a4, a5, a6, a7, a8, a9, a10, a11, a12, a13]) = hcase 12 (a1 :: a2 :: a3 :: a4 :: a5 :: a6 :: a7 :: a8 :: a9 :: a10 :: a11 :: a12 :: a13 :: rest) f := by rfl
theorem hlist_case14_is_model {T : Type} (a1 a2 a3 a4 a5 a6 a7 a8 a9 a10 a11 a12 a13 a14 : A) (t : T) (rest : List A) (f : NFun A R) :
    hlist_Case14 ⟨a1, ⟨a2, ⟨a3, ⟨a4, ⟨a5, ⟨a6, ⟨a7, ⟨a8, ⟨a9, ⟨a10, ⟨a11, ⟨a12, ⟨a13, ⟨a14, t⟩⟩⟩⟩⟩⟩⟩⟩⟩⟩⟩⟩⟩⟩ (fun a1 a2 a3 a4 a5 a6 a7 a8 a9 a10 a11 a12 a13 a14 => f [a1, a2, a3, a4, a5, a6, a7, a8, a9, a10, a11, a12, a13, a14]) = hcase 13 (a1 :: a2 :: a3 :: a4 :: a5 :: a6 :: a7 :: a8 :: a9 :: a10 :: a11 :: a12 :: a13 :: a14 :: rest) f := by rfl
theorem hlist_case15_is_model {T : Type} (a1 a2 a3 a4 a5 a6 a7 a8 a9 a10 a11 a12 a13 a14 a15 : A) (t : T) (rest : List A) (f : NFun A R) :
    hlist_Case15 ⟨a1, ⟨a2, ⟨a3, ⟨a4, ⟨a5, ⟨a6, ⟨a7, ⟨a8, ⟨a9, ⟨a10, ⟨a11, ⟨a12, ⟨a13, ⟨a14, ⟨a15, t⟩⟩⟩⟩⟩⟩⟩⟩⟩⟩⟩⟩⟩⟩⟩ (fun a1 a2 a3 a4 a5 a6 a7 a8 a9 a10 a11 a12 a13 a14 a15 => f [a1, a2, a3, a4, a5, a6, a7, a8, a9, a10, a11, a12, a13, a14, a15]) = hcase 14 (a1 :: a2 :: a3 :: a4 :: a5 :: a6 :: a7 :: a8 :: a9 :: a10 :: a11 :: a12 :: a13 :: a14 :: a15 :: rest) f := by rfl
theorem hlist_case16_is_model {T : Type} (a1 a2 a3 a4 a5 a6 a7 a8 a9 a10 a11 a12 a13 a14 a15 a16 : A) (t : T) (rest : List A) (f : NFun A R) :
    hlist_Case16 ⟨a1, ⟨a2, ⟨a3, ⟨a4, ⟨a5, ⟨a6, ⟨a7, ⟨a8, ⟨a9, ⟨a10, ⟨a11, ⟨a12, ⟨a13, ⟨a14, ⟨a15, ⟨a16, t⟩⟩⟩⟩⟩⟩⟩⟩⟩⟩⟩⟩⟩⟩⟩⟩ (fun a1 a2 a3 a4 a5 a6 a7 a8 a9 a10 a11 a12 a13 a14 a15 a16 => f [a1, a2, a3, a4, a5, a6, a7, a8, a9, a10, a11, a12, a13, a14, a15, a16]) = hcase 15 (a1 :: a2 :: a3 :: a4 :: a5 :: a6 :: a7 :: a8 :: a9 :: a10 :: a11 :: a12 :: a13 :: a14 :: a15 :: a16 :: rest) f := by rfl
theorem hlist_case17_is_model {T : Type} (a1 a2 a3 a4 a5 a6 a7 a8 a9 a10 a11 a12 a13 a14 a15 a16 a17 : A) (t : T) (rest : List A) (f : NFun A R) :
    hlist_Case17 ⟨a1, ⟨a2, ⟨a3, ⟨a4, ⟨a5, ⟨a6, ⟨a7, ⟨a8, ⟨a9, ⟨a10, ⟨a11, ⟨a12, ⟨a13, ⟨a14, ⟨a15, ⟨a16, ⟨a17, t⟩⟩⟩⟩⟩⟩⟩⟩⟩⟩⟩⟩⟩⟩⟩⟩⟩ (fun a1 a2 a3 a4 a5 a6 a7 a8 a9 a10 a11 a12 a13 a14 a15 a16 a17 => f [a1, a2, a3, a4, a5, a6, a7, a8, a9, a10, a11, a12, a13, a14, a15, a16, a17]) = hcase 16 (a1 :: a2 :: a3 :: a4 :: a5 :: a6 :: a7 :: a8 :: a9 :: a10 :: a11 :: a12 :: a13 :: a14 :: a15 :: a16 :: a17 :: rest) f := by rfl
theorem hlist_case18_is_model {T : Type} (a1 a2 a3 a4 a5 a6 a7 a8 a9 a10 a11 a12 a13 a14 a15 a16 a17 a18 : A) (t : T) (rest : List A) (f : NFun A R) :
    hlist_Case18 ⟨a1, ⟨a2, ⟨a3, ⟨a4, ⟨a5, ⟨a6, ⟨a7, ⟨a8, ⟨a9, ⟨a10, ⟨a11, ⟨a12, ⟨a13, ⟨a14, ⟨a15, ⟨a16, ⟨a17, ⟨a18, t⟩⟩⟩⟩⟩⟩⟩⟩⟩⟩⟩⟩⟩⟩⟩⟩⟩⟩ (fun a1 a2 a3 a4 a5 a6 a7 a8 a9 a10 a11 a12 a13 a14 a15 a16 a17 a18 => f [a1, a2, a3, a4, a5, a6, a7, a8, a9, a10, a11, a12, a13, a14, a15, a16, a17, a18]) = hcase 17 (a1 :: a2 :: a3 :: a4 :: a5 :: a6 :: a7 :: a8 :: a9 :: a10 :: a11 :: a12 :: a13 :: a14 :: a15 :: a16 :: a17 :: a18 :: rest) f := by rfl
theorem hlist_case19_is_model {T : Type} (a1 a2 a3 a4 a5 a6 a7 a8 a9 a10 a11 a12 a13 a14 a15 a16 a17 a18 a19 : A) (t : T) (rest : List A) (f : NFun A R) :
    hlist_Case19 ⟨a1, ⟨a2, ⟨a3, ⟨a4, ⟨a5, ⟨a6, ⟨a7, ⟨a8, ⟨a9, ⟨a10, ⟨a11, ⟨a12, ⟨a13, ⟨a14, ⟨a15, ⟨a16, ⟨a17, ⟨a18, ⟨a19, t⟩⟩⟩⟩⟩⟩⟩⟩⟩⟩⟩⟩⟩⟩⟩⟩⟩⟩⟩ (fun a1 a2 a3 a4 a5 a6 a7 a8 a9 a10 a11 a12 a13 a14 a15 a16 a17 a18 a19 => f [a1, a2, a3, a4, a5, a6, a7, a8, a9, a10, a11, a12, a13, a14, a15, a16, a17, a18, a19]) = hcase 18 (a1 :: a2 :: a3 :: a4 :: a5 :: a6 :: a7 :: a8 :: a9 :: a10 :: a11 :: a12 :: a13 :: a14 :: a15 :: a16 :: a17 :: a18 :: a19 :: rest) f := by rfl
theorem hlist_case20_is_model {T : Type} (a1 a2 a3 a4 a5 a6 a7 a8 a9 a10 a11 a12 a13 a14 a15 a16 a17 a18 a19 a20 : A) (t : T) (rest : List A) (f : NFun A R) :
    hlist_Case20 ⟨a1, ⟨a2, ⟨a3, ⟨a4, ⟨a5, ⟨a6, ⟨a7, ⟨a8, ⟨a9, ⟨a10, ⟨a11, ⟨a12, ⟨a13, ⟨a14, ⟨a15, ⟨a16, ⟨a17, ⟨a18, ⟨a19, ⟨a20, t⟩⟩⟩⟩⟩⟩⟩⟩⟩⟩⟩⟩⟩⟩⟩⟩⟩⟩⟩⟩ (fun a1 a2 a3 a4 a5 a6 a7 a8 a9 a10 a11 a12 a13 a14 a15 a16 a17 a18 a19 a20 => f [a1, a2, a3, a4, a5, a6, a7, a8, a9, a10, a11, a12, a13, a14, a15, a16, a17, a18, a19, a20]) = hcase 19 (a1 :: a2 :: a3 :: a4 :: a5 :: a6 :: a7 :: a8 :: a9 :: a10 :: a11 :: a12 :: a13 :: a14 :: a15 :: a16 :: a17 :: a18 :: a19 :: a20 :: rest) f := by rfl
theorem hlist_case21_is_model {T : Type} (a1 a2 a3 a4 a5 a6 a7 a8 a9 a10 a11 a12 a13 a14 a15 a16 a17 a18 a19 a20 a21 : A) (t : T) (rest : List A) (f : NFun A R) :
    hlist_Case21 ⟨a1, ⟨a2, ⟨a3, ⟨a4, ⟨a5, ⟨a6, ⟨a7, ⟨a8, ⟨a9, ⟨a10, ⟨a11, ⟨a12, ⟨a13, ⟨a14, ⟨a15, ⟨a16, ⟨a17, ⟨a18, ⟨a19, ⟨a20, ⟨a21, t⟩⟩⟩⟩⟩⟩⟩⟩⟩⟩⟩⟩⟩⟩⟩⟩⟩⟩⟩⟩⟩ (fun a1 a2 a3 a4 a5 a6 a7 a8 a9 a10 a11 a12 a13 a14 a15 a16 a17 a18 a19 a20 a21 => f [a1, a2, a3, a4, a5, a6, a7, a8, a9, a10, a11, a12, a13, a14, a15, a16, a17, a18, a19, a20, a21]) = hcase 20 (a1 :: a2 :: a3 :: a4 :: a5 :: a6 :: a7 :: a8 :: a9 :: a10 :: a11 :: a12 :: a13 :: a14 :: a15 :: a16 :: a17 :: a18 :: a19 :: a20 :: a21 :: rest) f := by rfl
theorem hlist_lift1_is_model (a1 : A) (f : NFun A R) :
    hlist_Lift1 (fun a1 => f [a1]) ⟨a1, ⟨⟩⟩ = hlift 0 f [a1] := by rfl
theorem hlist_lift2_is_model (a1 a2 : A) (f : NFun A R) :
    hlist_Lift2 (fun a1 a2 => f [a1, a2]) ⟨a1, ⟨a2, ⟨⟩⟩⟩ = hlift 1 f [a1, a2] := by rfl
theorem hlist_lift3_is_model (a1 a2 a3 : A) (f : NFun A R) :
    hlist_Lift3 (fun a1 a2 a3 => f [a1, a2, a3]) ⟨a1, ⟨a2, ⟨a3, ⟨⟩⟩⟩⟩ = hlift 2 f [a1, a2, a3] := by rfl
theorem hlist_lift4_is_model (a1 a2 a3 a4 : A) (f : NFun A R) :
    hlist_Lift4 (fun a1 a2 a3 a4 => f [a1, a2, a3, a4]) ⟨a1, ⟨a2, ⟨a3, ⟨a4, ⟨⟩⟩⟩⟩⟩ = hlift 3 f [a1, a2, a3, a4] := by rfl
theorem hlist_lift5_is_model (a1 a2 a3 a4 a5 : A) (f : NFun A R) :
    hlist_Lift5 (fun a1 a2 a3 a4 a5 => f [a1, a2, a3, a4, a5]) ⟨a1, ⟨a2, ⟨a3, ⟨a4, ⟨a5, ⟨⟩⟩⟩⟩⟩⟩ = hlift 4 f [a1, a2, a3, a4, a5] := by rfl
theorem hlist_lift6_is_model (a1 a2 a3 a4 a5 a6 : A) (f : NFun A R) :
    hlist_Lift6 (fun a1 a2 a3 a4 a5 a6 => f [a1, a2, a3, a4, a5, a6]) ⟨a1, ⟨a2, ⟨a3, ⟨a4, ⟨a5, ⟨a6, ⟨⟩⟩⟩⟩⟩⟩⟩ = hlift 5 f [a1, a2, a3, a4, a5, a6] := by rfl
theorem hlist_lift7_is_model (a1 a2 a3 a4 a5 a6 a7 : A) (f : NFun A R) :
    hlist_Lift7 (fun a1 a2 a3 a4 a5 a6 a7 => f [a1, a2, a3, a4, a5, a6, a7]) ⟨a1, ⟨a2, ⟨a3, ⟨a4, ⟨a5, ⟨a6, ⟨a7, ⟨⟩⟩⟩⟩⟩⟩⟩⟩ = hlift 6 f [a1, a2, a3, a4, a5, a6, a7] := by rfl
theorem hlist_lift8_is_model (a1 a2 a3 a4 a5 a6 a7 a8 : A) (f : NFun A R) :
    hlist_Lift8 (fun a1 a2 a3 a4 a5 a6 a7 a8 => f [a1, a2, a3, a4, a5, a6, a7, a8]) ⟨a1, ⟨a2, ⟨a3, ⟨a4, ⟨a5, ⟨a6, ⟨a7, ⟨a8, ⟨⟩⟩⟩⟩⟩⟩⟩⟩⟩ = hlift 7 f [a1, a2, a3, a4, a5, a6, a7, a8] := by rfl
theorem hlist_lift9_is_model (a1 a2 a3 a4 a5 a6 a7 a8 a9 : A) (f : NFun A R) :
    hlist_Lift9 (fun a1 a2 a3 a4 a5 a6 a7 a8 a9 => f [a1, a2, a3, a4, a5, a6, a7, a8, a9]) ⟨a1, ⟨a2, ⟨a3, ⟨a4, ⟨a5, ⟨a6, ⟨a7, ⟨a8, ⟨a9, ⟨⟩⟩⟩⟩⟩⟩⟩⟩⟩⟩ = hlift 8 f [a1, a2, a3, a4, a5, a6, a7, a8, a9] := by rfl
-- `RiftN(f)` takes the REVERSED hlist `(aN, …, a1)`
theorem hlist_rift1_is_model (a1 : A) (f : NFun A R) :
    hlist_Rift1 (fun a1 => f [a1]) ⟨a1, ⟨⟩⟩ = hrift 0 f [a1] := by rfl
theorem hlist_rift2_is_model (a1 a2 : A) (f : NFun A R) :
    hlist_Rift2 (fun a1 a2 => f [a1, a2]) ⟨a2, ⟨a1, ⟨⟩⟩⟩ = hrift 1 f [a2, a1] := by rfl
theorem hlist_rift3_is_model (a1 a2 a3 : A) (f : NFun A R) :
    hlist_Rift3 (fun a1 a2 a3 => f [a1, a2, a3]) ⟨a3, ⟨a2, ⟨a1, ⟨⟩⟩⟩⟩ = hrift 2 f [a3, a2, a1] := by rfl
theorem hlist_rift4_is_model (a1 a2 a3 a4 : A) (f : NFun A R) :
    hlist_Rift4 (fun a1 a2 a3 a4 => f [a1, a2, a3, a4]) ⟨a4, ⟨a3, ⟨a2, ⟨a1, ⟨⟩⟩⟩⟩⟩ = hrift 3 f [a4, a3, a2, a1] := by rfl
theorem hlist_rift5_is_model (a1 a2 a3 a4 a5 : A) (f : NFun A R) :
    hlist_Rift5 (fun a1 a2 a3 a4 a5 => f [a1, a2, a3, a4, a5]) ⟨a5, ⟨a4, ⟨a3, ⟨a2, ⟨a1, ⟨⟩⟩⟩⟩⟩⟩ = hrift 4 f [a5, a4, a3, a2, a1] := by rfl
theorem hlist_rift6_is_model (a1 a2 a3 a4 a5 a6 : A) (f : NFun A R) :
    hlist_Rift6 (fun a1 a2 a3 a4 a5 a6 => f [a1, a2, a3, a4, a5, a6]) ⟨a6, ⟨a5, ⟨a4, ⟨a3, ⟨a2, ⟨a1, ⟨⟩⟩⟩⟩⟩⟩⟩ = hrift 5 f [a6, a5, a4, a3, a2, a1] := by rfl
theorem hlist_rift7_is_model (a1 a2 a3 a4 a5 a6 a7 : A) (f : NFun A R) :
    hlist_Rift7 (fun a1 a2 a3 a4 a5 a6 a7 => f [a1, a2, a3, a4, a5, a6, a7]) ⟨a7, ⟨a6, ⟨a5, ⟨a4, ⟨a3, ⟨a2, ⟨a1, ⟨⟩⟩⟩⟩⟩⟩⟩⟩ = hrift 6 f [a7, a6, a5, a4, a3, a2, a1] := by rfl
theorem hlist_rift8_is_model (a1 a2 a3 a4 a5 a6 a7 a8 : A) (f : NFun A R) :
    hlist_Rift8 (fun a1 a2 a3 a4 a5 a6 a7 a8 => f [a1, a2, a3, a4, a5, a6, a7, a8]) ⟨a8, ⟨a7, ⟨a6, ⟨a5, ⟨a4, ⟨a3, ⟨a2, ⟨a1, ⟨⟩⟩⟩⟩⟩⟩⟩⟩⟩ = hrift 7 f [a8, a7, a6, a5, a4, a3, a2, a1] := by rfl
theorem hlist_rift9_is_model (a1 a2 a3 a4 a5 a6 a7 a8 a9 : A) (f : NFun A R) :
    hlist_Rift9 (fun a1 a2 a3 a4 a5 a6 a7 a8 a9 => f [a1, a2, a3, a4, a5, a6, a7, a8, a9]) ⟨a9, ⟨a8, ⟨a7, ⟨a6, ⟨a5, ⟨a4, ⟨a3, ⟨a2, ⟨a1, ⟨⟩⟩⟩⟩⟩⟩⟩⟩⟩⟩ = hrift 8 f [a9, a8, a7, a6, a5, a4, a3, a2, a1] := by rfl
theorem hlist_reverse2_is_model (a1 a2 : A) :
    (fun l => hl2 l) <$> hlist_Reverse2 (⟨a1, ⟨a2, ⟨⟩⟩⟩ : (hlist_Cons A (hlist_Cons A hlist_Nil))) = hreverse 1 [a1, a2] := by rfl
theorem hlist_reverse3_is_model (a1 a2 a3 : A) :
    (fun l => hl3 l) <$> hlist_Reverse3 (⟨a1, ⟨a2, ⟨a3, ⟨⟩⟩⟩⟩ : (hlist_Cons A (hlist_Cons A (hlist_Cons A hlist_Nil)))) = hreverse 2 [a1, a2, a3] := by rfl
theorem hlist_reverse4_is_model (a1 a2 a3 a4 : A) :
    (fun l => hl4 l) <$> hlist_Reverse4 (⟨a1, ⟨a2, ⟨a3, ⟨a4, ⟨⟩⟩⟩⟩⟩ : (hlist_Cons A (hlist_Cons A (hlist_Cons A (hlist_Cons A hlist_Nil))))) = hreverse 3 [a1, a2, a3, a4] := by rfl
theorem hlist_reverse5_is_model (a1 a2 a3 a4 a5 : A) :
    (fun l => hl5 l) <$> hlist_Reverse5 (⟨a1, ⟨a2, ⟨a3, ⟨a4, ⟨a5, ⟨⟩⟩⟩⟩⟩⟩ : (hlist_Cons A (hlist_Cons A (hlist_Cons A (hlist_Cons A (hlist_Cons A hlist_Nil)))))) = hreverse 4 [a1, a2, a3, a4, a5] := by rfl
theorem hlist_reverse6_is_model (a1 a2 a3 a4 a5 a6 : A) :
    (fun l => hl6 l) <$> hlist_Reverse6 (⟨a1, ⟨a2, ⟨a3, ⟨a4, ⟨a5, ⟨a6, ⟨⟩⟩⟩⟩⟩⟩⟩ : (hlist_Cons A (hlist_Cons A (hlist_Cons A (hlist_Cons A (hlist_Cons A (hlist_Cons A hlist_Nil))))))) = hreverse 5 [a1, a2, a3, a4, a5, a6] := by rfl
theorem hlist_reverse7_is_model (a1 a2 a3 a4 a5 a6 a7 : A) :
    (fun l => hl7 l) <$> hlist_Reverse7 (⟨a1, ⟨a2, ⟨a3, ⟨a4, ⟨a5, ⟨a6, ⟨a7, ⟨⟩⟩⟩⟩⟩⟩⟩⟩ : (hlist_Cons A (hlist_Cons A (hlist_Cons A (hlist_Cons A (hlist_Cons A (hlist_Cons A (hlist_Cons A hlist_Nil)))))))) = hreverse 6 [a1, a2, a3, a4, a5, a6, a7] := by rfl
theorem hlist_reverse8_is_model (a1 a2 a3 a4 a5 a6 a7 a8 : A) :
    (fun l => hl8 l) <$> hlist_Reverse8 (⟨a1, ⟨a2, ⟨a3, ⟨a4, ⟨a5, ⟨a6, ⟨a7, ⟨a8, ⟨⟩⟩⟩⟩⟩⟩⟩⟩⟩ : (hlist_Cons A (hlist_Cons A (hlist_Cons A (hlist_Cons A (hlist_Cons A (hlist_Cons A (hlist_Cons A (hlist_Cons A hlist_Nil))))))))) = hreverse 7 [a1, a2, a3, a4, a5, a6, a7, a8] := by rfl
theorem hlist_reverse9_is_model (a1 a2 a3 a4 a5 a6 a7 a8 a9 : A) :
    (fun l => hl9 l) <$> hlist_Reverse9 (⟨a1, ⟨a2, ⟨a3, ⟨a4, ⟨a5, ⟨a6, ⟨a7, ⟨a8, ⟨a9, ⟨⟩⟩⟩⟩⟩⟩⟩⟩⟩⟩ : (hlist_Cons A (hlist_Cons A (hlist_Cons A (hlist_Cons A (hlist_Cons A (hlist_Cons A (hlist_Cons A (hlist_Cons A (hlist_Cons A hlist_Nil)))))))))) = hreverse 8 [a1, a2, a3, a4, a5, a6, a7, a8, a9] := by rfl

-- ------------------------------------------------------------------------------------------------
-- product/tuple_gen.go (+ Tuple2, TupleFromHList1, LabelledFromHList1, Flatten3 of product_op.go)

theorem product_tuple2_is_model (a1 a2 : A) : tupList2 (product_Tuple2 a1 a2) = mkTuple [a1, a2] := by rfl
theorem product_tuple3_is_model (a1 a2 a3 : A) : tupList3 (product_Tuple3 a1 a2 a3) = mkTuple [a1, a2, a3] := by rfl
theorem product_tuple4_is_model (a1 a2 a3 a4 : A) : tupList4 (product_Tuple4 a1 a2 a3 a4) = mkTuple [a1, a2, a3, a4] := by rfl
theorem product_tuple5_is_model (a1 a2 a3 a4 a5 : A) : tupList5 (product_Tuple5 a1 a2 a3 a4 a5) = mkTuple [a1, a2, a3, a4, a5] := by rfl
theorem product_tuple6_is_model (a1 a2 a3 a4 a5 a6 : A) : tupList6 (product_Tuple6 a1 a2 a3 a4 a5 a6) = mkTuple [a1, a2, a3, a4, a5, a6] := by rfl
theorem product_tuple7_is_model (a1 a2 a3 a4 a5 a6 a7 : A) : tupList7 (product_Tuple7 a1 a2 a3 a4 a5 a6 a7) = mkTuple [a1, a2, a3, a4, a5, a6, a7] := by rfl
theorem product_tuple8_is_model (a1 a2 a3 a4 a5 a6 a7 a8 : A) : tupList8 (product_Tuple8 a1 a2 a3 a4 a5 a6 a7 a8) = mkTuple [a1, a2, a3, a4, a5, a6, a7, a8] := by rfl
theorem product_tuple9_is_model (a1 a2 a3 a4 a5 a6 a7 a8 a9 : A) : tupList9 (product_Tuple9 a1 a2 a3 a4 a5 a6 a7 a8 a9) = mkTuple [a1, a2, a3, a4, a5, a6, a7, a8, a9] := by rfl
theorem product_tuple10_is_model (a1 a2 a3 a4 a5 a6 a7 a8 a9 a10 : A) : tupList10 (product_Tuple10 a1 a2 a3 a4 a5 a6 a7 a8 a9 a10) = mkTuple [a1, a2, a3, a4, a5, a6, a7, a8, a9, a10] := by rfl
theorem product_tuple11_is_model (a1 a2 a3 a4 a5 a6 a7 a8 a9 a10 a11 : A) : tupList11 (product_Tuple11 a1 a2 a3 a4 a5 a6 a7 a8 a9 a10 a11) = mkTuple [a1, a2, a3, a4, a5, a6, a7, a8, a9, a10, a11] := by rfl
theorem product_tuple12_is_model (a1 a2 a3 a4 a5 a6 a7 a8 a9 a10 a11 a12 : A) : tupList12 (product_Tuple12 a1 a2 a3 a4 a5 a6 a7 a8 a9 a10 a11 a12) = mkTuple [a1, a2, a3, a4, a5, a6, a7, a8, a9, a10, a11, a12] := by rfl
theorem product_tuple13_is_model (a1 a2 a3 a4 a5 a6 a7 a8 a9 a10 a11 a12 a13 : A) : tupList13 (product_Tuple13 a1 a2 a3 a4 a5 a6 a7 a8 a9 a10 a11 a12 a13) = mkTuple [a1, a2, a3, a4, a5, a6, a7, a8, a9, a10, a11, a12, a13] := by rfl
theorem product_tuple14_is_model (a1 a2 a3 a4 a5 a6 a7 a8 a9 a10 a11 a12 a13 a14 : A) : tupList14 (product_Tuple14 a1 a2 a3 a4 a5 a6 a7 a8 a9 a10 a11 a12 a13 a14) = mkTuple [a1, a2, a3, a4, a5, a6, a7, a8, a9, a10, a11, a12, a13, a14] := by rfl
theorem product_tuple15_is_model (a1 a2 a3 a4 a5 a6 a7 a8 a9 a10 a11 a12 a13 a14 a15 : A) : tupList15 (product_Tuple15 a1 a2 a3 a4 a5 a6 a7 a8 a9 a10 a11 a12 a13 a14 a15) = mkTuple [a1, a2, a3, a4, a5, a6, a7, a8, a9, a10, a11, a12, a13, a14, a15] := by rfl
theorem product_tuple16_is_model (a1 a2 a3 a4 a5 a6 a7 a8 a9 a10 a11 a12 a13 a14 a15 a16 : A) : tupList16 (product_Tuple16 a1 a2 a3 a4 a5 a6 a7 a8 a9 a10 a11 a12 a13 a14 a15 a16) = mkTuple [a1, a2, a3, a4, a5, a6, a7, a8, a9, a10, a11, a12, a13, a14, a15, a16] := by rfl
theorem product_tuple17_is_model (a1 a2 a3 a4 a5 a6 a7 a8 a9 a10 a11 a12 a13 a14 a15 a16 a17 : A) : tupList17 (product_Tuple17 a1 a2 a3 a4 a5 a6 a7 a8 a9 a10 a11 a12 a13 a14 a15 a16 a17) = mkTuple [a1, a2, a3, a4, a5, a6, a7, a8, a9, a10, a11, a12, a13, a14, a15, a16, a17] := by rfl
theorem product_tuple18_is_model (a1 a2 a3 a4 a5 a6 a7 a8 a9 a10 a11 a12 a13 a14 a15 a16 a17 a18 : A) : tupList18 (product_Tuple18 a1 a2 a3 a4 a5 a6 a7 a8 a9 a10 a11 a12 a13 a14 a15 a16 a17 a18) = mkTuple [a1, a2, a3, a4, a5, a6, a7, a8, a9, a10, a11, a12, a13, a14, a15, a16, a17, a18] := by rfl
theorem product_tuple19_is_model (a1 a2 a3 a4 a5 a6 a7 a8 a9 a10 a11 a12 a13 a14 a15 a16 a17 a18 a19 : A) : tupList19 (product_Tuple19 a1 a2 a3 a4 a5 a6 a7 a8 a9 a10 a11 a12 a13 a14 a15 a16 a17 a18 a19) = mkTuple [a1, a2, a3, a4, a5, a6, a7, a8, a9, a10, a11, a12, a13, a14, a15, a16, a17, a18, a19] := by rfl
theorem product_tuple20_is_model (a1 a2 a3 a4 a5 a6 a7 a8 a9 a10 a11 a12 a13 a14 a15 a16 a17 a18 a19 a20 : A) : tupList20 (product_Tuple20 a1 a2 a3 a4 a5 a6 a7 a8 a9 a10 a11 a12 a13 a14 a15 a16 a17 a18 a19 a20) = mkTuple [a1, a2, a3, a4, a5, a6, a7, a8, a9, a10, a11, a12, a13, a14, a15, a16, a17, a18, a19, a20] := by rfl
theorem product_tuple21_is_model (a1 a2 a3 a4 a5 a6 a7 a8 a9 a10 a11 a12 a13 a14 a15 a16 a17 a18 a19 a20 a21 : A) : tupList21 (product_Tuple21 a1 a2 a3 a4 a5 a6 a7 a8 a9 a10 a11 a12 a13 a14 a15 a16 a17 a18 a19 a20 a21) = mkTuple [a1, a2, a3, a4, a5, a6, a7, a8, a9, a10, a11, a12, a13, a14, a15, a16, a17, a18, a19, a20, a21] := by rfl
/-- for an arbitrary hlist `l`; `TupleFromHListN` calls the arity below on `Tail(l)`, and so does the proof: one
    unfolding step with the lower result kept opaque, then the theorem of N-1 under one more element
    (`C14.tupleFromHList_cons`).  The lower theorem is taken at the projection `l.tail`, which `hlN` is written
    with: through `hlist.Tail` every position of the list would be compared by unfolding it again. -/
theorem product_tupleFromHList1_is_model (l : (hlist_Cons A hlist_Nil)) :
    some (tupList1 (product_TupleFromHList1 l)) = tupleFromHList 0 (hl1 l) := by rfl
theorem product_tupleFromHList2_is_model (l : (hlist_Cons A (hlist_Cons A hlist_Nil))) :
    some (tupList2 (product_TupleFromHList2 l)) = tupleFromHList 1 (hl2 l) := by
  have h := product_tupleFromHList1_is_model l.tail
  unfold product_TupleFromHList2 hlist_Tail
  generalize product_TupleFromHList1 l.tail = t at h ⊢
  apply C14.tupleFromHList_cons h
theorem product_tupleFromHList3_is_model (l : (hlist_Cons A (hlist_Cons A (hlist_Cons A hlist_Nil)))) :
    some (tupList3 (product_TupleFromHList3 l)) = tupleFromHList 2 (hl3 l) := by
  have h := product_tupleFromHList2_is_model l.tail
  unfold product_TupleFromHList3 hlist_Tail
  generalize product_TupleFromHList2 l.tail = t at h ⊢
  apply C14.tupleFromHList_cons h
theorem product_tupleFromHList4_is_model (l : (hlist_Cons A (hlist_Cons A (hlist_Cons A (hlist_Cons A hlist_Nil))))) :
    some (tupList4 (product_TupleFromHList4 l)) = tupleFromHList 3 (hl4 l) := by
  have h := product_tupleFromHList3_is_model l.tail
  unfold product_TupleFromHList4 hlist_Tail
  generalize product_TupleFromHList3 l.tail = t at h ⊢
  apply C14.tupleFromHList_cons h
theorem product_tupleFromHList5_is_model (l : (hlist_Cons A (hlist_Cons A (hlist_Cons A (hlist_Cons A (hlist_Cons A hlist_Nil)))))) :
    some (tupList5 (product_TupleFromHList5 l)) = tupleFromHList 4 (hl5 l) := by
  have h := product_tupleFromHList4_is_model l.tail
  unfold product_TupleFromHList5 hlist_Tail
  generalize product_TupleFromHList4 l.tail = t at h ⊢
  apply C14.tupleFromHList_cons h
theorem product_tupleFromHList6_is_model (l : (hlist_Cons A (hlist_Cons A (hlist_Cons A (hlist_Cons A (hlist_Cons A (hlist_Cons A hlist_Nil))))))) :
    some (tupList6 (product_TupleFromHList6 l)) = tupleFromHList 5 (hl6 l) := by
  have h := product_tupleFromHList5_is_model l.tail
  unfold product_TupleFromHList6 hlist_Tail
  generalize product_TupleFromHList5 l.tail = t at h ⊢
  apply C14.tupleFromHList_cons h
theorem product_tupleFromHList7_is_model (l : (hlist_Cons A (hlist_Cons A (hlist_Cons A (hlist_Cons A (hlist_Cons A (hlist_Cons A (hlist_Cons A hlist_Nil)))))))) :
    some (tupList7 (product_TupleFromHList7 l)) = tupleFromHList 6 (hl7 l) := by
  have h := product_tupleFromHList6_is_model l.tail
  unfold product_TupleFromHList7 hlist_Tail
  generalize product_TupleFromHList6 l.tail = t at h ⊢
  apply C14.tupleFromHList_cons h
theorem product_tupleFromHList8_is_model (l : (hlist_Cons A (hlist_Cons A (hlist_Cons A (hlist_Cons A (hlist_Cons A (hlist_Cons A (hlist_Cons A (hlist_Cons A hlist_Nil))))))))) :
    some (tupList8 (product_TupleFromHList8 l)) = tupleFromHList 7 (hl8 l) := by
  have h := product_tupleFromHList7_is_model l.tail
  unfold product_TupleFromHList8 hlist_Tail
  generalize product_TupleFromHList7 l.tail = t at h ⊢
  apply C14.tupleFromHList_cons h
theorem product_tupleFromHList9_is_model (l : (hlist_Cons A (hlist_Cons A (hlist_Cons A (hlist_Cons A (hlist_Cons A (hlist_Cons A (hlist_Cons A (hlist_Cons A (hlist_Cons A hlist_Nil)))))))))) :
    some (tupList9 (product_TupleFromHList9 l)) = tupleFromHList 8 (hl9 l) := by
  have h := product_tupleFromHList8_is_model l.tail
  unfold product_TupleFromHList9 hlist_Tail
  generalize product_TupleFromHList8 l.tail = t at h ⊢
  apply C14.tupleFromHList_cons h
theorem product_tupleFromHList10_is_model (l : (hlist_Cons A (hlist_Cons A (hlist_Cons A (hlist_Cons A (hlist_Cons A (hlist_Cons A (hlist_Cons A (hlist_Cons A (hlist_Cons A (hlist_Cons A hlist_Nil))))))))))) :
    some (tupList10 (product_TupleFromHList10 l)) = tupleFromHList 9 (hl10 l) := by
  have h := product_tupleFromHList9_is_model l.tail
  unfold product_TupleFromHList10 hlist_Tail
  generalize product_TupleFromHList9 l.tail = t at h ⊢
  apply C14.tupleFromHList_cons h
theorem product_tupleFromHList11_is_model (l : (hlist_Cons A (hlist_Cons A (hlist_Cons A (hlist_Cons A (hlist_Cons A (hlist_Cons A (hlist_Cons A (hlist_Cons A (hlist_Cons A (hlist_Cons A (hlist_Cons A hlist_Nil)))))))))))) :
    some (tupList11 (product_TupleFromHList11 l)) = tupleFromHList 10 (hl11 l) := by
  have h := product_tupleFromHList10_is_model l.tail
  unfold product_TupleFromHList11 hlist_Tail
  generalize product_TupleFromHList10 l.tail = t at h ⊢
  apply C14.tupleFromHList_cons h
theorem product_tupleFromHList12_is_model (l : (hlist_Cons A (hlist_Cons A (hlist_Cons A (hlist_Cons A (hlist_Cons A (hlist_Cons A (hlist_Cons A (hlist_Cons A (hlist_Cons A (hlist_Cons A (hlist_Cons A (hlist_Cons A hlist_Nil))))))))))))) :
    some (tupList12 (product_TupleFromHList12 l)) = tupleFromHList 11 (hl12 l) := by
  have h := product_tupleFromHList11_is_model l.tail
  unfold product_TupleFromHList12 hlist_Tail
  generalize product_TupleFromHList11 l.tail = t at h ⊢
  apply C14.tupleFromHList_cons h
theorem product_tupleFromHList13_is_model (l : (hlist_Cons A (hlist_Cons A (hlist_Cons A (hlist_Cons A (hlist_Cons A (hlist_Cons A (hlist_Cons A (hlist_Cons A (hlist_Cons A (hlist_Cons A (hlist_Cons A (hlist_Cons A (hlist_Cons A hlist_Nil)))))))))))))) :
    some (tupList13 (product_TupleFromHList13 l)) = tupleFromHList 12 (hl13 l) := by
  have h := product_tupleFromHList12_is_model l.tail
  unfold product_TupleFromHList13 hlist_Tail
  generalize product_TupleFromHList12 l.tail = t at h ⊢
  apply C14.tupleFromHList_cons h
theorem product_tupleFromHList14_is_model (l : (hlist_Cons A (hlist_Cons A (hlist_Cons A (hlist_Cons A (hlist_Cons A (hlist_Cons A (hlist_Cons A (hlist_Cons A (hlist_Cons A (hlist_Cons A (hlist_Cons A (hlist_Cons A (hlist_Cons A (hlist_Cons A hlist_Nil))))))))))))))) :
    some (tupList14 (product_TupleFromHList14 l)) = tupleFromHList 13 (hl14 l) := by
  have h := product_tupleFromHList13_is_model l.tail
  unfold product_TupleFromHList14 hlist_Tail
  generalize product_TupleFromHList13 l.tail = t at h ⊢
  apply C14.tupleFromHList_cons h
theorem product_tupleFromHList15_is_model (l : (hlist_Cons A (hlist_Cons A (hlist_Cons A (hlist_Cons A (hlist_Cons A (hlist_Cons A (hlist_Cons A (hlist_Cons A (hlist_Cons A (hlist_Cons A (hlist_Cons A (hlist_Cons A (hlist_Cons A (hlist_Cons A (hlist_Cons A hlist_Nil)))))))))))))))) :
    some (tupList15 (product_TupleFromHList15 l)) = tupleFromHList 14 (hl15 l) := by
  have h := product_tupleFromHList14_is_model l.tail
  unfold product_TupleFromHList15 hlist_Tail
  generalize product_TupleFromHList14 l.tail = t at h ⊢
  apply C14.tupleFromHList_cons h
theorem product_tupleFromHList16_is_model (l : (hlist_Cons A (hlist_Cons A (hlist_Cons A (hlist_Cons A (hlist_Cons A (hlist_Cons A (hlist_Cons A (hlist_Cons A (hlist_Cons A (hlist_Cons A (hlist_Cons A (hlist_Cons A (hlist_Cons A (hlist_Cons A (hlist_Cons A (hlist_Cons A hlist_Nil))))))))))))))))) :
    some (tupList16 (product_TupleFromHList16 l)) = tupleFromHList 15 (hl16 l) := by
  have h := product_tupleFromHList15_is_model l.tail
  unfold product_TupleFromHList16 hlist_Tail
  generalize product_TupleFromHList15 l.tail = t at h ⊢
  apply C14.tupleFromHList_cons h
theorem product_tupleFromHList17_is_model (l : (hlist_Cons A (hlist_Cons A (hlist_Cons A (hlist_Cons A (hlist_Cons A (hlist_Cons A (hlist_Cons A (hlist_Cons A (hlist_Cons A (hlist_Cons A (hlist_Cons A (hlist_Cons A (hlist_Cons A (hlist_Cons A (hlist_Cons A (hlist_Cons A (hlist_Cons A hlist_Nil)))))))))))))))))) :
    some (tupList17 (product_TupleFromHList17 l)) = tupleFromHList 16 (hl17 l) := by
  have h := product_tupleFromHList16_is_model l.tail
  unfold product_TupleFromHList17 hlist_Tail
  generalize product_TupleFromHList16 l.tail = t at h ⊢
  apply C14.tupleFromHList_cons h
theorem product_tupleFromHList18_is_model (l : (hlist_Cons A (hlist_Cons A (hlist_Cons A (hlist_Cons A (hlist_Cons A (hlist_Cons A (hlist_Cons A (hlist_Cons A (hlist_Cons A (hlist_Cons A (hlist_Cons A (hlist_Cons A (hlist_Cons A (hlist_Cons A (hlist_Cons A (hlist_Cons A (hlist_Cons A (hlist_Cons A hlist_Nil))))))))))))))))))) :
    some (tupList18 (product_TupleFromHList18 l)) = tupleFromHList 17 (hl18 l) := by
  have h := product_tupleFromHList17_is_model l.tail
  unfold product_TupleFromHList18 hlist_Tail
  generalize product_TupleFromHList17 l.tail = t at h ⊢
  apply C14.tupleFromHList_cons h
theorem product_tupleFromHList19_is_model (l : (hlist_Cons A (hlist_Cons A (hlist_Cons A (hlist_Cons A (hlist_Cons A (hlist_Cons A (hlist_Cons A (hlist_Cons A (hlist_Cons A (hlist_Cons A (hlist_Cons A (hlist_Cons A (hlist_Cons A (hlist_Cons A (hlist_Cons A (hlist_Cons A (hlist_Cons A (hlist_Cons A (hlist_Cons A hlist_Nil)))))))))))))))))))) :
    some (tupList19 (product_TupleFromHList19 l)) = tupleFromHList 18 (hl19 l) := by
  have h := product_tupleFromHList18_is_model l.tail
  unfold product_TupleFromHList19 hlist_Tail
  generalize product_TupleFromHList18 l.tail = t at h ⊢
  apply C14.tupleFromHList_cons h
theorem product_tupleFromHList20_is_model (l : (hlist_Cons A (hlist_Cons A (hlist_Cons A (hlist_Cons A (hlist_Cons A (hlist_Cons A (hlist_Cons A (hlist_Cons A (hlist_Cons A (hlist_Cons A (hlist_Cons A (hlist_Cons A (hlist_Cons A (hlist_Cons A (hlist_Cons A (hlist_Cons A (hlist_Cons A (hlist_Cons A (hlist_Cons A (hlist_Cons A hlist_Nil))))))))))))))))))))) :
    some (tupList20 (product_TupleFromHList20 l)) = tupleFromHList 19 (hl20 l) := by
  have h := product_tupleFromHList19_is_model l.tail
  unfold product_TupleFromHList20 hlist_Tail
  generalize product_TupleFromHList19 l.tail = t at h ⊢
  apply C14.tupleFromHList_cons h
theorem product_tupleFromHList21_is_model (l : (hlist_Cons A (hlist_Cons A (hlist_Cons A (hlist_Cons A (hlist_Cons A (hlist_Cons A (hlist_Cons A (hlist_Cons A (hlist_Cons A (hlist_Cons A (hlist_Cons A (hlist_Cons A (hlist_Cons A (hlist_Cons A (hlist_Cons A (hlist_Cons A (hlist_Cons A (hlist_Cons A (hlist_Cons A (hlist_Cons A (hlist_Cons A hlist_Nil)))))))))))))))))))))) :
    some (tupList21 (product_TupleFromHList21 l)) = tupleFromHList 20 (hl21 l) := by
  have h := product_tupleFromHList20_is_model l.tail
  unfold product_TupleFromHList21 hlist_Tail
  generalize product_TupleFromHList20 l.tail = t at h ⊢
  apply C14.tupleFromHList_cons h
theorem product_labelledFromHList1_is_model (a1 : A) :
    some (labList1 (product_LabelledFromHList1 ⟨a1, ⟨⟩⟩)) = tupleFromHList 0 [a1] := by rfl
theorem product_labelledFromHList2_is_model (a1 a2 : A) :
    some (labList2 (product_LabelledFromHList2 ⟨a1, ⟨a2, ⟨⟩⟩⟩)) = tupleFromHList 1 [a1, a2] := by rfl
theorem product_labelledFromHList3_is_model (a1 a2 a3 : A) :
    some (labList3 (product_LabelledFromHList3 ⟨a1, ⟨a2, ⟨a3, ⟨⟩⟩⟩⟩)) = tupleFromHList 2 [a1, a2, a3] := by rfl
theorem product_labelledFromHList4_is_model (a1 a2 a3 a4 : A) :
    some (labList4 (product_LabelledFromHList4 ⟨a1, ⟨a2, ⟨a3, ⟨a4, ⟨⟩⟩⟩⟩⟩)) = tupleFromHList 3 [a1, a2, a3, a4] := by rfl
theorem product_labelledFromHList5_is_model (a1 a2 a3 a4 a5 : A) :
    some (labList5 (product_LabelledFromHList5 ⟨a1, ⟨a2, ⟨a3, ⟨a4, ⟨a5, ⟨⟩⟩⟩⟩⟩⟩)) = tupleFromHList 4 [a1, a2, a3, a4, a5] := by rfl
theorem product_labelledFromHList6_is_model (a1 a2 a3 a4 a5 a6 : A) :
    some (labList6 (product_LabelledFromHList6 ⟨a1, ⟨a2, ⟨a3, ⟨a4, ⟨a5, ⟨a6, ⟨⟩⟩⟩⟩⟩⟩⟩)) = tupleFromHList 5 [a1, a2, a3, a4, a5, a6] := by rfl
theorem product_labelledFromHList7_is_model (a1 a2 a3 a4 a5 a6 a7 : A) :
    some (labList7 (product_LabelledFromHList7 ⟨a1, ⟨a2, ⟨a3, ⟨a4, ⟨a5, ⟨a6, ⟨a7, ⟨⟩⟩⟩⟩⟩⟩⟩⟩)) = tupleFromHList 6 [a1, a2, a3, a4, a5, a6, a7] := by rfl
theorem product_labelledFromHList8_is_model (a1 a2 a3 a4 a5 a6 a7 a8 : A) :
    some (labList8 (product_LabelledFromHList8 ⟨a1, ⟨a2, ⟨a3, ⟨a4, ⟨a5, ⟨a6, ⟨a7, ⟨a8, ⟨⟩⟩⟩⟩⟩⟩⟩⟩⟩)) = tupleFromHList 7 [a1, a2, a3, a4, a5, a6, a7, a8] := by rfl
theorem product_labelledFromHList9_is_model (a1 a2 a3 a4 a5 a6 a7 a8 a9 : A) :
    some (labList9 (product_LabelledFromHList9 ⟨a1, ⟨a2, ⟨a3, ⟨a4, ⟨a5, ⟨a6, ⟨a7, ⟨a8, ⟨a9, ⟨⟩⟩⟩⟩⟩⟩⟩⟩⟩⟩)) = tupleFromHList 8 [a1, a2, a3, a4, a5, a6, a7, a8, a9] := by rfl
theorem product_labelledFromHList10_is_model (a1 a2 a3 a4 a5 a6 a7 a8 a9 a10 : A) :
    some (labList10 (product_LabelledFromHList10 ⟨a1, ⟨a2, ⟨a3, ⟨a4, ⟨a5, ⟨a6, ⟨a7, ⟨a8, ⟨a9, ⟨a10, ⟨⟩⟩⟩⟩⟩⟩⟩⟩⟩⟩⟩)) = tupleFromHList 9 [a1, a2, a3, a4, a5, a6, a7, a8, a9, a10] := by rfl
theorem product_labelledFromHList11_is_model (a1 a2 a3 a4 a5 a6 a7 a8 a9 a10 a11 : A) :
    some (labList11 (product_LabelledFromHList11 ⟨a1, ⟨a2, ⟨a3, ⟨a4, ⟨a5, ⟨a6, ⟨a7, ⟨a8, ⟨a9, ⟨a10, ⟨a11, ⟨⟩⟩⟩⟩⟩⟩⟩⟩⟩⟩⟩⟩)) = tupleFromHList 10 [a1, a2, a3, a4, a5, a6, a7, a8, a9, a10, a11] := by rfl
theorem product_labelledFromHList12_is_model (a1 a2 a3 a4 a5 a6 a7 a8 a9 a10 a11 a12 : A) :
    some (labList12 (product_LabelledFromHList12 ⟨a1, ⟨a2, ⟨a3, ⟨a4, ⟨a5, ⟨a6, ⟨a7, ⟨a8, ⟨a9, ⟨a10, ⟨a11, ⟨a12, ⟨⟩⟩⟩⟩⟩⟩⟩⟩⟩⟩⟩⟩⟩)) = tupleFromHList 11 [a1, a2, a3, a4, a5, a6, a7, a8, a9, a10, a11, a12] := by rfl
theorem product_labelledFromHList13_is_model (a1 a2 a3 a4 a5 a6 a7 a8 a9 a10 a11 a12 a13 : A) :
    some (labList13 (product_LabelledFromHList13 ⟨a1, ⟨a2, ⟨a3, ⟨a4, ⟨a5, ⟨a6, ⟨a7, ⟨a8, ⟨a9, ⟨a10, ⟨a11, ⟨a12, ⟨a13, ⟨⟩⟩⟩⟩⟩⟩⟩⟩⟩⟩⟩⟩⟩⟩)) = tupleFromHList 12 [a1, a2, a3, a4, a5, a6, a7, a8, a9, a10, a11, a12, a13] := by rfl
theorem product_labelledFromHList14_is_model (a1 a2 a3 a4 a5 a6 a7 a8 a9 a10 a11 a12 a13 a14 : A) :
    some (labList14 (product_LabelledFromHList14 ⟨a1, ⟨a2, ⟨a3, ⟨a4, ⟨a5, ⟨a6, ⟨a7, ⟨a8, ⟨a9, ⟨a10, ⟨a11, ⟨a12, ⟨a13, ⟨a14, ⟨⟩⟩⟩⟩⟩⟩⟩⟩⟩⟩⟩⟩⟩⟩⟩)) = tupleFromHList 13 [a1, a2, a3, a4, a5, a6, a7, a8, a9, a10, a11, a12, a13, a14] := by rfl
theorem product_labelledFromHList15_is_model (a1 a2 a3 a4 a5 a6 a7 a8 a9 a10 a11 a12 a13 a14 a15 : A) :
    some (labList15 (product_LabelledFromHList15 ⟨a1, ⟨a2, ⟨a3, ⟨a4, ⟨a5, ⟨a6, ⟨a7, ⟨a8, ⟨a9, ⟨a10, ⟨a11, ⟨a12, ⟨a13, ⟨a14, ⟨a15, ⟨⟩⟩⟩⟩⟩⟩⟩⟩⟩⟩⟩⟩⟩⟩⟩⟩)) = tupleFromHList 14 [a1, a2, a3, a4, a5, a6, a7, a8, a9, a10, a11, a12, a13, a14, a15] := by rfl
theorem product_labelledFromHList16_is_model (a1 a2 a3 a4 a5 a6 a7 a8 a9 a10 a11 a12 a13 a14 a15 a16 : A) :
    some (labList16 (product_LabelledFromHList16 ⟨a1, ⟨a2, ⟨a3, ⟨a4, ⟨a5, ⟨a6, ⟨a7, ⟨a8, ⟨a9, ⟨a10, ⟨a11, ⟨a12, ⟨a13, ⟨a14, ⟨a15, ⟨a16, ⟨⟩⟩⟩⟩⟩⟩⟩⟩⟩⟩⟩⟩⟩⟩⟩⟩⟩)) = tupleFromHList 15 [a1, a2, a3, a4, a5, a6, a7, a8, a9, a10, a11, a12, a13, a14, a15, a16] := by rfl
theorem product_labelledFromHList17_is_model (a1 a2 a3 a4 a5 a6 a7 a8 a9 a10 a11 a12 a13 a14 a15 a16 a17 : A) :
    some (labList17 (product_LabelledFromHList17 ⟨a1, ⟨a2, ⟨a3, ⟨a4, ⟨a5, ⟨a6, ⟨a7, ⟨a8, ⟨a9, ⟨a10, ⟨a11, ⟨a12, ⟨a13, ⟨a14, ⟨a15, ⟨a16, ⟨a17, ⟨⟩⟩⟩⟩⟩⟩⟩⟩⟩⟩⟩⟩⟩⟩⟩⟩⟩⟩)) = tupleFromHList 16 [a1, a2, a3, a4, a5, a6, a7, a8, a9, a10, a11, a12, a13, a14, a15, a16, a17] := by rfl
theorem product_labelledFromHList18_is_model (a1 a2 a3 a4 a5 a6 a7 a8 a9 a10 a11 a12 a13 a14 a15 a16 a17 a18 : A) :
    some (labList18 (product_LabelledFromHList18 ⟨a1, ⟨a2, ⟨a3, ⟨a4, ⟨a5, ⟨a6, ⟨a7, ⟨a8, ⟨a9, ⟨a10, ⟨a11, ⟨a12, ⟨a13, ⟨a14, ⟨a15, ⟨a16, ⟨a17, ⟨a18, ⟨⟩⟩⟩⟩⟩⟩⟩⟩⟩⟩⟩⟩⟩⟩⟩⟩⟩⟩⟩)) = tupleFromHList 17 [a1, a2, a3, a4, a5, a6, a7, a8, a9, a10, a11, a12, a13, a14, a15, a16, a17, a18] := by rfl
theorem product_labelledFromHList19_is_model (a1 a2 a3 a4 a5 a6 a7 a8 a9 a10 a11 a12 a13 a14 a15 a16 a17 a18 a19 : A) :
    some (labList19 (product_LabelledFromHList19 ⟨a1, ⟨a2, ⟨a3, ⟨a4, ⟨a5, ⟨a6, ⟨a7, ⟨a8, ⟨a9, ⟨a10, ⟨a11, ⟨a12, ⟨a13, ⟨a14, ⟨a15, ⟨a16, ⟨a17, ⟨a18, ⟨a19, ⟨⟩⟩⟩⟩⟩⟩⟩⟩⟩⟩⟩⟩⟩⟩⟩⟩⟩⟩⟩⟩)) = tupleFromHList 18 [a1, a2, a3, a4, a5, a6, a7, a8, a9, a10, a11, a12, a13, a14, a15, a16, a17, a18, a19] := by rfl
theorem product_labelledFromHList20_is_model (a1 a2 a3 a4 a5 a6 a7 a8 a9 a10 a11 a12 a13 a14 a15 a16 a17 a18 a19 a20 : A) :
    some (labList20 (product_LabelledFromHList20 ⟨a1, ⟨a2, ⟨a3, ⟨a4, ⟨a5, ⟨a6, ⟨a7, ⟨a8, ⟨a9, ⟨a10, ⟨a11, ⟨a12, ⟨a13, ⟨a14, ⟨a15, ⟨a16, ⟨a17, ⟨a18, ⟨a19, ⟨a20, ⟨⟩⟩⟩⟩⟩⟩⟩⟩⟩⟩⟩⟩⟩⟩⟩⟩⟩⟩⟩⟩⟩)) = tupleFromHList 19 [a1, a2, a3, a4, a5, a6, a7, a8, a9, a10, a11, a12, a13, a14, a15, a16, a17, a18, a19, a20] := by rfl
theorem product_labelledFromHList21_is_model (a1 a2 a3 a4 a5 a6 a7 a8 a9 a10 a11 a12 a13 a14 a15 a16 a17 a18 a19 a20 a21 : A) :
    some (labList21 (product_LabelledFromHList21 ⟨a1, ⟨a2, ⟨a3, ⟨a4, ⟨a5, ⟨a6, ⟨a7, ⟨a8, ⟨a9, ⟨a10, ⟨a11, ⟨a12, ⟨a13, ⟨a14, ⟨a15, ⟨a16, ⟨a17, ⟨a18, ⟨a19, ⟨a20, ⟨a21, ⟨⟩⟩⟩⟩⟩⟩⟩⟩⟩⟩⟩⟩⟩⟩⟩⟩⟩⟩⟩⟩⟩⟩)) = tupleFromHList 20 [a1, a2, a3, a4, a5, a6, a7, a8, a9, a10, a11, a12, a13, a14, a15, a16, a17, a18, a19, a20, a21] := by rfl
theorem product_flatten3_is_model (a1 a2 a3 : A) :
    some (tupList3 (product_Flatten3 (⟨a1, ⟨a2, a3⟩⟩ : (fp_Tuple2 A (fp_Tuple2 A A))))) = flatten 0 (.cons a1 (.pair a2 a3)) := by rfl
theorem product_flatten4_is_model (a1 a2 a3 a4 : A) :
    some (tupList4 (product_Flatten4 (⟨a1, ⟨a2, ⟨a3, a4⟩⟩⟩ : (fp_Tuple2 A (fp_Tuple2 A (fp_Tuple2 A A)))))) = flatten 1 (.cons a1 (.cons a2 (.pair a3 a4))) := by rfl
theorem product_flatten5_is_model (a1 a2 a3 a4 a5 : A) :
    some (tupList5 (product_Flatten5 (⟨a1, ⟨a2, ⟨a3, ⟨a4, a5⟩⟩⟩⟩ : (fp_Tuple2 A (fp_Tuple2 A (fp_Tuple2 A (fp_Tuple2 A A))))))) = flatten 2 (.cons a1 (.cons a2 (.cons a3 (.pair a4 a5)))) := by rfl
theorem product_flatten6_is_model (a1 a2 a3 a4 a5 a6 : A) :
    some (tupList6 (product_Flatten6 (⟨a1, ⟨a2, ⟨a3, ⟨a4, ⟨a5, a6⟩⟩⟩⟩⟩ : (fp_Tuple2 A (fp_Tuple2 A (fp_Tuple2 A (fp_Tuple2 A (fp_Tuple2 A A)))))))) = flatten 3 (.cons a1 (.cons a2 (.cons a3 (.cons a4 (.pair a5 a6))))) := by rfl
theorem product_flatten7_is_model (a1 a2 a3 a4 a5 a6 a7 : A) :
    some (tupList7 (product_Flatten7 (⟨a1, ⟨a2, ⟨a3, ⟨a4, ⟨a5, ⟨a6, a7⟩⟩⟩⟩⟩⟩ : (fp_Tuple2 A (fp_Tuple2 A (fp_Tuple2 A (fp_Tuple2 A (fp_Tuple2 A (fp_Tuple2 A A))))))))) = flatten 4 (.cons a1 (.cons a2 (.cons a3 (.cons a4 (.cons a5 (.pair a6 a7)))))) := by rfl
theorem product_flatten8_is_model (a1 a2 a3 a4 a5 a6 a7 a8 : A) :
    some (tupList8 (product_Flatten8 (⟨a1, ⟨a2, ⟨a3, ⟨a4, ⟨a5, ⟨a6, ⟨a7, a8⟩⟩⟩⟩⟩⟩⟩ : (fp_Tuple2 A (fp_Tuple2 A (fp_Tuple2 A (fp_Tuple2 A (fp_Tuple2 A (fp_Tuple2 A (fp_Tuple2 A A)))))))))) = flatten 5 (.cons a1 (.cons a2 (.cons a3 (.cons a4 (.cons a5 (.cons a6 (.pair a7 a8))))))) := by rfl
theorem product_flatten9_is_model (a1 a2 a3 a4 a5 a6 a7 a8 a9 : A) :
    some (tupList9 (product_Flatten9 (⟨a1, ⟨a2, ⟨a3, ⟨a4, ⟨a5, ⟨a6, ⟨a7, ⟨a8, a9⟩⟩⟩⟩⟩⟩⟩⟩ : (fp_Tuple2 A (fp_Tuple2 A (fp_Tuple2 A (fp_Tuple2 A (fp_Tuple2 A (fp_Tuple2 A (fp_Tuple2 A (fp_Tuple2 A A))))))))))) = flatten 6 (.cons a1 (.cons a2 (.cons a3 (.cons a4 (.cons a5 (.cons a6 (.cons a7 (.pair a8 a9)))))))) := by rfl
theorem product_flatten10_is_model (a1 a2 a3 a4 a5 a6 a7 a8 a9 a10 : A) :
    some (tupList10 (product_Flatten10 (⟨a1, ⟨a2, ⟨a3, ⟨a4, ⟨a5, ⟨a6, ⟨a7, ⟨a8, ⟨a9, a10⟩⟩⟩⟩⟩⟩⟩⟩⟩ : (fp_Tuple2 A (fp_Tuple2 A (fp_Tuple2 A (fp_Tuple2 A (fp_Tuple2 A (fp_Tuple2 A (fp_Tuple2 A (fp_Tuple2 A (fp_Tuple2 A A)))))))))))) = flatten 7 (.cons a1 (.cons a2 (.cons a3 (.cons a4 (.cons a5 (.cons a6 (.cons a7 (.cons a8 (.pair a9 a10))))))))) := by rfl
theorem product_flatten11_is_model (a1 a2 a3 a4 a5 a6 a7 a8 a9 a10 a11 : A) :
    some (tupList11 (product_Flatten11 (⟨a1, ⟨a2, ⟨a3, ⟨a4, ⟨a5, ⟨a6, ⟨a7, ⟨a8, ⟨a9, ⟨a10, a11⟩⟩⟩⟩⟩⟩⟩⟩⟩⟩ : (fp_Tuple2 A (fp_Tuple2 A (fp_Tuple2 A (fp_Tuple2 A (fp_Tuple2 A (fp_Tuple2 A (fp_Tuple2 A (fp_Tuple2 A (fp_Tuple2 A (fp_Tuple2 A A))))))))))))) = flatten 8 (.cons a1 (.cons a2 (.cons a3 (.cons a4 (.cons a5 (.cons a6 (.cons a7 (.cons a8 (.cons a9 (.pair a10 a11)))))))))) := by rfl
theorem product_flatten12_is_model (a1 a2 a3 a4 a5 a6 a7 a8 a9 a10 a11 a12 : A) :
    some (tupList12 (product_Flatten12 (⟨a1, ⟨a2, ⟨a3, ⟨a4, ⟨a5, ⟨a6, ⟨a7, ⟨a8, ⟨a9, ⟨a10, ⟨a11, a12⟩⟩⟩⟩⟩⟩⟩⟩⟩⟩⟩ : (fp_Tuple2 A (fp_Tuple2 A (fp_Tuple2 A (fp_Tuple2 A (fp_Tuple2 A (fp_Tuple2 A (fp_Tuple2 A (fp_Tuple2 A (fp_Tuple2 A (fp_Tuple2 A (fp_Tuple2 A A)))))))))))))) = flatten 9 (.cons a1 (.cons a2 (.cons a3 (.cons a4 (.cons a5 (.cons a6 (.cons a7 (.cons a8 (.cons a9 (.cons a10 (.pair a11 a12))))))))))) := by rfl
theorem product_flatten13_is_model (a1 a2 a3 a4 a5 a6 a7 a8 a9 a10 a11 a12 a13 : A) :
    some (tupList13 (product_Flatten13 (⟨a1, ⟨a2, ⟨a3, ⟨a4, ⟨a5, ⟨a6, ⟨a7, ⟨a8, ⟨a9, ⟨a10, ⟨a11, ⟨a12, a13⟩⟩⟩⟩⟩⟩⟩⟩⟩⟩⟩⟩ : (fp_Tuple2 A (fp_Tuple2 A (fp_Tuple2 A (fp_Tuple2 A (fp_Tuple2 A (fp_Tuple2 A (fp_Tuple2 A (fp_Tuple2 A (fp_Tuple2 A (fp_Tuple2 A (fp_Tuple2 A (fp_Tuple2 A A))))))))))))))) = flatten 10 (.cons a1 (.cons a2 (.cons a3 (.cons a4 (.cons a5 (.cons a6 (.cons a7 (.cons a8 (.cons a9 (.cons a10 (.cons a11 (.pair a12 a13)))))))))))) := by rfl
theorem product_flatten14_is_model (a1 a2 a3 a4 a5 a6 a7 a8 a9 a10 a11 a12 a13 a14 : A) :
    some (tupList14 (product_Flatten14 (⟨a1, ⟨a2, ⟨a3, ⟨a4, ⟨a5, ⟨a6, ⟨a7, ⟨a8, ⟨a9, ⟨a10, ⟨a11, ⟨a12, ⟨a13, a14⟩⟩⟩⟩⟩⟩⟩⟩⟩⟩⟩⟩⟩ : (fp_Tuple2 A (fp_Tuple2 A (fp_Tuple2 A (fp_Tuple2 A (fp_Tuple2 A (fp_Tuple2 A (fp_Tuple2 A (fp_Tuple2 A (fp_Tuple2 A (fp_Tuple2 A (fp_Tuple2 A (fp_Tuple2 A (fp_Tuple2 A A)))))))))))))))) = flatten 11 (.cons a1 (.cons a2 (.cons a3 (.cons a4 (.cons a5 (.cons a6 (.cons a7 (.cons a8 (.cons a9 (.cons a10 (.cons a11 (.cons a12 (.pair a13 a14))))))))))))) := by rfl
theorem product_flatten15_is_model (a1 a2 a3 a4 a5 a6 a7 a8 a9 a10 a11 a12 a13 a14 a15 : A) :
    some (tupList15 (product_Flatten15 (⟨a1, ⟨a2, ⟨a3, ⟨a4, ⟨a5, ⟨a6, ⟨a7, ⟨a8, ⟨a9, ⟨a10, ⟨a11, ⟨a12, ⟨a13, ⟨a14, a15⟩⟩⟩⟩⟩⟩⟩⟩⟩⟩⟩⟩⟩⟩ : (fp_Tuple2 A (fp_Tuple2 A (fp_Tuple2 A (fp_Tuple2 A (fp_Tuple2 A (fp_Tuple2 A (fp_Tuple2 A (fp_Tuple2 A (fp_Tuple2 A (fp_Tuple2 A (fp_Tuple2 A (fp_Tuple2 A (fp_Tuple2 A (fp_Tuple2 A A))))))))))))))))) = flatten 12 (.cons a1 (.cons a2 (.cons a3 (.cons a4 (.cons a5 (.cons a6 (.cons a7 (.cons a8 (.cons a9 (.cons a10 (.cons a11 (.cons a12 (.cons a13 (.pair a14 a15)))))))))))))) := by rfl
theorem product_flatten16_is_model (a1 a2 a3 a4 a5 a6 a7 a8 a9 a10 a11 a12 a13 a14 a15 a16 : A) :
    some (tupList16 (product_Flatten16 (⟨a1, ⟨a2, ⟨a3, ⟨a4, ⟨a5, ⟨a6, ⟨a7, ⟨a8, ⟨a9, ⟨a10, ⟨a11, ⟨a12, ⟨a13, ⟨a14, ⟨a15, a16⟩⟩⟩⟩⟩⟩⟩⟩⟩⟩⟩⟩⟩⟩⟩ : (fp_Tuple2 A (fp_Tuple2 A (fp_Tuple2 A (fp_Tuple2 A (fp_Tuple2 A (fp_Tuple2 A (fp_Tuple2 A (fp_Tuple2 A (fp_Tuple2 A (fp_Tuple2 A (fp_Tuple2 A (fp_Tuple2 A (fp_Tuple2 A (fp_Tuple2 A (fp_Tuple2 A A)))))))))))))))))) = flatten 13 (.cons a1 (.cons a2 (.cons a3 (.cons a4 (.cons a5 (.cons a6 (.cons a7 (.cons a8 (.cons a9 (.cons a10 (.cons a11 (.cons a12 (.cons a13 (.cons a14 (.pair a15 a16))))))))))))))) := by rfl
theorem product_flatten17_is_model (a1 a2 a3 a4 a5 a6 a7 a8 a9 a10 a11 a12 a13 a14 a15 a16 a17 : A) :
    some (tupList17 (product_Flatten17 (⟨a1, ⟨a2, ⟨a3, ⟨a4, ⟨a5, ⟨a6, ⟨a7, ⟨a8, ⟨a9, ⟨a10, ⟨a11, ⟨a12, ⟨a13, ⟨a14, ⟨a15, ⟨a16, a17⟩⟩⟩⟩⟩⟩⟩⟩⟩⟩⟩⟩⟩⟩⟩⟩ : (fp_Tuple2 A (fp_Tuple2 A (fp_Tuple2 A (fp_Tuple2 A (fp_Tuple2 A (fp_Tuple2 A (fp_Tuple2 A (fp_Tuple2 A (fp_Tuple2 A (fp_Tuple2 A (fp_Tuple2 A (fp_Tuple2 A (fp_Tuple2 A (fp_Tuple2 A (fp_Tuple2 A (fp_Tuple2 A A))))))))))))))))))) = flatten 14 (.cons a1 (.cons a2 (.cons a3 (.cons a4 (.cons a5 (.cons a6 (.cons a7 (.cons a8 (.cons a9 (.cons a10 (.cons a11 (.cons a12 (.cons a13 (.cons a14 (.cons a15 (.pair a16 a17)))))))))))))))) := by rfl
theorem product_flatten18_is_model (a1 a2 a3 a4 a5 a6 a7 a8 a9 a10 a11 a12 a13 a14 a15 a16 a17 a18 : A) :
    some (tupList18 (product_Flatten18 (⟨a1, ⟨a2, ⟨a3, ⟨a4, ⟨a5, ⟨a6, ⟨a7, ⟨a8, ⟨a9, ⟨a10, ⟨a11, ⟨a12, ⟨a13, ⟨a14, ⟨a15, ⟨a16, ⟨a17, a18⟩⟩⟩⟩⟩⟩⟩⟩⟩⟩⟩⟩⟩⟩⟩⟩⟩ : (fp_Tuple2 A (fp_Tuple2 A (fp_Tuple2 A (fp_Tuple2 A (fp_Tuple2 A (fp_Tuple2 A (fp_Tuple2 A (fp_Tuple2 A (fp_Tuple2 A (fp_Tuple2 A (fp_Tuple2 A (fp_Tuple2 A (fp_Tuple2 A (fp_Tuple2 A (fp_Tuple2 A (fp_Tuple2 A (fp_Tuple2 A A)))))))))))))))))))) = flatten 15 (.cons a1 (.cons a2 (.cons a3 (.cons a4 (.cons a5 (.cons a6 (.cons a7 (.cons a8 (.cons a9 (.cons a10 (.cons a11 (.cons a12 (.cons a13 (.cons a14 (.cons a15 (.cons a16 (.pair a17 a18))))))))))))))))) := by rfl
theorem product_flatten19_is_model (a1 a2 a3 a4 a5 a6 a7 a8 a9 a10 a11 a12 a13 a14 a15 a16 a17 a18 a19 : A) :
    some (tupList19 (product_Flatten19 (⟨a1, ⟨a2, ⟨a3, ⟨a4, ⟨a5, ⟨a6, ⟨a7, ⟨a8, ⟨a9, ⟨a10, ⟨a11, ⟨a12, ⟨a13, ⟨a14, ⟨a15, ⟨a16, ⟨a17, ⟨a18, a19⟩⟩⟩⟩⟩⟩⟩⟩⟩⟩⟩⟩⟩⟩⟩⟩⟩⟩ : (fp_Tuple2 A (fp_Tuple2 A (fp_Tuple2 A (fp_Tuple2 A (fp_Tuple2 A (fp_Tuple2 A (fp_Tuple2 A (fp_Tuple2 A (fp_Tuple2 A (fp_Tuple2 A (fp_Tuple2 A (fp_Tuple2 A (fp_Tuple2 A (fp_Tuple2 A (fp_Tuple2 A (fp_Tuple2 A (fp_Tuple2 A (fp_Tuple2 A A))))))))))))))))))))) = flatten 16 (.cons a1 (.cons a2 (.cons a3 (.cons a4 (.cons a5 (.cons a6 (.cons a7 (.cons a8 (.cons a9 (.cons a10 (.cons a11 (.cons a12 (.cons a13 (.cons a14 (.cons a15 (.cons a16 (.cons a17 (.pair a18 a19)))))))))))))))))) := by rfl
theorem product_flatten20_is_model (a1 a2 a3 a4 a5 a6 a7 a8 a9 a10 a11 a12 a13 a14 a15 a16 a17 a18 a19 a20 : A) :
    some (tupList20 (product_Flatten20 (⟨a1, ⟨a2, ⟨a3, ⟨a4, ⟨a5, ⟨a6, ⟨a7, ⟨a8, ⟨a9, ⟨a10, ⟨a11, ⟨a12, ⟨a13, ⟨a14, ⟨a15, ⟨a16, ⟨a17, ⟨a18, ⟨a19, a20⟩⟩⟩⟩⟩⟩⟩⟩⟩⟩⟩⟩⟩⟩⟩⟩⟩⟩⟩ : (fp_Tuple2 A (fp_Tuple2 A (fp_Tuple2 A (fp_Tuple2 A (fp_Tuple2 A (fp_Tuple2 A (fp_Tuple2 A (fp_Tuple2 A (fp_Tuple2 A (fp_Tuple2 A (fp_Tuple2 A (fp_Tuple2 A (fp_Tuple2 A (fp_Tuple2 A (fp_Tuple2 A (fp_Tuple2 A (fp_Tuple2 A (fp_Tuple2 A (fp_Tuple2 A A)))))))))))))))))))))) = flatten 17 (.cons a1 (.cons a2 (.cons a3 (.cons a4 (.cons a5 (.cons a6 (.cons a7 (.cons a8 (.cons a9 (.cons a10 (.cons a11 (.cons a12 (.cons a13 (.cons a14 (.cons a15 (.cons a16 (.cons a17 (.cons a18 (.pair a19 a20))))))))))))))))))) := by rfl
theorem product_flatten21_is_model (a1 a2 a3 a4 a5 a6 a7 a8 a9 a10 a11 a12 a13 a14 a15 a16 a17 a18 a19 a20 a21 : A) :
    some (tupList21 (product_Flatten21 (⟨a1, ⟨a2, ⟨a3, ⟨a4, ⟨a5, ⟨a6, ⟨a7, ⟨a8, ⟨a9, ⟨a10, ⟨a11, ⟨a12, ⟨a13, ⟨a14, ⟨a15, ⟨a16, ⟨a17, ⟨a18, ⟨a19, ⟨a20, a21⟩⟩⟩⟩⟩⟩⟩⟩⟩⟩⟩⟩⟩⟩⟩⟩⟩⟩⟩⟩ : (fp_Tuple2 A (fp_Tuple2 A (fp_Tuple2 A (fp_Tuple2 A (fp_Tuple2 A (fp_Tuple2 A (fp_Tuple2 A (fp_Tuple2 A (fp_Tuple2 A (fp_Tuple2 A (fp_Tuple2 A (fp_Tuple2 A (fp_Tuple2 A (fp_Tuple2 A (fp_Tuple2 A (fp_Tuple2 A (fp_Tuple2 A (fp_Tuple2 A (fp_Tuple2 A (fp_Tuple2 A A))))))))))))))))))))))) = flatten 18 (.cons a1 (.cons a2 (.cons a3 (.cons a4 (.cons a5 (.cons a6 (.cons a7 (.cons a8 (.cons a9 (.cons a10 (.cons a11 (.cons a12 (.cons a13 (.cons a14 (.cons a15 (.cons a16 (.cons a17 (.cons a18 (.cons a19 (.pair a20 a21)))))))))))))))))))) := by rfl
theorem product_lift2_is_model (f : NFun A R) (t : fp_Tuple2 A A) : product_Lift2 (fun a1 a2 => f [a1, a2]) t = tupled f (tupList2 t) := by rfl
theorem product_lift3_is_model (f : NFun A R) (t : fp_Tuple3 A A A) : product_Lift3 (fun a1 a2 a3 => f [a1, a2, a3]) t = tupled f (tupList3 t) := by rfl
theorem product_lift4_is_model (f : NFun A R) (t : fp_Tuple4 A A A A) : product_Lift4 (fun a1 a2 a3 a4 => f [a1, a2, a3, a4]) t = tupled f (tupList4 t) := by rfl
theorem product_lift5_is_model (f : NFun A R) (t : fp_Tuple5 A A A A A) : product_Lift5 (fun a1 a2 a3 a4 a5 => f [a1, a2, a3, a4, a5]) t = tupled f (tupList5 t) := by rfl
theorem product_lift6_is_model (f : NFun A R) (t : fp_Tuple6 A A A A A A) : product_Lift6 (fun a1 a2 a3 a4 a5 a6 => f [a1, a2, a3, a4, a5, a6]) t = tupled f (tupList6 t) := by rfl
theorem product_lift7_is_model (f : NFun A R) (t : fp_Tuple7 A A A A A A A) : product_Lift7 (fun a1 a2 a3 a4 a5 a6 a7 => f [a1, a2, a3, a4, a5, a6, a7]) t = tupled f (tupList7 t) := by rfl
theorem product_lift8_is_model (f : NFun A R) (t : fp_Tuple8 A A A A A A A A) : product_Lift8 (fun a1 a2 a3 a4 a5 a6 a7 a8 => f [a1, a2, a3, a4, a5, a6, a7, a8]) t = tupled f (tupList8 t) := by rfl
theorem product_lift9_is_model (f : NFun A R) (t : fp_Tuple9 A A A A A A A A A) : product_Lift9 (fun a1 a2 a3 a4 a5 a6 a7 a8 a9 => f [a1, a2, a3, a4, a5, a6, a7, a8, a9]) t = tupled f (tupList9 t) := by rfl
theorem product_lift10_is_model (f : NFun A R) (t : fp_Tuple10 A A A A A A A A A A) : product_Lift10 (fun a1 a2 a3 a4 a5 a6 a7 a8 a9 a10 => f [a1, a2, a3, a4, a5, a6, a7, a8, a9, a10]) t = tupled f (tupList10 t) := by rfl
theorem product_lift11_is_model (f : NFun A R) (t : fp_Tuple11 A A A A A A A A A A A) : product_Lift11 (fun a1 a2 a3 a4 a5 a6 a7 a8 a9 a10 a11 => f [a1, a2, a3, a4, a5, a6, a7, a8, a9, a10, a11]) t = tupled f (tupList11 t) := by rfl
theorem product_lift12_is_model (f : NFun A R) (t : fp_Tuple12 A A A A A A A A A A A A) : product_Lift12 (fun a1 a2 a3 a4 a5 a6 a7 a8 a9 a10 a11 a12 => f [a1, a2, a3, a4, a5, a6, a7, a8, a9, a10, a11, a12]) t = tupled f (tupList12 t) := by rfl
theorem product_lift13_is_model (f : NFun A R) (t : fp_Tuple13 A A A A A A A A A A A A A) : product_Lift13 (fun a1 a2 a3 a4 a5 a6 a7 a8 a9 a10 a11 a12 a13 => f [a1, a2, a3, a4, a5, a6, a7, a8, a9, a10, a11, a12, a13]) t = tupled f (tupList13 t) := by rfl
theorem product_lift14_is_model (f : NFun A R) (t : fp_Tuple14 A A A A A A A A A A A A A A) : product_Lift14 (fun a1 a2 a3 a4 a5 a6 a7 a8 a9 a10 a11 a12 a13 a14 => f [a1, a2, a3, a4, a5, a6, a7, a8, a9, a10, a11, a12, a13, a14]) t = tupled f (tupList14 t) := by rfl
theorem product_lift15_is_model (f : NFun A R) (t : fp_Tuple15 A A A A A A A A A A A A A A A) : product_Lift15 (fun a1 a2 a3 a4 a5 a6 a7 a8 a9 a10 a11 a12 a13 a14 a15 => f [a1, a2, a3, a4, a5, a6, a7, a8, a9, a10, a11, a12, a13, a14, a15]) t = tupled f (tupList15 t) := by rfl
theorem product_lift16_is_model (f : NFun A R) (t : fp_Tuple16 A A A A A A A A A A A A A A A A) : product_Lift16 (fun a1 a2 a3 a4 a5 a6 a7 a8 a9 a10 a11 a12 a13 a14 a15 a16 => f [a1, a2, a3, a4, a5, a6, a7, a8, a9, a10, a11, a12, a13, a14, a15, a16]) t = tupled f (tupList16 t) := by rfl
theorem product_lift17_is_model (f : NFun A R) (t : fp_Tuple17 A A A A A A A A A A A A A A A A A) : product_Lift17 (fun a1 a2 a3 a4 a5 a6 a7 a8 a9 a10 a11 a12 a13 a14 a15 a16 a17 => f [a1, a2, a3, a4, a5, a6, a7, a8, a9, a10, a11, a12, a13, a14, a15, a16, a17]) t = tupled f (tupList17 t) := by rfl
theorem product_lift18_is_model (f : NFun A R) (t : fp_Tuple18 A A A A A A A A A A A A A A A A A A) : product_Lift18 (fun a1 a2 a3 a4 a5 a6 a7 a8 a9 a10 a11 a12 a13 a14 a15 a16 a17 a18 => f [a1, a2, a3, a4, a5, a6, a7, a8, a9, a10, a11, a12, a13, a14, a15, a16, a17, a18]) t = tupled f (tupList18 t) := by rfl
theorem product_lift19_is_model (f : NFun A R) (t : fp_Tuple19 A A A A A A A A A A A A A A A A A A A) : product_Lift19 (fun a1 a2 a3 a4 a5 a6 a7 a8 a9 a10 a11 a12 a13 a14 a15 a16 a17 a18 a19 => f [a1, a2, a3, a4, a5, a6, a7, a8, a9, a10, a11, a12, a13, a14, a15, a16, a17, a18, a19]) t = tupled f (tupList19 t) := by rfl
theorem product_lift20_is_model (f : NFun A R) (t : fp_Tuple20 A A A A A A A A A A A A A A A A A A A A) : product_Lift20 (fun a1 a2 a3 a4 a5 a6 a7 a8 a9 a10 a11 a12 a13 a14 a15 a16 a17 a18 a19 a20 => f [a1, a2, a3, a4, a5, a6, a7, a8, a9, a10, a11, a12, a13, a14, a15, a16, a17, a18, a19, a20]) t = tupled f (tupList20 t) := by rfl
theorem product_lift21_is_model (f : NFun A R) (t : fp_Tuple21 A A A A A A A A A A A A A A A A A A A A A) : product_Lift21 (fun a1 a2 a3 a4 a5 a6 a7 a8 a9 a10 a11 a12 a13 a14 a15 a16 a17 a18 a19 a20 a21 => f [a1, a2, a3, a4, a5, a6, a7, a8, a9, a10, a11, a12, a13, a14, a15, a16, a17, a18, a19, a20, a21]) t = tupled f (tupList21 t) := by rfl

-- ------------------------------------------------------------------------------------------------
-- fn1/arrow_func_gen.go, unit/func_gen.go (the struct literal's fields are evaluated in order; `fp.Unit{}` is read as `()`)

theorem fn1_merge3_is_model (f1 f2 f3 : A → GoM A) (a : A) :
    (fun t => tupList3 t) <$> fn1_Merge3 f1 f2 f3 a = merge [f1, f2, f3] a := by
  refine Eq.trans ?_ (bind_pure _)
  simp only [fn1_Merge3, tupList3, map_bind, map_pure, C14.merge_cons_bind, C14.merge_nil, pure_bind]
theorem fn1_merge4_is_model (f1 f2 f3 f4 : A → GoM A) (a : A) :
    (fun t => tupList4 t) <$> fn1_Merge4 f1 f2 f3 f4 a = merge [f1, f2, f3, f4] a := by
  refine Eq.trans ?_ (bind_pure _)
  simp only [fn1_Merge4, tupList4, map_bind, map_pure, C14.merge_cons_bind, C14.merge_nil, pure_bind]
theorem fn1_merge5_is_model (f1 f2 f3 f4 f5 : A → GoM A) (a : A) :
    (fun t => tupList5 t) <$> fn1_Merge5 f1 f2 f3 f4 f5 a = merge [f1, f2, f3, f4, f5] a := by
  refine Eq.trans ?_ (bind_pure _)
  simp only [fn1_Merge5, tupList5, map_bind, map_pure, C14.merge_cons_bind, C14.merge_nil, pure_bind]
theorem fn1_merge6_is_model (f1 f2 f3 f4 f5 f6 : A → GoM A) (a : A) :
    (fun t => tupList6 t) <$> fn1_Merge6 f1 f2 f3 f4 f5 f6 a = merge [f1, f2, f3, f4, f5, f6] a := by
  refine Eq.trans ?_ (bind_pure _)
  simp only [fn1_Merge6, tupList6, map_bind, map_pure, C14.merge_cons_bind, C14.merge_nil, pure_bind]
theorem fn1_merge7_is_model (f1 f2 f3 f4 f5 f6 f7 : A → GoM A) (a : A) :
    (fun t => tupList7 t) <$> fn1_Merge7 f1 f2 f3 f4 f5 f6 f7 a = merge [f1, f2, f3, f4, f5, f6, f7] a := by
  refine Eq.trans ?_ (bind_pure _)
  simp only [fn1_Merge7, tupList7, map_bind, map_pure, C14.merge_cons_bind, C14.merge_nil, pure_bind]
theorem fn1_merge8_is_model (f1 f2 f3 f4 f5 f6 f7 f8 : A → GoM A) (a : A) :
    (fun t => tupList8 t) <$> fn1_Merge8 f1 f2 f3 f4 f5 f6 f7 f8 a = merge [f1, f2, f3, f4, f5, f6, f7, f8] a := by
  refine Eq.trans ?_ (bind_pure _)
  simp only [fn1_Merge8, tupList8, map_bind, map_pure, C14.merge_cons_bind, C14.merge_nil, pure_bind]
theorem fn1_merge9_is_model (f1 f2 f3 f4 f5 f6 f7 f8 f9 : A → GoM A) (a : A) :
    (fun t => tupList9 t) <$> fn1_Merge9 f1 f2 f3 f4 f5 f6 f7 f8 f9 a = merge [f1, f2, f3, f4, f5, f6, f7, f8, f9] a := by
  refine Eq.trans ?_ (bind_pure _)
  simp only [fn1_Merge9, tupList9, map_bind, map_pure, C14.merge_cons_bind, C14.merge_nil, pure_bind]
theorem unit_func1_is_model (f : List A → GoM Unit) (a1 : A) :
    (fun _ => ()) <$> unit_Func1 (fun a1 => f [a1]) a1 = unitFunc f [a1] :=
  map_bind _ _ _
theorem unit_func2_is_model (f : List A → GoM Unit) (a1 a2 : A) :
    (fun _ => ()) <$> unit_Func2 (fun a1 a2 => f [a1, a2]) a1 a2 = unitFunc f [a1, a2] :=
  map_bind _ _ _
theorem unit_func3_is_model (f : List A → GoM Unit) (a1 a2 a3 : A) :
    (fun _ => ()) <$> unit_Func3 (fun a1 a2 a3 => f [a1, a2, a3]) a1 a2 a3 = unitFunc f [a1, a2, a3] :=
  map_bind _ _ _
theorem unit_func4_is_model (f : List A → GoM Unit) (a1 a2 a3 a4 : A) :
    (fun _ => ()) <$> unit_Func4 (fun a1 a2 a3 a4 => f [a1, a2, a3, a4]) a1 a2 a3 a4 = unitFunc f [a1, a2, a3, a4] :=
  map_bind _ _ _
theorem unit_func5_is_model (f : List A → GoM Unit) (a1 a2 a3 a4 a5 : A) :
    (fun _ => ()) <$> unit_Func5 (fun a1 a2 a3 a4 a5 => f [a1, a2, a3, a4, a5]) a1 a2 a3 a4 a5 = unitFunc f [a1, a2, a3, a4, a5] :=
  map_bind _ _ _
theorem unit_func6_is_model (f : List A → GoM Unit) (a1 a2 a3 a4 a5 a6 : A) :
    (fun _ => ()) <$> unit_Func6 (fun a1 a2 a3 a4 a5 a6 => f [a1, a2, a3, a4, a5, a6]) a1 a2 a3 a4 a5 a6 = unitFunc f [a1, a2, a3, a4, a5, a6] :=
  map_bind _ _ _
theorem unit_func7_is_model (f : List A → GoM Unit) (a1 a2 a3 a4 a5 a6 a7 : A) :
    (fun _ => ()) <$> unit_Func7 (fun a1 a2 a3 a4 a5 a6 a7 => f [a1, a2, a3, a4, a5, a6, a7]) a1 a2 a3 a4 a5 a6 a7 = unitFunc f [a1, a2, a3, a4, a5, a6, a7] :=
  map_bind _ _ _
theorem unit_func8_is_model (f : List A → GoM Unit) (a1 a2 a3 a4 a5 a6 a7 a8 : A) :
    (fun _ => ()) <$> unit_Func8 (fun a1 a2 a3 a4 a5 a6 a7 a8 => f [a1, a2, a3, a4, a5, a6, a7, a8]) a1 a2 a3 a4 a5 a6 a7 a8 = unitFunc f [a1, a2, a3, a4, a5, a6, a7, a8] :=
  map_bind _ _ _
theorem unit_func9_is_model (f : List A → GoM Unit) (a1 a2 a3 a4 a5 a6 a7 a8 a9 : A) :
    (fun _ => ()) <$> unit_Func9 (fun a1 a2 a3 a4 a5 a6 a7 a8 a9 => f [a1, a2, a3, a4, a5, a6, a7, a8, a9]) a1 a2 a3 a4 a5 a6 a7 a8 a9 = unitFunc f [a1, a2, a3, a4, a5, a6, a7, a8, a9] :=
  map_bind _ _ _

-- ------------------------------------------------------------------------------------------------
-- coverage: what was found in the source is exactly what the theorems above speak about

/-- `lo, lo+1, …, hi-1` -/
def rng (lo hi : Nat) : List Nat := (List.range (hi - lo)).map (· + lo)

/-- the (family ↦ arities) table the generator produces, as a function of the constants of `internal/max/max.go`
    (`genfp.MaxProduct`, `MaxFunc`, `MaxCompose`); a family is the declaration's name with its numbers replaced by `N`,
    the arity is the first number of the name -/
def expected (maxProduct maxFunc maxCompose : Nat) : List (String × List Nat) := [
  ("as.CurriedN", rng 2 maxFunc), ("as.FuncN", rng 1 maxFunc), ("as.HListN", rng 1 maxProduct),
  ("as.HListNLabelled", rng 1 maxProduct), ("as.LabelledN", rng 1 maxProduct), ("as.SupplierN", rng 1 maxFunc),
  ("as.TupleN", rng 1 maxProduct), ("as.UnTupledN", rng 2 maxFunc),
  ("curried.ComposeN", rng 3 maxFunc), ("curried.FlipApplyN", rng 2 (maxFunc - 1)), ("curried.FlipN", rng 2 (maxFunc - 1)),
  ("curried.FuncN", rng 2 maxFunc), ("curried.RevertN", rng 2 maxFunc), ("curried.SlipLN", rng 3 maxFunc),
  ("fn1.MergeN", rng 3 maxFunc),
  ("fp.ComposeN", rng 3 maxCompose), ("fp.FuncN", rng 3 maxFunc), ("fp.FuncN.ApplyFirstN", rng 3 maxFunc),
  ("fp.FuncN.ApplyLastN", rng 3 maxFunc), ("fp.FuncN.Widen", rng 3 maxFunc), ("fp.IdN", rng 2 maxFunc),
  ("fp.LabelledN", rng 2 maxProduct), ("fp.LabelledN.Head", rng 2 maxProduct), ("fp.LabelledN.Init", rng 2 maxProduct),
  ("fp.LabelledN.Last", rng 2 maxProduct), ("fp.LabelledN.Tail", rng 2 maxProduct), ("fp.LabelledN.Unapply", rng 2 maxProduct),
  ("fp.TupleN", rng 2 maxProduct), ("fp.TupleN.Head", rng 2 maxProduct), ("fp.TupleN.Init", rng 2 maxProduct),
  ("fp.TupleN.Last", rng 2 maxProduct), ("fp.TupleN.Tail", rng 2 maxProduct), ("fp.TupleN.Unapply", rng 2 maxProduct),
  ("hlist.CaseN", rng 2 maxProduct), ("hlist.LiftN", rng 2 maxFunc), ("hlist.OfN", rng 2 maxProduct),
  ("hlist.ReverseN", rng 2 maxFunc), ("hlist.RiftN", rng 2 maxFunc),
  ("product.FlattenN", rng 4 maxProduct), ("product.LabelledFromHListN", rng 2 maxProduct), ("product.LiftN", rng 2 maxProduct),
  ("product.TupleFromHListN", rng 2 maxProduct), ("product.TupleN", rng 3 maxProduct),
  ("unit.FuncN", rng 1 maxFunc)]

/-- the per-arity theorems of this file are written for these values -/
theorem max_pinned : (maxProduct, maxFunc, maxCompose) = (22, 10, 6) := rfl

/-- every declaration of the generated files was found and translated (a declaration outside the fragment has no
    definition and is missing here), and there is no (family, arity) the theorems above do not speak about -/
theorem all_families_translated : found = expected maxProduct maxFunc maxCompose := by rfl

/-- the ONLY declarations of the generated files that are not translated: the `String()` methods of `TupleN`/`LabelledN` -/
theorem exceptions_pinned : exceptions =
    [("^fp\\.(Tuple|Labelled)\\d+\\.String$",
      "fmt.Sprintf of the fields (formatting, not a position claim; compared textually by the arity harness)",
      2 * (maxProduct - 2))] := rfl

-- ------------------------------------------------------------------------------------------------
-- C14's property theorems, transported to the TRANSLATED code at every generated arity.  The ties above hold by
-- unfolding (`rfl`), so a generic theorem instantiated at `n := N - 1`, `f := lfN g` and the argument list already
-- has the translated statement as its type (`apply` unfolds to see that once, `exact` would three times); where a tie
-- is used as an equation it is named (rewriting with the ties of the two functions composed leaves less to unfold).

-- (1) `curried.RevertN(curried.FuncN(g)) = g` for every N-ary g (C14.revert_curry)
theorem revert2_func2 (g : A → A → GoM R) (a1 a2 : A) :
    curried_Revert2 (curried_Func2 g) a1 a2 = g a1 a2 := by
  apply C14.revert_curry 1 (lf2 g) [a1, a2] rfl
theorem revert3_func3 (g : A → A → A → GoM R) (a1 a2 a3 : A) :
    curried_Revert3 (curried_Func3 g) a1 a2 a3 = g a1 a2 a3 := by
  apply C14.revert_curry 2 (lf3 g) [a1, a2, a3] rfl
theorem revert4_func4 (g : A → A → A → A → GoM R) (a1 a2 a3 a4 : A) :
    curried_Revert4 (curried_Func4 g) a1 a2 a3 a4 = g a1 a2 a3 a4 := by
  apply C14.revert_curry 3 (lf4 g) [a1, a2, a3, a4] rfl
theorem revert5_func5 (g : A → A → A → A → A → GoM R) (a1 a2 a3 a4 a5 : A) :
    curried_Revert5 (curried_Func5 g) a1 a2 a3 a4 a5 = g a1 a2 a3 a4 a5 := by
  apply C14.revert_curry 4 (lf5 g) [a1, a2, a3, a4, a5] rfl
theorem revert6_func6 (g : A → A → A → A → A → A → GoM R) (a1 a2 a3 a4 a5 a6 : A) :
    curried_Revert6 (curried_Func6 g) a1 a2 a3 a4 a5 a6 = g a1 a2 a3 a4 a5 a6 := by
  apply C14.revert_curry 5 (lf6 g) [a1, a2, a3, a4, a5, a6] rfl
theorem revert7_func7 (g : A → A → A → A → A → A → A → GoM R) (a1 a2 a3 a4 a5 a6 a7 : A) :
    curried_Revert7 (curried_Func7 g) a1 a2 a3 a4 a5 a6 a7 = g a1 a2 a3 a4 a5 a6 a7 := by
  apply C14.revert_curry 6 (lf7 g) [a1, a2, a3, a4, a5, a6, a7] rfl
theorem revert8_func8 (g : A → A → A → A → A → A → A → A → GoM R) (a1 a2 a3 a4 a5 a6 a7 a8 : A) :
    curried_Revert8 (curried_Func8 g) a1 a2 a3 a4 a5 a6 a7 a8 = g a1 a2 a3 a4 a5 a6 a7 a8 := by
  apply C14.revert_curry 7 (lf8 g) [a1, a2, a3, a4, a5, a6, a7, a8] rfl
theorem revert9_func9 (g : A → A → A → A → A → A → A → A → A → GoM R) (a1 a2 a3 a4 a5 a6 a7 a8 a9 : A) :
    curried_Revert9 (curried_Func9 g) a1 a2 a3 a4 a5 a6 a7 a8 a9 = g a1 a2 a3 a4 a5 a6 a7 a8 a9 := by
  apply C14.revert_curry 8 (lf9 g) [a1, a2, a3, a4, a5, a6, a7, a8, a9] rfl

-- (2) `as.CurriedN` and `curried.FuncN` are the same function (C14.asCurried_eq_curry)
theorem as_curried2_eq_curried_func2 (g : A → A → GoM R) : as_Curried2 g = curried_Func2 g := by
  apply C14.asCurried_eq_curry 0 (lf2 g)
theorem as_curried3_eq_curried_func3 (g : A → A → A → GoM R) : as_Curried3 g = curried_Func3 g := by
  apply C14.asCurried_eq_curry 1 (lf3 g)
theorem as_curried4_eq_curried_func4 (g : A → A → A → A → GoM R) : as_Curried4 g = curried_Func4 g := by
  apply C14.asCurried_eq_curry 2 (lf4 g)
theorem as_curried5_eq_curried_func5 (g : A → A → A → A → A → GoM R) : as_Curried5 g = curried_Func5 g := by
  apply C14.asCurried_eq_curry 3 (lf5 g)
theorem as_curried6_eq_curried_func6 (g : A → A → A → A → A → A → GoM R) : as_Curried6 g = curried_Func6 g := by
  apply C14.asCurried_eq_curry 4 (lf6 g)
theorem as_curried7_eq_curried_func7 (g : A → A → A → A → A → A → A → GoM R) : as_Curried7 g = curried_Func7 g := by
  apply C14.asCurried_eq_curry 5 (lf7 g)
theorem as_curried8_eq_curried_func8 (g : A → A → A → A → A → A → A → A → GoM R) : as_Curried8 g = curried_Func8 g := by
  apply C14.asCurried_eq_curry 6 (lf8 g)
theorem as_curried9_eq_curried_func9 (g : A → A → A → A → A → A → A → A → A → GoM R) : as_Curried9 g = curried_Func9 g := by
  apply C14.asCurried_eq_curry 7 (lf9 g)

-- (3) `curried.FlipK(f)(a2)…(aN)(a1) = f(a1)(a2)…(aN)`: the first argument moves to the last position (C14.flip_apply)
theorem flip2_apply (f : CurF A R 2) (a1 a2 a3 : A) :
    curried_Revert3 (curried_Flip2 f) a2 a3 a1 = curried_Revert3 f a1 a2 a3 := by
  simp only [curried_flip2_is_model, curried_revert3_is_model]
  apply C14.flip_apply 1 f a1 [a2, a3] rfl
theorem flip3_apply (f : CurF A R 3) (a1 a2 a3 a4 : A) :
    curried_Revert4 (curried_Flip3 f) a2 a3 a4 a1 = curried_Revert4 f a1 a2 a3 a4 := by
  simp only [curried_flip3_is_model, curried_revert4_is_model]
  apply C14.flip_apply 2 f a1 [a2, a3, a4] rfl
theorem flip4_apply (f : CurF A R 4) (a1 a2 a3 a4 a5 : A) :
    curried_Revert5 (curried_Flip4 f) a2 a3 a4 a5 a1 = curried_Revert5 f a1 a2 a3 a4 a5 := by
  simp only [curried_flip4_is_model, curried_revert5_is_model]
  apply C14.flip_apply 3 f a1 [a2, a3, a4, a5] rfl
theorem flip5_apply (f : CurF A R 5) (a1 a2 a3 a4 a5 a6 : A) :
    curried_Revert6 (curried_Flip5 f) a2 a3 a4 a5 a6 a1 = curried_Revert6 f a1 a2 a3 a4 a5 a6 := by
  simp only [curried_flip5_is_model, curried_revert6_is_model]
  apply C14.flip_apply 4 f a1 [a2, a3, a4, a5, a6] rfl
theorem flip6_apply (f : CurF A R 6) (a1 a2 a3 a4 a5 a6 a7 : A) :
    curried_Revert7 (curried_Flip6 f) a2 a3 a4 a5 a6 a7 a1 = curried_Revert7 f a1 a2 a3 a4 a5 a6 a7 := by
  simp only [curried_flip6_is_model, curried_revert7_is_model]
  apply C14.flip_apply 5 f a1 [a2, a3, a4, a5, a6, a7] rfl
theorem flip7_apply (f : CurF A R 7) (a1 a2 a3 a4 a5 a6 a7 a8 : A) :
    curried_Revert8 (curried_Flip7 f) a2 a3 a4 a5 a6 a7 a8 a1 = curried_Revert8 f a1 a2 a3 a4 a5 a6 a7 a8 := by
  simp only [curried_flip7_is_model, curried_revert8_is_model]
  apply C14.flip_apply 6 f a1 [a2, a3, a4, a5, a6, a7, a8] rfl
theorem flip8_apply (f : CurF A R 8) (a1 a2 a3 a4 a5 a6 a7 a8 a9 : A) :
    curried_Revert9 (curried_Flip8 f) a2 a3 a4 a5 a6 a7 a8 a9 a1 = curried_Revert9 f a1 a2 a3 a4 a5 a6 a7 a8 a9 := by
  simp only [curried_flip8_is_model, curried_revert9_is_model]
  apply C14.flip_apply 7 f a1 [a2, a3, a4, a5, a6, a7, a8, a9] rfl

-- (4) `curried.SlipLN(f)(aN)(a1)…(a(N-1)) = f(a1)…(aN)`: the last argument moves to the first position (C14.slipL_apply)
theorem slipL3_apply (f : CurF A R 2) (a1 a2 a3 : A) :
    curried_Revert3 (curried_SlipL3 f) a3 a1 a2 = curried_Revert3 f a1 a2 a3 := by
  simp only [curried_slipL3_is_model, curried_revert3_is_model]
  apply C14.slipL_apply 1 f a3 [a1, a2] rfl
theorem slipL4_apply (f : CurF A R 3) (a1 a2 a3 a4 : A) :
    curried_Revert4 (curried_SlipL4 f) a4 a1 a2 a3 = curried_Revert4 f a1 a2 a3 a4 := by
  simp only [curried_slipL4_is_model, curried_revert4_is_model]
  apply C14.slipL_apply 2 f a4 [a1, a2, a3] rfl
theorem slipL5_apply (f : CurF A R 4) (a1 a2 a3 a4 a5 : A) :
    curried_Revert5 (curried_SlipL5 f) a5 a1 a2 a3 a4 = curried_Revert5 f a1 a2 a3 a4 a5 := by
  simp only [curried_slipL5_is_model, curried_revert5_is_model]
  apply C14.slipL_apply 3 f a5 [a1, a2, a3, a4] rfl
theorem slipL6_apply (f : CurF A R 5) (a1 a2 a3 a4 a5 a6 : A) :
    curried_Revert6 (curried_SlipL6 f) a6 a1 a2 a3 a4 a5 = curried_Revert6 f a1 a2 a3 a4 a5 a6 := by
  simp only [curried_slipL6_is_model, curried_revert6_is_model]
  apply C14.slipL_apply 4 f a6 [a1, a2, a3, a4, a5] rfl
theorem slipL7_apply (f : CurF A R 6) (a1 a2 a3 a4 a5 a6 a7 : A) :
    curried_Revert7 (curried_SlipL7 f) a7 a1 a2 a3 a4 a5 a6 = curried_Revert7 f a1 a2 a3 a4 a5 a6 a7 := by
  simp only [curried_slipL7_is_model, curried_revert7_is_model]
  apply C14.slipL_apply 5 f a7 [a1, a2, a3, a4, a5, a6] rfl
theorem slipL8_apply (f : CurF A R 7) (a1 a2 a3 a4 a5 a6 a7 a8 : A) :
    curried_Revert8 (curried_SlipL8 f) a8 a1 a2 a3 a4 a5 a6 a7 = curried_Revert8 f a1 a2 a3 a4 a5 a6 a7 a8 := by
  simp only [curried_slipL8_is_model, curried_revert8_is_model]
  apply C14.slipL_apply 6 f a8 [a1, a2, a3, a4, a5, a6, a7] rfl
theorem slipL9_apply (f : CurF A R 8) (a1 a2 a3 a4 a5 a6 a7 a8 a9 : A) :
    curried_Revert9 (curried_SlipL9 f) a9 a1 a2 a3 a4 a5 a6 a7 a8 = curried_Revert9 f a1 a2 a3 a4 a5 a6 a7 a8 a9 := by
  simp only [curried_slipL9_is_model, curried_revert9_is_model]
  apply C14.slipL_apply 7 f a9 [a1, a2, a3, a4, a5, a6, a7, a8] rfl

-- (5) `curried.ComposeN(f, g)(a1)…(aN) = g(f(a1)…(aN))` (C14.composeCur_apply)
theorem compose3_apply (f : CurF A GA 2) (g : GA → GoM GR) (a1 a2 a3 : A) :
    curried_Revert3 (curried_Compose3 f g) a1 a2 a3 = (do let r ← curried_Revert3 f a1 a2 a3; g r) := by
  simp only [curried_compose3_is_model, curried_revert3_is_model]
  apply C14.composeCur_apply 1 f g [a1, a2, a3] rfl
theorem compose4_apply (f : CurF A GA 3) (g : GA → GoM GR) (a1 a2 a3 a4 : A) :
    curried_Revert4 (curried_Compose4 f g) a1 a2 a3 a4 = (do let r ← curried_Revert4 f a1 a2 a3 a4; g r) := by
  simp only [curried_compose4_is_model, curried_revert4_is_model]
  apply C14.composeCur_apply 2 f g [a1, a2, a3, a4] rfl
theorem compose5_apply (f : CurF A GA 4) (g : GA → GoM GR) (a1 a2 a3 a4 a5 : A) :
    curried_Revert5 (curried_Compose5 f g) a1 a2 a3 a4 a5 = (do let r ← curried_Revert5 f a1 a2 a3 a4 a5; g r) := by
  simp only [curried_compose5_is_model, curried_revert5_is_model]
  apply C14.composeCur_apply 3 f g [a1, a2, a3, a4, a5] rfl
theorem compose6_apply (f : CurF A GA 5) (g : GA → GoM GR) (a1 a2 a3 a4 a5 a6 : A) :
    curried_Revert6 (curried_Compose6 f g) a1 a2 a3 a4 a5 a6 = (do let r ← curried_Revert6 f a1 a2 a3 a4 a5 a6; g r) := by
  simp only [curried_compose6_is_model, curried_revert6_is_model]
  apply C14.composeCur_apply 4 f g [a1, a2, a3, a4, a5, a6] rfl
theorem compose7_apply (f : CurF A GA 6) (g : GA → GoM GR) (a1 a2 a3 a4 a5 a6 a7 : A) :
    curried_Revert7 (curried_Compose7 f g) a1 a2 a3 a4 a5 a6 a7 = (do let r ← curried_Revert7 f a1 a2 a3 a4 a5 a6 a7; g r) := by
  simp only [curried_compose7_is_model, curried_revert7_is_model]
  apply C14.composeCur_apply 5 f g [a1, a2, a3, a4, a5, a6, a7] rfl
theorem compose8_apply (f : CurF A GA 7) (g : GA → GoM GR) (a1 a2 a3 a4 a5 a6 a7 a8 : A) :
    curried_Revert8 (curried_Compose8 f g) a1 a2 a3 a4 a5 a6 a7 a8 = (do let r ← curried_Revert8 f a1 a2 a3 a4 a5 a6 a7 a8; g r) := by
  simp only [curried_compose8_is_model, curried_revert8_is_model]
  apply C14.composeCur_apply 6 f g [a1, a2, a3, a4, a5, a6, a7, a8] rfl
theorem compose9_apply (f : CurF A GA 8) (g : GA → GoM GR) (a1 a2 a3 a4 a5 a6 a7 a8 a9 : A) :
    curried_Revert9 (curried_Compose9 f g) a1 a2 a3 a4 a5 a6 a7 a8 a9 = (do let r ← curried_Revert9 f a1 a2 a3 a4 a5 a6 a7 a8 a9; g r) := by
  simp only [curried_compose9_is_model, curried_revert9_is_model]
  apply C14.composeCur_apply 7 f g [a1, a2, a3, a4, a5, a6, a7, a8, a9] rfl

-- (6) `hlist.ReverseN(a1,…,aN) = (aN,…,a1)`, and it runs no user code (C14.hreverse_def)
theorem reverse2_def (a1 a2 : A) :
    (fun l => hl2 l) <$> hlist_Reverse2 (⟨a1, ⟨a2, ⟨⟩⟩⟩ : (hlist_Cons A (hlist_Cons A hlist_Nil))) = pure [a2, a1] :=
  (hlist_reverse2_is_model a1 a2).trans (C14.hreverse_def 1 [a1, a2] rfl)
theorem reverse3_def (a1 a2 a3 : A) :
    (fun l => hl3 l) <$> hlist_Reverse3 (⟨a1, ⟨a2, ⟨a3, ⟨⟩⟩⟩⟩ : (hlist_Cons A (hlist_Cons A (hlist_Cons A hlist_Nil)))) = pure [a3, a2, a1] :=
  (hlist_reverse3_is_model a1 a2 a3).trans (C14.hreverse_def 2 [a1, a2, a3] rfl)
theorem reverse4_def (a1 a2 a3 a4 : A) :
    (fun l => hl4 l) <$> hlist_Reverse4 (⟨a1, ⟨a2, ⟨a3, ⟨a4, ⟨⟩⟩⟩⟩⟩ : (hlist_Cons A (hlist_Cons A (hlist_Cons A (hlist_Cons A hlist_Nil))))) = pure [a4, a3, a2, a1] :=
  (hlist_reverse4_is_model a1 a2 a3 a4).trans (C14.hreverse_def 3 [a1, a2, a3, a4] rfl)
theorem reverse5_def (a1 a2 a3 a4 a5 : A) :
    (fun l => hl5 l) <$> hlist_Reverse5 (⟨a1, ⟨a2, ⟨a3, ⟨a4, ⟨a5, ⟨⟩⟩⟩⟩⟩⟩ : (hlist_Cons A (hlist_Cons A (hlist_Cons A (hlist_Cons A (hlist_Cons A hlist_Nil)))))) = pure [a5, a4, a3, a2, a1] :=
  (hlist_reverse5_is_model a1 a2 a3 a4 a5).trans (C14.hreverse_def 4 [a1, a2, a3, a4, a5] rfl)
theorem reverse6_def (a1 a2 a3 a4 a5 a6 : A) :
    (fun l => hl6 l) <$> hlist_Reverse6 (⟨a1, ⟨a2, ⟨a3, ⟨a4, ⟨a5, ⟨a6, ⟨⟩⟩⟩⟩⟩⟩⟩ : (hlist_Cons A (hlist_Cons A (hlist_Cons A (hlist_Cons A (hlist_Cons A (hlist_Cons A hlist_Nil))))))) = pure [a6, a5, a4, a3, a2, a1] :=
  (hlist_reverse6_is_model a1 a2 a3 a4 a5 a6).trans (C14.hreverse_def 5 [a1, a2, a3, a4, a5, a6] rfl)
theorem reverse7_def (a1 a2 a3 a4 a5 a6 a7 : A) :
    (fun l => hl7 l) <$> hlist_Reverse7 (⟨a1, ⟨a2, ⟨a3, ⟨a4, ⟨a5, ⟨a6, ⟨a7, ⟨⟩⟩⟩⟩⟩⟩⟩⟩ : (hlist_Cons A (hlist_Cons A (hlist_Cons A (hlist_Cons A (hlist_Cons A (hlist_Cons A (hlist_Cons A hlist_Nil)))))))) = pure [a7, a6, a5, a4, a3, a2, a1] :=
  (hlist_reverse7_is_model a1 a2 a3 a4 a5 a6 a7).trans (C14.hreverse_def 6 [a1, a2, a3, a4, a5, a6, a7] rfl)
theorem reverse8_def (a1 a2 a3 a4 a5 a6 a7 a8 : A) :
    (fun l => hl8 l) <$> hlist_Reverse8 (⟨a1, ⟨a2, ⟨a3, ⟨a4, ⟨a5, ⟨a6, ⟨a7, ⟨a8, ⟨⟩⟩⟩⟩⟩⟩⟩⟩⟩ : (hlist_Cons A (hlist_Cons A (hlist_Cons A (hlist_Cons A (hlist_Cons A (hlist_Cons A (hlist_Cons A (hlist_Cons A hlist_Nil))))))))) = pure [a8, a7, a6, a5, a4, a3, a2, a1] :=
  (hlist_reverse8_is_model a1 a2 a3 a4 a5 a6 a7 a8).trans (C14.hreverse_def 7 [a1, a2, a3, a4, a5, a6, a7, a8] rfl)
theorem reverse9_def (a1 a2 a3 a4 a5 a6 a7 a8 a9 : A) :
    (fun l => hl9 l) <$> hlist_Reverse9 (⟨a1, ⟨a2, ⟨a3, ⟨a4, ⟨a5, ⟨a6, ⟨a7, ⟨a8, ⟨a9, ⟨⟩⟩⟩⟩⟩⟩⟩⟩⟩⟩ : (hlist_Cons A (hlist_Cons A (hlist_Cons A (hlist_Cons A (hlist_Cons A (hlist_Cons A (hlist_Cons A (hlist_Cons A (hlist_Cons A hlist_Nil)))))))))) = pure [a9, a8, a7, a6, a5, a4, a3, a2, a1] :=
  (hlist_reverse9_is_model a1 a2 a3 a4 a5 a6 a7 a8 a9).trans (C14.hreverse_def 8 [a1, a2, a3, a4, a5, a6, a7, a8, a9] rfl)

-- (7) `product.TupleFromHListN(as.HListN(t)) = t` (C14.tupleFromHList_of_asHList)
theorem tupleFromHList1_asHList1 (t : fp_Tuple1 A) :
    tupList1 (product_TupleFromHList1 (as_HList1 t)) = tupList1 t :=
  C14.tupleFromHList_of_asHList 0 (product_tupleFromHList1_is_model _) (as_hlist1_is_model t) rfl
theorem tupleFromHList2_asHList2 (t : fp_Tuple2 A A) :
    tupList2 (product_TupleFromHList2 (as_HList2 t)) = tupList2 t :=
  C14.tupleFromHList_of_asHList 1 (product_tupleFromHList2_is_model _) (as_hlist2_is_model t) rfl
theorem tupleFromHList3_asHList3 (t : fp_Tuple3 A A A) :
    tupList3 (product_TupleFromHList3 (as_HList3 t)) = tupList3 t :=
  C14.tupleFromHList_of_asHList 2 (product_tupleFromHList3_is_model _) (as_hlist3_is_model t) rfl
theorem tupleFromHList4_asHList4 (t : fp_Tuple4 A A A A) :
    tupList4 (product_TupleFromHList4 (as_HList4 t)) = tupList4 t :=
  C14.tupleFromHList_of_asHList 3 (product_tupleFromHList4_is_model _) (as_hlist4_is_model t) rfl
theorem tupleFromHList5_asHList5 (t : fp_Tuple5 A A A A A) :
    tupList5 (product_TupleFromHList5 (as_HList5 t)) = tupList5 t :=
  C14.tupleFromHList_of_asHList 4 (product_tupleFromHList5_is_model _) (as_hlist5_is_model t) rfl
theorem tupleFromHList6_asHList6 (t : fp_Tuple6 A A A A A A) :
    tupList6 (product_TupleFromHList6 (as_HList6 t)) = tupList6 t :=
  C14.tupleFromHList_of_asHList 5 (product_tupleFromHList6_is_model _) (as_hlist6_is_model t) rfl
theorem tupleFromHList7_asHList7 (t : fp_Tuple7 A A A A A A A) :
    tupList7 (product_TupleFromHList7 (as_HList7 t)) = tupList7 t :=
  C14.tupleFromHList_of_asHList 6 (product_tupleFromHList7_is_model _) (as_hlist7_is_model t) rfl
theorem tupleFromHList8_asHList8 (t : fp_Tuple8 A A A A A A A A) :
    tupList8 (product_TupleFromHList8 (as_HList8 t)) = tupList8 t :=
  C14.tupleFromHList_of_asHList 7 (product_tupleFromHList8_is_model _) (as_hlist8_is_model t) rfl
theorem tupleFromHList9_asHList9 (t : fp_Tuple9 A A A A A A A A A) :
    tupList9 (product_TupleFromHList9 (as_HList9 t)) = tupList9 t :=
  C14.tupleFromHList_of_asHList 8 (product_tupleFromHList9_is_model _) (as_hlist9_is_model t) rfl
theorem tupleFromHList10_asHList10 (t : fp_Tuple10 A A A A A A A A A A) :
    tupList10 (product_TupleFromHList10 (as_HList10 t)) = tupList10 t :=
  C14.tupleFromHList_of_asHList 9 (product_tupleFromHList10_is_model _) (as_hlist10_is_model t) rfl
theorem tupleFromHList11_asHList11 (t : fp_Tuple11 A A A A A A A A A A A) :
    tupList11 (product_TupleFromHList11 (as_HList11 t)) = tupList11 t :=
  C14.tupleFromHList_of_asHList 10 (product_tupleFromHList11_is_model _) (as_hlist11_is_model t) rfl
theorem tupleFromHList12_asHList12 (t : fp_Tuple12 A A A A A A A A A A A A) :
    tupList12 (product_TupleFromHList12 (as_HList12 t)) = tupList12 t :=
  C14.tupleFromHList_of_asHList 11 (product_tupleFromHList12_is_model _) (as_hlist12_is_model t) rfl
theorem tupleFromHList13_asHList13 (t : fp_Tuple13 A A A A A A A A A A A A A) :
    tupList13 (product_TupleFromHList13 (as_HList13 t)) = tupList13 t :=
  C14.tupleFromHList_of_asHList 12 (product_tupleFromHList13_is_model _) (as_hlist13_is_model t) rfl
theorem tupleFromHList14_asHList14 (t : fp_Tuple14 A A A A A A A A A A A A A A) :
    tupList14 (product_TupleFromHList14 (as_HList14 t)) = tupList14 t :=
  C14.tupleFromHList_of_asHList 13 (product_tupleFromHList14_is_model _) (as_hlist14_is_model t) rfl
theorem tupleFromHList15_asHList15 (t : fp_Tuple15 A A A A A A A A A A A A A A A) :
    tupList15 (product_TupleFromHList15 (as_HList15 t)) = tupList15 t :=
  C14.tupleFromHList_of_asHList 14 (product_tupleFromHList15_is_model _) (as_hlist15_is_model t) rfl
theorem tupleFromHList16_asHList16 (t : fp_Tuple16 A A A A A A A A A A A A A A A A) :
    tupList16 (product_TupleFromHList16 (as_HList16 t)) = tupList16 t :=
  C14.tupleFromHList_of_asHList 15 (product_tupleFromHList16_is_model _) (as_hlist16_is_model t) rfl
theorem tupleFromHList17_asHList17 (t : fp_Tuple17 A A A A A A A A A A A A A A A A A) :
    tupList17 (product_TupleFromHList17 (as_HList17 t)) = tupList17 t :=
  C14.tupleFromHList_of_asHList 16 (product_tupleFromHList17_is_model _) (as_hlist17_is_model t) rfl
theorem tupleFromHList18_asHList18 (t : fp_Tuple18 A A A A A A A A A A A A A A A A A A) :
    tupList18 (product_TupleFromHList18 (as_HList18 t)) = tupList18 t :=
  C14.tupleFromHList_of_asHList 17 (product_tupleFromHList18_is_model _) (as_hlist18_is_model t) rfl
theorem tupleFromHList19_asHList19 (t : fp_Tuple19 A A A A A A A A A A A A A A A A A A A) :
    tupList19 (product_TupleFromHList19 (as_HList19 t)) = tupList19 t :=
  C14.tupleFromHList_of_asHList 18 (product_tupleFromHList19_is_model _) (as_hlist19_is_model t) rfl
theorem tupleFromHList20_asHList20 (t : fp_Tuple20 A A A A A A A A A A A A A A A A A A A A) :
    tupList20 (product_TupleFromHList20 (as_HList20 t)) = tupList20 t :=
  C14.tupleFromHList_of_asHList 19 (product_tupleFromHList20_is_model _) (as_hlist20_is_model t) rfl
theorem tupleFromHList21_asHList21 (t : fp_Tuple21 A A A A A A A A A A A A A A A A A A A A A) :
    tupList21 (product_TupleFromHList21 (as_HList21 t)) = tupList21 t :=
  C14.tupleFromHList_of_asHList 20 (product_tupleFromHList21_is_model _) (as_hlist21_is_model t) rfl

-- (8) `hlist.LiftN(f)(hlist.OfN(a1,…,aN)) = f(a1,…,aN)` (C14.hlift_def)
theorem lift2_of2 (g : A → A → GoM R) (a1 a2 : A) :
    hlist_Lift2 g (hlist_Of2 a1 a2) = g a1 a2 := by
  apply C14.hlift_def 1 (lf2 g) [a1, a2] rfl
theorem lift3_of3 (g : A → A → A → GoM R) (a1 a2 a3 : A) :
    hlist_Lift3 g (hlist_Of3 a1 a2 a3) = g a1 a2 a3 := by
  apply C14.hlift_def 2 (lf3 g) [a1, a2, a3] rfl
theorem lift4_of4 (g : A → A → A → A → GoM R) (a1 a2 a3 a4 : A) :
    hlist_Lift4 g (hlist_Of4 a1 a2 a3 a4) = g a1 a2 a3 a4 := by
  apply C14.hlift_def 3 (lf4 g) [a1, a2, a3, a4] rfl
theorem lift5_of5 (g : A → A → A → A → A → GoM R) (a1 a2 a3 a4 a5 : A) :
    hlist_Lift5 g (hlist_Of5 a1 a2 a3 a4 a5) = g a1 a2 a3 a4 a5 := by
  apply C14.hlift_def 4 (lf5 g) [a1, a2, a3, a4, a5] rfl
theorem lift6_of6 (g : A → A → A → A → A → A → GoM R) (a1 a2 a3 a4 a5 a6 : A) :
    hlist_Lift6 g (hlist_Of6 a1 a2 a3 a4 a5 a6) = g a1 a2 a3 a4 a5 a6 := by
  apply C14.hlift_def 5 (lf6 g) [a1, a2, a3, a4, a5, a6] rfl
theorem lift7_of7 (g : A → A → A → A → A → A → A → GoM R) (a1 a2 a3 a4 a5 a6 a7 : A) :
    hlist_Lift7 g (hlist_Of7 a1 a2 a3 a4 a5 a6 a7) = g a1 a2 a3 a4 a5 a6 a7 := by
  apply C14.hlift_def 6 (lf7 g) [a1, a2, a3, a4, a5, a6, a7] rfl
theorem lift8_of8 (g : A → A → A → A → A → A → A → A → GoM R) (a1 a2 a3 a4 a5 a6 a7 a8 : A) :
    hlist_Lift8 g (hlist_Of8 a1 a2 a3 a4 a5 a6 a7 a8) = g a1 a2 a3 a4 a5 a6 a7 a8 := by
  apply C14.hlift_def 7 (lf8 g) [a1, a2, a3, a4, a5, a6, a7, a8] rfl
theorem lift9_of9 (g : A → A → A → A → A → A → A → A → A → GoM R) (a1 a2 a3 a4 a5 a6 a7 a8 a9 : A) :
    hlist_Lift9 g (hlist_Of9 a1 a2 a3 a4 a5 a6 a7 a8 a9) = g a1 a2 a3 a4 a5 a6 a7 a8 a9 := by
  apply C14.hlift_def 8 (lf9 g) [a1, a2, a3, a4, a5, a6, a7, a8, a9] rfl

-- (9) `fp.ComposeN(f1,…,fN)(a) = fN(…f2(f1(a)))` (C14.composeN_pipeline)
theorem fp_compose3_pipeline (f1 f2 f3 : A → GoM A) (a : A) :
    fp_Compose3 f1 f2 f3 a = C14.pipeline [f1, f2, f3] a :=
  (congrFun (fp_compose3_is_model f1 f2 f3) a).trans (C14.composeN_pipeline [f1, f2, f3] (by simp) a)
theorem fp_compose4_pipeline (f1 f2 f3 f4 : A → GoM A) (a : A) :
    fp_Compose4 f1 f2 f3 f4 a = C14.pipeline [f1, f2, f3, f4] a :=
  (congrFun (fp_compose4_is_model f1 f2 f3 f4) a).trans (C14.composeN_pipeline [f1, f2, f3, f4] (by simp) a)
theorem fp_compose5_pipeline (f1 f2 f3 f4 f5 : A → GoM A) (a : A) :
    fp_Compose5 f1 f2 f3 f4 f5 a = C14.pipeline [f1, f2, f3, f4, f5] a :=
  (congrFun (fp_compose5_is_model f1 f2 f3 f4 f5) a).trans (C14.composeN_pipeline [f1, f2, f3, f4, f5] (by simp) a)

-- ------------------------------------------------------------------------------------------------
-- the translated definitions compute (and the statements above are not vacuous): all by `rfl`

def g3 : Nat → Nat → Nat → GoM (List Nat) := fun a b c => do emit "g"; pure [a, b, c]

example : (curried_Revert3 (curried_Func3 g3) 10 20 30).exec = (.ok [10, 20, 30], ["g"]) := by rfl
example : (curried_Revert3 (curried_Flip2 (curried_Func3 g3)) 20 30 10).exec = (.ok [10, 20, 30], ["g"]) := by rfl
example : (curried_Revert3 (curried_SlipL3 (curried_Func3 g3)) 30 10 20).exec = (.ok [10, 20, 30], ["g"]) := by rfl
example : (curried_FlipApply2 (curried_Func3 g3) 20 30 10).exec = (.ok [10, 20, 30], ["g"]) := by rfl
example : (hlist_Rift3 g3 (hlist_Of3 30 20 10)).exec = (.ok [10, 20, 30], ["g"]) := by rfl
example : (hlist_Case3 (hlist_Of4 10 20 30 40) g3).exec = (.ok [10, 20, 30], ["g"]) := by rfl
example : ((fun l => hl3 l) <$> hlist_Reverse3 (hlist_Of3 10 20 30)).exec = (.ok [30, 20, 10], []) := by rfl
example : tupList4 (product_Flatten4 ⟨10, ⟨20, ⟨30, 40⟩⟩⟩) = [10, 20, 30, 40] := by rfl
example : (fp_Func3.ApplyLast2 g3 20 30 10).exec = (.ok [10, 20, 30], ["g"]) := by rfl
example : (product_Lift3 g3 (product_TupleFromHList3 (hlist_Of3 10 20 30))).exec = (.ok [10, 20, 30], ["g"]) := by rfl

end FpVerif.Spec.C14ArityGen
