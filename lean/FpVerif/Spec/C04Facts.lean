import FpVerif.Gen.Facts
/-!
# C04 — regenerated facts: Option, Try, tuples and Seq cannot be altered through their methods

Every method of `fp.Option`, `fp.Try`, `fp.TupleN`, `fp.LabelledN` and `fp.Seq` has a VALUE receiver
(it works on a copy of the struct / slice header), with the single exception of `Option.UnmarshalJSON`,
which by contract of `json.Unmarshaler` fills its target.  Regenerated from the source on every run.
-/
namespace FpVerif.Spec.C04
open FpVerif.Gen

def valueTypes (recv : String) : Bool :=
  recv == "Option" || recv == "Try" || recv == "Seq" ||
    recv.toList.take 5 == ['T', 'u', 'p', 'l', 'e'] || recv.toList.take 8 == ['L', 'a', 'b', 'e', 'l', 'l', 'e', 'd']

theorem value_receivers :
    (funcs.filter (fun f => f.pkg == "fp" && valueTypes f.recv && f.ptrRecv)).map (fun f => (f.recv, f.name))
      = [("Option", "UnmarshalJSON")] := by
  -- pointer receivers are rare: select them first, classify only those
  rw [← List.filter_filter]
  decide +kernel

/-- the extractor did look at these types (non-vacuity) -/
theorem value_receivers_nonempty :
    (funcs.filter (fun f => f.pkg == "fp" && valueTypes f.recv)).length ≥ 100 := by
  -- evaluation stops at the hundredth match instead of classifying the whole table
  refine Nat.lt_of_not_le fun hle => absurd (List.drop_eq_nil_of_le hle) ?_
  decide +kernel

end FpVerif.Spec.C04
