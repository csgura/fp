import FpVerif.Model.TryOpt
import FpVerif.Spec.C01
import FpVerif.Spec.C17
import FpVerif.Lemmas.MonadInst
/-!
# C01 (part 2) — Option, Try, Either and StateT satisfy the monad laws

`FlatMap` with the unit of each package satisfies left identity and associativity
unconditionally, hence (by `Spec/C01.lean`) every generated combinator of the four packages equals
its definition.  Right identity holds for every value except the zero-value `Try{}` / `Failure(nil)`,
on which the library panics ("Try not initialized correctly") — stated as the excluded branch.
The packages' own loop-style `FoldM` equals the `FlatMap` chain.
-/
namespace FpVerif.Spec.C01
open FpVerif MonadFamily

variable {A B D R S L : Type}

theorem try_lawful : (TryM.ops).Lawful :=
  MonadOps.lawful_of_value .success TryM.flatMap (fun _ _ => rfl) TryM.flatMap_assoc

theorem option_lawful : (OptM.ops).Lawful :=
  MonadOps.lawful_of_value some OptM.flatMap (fun _ _ => rfl) OptM.flatMap_assoc

theorem either_lawful : (EitM.ops L).Lawful :=
  MonadOps.lawful_of_value (F := Either L) .right EitM.flatMap (fun _ _ => rfl) EitM.flatMap_assoc

/-- for StateT left identity and associativity are those of `Spec/C17.lean`, at continuations without effects of their own -/
theorem statet_lawful : (StM.ops S).Lawful where
  seq_pure a k := by funext s; exact pure_bind a _
  seq_bind g h k := by funext s; exact bind_assoc g h _
  flatMap_seq g k h := by funext s; exact bind_assoc g _ _
  left_id a k := by funext s; exact (C17.left_id a _ s).trans (pure_bind _ _)
  assoc m k h := by
    refine (C17.assoc m _ _).trans (congrArg _ ?_)
    funext a
    exact pure_bind _ _

-- right identity ---------------------------------------------------------------------------------

theorem option_right_id (m : GoM (Option A)) : (OptM.ops).flatMap m (OptM.ops).pure' = m :=
  (bind_congr OptM.flatMap_pure).trans (bind_pure m)

theorem either_right_id (m : GoM (Either L A)) : (EitM.ops L).flatMap m (EitM.ops L).pure' = m :=
  (bind_congr EitM.flatMap_pure).trans (bind_pure m)

/-- Right identity for Try on every value except the zero value. -/
theorem try_right_id (t : Try A) (h : t ≠ .failure .nil) :
    (TryM.ops).flatMap (pure t) (TryM.ops).pure' = pure t :=
  (TryM.ops_flatMap_pure t _).trans (TryM.flatMap_pure t h)

/-- … and the excluded branch: the zero value makes `FlatMap` panic. -/
theorem try_flatMap_zero (k : A → GoM (Try B)) :
    (TryM.ops).flatMap (pure (.failure .nil)) k = throw "ErrNotInit" :=
  TryM.ops_flatMap_pure _ k

-- the packages' loop-style FoldM is the FlatMap chain --------------------------------------------------

theorem option_foldM_cons (x : A) (xs : List A) (z : B) (f : B → A → GoM (Option B)) :
    OptM.foldM (x :: xs) z f = (OptM.ops).flatMap (f z x) (fun b => OptM.foldM xs b f) :=
  bind_congr fun t => by cases t <;> rfl

theorem either_foldM_cons (x : A) (xs : List A) (z : B) (f : B → A → GoM (Either L B)) :
    EitM.foldM (x :: xs) z f = (EitM.ops L).flatMap (f z x) (fun b => EitM.foldM xs b f) :=
  bind_congr fun t => by cases t <;> rfl

/-- HYPOTHESIS-FREE (audit finding 14): the loop, for EVERY step function (it may log, panic, fail, return the
    zero value): run the step — once, with all its effects —, then continue on a Success and hand a Failure back
    as it is. -/
theorem try_foldM_cons_eq (x : A) (xs : List A) (z : B) (f : B → A → GoM (Try B)) :
    TryM.foldM (x :: xs) z f = (f z x >>= fun t =>
      match t with
      | .success s => TryM.foldM xs s f
      | .failure e => pure (.failure e)) :=
  bind_congr fun t => by cases t <;> rfl

/-- HYPOTHESIS-FREE: the `FlatMap` chain is the loop WITH THE ZERO-VALUE GUARD — the only difference between the
    two is what happens when the step returns `Try{}` / `Failure(nil)`: the loop returns it, `FlatMap` panics. -/
theorem try_foldM_chain_eq (x : A) (xs : List A) (z : B) (f : B → A → GoM (Try B)) :
    (TryM.ops).flatMap (f z x) (fun b => TryM.foldM xs b f) = (f z x >>= fun t =>
      match t with
      | .success s => TryM.foldM xs s f
      | .failure .nil => throw "ErrNotInit"
      | .failure e => pure (.failure e)) :=
  bind_congr fun t => by
    rcases t with a | e
    · rfl
    · by_cases he : e = .nil
      · subst he; rfl
      · simp [he]

/-- MOST GENERAL form: the step never returns the zero value — stated, as `C17.NoNil`, as invariance of the step
    under the guard the library applies; no other restriction (the result may depend on the effects). -/
theorem try_foldM_cons_noNil (x : A) (xs : List A) (z : B) (f : B → A → GoM (Try B))
    (hf : (f z x >>= fun t => match t with
            | .failure .nil => (throw "ErrNotInit" : GoM (Try B))
            | t => pure t) = f z x) :
    TryM.foldM (x :: xs) z f = (TryM.ops).flatMap (f z x) (fun b => TryM.foldM xs b f) := by
  rw [try_foldM_cons_eq, try_foldM_chain_eq]
  conv => lhs; rw [← hf]
  rw [bind_assoc]
  refine bind_congr fun t => ?_
  rcases t with a | e
  · exact pure_bind _ _
  · by_cases he : e = .nil
    · subst he; rfl
    · simp [he]

/-- GENERAL form of `try_foldM_cons`: the step may have EFFECTS `act` (a log, other callbacks — any `GoM`
    computation of any result type) before it returns `t`. -/
theorem try_foldM_cons_eff {X : Type} (x : A) (xs : List A) (z : B) (f : B → A → GoM (Try B)) (t : Try B)
    (act : GoM X) (hf : f z x = act >>= fun _ => pure t) (ht : t ≠ .failure .nil) :
    TryM.foldM (x :: xs) z f = (TryM.ops).flatMap (f z x) (fun b => TryM.foldM xs b f) := by
  refine try_foldM_cons_noNil x xs z f ((bind_of_returns hf _).trans ((bind_congr fun _ => ?_).trans hf.symm))
  rcases t with a | e
  · rfl
  · simp (disch := exact ht)

/-- For Try the loop hands a failing step's value back unchanged, the chain re-wraps its error:
    the two agree whenever the step is not the zero value.  (The effect-free instance of `try_foldM_cons_eff`.) -/
theorem try_foldM_cons (x : A) (xs : List A) (z : B) (f : B → A → GoM (Try B)) (t : Try B)
    (hf : f z x = pure t) (ht : t ≠ .failure .nil) :
    TryM.foldM (x :: xs) z f = (TryM.ops).flatMap (f z x) (fun b => TryM.foldM xs b f) :=
  try_foldM_cons_eff x xs z f t (pure ()) hf ht

/-- the excluded branch: a step returning the zero value (after any effects) — the loop returns it, the chain panics -/
theorem try_foldM_cons_zero {X : Type} (x : A) (xs : List A) (z : B) (f : B → A → GoM (Try B)) (act : GoM X)
    (hf : f z x = act >>= fun _ => pure (.failure .nil)) :
    TryM.foldM (x :: xs) z f = (act >>= fun _ => pure (.failure .nil)) ∧
    (TryM.ops).flatMap (f z x) (fun b => TryM.foldM xs b f) = (act >>= fun _ => throw "ErrNotInit") :=
  ⟨bind_of_returns hf _, bind_of_returns hf _⟩

-- non-vacuity: a step that logs and then fails
example : ∃ (f : Nat → Nat → GoM (Try Nat)) (act : GoM Unit) (t : Try Nat),
    f 0 1 = (act >>= fun _ => pure t) ∧ t ≠ .failure .nil ∧ f 0 1 ≠ pure t :=
  ⟨fun _ _ => do emit "k"; pure (.failure (.code 3)), emit "k", .failure (.code 3), rfl, by decide, by
    intro h
    have := congrArg (fun m => (GoM.exec m).2) h
    revert this
    decide⟩

end FpVerif.Spec.C01
