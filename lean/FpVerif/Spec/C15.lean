import FpVerif.Model.Json
import FpVerif.Lemmas.JsonStruct
/-!
# C15 — JSON round trip for `fp.Option`, `fp.Unit` and `@fp.Json` structs.

Property theorems, and the few lemmas only they use (helper lemmas about `mask` are in
`Lemmas/Record.lean`).  Every theorem
quantifies over ALL abstract `encoding/json` codecs `c`, all values, all prior contents of the
target and — for the robustness part — all byte strings.

Hypotheses about the element codec are the `Prop`s `Faithful c zero v` (decoding `enc v` into a
fresh zero value gives `v`) and `NotNull c v` (the decoder's guard `len(b) > 0 && b[0] != 'n'` holds
on `enc v`).  `NotNull` is deliberately the *guard itself*, i.e. "non-empty and first byte ≠ 'n'"
(`notNull_iff`): with only `head? ≠ some 'n'` an (un-JSON-like) codec with an empty encoding would
falsify the round trip, because `UnmarshalJSON` maps empty input to `None`.

Section 7 discharges the whole-struct `Faithful` hypothesis of `struct_roundtrip` from FIELD-level
hypotheses (`mutable_faithful_of_fields`, `struct_roundtrip_of_fields`,
`struct_roundtrip_of_faithful_notNull`; the struct codec built from field codecs is
`mutableCodec` of `Lemmas/JsonStruct.lean`); section 8 states what `mutableTag` (json key, omitempty)
is for every field.

Where the property does NOT hold this file says so with a theorem (`option_null_collapses`,
`option_some_none_collapses`, `option_unit_collapses`, `struct_roundtrip_nonapplicable_zeroed`,
`omitempty_dirty_target_not_faithful`).
-/
namespace FpVerif.Spec.C15
open FpVerif FpVerif.Json FpVerif.Rec

variable {E T : Type}

theorem notNull_iff (c : Codec E T) (v : T) :
    NotNull c v ↔ c.enc v ≠ [] ∧ (c.enc v).head? ≠ some 110 :=
  firstNotN_iff _

/-! ## 1. `fp.Option[T]` round trip -/

/-- `None` ↦ `null` ↦ `None`, whatever the target held before, for every codec. -/
theorem option_roundtrip_none (c : Codec E T) (zero : T) (t : Option T) :
    Opt.unmarshalJSON c zero (Opt.marshalJSON c none) (some t) = ⟨some none, none⟩ := by
  simp [Opt.unmarshalJSON, Opt.marshalJSON]

/-- `Some(v)` ↦ encoding of `v` ↦ `Some(v)`, whatever the target held before. -/
theorem option_roundtrip_some (c : Codec E T) (zero v : T) (t : Option T)
    (hf : Faithful c zero v) (hn : NotNull c v) :
    Opt.unmarshalJSON c zero (Opt.marshalJSON c (some v)) (some t) = ⟨some (some v), none⟩ := by
  simp only [NotNull] at hn
  simp only [Faithful] at hf
  simp [Opt.unmarshalJSON, Opt.marshalJSON, hn, hf]

/-- Both cases at once: `json.Unmarshal(json.Marshal(x))` yields `x`, nil error. -/
theorem option_roundtrip (c : Codec E T) (zero : T) (x t : Option T)
    (h : ∀ v, x = some v → Faithful c zero v ∧ NotNull c v) :
    Opt.unmarshalJSON c zero (Opt.marshalJSON c x) (some t) = ⟨some x, none⟩ := by
  cases x with
  | none => exact option_roundtrip_none c zero t
  | some v => exact option_roundtrip_some c zero v t (h v rfl).1 (h v rfl).2

/-- The emitted bytes: `null` for `None`, the element's own encoding for `Some`. -/
theorem option_marshal_bytes (c : Codec E T) (v : T) :
    Opt.marshalJSON c none = nullLit ∧ Opt.marshalJSON c (some v) = c.enc v := ⟨rfl, rfl⟩

/-! ## 2. … and where it does NOT hold: an element whose encoding starts with `n` -/

/-- If `NotNull` fails for `v` (e.g. `v` encodes as `null`), `Some(v)` comes back as `None` — for
    every codec, even a faithful one. -/
theorem option_null_collapses (c : Codec E T) (zero v : T) (t : Option T) (hn : ¬ NotNull c v) :
    Opt.unmarshalJSON c zero (Opt.marshalJSON c (some v)) (some t) = ⟨some none, none⟩ := by
  have : firstNotN (c.enc v) = false := by simpa [NotNull] using hn
  simp [Opt.unmarshalJSON, Opt.marshalJSON, this]

/-- … so the round trip is definitely broken there. -/
theorem option_null_roundtrip_fails (c : Codec E T) (zero v : T) (t : Option T) (hn : ¬ NotNull c v) :
    Opt.unmarshalJSON c zero (Opt.marshalJSON c (some v)) (some t) ≠ ⟨some (some v), none⟩ := by
  rw [option_null_collapses c zero v t hn]
  intro h
  cases h

/-- `None` of the derived codec is never `NotNull` (it is the literal `null`). -/
theorem optionCodec_none_is_null (c : Codec E T) (zero : T) : ¬ NotNull (optionCodec c zero) none := by
  simp [NotNull, optionCodec, Opt.marshalJSON]

/-- Concrete instance, `Option[Option[U]]`: `Some(None)` ↦ `null` ↦ `None ≠ Some(None)`,
    for every element codec. -/
theorem option_some_none_collapses (c : Codec E T) (zero : T) (t : Option (Option T)) :
    Opt.unmarshalJSON (optionCodec c zero) none
        (Opt.marshalJSON (optionCodec c zero) (some none)) (some t) = ⟨some none, none⟩
    ∧ (none : Option (Option T)) ≠ some none :=
  ⟨option_null_collapses _ _ _ _ (optionCodec_none_is_null c zero), by simp⟩

/-! ## 3. Robustness of `(*Option[T]).UnmarshalJSON`: arbitrary bytes -/

/-- For ALL byte strings and all receivers the call returns normally (the model is total; the only
    index expression `b[0]` carries its bounds proof) and either succeeds having written a value
    through a non-nil receiver, or fails and leaves the memory behind the receiver exactly as it was. -/
theorem option_unmarshal_total (c : Codec E T) (zero : T) (b : Bytes) (r : Option (Option T)) :
    let res := Opt.unmarshalJSON c zero b r
    (res.err = none ∧ ∃ v, res.mem = some v ∧ r ≠ none) ∨ (res.err ≠ none ∧ res.mem = r) := by
  cases r with
  | none => simp [Opt.unmarshalJSON]
  | some cur =>
    simp only [Opt.unmarshalJSON]
    cases firstNotN b
    · simp
    · cases c.dec b zero <;> simp

/-- nil receiver: an error, nothing written, the input is not even looked at. -/
theorem option_unmarshal_nil_receiver (c : Codec E T) (zero : T) (b : Bytes) :
    Opt.unmarshalJSON c zero b none = ⟨none, some .nilTarget⟩ := rfl

/-- empty input ↦ `None`, nil error. -/
theorem option_unmarshal_empty (c : Codec E T) (zero : T) (t : Option T) :
    Opt.unmarshalJSON c zero [] (some t) = ⟨some none, none⟩ := by
  simp [Opt.unmarshalJSON]

/-- ANY input starting with `n` (`null`, but also `nope`, `n`) ↦ `None`, nil error; the element
    decoder is not consulted. -/
theorem option_unmarshal_n_prefix (c : Codec E T) (zero : T) (rest : Bytes) (t : Option T) :
    Opt.unmarshalJSON c zero (110 :: rest) (some t) = ⟨some none, none⟩ := by
  simp [Opt.unmarshalJSON]

/-- otherwise the element decoder decides; on its error the target is unchanged and that very error
    is returned … -/
theorem option_unmarshal_error_unchanged (c : Codec E T) (zero : T) (b : Bytes) (t : Option T) (e : E)
    (hb : firstNotN b = true) (he : c.dec b zero = .error e) :
    Opt.unmarshalJSON c zero b (some t) = ⟨some t, some (.inner e)⟩ := by
  simp [Opt.unmarshalJSON, hb, he]

/-- … and on success the target is `Some` of what was decoded into a FRESH zero value (the old
    content of the target does not leak into the result). -/
theorem option_unmarshal_ok (c : Codec E T) (zero : T) (b : Bytes) (t : Option T) (v : T)
    (hb : firstNotN b = true) (hv : c.dec b zero = .ok v) :
    Opt.unmarshalJSON c zero b (some t) = ⟨some (some v), none⟩ := by
  simp [Opt.unmarshalJSON, hb, hv]

/-- any returned error leaves the target unchanged (∀ bytes) -/
theorem option_unmarshal_unchanged_on_error (c : Codec E T) (zero : T) (b : Bytes) (r : Option (Option T))
    (h : (Opt.unmarshalJSON c zero b r).err ≠ none) : (Opt.unmarshalJSON c zero b r).mem = r := by
  rcases option_unmarshal_total c zero b r with h' | h'
  · exact absurd h'.1 h
  · exact h'.2

/-! ## 4. `fp.Unit` -/

/-- `Unit` ↦ `null` ↦ the same `Unit`, nil error. -/
theorem unit_roundtrip (u t : Unit) :
    (GoUnit.unmarshalJSON (GoUnit.marshalJSON u) (some t) : Res E Unit) = ⟨some u, none⟩ := rfl

theorem unit_marshal_bytes (u : Unit) : GoUnit.marshalJSON u = nullLit := rfl

/-- for ALL bytes and all receivers (nil included): never an error, never a write. -/
theorem unit_unmarshal_never_fails (b : Bytes) (r : Option Unit) :
    (GoUnit.unmarshalJSON b r : Res E Unit).err = none ∧ (GoUnit.unmarshalJSON b r : Res E Unit).mem = r :=
  ⟨rfl, rfl⟩

/-- as a codec `Unit` is faithful from every start value … -/
theorem unitCodec_faithful (start u : Unit) : Faithful (unitCodec (E := E)) start u := rfl

/-- … but it is `null`, so `Option[fp.Unit]` cannot tell `Some(Unit)` from `None`. -/
theorem option_unit_collapses (t : Option Unit) :
    Opt.unmarshalJSON (unitCodec (E := E)) () (Opt.marshalJSON (unitCodec (E := E)) (some ())) (some t)
      = ⟨some none, none⟩ :=
  option_null_collapses _ _ _ _ (by simp [NotNull, unitCodec, GoUnit.marshalJSON])

/-! ## 5. `@fp.Json` structs -/

/-- The JSON of an `@fp.Json` struct is exactly what `encoding/json` emits for its Mutable twin. -/
theorem struct_marshal_is_mutable_codec (s : StructSpec) (mc : Codec E Rec) (x : Rec) :
    structMarshal s mc x = mc.enc (asMutable s x) := rfl

/-- nil receiver: an error, nothing written. -/
theorem struct_unmarshal_nil_receiver (s : StructSpec) (mc : Codec E Rec) (b : Bytes) :
    structUnmarshal s mc b none = ⟨none, some .nilTarget⟩ := rfl

/-- For ALL byte strings: normal return; success through a non-nil receiver, or an error with the
    target untouched. -/
theorem struct_unmarshal_total (s : StructSpec) (mc : Codec E Rec) (b : Bytes) (r : Option Rec) :
    let res := structUnmarshal s mc b r
    (res.err = none ∧ ∃ v, res.mem = some v ∧ r ≠ none) ∨ (res.err ≠ none ∧ res.mem = r) := by
  cases r with
  | none => simp [structUnmarshal]
  | some cur =>
    simp only [structUnmarshal]
    cases mc.dec b (asMutable s cur) <;> simp

theorem struct_unmarshal_unchanged_on_error (s : StructSpec) (mc : Codec E Rec) (b : Bytes) (r : Option Rec)
    (h : (structUnmarshal s mc b r).err ≠ none) : (structUnmarshal s mc b r).mem = r := by
  rcases struct_unmarshal_total s mc b r with h' | h'
  · exact absurd h'.1 h
  · exact h'.2

/-- the error is exactly `json.Unmarshal`'s on the Mutable twin of the current target -/
theorem struct_unmarshal_error (s : StructSpec) (mc : Codec E Rec) (b : Bytes) (t : Rec) (e : E)
    (he : mc.dec b (asMutable s t) = .error e) :
    structUnmarshal s mc b (some t) = ⟨some t, some (.inner e)⟩ := by
  simp [structUnmarshal, he]

/-- what is decoded is what `encoding/json` decodes into the Mutable twin of the CURRENT target -/
theorem struct_unmarshal_ok (s : StructSpec) (mc : Codec E Rec) (b : Bytes) (t m' : Rec)
    (hm : mc.dec b (asMutable s t) = .ok m') :
    structUnmarshal s mc b (some t) = ⟨some (asImmutable s m'), none⟩ := by
  simp [structUnmarshal, hm]

/-- Round trip, general form: if `encoding/json` is faithful on the Mutable twin of `x` when decoding
    into the Mutable twin of the target `t`, the target ends up as `mask s.fields x`: `x` with every
    non-applicable (`_`-prefixed / embedded empty struct) field zeroed. -/
theorem struct_roundtrip_mask (s : StructSpec) (mc : Codec E Rec) (x t : Rec)
    (hf : Faithful mc (asMutable s t) (asMutable s x)) :
    structUnmarshal s mc (structMarshal s mc x) (some t) = ⟨some (mask s.fields x), none⟩ := by
  simp only [Faithful, asMutable] at hf
  simp [structUnmarshal, structMarshal, hf, asImmutable, asMutable, mask_idem]

/-- … which has the shape of the struct and agrees with `x` on every applicable field. -/
theorem struct_roundtrip_fields (s : StructSpec) (mc : Codec E Rec) (x t : Rec) (hx : Rec.WF s x)
    (hf : Faithful mc (asMutable s t) (asMutable s x)) :
    ∃ y, structUnmarshal s mc (structMarshal s mc x) (some t) = ⟨some y, none⟩ ∧ Rec.WF s y ∧
      ∀ i f, s.fields[i]? = some f → f.applicable = true → getF i y = getF i x :=
  ⟨mask s.fields x, struct_roundtrip_mask s mc x t hf, mask_length _ _ hx,
    fun i f hi ha => getF_mask_applicable _ _ i f hi ha⟩

/-- Round trip proper: every field applicable ⇒ `Unmarshal(Marshal(x))` into any target is `x`. -/
theorem struct_roundtrip (s : StructSpec) (mc : Codec E Rec) (x t : Rec) (hx : Rec.WF s x)
    (happ : ∀ f ∈ s.fields, f.applicable = true)
    (hf : Faithful mc (asMutable s t) (asMutable s x)) :
    structUnmarshal s mc (structMarshal s mc x) (some t) = ⟨some x, none⟩ := by
  rw [struct_roundtrip_mask s mc x t hf, mask_eq_self _ _ hx happ]

/-- in that case the Mutable twin IS the struct, so the hypothesis reads "encoding/json is faithful on `x`" -/
theorem struct_roundtrip_wf (s : StructSpec) (mc : Codec E Rec) (x t : Rec) (hx : Rec.WF s x) (ht : Rec.WF s t)
    (happ : ∀ f ∈ s.fields, f.applicable = true) (hf : Faithful mc t x) :
    structUnmarshal s mc (structMarshal s mc x) (some t) = ⟨some x, none⟩ := by
  apply struct_roundtrip s mc x t hx happ
  simpa [asMutable, mask_eq_self _ _ hx happ, mask_eq_self _ _ ht happ] using hf

/-- The excluded fields really are lost: a non-applicable field comes back as its zero value. -/
theorem struct_roundtrip_nonapplicable_zeroed (s : StructSpec) (mc : Codec E Rec) (x t : Rec) (hx : Rec.WF s x)
    (hf : Faithful mc (asMutable s t) (asMutable s x)) (i : Nat) (f : Field)
    (hi : s.fields[i]? = some f) (ha : f.applicable = false) :
    ∃ y, structUnmarshal s mc (structMarshal s mc x) (some t) = ⟨some y, none⟩ ∧ getF i y = f.zero :=
  ⟨mask s.fields x, struct_roundtrip_mask s mc x t hf,
    getF_mask_not_applicable _ _ i f hi ha
      (Nat.lt_of_lt_of_eq (List.getElem?_eq_some_iff.1 hi).1 (Eq.symm hx))⟩

/-- the struct seen through its generated methods is a faithful codec exactly as far as above -/
theorem structCodec_faithful (s : StructSpec) (mc : Codec E Rec) (x t : Rec) (hx : Rec.WF s x)
    (happ : ∀ f ∈ s.fields, f.applicable = true)
    (hf : Faithful mc (asMutable s t) (asMutable s x)) : Faithful (structCodec s mc) t x := by
  simp [Faithful, structCodec, struct_roundtrip s mc x t hx happ hf, Res.asDec]

/-! ## 6. The derived `Option` codec and nesting -/

/-- `Option[T]` is a faithful codec on `None`, from every start value, for every element codec -/
theorem optionCodec_faithful_none (c : Codec E T) (zero : T) (start : Option T) :
    Faithful (optionCodec c zero) start none := by
  simp [Faithful, optionCodec, option_roundtrip_none, Res.asDec]

/-- … and on `Some v` when the element codec is faithful and not null on `v` -/
theorem optionCodec_faithful_some (c : Codec E T) (zero v : T) (start : Option T)
    (hf : Faithful c zero v) (hn : NotNull c v) :
    Faithful (optionCodec c zero) start (some v) := by
  simp [Faithful, optionCodec, option_roundtrip_some c zero v start hf hn, Res.asDec]

/-- `Some v` is not null when `v` is not (the bytes are the same) -/
theorem optionCodec_notNull_some (c : Codec E T) (zero v : T) (hn : NotNull c v) :
    NotNull (optionCodec c zero) (some v) := hn

/-- decoding errors of the derived codec leave the caller's variable alone (∀ bytes): it is an error,
    or the new value -/
theorem optionCodec_dec_cases (c : Codec E T) (zero : T) (b : Bytes) (cur : Option T) :
    (optionCodec c zero).dec b cur = .ok none ∨ (∃ v, (optionCodec c zero).dec b cur = .ok (some v) ∧ c.dec b zero = .ok v)
    ∨ (∃ e, (optionCodec c zero).dec b cur = .error (.inner e) ∧ c.dec b zero = .error e) := by
  simp only [optionCodec, Opt.unmarshalJSON, Res.asDec]
  cases firstNotN b
  · simp
  · cases c.dec b zero <;> simp

/-- the syntax pre-check of `json.Unmarshal` does not disturb faithfulness on accepted encodings -/
theorem checked_faithful (chk : Bytes → Option E) (c : Codec E T) (start v : T)
    (hc : chk (c.enc v) = none) (hf : Faithful c start v) : Faithful (c.checked chk) start v := by
  simp only [Faithful] at hf
  simp [Faithful, Codec.checked, hc, hf]

/-- `Option[Option[T]]`: `Some(Some(v))` round-trips (into any prior target) -/
theorem nested_roundtrip_some_some (c : Codec E T) (zero v : T) (t : Option (Option T))
    (hf : Faithful c zero v) (hn : NotNull c v) :
    Opt.unmarshalJSON (optionCodec c zero) none
      (Opt.marshalJSON (optionCodec c zero) (some (some v))) (some t) = ⟨some (some (some v)), none⟩ :=
  option_roundtrip_some _ _ _ _ (optionCodec_faithful_some c zero v none hf hn)
    (optionCodec_notNull_some c zero v hn)

/-- `Option[Option[T]]`: `None` round-trips (and `Some(None)` does not: `option_some_none_collapses`) -/
theorem nested_roundtrip_none (c : Codec E T) (zero : T) (t : Option (Option T)) :
    Opt.unmarshalJSON (optionCodec c zero) none
      (Opt.marshalJSON (optionCodec c zero) none) (some t) = ⟨some none, none⟩ :=
  option_roundtrip_none _ _ _

/-- the complete picture for `Option[Option[T]]` under the element hypotheses: the round trip is the
    identity except that `Some(None)` is sent to `None` -/
theorem nested_roundtrip_all (c : Codec E T) (zero : T) (x t : Option (Option T))
    (h : ∀ v, x = some (some v) → Faithful c zero v ∧ NotNull c v) :
    Opt.unmarshalJSON (optionCodec c zero) none (Opt.marshalJSON (optionCodec c zero) x) (some t)
      = ⟨some (match x with | some none => none | y => y), none⟩ := by
  match x with
  | none => simpa using nested_roundtrip_none c zero t
  | some none => simpa using (option_some_none_collapses c zero t).1
  | some (some v) => simpa using nested_roundtrip_some_some c zero v t (h v rfl).1 (h v rfl).2

/-- an `Option[T]` field nested three deep still works on the fully defined value -/
theorem nested3_roundtrip (c : Codec E T) (zero v : T) (t : Option (Option (Option T)))
    (hf : Faithful c zero v) (hn : NotNull c v) :
    Opt.unmarshalJSON (optionCodec (optionCodec c zero) none) none
      (Opt.marshalJSON (optionCodec (optionCodec c zero) none) (some (some (some v)))) (some t)
      = ⟨some (some (some (some v))), none⟩ :=
  option_roundtrip_some _ _ _ _
    (optionCodec_faithful_some _ _ _ none (optionCodec_faithful_some c zero v none hf hn)
      (optionCodec_notNull_some c zero v hn))
    (optionCodec_notNull_some _ _ _ (optionCodec_notNull_some c zero v hn))

/-! ## Non-vacuity: the hypotheses are satisfiable (and can genuinely fail) -/

/-- toy codec for `Nat`: `0` followed by `n` times `1`; decoding ignores the target -/
def natCodec : Codec Unit Nat where
  enc n := 48 :: List.replicate n 49
  dec b _ :=
    match b with
    | 48 :: rest => if rest.all (· == 49) then .ok rest.length else .error ()
    | _ => .error ()

/-- toy codec for `Bool`: `true` / `false` -/
def boolCodec : Codec Unit Bool where
  enc v := if v then [116, 114, 117, 101] else [102, 97, 108, 115, 101]
  dec b _ :=
    if b = [116, 114, 117, 101] then .ok true
    else if b = [102, 97, 108, 115, 101] then .ok false
    else .error ()

/-- `Faithful ∧ NotNull` holds for every value of an infinite type … -/
example : ∀ n start, Faithful natCodec start n ∧ NotNull natCodec n := by
  intro n start
  simp [Faithful, NotNull, natCodec]

example : ∀ v start, Faithful boolCodec start v ∧ NotNull boolCodec v := by
  intro v start
  cases v <;> exact ⟨rfl, rfl⟩

/-- … so e.g. `Option[Option[uint]]` round-trips `Some(Some(7))` into a dirty target -/
example : Opt.unmarshalJSON (optionCodec natCodec 0) none
    (Opt.marshalJSON (optionCodec natCodec 0) (some (some 7))) (some (some (some 3)))
    = ⟨some (some (some 7)), none⟩ :=
  nested_roundtrip_some_some natCodec 0 7 _ rfl rfl

/-- the error branch is reachable: target unchanged, error returned -/
example : Opt.unmarshalJSON natCodec 0 [49] (some (some 3)) = ⟨some (some 3), some (.inner ())⟩ := by
  decide +kernel

/-- `nope` ↦ `None` without error -/
example : Opt.unmarshalJSON natCodec 0 [110, 111, 112, 101] (some (some 3)) = ⟨some none, none⟩ :=
  option_unmarshal_n_prefix _ _ _ _

/-- `¬ NotNull` is satisfiable by a FAITHFUL codec (so `option_null_collapses` is not vacuous) -/
example : Faithful (optionCodec natCodec 0) (some 5) none ∧ ¬ NotNull (optionCodec natCodec 0) none :=
  ⟨optionCodec_faithful_none _ _ _, optionCodec_none_is_null _ _⟩

/-- a one-field `@fp.Json` struct `{ a fp.Option[int] }` -/
def toySpec : StructSpec :=
  { name := "T", fields := [{ name := "a", ty := .opt (.conc "int"), zero := .none }],
    ann := { value := true, json := true } }

/-- toy `encoding/json` for its Mutable twin `{ A fp.Option[int] `json:"a,omitempty"` }`, values
    restricted to `None` / `Some(1)`: `{}` when the field is empty (omitempty) and then decoding
    KEEPS what the target had -/
def toyMutCodec : Codec Unit Rec where
  enc m :=
    match m with
    | [.some _] => [123, 49, 125]
    | _ => [123, 125]
  dec b m :=
    if b = [123, 49, 125] then .ok [.some (.atom "1")]
    else if b = [123, 125] then .ok m
    else .error ()

theorem toySpec_all_applicable : ∀ f ∈ toySpec.fields, f.applicable = true := by
  simp [toySpec, Field.applicable]

theorem toy_asMutable (v : RV) : asMutable toySpec [v] = [v] :=
  mask_eq_self _ _ rfl toySpec_all_applicable

/-- hypotheses of `struct_roundtrip` hold: `Some(1)` into ANY one-field target, `None` into a clean one -/
example (t : RV) : structUnmarshal toySpec toyMutCodec
    (structMarshal toySpec toyMutCodec [.some (.atom "1")]) (some [t]) = ⟨some [.some (.atom "1")], none⟩ :=
  struct_roundtrip _ _ _ _ rfl toySpec_all_applicable (by simp [toy_asMutable, Faithful, toyMutCodec])

example : structUnmarshal toySpec toyMutCodec
    (structMarshal toySpec toyMutCodec [.none]) (some [.none]) = ⟨some [.none], none⟩ :=
  struct_roundtrip _ _ _ _ rfl toySpec_all_applicable (by simp [toy_asMutable, Faithful, toyMutCodec])

/-- Why `dec` takes the current target and why the faithfulness hypothesis of `struct_roundtrip`
    mentions it: with `omitempty`, `None` decoded into a target that holds `Some(1)` stays `Some(1)`. -/
theorem omitempty_dirty_target_not_faithful :
    ¬ Faithful toyMutCodec (asMutable toySpec [.some (.atom "1")]) (asMutable toySpec [.none])
    ∧ structUnmarshal toySpec toyMutCodec (structMarshal toySpec toyMutCodec [.none])
        (some [.some (.atom "1")]) = ⟨some [.some (.atom "1")], none⟩ := by
  constructor
  · simp [toy_asMutable, Faithful, toyMutCodec]
  · simp [structUnmarshal, structMarshal, toy_asMutable, asImmutable, toyMutCodec]
    exact toy_asMutable _

/-- a struct with a non-applicable field: that hypothesis of `struct_roundtrip` can fail too -/
example : ¬ (∀ f ∈ [({ name := "_x", ty := .conc "int" } : Field)], f.applicable = true) := by
  simp [Field.applicable]

/-! ## 7. Whole-struct `Faithful` from FIELD-level hypotheses (audit finding 22)

`struct_roundtrip` assumes `Faithful mc (asMutable s t) (asMutable s x)` for an opaque whole-struct
codec `mc`.  Here `mc` is `mutableCodec syn s js tc` (`Lemmas/JsonStruct.lean`): `encoding/json` on
the Mutable twin BUILT from one codec per field (`tc`), the key / `omitempty` of every field (`js`)
and the object syntax (`syn`).  Its `Faithful` follows from hypotheses about the single fields. -/

/-- **Composition.**  If, for every applicable field, the field's own codec is `Faithful` from what
    the target holds in that field (whenever the field is written), and the target already agrees
    with `x` on every field `omitempty` leaves out, then `encoding/json` on the Mutable twin is
    `Faithful` — the hypothesis of `struct_roundtrip`.  (Shape-level side conditions: distinct json
    keys; the object syntax splits the object it rendered.) -/
theorem mutable_faithful_of_fields (syn : ObjSyntax E) (s : StructSpec) (js : Field → JsonOpts)
    (tc : TypeCodecs E) (x t : Rec) (hx : Rec.WF s x) (ht : Rec.WF s t)
    (hsyn : syn.Splits (encPairs (mutableFieldCodecs s js tc) (asMutable s x)))
    (hd : DistinctJsonKeys s js)
    (h : ∀ i f, s.fields[i]? = some f → f.applicable = true →
      (fieldEmitted js tc f (getF i x) = true → Faithful (tc.codec f) (getF i t) (getF i x)) ∧
      (fieldEmitted js tc f (getF i x) = false → getF i t = getF i x)) :
    Faithful (mutableCodec syn s js tc) (asMutable s t) (asMutable s x) :=
  objCodec_faithful syn _ _ _ hsyn (distinctKeys_mutable s js tc hd)
    (fieldsOK_mask s js tc t x ht hx h)

/-- the JSON emitted for the struct is the object with one pair per applicable field that is not
    omitted, in declaration order, key and value as `encoding/json` produces them for that field -/
theorem struct_marshal_pairs (syn : ObjSyntax E) (s : StructSpec) (js : Field → JsonOpts)
    (tc : TypeCodecs E) (x : Rec) :
    structMarshal s (mutableCodec syn s js tc) x
      = syn.render (encPairs (mutableFieldCodecs s js tc) (asMutable s x)) := rfl

/-- round trip from field-level hypotheses, general form (non-applicable fields come back zeroed) -/
theorem struct_roundtrip_mask_of_fields (syn : ObjSyntax E) (s : StructSpec) (js : Field → JsonOpts)
    (tc : TypeCodecs E) (x t : Rec) (hx : Rec.WF s x) (ht : Rec.WF s t)
    (hsyn : syn.Splits (encPairs (mutableFieldCodecs s js tc) (asMutable s x)))
    (hd : DistinctJsonKeys s js)
    (h : ∀ i f, s.fields[i]? = some f → f.applicable = true →
      (fieldEmitted js tc f (getF i x) = true → Faithful (tc.codec f) (getF i t) (getF i x)) ∧
      (fieldEmitted js tc f (getF i x) = false → getF i t = getF i x)) :
    structUnmarshal s (mutableCodec syn s js tc) (structMarshal s (mutableCodec syn s js tc) x) (some t)
      = ⟨some (mask s.fields x), none⟩ :=
  struct_roundtrip_mask s _ x t (mutable_faithful_of_fields syn s js tc x t hx ht hsyn hd h)

/-- **Round trip proper from field-level hypotheses**: `struct_roundtrip` with its whole-struct
    `Faithful` hypothesis discharged by `mutable_faithful_of_fields`. -/
theorem struct_roundtrip_of_fields (syn : ObjSyntax E) (s : StructSpec) (js : Field → JsonOpts)
    (tc : TypeCodecs E) (x t : Rec) (hx : Rec.WF s x) (ht : Rec.WF s t)
    (happ : ∀ f ∈ s.fields, f.applicable = true)
    (hsyn : syn.Splits (encPairs (mutableFieldCodecs s js tc) (asMutable s x)))
    (hd : DistinctJsonKeys s js)
    (h : ∀ i f, s.fields[i]? = some f →
      (fieldEmitted js tc f (getF i x) = true → Faithful (tc.codec f) (getF i t) (getF i x)) ∧
      (fieldEmitted js tc f (getF i x) = false → getF i t = getF i x)) :
    structUnmarshal s (mutableCodec syn s js tc) (structMarshal s (mutableCodec syn s js tc) x) (some t)
      = ⟨some x, none⟩ :=
  struct_roundtrip s _ x t hx happ
    (mutable_faithful_of_fields syn s js tc x t hx ht hsyn hd (fun i f hi _ => h i f hi))

/-- **… from `Faithful ∧ NotNull` of the field VALUES** (the property's wording).  The struct's
    `fp.Option[T]` fields go through `Option[T].MarshalJSON / UnmarshalJSON` (`optionTypeCodecs`);
    an Option field needs, when it holds `Some(w)`, the ELEMENT codec `Faithful` (from the fresh zero
    value) and `NotNull` on `w` — and nothing about the target; any other field needs its codec
    `Faithful` from the target's value (or, when `omitempty` drops it, the target to agree). -/
theorem struct_roundtrip_of_faithful_notNull (syn : ObjSyntax (UErr E)) (s : StructSpec)
    (js : Field → JsonOpts) (ec : Field → Codec E RV) (ez : Field → RV)
    (plain : Field → Codec (UErr E) RV) (plainEmpty : Field → RV → Bool) (x t : Rec)
    (hx : Rec.WF s x) (ht : Rec.WF s t)
    (happ : ∀ f ∈ s.fields, f.applicable = true)
    (hsyn : syn.Splits
      (encPairs (mutableFieldCodecs s js (optionTypeCodecs ec ez plain plainEmpty)) (asMutable s x)))
    (hd : DistinctJsonKeys s js)
    (hopt : ∀ i f, s.fields[i]? = some f → f.ty.isOpt = true →
      getF i x = .none ∨ ∃ w, getF i x = .some w ∧ Faithful (ec f) (ez f) w ∧ NotNull (ec f) w)
    (hplain : ∀ i f, s.fields[i]? = some f → f.ty.isOpt = false →
      if (js f).omitempty && plainEmpty f (getF i x) then getF i t = getF i x
      else Faithful (plain f) (getF i t) (getF i x)) :
    structUnmarshal s (mutableCodec syn s js (optionTypeCodecs ec ez plain plainEmpty))
      (structMarshal s (mutableCodec syn s js (optionTypeCodecs ec ez plain plainEmpty)) x) (some t)
      = ⟨some x, none⟩ := by
  apply struct_roundtrip_of_fields syn s js _ x t hx ht happ hsyn hd
  intro i f hi
  cases ho : f.ty.isOpt with
  | true =>
    have hem : fieldEmitted js (optionTypeCodecs ec ez plain plainEmpty) f (getF i x) = true := by
      simp [fieldEmitted, optionTypeCodecs, ho]
    refine ⟨fun _ => ?_, fun h' => by simp [hem] at h'⟩
    simp only [optionTypeCodecs, ho, if_true]
    rcases hopt i f hi ho with h0 | ⟨w, hw, hf, hn⟩
    · rw [h0]; exact optFieldCodec_dec_enc _ _ _ none none (optionCodec_faithful_none _ _ _)
    · rw [hw]
      exact optFieldCodec_dec_enc _ _ _ (some w) (some w) (optionCodec_faithful_some _ _ _ _ hf hn)
  | false =>
    have hp := hplain i f hi ho
    have hem : fieldEmitted js (optionTypeCodecs ec ez plain plainEmpty) f (getF i x)
        = !((js f).omitempty && plainEmpty f (getF i x)) := by
      simp [fieldEmitted, optionTypeCodecs, ho]
    cases hc : ((js f).omitempty && plainEmpty f (getF i x)) with
    | true =>
      simp only [hc, if_true] at hp
      refine ⟨fun h' => by simp [hem, hc] at h', fun _ => hp⟩
    | false =>
      simp only [hc] at hp
      refine ⟨fun _ => by simpa [optionTypeCodecs, ho] using hp, fun h' => by simp [hem, hc] at h'⟩

/-- … and the `NotNull` hypothesis cannot be dropped: an Option FIELD holding `Some(w)` with a null
    element encoding decodes to `None`, for every element codec -/
theorem struct_option_field_null_collapses (c : Codec E RV) (zero start w : RV) (hn : ¬ NotNull c w) :
    (optFieldCodec c zero).dec ((optFieldCodec c zero).enc (.some w)) start = .ok .none :=
  optFieldCodec_dec_enc c zero start (some w) none
    (by simp [optionCodec, option_null_collapses c zero w _ hn, Res.asDec])

/-! ## 8. The json tags of the Mutable twin: `mutableTag` (`genMutable`), audit finding 22

"json tags, omitempty on nilable and Option fields": equations for `mutableTag` over ALL structs and
fields.  `generatesJsonTag s f` is the generator's three-fold test (field not `_`-prefixed, struct
is `@fp.Json`, the user's tag does not contain `json`). -/

theorem generatesJsonTag_iff (s : StructSpec) (f : Field) :
    generatesJsonTag s f = true ↔
      f.name.startsWith "_" = false ∧ s.ann.json = true ∧ (f.tag.splitOn "json").length = 1 := by
  simp [generatesJsonTag, and_assoc]

/-- the tag is generated: the user's tag (if any, then a blank) followed by `json:"<field name>"`
    with `,omitempty` exactly when the field type is nilable or an `fp.Option` -/
theorem mutableTag_generated (s : StructSpec) (f : Field) (h : generatesJsonTag s f = true) :
    mutableTag s f = tagPrefix f ++ jsonTagText (generatedJsonOpts f) := by
  simp only [generatesJsonTag] at h
  cases hb : (f.nilable || f.ty.isOpt) <;>
    simp [mutableTag, h, tagPrefix, jsonTagText, generatedJsonOpts, hb, String.append_assoc]

/-- otherwise (a `_` field, no `@fp.Json`, or a user tag that mentions `json`) the user's tag is
    copied unchanged: the key is then whatever the user's json tag says -/
theorem mutableTag_kept (s : StructSpec) (f : Field) (h : generatesJsonTag s f = false) :
    mutableTag s f = f.tag := by
  simp only [generatesJsonTag] at h
  simp [mutableTag, h]

/-- both cases in one equation -/
theorem mutableTag_eq (s : StructSpec) (f : Field) :
    mutableTag s f =
      if generatesJsonTag s f then tagPrefix f ++ jsonTagText (generatedJsonOpts f) else f.tag := by
  cases h : generatesJsonTag s f
  · simpa using mutableTag_kept s f h
  · simpa using mutableTag_generated s f h

/-- the two texts of a generated tag, spelled out -/
theorem jsonTagText_omitempty (k : String) :
    jsonTagText ⟨k, true⟩ = "json:\"" ++ k ++ ",omitempty\"" := by
  simp [jsonTagText, String.append_assoc]

theorem jsonTagText_plain (k : String) : jsonTagText ⟨k, false⟩ = "json:\"" ++ k ++ "\"" := by
  simp [jsonTagText]

/-- the generated key is the field's own (original, unexported) name -/
theorem generated_key (f : Field) : (generatedJsonOpts f).key = f.name := rfl

/-- `omitempty` EXACTLY on nilable and `fp.Option` fields -/
theorem generated_omitempty_iff (f : Field) :
    (generatedJsonOpts f).omitempty = true ↔ (f.nilable = true ∨ ∃ e, f.ty = .opt e) := by
  rw [← Ty.isOpt_iff, ← Bool.or_eq_true]
  rfl

/-- which of the two generated texts a field gets: the text determines the flag (`jsonTagText_inj`) -/
theorem mutableTag_eq_iff (s : StructSpec) (f : Field) (h : generatesJsonTag s f = true) (b : Bool) :
    mutableTag s f = tagPrefix f ++ jsonTagText ⟨f.name, b⟩ ↔ (f.nilable || f.ty.isOpt) = b := by
  rw [mutableTag_generated s f h]
  exact jsonTagText_inj _ _ _ _

/-- … read off the generated STRING: it is the `,omitempty` text iff the field is nilable or an Option -/
theorem mutableTag_omitempty_iff (s : StructSpec) (f : Field) (h : generatesJsonTag s f = true) :
    mutableTag s f = tagPrefix f ++ jsonTagText ⟨f.name, true⟩ ↔ (f.nilable = true ∨ ∃ e, f.ty = .opt e) := by
  rw [mutableTag_eq_iff s f h, Bool.or_eq_true, Ty.isOpt_iff]

/-- … and the plain `json:"name"` text iff it is neither -/
theorem mutableTag_plain_iff (s : StructSpec) (f : Field) (h : generatesJsonTag s f = true) :
    mutableTag s f = tagPrefix f ++ jsonTagText ⟨f.name, false⟩ ↔ (f.nilable = false ∧ ∀ e, f.ty ≠ .opt e) := by
  rw [mutableTag_eq_iff s f h, Bool.or_eq_false_iff, ← Bool.not_eq_true f.ty.isOpt, Ty.isOpt_iff,
    not_exists]

/-- a field WITHOUT a user tag in an `@fp.Json` struct always gets the generated tag -/
theorem generatesJsonTag_of_no_tag (s : StructSpec) (f : Field) (hj : s.ann.json = true)
    (hn : f.name.startsWith "_" = false) (ht : f.tag = "") : generatesJsonTag s f = true := by
  simp [generatesJsonTag, hj, hn, ht, splitOn_empty_json]

/-- so there the whole tag is `json:"<name>"` or `json:"<name>,omitempty"` -/
theorem mutableTag_of_no_tag (s : StructSpec) (f : Field) (hj : s.ann.json = true)
    (hn : f.name.startsWith "_" = false) (ht : f.tag = "") :
    mutableTag s f = jsonTagText ⟨f.name, f.nilable || f.ty.isOpt⟩ := by
  rw [mutableTag_generated s f (generatesJsonTag_of_no_tag s f hj hn ht)]
  simp [tagPrefix, ht, generatedJsonOpts]

/-- not `@fp.Json`, or a `_` field: nothing is added -/
theorem mutableTag_no_json (s : StructSpec) (f : Field) (h : s.ann.json = false ∨ f.name.startsWith "_" = true) :
    mutableTag s f = f.tag := by
  apply mutableTag_kept
  rcases h with h | h <;> simp [generatesJsonTag, h]

/-- examples: an Option field, a nilable field, a plain field, a `_` field -/
example : mutableTag toySpec { name := "a", ty := .opt (.conc "int"), zero := .none } = "json:\"a,omitempty\"" := by
  rw [mutableTag_of_no_tag _ _ rfl (by simp) rfl]; rfl

example : mutableTag toySpec { name := "p", ty := .conc "*int", nilable := true } = "json:\"p,omitempty\"" := by
  rw [mutableTag_of_no_tag _ _ rfl (by simp) rfl]; rfl

example : mutableTag toySpec { name := "n", ty := .conc "int" } = "json:\"n\"" := by
  rw [mutableTag_of_no_tag _ _ rfl (by simp) rfl]; rfl

example : mutableTag toySpec { name := "_x", ty := .conc "int", tag := "k:\"v\"" } = "k:\"v\"" :=
  mutableTag_no_json _ _ (Or.inr (by simp))

/-! ### Non-vacuity of section 7: concrete field codecs, a concrete object syntax -/

/-- toy `encoding/json` for `uint` restricted to `0` / `1` (bytes `0`, `1`), target ignored -/
def bitCodec : Codec Unit RV where
  enc v := if v = .atom "1" then [49] else [48]
  dec b _ := if b = [49] then .ok (.atom "1") else if b = [48] then .ok (.atom "0") else .error ()

/-- the same as the codec of a plain struct field (errors of `json.Unmarshal` wrapped) -/
def bitFieldCodec : Codec (UErr Unit) RV where
  enc := bitCodec.enc
  dec b cur := match bitCodec.dec b cur with | .ok v => .ok v | .error e => .error (.inner e)

/-- toy object syntax: per pair the first byte of the key, the length of the value, the value -/
def toyParse : Nat → Bytes → Except (UErr Unit) (List (String × Bytes))
  | _, [] => .ok []
  | 0, _ => .error (.inner ())
  | fuel + 1, kb :: bl :: rest =>
    if rest.length < bl.toNat then .error (.inner ()) else
      match toyParse fuel (rest.drop bl.toNat) with
      | .ok kvs => .ok ((String.singleton (Char.ofNat kb.toNat), rest.take bl.toNat) :: kvs)
      | .error e => .error e
  | _, _ => .error (.inner ())

def toySyn : ObjSyntax (UErr Unit) where
  render kvs := kvs.flatMap fun kv =>
    [UInt8.ofNat (kv.1.toList.headD 'x').toNat, UInt8.ofNat kv.2.length] ++ kv.2
  parse b := toyParse b.length b

/-- `type P struct { a fp.Option[uint]; n uint }`, `@fp.Value @fp.Json` -/
def pairSpec : StructSpec :=
  { name := "P",
    fields := [{ name := "a", ty := .opt (.conc "uint"), zero := .none }, { name := "n", ty := .conc "uint" }],
    ann := { value := true, json := true } }

def pairCodecs : TypeCodecs (UErr Unit) :=
  optionTypeCodecs (fun _ => bitCodec) (fun _ => .atom "0") (fun _ => bitFieldCodec) (fun _ v => v == .atom "0")

theorem bitCodec_ok (v start : RV) (hv : v = .atom "0" ∨ v = .atom "1") :
    Faithful bitCodec start v ∧ NotNull bitCodec v := by
  rcases hv with rfl | rfl <;> simp [Faithful, NotNull, bitCodec]

/-- every hypothesis of `struct_roundtrip_of_faithful_notNull` holds for `P{a: Some(1), n: 1}` decoded
    into ANY two-field target: the whole-struct round trip follows from the field codecs alone, with
    the keys / omitempty gombok generates (`generatedJsonOpts`) -/
example (t0 t1 : RV) :
    structUnmarshal pairSpec (mutableCodec toySyn pairSpec generatedJsonOpts pairCodecs)
      (structMarshal pairSpec (mutableCodec toySyn pairSpec generatedJsonOpts pairCodecs)
        [.some (.atom "1"), .atom "1"]) (some [t0, t1])
      = ⟨some [.some (.atom "1"), .atom "1"], none⟩ := by
  have happ : ∀ f ∈ pairSpec.fields, f.applicable = true := by simp [pairSpec, Field.applicable]
  apply struct_roundtrip_of_faithful_notNull toySyn pairSpec generatedJsonOpts _ _ _ _
    [RV.some (.atom "1"), .atom "1"] [t0, t1] rfl rfl happ
  · -- the object syntax splits the two pairs it rendered
    have hm : asMutable pairSpec [RV.some (.atom "1"), .atom "1"] = [RV.some (.atom "1"), .atom "1"] :=
      mask_eq_self _ _ rfl happ
    rw [hm]
    have hp : encPairs (mutableFieldCodecs pairSpec generatedJsonOpts
        (optionTypeCodecs (fun _ => bitCodec) (fun _ => RV.atom "0") (fun _ => bitFieldCodec)
          fun _ v => v == RV.atom "0")) [RV.some (.atom "1"), .atom "1"]
        = [("a", [49]), ("n", [49])] := by
      decide +kernel
    rw [hp]
    rfl
  · -- keys `a`, `n` are distinct
    simp [DistinctJsonKeys, pairSpec, generatedJsonOpts]
  · -- the Option field: element codec Faithful ∧ NotNull on `1`
    intro i f hi ho
    match i, hi with
    | 0, hi =>
      refine Or.inr ⟨.atom "1", by simp [getF], ?_⟩
      exact bitCodec_ok _ _ (Or.inr rfl)
    | 1, hi => cases hi; cases ho
    | n + 2, hi => cases hi
  · -- the plain field: not omitted (`1` is not empty), its codec Faithful from any target value
    intro i f hi ho
    match i, hi with
    | 0, hi => cases hi; cases ho
    | 1, hi =>
      cases hi
      simp [getF, generatedJsonOpts, Ty.isOpt, Faithful, bitFieldCodec, bitCodec]
    | n + 2, hi => cases hi

end FpVerif.Spec.C15
