import FpVerif.Model.TryOptExt
import FpVerif.Model.StateTExt
import FpVerif.Spec.C01TExt
import FpVerif.Spec.C17Ext
/-!
# C02 (extension) — short circuit and pass-through for the transformer functions, `TraverseOption`, `FoldRight`,
`OrZero` / `OrPtr`, `statet.ApTry` / `ApOption`

An equation between `GoM` computations fixes which callbacks ran and in which order; a callback that is absent
from the right-hand side was not invoked.  `e ≠ .nil` excludes the zero-value `Try` (the library panics on it,
see `transformT_zero`).
-/
namespace FpVerif.Spec.C02
open FpVerif MonadFamily TryT FpVerif.Spec.C01

variable {A B R I O S : Type}

-- ------------------------------------------------------------------------------------------ transformers

/-- EVERY transformer function (`transformT` is the body of each `XSeqT` / `XOptionT`): a Failure passes through
    with its own error and the inner function — hence every user callback handed to it — is not run
    (`C01.transformT_failure`); on a Success the inner function runs exactly once -/
theorem transformT_success_once (i : I) (g : I → GoM O) :
    transformT (pure (.success i)) g = (do let o ← g i; pure (.success o)) :=
  transformT_success i g

/-- the zero-value Try is rejected with the library's panic, the inner function is not run -/
theorem transformT_zero (g : I → GoM O) :
    transformT (pure (.failure .nil : Try I)) g = throw "ErrNotInit" := by
  simp [transformT_def, tryMap]

/-- ScanSeqT on a Failure: `f` is never invoked, the error is unchanged -/
theorem scanSeqT_failure (e : Err) (he : e ≠ .nil) (zero : B) (f : B → A → GoM B) :
    scanSeqT (pure (.failure e : Try (List A))) zero f = pure (.failure e) := by
  simp only [scanSeqT, transformT_failure e he]

/-- ScanSeqT stops at a panicking callback: later elements are not visited (`f` panics at the first element here;
    the general statement is `seq_scan_spec`: the callbacks are sequenced left to right in `GoM`) -/
theorem scanSeqT_panic (x : A) (xs : List A) (zero : B) (f : B → A → GoM B) (p : PanicVal)
    (hf : f zero x = throw p) :
    scanSeqT (pure (.success (x :: xs))) zero f = throw p := by
  simp [scanSeqT_law, tryMap, scanTail, hf]

theorem getSeqT_failure (e : Err) (he : e ≠ .nil) (idx : Int) :
    getSeqT (pure (.failure e : Try (List A))) idx = pure (.failure e) := by
  simp only [getSeqT, transformT_failure e he]

/-- OrZeroOptionT / OrPtrOptionT: a Failure is not "recovered" to the zero value / the pointer -/
theorem orZeroOptionT_failure (zero : A) (e : Err) (he : e ≠ .nil) :
    orZeroOptionT zero (pure (.failure e : Try (Option A))) = pure (.failure e) := by
  simp only [orZeroOptionT, transformT_failure e he]

theorem orPtrOptionT_failure (e : Err) (he : e ≠ .nil) (v : Option A) :
    orPtrOptionT (pure (.failure e : Try (Option A))) v = pure (.failure e) := by
  simp only [orPtrOptionT, transformT_failure e he]

/-- successes pass through `Or*` untouched: a defined option ignores the zero value / the pointer -/
theorem orZeroOptionT_some (zero x : A) :
    orZeroOptionT zero (pure (.success (some x))) = pure (.success x) := by
  simp [orZeroOptionT_law, tryMap]

theorem orPtrOptionT_some (x : A) (v : Option A) :
    orPtrOptionT (pure (.success (some x))) v = pure (.success (some x)) := by
  simp only [orPtrOptionT_law, tryMap, pure_bind]

/-- … and on `None` the pointer decides: nil gives `None` (NOT a pointer to the zero value), non-nil its target -/
theorem orPtrOptionT_none (v : Option A) :
    orPtrOptionT (pure (.success (none : Option A))) v = pure (.success v) := by
  simp only [orPtrOptionT_law, tryMap, pure_bind]

theorem option_orPtr_some (x : A) (v : Option A) : OptM.orPtr (some x) v = some x := by
  simp only [option_orPtr_spec]

theorem option_orZero_some (zero x : A) : OptM.orZero zero (some x) = pure x := by
  simp [option_orZero_spec]

theorem try_orZero_success (zero x : A) : TryM.orZero zero (.success x) = pure x := by
  simp only [try_orZero_spec, TryM.orElse]

theorem try_orZero_failure (zero : A) (e : Err) : TryM.orZero zero (.failure e : Try A) = pure zero := by
  simp only [try_orZero_spec, TryM.orElse]

-- ------------------------------------------------------------------------------------------ TraverseOption / FoldRight

/-- `None`: the traverse function is not invoked -/
theorem traverseOption_none (fa : A → GoM (Try R)) :
    TryM.traverseOption none fa = pure (.success none) := by
  simp only [traverseOption_def]

/-- GENERAL form (audit finding 14): the function may have an arbitrary effect `act` (a log, other callbacks, any result
    type) before it returns; the effect is kept, once — success and failure -/
theorem traverseOption_success_eff {X : Type} (a : A) (fa : A → GoM (Try R)) (r : R) (act : GoM X)
    (hfa : fa a = act >>= fun _ => pure (.success r)) :
    TryM.traverseOption (some a) fa = act >>= fun _ => pure (.success (some r)) :=
  (traverseOption_def (some a) fa).trans (bind_of_returns hfa _)

theorem traverseOption_failure_eff {X : Type} (a : A) (fa : A → GoM (Try R)) (e : Err) (he : e ≠ .nil) (act : GoM X)
    (hfa : fa a = act >>= fun _ => pure (.failure e)) :
    TryM.traverseOption (some a) fa = act >>= fun _ => pure (.failure e) := by
  simp [traverseOption_def, hfa, he]

/-- the instance `act := l.forM emit` of `traverseOption_failure_eff`: `Some(a)` with a failing function gives that
    very error, and the function ran once (its log `l` is there once) -/
theorem traverseOption_failure (a : A) (fa : A → GoM (Try R)) (e : Err) (he : e ≠ .nil) (l : List Event)
    (hfa : fa a = (do (l.forM emit : GoM Unit); pure (.failure e))) :
    TryM.traverseOption (some a) fa = (do (l.forM emit : GoM Unit); pure (.failure e)) :=
  traverseOption_failure_eff a fa e he _ hfa

/-- the instance `act := l.forM emit` of `traverseOption_success_eff`: the log `l` of a succeeding function is
    kept, once -/
theorem traverseOption_success_log (a : A) (fa : A → GoM (Try R)) (r : R) (l : List Event)
    (hfa : fa a = (do (l.forM emit : GoM Unit); pure (.success r))) :
    TryM.traverseOption (some a) fa = (do (l.forM emit : GoM Unit); pure (.success (some r))) :=
  traverseOption_success_eff a fa r _ hfa

/-- HYPOTHESIS-FREE: on `Some(a)` the function runs exactly once — with all its effects — and its outcome decides -/
theorem traverseOption_some_eq (a : A) (fa : A → GoM (Try R)) :
    TryM.traverseOption (some a) fa = (fa a >>= fun t =>
      match t with
      | .success r => pure (.success (some r))
      | .failure .nil => throw "ErrNotInit"
      | .failure e => pure (.failure e)) := by
  rw [traverseOption_def]
  refine bind_congr fun t => ?_
  rcases t with r | e
  · rfl
  · by_cases he : e = .nil
    · subst he; rfl
    · simp [he]

/-- the effect-free instance of `traverseOption_success_eff` -/
theorem traverseOption_success (a : A) (fa : A → GoM (Try R)) (r : R) (hfa : fa a = pure (.success r)) :
    TryM.traverseOption (some a) fa = pure (.success (some r)) := by
  exact traverseOption_success_eff a fa r (pure ()) hfa

/-- FoldRight on an empty container: `f` is never invoked, the result is the (effect-free) zero -/
theorem option_foldRight_none (zero : B) (f : A → EvalM.Eval B → GoM (EvalM.Eval B)) :
    OptM.foldRight none zero f = pure (EvalM.done zero) := rfl

theorem try_foldRight_failure (e : Err) (bzero : B) (fab : A → EvalM.Eval B → GoM (EvalM.Eval B)) :
    TryM.foldRight (.failure e : Try A) bzero fab = pure (EvalM.done bzero) := rfl

/-- … otherwise `f` is called exactly once, with the element and the unevaluated `Done(zero)` -/
theorem option_foldRight_some (a : A) (zero : B) (f : A → EvalM.Eval B → GoM (EvalM.Eval B)) :
    OptM.foldRight (some a) zero f = f a (EvalM.done zero) := rfl

theorem try_foldRight_success (a : A) (bzero : B) (fab : A → EvalM.Eval B → GoM (EvalM.Eval B)) :
    TryM.foldRight (.success a) bzero fab = fab a (EvalM.done bzero) := rfl

-- ------------------------------------------------------------------------------------------ statet.ApTry / ApOption

/-- HYPOTHESIS-FREE (audit finding 14): `ApTry` for EVERY function side `st` (it may log, panic, fail, return the zero
    value) and every argument: `st` runs first, once; then — no further effects except the applied function's —
    the outcome decides, and the state is ALWAYS the one the function side left. -/
theorem apTry_eq (st : StM.StT S (A → GoM B)) (a : Try A) (s : S) :
    StM.apTry st a s = (st s >>= fun x =>
      match x.1, a with
      | .failure .nil, _ => throw "ErrNotInit"
      | .failure e, _ => Pure.pure (.failure e, x.2)
      | .success _, .failure .nil => throw "ErrNotInit"
      | .success _, .failure e => Pure.pure (.failure e, x.2)
      | .success f, .success v => do let b ← f v; Pure.pure (.success b, x.2)) := by
  rw [C17.apTry_def, C17.flatMap_eq]
  refine StM.bind_outcome_congr _ (fun f ns => ?_) fun e ns => ?_
  · rcases a with v | e
    · simp only [tryMap, StM.fromTry, bind_assoc, pure_bind]
    · by_cases he : e = .nil
      · subst he; rfl
      · simp [tryMap, StM.fromTry, he]
  · by_cases he : e = .nil
    · subst he; rfl
    · simp (disch := exact he)

/-- the function side fails: its error and ITS state come back; the argument is not looked at, nothing is applied
    (with effects `act` in front of the failure, which are kept: `C17.apTry_failure_state_eff`) -/
theorem apTry_function_failure (st : StM.StT S (A → GoM B)) (a : Try A) (s ns : S) (e : Err) (he : e ≠ .nil)
    (h : st s = Pure.pure (.failure e, ns)) :
    StM.apTry st a s = Pure.pure (.failure e, ns) :=
  C17.apTry_failure_state st a s ns e he h

/-- GENERAL form: the function side succeeds after effects `act`, the argument is a Failure: the effects, then
    that error; the function is not applied -/
theorem apTry_argument_failure_eff {X : Type} (st : StM.StT S (A → GoM B)) (s ns : S) (f : A → GoM B) (e : Err)
    (he : e ≠ .nil) (act : GoM X) (h : st s = act >>= fun _ => Pure.pure (.success f, ns)) :
    StM.apTry st (.failure e) s = act >>= fun _ => Pure.pure (.failure e, ns) := by
  rw [apTry_eq, h, bind_assoc]
  simp (disch := exact he)

/-- the function side succeeds, the argument is a Failure: that error, the function is not applied -/
theorem apTry_argument_failure (st : StM.StT S (A → GoM B)) (s ns : S) (f : A → GoM B) (e : Err) (he : e ≠ .nil)
    (h : st s = Pure.pure (.success f, ns)) :
    StM.apTry st (.failure e) s = Pure.pure (.failure e, ns) := by
  exact apTry_argument_failure_eff st s ns f e he (Pure.pure ()) h

theorem apOption_none_eff {X : Type} (st : StM.StT S (A → GoM B)) (s ns : S) (f : A → GoM B) (act : GoM X)
    (h : st s = act >>= fun _ => Pure.pure (.success f, ns)) :
    StM.apOption st none s = act >>= fun _ => Pure.pure (.failure .optionEmpty, ns) :=
  apTry_argument_failure_eff st s ns f .optionEmpty (by decide) act h

theorem apOption_none (st : StM.StT S (A → GoM B)) (s ns : S) (f : A → GoM B)
    (h : st s = Pure.pure (.success f, ns)) :
    StM.apOption st none s = Pure.pure (.failure .optionEmpty, ns) := by
  exact apOption_none_eff st s ns f (Pure.pure ()) h

/-- excluded branches: a zero-value function side or argument makes `ApTry` panic (after the function side's effects) -/
theorem apTry_zero {X : Type} (st : StM.StT S (A → GoM B)) (a : Try A) (s ns : S) (f : A → GoM B) (act : GoM X) :
    (st s = (act >>= fun _ => Pure.pure (.failure .nil, ns)) →
      StM.apTry st a s = act >>= fun _ => throw "ErrNotInit") ∧
    (st s = (act >>= fun _ => Pure.pure (.success f, ns)) →
      StM.apTry st (.failure .nil) s = act >>= fun _ => throw "ErrNotInit") := by
  constructor
  · intro h
    rw [apTry_eq, h, bind_assoc]
    exact bind_congr fun _ => pure_bind _ _
  · intro h
    rw [apTry_eq, h, bind_assoc]
    exact bind_congr fun _ => pure_bind _ _

-- non-vacuity
example : (Err.code 3) ≠ .nil := by decide
example : ∃ (fa : Nat → GoM (Try Nat)) (l : List Event), fa 1 = (do (l.forM emit : GoM Unit); pure (.failure (.code 3))) :=
  ⟨fun _ => do (["k"].forM emit : GoM Unit); pure (.failure (.code 3)), ["k"], rfl⟩

/-- a function side that LOGS, moves the state and fails: meets the `_eff` hypothesis, not the effect-free one -/
example : ∃ (st : StM.StT Nat (Nat → GoM Nat)) (act : GoM Unit),
    st 1 = (act >>= fun _ => Pure.pure (.failure (.code 2), 5)) ∧ st 1 ≠ Pure.pure (.failure (.code 2), 5) :=
  ⟨fun _ => do emit "k"; Pure.pure (.failure (.code 2), 5), emit "k", rfl, by
    intro h
    have := congrArg (fun m => (GoM.exec m).2) h
    revert this
    decide⟩

end FpVerif.Spec.C02
