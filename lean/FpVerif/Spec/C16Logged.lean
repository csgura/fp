import FpVerif.Spec.C16
/-!
# C16 (extension) — faithfulness for programs whose CONTINUATIONS HAVE SIDE EFFECTS

(Audit finding 17.)  `C16.Prog` lets only the leaves (`call`), `map` functions and `map2`
functions log: the continuation `k : T → Prog T` of `flatMap` and the thunk `f : Unit → Prog T` of
`tailCall` are pure functions that RETURN a program.  In Go `func(T) lazy.Eval[T]` is arbitrary
code: it may log (write a file, append to a slice, …) before it returns the next `Eval`.  The
property's "including the order of all side effects" must cover those effects.

`LProg` is `C16.Prog` plus the constructor `logged evs p`: "producing the program `p` emitted the
events `evs`" — exactly the `Eval.logged` node of `Model/Eval.lean` (which `C16.Prog` does not
use).  A continuation that logs is `fun v => .logged (evs v) (p v)`
(`flatMapW`, `tailCallW` below take writer-style continuations directly).

`C16.Prog` is not extended in place: `Spec/C16Gen.lean` (a tie module) matches on its
constructors.  `Prog.embed` embeds it; `faithful_of_logged` derives `C16.faithful` from
`faithful_logged`, so `C16.faithful` is a corollary.

Still NOT covered here (see the pointers): panicking thunks / continuations —
`Spec/C16PanicEval.lean`; sharing of one memoised `Eval` node between several parents and
concurrent `Get`s — `Spec/C16Panic.lean`; machine-stack depth — `Spec/C16Stack.lean`.
-/
namespace FpVerif.Spec.C16
open FpVerif FpVerif.EvalM

variable {T : Type} [Inhabited T]

/-- Eval programs whose continuations may log. -/
inductive LProg (T : Type) where
  | done (t : T)
  | call (f : Unit → W T)
  | tailCall (f : Unit → LProg T)
  | map (p : LProg T) (f : T → W T)
  | flatMap (p : LProg T) (k : T → LProg T)
  | map2 (p q : LProg T) (f : T → T → W T)
  /-- the user function that RETURNED the program `p` (a `FlatMap` continuation, a `TailCall`
      thunk) emitted `evs` while running -/
  | logged (evs : List Event) (p : LProg T)

/-- what the library builds -/
def ldenote : LProg T → Eval T
  | .done t => EvalM.done t
  | .call f => EvalM.call f
  | .tailCall f => EvalM.tailCall (fun u => ldenote (f u))
  | .map p f => EvalM.map (ldenote p) f
  | .flatMap p k => EvalM.flatMap (ldenote p) (fun v => ldenote (k v))
  | .map2 p q f => EvalM.map2 (ldenote p) (ldenote q) f
  | .logged evs p => .logged evs (ldenote p)

/-- strict evaluation: value and ALL effects — of leaves, of `map` functions and of the
    continuations themselves — in program order -/
def lstrict : LProg T → W T
  | .done t => (t, [])
  | .call f => f ()
  | .tailCall f => lstrict (f ())
  | .map p f => let (v, l1) := lstrict p; let (w, l2) := f v; (w, l1 ++ l2)
  | .flatMap p k => let (v, l1) := lstrict p; let (w, l2) := lstrict (k v); (w, l1 ++ l2)
  | .map2 p q f =>
    let (v1, l1) := lstrict p; let (v2, l2) := lstrict q; let (w, l3) := f v1 v2; (w, l1 ++ (l2 ++ l3))
  | .logged evs p => let (r, l) := lstrict p; (r, evs ++ l)

theorem run_logged (evs : List Event) (e : Eval T) :
    run (.logged evs e) = ((run e).1, evs ++ (run e).2) := rfl

/-- FAITHFULNESS with effectful continuations: for every program tree — continuations and tail-call
    thunks may log — trampolined evaluation yields the value and the complete event sequence of
    strict evaluation, in the same order. -/
theorem faithful_logged (p : LProg T) : run (ldenote p) = lstrict p := by
  induction p with
  | done t => rfl
  | call f => rfl
  | tailCall f ih => simp [ldenote, lstrict, run_tailCall, ih]
  | map p f ih => simp [ldenote, lstrict, run_map, ih]
  | flatMap p k ihp ihk => simp [ldenote, lstrict, run_flatMap, ihp, ihk]
  | map2 p q f ihp ihq => simp [ldenote, lstrict, run_map2, ihp, ihq]
  | logged evs p ih => simp [ldenote, lstrict, run_logged, ih]

/-- the loop of `Run` itself (not only its denotation) on such a program: any budget
    `≥ steps` gives the strict result appended to the incoming log -/
theorem runLoop_faithful_logged (p : LProg T) (log : List Event) (n : Nat)
    (h : steps (ldenote p) ≤ n) :
    runLoop n (ldenote p) log = some ((lstrict p).1, log ++ (lstrict p).2) := by
  rw [runLoop_spec _ log n h, faithful_logged]

/-! ### writer-style continuations -/

/-- `p.FlatMap(k)` where the Go function `k` logs `(k v).1` and returns the program `(k v).2` -/
def LProg.flatMapW (p : LProg T) (k : T → List Event × LProg T) : LProg T :=
  .flatMap p (fun v => .logged (k v).1 (k v).2)

/-- `lazy.TailCall(f)` where the Go function `f` logs `(f ()).1` and returns `(f ()).2` -/
def LProg.tailCallW (f : Unit → List Event × LProg T) : LProg T :=
  .tailCall (fun u => .logged (f u).1 (f u).2)

/-- `Run(p.FlatMap(k))`: effects of `p`, THEN the effects of calling `k` on `p`'s value, THEN the
    effects of running what `k` returned. -/
theorem run_flatMapW (p : LProg T) (k : T → List Event × LProg T) :
    run (ldenote (p.flatMapW k)) =
      ((lstrict (k (lstrict p).1).2).1,
       (lstrict p).2 ++ ((k (lstrict p).1).1 ++ (lstrict (k (lstrict p).1).2).2)) := by
  rw [faithful_logged]; rfl

/-- `Run(TailCall(f))`: the effects of calling `f`, then those of running what it returned;
    nothing else. -/
theorem run_tailCallW (f : Unit → List Event × LProg T) :
    run (ldenote (LProg.tailCallW f)) = ((lstrict (f ()).2).1, (f ()).1 ++ (lstrict (f ()).2).2) := by
  rw [faithful_logged]; rfl

/-- a tail-recursive loop whose every iteration logs (`go n acc = TailCall(func(){ log(acc);
    return go(n-1, g acc) })`): `n` iterations, for EVERY `n`, log `acc, g acc, g (g acc), …` in
    that order -/
def logLoop (g : T → T) (ev : T → Event) : Nat → T → LProg T
  | 0, acc => .done acc
  | n + 1, acc => LProg.tailCallW (fun _ => ([ev acc], logLoop g ev n (g acc)))

def iterLog (g : T → T) (ev : T → Event) : Nat → T → List Event
  | 0, _ => []
  | n + 1, a => ev a :: iterLog g ev n (g a)

theorem run_logLoop (g : T → T) (ev : T → Event) (n : Nat) (acc : T) :
    run (ldenote (logLoop g ev n acc)) = (iter g n acc, iterLog g ev n acc) := by
  rw [faithful_logged]
  induction n generalizing acc with
  | zero => rfl
  | succ n ih =>
    show (let (r, l) := lstrict (logLoop g ev n (g acc)); (r, [ev acc] ++ l)) = _
    rw [ih]; rfl

/-! ### `C16.faithful` is a corollary -/

/-- `C16.Prog` is the `logged`-free fragment -/
def Prog.embed : Prog T → LProg T
  | .done t => .done t
  | .call f => .call f
  | .tailCall f => .tailCall (fun u => Prog.embed (f u))
  | .map p f => .map (Prog.embed p) f
  | .flatMap p k => .flatMap (Prog.embed p) (fun v => Prog.embed (k v))
  | .map2 p q f => .map2 (Prog.embed p) (Prog.embed q) f

theorem ldenote_embed (p : Prog T) : ldenote (Prog.embed p) = denote p := by
  induction p with
  | done t => rfl
  | call f => rfl
  | tailCall f ih => simp only [Prog.embed, ldenote, denote, ih]
  | map p f ih => simp only [Prog.embed, ldenote, denote, ih]
  | flatMap p k ihp ihk => simp only [Prog.embed, ldenote, denote, ihp, ihk]
  | map2 p q f ihp ihq => simp only [Prog.embed, ldenote, denote, ihp, ihq]

theorem lstrict_embed (p : Prog T) : lstrict (Prog.embed p) = strict p := by
  induction p with
  | done t => rfl
  | call f => rfl
  | tailCall f ih => simp only [Prog.embed, lstrict, strict, ih]
  | map p f ih => simp only [Prog.embed, lstrict, strict, ih]
  | flatMap p k ihp ihk => simp only [Prog.embed, lstrict, strict, ihp, ihk]
  | map2 p q f ihp ihq => simp only [Prog.embed, lstrict, strict, ihp, ihq]

/-- `C16.faithful`, derived from `faithful_logged` -/
theorem faithful_of_logged (p : Prog T) : run (denote p) = strict p := by
  rw [← ldenote_embed, ← lstrict_embed]; exact faithful_logged _

/-! ### non-vacuity: a continuation that logs, between a logging leaf and a logging result -/

example :
    run (ldenote ((LProg.call (fun _ => ((1 : Nat), ["leaf"]))).flatMapW
      (fun v => (["k called"], .call (fun _ => (v + 1, ["inner"])))))) =
      (2, ["leaf", "k called", "inner"]) := by
  decide +kernel

example : run (ldenote (logLoop (· + 1) (fun (a : Nat) => s!"it{a}") 3 0)) = (3, ["it0", "it1", "it2"]) := by
  rw [run_logLoop]; decide +kernel

end FpVerif.Spec.C16
