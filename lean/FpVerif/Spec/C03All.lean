import FpVerif.Lemmas.HamtAllSet
import FpVerif.Spec.C03
/-!
# C03 (all operations, all constructors) — `fp.Map` / `fp.Set` refine a reference map / set for EVERY
mixed history of the operations the property lists, starting from any constructor including the
ZERO VALUE.

`Spec/C03.lean` §5 (`refinement`) covers `set`/`delete` histories of the trie starting from
`Hamt.empty`; its §6 gives one-step specifications of the wrappers over a hamt base.  This module is
the refinement theorem over the wrapper types of `Model/Hamt.lean` themselves:

* `FMap K V` (`fp.Map`): `base = none` (zero value, nil `Base`), `.hamt` (immutable package),
  `.goMap` (the `UnsafeGoMap` that `Updated` on the zero value creates, map.go:52-61);
  operations `Updated`, `Removed(k...)`, `UpdatedWith`, `Concat`; constructors zero value,
  `immutable.Map(hasher, t...)`, `MapBuilder` + `Add`… + `Build` (= `seq/list/iterator.ToMap`).
* `FSet K` (`fp.Set`): `set = none` with a nil / hamt / Go-set `getEmpty`, `.hamt`, `.goSet`;
  operations `Incl`, `Excl`, `Concat` (a list or another set), `Diff`, `Intersect`, observation
  `SubsetOf`; constructors zero value, `immutable.Set(hasher, v...)`, `SetBuilder` with `Add`s before
  AND after a `Build` (= `ToSet`).  Because `Diff` / `Intersect` / `SubsetOf` are binary, a "history"
  of sets is an expression tree (`SExpr`).

Observations: `Get` / `Contains`, `Size`, `IsEmpty`, `NonEmpty`, `Iterator` (as a list with pairwise
non-`Eqv` keys that denotes the same finite map; a permutation of the reference when `Eqv` is `=`).

## The zero value and Go's `==`  (audit findings 2, 3, 11)

The zero value has no hasher: `Map{}.Updated` builds an `UnsafeGoMap` (`map[any]V`), `Set{}.Incl` an
`UnsafeGoSet`; both compare keys with Go's `==` on the dynamic values (`[BEq K]` in the model).  So
for histories that start from the zero value the refinement holds for a hasher `h` exactly under

    Agree h  :=  ∀ a b, (a == b) = h.eqv a b        ("Eqv is Go's ==")

and this hypothesis is required ONLY there (`hgo : c.usesGoMap = true → Agree h`): histories that
start from `immutable.Map/Set` or a builder need `LawfulHash h` alone, for every `[BEq K]`.  Without
`Agree` the refinement is FALSE for the zero value: `zero_value_needs_agree` / `zero_set_needs_agree`
(a lawful hasher whose `Eqv` is coarser than `==`; wrong `Get`, wrong `Size`).  `Agree` also
presupposes that `==` is DEFINED on the dynamic key type: with `fp.Seq[int]` keys the Go-map
operations panic ("hash of unhashable type"), which a `[BEq K]` model cannot express.
-/
namespace FpVerif.Spec.C03All
open FpVerif FpVerif.Hamt

variable {K V : Type} {h : Hasher K} [BEq K]

-- =====================================================================================================
-- 1. fp.Map
-- =====================================================================================================

/-- constructors of an `fp.Map` -/
inductive MCtor (K V : Type) where
  /-- `fp.Map[K,V]{}` -/
  | zero
  /-- `immutable.Map(hasher, t...)` -/
  | immutable (t : List (K × V))
  /-- `immutable.MapBuilder(hasher)`, `Add` for every tuple, `Build()` — what `seq.ToMap`,
      `list.ToMap`, `iterator.ToMap` do -/
  | builder (t : List (K × V))

def MCtor.eval (h : Hasher K) : MCtor K V → GoE (FMap K V)
  | .zero => pure ⟨none⟩
  | .immutable t => FMap.ofList h t
  | .builder t => do
    let b ← t.foldlM (fun (b : MapBuilder K V) kv => b.add h kv.1 kv.2) MapBuilder.new
    pure ⟨some (.hamt (← b.build).1)⟩

/-- does a history starting here go through the Go-map fallback? -/
def MCtor.usesGoMap : MCtor K V → Bool
  | .zero => true
  | _ => false

/-- the operations of the property on an `fp.Map` -/
inductive MOp (K V : Type) where
  | updated (k : K) (v : V)
  | removed (ks : List K)
  | updatedWith (k : K) (remap : Option V → Option V)
  /-- `Concat(other)`, `other` given by what its iterator yields -/
  | concat (other : List (K × V))

/-- the implementation model (the wrapper functions of `Model/Hamt.lean`) -/
def MOp.apply (h : Hasher K) (m : FMap K V) : MOp K V → GoE (FMap K V)
  | .updated k v => m.updated h k v
  | .removed ks => m.removed h ks
  | .updatedWith k f => m.updatedWith h k f
  | .concat o => m.concat h o

def MOp.run (h : Hasher K) (ops : List (MOp K V)) (m : FMap K V) : GoE (FMap K V) :=
  ops.foldlM (MOp.apply h) m

/-- reference `UpdatedWith` -/
def updWith (h : Hasher K) (r : List (K × V)) (k : K) (f : Option V → Option V) : List (K × V) :=
  match f (lookup h k r) with
  | some x => upd h r k x
  | none => remAll h r [k]

/-- the reference: an association list keyed by `Eqv` class
    (`upd r k v = r.filter (¬ Eqv · k) ++ [(k, v)]`, `remAll r ks = r.filter (no k ∈ ks is Eqv)`) -/
def MRef.apply (h : Hasher K) (r : List (K × V)) : MOp K V → List (K × V)
  | .updated k v => upd h r k v
  | .removed ks => remAll h r ks
  | .updatedWith k f => updWith h r k f
  | .concat o => o.foldl (fun r e => upd h r e.1 e.2) r

def MRef.run (h : Hasher K) (ops : List (MOp K V)) (r : List (K × V)) : List (K × V) :=
  ops.foldl (MRef.apply h) r

/-- reference value of a constructor: later tuples win -/
def MCtor.ref (h : Hasher K) : MCtor K V → List (K × V)
  | .zero => []
  | .immutable t => t.foldl (fun r e => upd h r e.1 e.2) []
  | .builder t => t.foldl (fun r e => upd h r e.1 e.2) []

/-- All observations of the map `m` agree with the reference association list `R`. -/
structure MapAgrees (h : Hasher K) (m : FMap K V) (R : List (K × V)) : Prop where
  /-- `Get`: the last value written, nothing after removal -/
  get : ∀ k, m.get h k = .ok (lookup h k R)
  contains : ∀ k, m.contains h k = .ok (lookup h k R).isSome
  /-- the reference has one entry per `Eqv` class … -/
  refDistinct : DistinctKeys h R
  /-- … so this is "`Size` = number of distinct keys" -/
  size : m.size = R.length
  isEmpty : m.isEmpty = R.isEmpty
  nonEmpty : m.nonEmpty = !R.isEmpty
  /-- `Iterator` terminates and yields exactly `Size` entries with pairwise non-`Eqv` keys that
      denote the same finite map: every entry exactly once, with its latest value -/
  iter : ∃ l, m.iterList = .ok l ∧ l.length = R.length ∧ DistinctKeys h l ∧
    ∀ k, lookup h k l = lookup h k R
  /-- with `Eqv` = equality the iterator's output is a permutation of the reference -/
  iterPerm : (∀ a b, h.eqv a b = true ↔ a = b) → ∃ l, m.iterList = .ok l ∧ l.Perm R

/-- simulation relation -/
structure MSim (h : Hasher K) (m : FMap K V) (r : List (K × V)) : Prop where
  inv : FMap.Inv h m
  distinct : DistinctKeys h r
  look : ∀ k, lookup h k m.entries = lookup h k r

omit [BEq K] in
theorem lookup_updWith (hl : LawfulHash h) (r : List (K × V)) (k : K) (f : Option V → Option V) (k' : K) :
    lookup h k' (updWith h r k f) = if h.eqv k k' then f (lookup h k r) else lookup h k' r := by
  unfold updWith
  split
  · rename_i x hx; rw [lookup_upd hl, hx]
  · rename_i hx; rw [lookup_remAll hl, hx]; simp [lookupRemoved]

omit [BEq K] in
theorem distinct_updWith (hl : LawfulHash h) {r : List (K × V)} (hd : DistinctKeys h r) (k : K)
    (f : Option V → Option V) : DistinctKeys h (updWith h r k f) := by
  unfold updWith
  split
  · exact distinct_upd hl hd _ _
  · exact distinct_remAll hd _

theorem sim_step (hl : LawfulHash h) {m : FMap K V} {r : List (K × V)} (hs : MSim h m r) (op : MOp K V) :
    ∃ m', op.apply h m = .ok m' ∧ m'.isHamt = m.isHamt ∧ MSim h m' (MRef.apply h r op) := by
  cases op with
  | updated k v =>
    obtain ⟨m', h1, h2, hk, h3⟩ := FMap.updated_spec hl hs.inv k v
    exact ⟨m', h1, hk, h2, distinct_upd hl hs.distinct k v, fun k' => by
      rw [h3, hs.look]; exact (lookup_upd hl r k v k').symm⟩
  | removed ks =>
    obtain ⟨m', h1, h2, hk, h3⟩ := FMap.removed_spec hl hs.inv ks
    exact ⟨m', h1, hk, h2, distinct_remAll hs.distinct ks, fun k' => by
      rw [h3, hs.look]; exact (lookup_remAll hl r ks k').symm⟩
  | updatedWith k f =>
    obtain ⟨m', h1, h2, hk, h3⟩ := FMap.updatedWith_spec hl hs.inv k f
    exact ⟨m', h1, hk, h2, distinct_updWith hl hs.distinct k f, fun k' => by
      rw [h3, hs.look, hs.look]; exact (lookup_updWith hl r k f k').symm⟩
  | concat o =>
    obtain ⟨m', h1, h2, hk, h3⟩ := FMap.concat_spec hl o hs.inv
    exact ⟨m', h1, hk, h2, distinct_foldl_upd hl o hs.distinct, fun k' => by
      rw [h3, hs.look]; exact (lookup_foldl_upd hl o r k').symm⟩

theorem sim_run (hl : LawfulHash h) (ops : List (MOp K V)) : ∀ {m : FMap K V} {r : List (K × V)},
    MSim h m r → ∃ m', MOp.run h ops m = .ok m' ∧ MSim h m' (MRef.run h ops r) := by
  induction ops with
  | nil => intro m r hs; exact ⟨m, rfl, hs⟩
  | cons op ops ih =>
    intro m r hs
    obtain ⟨m1, h1, _, hs1⟩ := sim_step hl hs op
    obtain ⟨m2, h2, hs2⟩ := ih hs1
    exact ⟨m2, bind_ok h1 h2, hs2⟩

/-- the simulation relation gives every observation -/
theorem sim_observe (hl : LawfulHash h) {m : FMap K V} {r : List (K × V)} (hs : MSim h m r) :
    MapAgrees h m r := by
  have hd := hs.inv.distinct hl
  have hlen : m.entries.length = r.length := length_eq_of_lookup_eq hl hd hs.distinct hs.look
  have hsize : m.size = r.length := by rw [FMap.size_spec hs.inv, hlen]
  have hget : ∀ k, m.get h k = .ok (lookup h k r) := fun k => by rw [FMap.get_spec hl hs.inv, hs.look]
  refine ⟨hget, fun k => bind_ok (hget k) rfl, hs.distinct, hsize, ?_, ?_,
    ⟨m.entries, FMap.iterList_spec hs.inv, hlen, hd, hs.look⟩,
    fun heq => ⟨m.entries, FMap.iterList_spec hs.inv, perm_of_lookup_eq hl heq hd hs.distinct hs.look⟩⟩
  · unfold FMap.isEmpty; rw [hsize]; cases r <;> rfl
  · unfold FMap.nonEmpty; rw [hsize]; cases r <;> rfl

/-- every constructor establishes the simulation (the zero value: under `Agree`) -/
theorem sim_ctor (hl : LawfulHash h) (c : MCtor K V) (hgo : c.usesGoMap = true → Agree h) :
    ∃ m0, c.eval h = .ok m0 ∧ MSim h m0 (c.ref h) := by
  have hnil : DistinctKeys h ([] : List (K × V)) := List.Pairwise.nil
  cases c with
  | zero => exact ⟨⟨none⟩, rfl, hgo rfl, hnil, fun _ => rfl⟩
  | immutable t =>
    obtain ⟨m, h1, h2, h3⟩ := Hamt.ofList_spec hl t
    exact ⟨hmap m, bind_ok h1 rfl, h2, distinct_foldl_upd hl t hnil, fun k =>
      (h3 k).trans (lookup_foldl_upd hl t [] k).symm⟩
  | builder t =>
    obtain ⟨m, h1, h2, h3⟩ := builderFold_spec hl t (Hamt.Inv_empty (h := h) (V := V))
    exact ⟨hmap m, bind_ok h1 rfl, h2, distinct_foldl_upd hl t hnil, fun k =>
      (h3 k).trans (lookup_foldl_upd hl t [] k).symm⟩

/-- `Keys()` / `Values()` are the projections of what `Iterator()` yields (so `MapAgrees.iter` speaks
    about them too) -/
theorem keys_values (hl : LawfulHash h) {m : FMap K V} {r : List (K × V)} (hs : MSim h m r) :
    ∃ l, m.iterList = .ok l ∧ m.keys = .ok (l.map (·.1)) ∧ m.values = .ok (l.map (·.2)) ∧
      l.length = r.length ∧ DistinctKeys h l ∧ ∀ k, lookup h k l = lookup h k r := by
  obtain ⟨l, h1, h2, h3, h4⟩ := (sim_observe hl hs).iter
  exact ⟨l, h1, bind_ok h1 rfl, bind_ok h1 rfl, h2, h3, h4⟩

/-- **Refinement from any well-formed map value** (any base: nil, hamt, Go map): every mixed history
    of `Updated` / `Removed` / `UpdatedWith` / `Concat` runs without panic, keeps the invariant, and
    all observations agree with the reference history run on the entries of the start value. -/
theorem refinement_from (hl : LawfulHash h) {m0 : FMap K V} (h0 : FMap.Inv h m0) (ops : List (MOp K V)) :
    ∃ m, MOp.run h ops m0 = .ok m ∧ FMap.Inv h m ∧ MapAgrees h m (MRef.run h ops m0.entries) := by
  obtain ⟨m, h1, hs⟩ := sim_run hl ops (⟨h0, h0.distinct hl, fun _ => rfl⟩ : MSim h m0 m0.entries)
  exact ⟨m, h1, hs.inv, sim_observe hl hs⟩

/-- **Refinement, all operations, all constructors (fp.Map).**  For every constructor — the zero
    value, `immutable.Map(hasher, t...)`, a `MapBuilder` (`ToMap`) — every finite mixed history of
    `Updated`, `Removed(k...)`, `UpdatedWith` (arbitrary `remap`) and `Concat`, every lawful hasher
    (colliding or not) and all keys and values: construction and history run without panic, the
    result satisfies the representation invariant (for a hamt base the trie invariant `Hamt.Inv`),
    and `Get`, `Contains`, `Size`, `IsEmpty`, `NonEmpty` and `Iterator` agree with the reference
    association list.  `Agree h` ("`Eqv` is Go's `==`") is required only for the zero value. -/
theorem refinement_all (hl : LawfulHash h) (c : MCtor K V) (hgo : c.usesGoMap = true → Agree h)
    (ops : List (MOp K V)) :
    ∃ m0 m, c.eval h = .ok m0 ∧ MOp.run h ops m0 = .ok m ∧ FMap.Inv h m ∧
      MapAgrees h m (MRef.run h ops (c.ref h)) := by
  obtain ⟨m0, h0, hs0⟩ := sim_ctor hl c hgo
  obtain ⟨m, h1, hs⟩ := sim_run hl ops hs0
  exact ⟨m0, m, h0, h1, hs.inv, sim_observe hl hs⟩

/-- … and `Keys()` / `Values()` of the result are the key / value projections of an iterator listing that
    denotes the reference map. -/
theorem refinement_all_keys_values (hl : LawfulHash h) (c : MCtor K V) (hgo : c.usesGoMap = true → Agree h)
    (ops : List (MOp K V)) :
    ∃ m0 m l, c.eval h = .ok m0 ∧ MOp.run h ops m0 = .ok m ∧ m.iterList = .ok l ∧
      m.keys = .ok (l.map (·.1)) ∧ m.values = .ok (l.map (·.2)) ∧
      l.length = (MRef.run h ops (c.ref h)).length ∧ DistinctKeys h l ∧
      ∀ k, lookup h k l = lookup h k (MRef.run h ops (c.ref h)) := by
  obtain ⟨m0, h0, hs0⟩ := sim_ctor hl c hgo
  obtain ⟨m, h1, hs⟩ := sim_run hl ops hs0
  obtain ⟨l, h2⟩ := keys_values hl hs
  exact ⟨m0, m, l, h0, h1, h2⟩

/-- A map that started from the immutable package stays hamt-backed (so no `Agree` is ever needed),
    a map that started from the zero value never becomes hamt-backed. -/
theorem base_kind_stable (hl : LawfulHash h) {m : FMap K V} (hi : FMap.Inv h m) (op : MOp K V) :
    ∃ m', op.apply h m = .ok m' ∧
      ((∃ x, m.base = some (.hamt x)) ↔ (∃ x, m'.base = some (.hamt x))) := by
  obtain ⟨m', h1, hk, _⟩ := sim_step hl (⟨hi, hi.distinct hl, fun _ => rfl⟩ : MSim h m m.entries) op
  exact ⟨m', h1, by rw [← FMap.isHamt_iff, ← FMap.isHamt_iff, hk]⟩

-- builders: use after Build -------------------------------------------------------------------------------------

omit [BEq K] in
/-- `Add` on a `MapBuilder` whose map has been handed out panics (the assert of map.go), so no later
    use of the builder can change the map that `Build` returned. -/
theorem mapBuilder_add_after_build (b : MapBuilder K V) (m : Hamt K V) (b' : MapBuilder K V)
    (hb : b.build = .ok (m, b')) (k : K) (v : V) :
    b'.add h k v = .error "immutable.MapBuilder: builder invalid after Build() invocation" := by
  unfold MapBuilder.build at hb
  cases hm : b.m with
  | none => rw [hm] at hb; cases hb
  | some x =>
    rw [hm] at hb
    injection hb with hb
    injection hb with _ hb2
    subst hb2
    rfl

-- the zero value: reads need nothing, writes need `Agree` ------------------------------------------------------

/-- Reading the zero value needs no hypothesis at all: it is the empty map. -/
theorem zero_reads (k : K) (ks : List K) :
    (⟨none⟩ : FMap K V).get h k = .ok none ∧ (⟨none⟩ : FMap K V).contains h k = .ok false ∧
    (⟨none⟩ : FMap K V).size = 0 ∧ (⟨none⟩ : FMap K V).isEmpty = true ∧
    (⟨none⟩ : FMap K V).iterList = .ok [] ∧ (⟨none⟩ : FMap K V).removed h ks = .ok ⟨none⟩ :=
  ⟨rfl, rfl, rfl, rfl, rfl, rfl⟩

/-- a lawful hasher on `Nat` whose `Eqv` (equality mod 97) is coarser than `==` -/
def hMod97 : Hasher Nat := ⟨fun k => UInt32.ofNat (k % 97) * 40503, fun a b => a % 97 == b % 97⟩

theorem hMod97_lawful : LawfulHash hMod97 := C03.lawful_of_proj (· % 97) (UInt32.ofNat · * 40503)

theorem hMod97_not_agree : ¬ Agree hMod97 := by
  intro hag
  have := hag 1 98
  revert this
  decide

/-- **The zero-value fallback does NOT refine the reference for a hasher with `Eqv ≠ ==`**
    (audit findings 2 / 3): with the lawful `hMod97`, `Map{}.Updated(1, 10)` is an `UnsafeGoMap`;
    `Get(98)` finds nothing although `98` is `Eqv` to `1`, and `Updated(98, 20)` makes `Size` 2
    although there is one `Eqv` class.  The same history from `immutable.Map(hMod97)` agrees with the
    reference (`refinement_all` with `c = .immutable []`).
    Go replay: `var m fp.Map[int,int]; m = m.Updated(1,10); m.Get(98)` is `None`,
    `m.Updated(98,20).Size()` is 2, whereas `immutable.Map[int,int](hMod97).Updated(1,10).Get(98)` is
    `Some(10)` and the size after the second `Updated` is 1. -/
theorem zero_value_needs_agree :
    (∃ m, MOp.run hMod97 [.updated 1 10] (⟨none⟩ : FMap Nat Nat) = .ok m ∧
      m.get hMod97 98 = .ok none ∧
      lookup hMod97 98 (MRef.run hMod97 [MOp.updated 1 10] []) = some 10) ∧
    (∃ m, MOp.run hMod97 [.updated 1 10, .updated 98 20] (⟨none⟩ : FMap Nat Nat) = .ok m ∧
      m.size = 2 ∧
      (MRef.run hMod97 [MOp.updated 1 10, MOp.updated 98 20] []).length = 1) :=
  ⟨⟨_, rfl, rfl, by decide⟩, ⟨_, rfl, by decide, by decide⟩⟩

-- =====================================================================================================
-- 2. fp.Set
-- =====================================================================================================

/-- constructors of an `fp.Set` -/
inductive SCtor (K : Type) where
  /-- `fp.Set[V]{}` (nil `getEmpty`, nil `set`) -/
  | zero
  /-- `immutable.Set(hasher, v...)` -/
  | immutable (v : List K)
  /-- `immutable.SetBuilder(hasher)`, `Add` every element of `v1`, `Build()` (hands a set out and
      marks the trie shared), `Add` every element of `v2`, `Build()` again: the second set.
      (`v2 = []`: what `seq.ToSet`, `list.ToSet`, `iterator.ToSet` do.) -/
  | builder (v1 v2 : List K)

def SCtor.eval (h : Hasher K) : SCtor K → GoE (FSet K)
  | .zero => pure ⟨.nil, none⟩
  | .immutable v => FSet.ofList h v
  | .builder v1 v2 => do
    let b1 ← v1.foldlM (fun (b : SetBuilder K) x => b.add h x) SetBuilder.new
    let b2 ← v2.foldlM (fun (b : SetBuilder K) x => b.add h x) b1.build.2
    pure ⟨.hamt, some (.hamt b2.build.1)⟩

/-- a history of sets: an expression tree over the operations of the property -/
inductive SExpr (K : Type) where
  | ctor (c : SCtor K)
  | incl (e : SExpr K) (k : K)
  | excl (e : SExpr K) (k : K)
  /-- `Concat(other)` with `other` any iterable, given by what it yields -/
  | concat (e : SExpr K) (ks : List K)
  /-- `a.Concat(b)` for another set `b` (iterated in its own order) -/
  | union (a b : SExpr K)
  | diff (a b : SExpr K)
  | intersect (a b : SExpr K)

/-- the implementation model (the wrapper functions of `Model/Hamt.lean`) -/
def SExpr.eval (h : Hasher K) : SExpr K → GoE (FSet K)
  | .ctor c => c.eval h
  | .incl e k => do (← e.eval h).incl h k
  | .excl e k => do (← e.eval h).excl h k
  | .concat e ks => do (← e.eval h).concat h ks
  | .union a b => do
    let x ← a.eval h
    let y ← b.eval h
    x.concat h (← y.iterList)
  | .diff a b => do
    let x ← a.eval h
    let y ← b.eval h
    x.diff h y
  | .intersect a b => do
    let x ← a.eval h
    let y ← b.eval h
    x.intersect h y

/-- the reference: a duplicate-free (up to `Eqv`) list of members
    (`inclL r k = if k ∈ r then r else r ++ [k]`, `exclL r k = r.filter (¬ Eqv · k)`) -/
def SExpr.ref (h : Hasher K) : SExpr K → List K
  | .ctor .zero => []
  | .ctor (.immutable v) => v.foldl (inclL h) []
  | .ctor (.builder v1 v2) => (v1 ++ v2).foldl (inclL h) []
  | .incl e k => inclL h (e.ref h) k
  | .excl e k => exclL h (e.ref h) k
  | .concat e ks => ks.foldl (inclL h) (e.ref h)
  | .union a b => (b.ref h).foldl (inclL h) (a.ref h)
  | .diff a b => (a.ref h).filter (fun e => !memL h (b.ref h) e)
  | .intersect a b => (a.ref h).filter (fun e => memL h (b.ref h) e)

/-- does the history contain the zero value (and hence the `UnsafeGoSet` fallback)? -/
def SExpr.usesGoSet : SExpr K → Bool
  | .ctor .zero => true
  | .ctor _ => false
  | .incl e _ => e.usesGoSet
  | .excl e _ => e.usesGoSet
  | .concat e _ => e.usesGoSet
  | .union a b => a.usesGoSet || b.usesGoSet
  | .diff a b => a.usesGoSet || b.usesGoSet
  | .intersect a b => a.usesGoSet || b.usesGoSet

/-- All observations of the set `s` agree with the reference list of members `R`. -/
structure SetAgrees (h : Hasher K) (s : FSet K) (R : List K) : Prop where
  contains : ∀ k, s.contains h k = .ok (memL h R k)
  /-- the reference has one member per `Eqv` class … -/
  refDistinct : DistinctL h R
  /-- … so this is "`Size` = number of distinct members" -/
  size : s.size = R.length
  isEmpty : s.isEmpty = R.isEmpty
  /-- `Iterator` terminates and yields exactly `Size` pairwise non-`Eqv` elements with the same
      members: every member exactly once -/
  iter : ∃ l, s.iterList = .ok l ∧ l.length = R.length ∧ DistinctL h l ∧ ∀ k, memL h l k = memL h R k
  /-- with `Eqv` = equality the iterator's output is a permutation of the reference -/
  iterPerm : (∀ a b, h.eqv a b = true ↔ a = b) → ∃ l, s.iterList = .ok l ∧ l.Perm R

structure SSim (h : Hasher K) (s : FSet K) (r : List K) : Prop where
  inv : FSet.Inv h s
  distinct : DistinctL h r
  look : ∀ k, memL h s.elems k = memL h r k

theorem ssim_observe (hl : LawfulHash h) {s : FSet K} {r : List K} (hs : SSim h s r) : SetAgrees h s r := by
  have hd := hs.inv.distinct hl
  have hlen : s.elems.length = r.length := length_eq_of_memL_eq hl hd hs.distinct hs.look
  have hsize : s.size = r.length := by rw [FSet.size_spec hs.inv, hlen]
  refine ⟨fun k => by rw [FSet.contains_spec hl hs.inv, hs.look], hs.distinct, hsize, ?_,
    ⟨s.elems, FSet.iterList_spec hs.inv, hlen, hd, hs.look⟩,
    fun heq => ⟨s.elems, FSet.iterList_spec hs.inv, perm_of_memL_eq hl heq hd hs.distinct hs.look⟩⟩
  unfold FSet.isEmpty; rw [hsize]; cases r <;> rfl

theorem SSim.hset {m : Hamt K Bool} {r : List K} (hi : Hamt.Inv h m) (hd : DistinctL h r)
    (hm : ∀ k, mem h m k = memL h r k) : SSim h (hset m) r :=
  ⟨FSet.inv_hset hi, hd, fun k => (memL_hset m k).trans (hm k)⟩

theorem ssim_empty : SSim h (hset (Hamt.empty : Hamt K Bool)) [] :=
  SSim.hset Hamt.Inv_empty List.Pairwise.nil fun _ => rfl

theorem SSim.incl (hl : LawfulHash h) {s : FSet K} {r : List K} (hs : SSim h s r) (k : K) :
    ∃ s', s.incl h k = .ok s' ∧ SSim h s' (inclL h r k) := by
  obtain ⟨s', h1, h2, h3⟩ := FSet.incl_spec hl hs.inv k
  exact ⟨s', h1, h2, distinct_inclL hs.distinct k, fun k' => by rw [h3, memL_inclL hl, hs.look]⟩

theorem SSim.excl (hl : LawfulHash h) {s : FSet K} {r : List K} (hs : SSim h s r) (k : K) :
    ∃ s', s.excl h k = .ok s' ∧ SSim h s' (exclL h r k) := by
  obtain ⟨s', h1, h2, h3⟩ := FSet.excl_spec hl hs.inv k
  exact ⟨s', h1, h2, distinct_filterL hs.distinct _, fun k' => by rw [h3, memL_exclL hl, hs.look]⟩

/-- `Concat` of anything that yields the members of `ks'` (a list; another set in its own order) -/
theorem SSim.concat (hl : LawfulHash h) {s : FSet K} {r : List K} (hs : SSim h s r) {ks ks' : List K}
    (hks : ∀ k, memL h ks k = memL h ks' k) :
    ∃ s', s.concat h ks = .ok s' ∧ SSim h s' (ks'.foldl (inclL h) r) := by
  obtain ⟨s', h1, h2, h3⟩ := FSet.concat_spec hl ks hs.inv
  exact ⟨s', h1, h2, distinct_foldl_inclL ks' hs.distinct, fun k' => by
    rw [h3, memL_foldl_inclL hl, hs.look, hks]⟩

theorem SSim.diff (hl : LawfulHash h) {x y : FSet K} {rx ry : List K} (hx : SSim h x rx) (hy : SSim h y ry) :
    ∃ s', x.diff h y = .ok s' ∧ SSim h s' (rx.filter (fun e => !memL h ry e)) := by
  obtain ⟨s', h1, h2, _, h3⟩ := FSet.diff_spec hl hx.inv hy.inv
  obtain ⟨hgo, -⟩ := hx.inv
  refine ⟨_, h1, ⟨hgo, h2⟩, distinct_filterL hx.distinct _, fun k' => (h3 k').trans ?_⟩
  rw [memL_filter _ _ (fun k k' hkk => by rw [memL_congr hl hkk]), hx.look, hy.look]

theorem SSim.intersect (hl : LawfulHash h) {x y : FSet K} {rx ry : List K} (hx : SSim h x rx)
    (hy : SSim h y ry) :
    ∃ s', x.intersect h y = .ok s' ∧ SSim h s' (rx.filter (fun e => memL h ry e)) := by
  obtain ⟨s', h1, h2, _, h3⟩ := FSet.intersect_spec hl hx.inv hy.inv
  obtain ⟨hgo, -⟩ := hx.inv
  refine ⟨_, h1, ⟨hgo, h2⟩, distinct_filterL hx.distinct _, fun k' => (h3 k').trans ?_⟩
  rw [memL_filter _ _ (fun k k' hkk => by rw [memL_congr hl hkk]), hx.look, hy.look]

omit [BEq K] in
theorem concatLookup_isSome (v : List K) (k' : K) : ∀ (base : Option Bool),
    (concatLookup h (v.map (fun x => (x, true))) k' base).isSome = (base.isSome || memL h v k') := by
  induction v with
  | nil => intro base; simp [concatLookup, memL]
  | cons a v ih =>
    intro base
    unfold concatLookup at ih ⊢
    rw [List.map_cons, List.foldl_cons, ih]
    cases hak : h.eqv a k' <;> simp [memL, hak]

/-- `Add` on a `SetBuilder`, before (`shared = false`, in place) or after a `Build` -/
theorem sbAdd_sim (hl : LawfulHash h) {b : SetBuilder K} {r : List K} (hs : SSim h (hset b.m) r) (k : K) :
    ∃ b', b.add h k = .ok b' ∧ SSim h (hset b'.m) (inclL h r k) := by
  obtain ⟨m1, h1, hi1, hm1⟩ := mem_set hl hs.inv.2 k (!b.shared)
  refine ⟨{ b with m := m1 }, bind_ok h1 rfl, SSim.hset hi1 (distinct_inclL hs.distinct k) fun k' => ?_⟩
  rw [hm1, memL_inclL hl, ← hs.look, memL_hset]

theorem setBuilderFold_spec (hl : LawfulHash h) (v : List K) : ∀ {b : SetBuilder K} {r : List K},
    SSim h (hset b.m) r →
    ∃ b', v.foldlM (fun (b : SetBuilder K) x => b.add h x) b = .ok b' ∧
      SSim h (hset b'.m) (v.foldl (inclL h) r) := by
  induction v with
  | nil => intro b r hs; exact ⟨b, rfl, hs⟩
  | cons a v ih =>
    intro b r hs
    obtain ⟨b1, h1, hs1⟩ := sbAdd_sim hl hs a
    obtain ⟨b2, h2, hs2⟩ := ih hs1
    exact ⟨b2, bind_ok h1 h2, hs2⟩

theorem ssim_ctor (hl : LawfulHash h) (c : SCtor K) (hgo : (SExpr.ctor c).usesGoSet = true → Agree h) :
    ∃ s, c.eval h = .ok s ∧ SSim h s ((SExpr.ctor c).ref h) := by
  have hnil : DistinctL h ([] : List K) := List.Pairwise.nil
  cases c with
  | zero => exact ⟨⟨.nil, none⟩, rfl, ⟨fun _ => hgo rfl, trivial⟩, hnil, fun _ => rfl⟩
  | immutable v =>
    obtain ⟨m, h1, h2, h3⟩ := Hamt.ofList_spec hl (v.map (fun x => (x, true)))
    refine ⟨hset m, bind_ok h1 rfl, SSim.hset h2 (distinct_foldl_inclL v hnil) fun k => ?_⟩
    unfold mem
    rw [h3, concatLookup_isSome]
    exact (memL_foldl_inclL hl v [] k).symm
  | builder v1 v2 =>
    obtain ⟨b1, h1, hs1⟩ := setBuilderFold_spec hl v1 (b := SetBuilder.new) ssim_empty
    obtain ⟨b2, h2, hs2⟩ := setBuilderFold_spec hl v2 (b := b1.build.2) hs1
    rw [← List.foldl_append] at hs2
    exact ⟨hset b2.m, bind_ok h1 (bind_ok h2 rfl), hs2⟩

theorem ssim_eval (hl : LawfulHash h) (e : SExpr K) (hgo : e.usesGoSet = true → Agree h) :
    ∃ s, e.eval h = .ok s ∧ SSim h s (e.ref h) := by
  induction e with
  | ctor c => exact ssim_ctor hl c hgo
  | incl e k ih =>
    obtain ⟨s, h1, hs⟩ := ih hgo
    obtain ⟨s', h2, hs'⟩ := hs.incl hl k
    exact ⟨s', bind_ok h1 h2, hs'⟩
  | excl e k ih =>
    obtain ⟨s, h1, hs⟩ := ih hgo
    obtain ⟨s', h2, hs'⟩ := hs.excl hl k
    exact ⟨s', bind_ok h1 h2, hs'⟩
  | concat e ks ih =>
    obtain ⟨s, h1, hs⟩ := ih hgo
    obtain ⟨s', h2, hs'⟩ := hs.concat hl (fun _ => rfl)
    exact ⟨s', bind_ok h1 h2, hs'⟩
  | union a b iha ihb =>
    obtain ⟨x, h1, hx⟩ := iha (fun hu => hgo (Bool.or_eq_true_iff.mpr (.inl hu)))
    obtain ⟨y, h2, hy⟩ := ihb (fun hu => hgo (Bool.or_eq_true_iff.mpr (.inr hu)))
    obtain ⟨s', h3, hs'⟩ := hx.concat hl hy.look
    exact ⟨s', bind_ok h1 (bind_ok h2 (bind_ok (FSet.iterList_spec hy.inv) h3)), hs'⟩
  | diff a b iha ihb =>
    obtain ⟨x, h1, hx⟩ := iha (fun hu => hgo (Bool.or_eq_true_iff.mpr (.inl hu)))
    obtain ⟨y, h2, hy⟩ := ihb (fun hu => hgo (Bool.or_eq_true_iff.mpr (.inr hu)))
    obtain ⟨s', h3, hs'⟩ := hx.diff hl hy
    exact ⟨s', bind_ok h1 (bind_ok h2 h3), hs'⟩
  | intersect a b iha ihb =>
    obtain ⟨x, h1, hx⟩ := iha (fun hu => hgo (Bool.or_eq_true_iff.mpr (.inl hu)))
    obtain ⟨y, h2, hy⟩ := ihb (fun hu => hgo (Bool.or_eq_true_iff.mpr (.inr hu)))
    obtain ⟨s', h3, hs'⟩ := hx.intersect hl hy
    exact ⟨s', bind_ok h1 (bind_ok h2 h3), hs'⟩

/-- **Refinement, all operations, all constructors (fp.Set).**  For every expression built from the
    zero value, `immutable.Set(hasher, v...)`, a `SetBuilder` (with `Add`s before and after a
    `Build`; `ToSet`) by `Incl`, `Excl`, `Concat` (of a list or of another set), `Diff` and
    `Intersect`, every lawful hasher and all elements: the evaluation runs without panic, the result
    satisfies the representation invariant, and `Contains`, `Size`, `IsEmpty` and `Iterator` agree
    with the reference member list.  `Agree h` is required only if the zero value occurs. -/
theorem set_refinement_all (hl : LawfulHash h) (e : SExpr K) (hgo : e.usesGoSet = true → Agree h) :
    ∃ s, e.eval h = .ok s ∧ FSet.Inv h s ∧ SetAgrees h s (e.ref h) := by
  obtain ⟨s, h1, hs⟩ := ssim_eval hl e hgo
  exact ⟨s, h1, hs.inv, ssim_observe hl hs⟩

/-- **`SubsetOf` decides inclusion of the reference sets**, for any two set histories. -/
theorem subsetOf_all (hl : LawfulHash h) (a b : SExpr K)
    (hga : a.usesGoSet = true → Agree h) (hgb : b.usesGoSet = true → Agree h) :
    ∃ x y r, a.eval h = .ok x ∧ b.eval h = .ok y ∧ x.subsetOf h y = .ok r ∧
      (r = true ↔ ∀ k, memL h (a.ref h) k = true → memL h (b.ref h) k = true) := by
  obtain ⟨x, h1, hx⟩ := ssim_eval hl a hga
  obtain ⟨y, h2, hy⟩ := ssim_eval hl b hgb
  obtain ⟨r, h3, h4⟩ := FSet.subsetOf_spec hl hx.inv hy.inv
  refine ⟨x, y, r, h1, h2, h3, ?_⟩
  rw [h4]
  constructor
  · intro hall k hk; rw [← hy.look]; apply hall; rw [hx.look]; exact hk
  · intro hall k hk; rw [hy.look]; apply hall; rw [← hx.look]; exact hk

-- builder histories: every set a `SetBuilder` hands out --------------------------------------------------------

/-- the two methods of `immutable.SetBuilder` -/
inductive SBOp (K : Type) where
  | add (k : K)
  | build

/-- run a builder history; the result lists the sets handed out by the `Build()` calls, in order -/
def sbRun (h : Hasher K) : List (SBOp K) → SetBuilder K → GoE (List (FSet K))
  | [], _ => pure []
  | .add k :: ops, b => do sbRun h ops (← b.add h k)
  | .build :: ops, b => do
    let rest ← sbRun h ops b.build.2
    pure (⟨.hamt, some (.hamt b.build.1)⟩ :: rest)

/-- reference: the member list at each `Build()` -/
def sbRef (h : Hasher K) : List (SBOp K) → List K → List (List K)
  | [], _ => []
  | .add k :: ops, r => sbRef h ops (inclL h r k)
  | .build :: ops, r => r :: sbRef h ops r

/-- pointwise: the i-th set handed out agrees with the i-th reference list (and the lists have the
    same length) -/
def AllAgree (h : Hasher K) : List (FSet K) → List (List K) → Prop
  | [], [] => True
  | s :: ss, R :: Rs => (FSet.Inv h s ∧ SetAgrees h s R) ∧ AllAgree h ss Rs
  | _, _ => False

theorem sbRun_spec (hl : LawfulHash h) (ops : List (SBOp K)) : ∀ (b : SetBuilder K) (r : List K),
    SSim h (hset b.m) r → ∃ outs, sbRun h ops b = .ok outs ∧ AllAgree h outs (sbRef h ops r) := by
  induction ops with
  | nil => intro b r _; exact ⟨[], rfl, trivial⟩
  | cons op ops ih =>
    intro b r hs
    cases op with
    | add k =>
      obtain ⟨b1, h1, hs1⟩ := sbAdd_sim hl hs k
      obtain ⟨outs, h2, h3⟩ := ih b1 _ hs1
      exact ⟨outs, bind_ok h1 h2, h3⟩
    | build =>
      obtain ⟨outs, h2, h3⟩ := ih b.build.2 r hs
      exact ⟨hset b.m :: outs, bind_ok h2 rfl, ⟨hs.inv, ssim_observe hl hs⟩, h3⟩

/-- **Every set a `SetBuilder` ever hands out** — for any interleaving of `Add` and `Build` (in place
    before the first `Build`, copying afterwards) — satisfies the invariant and agrees with the
    reference set of the elements added before that `Build`.  (That a later `Add` does not change a
    set handed out earlier is the aliasing half, `Spec/C04Hamt.lean`.) -/
theorem setBuilder_history (hl : LawfulHash h) (ops : List (SBOp K)) :
    ∃ outs, sbRun h ops SetBuilder.new = .ok outs ∧
      AllAgree h outs (sbRef h ops []) :=
  sbRun_spec hl ops SetBuilder.new [] ssim_empty

/-- The zero-value `UnsafeGoSet` fallback does not refine the reference for `Eqv ≠ ==`:
    `Set{}.Incl(1)` does not contain `98` under `hMod97`, and `Incl(98)` makes `Size` 2. -/
theorem zero_set_needs_agree :
    (∃ s, (SExpr.incl (.ctor .zero) 1).eval hMod97 = .ok s ∧ s.contains hMod97 98 = .ok false ∧
      memL hMod97 ((SExpr.incl (.ctor .zero) 1).ref hMod97) 98 = true) ∧
    (∃ s, (SExpr.incl (.incl (.ctor .zero) 1) 98).eval hMod97 = .ok s ∧ s.size = 2 ∧
      ((SExpr.incl (.incl (.ctor .zero) 1) 98).ref hMod97).length = 1) :=
  ⟨⟨_, rfl, rfl, by decide⟩, ⟨_, rfl, by decide, by decide⟩⟩

-- =====================================================================================================
-- 3. the hypotheses are satisfiable; zero-value instances
-- =====================================================================================================

/-- the low-entropy hasher of the property statement (five hash values), `Eqv` = `==` -/
def hMod5 : Hasher Nat := ⟨fun k => UInt32.ofNat (k % 5), fun a b => a == b⟩

theorem hMod5_lawful : LawfulHash hMod5 := C03.lawful_of_eq _
theorem hMod5_agree : Agree hMod5 := fun _ _ => rfl
theorem hMod5_eq : ∀ a b, hMod5.eqv a b = true ↔ a = b := by intro a b; simp [hMod5]

/-- `refinement_all` instantiated at the zero value: a mixed history over `fp.Map[int,int]{}`. -/
example : ∃ m0 m, (MCtor.zero : MCtor Nat Nat).eval hMod5 = .ok m0 ∧
    MOp.run hMod5 [.updated 1 10, .updated 6 60, .removed [1, 7], .updatedWith 6 (fun o => o.map (· + 1)),
      .concat [(11, 0), (6, 5)], .updatedWith 11 (fun _ => none)] m0 = .ok m ∧ FMap.Inv hMod5 m ∧
    MapAgrees hMod5 m (MRef.run hMod5 [.updated 1 10, .updated 6 60, .removed [1, 7],
      .updatedWith 6 (fun o => o.map (· + 1)), .concat [(11, 0), (6, 5)], .updatedWith 11 (fun _ => none)]
      (MCtor.zero.ref hMod5)) :=
  refinement_all hMod5_lawful .zero (fun _ => hMod5_agree) _

/-- … and the model really runs through the Go-map fallback there (the result is `[(6, 5)]`). -/
example : (MOp.run hMod5 [.updated 1 10, .updated 6 60, .removed [1, 7], .updatedWith 6 (fun o => o.map (· + 1)),
      .concat [(11, 0), (6, 5)], .updatedWith 11 (fun _ => none)] (⟨none⟩ : FMap Nat Nat)).toOption.map
      (fun m => (m.entries, m.size)) = some ([(6, 5)], 1) := by decide

/-- a history from `immutable.Map` with a COLLIDING lawful hasher whose `Eqv` is not `==`: no `Agree` -/
example : ∃ m0 m, (MCtor.immutable [(1, 1), (98, 2)] : MCtor Nat Nat).eval hMod97 = .ok m0 ∧
    MOp.run hMod97 [.updated 195 3, .removed [2]] m0 = .ok m ∧ FMap.Inv hMod97 m ∧
    MapAgrees hMod97 m (MRef.run hMod97 [.updated 195 3, .removed [2]]
      ((MCtor.immutable [(1, 1), (98, 2)]).ref hMod97)) :=
  refinement_all hMod97_lawful _ (fun hc => by cases hc) _

/-- `set_refinement_all` instantiated at the zero value: `Set{}` on both sides of `Diff`/`Intersect`,
    mixed with an `immutable.Set` and a builder. -/
example : ∃ s, (SExpr.diff (.incl (.incl (.ctor .zero) 1) 6)
      (.intersect (.ctor (.immutable [6, 11, 6])) (.union (.ctor .zero) (.ctor (.builder [6] [16]))))).eval hMod5
      = .ok s ∧ FSet.Inv hMod5 s ∧
    SetAgrees hMod5 s ((SExpr.diff (.incl (.incl (.ctor .zero) 1) 6)
      (.intersect (.ctor (.immutable [6, 11, 6])) (.union (.ctor .zero) (.ctor (.builder [6] [16]))))).ref hMod5) :=
  set_refinement_all hMod5_lawful _ (fun _ => hMod5_agree)

/-- the zero-value path of the set model, executed: `Set{}.Incl(1).Incl(6).Incl(1).Excl(1)` -/
example : ((SExpr.excl (.incl (.incl (.incl (.ctor .zero) 1) 6) 1) 1).eval hMod5).toOption.map
    (fun s => (s.elems, s.size, s.getEmpty)) = some ([6], 1, EmptyFn.goSet) := by decide

/-- `Diff` on the zero value (nil `getEmpty`, `Set.empty()` of set.go) is the empty set, not a panic -/
example : ((SExpr.diff (.ctor .zero) (.ctor .zero)).eval hMod5).toOption.map
    (fun s => (s.elems, s.size)) = some ([], 0) := by decide

end FpVerif.Spec.C03All
