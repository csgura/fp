import FpVerif.Gen.TCGen
import FpVerif.Lemmas.TCGenCheck
import FpVerif.Lemmas.GoSemLoops
import FpVerif.Spec.C09
/-!
# C09 (and, through `ord`, C10) — the HAND-WRITTEN combinators of `eq/eq_op.go` (and `EqFunc`, `EqGiven` of `typeclass.go`),
# TRANSLATED from the source on every run, are the model definitions  (package hash: `Spec/C09GenHash.lean`; the predicate helpers of eq_op.go: `Spec/C09GenPred.lean`)

`FpVerif/Gen/TCGen.lean` is produced by `harness/cmd/tc2lean` from the working tree: one Lean definition per Go
function, same statements (`if`/`return` chains, the index loop of `eq.Seq`, the accumulator loop of `hash.String`,
`seq.Fold` of `hash.Seq`, the closures handed to `New`).  The statements below are fixed here under version control:
for every translated declaration `X` a theorem `X_is_model : X … = <definition of Model/TypeClasses.lean>`.

* `rfl`  — the kernel unfolds both sides to the same term (straight-line code);
* proved — a proved extensional equality for ALL arguments where the Go text and the model differ in form
  (`if IsEmpty/IsDefined` chains vs. pattern matching; index loops vs. structural recursion / `foldl`).

Every theorem is quantified over all `GoZero` instances (the value a panicking `Get()`, `*p`, `a[i]` would read), the
model side does not mention `GoZero`: no result depends on such a read.

At the end: laws of `Spec/C09` transported to the translated code.  The coverage theorem (exported declarations of the
files = translated ∪ exceptions) is `Spec/TCGenCover.lean`.
-/
namespace FpVerif.Spec.C09Gen
open FpVerif.TC FpVerif.GoSem FpVerif.Gen.TC

variable {T U A H : Type}

-- typeclass.go -----------------------------------------------------------------------------------------------------

/-- `EqFunc.Eqv` calls the function: the dictionary built from an `EqFunc` is `⟨f⟩` (rfl) -/
theorem fp_EqFunc_Eqv_is_model [GoZero T] (r : T → T → Bool) : fp_EqFunc_Eqv r = (EqD.mk r).eqv := rfl
/-- `fp.EqGiven` is `==` (rfl) -/
theorem fp_EqGiven_is_model [DecidableEq T] [GoZero T] : (fp_EqGiven : EqD T) = EqD.given := rfl

-- eq/eq_op.go --------------------------------------------------------------------------------------------------------

theorem eq_New_is_model [GoZero T] (f : T → T → Bool) : eq_New f = EqD.new f := rfl
theorem eq_Tuple1_is_model [GoZero A] (a : EqD A) : eq_Tuple1 a = EqD.tuple1 a := rfl
theorem eq_Given_is_model [DecidableEq T] [GoZero T] : (eq_Given : EqD T) = EqD.given := rfl
theorem eq_String_is_model : eq_String = (EqD.given : EqD String) := rfl
theorem eq_HNil_is_model : eq_HNil = EqD.hnil := rfl
theorem eq_HCons_is_model [GoZero H] [HListT T] [GoZero T] (heq : EqD H) (teq : EqD T) :
    eq_HCons heq teq = EqD.hcons heq teq := rfl
theorem eq_ContraMap_is_model [GoZero T] [GoZero U] (inst : EqD T) (fn : U → T) :
    eq_ContraMap inst fn = EqD.contraMap inst fn := rfl

/-- proved: the `IsEmpty && IsEmpty` / `IsDefined && IsDefined` chain is the model's pattern match -/
theorem eq_Option_is_model [GoZero T] (eq : EqD T) : eq_Option eq = EqD.option eq := by
  unfold eq_Option EqD.option fp_EqFunc_Eqv
  congr 1; funext t1 t2
  cases t1 <;> cases t2 <;> rfl

/-- proved: the size guard followed by the index loop `for i := range a { if !eq.Eqv(a[i], b[i]) { return false } }`
    is the model's guard followed by the structural recursion `seqLoop`, for all slices -/
theorem eq_Seq_is_model [GoZero T] (eq : EqD T) : eq_Seq eq = EqD.seq eq := by
  unfold eq_Seq EqD.seq eq_New EqD.new fp_EqFunc_Eqv
  congr 1; funext a b
  by_cases h : a.length = b.length
  · have h' : (a.length != b.length) = false := by simp [h]
    simp only [h', Bool.false_eq_true, ↓reduceIte]
    exact forRange_eq_seqLoop eq a b h
  · have h' : (a.length != b.length) = true := by simp [h]
    simp only [h', ↓reduceIte]

theorem eq_Slice_is_model [GoZero T] (eq : EqD T) : eq_Slice eq = EqD.slice eq := by
  unfold eq_Slice EqD.slice; rw [eq_ContraMap_is_model, eq_Seq_is_model]

/-- proved: the nil tests of `eq.Ptr` are the model's pattern match; the pointee instance is forced lazily at the
    same place (`eq.Get()` only when both are non-nil) -/
theorem eq_Ptr_is_model [GoZero T] (eq : Unit → EqD T) : eq_Ptr eq = EqD.ptr eq := by
  unfold eq_Ptr EqD.ptr eq_New EqD.new fp_EqFunc_Eqv
  congr 1; funext a b
  cases a <;> cases b <;> rfl

theorem eq_PtrGiven_is_model [DecidableEq T] [GoZero T] : (eq_PtrGiven : EqD (Ptr T)) = EqD.ptrGiven := by
  unfold eq_PtrGiven EqD.ptrGiven; rw [eq_Ptr_is_model]; rfl

-- what the ties buy: laws of Spec/C09 hold for the translated code ---------------------------------------------------

theorem eq_Seq_lawful [GoZero T] {e : EqD T} (h : LawfulEq e) : LawfulEq (eq_Seq e) := by
  rw [eq_Seq_is_model]; exact FpVerif.Spec.C09.seq_lawful h

theorem eq_Option_lawful [GoZero T] {e : EqD T} (h : LawfulEq e) : LawfulEq (eq_Option e) := by
  rw [eq_Option_is_model]; exact FpVerif.Spec.C09.option_lawful h

theorem eq_Ptr_lawful [GoZero T] {e : Unit → EqD T} (h : LawfulEq (e ())) : LawfulEq (eq_Ptr e) := by
  rw [eq_Ptr_is_model]; exact FpVerif.Spec.C09.ptr_lawful h

/-- the translated `eq.Seq` decides what the model's does (`Spec/C09.seq_eqv_iff`) -/
theorem eq_Seq_eqv_iff [GoZero T] (e : EqD T) (a b : List T) :
    (eq_Seq e).eqv a b = (EqD.seq e).eqv a b := by rw [eq_Seq_is_model]

/-- the hypotheses are satisfiable -/
example : LawfulEq (eq_Seq (eq_Option (eq_Given : EqD Int))) :=
  eq_Seq_lawful (eq_Option_lawful (by rw [eq_Given_is_model]; exact FpVerif.Spec.C09.given_lawful))

end FpVerif.Spec.C09Gen

-- every translated declaration of these files has its tie theorem above (fails the build otherwise)
#tc_ties FpVerif.Spec.C09Gen "fp.EqFunc." "fp.EqGiven" "eq.New" "eq.Tuple1" "eq.Option" "eq.Seq" "eq.Slice" "eq.HNil" "eq.HCons" "eq.Given" "eq.Ptr" "eq.PtrGiven" "eq.ContraMap" "eq.String"
