import FpVerif.Lemmas.IterSim
import FpVerif.Lemmas.Pure1
import FpVerif.Lemmas.ListLoops
import FpVerif.Lemmas.ListGen
import FpVerif.Lemmas.ListDen
import FpVerif.Lemmas.RefFolds
import FpVerif.Lemmas.ListForced
import FpVerif.Lemmas.ListQuiesce
import FpVerif.Lemmas.ListDemand
/-!
# C12 (lazy `fp.List` part) — every list expression evaluates to a heap representation of its
# denotation; memoised cells are evaluated at most once; the cursor loops of package `list` compute
# the list folds and stop forcing at the first failure

The model (`Model/LazyList.lean`) keeps the `sync.Once` cells of every `ListAdaptor` in a heap and
runs the closures of `list.Map`, `FlatMap`, `FilterMap`, `Combine`, `Zip`, `ZipWithIndex`, `Scan`,
`GenerateFrom`, `Collect`, `ReverseSeq` … statement by statement; the oracle executes exactly these
definitions.

* `memo_*`: forcing a cell that is done returns the stored value and runs nothing — no callback,
  no heap change; forcing a pending cell stores its value.
* `started_at_most_once`: from the empty heap, whatever expression is built and whatever sequence
  of operations is executed, every cell's closure has been started at most once.
* a closure that PANICS (`head_closure_panics`, `tail_closure_panics`, `lazy_closure_panics`,
  `*_cell_after_panic`): `sync.Once` is done also on the panic path, so the panic propagates and the
  cell is done with the zero value (`None` / the nil list `LV.nilIface`), started once; afterwards it
  returns that zero value and runs nothing; every method call on the nil list is a nil dereference.
  `running_only_while_closure_runs` / `no_cell_left_running`: no operation, returning or panicking,
  leaves a cell `running` — the model panic `deadlock` only arises from genuine re-entrance.
* `list_*_eq`: the loops of `list.Fold`, `FoldTry`, `FoldOption`, `FoldError`, `FoldRight`/`Reduce`,
  `ToSeq` — modelled literally with their cursor — terminate on every finite list and equal the
  list computation, for every list representation that satisfies the `fp.List` interface contract
  `LSim`; `FoldTry`/`FoldOption`/`FoldError` stop with the cursor on the failing element.
* demand (section "demand", audit finding 13): for generated lists (`GenerateFrom`: `Generate`, `Range`,
  `RangeClosed`) the heap is accounted for exactly — `k` steps of a traversal create exactly `k` new
  cell pairs (`walk_generated_cells`), and a fold that fails at an element leaves the tail cell of
  that element PENDING and LAST in the heap (`foldTry_stops_forcing`, `foldOption_stops_forcing`,
  `foldError_stops_forcing`): the cells of what follows do not exist.
* `eval_denote` (TOTAL, all sixteen constructors of `LExpr`, i.e. also the closures of `Map`,
  `FlatMap`, `FilterMap`, `Combine`, `Zip`, `ZipWithIndex`, `Scan`, `Collect`, `ReverseSeq`, nested
  arbitrarily, with sharing): for callbacks that do not panic, `eval e` returns — without panic,
  `sync.Once` re-entrance or fuel exhaustion, for every fuel ≥ `e.bnd x` — a value that satisfies
  the interface contract w.r.t. `LExpr.denote e`.  The proof (Lemmas/ListTy, ListTyHeap, ListTot) is a
  type-soundness argument: a ghost typing `Sty` of the heap assigns every memo cell the value / list
  it will produce and the fuel forcing it needs; `eval_denote_typed` is the statement for an
  arbitrary well-typed start heap (so expressions evaluated one after the other share one heap and
  all stay valid: `typed_values_stay_typed`).
* `eval_toSeq_eq`, `eval_fold_eq`, `eval_foldTry_eq`, `eval_foldOption_eq`, `eval_foldError_eq`,
  `eval_foldRight_eq`, `eval_reduce_eq`: end to end — `list.X(eval e)` = the list function on
  `denote e`, and afterwards every memo cell has been started at most once.
* `eval_toSeq_twice` (memoisation end to end): a second traversal returns the same list and leaves
  heap and log unchanged (`toSeq_again`: so does every traversal that returned, whatever list value, heap
  and callbacks — `toSeq_ok_forced` in Lemmas/ListForced, `doneSubStep` in Lemmas/ListTyHeap); `fromList_represents`: `iterator.FromList` of any such list is an iterator
  in the sense of C12/C20.
* `list_fold_panic`, `list_foldTry_panic`, `eval_fold_panic`: the step function of the fold may
  panic — the panic propagates, the cursor rests on the element whose step panicked.
-/
namespace FpVerif.Spec.C12List
open FpVerif FpVerif.It FpVerif.LL

/-! ## memoisation -/

/-- `getHead` of a cell that is done: the stored value, nothing is run, nothing changes. -/
theorem memo_head_not_rerun (fuel c : Nat) (hp : Heap) (lg : Log) (v : Option Val) (n : Nat)
    (h : hp.hs[c]? = some (.done v, n)) : forceH (fuel + 1) c hp lg = (.ok v, hp, lg) :=
  (forceH_eq fuel c hp lg).trans (force_done hsA _ _ c h)

theorem memo_tail_not_rerun (fuel c : Nat) (hp : Heap) (lg : Log) (v : LV) (n : Nat)
    (h : hp.ts[c]? = some (.done v, n)) : forceT (fuel + 1) c hp lg = (.ok v, hp, lg) :=
  (forceT_eq fuel c hp lg).trans (force_done tsA _ _ c h)

theorem memo_lazy_not_rerun (fuel c : Nat) (hp : Heap) (lg : Log) (v : LV) (n : Nat)
    (h : hp.ls[c]? = some (.done v, n)) : forceL (fuel + 1) c hp lg = (.ok v, hp, lg) :=
  (forceL_eq fuel c hp lg).trans (force_done lsA _ _ c h)

/-- after a successful `getHead` the cell is done and holds the returned value — so by
    `memo_head_not_rerun` every later `IsEmpty`/`Head` on it is free. -/
theorem memo_head_stored (fuel c : Nat) (hp hp' : Heap) (lg lg' : Log) (v : Option Val)
    (h : forceH (fuel + 1) c hp lg = (.ok v, hp', lg')) (hc : c < hp'.hs.size) :
    ∃ n, hp'.hs[c]? = some (.done v, n) :=
  force_stores hsA _ _ c ((forceH_eq fuel c hp lg).symm.trans h) hc

/-- One operation of the interface or one library call, on any list value / expression. -/
inductive Op where
  | isEmpty (l : LV) | head (l : LV) | tail (l : LV) | headOpt (l : LV)
  | eval (e : LExpr) (x : Val)
  | toSeq (l : LV)
  | fold (f : Val → Val → GoM Val) (l : LV) (z : Val)

def Op.run (fuel : Nat) : Op → Heap → Log → Heap × Log
  | .isEmpty l, hp, lg => let r := LL.isEmpty fuel l hp lg; (r.2.1, r.2.2)
  | .head l, hp, lg => let r := LL.head fuel l hp lg; (r.2.1, r.2.2)
  | .tail l, hp, lg => let r := LL.tail fuel l hp lg; (r.2.1, r.2.2)
  | .headOpt l, hp, lg => let r := LL.headOpt fuel l hp lg; (r.2.1, r.2.2)
  | .eval e x, hp, lg => let r := LL.eval fuel e x hp lg; (r.2.1, r.2.2)
  | .toSeq l, hp, lg => let r := LL.toSeq fuel l [] hp lg; (r.2.1, r.2.2)
  | .fold f l z, hp, lg => let r := LL.fold f fuel l z hp lg; (r.2.1, r.2.2)

def runOps (fuel : Nat) : List Op → Heap → Log → Heap × Log
  | [], hp, lg => (hp, lg)
  | op :: ops, hp, lg => let r := op.run fuel hp lg; runOps fuel ops r.1 r.2

/-- every operation moves the heap along every relation that the thirteen functions respect … -/
theorem Op.run_steps {R : Heap → Heap → Prop} (hR : StepRel R) (fuel : Nat) (op : Op) (hp : Heap) (lg : Log) :
    R hp (op.run fuel hp lg).1 := by
  have hA := stepsAll hR fuel
  cases op with
  | isEmpty l => exact hA.isEmpty l hp lg
  | head l => exact hA.head l hp lg
  | tail l => exact hA.tail l hp lg
  | headOpt l => exact hA.headOpt l hp lg
  | eval e x => exact hA.eval e x hp lg
  | toSeq l => exact hR.toSeq fuel l [] hp lg
  | fold f l z => exact hR.fold f fuel l z hp lg

/-- … hence so does every sequence of operations -/
theorem runOps_steps {R : Heap → Heap → Prop} (hR : StepRel R) (fuel : Nat) :
    ∀ (ops : List Op) (hp : Heap) (lg : Log), R hp (runOps fuel ops hp lg).1
  | [], hp, _ => hR.refl hp
  | op :: ops, hp, lg => hR.trans (op.run_steps hR fuel hp lg) (runOps_steps hR fuel ops _ _)

/-- Each cell is evaluated at most once: starting from the empty heap, after ANY sequence of
    library calls and interface operations (on any list values, with any callbacks — also ones
    that panic — and any fuel), no cell's closure has been started more than once. -/
theorem started_at_most_once (fuel : Nat) (ops : List Op) (lg : Log) :
    (runOps fuel ops {} lg).1.maxEvals ≤ 1 :=
  WF.maxEvals_le _ (runOps_steps wfStep fuel ops {} lg Heap.WF.empty)

/-! ## a list closure that panics

`fp.Memoize(f)` is `once.Do(func() { ret = f() }); return ret`.  `sync.Once` marks itself done also when
`f` panics, and then `ret` was never assigned: the cell is DONE and holds the zero value of its type —
`None` for `getHead`, the nil `fp.List` interface (`LV.nilIface`) for `getTail` and for the `lazy.Call`
cells of `FlatMap`.  So after a panicking closure the cell is never started again
(`started_at_most_once` above covers every program, also across panics) and later reads return the
zero value; every method call on the nil list is Go's nil-dereference panic. -/

/-- a head closure panics: `getHead` propagates the panic (heap and log as the closure left them) and
    leaves the cell DONE with the zero value `None`, its start counter incremented exactly once -/
theorem head_closure_panics (fuel c : Nat) (hp hp1 : Heap) (lg lg1 : Log) (t : HThunk) (n : Nat) (p : PanicVal)
    (hcell : hp.hs[c]? = some (.pending t, n))
    (hrun : runH fuel t { hp with hs := hp.hs.set! c (.running, n + 1) } lg = (.error p, hp1, lg1)) :
    forceH (fuel + 1) c hp lg = (.error p, { hp1 with hs := hp1.hs.set! c (.done none, n + 1) }, lg1) :=
  (forceH_eq fuel c hp lg).trans (force_panic hsA _ _ c hcell hrun)

/-- … and afterwards, for every fuel and log: the cell returns `None` and nothing runs (heap and log
    unchanged) — the list says `IsEmpty() = true` and `Head()` panics `List.empty` (not the closure's
    panic: the closure is not run again) -/
theorem head_cell_after_panic (c tc : Nat) (hp1 : Heap) (n : Nat) (hc : c < hp1.hs.size) (fuel2 : Nat) (lg2 : Log) :
    let hp2 : Heap := { hp1 with hs := hp1.hs.set! c (.done none, n + 1) }
    forceH (fuel2 + 1) c hp2 lg2 = (.ok none, hp2, lg2) ∧
    isEmpty (fuel2 + 2) (.adaptor c tc) hp2 lg2 = (.ok true, hp2, lg2) ∧
    head (fuel2 + 2) (.adaptor c tc) hp2 lg2 = (.error listEmpty, hp2, lg2) := by
  intro hp2
  have h := (forceH_eq fuel2 c hp2 lg2).trans (force_done hsA _ _ c (set_get_same _ _ _ hc))
  exact ⟨h, (bind_ok h).trans rfl, (bind_ok h).trans rfl⟩

/-- a tail closure panics: `getTail` propagates the panic and leaves the cell DONE with the zero
    `fp.List` — the nil interface -/
theorem tail_closure_panics (fuel c : Nat) (hp hp1 : Heap) (lg lg1 : Log) (t : TThunk) (n : Nat) (p : PanicVal)
    (hcell : hp.ts[c]? = some (.pending t, n))
    (hrun : runT fuel t { hp with ts := hp.ts.set! c (.running, n + 1) } lg = (.error p, hp1, lg1)) :
    forceT (fuel + 1) c hp lg = (.error p, { hp1 with ts := hp1.ts.set! c (.done .nilIface, n + 1) }, lg1) :=
  (forceT_eq fuel c hp lg).trans (force_panic tsA _ _ c hcell hrun)

/-- … and afterwards: `Tail()` RETURNS — the nil list, nothing runs — and every method call on that
    result is a nil dereference that changes neither heap nor log -/
theorem tail_cell_after_panic (hc' c : Nat) (hp1 : Heap) (n : Nat) (hc : c < hp1.ts.size) (fuel2 fuel3 : Nat) (lg2 : Log) :
    let hp2 : Heap := { hp1 with ts := hp1.ts.set! c (.done .nilIface, n + 1) }
    forceT (fuel2 + 1) c hp2 lg2 = (.ok .nilIface, hp2, lg2) ∧
    tail (fuel2 + 2) (.adaptor hc' c) hp2 lg2 = (.ok .nilIface, hp2, lg2) ∧
    isEmpty (fuel3 + 1) .nilIface hp2 lg2 = (.error nilDeref, hp2, lg2) ∧
    head (fuel3 + 1) .nilIface hp2 lg2 = (.error nilDeref, hp2, lg2) ∧
    tail (fuel3 + 1) .nilIface hp2 lg2 = (.error nilDeref, hp2, lg2) := by
  intro hp2
  have h := (forceT_eq fuel2 c hp2 lg2).trans (force_done tsA _ _ c (set_get_same _ _ _ hc))
  exact ⟨h, h, rfl, rfl, rfl⟩

/-- the `lazy.Call` cell of `FlatMap` (`fn(opt.Head())`), same story -/
theorem lazy_closure_panics (fuel c : Nat) (hp hp1 : Heap) (lg lg1 : Log) (opt : LV) (k : FnK) (n : Nat) (p : PanicVal)
    (hcell : hp.ls[c]? = some (.pending (opt, k), n))
    (hrun : (do let x ← head fuel opt; applyK fuel k x : HM LV)
      { hp with ls := hp.ls.set! c (.running, n + 1) } lg = (.error p, hp1, lg1)) :
    forceL (fuel + 1) c hp lg = (.error p, { hp1 with ls := hp1.ls.set! c (.done .nilIface, n + 1) }, lg1) :=
  (forceL_eq fuel c hp lg).trans (force_panic lsA _ _ c hcell hrun)

theorem lazy_cell_after_panic (c : Nat) (hp1 : Heap) (n : Nat) (hc : c < hp1.ls.size) (fuel2 : Nat) (lg2 : Log) :
    let hp2 : Heap := { hp1 with ls := hp1.ls.set! c (.done .nilIface, n + 1) }
    forceL (fuel2 + 1) c hp2 lg2 = (.ok .nilIface, hp2, lg2) := by
  intro hp2
  exact (forceL_eq fuel2 c hp2 lg2).trans (force_done lsA _ _ c (set_get_same _ _ _ hc))

/-- the clean-up on the panic path keeps the start counters ≤ 1: from a well-formed heap, forcing any
    cell — whether its closure returns or panics — gives a well-formed heap -/
theorem force_keeps_wf (fuel c : Nat) (hp : Heap) (lg : Log) (wf : hp.WF) :
    (forceH fuel c hp lg).2.1.WF ∧ (forceT fuel c hp lg).2.1.WF ∧ (forceL fuel c hp lg).2.1.WF :=
  ⟨(presAll fuel).forceH c hp lg wf, (presAll fuel).forceT c hp lg wf, (presAll fuel).forceL c hp lg wf⟩

/-- every operation of the model (the thirteen mutually recursive functions: interface methods, forcing
    a cell, the closure bodies, the constructors), from ANY heap, whether it returns or panics, ends with
    exactly the cells running that were running when it started: a cell is `running` only WHILE its
    closure runs — `sync.Once` is done on the return path and on the panic path. -/
theorem running_only_while_closure_runs (fuel : Nat) : KeepAll fuel := keepAll fuel

/-- … hence no cell is ever left `running`: from the empty heap, after ANY sequence of library calls
    and interface operations (any list values, any callbacks — also ones that panic —, any fuel; each
    operation returns or panics) no memo cell is in state `running`.  So the model panic `deadlock`
    (forcing a running cell: Go's self-deadlock of `sync.Once`) can only arise from genuine re-entrance
    inside one operation, never as an after-effect of an earlier panic. -/
theorem no_cell_left_running (fuel : Nat) (ops : List Op) (lg : Log) :
    (runOps fuel ops {} lg).1.NoRunning :=
  (runOps_steps sameRunStep fuel ops {} lg).noRunning Heap.NoRunning.empty

/-- the hypotheses of `head_closure_panics` are satisfiable: a `GenerateFrom` head cell whose generator panics -/
example : ∃ (hp : Heap) (t : HThunk) (p : PanicVal),
    hp.hs[0]? = some (.pending t, 0) ∧
    runH 1 t { hp with hs := hp.hs.set! 0 (.running, 0 + 1) } [] =
      (.error p, { hp with hs := hp.hs.set! 0 (.running, 0 + 1) }, []) := by
  refine ⟨{ hs := #[(.pending (.gen 0 (fun _ => goPanic "boom")), 0)] }, .gen 0 (fun _ => goPanic "boom"), "boom", rfl, rfl⟩

/-! ## the loops of package `list` -/

variable {k : Nat} {R : Heap → LV → List Val → Prop}

theorem list_toSeq_eq (hS : LSim k R) (hp : Heap) (l : LV) (xs : List Val) (h : R hp l xs)
    (fuel : Nat) (hfuel : k + xs.length < fuel) (lg : Log) :
    ∃ hp' lg', LL.toSeq fuel l [] hp lg = (.ok xs, hp', lg') := by
  obtain ⟨hp', lg', e, _⟩ := toSeq_lspec hS xs fuel hp l [] lg hfuel h
  exact ⟨hp', lg', by simpa using e⟩

theorem list_fold_eq (f : Val → Val → GoM Val) (g : Val → Val → Val) (hf : Total2 f g)
    (hS : LSim k R) (hp : Heap) (l : LV) (xs : List Val) (h : R hp l xs) (z : Val)
    (fuel : Nat) (hfuel : k + xs.length < fuel) (lg : Log) :
    ∃ hp' lg', LL.fold f fuel l z hp lg = (.ok (xs.foldl g z), hp', lg') :=
  fold_lspec hf hS xs fuel hp l z lg hfuel h

/-- `list.FoldTry` terminates, equals the reference fold, and on a failure the cursor `l'` rests on
    the failing element `a` (`R hp' l' (a :: rest)`: the loop did not call `Tail` on it).  For an
    ABSTRACT contract `R` this says nothing about which memo cells are done; that "what follows has
    not been forced" is a statement about the heap and is proved, in the conclusion, for generated
    lists in `foldTry_stops_forcing` below (section "demand"). -/
theorem list_foldTry_eq (f : Val → Val → GoM (Try Val)) (g : Val → Val → Try Val) (hf : Total2 f g)
    (hS : LSim k R) (hp : Heap) (l : LV) (xs : List Val) (h : R hp l xs) (z : Val)
    (fuel : Nat) (hfuel : k + xs.length < fuel) (lg : Log) :
    ∃ hp' lg', LL.foldTry f fuel l z hp lg = (.ok (foldTryL g z xs).1, hp', lg') ∧
      ((foldTryL g z xs).1.isSuccess = false → ∃ l' a, R hp' l' (a :: (foldTryL g z xs).2)) :=
  foldTry_lspec hf hS xs fuel hp l z lg hfuel h

/-- `list.FoldOption` as the property demands it (the cursor advances): terminates on every finite
    list and equals the reference fold; at a `None` the cursor rests on the failing element (heap
    level: `foldOption_stops_forcing`).  The Go loop does not advance the cursor (defect D4). -/
theorem list_foldOption_eq (f : Val → Val → GoM (Option Val)) (g : Val → Val → Option Val) (hf : Total2 f g)
    (hS : LSim k R) (hp : Heap) (l : LV) (xs : List Val) (h : R hp l xs) (z : Val)
    (fuel : Nat) (hfuel : k + xs.length < fuel) (lg : Log) :
    ∃ hp' lg', LL.foldOption f fuel l z hp lg = (.ok (foldOptionL g z xs).1, hp', lg') ∧
      ((foldOptionL g z xs).1 = none → ∃ l' a, R hp' l' (a :: (foldOptionL g z xs).2)) :=
  foldOption_lspec hf hS xs fuel hp l z lg hfuel h

theorem list_foldError_eq (f : Val → GoM (Option Err)) (g : Val → Option Err) (hf : Total f g)
    (hS : LSim k R) (hp : Heap) (l : LV) (xs : List Val) (h : R hp l xs)
    (fuel : Nat) (hfuel : k + xs.length < fuel) (lg : Log) :
    ∃ hp' lg', LL.foldError f fuel l hp lg = (.ok (foldErrorL g xs).1, hp', lg') ∧
      ((foldErrorL g xs).1.isSome = true → ∃ l' a, R hp' l' (a :: (foldErrorL g xs).2)) :=
  foldError_lspec hf hS xs fuel hp l lg hfuel h

/-- `list.FoldRight` with a forcing step, and `list.Reduce`, are the right fold. -/
theorem list_foldRight_eq (f : Val → Val → GoM Val) (g : Val → Val → Val) (hf : Total2 f g)
    (hS : LSim k R) (hp : Heap) (l : LV) (xs : List Val) (h : R hp l xs) (zero : Val)
    (fuel : Nat) (hfuel : k + xs.length < fuel) (lg : Log) :
    ∃ hp' lg', LL.foldRight zero (fun a th => do let b ← th; IM.liftG (f a b)) fuel l hp lg =
      (.ok (xs.foldr g zero), hp', lg') := by
  induction xs generalizing fuel hp l lg with
  | nil =>
    obtain ⟨n, rfl⟩ := Nat.exists_eq_succ_of_ne_zero (Nat.ne_zero_of_lt hfuel)
    obtain ⟨hp1, lg1, h1, _⟩ := hS.isEmpty n hp l [] lg (Nat.le_of_lt_succ hfuel) h
    exact ⟨hp1, lg1, by simp [LL.foldRight, bind_ok h1]⟩
  | cons x xs ih =>
    obtain ⟨n, rfl⟩ := Nat.exists_eq_succ_of_ne_zero (Nat.ne_zero_of_lt hfuel)
    have hk : k ≤ n := Nat.le_of_add_right_le (Nat.le_of_lt_succ hfuel)
    obtain ⟨hp1, lg1, h1, hR1⟩ := hS.isEmpty n hp l (x :: xs) lg hk h
    obtain ⟨hp2, lg2, h2, hR2⟩ := hS.head n hp1 l x xs lg1 hk hR1
    obtain ⟨t, hp3, lg3, h3, hR3⟩ := hS.tail n hp2 l x xs lg2 hk hR2
    obtain ⟨hp4, lg4, h4⟩ := ih hp3 t hR3 n (Nat.lt_of_succ_lt_succ hfuel) lg3
    obtain ⟨lg5, h5⟩ := liftG_total2 hf x (xs.foldr g zero) hp4 lg4
    refine ⟨hp4, lg5, ?_⟩
    have h34 : (do let t ← LL.tail n l; LL.foldRight zero (fun a th => do let b ← th; IM.liftG (f a b)) n t) hp2 lg2
        = (.ok (xs.foldr g zero), hp4, lg4) := by rw [bind_ok h3, h4]
    simp [LL.foldRight, bind_ok h1, bind_ok h2, bind_ok h34, h5]

theorem list_reduce_eq (combine : Val → Val → GoM Val) (g : Val → Val → Val) (hf : Total2 combine g)
    (hS : LSim k R) (hp : Heap) (l : LV) (xs : List Val) (h : R hp l xs) (empty : Val)
    (fuel : Nat) (hfuel : k + xs.length < fuel) (lg : Log) :
    ∃ hp' lg', LL.reduce empty combine fuel l hp lg = (.ok (xs.foldr g empty), hp', lg') :=
  list_foldRight_eq combine g hf hS hp l xs h empty fuel hfuel lg

/-! ## the interface contract holds for the heap-free representations -/

/-- `Nil`, `Cons` and `Seq` satisfy the contract (so the theorems above are not vacuous). -/
theorem plain_lists_satisfy_contract : LSim 1 (fun _ l xs => plainDen l = some xs) where
  isEmpty _ hp _ _ lg hk h := ⟨hp, lg, (plainDen_ops h hk hp lg).1, h⟩
  head _ hp _ x xs lg hk h := ⟨hp, lg, ((plainDen_ops h hk hp lg).2 x xs rfl).1, h⟩
  tail _ hp _ x xs lg hk h :=
    have ⟨t, ht, hd⟩ := ((plainDen_ops h hk hp lg).2 x xs rfl).2
    ⟨t, hp, lg, ht, hd⟩

example : plainDen (.cons (.int 1) (.seq [.int 2, .int 3])) = some [.int 1, .int 2, .int 3] := rfl

/-! ## a memoised representation: `GenerateFrom` -/

/-- The heap cells of `list.GenerateFrom(i, g)` — hence `Generate`, `Range`, `RangeClosed` — satisfy
    the interface contract, however far they have been forced (`GenR`: each cell is still pending
    or holds exactly the generator's value). -/
theorem generate_lists_satisfy_contract (g : Int → GoM (Option Val)) (gp : Int → Option Val)
    (hg : Total g gp) : LSim 3 (fun hp l xs => ∃ i, GenR g gp xs hp l i) :=
  gen_lsim hg

/-- `eval e = denote e` for `list.Range(a, b)` / `RangeClosed(a, b)`. -/
theorem range_eval_denote (closed : Bool) (a b : Int) (x : Val) (fuel : Nat) (lg : Log) :
    ∃ l hp, LL.eval (fuel + 1) (.range closed a b) x {} lg = (.ok l, hp, lg) ∧
      ∃ i, GenR (rangeGen closed b) (rangeP closed b) ((LExpr.range closed a b).denote x) hp l i :=
  have ⟨l, hp, e, _, hF⟩ := range_eval_fresh closed a b x fuel lg
  ⟨l, hp, e, hF.genR⟩

/-- put together: `list.Fold(list.Range(a, b), z, f)` (or `RangeClosed`) terminates and is the left fold over
    the range — through the memo cells, every one forced at most once. -/
theorem fold_range_eq (f : Val → Val → GoM Val) (gf : Val → Val → Val) (hf : Total2 f gf)
    (closed : Bool) (a b : Int) (x z : Val) (lg : Log) (fuel : Nat)
    (hfuel : 3 + ((LExpr.range closed a b).denote x).length < fuel) :
    ∃ l hp hp' lg', LL.eval 1 (.range closed a b) x {} lg = (.ok l, hp, lg) ∧
      LL.fold f fuel l z hp lg = (.ok (((LExpr.range closed a b).denote x).foldl gf z), hp', lg') ∧
      hp'.maxEvals ≤ 1 := by
  obtain ⟨l, hp, he, hrel⟩ := range_eval_denote closed a b x 0 lg
  obtain ⟨hp', lg', hfold⟩ := fold_lspec hf (gen_lsim (rangeGen_total closed b)) _ fuel hp l z lg hfuel hrel
  have h1 : hp.WF := Pres.wf_run ((presAll 1).eval (.range closed a b) x) Heap.WF.empty he
  exact ⟨l, hp, hp', lg', he, hfold, Pres.maxEvals_le (wfStep.fold f fuel l z) h1 hfold⟩

/-! ## every list expression: `eval e` represents `denote e` -/

/-- the hypothesis on callbacks is satisfiable: any callback that is total w.r.t. SOME function -/
theorem pure_of_total {f : Val → GoM Val} {g : Val → Val} (h : Total f g) : Total f (pure1 f) := Total.pure1 h

example : (LExpr.zipidx (.flatMap (.map (.range false 0 3) (fun v => do emit "m"; pure v)) 7
    (.scan (.combine (.argOf 2) (.reverse [.int 1])) (.int 0) (fun a _ => pure a)))).Pure :=
  ⟨⟨trivial, Total.pure1 (total_emit (fun _ => "m") id)⟩, ⟨trivial, trivial⟩,
    Total2.pure2 (g := fun a _ => a) (fun _ _ lg => ⟨lg, rfl⟩)⟩

/-- THE theorem, typed form.  For every list expression `e` (all constructors, nested, callbacks
    that do not panic) and every heap that is well-typed (`WellTyped S hp`: every cell consistent
    with the ghost typing, no `sync.Once` executing): `eval e` returns normally for every fuel
    `≥ e.bnd x`, the heap stays well-typed for an extension `S'` of the typing, and the returned value
    is typed with the expression's denotation. -/
theorem eval_denote_typed (e : LExpr) (x : Val) (hpure : e.Pure) (S : Sty) (hp : Heap) (hW : WellTyped S hp)
    (fuel : Nat) (hfuel : e.bnd x ≤ fuel) (lg : Log) :
    ∃ l S' hp' lg', LL.eval fuel e x hp lg = (.ok l, hp', lg') ∧ WellTyped S' hp' ∧ Ext S S' ∧
      VDen S' l (.fin (e.denote x)) (e.bnd x) :=
  eval_typed e x hpure S hp hW fuel hfuel lg

/-- typed values satisfy the interface contract: `IsEmpty`/`Head`/`Tail` return what the denoted
    list says, whatever part of the cells has been forced already, for every fuel `≥ k`. -/
theorem typed_lists_satisfy_contract (k : Nat) : LSim k (HeapRep k) := heapRep_lsim k

/-- frame: whatever else happens in the heap (the typing only grows), a typed value stays typed
    with the same denotation — sharing and aliasing between lists are harmless. -/
theorem typed_values_stay_typed {S S' : Sty} {l : LV} {d : DenV} {K : Nat} (h : VDen S l d K) (hE : Ext S S') :
    VDen S' l d K := h.ext hE

/-- the interface operations on a typed value extend the typing (so by `typed_values_stay_typed`
    they keep every other typed value typed). -/
theorem typed_ops_extend (S : Sty) (hp : Heap) (hW : WellTyped S hp) (l : LV) (xs : List Val) (k : Nat)
    (hV : VDen S l (.fin xs) k) (fuel : Nat) (hk : k ≤ fuel) (lg : Log) :
    (∃ S' hp' lg', LL.isEmpty fuel l hp lg = (.ok xs.isEmpty, hp', lg') ∧ WellTyped S' hp' ∧ Ext S S') ∧
    (∀ y ys, xs = y :: ys →
      (∃ S' hp' lg', LL.head fuel l hp lg = (.ok y, hp', lg') ∧ WellTyped S' hp' ∧ Ext S S') ∧
      (∃ t S' hp' lg', LL.tail fuel l hp lg = (.ok t, hp', lg') ∧ WellTyped S' hp' ∧ Ext S S' ∧
        VDen S' t (.fin ys) k)) := by
  have hS := typedFrom_lsim S k
  have hT : TypedFrom S k hp l xs := ⟨S, hW, Ext.refl S, hV⟩
  refine ⟨?_, ?_⟩
  · obtain ⟨hp', lg', e, S', hW', hE, _⟩ := hS.isEmpty fuel hp l xs lg hk hT
    exact ⟨S', hp', lg', e, hW', hE⟩
  · rintro y ys rfl
    obtain ⟨hp', lg', e, S', hW', hE, _⟩ := hS.head fuel hp l y ys lg hk hT
    obtain ⟨t, hp2, lg2, e2, S2, hW2, hE2, hV2⟩ := hS.tail fuel hp l y ys lg hk hT
    exact ⟨⟨S', hp', lg', e, hW', hE⟩, t, S2, hp2, lg2, e2, hW2, hE2, hV2⟩

/-- THE theorem, contract form (total):
    every lazy-list expression evaluates — for every fuel from `k = e.bnd x` on — to a heap
    representation that satisfies the interface contract `LSim` for its denotation; and every memo
    cell has been started at most once. -/
theorem eval_denote (e : LExpr) (x : Val) (hpure : e.Pure) :
    ∃ k R, LSim k R ∧ ∀ fuel, k ≤ fuel → ∀ lg, ∃ l hp lg', LL.eval fuel e x {} lg = (.ok l, hp, lg') ∧
      R hp l (e.denote x) ∧ hp.maxEvals ≤ 1 := by
  refine ⟨e.bnd x, HeapRep (e.bnd x), heapRep_lsim _, fun fuel hf lg => ?_⟩
  obtain ⟨l, hp, lg', he, hR, hwf⟩ := eval_rep e x hpure fuel hf lg
  exact ⟨l, hp, lg', he, hR, WF.maxEvals_le hp hwf⟩

/-! ## end to end: the loops of package `list` on `eval e` -/

/-- `list.ToSeq(e)` (= `Foreach`/`Iterator` order) is `denote e`; every cell forced at most once. -/
theorem eval_toSeq_eq (e : LExpr) (x : Val) (hpure : e.Pure) (fuel : Nat)
    (hfuel : e.bnd x + (e.denote x).length < fuel) (lg : Log) :
    ∃ l hp lg1 hp' lg', LL.eval fuel e x {} lg = (.ok l, hp, lg1) ∧
      LL.toSeq fuel l [] hp lg1 = (.ok (e.denote x), hp', lg') ∧ hp'.maxEvals ≤ 1 := by
  obtain ⟨l, hp, lg1, he, hR, hwf⟩ := eval_rep e x hpure fuel (by omega) lg
  obtain ⟨hp', lg', h⟩ := list_toSeq_eq (heapRep_lsim _) hp l _ hR fuel hfuel lg1
  exact ⟨l, hp, lg1, hp', lg', he, h, Pres.maxEvals_le (wfStep.toSeq fuel l []) hwf h⟩

theorem eval_fold_eq (f : Val → Val → GoM Val) (g : Val → Val → Val) (hf : Total2 f g)
    (e : LExpr) (x : Val) (hpure : e.Pure) (z : Val) (fuel : Nat)
    (hfuel : e.bnd x + (e.denote x).length < fuel) (lg : Log) :
    ∃ l hp lg1 hp' lg', LL.eval fuel e x {} lg = (.ok l, hp, lg1) ∧
      LL.fold f fuel l z hp lg1 = (.ok ((e.denote x).foldl g z), hp', lg') ∧ hp'.maxEvals ≤ 1 := by
  obtain ⟨l, hp, lg1, he, hR, hwf⟩ := eval_rep e x hpure fuel (by omega) lg
  obtain ⟨hp', lg', h⟩ := list_fold_eq f g hf (heapRep_lsim _) hp l _ hR z fuel hfuel lg1
  exact ⟨l, hp, lg1, hp', lg', he, h, Pres.maxEvals_le (wfStep.fold f fuel l z) hwf h⟩

/-- `list.FoldTry(e, z, f)`: the reference fold; on a failure the cursor rests on the failing
    element — the cells behind it have not been forced by the loop. -/
theorem eval_foldTry_eq (f : Val → Val → GoM (Try Val)) (g : Val → Val → Try Val) (hf : Total2 f g)
    (e : LExpr) (x : Val) (hpure : e.Pure) (z : Val) (fuel : Nat)
    (hfuel : e.bnd x + (e.denote x).length < fuel) (lg : Log) :
    ∃ l hp lg1 hp' lg', LL.eval fuel e x {} lg = (.ok l, hp, lg1) ∧
      LL.foldTry f fuel l z hp lg1 = (.ok (foldTryL g z (e.denote x)).1, hp', lg') ∧ hp'.maxEvals ≤ 1 ∧
      ((foldTryL g z (e.denote x)).1.isSuccess = false →
        ∃ l' a, HeapRep (e.bnd x) hp' l' (a :: (foldTryL g z (e.denote x)).2)) := by
  obtain ⟨l, hp, lg1, he, hR, hwf⟩ := eval_rep e x hpure fuel (by omega) lg
  obtain ⟨hp', lg', h, hrest⟩ := list_foldTry_eq f g hf (heapRep_lsim _) hp l _ hR z fuel hfuel lg1
  exact ⟨l, hp, lg1, hp', lg', he, h, Pres.maxEvals_le (wfStep.foldTry f fuel l z) hwf h, hrest⟩

theorem eval_foldOption_eq (f : Val → Val → GoM (Option Val)) (g : Val → Val → Option Val) (hf : Total2 f g)
    (e : LExpr) (x : Val) (hpure : e.Pure) (z : Val) (fuel : Nat)
    (hfuel : e.bnd x + (e.denote x).length < fuel) (lg : Log) :
    ∃ l hp lg1 hp' lg', LL.eval fuel e x {} lg = (.ok l, hp, lg1) ∧
      LL.foldOption f fuel l z hp lg1 = (.ok (foldOptionL g z (e.denote x)).1, hp', lg') ∧ hp'.maxEvals ≤ 1 ∧
      ((foldOptionL g z (e.denote x)).1 = none →
        ∃ l' a, HeapRep (e.bnd x) hp' l' (a :: (foldOptionL g z (e.denote x)).2)) := by
  obtain ⟨l, hp, lg1, he, hR, hwf⟩ := eval_rep e x hpure fuel (by omega) lg
  obtain ⟨hp', lg', h, hrest⟩ := list_foldOption_eq f g hf (heapRep_lsim _) hp l _ hR z fuel hfuel lg1
  exact ⟨l, hp, lg1, hp', lg', he, h, Pres.maxEvals_le (wfStep.foldOption f fuel l z) hwf h, hrest⟩

theorem eval_foldError_eq (f : Val → GoM (Option Err)) (g : Val → Option Err) (hf : Total f g)
    (e : LExpr) (x : Val) (hpure : e.Pure) (fuel : Nat)
    (hfuel : e.bnd x + (e.denote x).length < fuel) (lg : Log) :
    ∃ l hp lg1 hp' lg', LL.eval fuel e x {} lg = (.ok l, hp, lg1) ∧
      LL.foldError f fuel l hp lg1 = (.ok (foldErrorL g (e.denote x)).1, hp', lg') ∧ hp'.maxEvals ≤ 1 ∧
      ((foldErrorL g (e.denote x)).1.isSome = true →
        ∃ l' a, HeapRep (e.bnd x) hp' l' (a :: (foldErrorL g (e.denote x)).2)) := by
  obtain ⟨l, hp, lg1, he, hR, hwf⟩ := eval_rep e x hpure fuel (by omega) lg
  obtain ⟨hp', lg', h, hrest⟩ := list_foldError_eq f g hf (heapRep_lsim _) hp l _ hR fuel hfuel lg1
  exact ⟨l, hp, lg1, hp', lg', he, h, Pres.maxEvals_le (wfStep.foldError f fuel l) hwf h, hrest⟩

theorem eval_foldRight_eq (f : Val → Val → GoM Val) (g : Val → Val → Val) (hf : Total2 f g)
    (e : LExpr) (x : Val) (hpure : e.Pure) (zero : Val) (fuel : Nat)
    (hfuel : e.bnd x + (e.denote x).length < fuel) (lg : Log) :
    ∃ l hp lg1 hp' lg', LL.eval fuel e x {} lg = (.ok l, hp, lg1) ∧
      LL.foldRight zero (fun a th => do let b ← th; IM.liftG (f a b)) fuel l hp lg1 =
        (.ok ((e.denote x).foldr g zero), hp', lg') ∧ hp'.maxEvals ≤ 1 := by
  obtain ⟨l, hp, lg1, he, hR, hwf⟩ := eval_rep e x hpure fuel (by omega) lg
  obtain ⟨hp', lg', h⟩ := list_foldRight_eq f g hf (heapRep_lsim _) hp l _ hR zero fuel hfuel lg1
  exact ⟨l, hp, lg1, hp', lg', he, h, Pres.maxEvals_le (wfStep.foldRight zero (fun a _ h => wfStep.bind h fun b => wfStep.liftG (f a b)) fuel l) hwf h⟩

theorem eval_reduce_eq (combine : Val → Val → GoM Val) (g : Val → Val → Val) (hf : Total2 combine g)
    (e : LExpr) (x : Val) (hpure : e.Pure) (empty : Val) (fuel : Nat)
    (hfuel : e.bnd x + (e.denote x).length < fuel) (lg : Log) :
    ∃ l hp lg1 hp' lg', LL.eval fuel e x {} lg = (.ok l, hp, lg1) ∧
      LL.reduce empty combine fuel l hp lg1 = (.ok ((e.denote x).foldr g empty), hp', lg') ∧ hp'.maxEvals ≤ 1 :=
  eval_foldRight_eq combine g hf e x hpure empty fuel hfuel lg

/-- `iterator.FromList(list)` over any representation satisfying the contract is an iterator that
    represents the list (so every C12/C20 iterator theorem applies to lists, too). -/
theorem fromList_represents {k : Nat} {R : Heap → LV → List Val → Prop} (hS : LSim k R) (fuel : Nat) (hk : k ≤ fuel)
    (hp : Heap) (l : LV) (xs : List Val) (h : R hp l xs) :
    Represents (LL.fromList fuel) (hp, l) [] xs := by
  refine ⟨fun s _ r => R s.1 s.2 r, ⟨?_, ?_, ?_⟩, h⟩
  · rintro ⟨hp, cur⟩ d r lg hR
    obtain ⟨hp', lg', e, hR'⟩ := hS.isEmpty fuel hp cur r lg hk hR
    exact ⟨(hp', cur), lg', by simp [LL.fromList, e, Except.map], hR'⟩
  · rintro ⟨hp, cur⟩ d a r lg hR
    obtain ⟨hp1, lg1, e1, hR1⟩ := hS.isEmpty fuel hp cur (a :: r) lg hk hR
    obtain ⟨hp2, lg2, e2, hR2⟩ := hS.head fuel hp1 cur a r lg1 hk hR1
    obtain ⟨t, hp3, lg3, e3, hR3⟩ := hS.tail fuel hp2 cur a r lg2 hk hR2
    exact ⟨(hp3, t), lg3, by simp [LL.fromList, e1, e2, e3], hR3⟩
  · rintro ⟨hp, cur⟩ d lg hR
    obtain ⟨hp1, lg1, e1, hR1⟩ := hS.isEmpty fuel hp cur [] lg hk hR
    exact ⟨nextOnEmpty, (hp1, cur), lg1, by simp [LL.fromList, e1], hR1⟩

/-- … in particular `iterator.FromList(eval e)` represents `denote e`. -/
theorem fromList_eval_represents (e : LExpr) (x : Val) (hpure : e.Pure) (fuel : Nat) (hfuel : e.bnd x ≤ fuel)
    (lg : Log) : ∃ l hp lg', LL.eval fuel e x {} lg = (.ok l, hp, lg') ∧
      Represents (LL.fromList fuel) (hp, l) [] (e.denote x) := by
  obtain ⟨l, hp, lg', he, hR, _⟩ := eval_rep e x hpure fuel hfuel lg
  exact ⟨l, hp, lg', he, fromList_represents (heapRep_lsim _) fuel hfuel hp l _ hR⟩

/-! ## memoisation, end to end -/

/-- a traversal that finds every cell it reads done (`Forced`) returns the list and does NOTHING
    else: heap and log are unchanged — no closure is run, no callback invoked. -/
theorem traversal_of_forced_is_free (xs : List Val) (l : LV) (acc : List Val) (fuel : Nat) (hp : Heap) (lg : Log)
    (h : Forced hp xs l) (hfuel : xs.length + 3 ≤ fuel) :
    LL.toSeq fuel l acc hp lg = (.ok (acc ++ xs), hp, lg) := by
  induction xs generalizing l acc fuel with
  | nil =>
    obtain ⟨f, rfl⟩ : ∃ f, fuel = f + 1 := ⟨fuel - 1, by omega⟩
    rw [toSeq_step_nil (h.ops (Nat.le_of_succ_le_succ hfuel) lg).1, List.append_nil]
  | cons x xs ih =>
    obtain ⟨f, rfl⟩ : ∃ f, fuel = f + 1 := ⟨fuel - 1, by omega⟩
    have hfu' : xs.length + 3 ≤ f := Nat.le_of_succ_le_succ hfuel
    obtain ⟨e1, h2⟩ := h.ops (Nat.le_trans (Nat.le_add_left 2 _) hfu') lg
    obtain ⟨e2, t, e3, hF'⟩ := h2 x xs rfl
    rw [toSeq_step_cons e1 e2 e3, ih t _ f hF' hfu', List.append_assoc]
    rfl

/-- a traversal of a typed value leaves every cell it read done (and the done cells it found
    untouched). -/
theorem traversal_forces (xs : List Val) (S : Sty) (hp : Heap) (l : LV) (acc : List Val) (k fuel : Nat) (lg : Log)
    (hW : WellTyped S hp) (hV : VDen S l (.fin xs) k) (hfuel : k + xs.length < fuel) :
    ∃ S' hp' lg', LL.toSeq fuel l acc hp lg = (.ok (acc ++ xs), hp', lg') ∧ WellTyped S' hp' ∧ Ext S S' ∧
      DoneSub hp hp' ∧ Forced hp' xs l := by
  obtain ⟨hp', lg', e, _, _, S', hW', hE, _⟩ :=
    toSeq_lspec (typedFrom_lsim S k) xs fuel hp l acc lg hfuel ⟨S, hW, Ext.refl S, hV⟩
  obtain ⟨ys, hys, hF⟩ := toSeq_ok_forced fuel l acc _ hp hp' lg lg' e
  cases List.append_cancel_left hys
  have hD := doneSubStep.toSeq fuel l acc hp lg
  rw [e] at hD
  exact ⟨S', hp', lg', e, hW', hE, hD, hF⟩

/-- memoisation end to end, for every list value and every callback: a traversal that returned, run again,
    returns the same list and changes neither heap nor log -/
theorem toSeq_again {fuel : Nat} {l : LV} {xs : List Val} {hp hp' : Heap} {lg lg' : Log}
    (h : LL.toSeq fuel l [] hp lg = (.ok xs, hp', lg')) (hfuel : xs.length + 3 ≤ fuel) (lg2 : Log) :
    LL.toSeq fuel l [] hp' lg2 = (.ok xs, hp', lg2) := by
  obtain ⟨ys, hys, hF⟩ := toSeq_ok_forced fuel l [] xs hp hp' lg lg' h
  cases hys
  exact traversal_of_forced_is_free _ l [] fuel hp' lg2 hF hfuel

/-- Traverse `eval e` twice (all constructors, any nesting): the first traversal returns
    `denote e`; the second returns the same list and leaves heap AND log exactly as they were —
    every closure ran during the first traversal and its callbacks are not invoked again. -/
theorem eval_toSeq_twice (e : LExpr) (x : Val) (hpure : e.Pure) (fuel : Nat)
    (hfuel : e.bnd x + (e.denote x).length < fuel) (lg : Log) :
    ∃ l hp lg1 hp' lg', LL.eval fuel e x {} lg = (.ok l, hp, lg1) ∧
      LL.toSeq fuel l [] hp lg1 = (.ok (e.denote x), hp', lg') ∧
      LL.toSeq fuel l [] hp' lg' = (.ok (e.denote x), hp', lg') := by
  obtain ⟨l, hp, lg1, hp', lg', he, h, _⟩ := eval_toSeq_eq e x hpure fuel hfuel lg
  have hb := LExpr.bnd_ge3 e x
  exact ⟨l, hp, lg1, hp', lg', he, h, toSeq_again h (by omega) lg'⟩

/-! ## callbacks that may panic (terminal folds) -/

/-- `list.Fold` with a step that may panic (`Outcome2`: it returns or panics, whatever the log):
    the loop returns what the list computation up to the first panic returns — the panic propagates
    with its value — and the cursor rests on the element whose step panicked: its tail has not been
    forced. -/
theorem list_fold_panic (f : Val → Val → GoM Val) (g : Val → Val → Except PanicVal Val) (hf : Outcome2 f g)
    {k : Nat} {R : Heap → LV → List Val → Prop}
    (hS : LSim k R) (hp : Heap) (l : LV) (xs : List Val) (h : R hp l xs) (z : Val)
    (fuel : Nat) (hfuel : k + xs.length < fuel) (lg : Log) :
    ∃ hp' lg', LL.fold f fuel l z hp lg = ((foldE g z xs).1, hp', lg') ∧
      (∀ p, (foldE g z xs).1 = .error p → ∃ l' a, R hp' l' (a :: (foldE g z xs).2)) :=
  fold_lspec_panic hf hS xs fuel hp l z lg hfuel h

theorem list_foldTry_panic (f : Val → Val → GoM (Try Val)) (g : Val → Val → Except PanicVal (Try Val))
    (hf : Outcome2 f g) {k : Nat} {R : Heap → LV → List Val → Prop}
    (hS : LSim k R) (hp : Heap) (l : LV) (xs : List Val) (h : R hp l xs) (z : Val)
    (fuel : Nat) (hfuel : k + xs.length < fuel) (lg : Log) :
    ∃ hp' lg', LL.foldTry f fuel l z hp lg = ((foldTryE g z xs).1, hp', lg') ∧
      ((∀ z', (foldTryE g z xs).1 ≠ .ok (.success z')) → ∃ l' a, R hp' l' (a :: (foldTryE g z xs).2)) :=
  foldTry_lspec_panic hf hS xs fuel hp l z lg hfuel h

/-- end to end: `list.Fold(eval e, z, f)` with a panicking `f` (the callbacks INSIDE `e` do not
    panic); also after the panic every memo cell has been started at most once. -/
theorem eval_fold_panic (f : Val → Val → GoM Val) (g : Val → Val → Except PanicVal Val) (hf : Outcome2 f g)
    (e : LExpr) (x : Val) (hpure : e.Pure) (z : Val) (fuel : Nat)
    (hfuel : e.bnd x + (e.denote x).length < fuel) (lg : Log) :
    ∃ l hp lg1 hp' lg', LL.eval fuel e x {} lg = (.ok l, hp, lg1) ∧
      LL.fold f fuel l z hp lg1 = ((foldE g z (e.denote x)).1, hp', lg') ∧ hp'.maxEvals ≤ 1 ∧
      (∀ p, (foldE g z (e.denote x)).1 = .error p →
        ∃ l' a, HeapRep (e.bnd x) hp' l' (a :: (foldE g z (e.denote x)).2)) := by
  obtain ⟨l, hp, lg1, he, hR, hwf⟩ := eval_rep e x hpure fuel (by omega) lg
  obtain ⟨hp', lg', h, hrest⟩ := list_fold_panic f g hf (heapRep_lsim _) hp l _ hR z fuel hfuel lg1
  exact ⟨l, hp, lg1, hp', lg', he, h, Pres.maxEvals_le (wfStep.fold f fuel l z) hwf h, hrest⟩

/-! ## demand: how many cells a traversal of a generated list creates and forces (audit finding 13)

`GenFresh g gp N hp l xs` (Lemmas/ListDemand.lean): `l` is the cursor of a `GenerateFrom` list that
denotes `xs`; its head cell is pending or done, its TAIL cell is PENDING, both are the LAST cells of the
heap, and `(number of head cells) + xs.length = N`.  The invariant is closed under `IsEmpty`, `Head`,
`Tail` (`generated_fresh_contract`), so every loop theorem above applies with `R := GenFresh g gp N`
and its conclusion then speaks about the heap: nothing beyond the cursor has been created, let alone
forced; every element passed has cost exactly one pair of cells; each head cell's closure (one call
of the generator) has run at most once (`started_at_most_once`). -/

theorem generated_fresh_contract (g : Int → GoM (Option Val)) (gp : Int → Option Val) (hg : Total g gp) (N : Nat) :
    LSim 3 (GenFresh g gp N) := genFresh_lsim hg N

/-- `list.GenerateFrom(i, g)` on ANY heap yields a fresh cursor (non-vacuity of `GenFresh`) -/
theorem generated_starts_fresh (g : Int → GoM (Option Val)) (gp : Int → Option Val) (hp : Heap) (lg : Log) (i : Int)
    (xs : List Val) (he : Enum gp i xs) :
    ∃ l hp', makeList (.gen i g) (.gen i g) hp lg = (.ok l, hp', lg) ∧
      GenFresh g gp (hp.hs.size + 1 + xs.length) hp' l xs := genFresh_makeList hp lg i xs he

/-- what `GenFresh` says about the heap, spelled out -/
theorem fresh_cursor_is_last (g : Int → GoM (Option Val)) (gp : Int → Option Val) (N : Nat) (hp : Heap) (l : LV)
    (xs : List Val) (h : GenFresh g gp N hp l xs) :
    hp.hs.size + xs.length = N ∧ ∃ hc tc, l = .adaptor hc tc ∧ hc + 1 = hp.hs.size ∧ tc + 1 = hp.ts.size ∧
      ∃ i, hp.ts[tc]? = some (.pending (.gen i g), 0) := h.sizes

/-- `n` steps of a client's traversal: `IsEmpty`, `Head`, `Tail` on the cursor, `n` times -/
def walk (fuel : Nat) : Nat → LV → HM LV
  | 0, l => pure l
  | n + 1, l => do
    let _ ← LL.isEmpty fuel l
    let _ ← LL.head fuel l
    let t ← LL.tail fuel l
    walk fuel n t

/-- for every list representation satisfying the contract: `n` steps arrive at a cursor that denotes
    the list without its first `n` elements -/
theorem walk_lspec {k0 : Nat} {R : Heap → LV → List Val → Prop} (hS : LSim k0 R) (fuel : Nat) (hk : k0 ≤ fuel) :
    ∀ (n : Nat) (hp : Heap) (l : LV) (xs : List Val) (lg : Log), n ≤ xs.length → R hp l xs →
      ∃ l' hp' lg', walk fuel n l hp lg = (.ok l', hp', lg') ∧ R hp' l' (xs.drop n) := by
  intro n
  induction n with
  | zero => intro hp l xs lg _ hR; exact ⟨l, hp, lg, rfl, by simpa using hR⟩
  | succ n ih =>
    intro hp l xs lg hn hR
    cases xs with
    | nil => simp at hn
    | cons x xs =>
      obtain ⟨hp1, lg1, h1, hR1⟩ := hS.isEmpty fuel hp l (x :: xs) lg hk hR
      obtain ⟨hp2, lg2, h2, hR2⟩ := hS.head fuel hp1 l x xs lg1 hk hR1
      obtain ⟨t, hp3, lg3, h3, hR3⟩ := hS.tail fuel hp2 l x xs lg2 hk hR2
      obtain ⟨l', hp', lg', h4, hR4⟩ := ih hp3 t xs lg3 (by simpa using hn) hR3
      refine ⟨l', hp', lg', ?_, by simpa using hR4⟩
      simp only [walk]
      rw [bind_ok h1, bind_ok h2, bind_ok h3, h4]

/-- HOW MANY CELLS after `n` head / tail steps on a generated list (of any length ≥ `n`, e.g. a
    `Range` over billions): exactly `n` new head cells have been created —
    hence at most `n + 1` generator calls have happened —, and the cursor's tail cell is pending and
    last: nothing of the remaining `xs.length − n` elements exists in the heap. -/
theorem walk_generated_cells (g : Int → GoM (Option Val)) (gp : Int → Option Val) (hg : Total g gp) (N : Nat)
    (fuel : Nat) (hfuel : 3 ≤ fuel) (n : Nat) (hp : Heap) (l : LV) (xs : List Val) (lg : Log) (hn : n ≤ xs.length)
    (h : GenFresh g gp N hp l xs) :
    ∃ l' hp' lg', walk fuel n l hp lg = (.ok l', hp', lg') ∧ GenFresh g gp N hp' l' (xs.drop n) ∧
      hp'.hs.size = hp.hs.size + n := by
  obtain ⟨l', hp', lg', e, hR⟩ := walk_lspec (genFresh_lsim hg N) fuel hfuel n hp l xs lg hn h
  refine ⟨l', hp', lg', e, hR, ?_⟩
  have h1 := h.sizes.1
  have h2 := hR.sizes.1
  simp only [List.length_drop] at h2
  omega

/-- two fresh cursors of one traversal: head cells plus elements still to come is the same number -/
theorem fresh_count {g : Int → GoM (Option Val)} {gp : Int → Option Val} {N : Nat} {hp hp' : Heap} {l l' : LV}
    {xs ys : List Val} (h : GenFresh g gp N hp l xs) (h' : GenFresh g gp N hp' l' ys) :
    hp'.hs.size + ys.length = hp.hs.size + xs.length :=
  h'.sizes.1.trans h.sizes.1.symm

/-- `list.FoldTry` over a generated list: at a failure the cursor rests on the failing element, its
    tail cell is pending and is the last cell of the heap, and the heap has exactly one more cell
    pair per element BEFORE the failing one — what follows has not been forced (it has not even been
    allocated). -/
theorem foldTry_stops_forcing (f : Val → Val → GoM (Try Val)) (gt : Val → Val → Try Val) (hf : Total2 f gt)
    (g : Int → GoM (Option Val)) (gp : Int → Option Val) (hg : Total g gp) (N : Nat)
    (hp : Heap) (l : LV) (xs : List Val) (h : GenFresh g gp N hp l xs) (z : Val)
    (fuel : Nat) (hfuel : 3 + xs.length < fuel) (lg : Log) :
    ∃ hp' lg', LL.foldTry f fuel l z hp lg = (.ok (foldTryL gt z xs).1, hp', lg') ∧
      ((foldTryL gt z xs).1.isSuccess = false →
        ∃ l' a, GenFresh g gp N hp' l' (a :: (foldTryL gt z xs).2) ∧
          hp'.hs.size + (foldTryL gt z xs).2.length + 1 = hp.hs.size + xs.length) := by
  obtain ⟨hp', lg', e, hrest⟩ := foldTry_lspec hf (genFresh_lsim hg N) xs fuel hp l z lg hfuel h
  refine ⟨hp', lg', e, fun hfail => ?_⟩
  obtain ⟨l', a, hR⟩ := hrest hfail
  exact ⟨l', a, hR, fresh_count h hR⟩

theorem foldOption_stops_forcing (f : Val → Val → GoM (Option Val)) (go : Val → Val → Option Val) (hf : Total2 f go)
    (g : Int → GoM (Option Val)) (gp : Int → Option Val) (hg : Total g gp) (N : Nat)
    (hp : Heap) (l : LV) (xs : List Val) (h : GenFresh g gp N hp l xs) (z : Val)
    (fuel : Nat) (hfuel : 3 + xs.length < fuel) (lg : Log) :
    ∃ hp' lg', LL.foldOption f fuel l z hp lg = (.ok (foldOptionL go z xs).1, hp', lg') ∧
      ((foldOptionL go z xs).1 = none →
        ∃ l' a, GenFresh g gp N hp' l' (a :: (foldOptionL go z xs).2) ∧
          hp'.hs.size + (foldOptionL go z xs).2.length + 1 = hp.hs.size + xs.length) := by
  obtain ⟨hp', lg', e, hrest⟩ := foldOption_lspec hf (genFresh_lsim hg N) xs fuel hp l z lg hfuel h
  refine ⟨hp', lg', e, fun hfail => ?_⟩
  obtain ⟨l', a, hR⟩ := hrest hfail
  exact ⟨l', a, hR, fresh_count h hR⟩

theorem foldError_stops_forcing (f : Val → GoM (Option Err)) (ge : Val → Option Err) (hf : Total f ge)
    (g : Int → GoM (Option Val)) (gp : Int → Option Val) (hg : Total g gp) (N : Nat)
    (hp : Heap) (l : LV) (xs : List Val) (h : GenFresh g gp N hp l xs)
    (fuel : Nat) (hfuel : 3 + xs.length < fuel) (lg : Log) :
    ∃ hp' lg', LL.foldError f fuel l hp lg = (.ok (foldErrorL ge xs).1, hp', lg') ∧
      ((foldErrorL ge xs).1.isSome = true →
        ∃ l' a, GenFresh g gp N hp' l' (a :: (foldErrorL ge xs).2) ∧
          hp'.hs.size + (foldErrorL ge xs).2.length + 1 = hp.hs.size + xs.length) := by
  obtain ⟨hp', lg', e, hrest⟩ := foldError_lspec hf (genFresh_lsim hg N) xs fuel hp l lg hfuel h
  refine ⟨hp', lg', e, fun hfail => ?_⟩
  obtain ⟨l', a, hR⟩ := hrest hfail
  exact ⟨l', a, hR, fresh_count h hR⟩

/-- END TO END from the empty heap: `list.FoldTry(list.Range(a, b), z, f)`.  Building the range
    creates ONE pair of cells whatever its length; when `f` fails at an element, the heap holds exactly
    `1 + (number of elements before it)` head cells, the tail cell of the failing element is pending
    and last, and no cell has been started more than once: the rest of the range — however long — has
    not been touched. -/
theorem foldTry_range_stops_forcing (f : Val → Val → GoM (Try Val)) (gt : Val → Val → Try Val) (hf : Total2 f gt)
    (closed : Bool) (a b : Int) (x z : Val) (lg : Log) (fuel : Nat)
    (hfuel : 3 + ((LExpr.range closed a b).denote x).length < fuel) :
    let xs := (LExpr.range closed a b).denote x
    ∃ l hp hp' lg', LL.eval 1 (.range closed a b) x {} lg = (.ok l, hp, lg) ∧ hp.hs.size = 1 ∧
      LL.foldTry f fuel l z hp lg = (.ok (foldTryL gt z xs).1, hp', lg') ∧ hp'.maxEvals ≤ 1 ∧
      ((foldTryL gt z xs).1.isSuccess = false →
        hp'.hs.size + (foldTryL gt z xs).2.length = xs.length ∧
        ∃ l' e, GenFresh (rangeGen closed b) (rangeP closed b) (1 + xs.length) hp' l' (e :: (foldTryL gt z xs).2)) := by
  intro xs
  obtain ⟨l, hp, he, hsz, hF⟩ := range_eval_fresh closed a b x 0 lg
  obtain ⟨hp', lg', hfold, hrest⟩ := foldTry_stops_forcing f gt hf _ _ (rangeGen_total closed b) _ hp l xs hF z fuel hfuel lg
  refine ⟨l, hp, hp', lg', he, hsz, hfold, ?_, fun hfail => ?_⟩
  · have h1 : hp.WF := Pres.wf_run ((presAll 1).eval (.range closed a b) x) Heap.WF.empty he
    exact Pres.maxEvals_le (wfStep.foldTry f fuel l z) h1 hfold
  · obtain ⟨l', e, hG, hcount⟩ := hrest hfail
    exact ⟨by omega, l', e, hG⟩

end FpVerif.Spec.C12List
