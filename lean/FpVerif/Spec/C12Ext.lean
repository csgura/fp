import FpVerif.Lemmas.ListDen
import FpVerif.Lemmas.ListXLoops
import FpVerif.Lemmas.ListXSeq
import FpVerif.Lemmas.ListXRec
/-!
# C12 (extension) — the conversion and access functions of `fp.Seq`, the lazy `fp.List` and `xtr`
# equal the corresponding eager list computation, terminate, and evaluate every memo cell at most once

Model: `Model/ListX.lean` (on top of `Model/LazyList.lean`); the oracle `Oracle/ListX.lean` runs these
definitions.  `LSim k R` is the `fp.List` interface contract of `Lemmas/ListLoops` (satisfied by `Nil`/`Cons`/
`Seq` — `Spec.C12List.plain_lists_satisfy_contract` — and by every evaluated list expression — `heapRep_lsim`, `eval_rep`).

* `seq_*`: `Head = head?`, `Last = getLast?`, `Init = dropLast`, `Tail = tail`, `Get = [i]?` (and the panic
  for a negative index), `FilterNil = filterMap id`, `Foreach` calls the callback on every element in order
  and stops at the first panic; `FromMap*` of any enumeration is a permutation of the entries.
* `seq_foldRight_*`: `seq.FoldRight` is `foldr` for a forcing step; an accumulator the step does not
  force is never evaluated (`seq_foldRight_lazy`, `seq_foldRight_stop_suffix`).
* `list_toGoMap_eq` … `list_toGoSet_eq`: the cursor loops are `foldl insert`; `lookup_last_write_wins`.
* `list_unapply_eq`, `list_unapply_empty`, `list_foreach_eq`, `list_foreach_plain`, `list_foldFuture_eq`,
  `seq_foldFuture_eq`, `foldFuture_stops_calling`.
* `ext_started_at_most_once`: whatever sequence of these operations runs from the empty heap, no memo
  cell's closure is started twice.  `eval_toGoMap_eq`, `eval_toSet_eq`, `reverseSlice_eq`, `fromMap_perm`:
  end to end on evaluated list expressions.
* `rec_take_eq`, `rec_nth_eq`, `rec_started_at_most_once`, `rec_memo_*`: `list.Recurrence1/2`.
-/
namespace FpVerif.Spec.C12Ext
open FpVerif FpVerif.It FpVerif.LL FpVerif.LX

/-! ## `fp.Seq` accessors, `seq.*` wrappers, `xtr.*` -/

theorem seq_size_eq (r : List Val) : Sq.size r = r.length := rfl

theorem seq_head_eq (r : List Val) : Sq.head r = r.head? := by
  cases r with
  | nil => simp [Sq.head, seq_size_eq]
  | cons a t => simp [Sq.head, seq_size_eq]

theorem seq_last_eq (r : List Val) : Sq.last r = r.getLast? := by
  cases r with
  | nil => simp [Sq.last, seq_size_eq]
  | cons a t =>
    have h : (((a :: t).length : Nat) : Int) > 0 := by simp <;> omega
    simp only [Sq.last, seq_size_eq, h, if_true]
    exact (List.getLast?_eq_getElem? (l := a :: t)).symm

theorem seq_init_eq (r : List Val) : Sq.init r = r.dropLast := by
  match r with
  | [] => simp [Sq.init, seq_size_eq]
  | [a] => simp [Sq.init, seq_size_eq]
  | a :: b :: t =>
    have h : (((a :: b :: t).length : Nat) : Int) > 1 := by simp <;> omega
    simp only [Sq.init, seq_size_eq, h, if_true]
    exact (List.dropLast_eq_take (l := a :: b :: t)).symm

theorem seq_tail_eq (r : List Val) : Sq.tail r = r.tail := by
  cases r with
  | nil => simp [Sq.tail, seq_size_eq]
  | cons a t => simp [Sq.tail, seq_size_eq]

theorem seq_nonEmpty_eq (r : List Val) : Sq.nonEmpty r = !Sq.isEmpty r := by
  cases r with
  | nil => simp [Sq.nonEmpty, Sq.isEmpty, seq_size_eq]
  | cons a t => simp [Sq.nonEmpty, Sq.isEmpty, seq_size_eq] <;> omega

theorem seq_sliceCasting_eq (r : List Val) : Sq.sliceCasting r = r := rfl

/-- `r.Get(i)` for `i ≥ 0` is `r[i]?` … -/
theorem seq_get_eq (r : List Val) (i : Int) (hi : 0 ≤ i) : Sq.get r i = .ok r[i.toNat]? := by
  unfold Sq.get
  by_cases h : (r.length : Int) > i
  · have hlt : i.toNat < r.length := by omega
    have hn : ¬ i < 0 := by omega
    simp only [seq_size_eq, h, if_true, hn, if_false]
    rw [List.getElem?_eq_getElem hlt]
    rfl
  · have hge : r.length ≤ i.toNat := by omega
    simp only [seq_size_eq, h, if_false]
    rw [List.getElem?_eq_none hge]
    rfl

/-- … and panics for every negative index, also on the empty slice (the guard is `r.Size() > idx` only). -/
theorem seq_get_negative_panics (r : List Val) (i : Int) (hi : i < 0) : ∃ p, Sq.get r i = .error p := by
  unfold Sq.get
  have h : (r.length : Int) > i := by omega
  exact ⟨_, by simp only [seq_size_eq, h, if_true, hi]; rfl⟩

example : Sq.get [.int 7, .int 8] 1 = .ok (some (.int 8)) := by simp [Sq.get, seq_size_eq]; rfl
example : Sq.init [.int 7] = [] ∧ Sq.last [.int 7] = some (.int 7) ∧ Sq.init [] = [] ∧ Sq.last [] = none := by simp [Sq.init, Sq.last, seq_size_eq]

theorem seq_filterNil_eq (r : List (Option Val)) : Sq.filterNil r = r.filterMap id := by
  unfold Sq.filterNil
  rw [Sq.flatMapPure_eq]
  induction r with
  | nil => rfl
  | cons o t ih =>
    cases o with
    | none => simpa [Sq.ptrToSeq] using ih
    | some v => simpa [Sq.ptrToSeq] using ih

/-- `r.Foreach(f)`: `f` sees exactly the elements, in order (a callback that appends `ev a` to the log). -/
theorem seq_foreach_eq (f : Val → GoM Unit) (ev : Val → List Event)
    (hf : ∀ a lg, (f a).run.run lg = (.ok (), lg ++ ev a)) (xs : List Val) (lg : Log) :
    (Sq.foreach f xs).run.run lg = (.ok (), lg ++ xs.flatMap ev) := by
  induction xs generalizing lg with
  | nil => simp [Sq.foreach]; rfl
  | cons x xs ih =>
    simp only [Sq.foreach]
    rw [Coll.run_bind_ok (hf x lg), ih]
    simp [List.append_assoc]

/-- … and a panic of `f` on `x` ends the loop: the elements after `x` are not visited. -/
theorem seq_foreach_panic (f : Val → GoM Unit) (ev : Val → List Event) (pre post : List Val) (x : Val) (p : PanicVal)
    (hf : ∀ a ∈ pre, ∀ lg, (f a).run.run lg = (.ok (), lg ++ ev a))
    (hx : ∀ lg, (f x).run.run lg = (.error p, lg ++ ev x)) (lg : Log) :
    (Sq.foreach f (pre ++ x :: post)).run.run lg = (.error p, lg ++ pre.flatMap ev ++ ev x) := by
  induction pre generalizing lg with
  | nil => simp only [List.nil_append, Sq.foreach]; rw [Coll.run_bind_err (hx lg)]; simp
  | cons a pre ih =>
    simp only [List.cons_append, Sq.foreach]
    rw [Coll.run_bind_ok (hf a (by simp) lg), ih (fun b hb => hf b (by simp [hb]))]
    simp [List.append_assoc]

example : ∀ a lg, ((fun (v : Val) => emit s!"t:{v}") a).run.run lg = (.ok (), lg ++ [s!"t:{a}"]) := fun _ _ => rfl

/-- `seq.FromMap / FromMapKeys / FromMapValues`: for EVERY order `enum` in which the runtime enumerates
    the map (a permutation of its entries) the result is a permutation of the entries / keys / values. -/
theorem seq_fromMap_perm (entries enum : KV) (h : enum.Perm entries) :
    (Sq.fromMap enum).Perm (entries.map pairVal) ∧ (Sq.fromMapKeys enum).Perm (entries.map (·.1)) ∧
    (Sq.fromMapValues enum).Perm (entries.map (·.2)) :=
  ⟨h.map _, h.map _, h.map _⟩

/-! ## `seq.FoldRight` -/

/-- with a step that forces its lazy argument (`b.Map(v ↦ g(a, v))`), `seq.FoldRight` is `foldr` -/
theorem seq_foldRight_eq (g : Val → Val → GoM Val) (gp : Val → Val → Val) (hg : Total2 g gp) (zero : Val)
    (xs : List Val) (lg : Log) :
    ∃ lg', (Sq.foldRight zero (fun a th => do let b ← th; g a b) xs).run.run lg = (.ok (xs.foldr gp zero), lg') := by
  induction xs with
  | nil => exact ⟨lg, rfl⟩
  | cons x xs ih =>
    obtain ⟨lg1, h1⟩ := ih
    obtain ⟨lg2, h2⟩ := hg x (xs.foldr gp zero) lg1
    refine ⟨lg2, ?_⟩
    simp only [Sq.foldRight, List.foldr]
    rw [Coll.run_bind_ok h1]
    exact h2

/-- laziness: an accumulator the step function does not force is never evaluated — if the step ignores its
    lazy argument on the head, outcome and log do not depend on the tail at all. -/
theorem seq_foldRight_lazy (zero : Val) (f : Val → GoM Val → GoM Val) (h : Val)
    (hlazy : ∀ th th', f h th = f h th') (t t' : List Val) :
    Sq.foldRight zero f (h :: t) = Sq.foldRight zero f (h :: t') := by
  simp only [Sq.foldRight]
  exact hlazy _ _

example (k : Val → GoM Val) (h : Val) : ∀ th th' : GoM Val, (fun a (_ : GoM Val) => k a) h th = (fun a _ => k a) h th' :=
  fun _ _ => rfl

/-- the short-circuiting step `if p(x) { Done(x) } else { b }`: the first hit, else `zero`; what follows the
    first hit is never looked at. -/
theorem seq_foldRight_stop (p : Val → GoM Bool) (pp : Val → Bool) (hp : Total p pp) (zero : Val) (xs : List Val) (lg : Log) :
    ∃ lg', (Sq.foldRight zero (fun a th => do if ← p a then pure a else th) xs).run.run lg =
      (.ok ((xs.find? pp).getD zero), lg') := by
  induction xs generalizing lg with
  | nil => exact ⟨lg, rfl⟩
  | cons x xs ih =>
    obtain ⟨lg1, h1⟩ := hp x lg
    simp only [Sq.foldRight]
    rw [Coll.run_bind_ok h1]
    cases hx : pp x with
    | true => exact ⟨lg1, by simp [List.find?, hx]; rfl⟩
    | false =>
      obtain ⟨lg2, h2⟩ := ih lg1
      exact ⟨lg2, by simpa [List.find?, hx] using h2⟩

theorem seq_foldRight_stop_suffix (p : Val → GoM Bool) (pp : Val → Bool) (hp : Total p pp) (zero a : Val)
    (ha : pp a = true) (pre post post' : List Val) (lg : Log) :
    (Sq.foldRight zero (fun a th => do if ← p a then pure a else th) (pre ++ a :: post)).run.run lg =
    (Sq.foldRight zero (fun a th => do if ← p a then pure a else th) (pre ++ a :: post')).run.run lg := by
  induction pre generalizing lg with
  | nil =>
    obtain ⟨lg1, h1⟩ := hp a lg
    simp only [List.nil_append, Sq.foldRight]
    rw [Coll.run_bind_ok h1, Coll.run_bind_ok h1]
    simp [ha]
  | cons x pre ih =>
    obtain ⟨lg1, h1⟩ := hp x lg
    simp only [List.cons_append, Sq.foldRight]
    rw [Coll.run_bind_ok h1, Coll.run_bind_ok h1]
    cases pp x with
    | true => rfl
    | false => exact ih lg1

/-! ## `ToGoMap`, `ToMap`, `ToSet`, `ToGoSet` -/

variable {k : Nat} {R : Heap → LV → List Val → Prop}

/-- `list.ToGoMap` terminates on every finite list and is `foldl insert` (last write wins) -/
theorem list_toGoMap_eq (hS : LSim k R) (hp : Heap) (l : LV) (xs : List Val) (h : R hp l xs)
    (fuel : Nat) (hfuel : k + xs.length < fuel) (lg : Log) :
    ∃ hp' lg', toGoMap fuel l hp lg = (.ok (xs.foldl kvStep []), hp', lg') :=
  accLoop_lspec kvStep hS xs fuel hp l [] lg hfuel h

theorem list_toMap_eq (hS : LSim k R) (hp : Heap) (l : LV) (xs : List Val) (h : R hp l xs)
    (fuel : Nat) (hfuel : k + xs.length < fuel) (lg : Log) :
    ∃ hp' lg', toMap fuel l hp lg = (.ok (xs.foldl kvStep []), hp', lg') :=
  accLoop_lspec kvStep hS xs fuel hp l [] lg hfuel h

theorem list_toSet_eq (hS : LSim k R) (hp : Heap) (l : LV) (xs : List Val) (h : R hp l xs)
    (fuel : Nat) (hfuel : k + xs.length < fuel) (lg : Log) :
    ∃ hp' lg', toSet fuel l hp lg = (.ok (xs.foldl setStep []), hp', lg') :=
  accLoop_lspec setStep hS xs fuel hp l [] lg hfuel h

theorem list_toGoSet_eq (hS : LSim k R) (hp : Heap) (l : LV) (xs : List Val) (h : R hp l xs)
    (fuel : Nat) (hfuel : k + xs.length < fuel) (lg : Log) :
    ∃ hp' lg', toGoSet fuel l hp lg = (.ok (xs.foldl setStep []), hp', lg') :=
  accLoop_lspec setStep hS xs fuel hp l [] lg hfuel h

/-- what `foldl insert` means: the map sends `key` to the value of the LAST pair with that key (any key type
    with a lawful `==`, e.g. Go's comparable types). -/
theorem lookup_last_write_wins {κ ν : Type} [BEq κ] [LawfulBEq κ] (key : κ) (ps : List (κ × ν)) :
    kvLookupBy (· == ·) key (ps.foldl (fun m kv => kvInsertBy (· == ·) kv.1 kv.2 m) []) =
      (ps.reverse.find? (fun kv => kv.1 == key)).map (·.2) := by
  rw [kvLookup_foldl]
  simp [kvLookupBy]

example : kvLookupBy (· == ·) (1 : Int) ([(1, "a"), (2, "b"), (1, "c")].foldl (fun m kv => kvInsertBy (· == ·) kv.1 kv.2 m) []) = some "c" := by
  decide

/-! ## `Unapply`, `Foreach`, `FoldFuture` -/

/-- `l.Unapply()` of a non-empty list: head and a representation of the tail -/
theorem list_unapply_eq (hS : LSim k R) (fuel : Nat) (hp : Heap) (l : LV) (x : Val) (xs : List Val) (lg : Log)
    (hk : k < fuel) (hR : R hp l (x :: xs)) :
    ∃ t hp' lg', unapply fuel l hp lg = (.ok (x, t), hp', lg') ∧ R hp' t xs := by
  obtain ⟨n, rfl⟩ := Nat.exists_eq_succ_of_ne_zero (Nat.ne_zero_of_lt hk)
  have hk' : k ≤ n := Nat.le_of_lt_succ hk
  obtain ⟨hp1, lg1, h1, hR1⟩ := hS.head n hp l x xs lg hk' hR
  obtain ⟨t, hp2, lg2, h2, hR2⟩ := hS.tail n hp1 l x xs lg1 hk' hR1
  exact ⟨t, hp2, lg2, by rw [unapply_succ, bind_ok h1, bind_ok h2]; rfl, hR2⟩

/-- `Unapply()` of an empty `Nil` / `Seq` panics like `Head()`; heap and log are untouched -/
theorem list_unapply_empty (fuel : Nat) (l : LV) (hp : Heap) (lg : Log) (h : plainDen l = some []) :
    ∃ p, unapply (fuel + 2) l hp lg = (.error p, hp, lg) ∧ (p = "List.empty" ∨ p = "List.Empty") := by
  cases l with
  | nil => exact ⟨"List.empty", rfl, Or.inl rfl⟩
  | cons a t => simp [plainDen] at h
  | seq ys =>
    cases h
    exact ⟨"List.Empty", rfl, Or.inr rfl⟩
  | adaptor a b => cases h
  | nilIface => cases h

/-- `ListAdaptor.Foreach(f)` with a callback that returns or panics: terminates with the outcome of the
    reference loop; after a panic the cursor rests on the element whose callback panicked. -/
theorem list_foreach_eq (f : Val → GoM Unit) (g : Val → Except PanicVal Unit) (hf : Outcome f g) (hS : LSim k R)
    (xs : List Val) (fuel : Nat) (hp : Heap) (l : LV) (lg : Log) (hfuel : k + xs.length < fuel) (hR : R hp l xs) :
    ∃ hp' lg', foreachCursor f fuel l hp lg = ((foreachE g xs).1, hp', lg') ∧
      (∀ p, (foreachE g xs).1 = .error p → ∃ l' a, R hp' l' (a :: (foreachE g xs).2)) := by
  have hbody : ∀ (u : Unit) (a : Val) (as : List Val) (k : Unit → HM Unit) (hp : Heap) (lg : Log), ∃ lg',
      (∃ u', (do IM.liftG (f a); k u : HM Unit) hp lg = k u' hp lg' ∧ foreachE g (a :: as) = foreachE g as) ∨
      ((do IM.liftG (f a); k u : HM Unit) hp lg = ((foreachE g (a :: as)).1, hp, lg') ∧
        (foreachE g (a :: as)).2 = as) := by
    intro u a as k hp lg
    refine (liftG_outcome hf a hp lg).imp fun lg' => ?_
    simp only [foreachE]
    cases g a with
    | ok u => exact fun e => .inl ⟨(), bind_ok e, rfl⟩
    | error p => exact fun e => .inr ⟨bind_err e, rfl⟩
  obtain ⟨hp', lg', e, -, hrest⟩ := (foreachCursor_cursorLoop f).lspec (E := fun _ => foreachE g) (fun _ => rfl)
    hbody hS xs fuel hp l () lg hfuel hR
  refine ⟨hp', lg', e, fun p he => hrest fun u' e' => ?_⟩
  rw [he] at e'
  cases e'

/-- `Nil` / `Cons` / `Seq` `.Foreach(f)`: `f` sees exactly the elements in order, once each -/
theorem list_foreach_plain (f : Val → GoM Unit) (ev : Val → List Event)
    (hf : ∀ a lg, (f a).run.run lg = (.ok (), lg ++ ev a)) (l : LV) (xs : List Val) (h : plainDen l = some xs)
    (fuel : Nat) (hp : Heap) (lg : Log) (hfuel : xs.length < fuel) :
    foreachL f fuel l hp lg = (.ok (), hp, lg ++ xs.flatMap ev) := by
  rw [foreachL_plain f l xs fuel h hfuel, IM.liftG, seq_foreach_eq f ev hf]

/-- `seq.FoldFuture` over completed futures is the sequential fold over their results -/
theorem seq_foldFuture_eq (fn : Val → Val → GoM (Try Val)) (g : Val → Val → Try Val) (hf : Total2 fn g)
    (hg : ∀ a v, g a v ≠ .failure .nil) (xs : List Val) (zero : Val) (lg : Log) :
    ∃ lg', (seqFoldFuture fn xs zero).run.run lg = (.ok (futRef g (.success zero) xs), lg') :=
  futChain_total hf hg xs (.success zero) lg (by simp)

/-- … and after the first failure `fn` is not called again -/
theorem foldFuture_stops_calling (fn : Val → Val → GoM (Try Val)) (e : Err) (he : e ≠ .nil) (vs : List Val) (lg : Log) :
    (futChain fn vs (.failure e)).run.run lg = (.ok (.failure e), lg) := futChain_failed fn e he vs lg

/-- `list.FoldFuture`: the list is traversed completely first (`list.Fold`), then the sequential fold -/
theorem list_foldFuture_eq (fn : Val → Val → GoM (Try Val)) (g : Val → Val → Try Val) (hf : Total2 fn g)
    (hg : ∀ a v, g a v ≠ .failure .nil) (hS : LSim k R) (hp : Heap) (l : LV) (xs : List Val) (h : R hp l xs)
    (zero : Val) (fuel : Nat) (hfuel : k + xs.length < fuel) (lg : Log) :
    ∃ hp' lg', foldFuture fn fuel l zero hp lg = (.ok (futRef g (.success zero) xs), hp', lg') := by
  obtain ⟨hp1, lg1, h1, _⟩ := toSeq_lspec hS xs fuel hp l [] lg hfuel h
  obtain ⟨lg2, h2⟩ := futChain_total hf hg xs (.success zero) lg1 (by simp)
  refine ⟨hp1, lg2, ?_⟩
  simp only [foldFuture]
  rw [bind_ok h1]
  simp [IM.liftG, h2]

example : ∀ a v : Val, (fun (a v : Val) => if a.asInt + v.asInt == 0 then Try.failure (.code 1) else .success v) a v ≠ .failure .nil := by
  intro a v; simp only; split <;> simp

/-! ## each cell at most once, for every sequence of these operations -/

inductive Op where
  | eval (e : LExpr) (x : Val)
  | isEmpty (l : LV) | nonEmpty (l : LV) | head (l : LV) | tail (l : LV)
  | unapply (l : LV)
  | foreach (f : Val → GoM Unit) (l : LV)
  | toSeq (l : LV)
  | toGoMap (l : LV) | toMap (l : LV) | toSet (l : LV) | toGoSet (l : LV)
  | foldFuture (fn : Val → Val → GoM (Try Val)) (l : LV) (z : Val)

def Op.run (fuel : Nat) : Op → Heap → Log → Heap × Log
  | .eval e x, hp, lg => let r := LL.eval fuel e x hp lg; (r.2.1, r.2.2)
  | .isEmpty l, hp, lg => let r := LL.isEmpty fuel l hp lg; (r.2.1, r.2.2)
  | .nonEmpty l, hp, lg => let r := LX.nonEmpty fuel l hp lg; (r.2.1, r.2.2)
  | .head l, hp, lg => let r := LL.head fuel l hp lg; (r.2.1, r.2.2)
  | .tail l, hp, lg => let r := LL.tail fuel l hp lg; (r.2.1, r.2.2)
  | .unapply l, hp, lg => let r := LX.unapply fuel l hp lg; (r.2.1, r.2.2)
  | .foreach f l, hp, lg => let r := LX.foreachL f fuel l hp lg; (r.2.1, r.2.2)
  | .toSeq l, hp, lg => let r := LX.toSeqM fuel l [] hp lg; (r.2.1, r.2.2)
  | .toGoMap l, hp, lg => let r := LX.toGoMap fuel l hp lg; (r.2.1, r.2.2)
  | .toMap l, hp, lg => let r := LX.toMap fuel l hp lg; (r.2.1, r.2.2)
  | .toSet l, hp, lg => let r := LX.toSet fuel l hp lg; (r.2.1, r.2.2)
  | .toGoSet l, hp, lg => let r := LX.toGoSet fuel l hp lg; (r.2.1, r.2.2)
  | .foldFuture fn l z, hp, lg => let r := LX.foldFuture fn fuel l z hp lg; (r.2.1, r.2.2)

def runOps (fuel : Nat) : List Op → Heap → Log → Heap × Log
  | [], hp, lg => (hp, lg)
  | op :: ops, hp, lg => let r := op.run fuel hp lg; runOps fuel ops r.1 r.2

theorem Op.run_steps {R : Heap → Heap → Prop} (hR : StepRel R) (fuel : Nat) (op : Op) (hp : Heap) (lg : Log) :
    R hp (op.run fuel hp lg).1 := by
  have hA := stepsAll hR fuel
  cases op with
  | eval e x => exact hA.eval e x hp lg
  | isEmpty l => exact hA.isEmpty l hp lg
  | nonEmpty l => exact hR.nonEmpty fuel l hp lg
  | head l => exact hA.head l hp lg
  | tail l => exact hA.tail l hp lg
  | unapply l => exact hR.unapply fuel l hp lg
  | foreach f l => exact hR.foreachL f fuel l hp lg
  | toSeq l => exact hR.toSeqM fuel l [] hp lg
  | toGoMap l => exact hR.accLoop kvStep fuel l [] hp lg
  | toMap l => exact hR.accLoop kvStep fuel l [] hp lg
  | toSet l => exact hR.accLoop setStep fuel l [] hp lg
  | toGoSet l => exact hR.accLoop setStep fuel l [] hp lg
  | foldFuture fn l z => exact hR.foldFuture fn fuel l z hp lg

theorem runOps_steps {R : Heap → Heap → Prop} (hR : StepRel R) (fuel : Nat) :
    ∀ (ops : List Op) (hp : Heap) (lg : Log), R hp (runOps fuel ops hp lg).1
  | [], hp, _ => hR.refl hp
  | op :: ops, hp, lg => hR.trans (op.run_steps hR fuel hp lg) (runOps_steps hR fuel ops _ _)

/-- From the empty heap, after ANY sequence of list constructions and of the operations above (any list
    values, any callbacks — also panicking ones — any fuel), no memo cell's closure has been started more
    than once. -/
theorem ext_started_at_most_once (fuel : Nat) (ops : List Op) (lg : Log) :
    (runOps fuel ops {} lg).1.maxEvals ≤ 1 :=
  WF.maxEvals_le _ (runOps_steps wfStep fuel ops {} lg Heap.WF.empty)

/-! ## end to end on evaluated list expressions -/

/-- `list.ToGoMap(e)` for every list expression `e` (all constructors, nested; callbacks that do not panic):
    `foldl insert` over the denoted list, every memo cell started at most once. -/
theorem eval_toGoMap_eq (e : LExpr) (x : Val) (hpure : e.Pure) (fuel : Nat)
    (hfuel : e.bnd x + (e.denote x).length < fuel) (lg : Log) :
    ∃ l hp lg1 hp' lg', LL.eval fuel e x {} lg = (.ok l, hp, lg1) ∧
      toGoMap fuel l hp lg1 = (.ok ((e.denote x).foldl kvStep []), hp', lg') ∧ hp'.maxEvals ≤ 1 := by
  obtain ⟨l, hp, lg1, he, hR, hwf⟩ := eval_rep e x hpure fuel (by omega) lg
  obtain ⟨hp', lg', h⟩ := list_toGoMap_eq (heapRep_lsim _) hp l _ hR fuel hfuel lg1
  have hpres : Pres (toGoMap fuel l) := wfStep.accLoop kvStep fuel l []
  exact ⟨l, hp, lg1, hp', lg', he, h, hpres.maxEvals_le hwf h⟩

theorem eval_toSet_eq (e : LExpr) (x : Val) (hpure : e.Pure) (fuel : Nat)
    (hfuel : e.bnd x + (e.denote x).length < fuel) (lg : Log) :
    ∃ l hp lg1 hp' lg', LL.eval fuel e x {} lg = (.ok l, hp, lg1) ∧
      toSet fuel l hp lg1 = (.ok ((e.denote x).foldl setStep []), hp', lg') ∧ hp'.maxEvals ≤ 1 := by
  obtain ⟨l, hp, lg1, he, hR, hwf⟩ := eval_rep e x hpure fuel (by omega) lg
  obtain ⟨hp', lg', h⟩ := list_toSet_eq (heapRep_lsim _) hp l _ hR fuel hfuel lg1
  have hpres : Pres (toSet fuel l) := wfStep.accLoop setStep fuel l []
  exact ⟨l, hp, lg1, hp', lg', he, h, hpres.maxEvals_le hwf h⟩

/-- `list.ReverseSlice(xs)` traversed is `xs.reverse` -/
theorem reverseSlice_eq (xs : List Val) (fuel : Nat) (hfuel : (LExpr.reverse xs).bnd .unit + xs.length < fuel) (lg : Log) :
    ∃ l hp lg1 hp' lg', reverseSlice fuel xs {} lg = (.ok l, hp, lg1) ∧
      LL.toSeq fuel l [] hp lg1 = (.ok xs.reverse, hp', lg') ∧ hp'.maxEvals ≤ 1 := by
  obtain ⟨l, hp, lg1, he, hR, hwf⟩ := eval_rep (.reverse xs) .unit trivial fuel (by omega) lg
  obtain ⟨hp', lg', h, _⟩ := toSeq_lspec (heapRep_lsim _) _ fuel hp l [] lg1 (by simpa [LExpr.denote] using hfuel) hR
  have hpres : Pres (LL.toSeq fuel l []) := wfStep.toSeq fuel l []
  exact ⟨l, hp, lg1, hp', lg', he, by simpa [LExpr.denote] using h, hpres.maxEvals_le hwf h⟩

/-- `list.FromPtr`: nil ↦ the empty list, `&v` ↦ `[v]` -/
theorem fromPtr_eq (o : Option Val) : plainDen (fromPtr o) = some o.toList := by
  cases o <;> rfl

/-- `list.FromMap(m)` traversed: for every enumeration order of the map, a permutation of its entries -/
theorem fromMap_perm (entries enum : KV) (hperm : enum.Perm entries) (fuel : Nat)
    (hfuel : (LExpr.collect 0 (enum.map pairVal)).bnd .unit + enum.length < fuel) (lg : Log) :
    ∃ l hp lg1 hp' lg' ys, LX.fromMap fuel enum {} lg = (.ok l, hp, lg1) ∧
      LL.toSeq fuel l [] hp lg1 = (.ok ys, hp', lg') ∧ ys.Perm (entries.map pairVal) ∧ hp'.maxEvals ≤ 1 := by
  obtain ⟨l, hp, lg1, he, hR, hwf⟩ := eval_rep (.collect 0 (enum.map pairVal)) .unit trivial fuel (by omega) lg
  obtain ⟨hp', lg', h, _⟩ := toSeq_lspec (heapRep_lsim _) _ fuel hp l [] lg1 (by simpa [LExpr.denote] using hfuel) hR
  have hpres : Pres (LL.toSeq fuel l []) := wfStep.toSeq fuel l []
  exact ⟨l, hp, lg1, hp', lg', _, he, h, by simpa [LExpr.denote] using hperm.map pairVal, hpres.maxEvals_le hwf h⟩

/-! ## `list.Recurrence1`, `list.Recurrence2` -/

open Rec in
/-- The first `n` elements of `Recurrence2(a1, a2, rel)` (`Recurrence1(a1, rel)`), read through `Head()` /
    `Tail()`, are the unfolded recurrence `a1, a2, rel(a1, a2), …` — for every `n`, so the list is
    unbounded and every prefix terminates. -/
theorem rec_take_eq (rel : Rel) (relp : RelP) (hr : RelTotal rel relp) (a1 a2 : Val) (n : Nat) (lg : Log) :
    ∃ l hp hp' lg', recurrence rel a1 a2 {} lg = (.ok l, hp, lg) ∧
      take rel n l [] hp lg = (.ok (relp.unfold n (relp.start a1 a2)), hp', lg') ∧
      hp'.maxEvals ≤ 1 := by
  obtain ⟨l, hp, he, hF⟩ := fresh_recurrence hr a1 a2 lg
  obtain ⟨hp', lg', h⟩ := take_fresh hr n l _ [] hp lg hF
  refine ⟨l, hp, hp', lg', he, by simpa using h, Rec.WF.maxEvals_le _ ?_⟩
  have h0 := pres_recurrence rel a1 a2 {} lg RHeap.WF.empty
  rw [he] at h0
  have := pres_take rel n l [] hp lg h0
  rw [h] at this; exact this

open Rec in
theorem rec_nth_eq (rel : Rel) (relp : RelP) (hr : RelTotal rel relp) (a1 a2 : Val) (i : Nat) (lg : Log) :
    ∃ l hp hp' lg', recurrence rel a1 a2 {} lg = (.ok l, hp, lg) ∧
      nth rel i l hp lg = (.ok (relp.iter i (relp.start a1 a2)).1, hp', lg') := by
  obtain ⟨l, hp, he, hF⟩ := fresh_recurrence hr a1 a2 lg
  obtain ⟨hp', lg', h⟩ := nth_fresh hr i l _ hp lg hF
  exact ⟨l, hp, hp', lg', he, h⟩

/-- Fibonacci: `Recurrence2(0, 1, +)` -/
example : (Rec.RelP.r2 (fun a b => .int (a.asInt + b.asInt))).unfold 7 (.int 0, .int 1) =
    [.int 0, .int 1, .int 1, .int 2, .int 3, .int 5, .int 8] := by
  simp [Rec.RelP.unfold, Rec.RelP.next, Val.asInt]

example : Rec.RelTotal (.r2 (fun a b => do emit "rel"; pure (.int (a.asInt + b.asInt)))) (.r2 (fun a b => .int (a.asInt + b.asInt))) :=
  fun _ _ lg => ⟨lg ++ ["rel"], rfl⟩

inductive ROp where
  | isEmpty (l : Rec.RV) | head (l : Rec.RV) | tail (l : Rec.RV)
  | take (n : Nat) (l : Rec.RV) | nth (k : Nat) (l : Rec.RV) | mk (a1 a2 : Val)

def ROp.run (rel : Rec.Rel) : ROp → Rec.RHeap → Log → Rec.RHeap × Log
  | .isEmpty l, hp, lg => let r := Rec.isEmpty l hp lg; (r.2.1, r.2.2)
  | .head l, hp, lg => let r := Rec.head l hp lg; (r.2.1, r.2.2)
  | .tail l, hp, lg => let r := Rec.tail rel l hp lg; (r.2.1, r.2.2)
  | .take n l, hp, lg => let r := Rec.take rel n l [] hp lg; (r.2.1, r.2.2)
  | .nth k l, hp, lg => let r := Rec.nth rel k l hp lg; (r.2.1, r.2.2)
  | .mk a1 a2, hp, lg => let r := Rec.recurrence rel a1 a2 hp lg; (r.2.1, r.2.2)

def runROps (rel : Rec.Rel) : List ROp → Rec.RHeap → Log → Rec.RHeap × Log
  | [], hp, lg => (hp, lg)
  | op :: ops, hp, lg => let r := op.run rel hp lg; runROps rel ops r.1 r.2

/-- whatever the client does with recurrence lists (also with a relation that panics), every `getHead` /
    `getTail` closure is started at most once -/
theorem rec_started_at_most_once (rel : Rec.Rel) (ops : List ROp) (lg : Log) :
    (runROps rel ops {} lg).1.maxEvals ≤ 1 := by
  apply Rec.WF.maxEvals_le
  have key : ∀ (ops : List ROp) (hp : Rec.RHeap) (lg : Log), hp.WF → (runROps rel ops hp lg).1.WF := by
    intro ops
    induction ops with
    | nil => intro hp lg wf; exact wf
    | cons op ops ih =>
      intro hp lg wf
      simp only [runROps]
      apply ih
      cases op with
      | isEmpty l => exact Rec.pres_isEmpty l hp lg wf
      | head l => exact Rec.pres_head l hp lg wf
      | tail l => exact Rec.pres_tail rel l hp lg wf
      | take n l => exact Rec.pres_take rel n l [] hp lg wf
      | nth k l => exact Rec.pres_nth rel k l hp lg wf
      | mk a1 a2 => exact Rec.pres_recurrence rel a1 a2 hp lg wf
  exact key ops {} lg Rec.RHeap.WF.empty

/-- memoisation: `Tail()` / `Head()` on a cell that is done returns the stored value; the relation is not
    called, heap and log are unchanged -/
theorem rec_memo_tail_not_rerun (rel : Rec.Rel) (c : Nat) (hp : Rec.RHeap) (lg : Log) (v : Rec.RV) (n : Nat)
    (h : hp.ts[c]? = some (.done v, n)) : Rec.forceT rel c hp lg = (.ok v, hp, lg) := by
  unfold Rec.forceT; simp [h]

theorem rec_memo_head_not_rerun (c : Nat) (hp : Rec.RHeap) (lg : Log) (v : Option Val) (n : Nat)
    (h : hp.hs[c]? = some (.done v, n)) : Rec.forceH c hp lg = (.ok v, hp, lg) := by
  unfold Rec.forceH; simp [bind_apply, get_apply, h]

/- NOT PROVED (full statement, for the record): a second traversal of a recurrence list is free —
   theorem rec_take_twice (rel) (relp) (hr : RelTotal rel relp) (a1 a2) (n) (lg) :
     ∃ l hp hp' lg', recurrence rel a1 a2 {} lg = (.ok l, hp, lg) ∧
       take rel n l [] hp lg = (.ok (relp.unfold n _), hp', lg') ∧
       take rel n l [] hp' lg' = (.ok (relp.unfold n _), hp', lg')
   What is missing: an invariant for the chain of DONE cells (each done `getTail` cell points to a list whose
   cells are done or pending with the next pair) together with its frame lemma under `push`/`set!`;
   `rec_take_eq` above uses the simpler invariant `Fresh` (the cursor's two cells are pending).  The
   memo lemmas `rec_memo_*` are the per-cell part of it; the harness checks the end-to-end statement
   (second `take` returns the same elements with an empty event log) on every generated case. -/

end FpVerif.Spec.C12Ext
