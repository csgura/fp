import FpVerif.Model.FutureMisc
import FpVerif.Spec.C06Live
/-!
# C14 / C11 / C06 remainder — `monoid.Future` and `future.TraverseFunc`

`monoid.Future(m).Combine(a, b)` combines the RESULTS of the two futures with the element monoid in
left-right operand order, whatever the completion order of `a` and `b` and whatever the order in which
the scheduler runs the tasks: `monoidFuture_every_schedule` (soundness at every moment of every
schedule) and `monoidFuture_exact_at_quiescence` (completeness).
-/
namespace FpVerif.Spec.C14MiscFut
open FpVerif FpVerif.Fut FpVerif.Spec.C06

/-- the Try-level reading: `a`'s result first, then `b`'s, then `m.Combine(x, y)` with `x` from `a` (LEFT) -/
theorem evalS_monoidFutureCombine (σ : Nat → Option (Try Val)) (m : Val → Val → W Val) (a b : Nat) :
    evalS σ (monoidFutureCombine m a b)
      = bindOk (σ a) (fun x => bindOk (σ b) (fun y => some (.success (m x y).1))) :=
  evalS_map2 σ a b m

/-- both successful: exactly `m.Combine(x, y)`, operands not swapped -/
theorem monoidFuture_success (σ : Nat → Option (Try Val)) (m : Val → Val → W Val) (a b : Nat) (x y : Val)
    (ha : σ a = some (.success x)) (hb : σ b = some (.success y)) :
    evalS σ (monoidFutureCombine m a b) = some (.success (m x y).1) := by
  simp [evalS_monoidFutureCombine, ha, hb, bindOk]

/-- the LEFT operand's failure wins, whatever the right one is or will be (pending, failed with another error) -/
theorem monoidFuture_left_failure (σ : Nat → Option (Try Val)) (m : Val → Val → W Val) (a b : Nat) (e : Err)
    (ha : σ a = some (.failure e)) : evalS σ (monoidFutureCombine m a b) = some (.failure e) :=
  evalS_map2_first_failure σ a b m e ha

/-- left successful, right failed: the right failure -/
theorem monoidFuture_right_failure (σ : Nat → Option (Try Val)) (m : Val → Val → W Val) (a b : Nat) (x : Val) (e : Err)
    (ha : σ a = some (.success x)) (hb : σ b = some (.failure e)) :
    evalS σ (monoidFutureCombine m a b) = some (.failure e) := by
  simp [evalS_monoidFutureCombine, ha, hb, bindOk]

/-- first-order: the schedule-independence theorems of C06 apply -/
theorem fo_monoidFutureCombine {bd : Nat} (m : Val → Val → W Val) (a b : Nat) (ha : a < bd) (hb : b < bd) :
    FO bd (monoidFutureCombine m a b) := fo_map2 a b m ha hb

/-- **every schedule**: under any valid event sequence (constructions, source completions in any order, pooled
    tasks run in any order) before and after `Combine(a, b)` is built, whenever the combined future is completed
    it holds the left-right combination of what `a` and `b` hold in that same state — never the swapped one,
    never earlier than both operands determine it. -/
theorem monoidFuture_every_schedule (nsrc : Nat) (evs evs' : List Ev) (m : Val → Val → W Val) (a b : Nat) (r : Try Val)
    (hv : Valid nsrc (Net.empty nsrc) (evs ++ .mk (monoidFutureCombine m a b) :: evs')) :
    let n := runEvs (Net.empty nsrc) evs
    let q := (build (monoidFutureCombine m a b) n).1
    let n' := runEvs (Net.empty nsrc) (evs ++ .mk (monoidFutureCombine m a b) :: evs')
    n'.status q = some r →
      bindOk (n'.status a) (fun x => bindOk (n'.status b) (fun y => some (.success (m x y).1))) = some r := by
  intro n q n' hq
  have h := built_future_sound nsrc evs evs' (monoidFutureCombine m a b) r hv hq
  rwa [evalS_monoidFutureCombine] at h

/-- … and when no task is left to run the combined future IS completed with that value as soon as the operands
    determine it (completeness) -/
theorem monoidFuture_exact_at_quiescence (nsrc : Nat) (evs evs' : List Ev) (m : Val → Val → W Val) (a b : Nat)
    (hv : Valid nsrc (Net.empty nsrc) (evs ++ .mk (monoidFutureCombine m a b) :: evs'))
    (hq : (runEvs (Net.empty nsrc) (evs ++ .mk (monoidFutureCombine m a b) :: evs')).pool = []) :
    let n := runEvs (Net.empty nsrc) evs
    let q := (build (monoidFutureCombine m a b) n).1
    let n' := runEvs (Net.empty nsrc) (evs ++ .mk (monoidFutureCombine m a b) :: evs')
    n'.status q = bindOk (n'.status a) (fun x => bindOk (n'.status b) (fun y => some (.success (m x y).1))) := by
  intro n q n'
  rw [← evalS_monoidFutureCombine]
  exact built_future_exact nsrc evs evs' (monoidFutureCombine m a b) hv hq

/-- `monoid.Future(m).Empty()` is the already successful future of `m.Empty()` -/
theorem evalS_monoidFutureEmpty (σ : Nat → Option (Try Val)) (e : Val) :
    evalS σ (monoidFutureEmpty e) = some (.success e) := rfl

/-- the identity laws of the lifted monoid at the level of results: `Combine(Empty(), b)` holds `m.Combine(e, y)`,
    which is `y` when `e` is a left identity of `m` (and symmetrically) -/
theorem monoidFuture_left_identity (σ : Nat → Option (Try Val)) (m : Val → Val → W Val) (e : Val) (pe b : Nat) (y : Val)
    (hpe : σ pe = evalS σ (monoidFutureEmpty e)) (hb : σ b = some (.success y)) (hid : (m e y).1 = y) :
    evalS σ (monoidFutureCombine m pe b) = some (.success y) := by
  rw [evalS_monoidFutureEmpty] at hpe
  simp [evalS_monoidFutureCombine, hpe, hb, bindOk, hid]

/-- `future.TraverseFunc(far)(xs)` is `future.Traverse(xs, far)`: one more `Map` over `TraverseSeq` -/
theorem evalS_traverseFunc (σ : Nat → Option (Try Val)) (far : Val → FExpr) (xs : List Val) :
    evalS σ (traverseFunc far xs) = bindOk (evalS σ (traverseSeq xs far)) (fun l => some (.success l)) := by
  simp only [traverseFunc, evalS_map]

theorem fo_traverseFunc {bd : Nat} (far : Val → FExpr) (xs : List Val) (h : ∀ v, FO bd (far v)) :
    FO bd (traverseFunc far xs) := by
  unfold traverseFunc Fut.map
  exact .flatMap _ _ (fo_traverseSeq xs far h) (fun v => .logged _ _ (.successful _))

example : ∃ σ : Nat → Option (Try Val), σ 0 = some (.failure (.code 1)) ∧ σ 1 = none := ⟨fun p => if p = 0 then some (.failure (.code 1)) else none, rfl, rfl⟩

end FpVerif.Spec.C14MiscFut
