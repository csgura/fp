import FpVerif.Lemmas.Record
import FpVerif.Lemmas.Derive
/-!
# C08 — instances derived by `@fp.Derive` are lawful and field-wise.

Property theorems only.  `s` is any struct declaration (any number of fields, applicable or not),
`α` any type of field values, `ds` any list of component instances — one per applicable field, in
declaration order — that satisfy the stated component laws, and all records are universally
quantified.  The derived instance of a generic struct is `derivedXG s params given paramDicts`,
i.e. `derivedX s ds` for the `ds` computed from the dictionaries passed in; every theorem below is
stated for arbitrary `ds` and therefore covers it (`generic_instance_is_derived`).

The oracle `oracle_derive` runs exactly these `derivedEq / derivedOrd / derivedHash /
derivedMonoid / derivedClone` at `α = DV` with the concrete component dictionaries of
`Model/DeriveInst.lean`; `Spec/C08Inst.lean` proves that those concrete dictionaries satisfy the
law bundles assumed here.
-/
namespace FpVerif.Spec.C08
open FpVerif.Rec FpVerif.Derive

variable {α : Type}

/-! ## 1. Eq -/

/-- The derived `Eqv` is the conjunction of the field equalities: it holds iff every applicable
    field, compared with its own component instance, is `Eqv`. -/
theorem derivedEq_iff_fields (s : StructSpec) (ds : List (EqD α)) (x y : List α)
    (hx : WFG s x) (hy : WFG s y) (hd : ds.length = s.nApp) :
    (derivedEq s ds).eqv x y = true ↔
      ∀ k (h : k < s.nApp),
        (ds[k]'(hd ▸ h)).eqv ((unapplyG s x)[k]'(by rw [unapplyG_length s x hx]; exact h))
          ((unapplyG s y)[k]'(by rw [unapplyG_length s y hy]; exact h)) = true := by
  have ha : (unapplyG s x).length = ds.length := by rw [unapplyG_length s x hx, hd]
  have hb : (unapplyG s y).length = ds.length := by rw [unapplyG_length s y hy, hd]
  simp only [derivedEq, EqD.contraMap]
  rw [tupleEq_iff ds _ _ ha hb]
  exact ⟨fun h k hk => h k (hd ▸ hk), fun h k hk => h k (hd ▸ hk)⟩

/-- Derived `Eq` is an equivalence relation on the struct's values when every component is. -/
theorem derivedEq_lawful (s : StructSpec) (ds : List (EqD α)) (h : ∀ d ∈ ds, LawfulEq d)
    (hd : ds.length = s.nApp) : LawfulEqOn (WFG s) (derivedEq s ds) :=
  (tupleEq_lawful ds h).comap (unapplyG s) fun x hx => (unapplyG_length s x hx).trans hd.symm

/-- Non-applicable fields (`_`-prefixed, embedded empty structs) play no role: replacing them by
    anything (`zero`) changes nothing. -/
theorem derivedEq_ignores_non_applicable (s : StructSpec) (ds : List (EqD α)) (zero x y : List α)
    (hz : WFG s zero) (hx : WFG s x) (hy : WFG s y) :
    (derivedEq s ds).eqv (maskG s.fields zero x) (maskG s.fields zero y) =
      (derivedEq s ds).eqv x y := by
  simp only [derivedEq, EqD.contraMap, unapplyG, projectG_maskG s.fields zero x hz hx,
    projectG_maskG s.fields zero y hz hy]

/-! ## 2. Hashable -/

/-- The `Eqv` of the derived `Hashable` is the derived `Eq` of the components' `Eqv`s. -/
theorem derivedHash_eqv (s : StructSpec) (ds : List (HashD α)) :
    (derivedHash s ds).eqv = (derivedEq s (ds.map HashD.toEq)).eqv := rfl

/-- Derived `Hashable` agrees with its `Eqv`: equal values have equal hashes. -/
theorem derivedHash_lawful (s : StructSpec) (ds : List (HashD α)) (h : ∀ d ∈ ds, LawfulHash d)
    (hd : ds.length = s.nApp) : LawfulHashOn (WFG s) (derivedHash s ds) :=
  (tupleHash_lawful ds h).comap (unapplyG s) fun x hx => (unapplyG_length s x hx).trans hd.symm

/-- Non-applicable fields do not enter the hash. -/
theorem derivedHash_ignores_non_applicable (s : StructSpec) (ds : List (HashD α))
    (zero x : List α) (hz : WFG s zero) (hx : WFG s x) :
    (derivedHash s ds).hash (maskG s.fields zero x) = (derivedHash s ds).hash x := by
  simp only [derivedHash, HashD.contraMap, unapplyG, projectG_maskG s.fields zero x hz hx]

/-- What it computes for three fields (the template nests to the right, `Tuple1` is the bare
    component hash): `h1*31 + (h2*31 + h3)` in `uint32` arithmetic. -/
example (d1 d2 d3 : HashD α) (a b c : α) :
    tupleHash [d1, d2, d3] [a, b, c] = d1.hash a * 31 + (d2.hash b * 31 + d3.hash c) := rfl

/-! ## 3. Ord

The generated code wraps every level (`ord.TupleN`, `ord.ContraMap`) in `ord.New(eqv, less)`,
whose `Less` consults `less` only when `eqv` fails (`Model/Derive.lean: OrdD.new, tupleOrd`).
When every component's `Eqv` is "neither is less" (`OrdCompat`, part of `LawfulOrd`) this is the
plain lexicographic order. -/

/-- The derived instance computes the reference pair: `Eqv` = conjunction of the component `Eqv`s,
    `Less` = the lexicographic `tupleLess`. -/
theorem derivedOrd_spec (s : StructSpec) (ds : List (OrdD α)) (h : ∀ d ∈ ds, OrdCompat d)
    (x y : List α) (hx : WFG s x) (hy : WFG s y) (hd : ds.length = s.nApp) :
    (derivedOrd s ds).eqv x y = tupleEq (ds.map OrdD.toEq) (unapplyG s x) (unapplyG s y) ∧
      (derivedOrd s ds).less x y = tupleLess ds (unapplyG s x) (unapplyG s y) := by
  have ha : (unapplyG s x).length = ds.length := by rw [unapplyG_length s x hx, hd]
  have hb : (unapplyG s y).length = ds.length := by rw [unapplyG_length s y hy, hd]
  have S1 := tupleOrd_spec ds h _ _ ha hb
  have S2 := tupleOrd_spec ds h _ _ hb ha
  have C := tupleEq_iff_not_less ds h _ _ ha hb
  have := OrdD.contraMap_spec (tupleOrd ds) (unapplyG s) x y (by rw [S1.1, S1.2, S2.2]; exact C)
  rw [S1.1, S1.2] at this
  exact this

/-- The derived `Less` is the lexicographic order of the applicable fields in declaration order:
    `x < y` iff at the first field where the components are not "neither less", `x`'s is less. -/
theorem derivedOrd_less_iff_lex (s : StructSpec) (ds : List (OrdD α)) (h : ∀ d ∈ ds, OrdCompat d)
    (x y : List α) (hx : WFG s x) (hy : WFG s y) (hd : ds.length = s.nApp) :
    (derivedOrd s ds).less x y = true ↔
      ∃ k, ∃ h : k < s.nApp,
        (∀ j (hj : j < k),
          (ds[j]'(by omega)).less ((unapplyG s x)[j]'(by rw [unapplyG_length s x hx]; omega))
              ((unapplyG s y)[j]'(by rw [unapplyG_length s y hy]; omega)) = false ∧
          (ds[j]'(by omega)).less ((unapplyG s y)[j]'(by rw [unapplyG_length s y hy]; omega))
              ((unapplyG s x)[j]'(by rw [unapplyG_length s x hx]; omega)) = false) ∧
        (ds[k]'(hd ▸ h)).less ((unapplyG s x)[k]'(by rw [unapplyG_length s x hx]; exact h))
          ((unapplyG s y)[k]'(by rw [unapplyG_length s y hy]; exact h)) = true := by
  have ha : (unapplyG s x).length = ds.length := by rw [unapplyG_length s x hx, hd]
  have hb : (unapplyG s y).length = ds.length := by rw [unapplyG_length s y hy, hd]
  rw [(derivedOrd_spec s ds h x y hx hy hd).2, tupleLess_iff ds _ _ ha hb]
  constructor
  · rintro ⟨k, hk, h1, h2⟩
    exact ⟨k, hd ▸ hk, h1, h2⟩
  · rintro ⟨k, hk, h1, h2⟩
    exact ⟨k, hd ▸ hk, h1, h2⟩

/-- The `Eqv` of the derived `Ord` is the derived `Eq` of the components' `Eqv`s. -/
theorem derivedOrd_eqv (s : StructSpec) (ds : List (OrdD α)) (h : ∀ d ∈ ds, OrdCompat d)
    (x y : List α) (hx : WFG s x) (hy : WFG s y) (hd : ds.length = s.nApp) :
    (derivedOrd s ds).eqv x y = (derivedEq s (ds.map OrdD.toEq)).eqv x y :=
  (derivedOrd_spec s ds h x y hx hy hd).1

/-- Without the `OrdCompat` hypothesis the `ord.New` wrapping is visible: a component whose `Eqv`
    says "equal" hides its own `Less`. -/
example : (derivedOrd { name := "T", fields := [{ name := "a", ty := .conc "int" }] }
      [(⟨fun _ _ => true, fun a b => decide (a < b)⟩ : OrdD Nat)]).less [1] [2] = false := by
  decide +kernel

/-- Derived `Ord` is a lawful order (irreflexive, transitive, `Eqv` = "neither less", `Eqv`
    transitive) on the struct's values when every component is. -/
theorem derivedOrd_lawful (s : StructSpec) (ds : List (OrdD α)) (h : ∀ d ∈ ds, LawfulOrd d)
    (hd : ds.length = s.nApp) : LawfulOrdOn (WFG s) (derivedOrd s ds) :=
  (tupleOrd_lawful ds h).contraMap (unapplyG s) (fun x hx => by rw [unapplyG_length s x hx, hd])

theorem derivedOrd_irrefl (s : StructSpec) (ds : List (OrdD α)) (h : ∀ d ∈ ds, LawfulOrd d)
    (hd : ds.length = s.nApp) (x : List α) (hx : WFG s x) : (derivedOrd s ds).less x x = false :=
  (derivedOrd_lawful s ds h hd).irrefl x hx

theorem derivedOrd_trans (s : StructSpec) (ds : List (OrdD α)) (h : ∀ d ∈ ds, LawfulOrd d)
    (hd : ds.length = s.nApp) (x y z : List α) (hx : WFG s x) (hy : WFG s y) (hz : WFG s z)
    (h1 : (derivedOrd s ds).less x y = true) (h2 : (derivedOrd s ds).less y z = true) :
    (derivedOrd s ds).less x z = true :=
  (derivedOrd_lawful s ds h hd).trans x y z hx hy hz h1 h2

theorem derivedOrd_asymm (s : StructSpec) (ds : List (OrdD α)) (h : ∀ d ∈ ds, LawfulOrd d)
    (hd : ds.length = s.nApp) (x y : List α) (hx : WFG s x) (hy : WFG s y)
    (h1 : (derivedOrd s ds).less x y = true) : (derivedOrd s ds).less y x = false :=
  (derivedOrd_lawful s ds h hd).asymm hx hy h1

/-- totality: any two values are ordered or `Eqv` -/
theorem derivedOrd_total (s : StructSpec) (ds : List (OrdD α)) (h : ∀ d ∈ ds, LawfulOrd d)
    (hd : ds.length = s.nApp) (x y : List α) (hx : WFG s x) (hy : WFG s y) :
    (derivedOrd s ds).less x y = true ∨ (derivedOrd s ds).eqv x y = true ∨
      (derivedOrd s ds).less y x = true :=
  (derivedOrd_lawful s ds h hd).total hx hy

/-- compatibility with `Eqv`: equal values are not ordered -/
theorem derivedOrd_eqv_not_less (s : StructSpec) (ds : List (OrdD α)) (h : ∀ d ∈ ds, LawfulOrd d)
    (hd : ds.length = s.nApp) (x y : List α) (hx : WFG s x) (hy : WFG s y)
    (e : (derivedOrd s ds).eqv x y = true) : (derivedOrd s ds).less x y = false :=
  (derivedOrd_lawful s ds h hd).eqv_not_less hx hy e

/-- Declaration order matters: the same two values of a two-field struct compare one way when
    the fields are declared `f, g` and the other way when they are declared `g, f`. -/
theorem declaration_order_matters (f g : Field) (hf : f.applicable = true)
    (hg : g.applicable = true) (df dg : OrdD α) (Lf : LawfulOrd df) (Lg : LawfulOrd dg)
    (a a' b b' : α) (h1 : df.less a a' = true) (h2 : dg.less b' b = true) :
    (derivedOrd { name := "T", fields := [f, g] } [df, dg]).less [a, b] [a', b'] = true ∧
    (derivedOrd { name := "T", fields := [g, f] } [dg, df]).less [b, a] [b', a'] = false := by
  have h4 : dg.less b b' = false := Lg.asymm trivial trivial h2
  have c1 : ∀ d ∈ [df, dg], OrdCompat d := forall_mem_pair Lf.compat Lg.compat
  have c2 : ∀ d ∈ [dg, df], OrdCompat d := forall_mem_pair Lg.compat Lf.compat
  have n1 : ([df, dg] : List (OrdD α)).length = StructSpec.nApp { name := "T", fields := [f, g] } := by
    simp [StructSpec.nApp, StructSpec.applicableFields, hf, hg]
  have n2 : ([dg, df] : List (OrdD α)).length = StructSpec.nApp { name := "T", fields := [g, f] } := by
    simp [StructSpec.nApp, StructSpec.applicableFields, hf, hg]
  rw [(derivedOrd_spec _ _ c1 [a, b] [a', b'] (by simp [WFG]) (by simp [WFG]) n1).2,
    (derivedOrd_spec _ _ c2 [b, a] [b', a'] (by simp [WFG]) (by simp [WFG]) n2).2]
  simp [unapplyG, projectG, hf, hg, tupleLess, h1, h2, h4]

/-! ## 4. Monoid

`zero` is the zero value of the struct (`TBuilder{}`); `Ps` are the carriers of the components (the
values of the field types, on which the component monoids are lawful). -/

/-- Field-wise: the applicable fields of `Combine(a, b)` are the component-wise combination of
    the applicable fields of `a` and `b`. -/
theorem unapply_combine (s : StructSpec) (zero : List α) (ds : List (MonoidD α)) (a b : List α)
    (hz : WFG s zero) (ha : WFG s a) (hb : WFG s b) (hd : ds.length = s.nApp) :
    unapplyG s ((derivedMonoid s zero ds).combine a b) =
      tupleCombine ds (unapplyG s a) (unapplyG s b) := by
  rw [derivedMonoid_combine]
  exact unapplyG_fromZero s zero _ hz (by
    rw [tupleCombine_length ds _ _ (by rw [unapplyG_length s a ha, hd])
      (by rw [unapplyG_length s b hb, hd]), hd])

/-- … so field `k` of the result is `ds[k].Combine` of field `k` of the inputs, and of nothing else. -/
theorem combine_field (s : StructSpec) (zero : List α) (ds : List (MonoidD α)) (a b : List α)
    (hz : WFG s zero) (ha : WFG s a) (hb : WFG s b) (hd : ds.length = s.nApp) (k : Nat)
    (hk : k < s.nApp) :
    (unapplyG s ((derivedMonoid s zero ds).combine a b))[k]'(by
        rw [unapply_combine s zero ds a b hz ha hb hd, tupleCombine_length ds _ _
          (by rw [unapplyG_length s a ha, hd]) (by rw [unapplyG_length s b hb, hd]), hd]
        exact hk) =
      (ds[k]'(hd ▸ hk)).combine ((unapplyG s a)[k]'(by rw [unapplyG_length s a ha]; exact hk))
        ((unapplyG s b)[k]'(by rw [unapplyG_length s b hb]; exact hk)) := by
  have e := unapply_combine s zero ds a b hz ha hb hd
  have := tupleCombine_getElem ds (unapplyG s a) (unapplyG s b)
    (by rw [unapplyG_length s a ha, hd]) (by rw [unapplyG_length s b hb, hd]) k (hd ▸ hk)
  rw [← this]
  congr 1

/-- The applicable fields of `Empty()` are the components' `Empty()`s. -/
theorem unapply_empty (s : StructSpec) (zero : List α) (ds : List (MonoidD α)) (hz : WFG s zero)
    (hd : ds.length = s.nApp) :
    unapplyG s (derivedMonoid s zero ds).empty = ds.map MonoidD.empty := by
  rw [derivedMonoid_empty]
  exact unapplyG_fromZero s zero _ hz (by simp [tupleEmpty, hd])

/-- Results are built on `TBuilder{}`: their non-applicable fields hold the zero value. -/
theorem combine_masked (s : StructSpec) (zero : List α) (ds : List (MonoidD α)) (a b : List α)
    (hz : WFG s zero) :
    maskG s.fields zero ((derivedMonoid s zero ds).combine a b) =
      (derivedMonoid s zero ds).combine a b :=
  maskG_injectG s.fields zero _ hz

theorem empty_masked (s : StructSpec) (zero : List α) (ds : List (MonoidD α)) (hz : WFG s zero) :
    maskG s.fields zero (derivedMonoid s zero ds).empty = (derivedMonoid s zero ds).empty :=
  maskG_injectG s.fields zero _ hz

theorem combine_WF (s : StructSpec) (zero : List α) (ds : List (MonoidD α)) (a b : List α)
    (hz : WFG s zero) : WFG s ((derivedMonoid s zero ds).combine a b) :=
  fromZero_WFG s zero _ hz

/-- Left identity, exactly: `Combine(Empty(), a)` is `a` with its non-applicable fields reset to
    zero (the `TBuilder{}` detour of `IMap` loses them). -/
theorem combine_left_id (s : StructSpec) (zero : List α) (ds : List (MonoidD α))
    (Ps : List (α → Prop)) (h : LawfulMonoids ds Ps) (hz : WFG s zero) (hd : ds.length = s.nApp)
    (a : List α) (ha : WFG s a) (hc : InCarriers Ps (unapplyG s a)) :
    (derivedMonoid s zero ds).combine (derivedMonoid s zero ds).empty a = maskG s.fields zero a := by
  rw [derivedMonoid_combine, unapply_empty s zero ds hz hd, ← tupleEmpty,
    tupleCombine_left_id ds Ps h _ hc]
  exact injectG_projectG s.fields zero a hz ha

theorem combine_right_id (s : StructSpec) (zero : List α) (ds : List (MonoidD α))
    (Ps : List (α → Prop)) (h : LawfulMonoids ds Ps) (hz : WFG s zero) (hd : ds.length = s.nApp)
    (a : List α) (ha : WFG s a) (hc : InCarriers Ps (unapplyG s a)) :
    (derivedMonoid s zero ds).combine a (derivedMonoid s zero ds).empty = maskG s.fields zero a := by
  rw [derivedMonoid_combine, unapply_empty s zero ds hz hd, ← tupleEmpty,
    tupleCombine_right_id ds Ps h _ hc]
  exact injectG_projectG s.fields zero a hz ha

/-- … and it is `a` itself when every field is applicable. -/
theorem combine_left_id_all_applicable (s : StructSpec) (zero : List α) (ds : List (MonoidD α))
    (Ps : List (α → Prop)) (h : LawfulMonoids ds Ps) (hz : WFG s zero) (hd : ds.length = s.nApp)
    (a : List α) (ha : WFG s a) (hc : InCarriers Ps (unapplyG s a))
    (happ : ∀ f ∈ s.fields, f.applicable = true) :
    (derivedMonoid s zero ds).combine (derivedMonoid s zero ds).empty a = a := by
  rw [combine_left_id s zero ds Ps h hz hd a ha hc, maskG_all_applicable s.fields zero a hz ha happ]

theorem combine_right_id_all_applicable (s : StructSpec) (zero : List α) (ds : List (MonoidD α))
    (Ps : List (α → Prop)) (h : LawfulMonoids ds Ps) (hz : WFG s zero) (hd : ds.length = s.nApp)
    (a : List α) (ha : WFG s a) (hc : InCarriers Ps (unapplyG s a))
    (happ : ∀ f ∈ s.fields, f.applicable = true) :
    (derivedMonoid s zero ds).combine a (derivedMonoid s zero ds).empty = a := by
  rw [combine_right_id s zero ds Ps h hz hd a ha hc, maskG_all_applicable s.fields zero a hz ha happ]

/-- Associativity (an equality of whole records, non-applicable fields included). -/
theorem combine_assoc (s : StructSpec) (zero : List α) (ds : List (MonoidD α))
    (Ps : List (α → Prop)) (h : LawfulMonoids ds Ps) (hz : WFG s zero) (hd : ds.length = s.nApp)
    (a b c : List α) (ha : WFG s a) (hb : WFG s b) (hc : WFG s c)
    (ca : InCarriers Ps (unapplyG s a)) (cb : InCarriers Ps (unapplyG s b))
    (cc : InCarriers Ps (unapplyG s c)) :
    (derivedMonoid s zero ds).combine ((derivedMonoid s zero ds).combine a b) c =
      (derivedMonoid s zero ds).combine a ((derivedMonoid s zero ds).combine b c) := by
  rw [derivedMonoid_combine, unapply_combine s zero ds a b hz ha hb hd, derivedMonoid_combine,
    unapply_combine s zero ds b c hz hb hc hd, tupleCombine_assoc ds Ps h _ _ _ ca cb cc]

/-- Derived `Monoid` is a lawful monoid on the values it can produce (well-formed records whose
    non-applicable fields are zero and whose applicable fields lie in the component carriers). -/
theorem derivedMonoid_lawful (s : StructSpec) (zero : List α) (ds : List (MonoidD α))
    (Ps : List (α → Prop)) (h : LawfulMonoids ds Ps) (hz : WFG s zero) (hd : ds.length = s.nApp) :
    LawfulMonoidOn (fun a => WFG s a ∧ maskG s.fields zero a = a ∧ InCarriers Ps (unapplyG s a))
      (derivedMonoid s zero ds) where
  left_id a ha := by rw [combine_left_id s zero ds Ps h hz hd a ha.1 ha.2.2, ha.2.1]
  right_id a ha := by rw [combine_right_id s zero ds Ps h hz hd a ha.1 ha.2.2, ha.2.1]
  assoc a b c ha hb hc :=
    combine_assoc s zero ds Ps h hz hd a b c ha.1 hb.1 hc.1 ha.2.2 hb.2.2 hc.2.2

/-- The case of components that are lawful on every value (`P = True`): no carrier side conditions. -/
theorem derivedMonoid_lawful_total (s : StructSpec) (zero : List α) (ds : List (MonoidD α))
    (h : ∀ d ∈ ds, LawfulMonoid d) (hz : WFG s zero) (hd : ds.length = s.nApp) :
    LawfulMonoidOn (fun a => WFG s a ∧ maskG s.fields zero a = a) (derivedMonoid s zero ds) := by
  have H := derivedMonoid_lawful s zero ds (ds.map fun _ => fun _ => True)
    (Forall2.of_forall ds _ h) hz hd
  have C : ∀ a, WFG s a → InCarriers (ds.map fun _ => fun _ : α => True) (unapplyG s a) :=
    fun a ha => InCarriers.trivial ds _ (by rw [unapplyG_length s a ha, hd])
  exact ⟨fun a ha => H.left_id a ⟨ha.1, ha.2, C a ha.1⟩,
    fun a ha => H.right_id a ⟨ha.1, ha.2, C a ha.1⟩,
    fun a b c ha hb hc => H.assoc a b c ⟨ha.1, ha.2, C a ha.1⟩ ⟨hb.1, hb.2, C b hb.1⟩
      ⟨hc.1, hc.2, C c hc.1⟩⟩

/-! ## 5. Clone -/

/-- With component clones that are equal copies sharing no storage (each at the value of its own
    field), the derived clone is one: the applicable fields have the same content, every address
    in the result was allocated by this call (`n ≤ a < n'`), and no two are the same. -/
theorem derivedClone_ok (s : StructSpec) (ds : List (CloneD HV)) (x : HRec)
    (hx : x.length = s.fields.length) (h : Forall2 CloneOK ds (projectG s.fields x)) :
    CloneOKRec s (derivedClone s ds) x := by
  have run : ∀ n, runAlloc ((derivedClone s ds).clone x) n =
      (injectG s.fields (zeroH s) (runAlloc (tupleClone ds (projectG s.fields x)) n).1,
        (runAlloc (tupleClone ds (projectG s.fields x)) n).2) := fun _ => rfl
  have len : ∀ n, (runAlloc (tupleClone ds (projectG s.fields x)) n).1.length =
      (s.fields.filter Field.applicable).length := fun n => by
    rw [(tupleClone_run ds _ h n).2.2.1, projectG_length s.fields x hx]
  refine ⟨fun n => ?_, fun n => ?_, fun n a ha => ?_, fun n => ?_⟩
  · rw [run, projectG_injectG s.fields _ _ (by simp [zeroH]) (len n)]
    exact (tupleClone_run ds _ h n).1
  · rw [run]; exact (tupleClone_run ds _ h n).2.1
  · rw [run] at ha ⊢
    simp only [zeroH] at ha
    rw [addrsL_injectG_zero_eq s.fields _ (len n)] at ha
    exact (tupleClone_run ds _ h n).2.2.2.1 a ha
  · rw [run]
    simp only [zeroH]
    rw [addrsL_injectG_zero_eq s.fields _ (len n)]
    exact (tupleClone_run ds _ h n).2.2.2.2

/-- … in particular the clone shares no storage with its input (nor with anything else that
    existed before the call): every address allocated so far is below the allocator's counter. -/
theorem derivedClone_disjoint (s : StructSpec) (ds : List (CloneD HV)) (x : HRec)
    (hx : x.length = s.fields.length) (h : Forall2 CloneOK ds (projectG s.fields x)) (n : Nat)
    (hn : ∀ a ∈ addrsL x, a < n) :
    ∀ a ∈ addrsL (runAlloc ((derivedClone s ds).clone x) n).1, a ∉ addrsL x := by
  intro a ha hax
  have := (derivedClone_ok s ds x hx h).fresh n a ha
  have := hn a hax
  omega

/-- The deep clone is a lawful component at every value; so a struct all of whose fields are
    cloned deeply is cloned lawfully. -/
theorem derivedClone_deep_ok (s : StructSpec) (x : HRec) (hx : x.length = s.fields.length) :
    CloneOKRec s (derivedClone s (s.applicableFields.map fun _ => CloneD.deep)) x := by
  apply derivedClone_ok s _ x hx
  have : ∀ (fs : List Field) (vs : List HV), vs.length = fs.length →
      Forall2 CloneOK (fs.map fun _ => CloneD.deep) vs := by
    intro fs vs hv
    induction fs, vs, hv using tuple_induction₁ with
    | nil => exact .nil
    | cons f fs v vs hv ih => exact .cons (deepClone_ok v) ih
  exact this _ _ (projectG_length s.fields x hx)

/-- The pointer clone the property demands is lawful at a pointer whose pointee the component
    clones lawfully, and at `nil`. -/
theorem ptrCloneDeep_ok (d : CloneD HV) (a : Nat) (c : HV) (h : CloneOK d c) :
    CloneOK (ptrCloneDeep d) (.ref a c) := by
  have run : ∀ n, runAlloc ((ptrCloneDeep d).clone (.ref a c)) n =
      (.ref n (runAlloc (d.clone c) (n + 1)).1, (runAlloc (d.clone c) (n + 1)).2) := fun _ => rfl
  refine cloneOK_of_run fun n => ?_
  rw [run n]
  exact ⟨h.same (n + 1), Nat.le_trans (Nat.le_succ n) (h.mono (n + 1)),
    (h.block (n + 1)).cons (h.mono (n + 1))⟩

theorem ptrCloneDeep_ok_nil (d : CloneD HV) (t : String) : CloneOK (ptrCloneDeep d) (.leaf t) :=
  pure_ok_leaf _ t fun _ => rfl

/-- COUNTER-STATEMENT.  `clone.Ptr` as it stood before commit ddaa598 allocated a new cell and
    copied the pointee into it as is, whatever instance it was given … -/
theorem ptrCloneShallow_run (d : CloneD HV) (a : Nat) (c : HV) (n : Nat) :
    runAlloc ((ptrCloneShallow d).clone (.ref a c)) n = (.ref n c, n + 1) := rfl

/-- … so as soon as the pointee holds any mutable storage (a slice, a map, another pointer), the
    "clone" shares it with the original: `clone.Ptr` is NOT an equal copy sharing no storage. -/
theorem ptrCloneShallow_shares (d : CloneD HV) (a : Nat) (c : HV) (n b : Nat)
    (hb : b ∈ c.addrs) :
    b ∈ (runAlloc ((ptrCloneShallow d).clone (.ref a c)) n).1.addrs ∧
      b ∈ (HV.ref a c).addrs := by
  rw [ptrCloneShallow_run]
  simp [HV.addrs, hb]

theorem ptrCloneShallow_not_ok (d : CloneD HV) (a : Nat) (c : HV) (b : Nat) (hb : b ∈ c.addrs) :
    ¬ CloneOK (ptrCloneShallow d) (.ref a c) := by
  intro h
  have := h.fresh (b + 1) b (by rw [ptrCloneShallow_run]; simp [HV.addrs, hb])
  omega

/-- (It is fine exactly when the pointee holds no storage — the check does not ask for more.) -/
theorem ptrCloneShallow_ok_flat (d : CloneD HV) (a : Nat) (c : HV) (hc : c.addrs = []) :
    CloneOK (ptrCloneShallow d) (.ref a c) :=
  ⟨fun n => by rw [ptrCloneShallow_run]; simpa [HV.same] using HV.same_refl c,
   fun n => by rw [ptrCloneShallow_run]; simp,
   fun n b hb => by
     rw [ptrCloneShallow_run] at hb ⊢
     simp [HV.addrs, hc] at hb
     subst hb; simp,
   fun n => by rw [ptrCloneShallow_run]; simp [HV.addrs, hc]⟩

/-! ### The defect on a derived instance

`type A struct { name string; sl []string }`, `type B struct { p *A; n int }`.  `CloneB()` is
`clone.Generic(.., clone.Tuple2(clone.Ptr(lazy.Call(CloneA)), clone.Given[int]()))`.
`specB`, `valB` (`Model/Derive.lean`): `B{p: &A{"x", []string{"e"}}, n: 7}` with the `A` at address 0 and
the slice's backing array at address 1. -/

/-- the derived clone with the shallow (pre-ddaa598) `clone.Ptr`: the copy's slice has the original's backing
    array (address 1) -/
theorem derived_clone_with_real_Ptr_shares :
    (runAlloc ((derivedClone specB [ptrCloneShallow CloneD.deep, CloneD.given]).clone valB) 2).1 =
        [.ref 2 (.pair (.leaf "x") (.ref 1 (.leaf "e"))), .leaf "7"] ∧
      1 ∈ addrsL (runAlloc
        ((derivedClone specB [ptrCloneShallow CloneD.deep, CloneD.given]).clone valB) 2).1 ∧
      1 ∈ addrsL valB := by
  decide +kernel

/-- the derived clone with the lawful pointer clone: all storage is new -/
theorem derived_clone_with_deep_Ptr_fresh :
    (runAlloc ((derivedClone specB [ptrCloneDeep CloneD.deep, CloneD.given]).clone valB) 2).1 =
        [.ref 2 (.pair (.leaf "x") (.ref 3 (.leaf "e"))), .leaf "7"] := by
  decide +kernel

/-! ## Generic structs -/

/-- The derived instance of a generic struct is the derived instance for the component list
    computed from the dictionaries it is given, one component per applicable field: all theorems
    above apply to it. -/
theorem generic_instance_is_derived (s : StructSpec) (params : List String) (given : Ty → OrdD α)
    (pd : String → OrdD α) :
    derivedOrdG s params given pd = derivedOrd s (components s params given pd) ∧
      (components s params given pd).length = s.nApp :=
  ⟨rfl, components_length s params given pd⟩

/-- two fields of the same type-parameter type get the SAME dictionary (the one passed for that
    parameter), whatever is in scope -/
theorem generic_param_shared (params : List String) (given : Ty → OrdD α) (pd : String → OrdD α)
    (f g : Field) (n : String) (hf : f.ty = .conc n) (hg : g.ty = .conc n)
    (hn : params.contains n = true) :
    resolve params pd given f = pd n ∧ resolve params pd given g = pd n := by
  have : n ∈ params := by simpa using hn
  simp [resolve, hf, hg, this]

/-- lawful parameter dictionaries and lawful in-scope instances give a lawful instance of `T[A,…]` -/
theorem derivedOrdG_lawful (s : StructSpec) (params : List String) (given : Ty → OrdD α)
    (pd : String → OrdD α) (hg : ∀ t, LawfulOrd (given t)) (hp : ∀ n, LawfulOrd (pd n)) :
    LawfulOrdOn (WFG s) (derivedOrdG s params given pd) :=
  derivedOrd_lawful s _ (components_all LawfulOrd s params given pd hg hp)
    (components_length s params given pd)

/-- "One instance per type parameter ACTUALLY USED": the derived instance of a generic struct depends
    on the dictionary of a type parameter only if some applicable field has that parameter as its
    type — dictionaries of the other parameters (which the generated function does not even take)
    are irrelevant.  Stated for the component list, hence for every class (`D` arbitrary). -/
theorem generic_unused_param_irrelevant {D : Type} (s : StructSpec) (params : List String)
    (given : Ty → D) (pd pd' : String → D)
    (h : ∀ n, (∃ f ∈ s.applicableFields, f.ty = .conc n) → params.contains n = true →
      pd n = pd' n) :
    components s params given pd = components s params given pd' := by
  unfold components
  apply List.map_congr_left
  intro f hf
  unfold resolve
  split
  · rename_i n hty
    split
    · rename_i hn
      exact h n ⟨f, hf, hty⟩ hn
    · rfl
  · rfl

/-- … and a used parameter IS consulted: the component of a field of parameter type is the
    dictionary passed, so two different dictionaries give two different component lists. -/
theorem generic_used_param_matters {D : Type} (s : StructSpec) (params : List String)
    (given : Ty → D) (pd pd' : String → D) (f : Field) (n : String) (hf : f ∈ s.applicableFields)
    (hty : f.ty = .conc n) (hn : params.contains n = true) (hne : pd n ≠ pd' n) :
    components s params given pd ≠ components s params given pd' := by
  intro heq
  unfold components at heq
  have := (List.map_inj_left.1 heq) f hf
  simp only [resolve, hty, hn, if_true] at this
  exact hne this

/-! ### Instance resolution precedence (a specification-level model)

gombok looks for the instance of class `C` for a field type in three scopes, in this documented
order: the working package (the one being generated), the package that declares the type, the
type-class package (`eq`, `ord`, `hash`, `monoid`, `clone`).  This is a small stand-alone model of that
search (`find?` over the concatenation in that order); it is NOT tied to gombok's Go code by a
theorem or an oracle — the harness computes the expected expression by these rules and the
differential run compares the behaviour of what gombok generated with it (so the clause remains
harness-checked; the theorems below only pin down what "precedence" means). -/

/-- the instances visible for one class, keyed by the type they are for -/
structure Scopes (I : Type) where
  working : List (String × I)
  own : List (String × I)
  cls : List (String × I)

/-- first match in the documented order -/
def Scopes.lookup {I : Type} (sc : Scopes I) (t : String) : Option I :=
  ((sc.working ++ sc.own ++ sc.cls).find? fun p => p.1 == t).map (·.2)

/-- an instance in the working package wins over everything else -/
theorem Scopes.lookup_working {I : Type} (sc : Scopes I) (t : String) (p : String × I)
    (h : sc.working.find? (fun p => p.1 == t) = some p) : sc.lookup t = some p.2 := by
  simp [Scopes.lookup, List.find?_append, h]

/-- … else the instance declared next to the type wins over the class package's -/
theorem Scopes.lookup_own {I : Type} (sc : Scopes I) (t : String) (p : String × I)
    (hw : sc.working.find? (fun p => p.1 == t) = none)
    (h : sc.own.find? (fun p => p.1 == t) = some p) : sc.lookup t = some p.2 := by
  simp [Scopes.lookup, List.find?_append, hw, h]

/-- … else the class package's -/
theorem Scopes.lookup_cls {I : Type} (sc : Scopes I) (t : String)
    (hw : sc.working.find? (fun p => p.1 == t) = none)
    (ho : sc.own.find? (fun p => p.1 == t) = none) :
    sc.lookup t = (sc.cls.find? fun p => p.1 == t).map (·.2) := by
  simp [Scopes.lookup, List.find?_append, hw, ho]

/-- the grammar's `dep.Money`: the local `EqMoney` (mod 7) overrides `dep.EqMoney` (div 100), which
    overrides nothing in package `eq` -/
example : (Scopes.lookup ⟨[("dep.Money", "EqMoney")], [("dep.Money", "dep.EqMoney")],
    [("int", "eq.Given[int]")]⟩ "dep.Money") = some "EqMoney" := by decide +kernel
example : (Scopes.lookup ⟨[], [("dep.Money", "dep.EqMoney")],
    [("int", "eq.Given[int]")]⟩ "dep.Money") = some "dep.EqMoney" := by decide +kernel

/-! ## The record model of C07 is the instance `α = RV`

`AsTuple` / `Unapply` / `Builder.Apply` / `AsMutable`'s mask of `Model/Record.lean` are the generic
record functions at `RV`: the theorems above speak about the methods C07 is about. -/

theorem unapplyG_eq_unapply (s : StructSpec) (x : Rec) : unapplyG s x = unapply s x :=
  projectG_eq_project s.fields x

theorem fromZero_eq_apply (s : StructSpec) (t : List RV) :
    fromZero s s.zero t = build (apply s s.zero t) :=
  injectG_eq_inject s.fields s.zero t

theorem maskG_eq_asMutable (s : StructSpec) (x : Rec) : maskG s.fields s.zero x = asMutable s x :=
  maskG_eq_mask s.fields x

theorem WFG_iff_WF (s : StructSpec) (x : Rec) : WFG s x ↔ Rec.WF s x := Iff.rfl

/-- below `max.Product` fields `AsTuple` is `Unapply` (and `FromTuple` is `Apply`): the model's
    use of the full field list covers both the tuple and the hlist code path. -/
theorem asTuple_eq_unapply (s : StructSpec) (x : Rec) (hx : Rec.WF s x) (ht : s.hasTuple = true) :
    asTuple s x = unapplyG s x := by
  rw [unapplyG_eq_unapply]
  exact take_arity s ht _ (project_length s.fields x hx)

/-! ## The hypotheses are satisfiable (sample dictionaries over `RV`; the oracle's own concrete
    dictionaries over `DV` are in `Spec/C08Inst.lean`) -/

example : LawfulEq EqD.given :=
  ⟨fun a _ => by simp [EqD.given], fun a b _ _ h => by simp [EqD.given] at *; exact h.symm,
   fun a b c _ _ _ h1 h2 => by simp [EqD.given] at *; exact h1.trans h2⟩

theorem byNum_lawful : LawfulOrd OrdD.byNum where
  irrefl a _ := by simp [OrdD.byNum]
  trans a b c _ _ _ h1 h2 := by simp [OrdD.byNum] at *; omega
  eqv_iff a b _ _ := by simp [OrdD.byNum]; omega
  eqv_trans a b c _ _ _ h1 h2 := by simp [OrdD.byNum] at *; omega

example : LawfulHash HashD.byNum := ⟨fun a b _ _ h => by simp [HashD.byNum] at *; rw [h]⟩

theorem first_lawful : LawfulMonoid MonoidD.first where
  left_id a _ := by simp [MonoidD.first]
  right_id a _ := by
    simp only [MonoidD.first]
    split <;> simp_all
  assoc a b c _ _ _ := by
    simp only [MonoidD.first]
    by_cases ha : a = .none <;> by_cases hb : b = .none <;> simp [ha, hb]

example : ∀ v, CloneOK CloneD.deep v := deepClone_ok

-- `specP` (`Model/Derive.lean`): `struct { a uint; _pad uint; b uint }`, a non-applicable field in the middle
example : specP.nApp = 2 := by decide +kernel
example : WFG specP [RV.atom "1", .atom "9", .atom "2"] := rfl

/-- lexicographic, first field first, `_pad` ignored -/
example : (derivedOrd specP [OrdD.byNum, OrdD.byNum]).less
    [.atom "1", .atom "9", .atom "2"] [.atom "2", .atom "0", .atom "1"] = true := by decide +kernel
example : (derivedOrd specP [OrdD.byNum, OrdD.byNum]).less
    [.atom "1", .atom "9", .atom "2"] [.atom "1", .atom "0", .atom "10"] = true := by decide +kernel
example : (derivedOrd specP [OrdD.byNum, OrdD.byNum]).eqv
    [.atom "1", .atom "9", .atom "2"] [.atom "1", .atom "0", .atom "2"] = true := by decide +kernel

/-- the monoid's identity law really is "up to mask": the `_pad` field is lost -/
example : (derivedMonoid specP specP.zero [MonoidD.first, MonoidD.first]).combine
    (derivedMonoid specP specP.zero [MonoidD.first, MonoidD.first]).empty
      [.atom "1", .atom "9", .atom "2"]
      = [.atom "1", .atom "0", .atom "2"] := by decide +kernel

end FpVerif.Spec.C08
