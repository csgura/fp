import Lean
import FpVerif.Gen.FrameFacts
import FpVerif.Lemmas.FrameTable
/-!
# C04 — the long tail: every enumerated function is covered by a generated frame-check wrapper

`harness/cmd/framegen` enumerates, from the repository's CURRENT sources, every exported function, method and
instance variable of the library (all packages except `mutable`, commands, tests, internal packages and the
code-generation tooling) whose signature mentions caller-visible memory (slice, `fp.Seq`, Go map, pointer, one of
the library's collections, or a function / instance over those), generates one call wrapper per entry for the
model-free frame check (`harness/cmd/frame`), and writes the table `FpVerif.Gen.Frame.entries` (regenerated on
every check, not under version control).  The theorems below are re-checked against the regenerated table:

* every enumerated entry is covered by a wrapper that the generated Go code registers, or it is one of the
  EXPLICITLY listed exceptions with its reason — a new exported function that the generator cannot drive makes
  `every_entry_covered_or_listed` fail instead of silently dropping out of the check;
* the functions the property names (and the seeded long-tail defects) are covered;
* all library packages were enumerated.

Names are compared as natural numbers (`code% "seq.Sort"` elaborates to the little-endian base-256 value of the
bytes of the literal, the encoding the generator uses): the kernel evaluates `decide` on `Nat` quickly and on
`String` very slowly.
-/
namespace FpVerif.Spec.C04
open FpVerif.Gen.Frame FpVerif.FrameTable

/-- the generator's encoding of a name: Σ byteᵢ · 256ⁱ -/
def nameCode (s : String) : Nat := s.toUTF8.data.foldr (fun b acc => acc * 256 + b.toNat) 0

/-- `code% "abc"` = `nameCode "abc"` as a numeral, computed at elaboration time -/
elab "code% " s:str : term => return Lean.toExpr (nameCode s.getString)

/-- `codes% ["b", "a"]` = the ascending list of the codes of the literals, computed at elaboration time
    (the order of a set of names is immaterial; ascending order makes membership a linear merge walk) -/
elab "codes% " "[" ss:str,* "]" : term => do
  let cs := (ss.getElems.map (fun s => nameCode s.getString)).qsort (· < ·)
  return Lean.toExpr cs.toList

/-- reason codes of the generated table -/
def arityFamilyInstance : Nat := 1
def unexportedType : Nat := 2
def timer : Nat := 3
def noProvider : Nat := 4

def isDigit (c : Nat) : Bool := Nat.ble 48 c && Nat.ble c 57

/-- the name with its digits removed (again as a number; names have fewer than `fuel` bytes): the members of one
    arity family share it. (Matching on the number first makes the kernel evaluate each quotient once.) -/
def stripDigits : Nat → Nat → Nat
  | 0, _ => 0
  | _, 0 => 0
  | fuel + 1, k + 1 =>
    bif isDigit ((k + 1) % 256) then stripDigits fuel ((k + 1) / 256)
    else (k + 1) % 256 + 256 * stripDigits fuel ((k + 1) / 256)

def familyKey (n : Nat) : Nat := stripDigits 200 n

/-- covered: at least one wrapper, no reason recorded -/
def covered (e : Entry) : Bool := !e.wrappers.isEmpty && e.reason == 0

def coveredIds : List Nat := (entries.filter covered).map (·.id)

/-- `covered` by pattern matching: the form in which the kernel evaluates it over the table -/
def coveredCases : Entry → Bool
  | ⟨_, _, _ :: _, 0⟩ => true
  | _ => false

theorem covered_eq : covered = coveredCases := by
  funext e
  rcases e with ⟨i, k, _ | ⟨w, ws⟩, _ | r⟩ <;> rfl

/-- the ONLY entries that may stay without a wrapper (besides the higher members of arity families) -/
def explicitlyUncovered : List (Nat × Nat) := [
  (code% "immutable.MapIterator", unexportedType),  -- its parameter type *hamt is not exported: not callable from outside
  (code% "promise.WithTimeout", timer),             -- arms a timer that fires later on another goroutine
  (code% "try.Panic.Stack", noProvider)]            -- try.Panic values only arise inside a recovered panic

def excused (e : Entry) : Bool :=
  e.wrappers.isEmpty && (e.reason == arityFamilyInstance || explicitlyUncovered.contains (e.id, e.reason))

/-- **Completeness of the long-tail frame check**: every enumerated function is covered by a generated wrapper or
    is explicitly listed as uncovered with a reason. -/
theorem every_entry_covered_or_listed : ∀ e ∈ entries, covered e = true ∨ excused e = true := by
  have h : entries.all (fun e => covered e || excused e) = true := by
    rw [covered_eq]
    decide +kernel
  intro e he
  have := List.all_eq_true.mp h e he
  simpa [Bool.or_eq_true] using this

/-- the wrappers named in the table are exactly the wrappers the generated Go code registers (same order) -/
theorem wrappers_are_registered : entries.flatMap (·.wrappers) = registered := by decide +kernel

/-- no function is listed twice (the table is strictly ascending in the name code) -/
theorem entries_ascending : ascending (entries.map (·.id)) = true := by decide +kernel

/-- the higher members of arity families that were left out, in table order -/
def leftOutOfFamilies : List Nat := (entries.filter (fun e => e.reason == arityFamilyInstance)).map (·.id)

theorem family_witnesses_complete : leftOutOfFamilies = familyWitnesses.map Prod.fst := by
  rw [leftOutOfFamilies]
  simp only [beq_eq_natBeq]
  decide +kernel

theorem family_witnesses_same_family :
    familyWitnesses.all (fun p => familyKey p.1 == familyKey p.2 && witnessesAsc.contains p.2) = true := by decide +kernel

theorem family_witnesses_covered : subsetAsc 4000 witnessesAsc coveredIds = true := by decide +kernel

/-- a higher member of an arity family is only left out when a member of the same family is covered:
    the generated witness list names, for EACH left-out entry (`family_witnesses_complete`), a covered entry with the
    same name up to digits -/
theorem family_has_covered_member :
    ∀ p ∈ familyWitnesses, familyKey p.1 = familyKey p.2 ∧ p.2 ∈ coveredIds := by
  intro p hp
  have h4 := List.all_eq_true.mp family_witnesses_same_family p hp
  rw [Bool.and_eq_true] at h4
  exact ⟨eq_of_beq h4.1, subsetAsc_sound _ _ _ family_witnesses_covered _ (List.contains_iff_mem.mp h4.2)⟩

/-- at least four fifths of the enumerated entries have a wrapper, and the enumeration is not small -/
theorem coverage : 5 * (entries.filter covered).length ≥ 4 * entries.length ∧ entries.length ≥ 600 := by
  rw [covered_eq]
  decide +kernel

/-- outside the numbered arity families at most the three listed entries are uncovered -/
theorem uncovered_outside_families :
    ∀ e ∈ entries, covered e = false → e.reason ≠ arityFamilyInstance → e.id ∈ explicitlyUncovered.map (·.1) := by
  intro e he hc hr
  rcases every_entry_covered_or_listed e he with h | h
  · rw [hc] at h
    cases h
  · simp only [excused, Bool.and_eq_true, Bool.or_eq_true, beq_iff_eq, List.contains_iff_mem] at h
    rcases h.2 with h' | h'
    · exact absurd h' hr
    · exact List.mem_map.2 ⟨_, h', rfl⟩

/-- the functions C04 names, and the long tail the check was built for -/
def mustCover : List Nat := codes% [
  "seq.Sort", "fp.Seq.Reverse", "seq.Distinct", "fp.Seq.Append", "fp.Seq.Concat", "fp.Seq.Add",
  "seq.Fold", "seq.FoldTry", "seq.FoldOption", "seq.GroupBy", "seq.ToMap", "seq.ToGoMap",
  "seq.ToSet", "seq.FlatMap", "seq.Flatten", "seq.Ap", "seq.Map2", "seq.FilterMap",
  "seq.Concat", "seq.Reduce", "seq.Scan", "seq.Span", "seq.Partition", "seq.Zip",
  "seq.Of", "seq.Collect", "fp.Seq.Filter", "fp.Seq.Take", "fp.Seq.Drop", "fp.Seq.Init",
  "fp.Seq.Tail", "fp.Seq.FlatMap", "fp.Seq.Map", "monoid.MergeSeq", "monoid.MergeSlice", "monoid.MergeGoMap",
  "monoid.MergeMap", "monoid.MergeSet", "monoid.Ptr", "semigroup.Ptr", "ord.Seq", "ord.Slice",
  "ord.Ptr", "eq.Seq", "eq.Slice", "eq.GoMap", "eq.Ptr", "hash.Seq",
  "hash.Slice", "hash.Ptr", "show.Seq", "show.Slice", "show.GoMap", "show.Ptr",
  "clone.Slice", "clone.Seq", "clone.GoMap", "clone.Ptr", "option.Sequence", "option.Traverse",
  "option.TraverseSeq", "option.ToSeq", "option.Ptr", "try.Sequence", "try.Traverse", "try.TraverseSeq",
  "try.ToSeq", "try.SortSeqT", "try.ReverseSeqT", "either.Sequence", "either.TraverseSeq", "iterator.FromSeq",
  "iterator.ToSeq", "iterator.Sort", "iterator.Fold", "iterator.GroupBy", "iterator.ToMap", "iterator.ToGoMap",
  "iterator.ToSet", "iterator.ToGoSet", "iterator.ReverseSeq", "fp.Iterator.ToSeq", "fp.Iterator.Concat", "list.Sort",
  "list.FromSeq", "list.ReverseSeq", "list.GroupBy", "list.ToGoMap", "fp.List.ToSeq", "immutable.Map",
  "immutable.Set", "fp.Map.Updated", "fp.Map.Removed", "fp.Map.Concat", "fp.Set.Concat", "fp.Set.Incl",
  "fp.Option.ToSeq", "fp.Try.ToSeq", "as.Seq", "as.Ptr", "match.SeqHead"]

/-- … are all covered by a generated wrapper -/
theorem named_functions_walk : subsetAsc 4000 mustCover coveredIds = true := by
  rw [coveredIds, covered_eq]
  decide +kernel

theorem named_functions_covered : ∀ n ∈ mustCover, ∃ e ∈ entries, e.id = n ∧ covered e = true := by
  intro n hn
  have := subsetAsc_sound _ _ _ named_functions_walk n hn
  simp only [coveredIds, List.mem_map, List.mem_filter] at this
  obtain ⟨e, ⟨he, hc⟩, rfl⟩ := this
  exact ⟨e, he, rfl, hc⟩

/-- every library package the property speaks about was enumerated (the root package fp has the empty name) -/
theorem packages_enumerated :
    ∀ p ∈ [code% "", code% "as", code% "clone", code% "either", code% "eq", code% "hash", code% "immutable", code% "iterator",
           code% "lazy", code% "list", code% "monoid", code% "option", code% "ord", code% "semigroup", code% "seq", code% "show",
           code% "try", code% "curried", code% "product", code% "hlist"], p ∈ packages := by decide +kernel

/-- the encoding used by the table (non-vacuity of the name comparisons) -/
example : code% "fp.And" = 110424702742630 := rfl
example : familyKey (code% "ab12c.d3") = code% "abc.d" := by decide +kernel
example : familyKey (code% "show.Labelled13") = familyKey (code% "show.Labelled2") := by decide +kernel
example : code% "monoid.MergeSeq" ∈ mustCover := by decide +kernel
example : mustCover.length = 101 := by decide +kernel

end FpVerif.Spec.C04
