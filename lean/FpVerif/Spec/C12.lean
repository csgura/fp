import FpVerif.Lemmas.IterTerm
import FpVerif.Lemmas.IterPre
import FpVerif.Lemmas.PipeSim
import FpVerif.Lemmas.Pure1
import FpVerif.Lemmas.PipeBound
import FpVerif.Lemmas.PipeDemand
import FpVerif.Lemmas.IterCbPanic
import FpVerif.Lemmas.IterPipeEq
/-!
# C12 — Iterator combinators agree with eager Seq semantics, terminate, and are lazy

For every combinator `C` of `fp.Iterator` / package `iterator`:

    Represents it s [] l  →  Represents (C it) (s, c₀) [] (C_seq l)

where `C_seq` is the plain `List` function and `c₀` the initial value of the closure's captured
variables.  `Represents` is closed under these steps, so every pipeline built from the
combinators represents the composed list function — for all finite inputs `l`, all parameters,
all callbacks that do not panic (`Total p g`: `p` logs whatever it likes and returns `g a`).
Termination on finite inputs: the only unbounded Go loops are modelled with fuel and every theorem
holds for every fuel `> l.length`.

Terminal operations (folds, `ToSeq`, `Count`, `Find`, …) equal the list computation and leave the
iterator where the Go loop stops (`FoldTry`/`FoldOption`/`FoldError`/`Exists`/`ForAll`/`Find` stop
pulling at the first failure / hit).

Every pipeline: `pipe_jointF` / `pipe_representsF` (with the oracle's fuel: `pipe_joint` /
`pipe_represents`) — ONE theorem by induction over the `Pipe` AST (the
data type of library calls that the oracle executes): building any pipeline succeeds and its
iterator represents `Pipe.denote`; the invariant carried through the induction is the joint
invariant of the iterator and its `concat` field, with `ConcatInv` saying that the components before
`currentItr` are exhausted — so `x.Concat(y).Drop(n).Concat(z)` is covered (`concat_drop_concat`).

Laziness: see section "demand" — the instrumented source's pull counter after any script is bounded
by the number of elements the consumer obtained plus at most one (`Take`, `TakeWhile`, `Map`, `Scan`,
`Concat`); what `Filter`, `DropWhile`, `FlatMap`, `Zip` pull is stated in `filter_demand`,
`dropWhile_demand`, `flatMap_demand`, `zip_demand`.

Callbacks that may panic: section "terminal operations" (`X_panic`) — the step function of a terminal
operation may panic (`Outcome`); the panic propagates and the iterator is left as after the last
completed pull.  Section "callbacks INSIDE a pipeline that panic or log" (audit finding 12): `Map`,
`Filter`, `TakeWhile` with a panicking callback under ANY script over any pipeline below
(`map_script_panic`, `filter_script_panic`, `takeWhile_script_panic`), `FlatMap` step, and the log of
`Map` with a logging callback in pull order (`map_log_pull_order`).

Demand over the pipeline AST (audit finding 13): section "demand, compositionally" — `pipe_demand`:
for EVERY linear pipeline (sources, `Map`, `TapEach`, `Take`, `TakeWhile`, `Scan`, `Zip*`,
`MakePullIterator`, `Concat`; with `Drop`: `pipe_demand_drop`), arbitrary callbacks and sources,
`Pipe.pulls ≤ width · (handed out + panicked) + lookahead`.

The lazy `List` part of the property is in `Spec/C12List.lean`.
-/
namespace FpVerif.Spec.C12
open FpVerif FpVerif.It

variable {σ σ₂ τ α β γ : Type}

/-! ## sources -/

theorem ofSeq_represents (tag : Option (α → Event)) (xs : List α) :
    Represents (ofSeq tag xs) 0 [] xs :=
  ⟨_, ofSeq_sim tag xs, ofSeqRel_zero xs⟩

theorem ofOption_represents (o : Option α) : Represents (ofOption o) true [] o.toList :=
  ⟨_, ofOption_sim o, by simp⟩

theorem empty_represents : Represents (empty : Machine Unit α) () [] [] := ⟨_, empty_sim, rfl⟩

/-- `Range(a, b)` yields `a, a+1, …, b-1`; `RangeClosed(a, b)` yields `a, …, b`. -/
theorem range_represents (closed : Bool) (from_ bound : Int) :
    Represents (range closed bound) from_ [] (intRange from_ (rangeCount closed bound from_)) :=
  ⟨_, range_sim closed bound, rfl⟩

theorem reverseSeq_represents (xs : List α) : Represents (reverseSeq xs) xs.length [] xs.reverse :=
  ⟨_, reverseSeq_sim xs, by simp⟩

/-! ## combinators: `Represents it l → Represents (C it) (C_seq l)` -/

theorem map_represents (f : α → GoM β) (g : α → β) (hf : Total f g) (m : Machine σ α) (s : σ)
    (l : List α) (h : Represents m s [] l) : Represents (map f m) s [] (l.map g) :=
  ⟨_, map_sim hf (Represents.sim m), [], l, h, rfl, rfl⟩

theorem tapEach_represents (f : α → GoM Unit) (hf : Total f (fun _ => ())) (m : Machine σ α) (s : σ)
    (l : List α) (h : Represents m s [] l) : Represents (tapEach f m) s [] l :=
  ⟨_, tapEach_sim hf (Represents.sim m), h⟩

/-- `Take(n)` for every `n`, also `n ≤ 0` and `n` beyond the end. -/
theorem take_represents (n : Int) (m : Machine σ α) (s : σ) (l : List α) (h : Represents m s [] l) :
    Represents (take n m) (s, 0) [] (l.take n.toNat) :=
  ⟨_, take_sim n (Represents.sim m), l, h, rfl, by simp⟩

/-- `Drop(n)` runs at construction time and returns the same iterator, advanced. -/
theorem drop_represents (n : Int) (m : Machine σ α) (s : σ) (l : List α) (h : Represents m s [] l)
    (lg : Log) :
    ∃ s' lg', drop n m s lg = (.ok (), s', lg') ∧ Represents m s' [] (l.drop n.toNat) := by
  obtain ⟨s', lg', e, hR⟩ := dropLoop_spec (Represents.sim m) n.toNat s [] l lg h
  exact ⟨s', lg', e, hR.reset⟩

theorem takeWhile_represents (p : α → GoM Bool) (g : α → Bool) (hp : Total p g) (m : Machine σ α)
    (s : σ) (l : List α) (h : Represents m s [] l) :
    Represents (takeWhile p m) (s, {}) [] (l.takeWhile g) :=
  ⟨_, takeWhile_sim hp (Represents.sim m), [], l, h, by simp [TakeWhileInv]⟩

theorem dropWhile_represents (p : α → GoM Bool) (g : α → Bool) (hp : Total p g) (m : Machine σ α)
    (s : σ) (l : List α) (h : Represents m s [] l) (fuel : Nat) (hfuel : l.length < fuel) :
    Represents (dropWhile fuel p m) (s, {}) [] (l.dropWhile g) :=
  ⟨_, dropWhile_sim hp fuel (Represents.sim m), [], l, h, by simp [DropWhileInv, hfuel]⟩

theorem filter_represents (p : α → GoM Bool) (g : α → Bool) (hp : Total p g) (m : Machine σ α)
    (s : σ) (l : List α) (h : Represents m s [] l) (fuel : Nat) (hfuel : l.length < fuel) :
    Represents (filter fuel p m) (s, {}) [] (l.filter g) :=
  ⟨_, filter_sim hp fuel (Represents.sim m), [], l, h, by simp [FilterInvF, FilterInv, hfuel]⟩

theorem filterNot_represents (p : α → GoM Bool) (g : α → Bool) (hp : Total p g) (m : Machine σ α)
    (s : σ) (l : List α) (h : Represents m s [] l) (fuel : Nat) (hfuel : l.length < fuel) :
    Represents (filterNot fuel p m) (s, {}) [] (l.filter (fun x => !g x)) :=
  filter_represents _ _ (total_bind_pure hp (fun b => !b)) m s l h fuel hfuel

/-- `FlatMap`: `mf a` builds an iterator (state `gf a` of machine `inner`) that represents `hl a`. -/
theorem flatMap_represents (mf : α → GoM τ) (gf : α → τ) (hmf : Total mf gf) (inner : Machine τ β)
    (hl : α → List β) (hinner : ∀ a, Represents inner (gf a) [] (hl a))
    (m : Machine σ α) (s : σ) (l : List α) (h : Represents m s [] l) (fuel : Nat) (hfuel : l.length < fuel) :
    Represents (flatMap fuel mf inner m) (s, none) [] (l.flatMap hl) := by
  have hcb : ∀ a ∈ l, MfOK mf (Represents inner) hl a := by
    intro a _ lg
    obtain ⟨lg', e⟩ := hmf a lg
    exact ⟨gf a, lg', e, hinner a⟩
  refine ⟨_, flatMap_sim (Represents.sim inner) hl fuel (Represents.sim m), [], l, h, hfuel, hcb, [], rfl, ?_, ?_⟩
  · exact (List.nil_append _).symm
  -- `flatMapHist`: no inner iterator is current, so there is nothing to remember about one
  · exact fun hne => absurd rfl hne

/-- `FilterMap(it, fn) = FlatMap(it, IteratorOfOption ∘ fn)` keeps the defined results. -/
theorem filterMap_represents (fn : α → GoM (Option β)) (g : α → Option β) (hfn : Total fn g)
    (m : Machine σ α) (s : σ) (l : List α) (h : Represents m s [] l) (fuel : Nat) (hfuel : l.length < fuel) :
    Represents (filterMap fuel fn m) (s, none) [] (l.filterMap g) := by
  have hmf : Total (fun a => do let o ← fn a; pure (o, true)) (fun a => (g a, true)) :=
    total_bind_pure hfn (fun o => (o, true))
  have := flatMap_sim (mf := fun a => do let o ← fn a; pure (o, true)) optionIter_sim (fun a => (g a).toList) fuel
    (Represents.sim m)
  have hcb : ∀ a ∈ l, MfOK (fun a => do let o ← fn a; pure (o, true))
      (fun (st : Option β × Bool) _ r => r = if st.2 then st.1.toList else []) (fun a => (g a).toList) a := by
    intro a _ lg
    obtain ⟨lg', e⟩ := hmf a lg
    exact ⟨_, lg', e, by simp⟩
  refine ⟨_, this, [], l, h, hfuel, hcb, [], rfl, ?_, ?_⟩
  · simp only [List.nil_append]
    have key : ∀ l : List α, l.filterMap g = l.flatMap (fun a => (g a).toList) := by
      intro l
      induction l with
      | nil => rfl
      | cons a l ih => cases hg : g a <;> simp [hg, List.flatMap_cons, ih]
    exact key l
  -- `flatMapHist`: no inner iterator is current, so there is nothing to remember about one
  · exact fun hne => absurd rfl hne

theorem scan_represents (f : β → α → GoM β) (g : β → α → β) (hf : Total2 f g) (zero : β)
    (m : Machine σ α) (s : σ) (l : List α) (h : Represents m s [] l) :
    Represents (scan f m) (s, { sum := zero }) [] (scanl g zero l) :=
  ⟨_, scan_sim hf (Represents.sim m), [], l, h, by simp [ScanInv]⟩

theorem zip_represents (a : Machine σ α) (b : Machine σ₂ β) (sa : σ) (sb : σ₂) (la : List α) (lb : List β)
    (ha : Represents a sa [] la) (hb : Represents b sb [] lb) :
    Represents (zip a b) (sa, sb) [] (la.zip lb) := by
  refine ⟨_, zip_sim (Represents.sim a) (Represents.sim b), [], la, [], lb, ha, hb, rfl, rfl, Nat.le_refl _, ?_⟩
  -- where `a` has delivered more than there are pairs handed out, `b` is exhausted: at the start `a` has delivered nothing
  exact fun h => absurd h (Nat.lt_irrefl _)

theorem zipWithIndex_represents (m : Machine σ α) (s : σ) (l : List α) (h : Represents m s [] l) :
    Represents (zipWithIndex m) (0, s) [] (zipIdx 0 l) :=
  ⟨_, zipWithIndex_sim (Represents.sim m), [], l, h, rfl⟩

/-- `a.Concat(b)` for two iterators that are not themselves `Concat` results. -/
theorem concat_represents (a : Machine σ α) (b : Machine σ₂ α) (sa : σ) (sb : σ₂) (la lb : List α)
    (ha : Represents a sa [] la) (hb : Represents b sb [] lb) :
    Represents (concat ((MMachine.single a).join (MMachine.single b))) ((sa, sb), {}) [] (la ++ lb) := by
  have hms := join_msim (single_msim (Represents.sim a)) (single_msim (Represents.sim b))
  refine ⟨_, concat_sim hms, fun i => if i = 0 then la else lb, ?_, ?_⟩
  · exact ⟨fun _ => la, fun _ => lb, ⟨[], ha⟩, ⟨[], hb⟩, by intro i; simp [MMachine.single]⟩
  · simp [ConcatInv, MMachine.join, MMachine.single, flatFrom]

/-- `a.Concat(b).Concat(c)`: the second `Concat` iterates over the flattened components
    `[a, b, c]` (field `concat`), sharing their state with the first result. -/
theorem concat_flatten_represents {σ₃ : Type} (a : Machine σ α) (b : Machine σ₂ α) (c : Machine σ₃ α)
    (sa : σ) (sb : σ₂) (sc : σ₃) (la lb lc : List α)
    (ha : Represents a sa [] la) (hb : Represents b sb [] lb) (hc : Represents c sc [] lc) (c1 : ConcatSt) :
    Represents (concat ((concatParts ((MMachine.single a).join (MMachine.single b))).join (MMachine.single c)))
      ((((sa, sb), c1), sc), {}) [] (la ++ lb ++ lc) := by
  have hab := concatParts_msim (join_msim (single_msim (Represents.sim a)) (single_msim (Represents.sim b)))
  have hms := join_msim hab (single_msim (Represents.sim c))
  refine ⟨_, concat_sim hms, fun i => if i = 0 then la else if i = 1 then lb else lc, ?_, ?_⟩
  · refine ⟨fun i => if i = 0 then la else lb, fun _ => lc, ?_, ⟨[], hc⟩, ?_⟩
    · exact ⟨fun _ => la, fun _ => lb, ⟨[], ha⟩, ⟨[], hb⟩, by intro i; simp [MMachine.single]⟩
    · intro i
      simp only [concatParts, MMachine.join, MMachine.single]
      rcases i with _ | _ | i <;> simp
      intro h; exact absurd h (by omega)
  · simp [ConcatInv, MMachine.join, MMachine.single, concatParts, flatFrom]

/-- `MakePullIterator(seq)`: construction pulls one element ahead; the result represents `l`. -/
theorem pull_represents (m : Machine σ α) (s : σ) (l : List α) (h : Represents m s [] l)
    (v0 : Option α) (lg : Log) :
    ∃ s' v lg', pullInit m (s, v0) lg = (.ok (), (s', v), lg') ∧ Represents (pull m) (s', v) [] l := by
  obtain ⟨s', lg', v, e, hrel⟩ := pullInit_spec (Represents.sim m) s v0 l lg h
  exact ⟨s', v, lg', e, _, pull_sim (Represents.sim m), hrel⟩

/-- a three-stage pipeline, as an instance of composition:
    `src.Filter(p).Map(f).Take(n)` represents `((l.filter p).map f).take n`. -/
theorem pipeline_example (p : α → GoM Bool) (gp : α → Bool) (hp : Total p gp)
    (f : α → GoM β) (gf : α → β) (hf : Total f gf) (n : Int) (tag : Option (α → Event)) (xs : List α) :
    Represents (take n (map f (filter (xs.length + 1) p (ofSeq tag xs)))) ((0, {}), 0) []
      (((xs.filter gp).map gf).take n.toNat) :=
  take_represents n _ _ _ (map_represents f gf hf _ _ _
    (filter_represents p gp hp _ _ _ (ofSeq_represents tag xs) _ (Nat.lt_succ_self _)))

theorem toSeq_eq (m : Machine σ α) (s : σ) (l : List α) (h : Represents m s [] l) (fuel : Nat)
    (hfuel : l.length < fuel) (lg : Log) :
    ∃ s' lg', toSeq m fuel [] s lg = (.ok l, s', lg') ∧ Represents m s' l [] :=
  pullLoop_represents_all (F := toSeq m) (K := fun ret v k => k (ret ++ [v])) (fin := id) (fun _ _ => rfl)
    (G := fun ret l => ret ++ l) (fun _ => List.append_nil _)
    (fun z a as _ _ lg => ⟨lg, z ++ [a], rfl, List.append_cons z a as⟩) h hfuel [] lg

/-! ## every pipeline: induction over the `Pipe` AST

`Pipe` is the AST of library calls (ten sources, fifteen combinators, nested arbitrarily, also
inside `FlatMap` callbacks); `Pipe.build` runs the constructors (`Drop`'s loop, `MakePullIterator`'s
first pull), `Pipe.machine` is the resulting iterator and `Pipe.parts` its `concat` field.  The
oracle runs exactly these definitions. -/

def PlainPipe : Pipe → Prop
  | .concat _ _ | .drop _ _ => False
  | _ => True

/-- the `concat` field of such an iterator is the iterator itself -/
theorem jointF_plain {fuel : Nat} {p : Pipe} {s : p.St} {l : List Val} (hp : PlainPipe p)
    (h : Represents (Pipe.machineF fuel p) s [] l) : Pipe.JointF fuel p s l :=
  Pipe.JointF.ofRepresents
    (Pipe.partsF_single fuel p (by rintro a b rfl; exact hp) (by rintro a n rfl; exact hp)) h

/-- EVERY pipeline, EVERY fuel above the bound, lists of EVERY length: building the pipeline
    succeeds, and the iterator represents the list its denotation computes.  `Pipe.WB` asks only that
    the callbacks do not panic (and excludes the unbounded `Generate`); there is NO bound on the
    length of the data: `fuel` is a parameter of the machines (`Pipe.machineF fuel`), and the
    statement holds for every `fuel > Pipe.need p x` — the longest list that reaches one of the loops
    that are unbounded in Go.  (Go has no fuel: `fuel` only makes the model's loops structurally
    recursive; `outOfFuel` never arises above the bound.)

    The statement is the joint invariant `Pipe.JointF` of the iterator and its `concat`
    field, which is what makes the induction go through `x.Concat(y).Drop(n).Concat(z)`: `Drop`
    consumes through the first `Concat` iterator, the second `Concat` then iterates over the
    flattened components `[x, y, z]` sharing that state — and finds the components before
    `currentItr` exhausted (`ConcatInv`). -/
theorem pipe_jointF (p : Pipe) : ∀ (x : Val), p.WB x → ∀ (fuel : Nat), p.need x < fuel → ∀ lg : Log,
    ∃ (s : p.St) (lg' : Log), (p.buildF fuel x).run.run lg = (.ok s, lg') ∧ Pipe.JointF fuel p s (p.denote x) := by
  show ∀ (x : Val), p.WB x → ∀ (fuel : Nat), p.need x < fuel →
    Pipe.Yields (p.buildF fuel x) (fun s => Pipe.JointF fuel p s (p.denote x))
  induction p with
  | src id xs =>
    intro x _ fuel _
    rw [Pipe.buildF_src]
    exact .pure _ (jointF_plain trivial (by rw [Pipe.machineF_src]; exact ofSeq_represents _ xs))
  | seq xs =>
    intro x _ fuel _
    rw [Pipe.buildF_seq]
    exact .pure _ (jointF_plain trivial (by rw [Pipe.machineF_seq]; exact ofSeq_represents _ xs))
  | arg n =>
    intro x _ fuel _
    rw [Pipe.buildF_arg]
    refine .pure _ (jointF_plain trivial ?_)
    rw [Pipe.machineF_arg]
    exact ⟨_, ofSeqS_sim _, rfl, by simp [ofSeqRel, Pipe.denote]⟩
  | gen id start step => intro x h; exact absurd h (by simp [Pipe.WB])
  | range closed a b =>
    intro x _ fuel _
    rw [Pipe.buildF_range]
    refine .pure _ (jointF_plain trivial ?_)
    rw [Pipe.machineF_range]
    exact map_represents _ Val.int (total_pure Val.int) _ _ _ (range_represents closed a b)
  | opt o =>
    intro x _ fuel _
    rw [Pipe.buildF_opt]
    exact .pure _ (jointF_plain trivial (by rw [Pipe.machineF_opt]; exact ofOption_represents o))
  | empty =>
    intro x _ fuel _
    rw [Pipe.buildF_empty]
    exact .pure _ (jointF_plain trivial (by rw [Pipe.machineF_empty]; exact empty_represents))
  | zero =>
    intro x _ fuel _
    rw [Pipe.buildF_zero]
    exact .pure _ (jointF_plain trivial (by rw [Pipe.machineF_zero]; exact ⟨_, zero_sim, rfl⟩))
  | rev xs =>
    intro x _ fuel _
    rw [Pipe.buildF_rev]
    exact .pure _ (jointF_plain trivial (by rw [Pipe.machineF_rev]; exact reverseSeq_represents xs))
  | pullseq id xs =>
    intro x _ fuel _ lg
    obtain ⟨s', v, lg', e, hR⟩ := pull_represents (ofSeq (some (srcTag id)) xs) 0 xs (ofSeq_represents _ xs) none lg
    refine ⟨(s', v), lg', ?_, jointF_plain trivial ?_⟩
    · rw [Pipe.buildF_pullseq]
      show Pipe.buildF.runInit (pullInit (ofSeq (some (srcTag id)) xs)) ((0 : Nat), none) lg = _
      simp only [Pipe.buildF.runInit, e]
      rfl
    · rw [Pipe.machineF_pullseq]; exact hR
  | map p f ih =>
    intro x hok fuel hneed
    rw [Pipe.buildF_map]
    exact (ih x hok.1 fuel hneed).mono fun s hJ => jointF_plain trivial
      (by rw [Pipe.machineF_map]; exact map_represents f _ hok.2 _ _ _ hJ.represents)
  | tap p f ih =>
    intro x hok fuel hneed
    rw [Pipe.buildF_tap]
    exact (ih x hok.1 fuel hneed).mono fun s hJ => jointF_plain trivial
      (by rw [Pipe.machineF_tap]; exact tapEach_represents f hok.2 _ _ _ hJ.represents)
  | take p n ih =>
    intro x hok fuel hneed
    rw [Pipe.buildF_take]
    exact (ih x hok fuel hneed).map _ fun s hJ => jointF_plain trivial
      (by rw [Pipe.machineF_take]; exact take_represents n _ _ _ hJ.represents)
  | drop p n ih =>
    intro x hok fuel hneed
    rw [Pipe.buildF_drop]
    refine (ih x hok fuel hneed).bind fun s hJ lg1 => ?_
    obtain ⟨s', lg', e2, hJ'⟩ := hJ.drop n lg1
    refine ⟨s', lg', ?_, hJ'⟩
    show Pipe.buildF.runInit (It.drop n (Pipe.machineF fuel p)) s lg1 = _
    simp only [Pipe.buildF.runInit, e2]
    rfl
  | takew p f ih =>
    intro x hok fuel hneed
    rw [Pipe.buildF_takew]
    exact (ih x hok.1 fuel hneed).map _ fun s hJ => jointF_plain trivial
      (by rw [Pipe.machineF_takew]; exact takeWhile_represents f _ hok.2 _ _ _ hJ.represents)
  | dropw p f ih =>
    intro x hok fuel hneed
    obtain ⟨hn1, hn2⟩ := Nat.max_lt.mp hneed
    rw [Pipe.buildF_dropw]
    exact (ih x hok.1 fuel hn1).map _ fun s hJ => jointF_plain trivial
      (by rw [Pipe.machineF_dropw]; exact dropWhile_represents f _ hok.2 _ _ _ hJ.represents fuel hn2)
  | filter p f ih =>
    intro x hok fuel hneed
    obtain ⟨hn1, hn2⟩ := Nat.max_lt.mp hneed
    rw [Pipe.buildF_filter]
    exact (ih x hok.1 fuel hn1).map _ fun s hJ => jointF_plain trivial
      (by rw [Pipe.machineF_filter]; exact filter_represents f _ hok.2 _ _ _ hJ.represents fuel hn2)
  | filternot p f ih =>
    intro x hok fuel hneed
    obtain ⟨hn1, hn2⟩ := Nat.max_lt.mp hneed
    rw [Pipe.buildF_filternot]
    exact (ih x hok.1 fuel hn1).map _ fun s hJ => jointF_plain trivial
      (by rw [Pipe.machineF_filternot]; exact filterNot_represents f _ hok.2 _ _ _ hJ.represents fuel hn2)
  | concat p q ihp ihq =>
    intro x hok fuel hneed
    obtain ⟨hn1, hn2⟩ := Nat.max_lt.mp hneed
    rw [Pipe.buildF_concat]
    exact (ihp x hok.1 fuel hn1).bind fun s hJ1 => (ihq x hok.2 fuel hn2).map _ fun t hJ2 => hJ1.concat hJ2
  | flatmap p pre k ihp ihk =>
    intro x hok fuel hneed
    obtain ⟨hokp, hpre, hokk⟩ := hok
    obtain ⟨hn1, hn23⟩ := Nat.max_lt.mp hneed
    obtain ⟨hlen, hn3⟩ := Nat.max_lt.mp hn23
    rw [Pipe.buildF_flatmap]
    refine (ihp x hokp fuel hn1).map _ fun s hJ => jointF_plain trivial ?_
    rw [Pipe.machineF_flatmap]
    have hcb : ∀ a ∈ p.denote x, MfOK (fun a => do let _ ← pre a; Pipe.buildF fuel k a)
        (Represents (Pipe.machineF fuel k)) (fun a => k.denote a) a := by
      intro a ha lg0
      obtain ⟨lg1, e1⟩ := hpre a lg0
      have hka : k.need a < fuel :=
        Nat.lt_of_le_of_lt (Pipe.le_listMax (List.mem_map_of_mem (f := fun a => k.need a) ha)) hn3
      obtain ⟨t, lg2, e2, hJk⟩ := ihk a (hokk a ha) fuel hka lg1
      exact ⟨t, lg2, by rw [Coll.run_bind_ok e1]; exact e2, hJk.represents⟩
    refine ⟨_, flatMap_sim (Represents.sim (Pipe.machineF fuel k)) (fun a => k.denote a) fuel
      (Represents.sim (Pipe.machineF fuel p)), [], p.denote x, hJ.represents, hlen, hcb, [], rfl, ?_, ?_⟩
    · simp [Pipe.denote]
    -- `flatMapHist`: no inner iterator is current, so there is nothing to remember about one
    · exact fun hne => absurd rfl hne
  | filtermap p f ih =>
    intro x hok fuel hneed
    obtain ⟨hn1, hn2⟩ := Nat.max_lt.mp hneed
    rw [Pipe.buildF_filtermap]
    exact (ih x hok.1 fuel hn1).map _ fun s hJ => jointF_plain trivial
      (by rw [Pipe.machineF_filtermap]; exact filterMap_represents f _ hok.2 _ _ _ hJ.represents fuel hn2)
  | scan p z f ih =>
    intro x hok fuel hneed
    rw [Pipe.buildF_scan]
    exact (ih x hok.1 fuel hneed).map _ fun s hJ => jointF_plain trivial
      (by rw [Pipe.machineF_scan]; exact scan_represents f _ hok.2 z _ _ _ hJ.represents)
  | zip p q ihp ihq =>
    intro x hok fuel hneed
    obtain ⟨hn1, hn2⟩ := Nat.max_lt.mp hneed
    rw [Pipe.buildF_zip]
    refine (ihp x hok.1 fuel hn1).bind fun s hJ1 => (ihq x hok.2 fuel hn2).map _ fun t hJ2 => jointF_plain trivial ?_
    rw [Pipe.machineF_zip]
    exact map_represents _ (fun ab : Val × Val => Pipe.tupV ab.1 ab.2) (total_pure _) _ _ _
      (zip_represents _ _ _ _ _ _ hJ1.represents hJ2.represents)
  | zip3 p q r ihp ihq ihr =>
    intro x hok fuel hneed
    obtain ⟨hn1, hn23⟩ := Nat.max_lt.mp hneed
    obtain ⟨hn2, hn3⟩ := Nat.max_lt.mp hn23
    rw [Pipe.buildF_zip3]
    refine (ihp x hok.1 fuel hn1).bind fun s hJ1 => (ihq x hok.2.1 fuel hn2).bind fun t hJ2 =>
      (ihr x hok.2.2 fuel hn3).map _ fun u hJ3 => jointF_plain trivial ?_
    rw [Pipe.machineF_zip3, zip3_eq]
    exact map_represents _ (fun abc : Val × Val × Val => Val.tup [abc.1, abc.2.1, abc.2.2]) (total_pure _) _ _ _
      (zip_represents _ _ _ _ _ _ hJ1.represents (zip_represents _ _ _ _ _ _ hJ2.represents hJ3.represents))
  | zipidx p ih =>
    intro x hok fuel hneed
    rw [Pipe.buildF_zipidx]
    refine (ih x hok fuel hneed).map _ fun s hJ => jointF_plain trivial ?_
    rw [Pipe.machineF_zipidx]
    exact map_represents _ (fun ia : Int × Val => Pipe.tupV (.int ia.1) ia.2) (total_pure _) _ _ _
      (zipWithIndex_represents _ _ _ hJ.represents)

/-- C12 for lists of EVERY length: every pipeline whose callbacks do not panic, run with any fuel
    above the bound `Pipe.need`, yields exactly the elements of the eager computation
    `Pipe.denote`, in the same order. -/
theorem pipe_representsF (p : Pipe) (x : Val) (hwb : p.WB x) (fuel : Nat) (hfuel : p.need x < fuel) (lg : Log) :
    ∃ (s : p.St) (lg' : Log), (p.buildF fuel x).run.run lg = (.ok s, lg') ∧
      Represents (Pipe.machineF fuel p) s [] (p.denote x) := by
  obtain ⟨s, lg', e, hJ⟩ := pipe_jointF p x hwb fuel hfuel lg
  exact ⟨s, lg', e, hJ.represents⟩

/-- "terminates on every finite input": for every well-behaved pipeline SUFFICIENT FUEL EXISTS —
    the explicit bound `Pipe.need p x + 1` — and with it or any larger fuel, building the pipeline
    and draining it (`ToSeq`, whose own loop needs `(denote).length + 1`) returns normally with the
    eager result; in particular the model panic `outOfFuel` does not occur.  One number
    `max (need) (length) + 1` serves both. -/
theorem pipe_terminates (p : Pipe) (x : Val) (hwb : p.WB x) :
    ∃ fuel0, fuel0 = Max.max (p.need x) (p.denote x).length + 1 ∧ ∀ fuel, fuel0 ≤ fuel → ∀ lg : Log,
      ∃ s lg1 s' lg', (p.buildF fuel x).run.run lg = (.ok s, lg1) ∧
        toSeq (Pipe.machineF fuel p) fuel [] s lg1 = (.ok (p.denote x), s', lg') ∧
        Represents (Pipe.machineF fuel p) s' (p.denote x) [] := by
  refine ⟨_, rfl, fun fuel hfuel lg => ?_⟩
  have h1 : p.need x < fuel := Nat.lt_of_lt_of_le (Nat.lt_succ_of_le (Nat.le_max_left _ _)) hfuel
  have h2 : (p.denote x).length < fuel := Nat.lt_of_lt_of_le (Nat.lt_succ_of_le (Nat.le_max_right _ _)) hfuel
  obtain ⟨s, lg1, e, hR⟩ := pipe_representsF p x hwb fuel h1 lg
  obtain ⟨s', lg', e2, hR'⟩ : ∃ s' lg', toSeq (Pipe.machineF fuel p) fuel [] s lg1 = (.ok (p.denote x), s', lg') ∧
      Represents (Pipe.machineF fuel p) s' (p.denote x) [] :=
    toSeq_eq _ s _ hR fuel h2 lg1
  exact ⟨s, lg1, s', lg', e, e2, hR'⟩

/-- the bound, syntactically: `Pipe.needB p` and `Pipe.lenB p` are computed from the AST alone (lengths
    of the source slices, nesting of the combinators — no callback is evaluated, no `FlatMap`
    argument is needed).  Every fuel above `max (needB p) (lenB p)` builds and drains the pipeline
    with the eager result, whatever the callbacks compute. -/
theorem pipe_terminates_syntactic (p : Pipe) (x : Val) (hwb : p.WB x) (fuel : Nat)
    (hfuel : Max.max p.needB p.lenB < fuel) (lg : Log) :
    p.need x ≤ p.needB ∧ (p.denote x).length ≤ p.lenB ∧
    ∃ s lg1 s' lg', (p.buildF fuel x).run.run lg = (.ok s, lg1) ∧
      toSeq (Pipe.machineF fuel p) fuel [] s lg1 = (.ok (p.denote x), s', lg') ∧
      Represents (Pipe.machineF fuel p) s' (p.denote x) [] := by
  have h1 := Pipe.need_le_needB p x
  have h2 := Pipe.denote_length_le p x
  refine ⟨h1, h2, ?_⟩
  obtain ⟨fuel0, rfl, h⟩ := pipe_terminates p x hwb
  exact h fuel (by omega) lg

/-- the amount of fuel is irrelevant above the bound: two fuels above `Pipe.need` give iterators on
    which EVERY script of `HasNext`/`Next` calls observes the same thing (panic messages erased:
    `Next` on the exhausted iterator panics either way) — namely what it observes on the list
    `Pipe.denote p x`.  So the fuel constant of the oracle is not a semantic parameter. -/
theorem pipe_fuel_irrelevant (p : Pipe) (x : Val) (hwb : p.WB x) (f1 f2 : Nat) (h1 : p.need x < f1) (h2 : p.need x < f2)
    (cs : List Call) (lg : Log) :
    ∃ s1 lg1 s2 lg2, (p.buildF f1 x).run.run lg = (.ok s1, lg1) ∧ (p.buildF f2 x).run.run lg = (.ok s2, lg2) ∧
      (runScript (Pipe.machineF f1 p) cs s1 lg1).1.map Obs.erase = specScript cs (p.denote x) ∧
      (runScript (Pipe.machineF f2 p) cs s2 lg2).1.map Obs.erase = specScript cs (p.denote x) := by
  obtain ⟨s1, lg1, e1, hR1⟩ := pipe_representsF p x hwb f1 h1 lg
  obtain ⟨s2, lg2, e2, hR2⟩ := pipe_representsF p x hwb f2 h2 lg
  obtain ⟨_, ho1, _⟩ := runScript_sim (Represents.sim _) cs s1 [] (p.denote x) lg1 hR1
  obtain ⟨_, ho2, _⟩ := runScript_sim (Represents.sim _) cs s2 [] (p.denote x) lg2 hR2
  exact ⟨s1, lg1, s2, lg2, e1, e2, ho1, ho2⟩

/-- EVERY pipeline (the machines the oracle runs: fuel constant `FUEL`; `Pipe.OK` = `Pipe.WB` and
    `Pipe.need < FUEL`, `Pipe.OK_iff`): corollary of `pipe_jointF`. -/
theorem pipe_joint (p : Pipe) : ∀ (x : Val), p.OK x → ∀ lg : Log,
    ∃ (s : p.St) (lg' : Log), (p.build x).run.run lg = (.ok s, lg') ∧ Pipe.Joint p s (p.denote x) := by
  intro x hok lg
  obtain ⟨hwb, hneed⟩ := (Pipe.OK_iff p x).mp hok
  exact pipe_jointF p x hwb FUEL hneed lg

/-- EVERY pipeline represents the list its denotation computes. -/
theorem pipe_represents (p : Pipe) (x : Val) (hok : p.OK x) (lg : Log) :
    ∃ (s : p.St) (lg' : Log), (p.build x).run.run lg = (.ok s, lg') ∧
      Represents (Pipe.machine p) s [] (p.denote x) := by
  obtain ⟨s, lg', e, hJ⟩ := pipe_joint p x hok lg
  exact ⟨s, lg', e, hJ.represents⟩

/-- the case the per-combinator theorems do not reach: `x.Concat(y).Drop(n).Concat(z)`. -/
theorem concat_drop_concat (xs ys zs : List Val) (n : Int) (x : Val) (lg : Log) :
    ∃ s lg', ((Pipe.concat (.drop (.concat (.seq xs) (.seq ys)) n) (.seq zs)).build x).run.run lg = (.ok s, lg') ∧
      Represents (Pipe.machine (Pipe.concat (.drop (.concat (.seq xs) (.seq ys)) n) (.seq zs))) s []
        ((xs ++ ys).drop n.toNat ++ zs) :=
  pipe_represents (Pipe.concat (.drop (.concat (.seq xs) (.seq ys)) n) (.seq zs)) x ⟨⟨trivial, trivial⟩, trivial⟩ lg

/-- the hypothesis `Pipe.OK` is satisfiable for pipelines with callbacks, `FlatMap` and fuel-bounded
    loops (`FUEL` = 200000 covers every list shorter than that). -/
example (x : Val) : (Pipe.flatmap (.filter (.src 1 [.int 1, .int 2]) (fun _ => pure true)) (fun v => pure v)
    (.zipidx (.take (.arg 3) 2))).OK x := by
  refine ⟨⟨trivial, LL.Total.pure1 (total_pure (fun _ => true)), by simp [Pipe.denote, FUEL]⟩,
    LL.Total.pure1 (total_pure id), fun a _ => trivial, ?_⟩
  exact Nat.lt_of_le_of_lt (List.length_filter_le _ _) (by simp [Pipe.denote, FUEL])

/-- the hypotheses of `pipe_representsF` are satisfiable — for a source of ANY length `n` (no bound):
    `src.Filter(p).FlatMap(k)` over `n` elements is well-behaved and needs fuel `n` (+1). -/
example (n : Nat) (x : Val) :
    let p := Pipe.flatmap (.filter (.src 1 ((List.range n).map (fun (i : Nat) => Val.int i))) (fun _ => pure true)) (fun v => pure v)
      (.zipidx (.take (.arg 3) 2))
    p.WB x ∧ p.need x = n := by
  intro p
  have hlen : ((List.range n).map (fun (i : Nat) => Val.int i)).length = n := by simp
  have hfl : (((List.range n).map (fun (i : Nat) => Val.int i)).filter (LL.pure1 (fun _ => (pure true : GoM Bool)))).length ≤ n :=
    Nat.le_trans (List.length_filter_le _ _) (Nat.le_of_eq hlen)
  refine ⟨⟨⟨trivial, LL.Total.pure1 (total_pure (fun _ => true))⟩, LL.Total.pure1 (total_pure id), fun a _ => trivial⟩, ?_⟩
  show Max.max (Max.max 0 _) (Max.max _ (Pipe.listMax _)) = n
  have hz : ∀ l : List Val, Pipe.listMax (l.map (fun a => (Pipe.zipidx (.take (.arg 3) 2)).need a)) = 0 := by
    intro l; induction l with
    | nil => rfl
    | cons a l ih => simp only [List.map_cons, Pipe.listMax, ih]; rfl
  rw [hz]
  simp only [Pipe.denote, hlen]
  omega

/-! ## terminal operations

`Outcome f g` / `Outcome2 f g`: whatever the log, the callback ends as `g` says — a value or a
panic (`Total` is the special case without panics; `outcome_panic_example` shows a callback that
panics on some inputs).  The iterator itself represents `l`; the step function of the terminal
operation may panic.  Then the operation returns what the reference (`foldE`, `foldTryE`, …: the list
computation up to the first panic / failure / hit) returns — a panic propagates with its value —
and the iterator is left as after the last completed pull: it represents exactly the elements after
the one whose step panicked (`d' ++ rest = l`): `X_panic`.  For a callback that does not panic the
reference is the usual list function (`foldE_ok`, `foldTryE_ok`, …): `X_eq`. -/

theorem count_eq (m : Machine σ α) (s : σ) (l : List α) (h : Represents m s [] l) (fuel : Nat)
    (hfuel : l.length < fuel) (lg : Log) :
    ∃ s' lg', count m fuel 0 s lg = (.ok l.length, s', lg') ∧ Represents m s' l [] := by
  rw [← Nat.zero_add l.length]
  exact pullLoop_represents_all (F := count m) (K := fun ret _ k => k (ret + 1)) (fin := id) (fun _ _ => rfl)
    (G := fun ret l => ret + l.length) (fun _ => rfl)
    (fun z a as k s lg => ⟨lg, z + 1, rfl, Nat.add_right_comm z as.length 1⟩) h hfuel 0 lg

theorem fold_panic (f : β → α → GoM β) (g : β → α → Except PanicVal β) (hf : Outcome2 f g) (z : β)
    (m : Machine σ α) (s : σ) (l : List α) (h : Represents m s [] l) (fuel : Nat)
    (hfuel : l.length < fuel) (lg : Log) :
    ∃ s' lg' d', fold f m fuel z s lg = ((foldE g z l).1, s', lg') ∧
      Represents m s' d' (foldE g z l).2 ∧ d' ++ (foldE g z l).2 = l := by
  refine pullLoop_represents (F := fold f m) (K := fun z v k => do let z' ← IM.liftG (f z v); k z') (fin := id)
    (fun _ _ => rfl) (E := foldE g) (fun _ => rfl) (fun z a as k s lg => ?_) h hfuel z lg
  obtain ⟨lg', e⟩ := liftG_outcome2 hf z a s lg
  refine ⟨lg', ?_⟩
  simp only [foldE]
  cases hg : g z a with
  | ok z' =>
    rw [hg] at e
    exact .inl ⟨z', bind_ok e, rfl⟩
  | error q =>
    rw [hg] at e
    exact .inr ⟨bind_err e, rfl⟩

/-- the reference `foldE`: without panics it is `foldl`; the first panicking step ends it with that
    panic value and the elements after the panicking one unpulled. -/
theorem foldE_without_panic (g : β → α → β) (z : β) (l : List α) :
    foldE (fun b a => .ok (g b a)) z l = (.ok (l.foldl g z), []) := foldE_ok g z l

theorem foldE_at_first_panic (g : β → α → Except PanicVal β) (z z' : β) (pre post : List α) (a : α) (p : PanicVal)
    (hpre : foldE g z pre = (.ok z', [])) (ha : g z' a = .error p) :
    foldE g z (pre ++ a :: post) = (.error p, post) := by
  induction pre generalizing z with
  | nil => simp [foldE] at hpre; subst hpre; simp [foldE, ha]
  | cons b pre ih =>
    simp only [foldE, List.cons_append] at hpre ⊢
    cases hg : g z b with
    | ok z1 => rw [hg] at hpre; exact ih z1 hpre
    | error e1 => rw [hg] at hpre; simp at hpre

/-- `Fold` = `foldl` (also the definition of `FoldLeft` on iterators). -/
theorem fold_eq (f : β → α → GoM β) (g : β → α → β) (hf : Total2 f g) (z : β)
    (m : Machine σ α) (s : σ) (l : List α) (h : Represents m s [] l) (fuel : Nat)
    (hfuel : l.length < fuel) (lg : Log) :
    ∃ s' lg', fold f m fuel z s lg = (.ok (l.foldl g z), s', lg') ∧ Represents m s' l [] := by
  obtain ⟨s', lg', d', e, hR, hd⟩ := fold_panic f _ hf.outcome z m s l h fuel hfuel lg
  rw [foldE_ok] at e hR hd
  rw [List.append_nil] at hd
  exact ⟨s', lg', e, hd ▸ hR⟩

/-- `Reduce(it, monoid)` = `foldl combine empty` (what the property demands; before fix 8de8936 the
    Go code dropped the result of `Combine`). -/
theorem reduce_eq (combine : β → β → GoM β) (g : β → β → β) (hf : Total2 combine g) (empty : β)
    (m : Machine σ β) (s : σ) (l : List β) (h : Represents m s [] l) (fuel : Nat)
    (hfuel : l.length < fuel) (lg : Log) :
    ∃ s' lg', reduce empty combine m fuel s lg = (.ok (l.foldl g empty), s', lg') ∧ Represents m s' l [] :=
  fold_eq combine g hf empty m s l h fuel hfuel lg

/-- `Reduce` (= `Fold` with the monoid's `Combine`) with a panicking `Combine`. -/
theorem reduce_panic (combine : β → β → GoM β) (g : β → β → Except PanicVal β) (hf : Outcome2 combine g) (empty : β)
    (m : Machine σ β) (s : σ) (l : List β) (h : Represents m s [] l) (fuel : Nat)
    (hfuel : l.length < fuel) (lg : Log) :
    ∃ s' lg' d', reduce empty combine m fuel s lg = ((foldE g empty l).1, s', lg') ∧
      Represents m s' d' (foldE g empty l).2 ∧ d' ++ (foldE g empty l).2 = l :=
  fold_panic combine g hf empty m s l h fuel hfuel lg

theorem foldTry_panic (f : β → α → GoM (Try β)) (g : β → α → Except PanicVal (Try β)) (hf : Outcome2 f g) (z : β)
    (m : Machine σ α) (s : σ) (l : List α) (h : Represents m s [] l) (fuel : Nat)
    (hfuel : l.length < fuel) (lg : Log) :
    ∃ s' lg' d', foldTry f m fuel z s lg = ((foldTryE g z l).1, s', lg') ∧
      Represents m s' d' (foldTryE g z l).2 ∧ d' ++ (foldTryE g z l).2 = l := by
  refine pullLoop_represents (F := foldTry f m) (K := fun z v k => do
      match ← IM.liftG (f z v) with
      | .success z' => k z'
      | .failure e => pure (.failure e)) (fin := Try.success)
    (fun _ _ => rfl) (E := foldTryE g) (fun _ => rfl) (fun z a as k s lg => ?_) h hfuel z lg
  obtain ⟨lg', e⟩ := liftG_outcome2 hf z a s lg
  refine ⟨lg', ?_⟩
  simp only [foldTryE]
  cases hg : g z a with
  | error q =>
    rw [hg] at e
    exact .inr ⟨bind_err e, rfl⟩
  | ok t =>
    rw [hg] at e
    cases t with
    | success z' => exact .inl ⟨z', bind_ok e, rfl⟩
    | failure err => exact .inr ⟨bind_ok e, rfl⟩

/-- `FoldTry` = the list fold that stops at the first failure; the elements after the failing one
    are NOT pulled (they are still in the iterator). -/
theorem foldTry_eq (f : β → α → GoM (Try β)) (g : β → α → Try β) (hf : Total2 f g) (z : β)
    (m : Machine σ α) (s : σ) (l : List α) (h : Represents m s [] l) (fuel : Nat)
    (hfuel : l.length < fuel) (lg : Log) :
    ∃ s' lg' d', foldTry f m fuel z s lg = (.ok (foldTryL g z l).1, s', lg') ∧
      Represents m s' d' (foldTryL g z l).2 ∧ d' ++ (foldTryL g z l).2 = l := by
  simpa only [foldTryE_ok] using foldTry_panic f _ hf.outcome z m s l h fuel hfuel lg

theorem foldOption_panic (f : β → α → GoM (Option β)) (g : β → α → Except PanicVal (Option β)) (hf : Outcome2 f g)
    (z : β) (m : Machine σ α) (s : σ) (l : List α) (h : Represents m s [] l) (fuel : Nat)
    (hfuel : l.length < fuel) (lg : Log) :
    ∃ s' lg' d', foldOption f m fuel z s lg = ((foldOptionE g z l).1, s', lg') ∧
      Represents m s' d' (foldOptionE g z l).2 ∧ d' ++ (foldOptionE g z l).2 = l := by
  refine pullLoop_represents (F := foldOption f m) (K := fun z v k => do
      match ← IM.liftG (f z v) with
      | some z' => k z'
      | none => pure none) (fin := some)
    (fun _ _ => rfl) (E := foldOptionE g) (fun _ => rfl) (fun z a as k s lg => ?_) h hfuel z lg
  obtain ⟨lg', e⟩ := liftG_outcome2 hf z a s lg
  refine ⟨lg', ?_⟩
  simp only [foldOptionE]
  cases hg : g z a with
  | error q =>
    rw [hg] at e
    exact .inr ⟨bind_err e, rfl⟩
  | ok o =>
    rw [hg] at e
    cases o with
    | none => exact .inr ⟨bind_ok e, rfl⟩
    | some z' => exact .inl ⟨z', bind_ok e, rfl⟩

theorem foldOption_eq (f : β → α → GoM (Option β)) (g : β → α → Option β) (hf : Total2 f g) (z : β)
    (m : Machine σ α) (s : σ) (l : List α) (h : Represents m s [] l) (fuel : Nat)
    (hfuel : l.length < fuel) (lg : Log) :
    ∃ s' lg' d', foldOption f m fuel z s lg = (.ok (foldOptionL g z l).1, s', lg') ∧
      Represents m s' d' (foldOptionL g z l).2 ∧ d' ++ (foldOptionL g z l).2 = l := by
  simpa only [foldOptionE_ok] using foldOption_panic f _ hf.outcome z m s l h fuel hfuel lg

theorem foldError_panic (f : α → GoM (Option Err)) (g : α → Except PanicVal (Option Err)) (hf : Outcome f g)
    (m : Machine σ α) (s : σ) (l : List α) (h : Represents m s [] l) (fuel : Nat)
    (hfuel : l.length < fuel) (lg : Log) :
    ∃ s' lg' d', foldError f m fuel s lg = ((foldErrorE g l).1, s', lg') ∧
      Represents m s' d' (foldErrorE g l).2 ∧ d' ++ (foldErrorE g l).2 = l := by
  refine pullLoop_represents (F := fun fuel (_ : Unit) => foldError f m fuel) (K := fun u v k => do
      match ← IM.liftG (f v) with
      | some e => pure (some e)
      | none => k u) (fin := fun _ => none)
    (fun _ _ => rfl) (E := fun _ => foldErrorE g) (fun _ => rfl) (fun z a as k s lg => ?_) h hfuel () lg
  obtain ⟨lg', e⟩ := liftG_outcome hf a s lg
  refine ⟨lg', ?_⟩
  simp only [foldErrorE]
  cases hg : g a with
  | error q =>
    rw [hg] at e
    exact .inr ⟨bind_err e, rfl⟩
  | ok o =>
    rw [hg] at e
    cases o with
    | none => exact .inl ⟨(), bind_ok e, rfl⟩
    | some err => exact .inr ⟨bind_ok e, rfl⟩

theorem foldError_eq (f : α → GoM (Option Err)) (g : α → Option Err) (hf : Total f g)
    (m : Machine σ α) (s : σ) (l : List α) (h : Represents m s [] l) (fuel : Nat)
    (hfuel : l.length < fuel) (lg : Log) :
    ∃ s' lg' d', foldError f m fuel s lg = (.ok (foldErrorL g l).1, s', lg') ∧
      Represents m s' d' (foldErrorL g l).2 ∧ d' ++ (foldErrorL g l).2 = l := by
  simpa only [foldErrorE_ok] using foldError_panic f _ hf.outcome m s l h fuel hfuel lg

/-- the reference folds agree with the usual definitions: success iff no step fails, and the
    unconsumed rest is what follows the first failing element. -/
theorem foldTryL_all_success (g : β → α → β) (z : β) (l : List α) :
    foldTryL (fun b a => .success (g b a)) z l = (.success (l.foldl g z), []) := by
  induction l generalizing z with
  | nil => rfl
  | cons a l ih => simp [foldTryL, ih]

theorem foldTryL_first_failure (g : β → α → Try β) (z z' : β) (pre post : List α) (a : α) (e : Err)
    (hpre : foldTryL g z pre = (.success z', [])) (ha : g z' a = .failure e) :
    foldTryL g z (pre ++ a :: post) = (.failure e, post) := by
  induction pre generalizing z with
  | nil => simp [foldTryL] at hpre; subst hpre; simp [foldTryL, ha]
  | cons b pre ih =>
    simp only [foldTryL, List.cons_append] at hpre ⊢
    cases hg : g z b with
    | success z1 => rw [hg] at hpre; exact ih z1 hpre
    | failure e1 => rw [hg] at hpre; simp at hpre

/-- `FoldRight` with a step that forces the lazy tail = `foldr`. -/
theorem foldRight_eq (f : α → β → GoM β) (g : α → β → β) (hf : Total2 f g) (zero : β)
    (m : Machine σ α) (s : σ) (l : List α) (h : Represents m s [] l) (fuel : Nat)
    (hfuel : l.length < fuel) (lg : Log) :
    ∃ s' lg', foldRight zero (fun a th => do let b ← th; IM.liftG (f a b)) m fuel s lg =
      (.ok (l.foldr g zero), s', lg') ∧ Represents m s' l [] := by
  simpa using foldRight_strict_spec hf (Represents.sim m) zero l fuel s [] lg hfuel h

/-- `FoldRight` is lazy in its second argument: a step that does not force the tail stops the
    traversal, the elements after the first hit are never pulled. -/
theorem foldRight_lazy (p : α → GoM Bool) (g : α → Bool) (hp : Total p g) (hv : α → β) (zero : β)
    (m : Machine σ α) (s : σ) (l : List α) (h : Represents m s [] l) (fuel : Nat)
    (hfuel : l.length < fuel) (lg : Log) :
    ∃ s' lg' d', foldRight zero (fun a th => do if ← IM.liftG (p a) then pure (hv a) else th) m fuel s lg =
        (.ok (((l.find? g).map hv).getD zero), s', lg') ∧ Represents m s' d' (afterHit g l) ∧
      d' ++ afterHit g l = l := by
  simpa using foldRight_shortcut_spec hp hv (Represents.sim m) zero l fuel s [] lg hfuel h

theorem find_eq (p : α → GoM Bool) (g : α → Bool) (hp : Total p g)
    (m : Machine σ α) (s : σ) (l : List α) (h : Represents m s [] l) (fuel : Nat)
    (hfuel : l.length < fuel) (lg : Log) :
    ∃ s' lg' d', find p m fuel s lg = (.ok (l.find? g), s', lg') ∧ Represents m s' d' (afterHit g l) ∧
      d' ++ afterHit g l = l := by
  obtain ⟨s', lg', d', e, hR, hd, _⟩ := find_spec hp (Represents.sim m) l fuel s [] lg hfuel h
  exact ⟨s', lg', d', e, hR, hd⟩

theorem exists_panic (f : α → GoM Bool) (g : α → Except PanicVal Bool) (hf : Outcome f g)
    (m : Machine σ α) (s : σ) (l : List α) (h : Represents m s [] l) (fuel : Nat)
    (hfuel : l.length < fuel) (lg : Log) :
    ∃ s' lg' d', «exists» f m fuel s lg = ((existsE g l).1, s', lg') ∧
      Represents m s' d' (existsE g l).2 ∧ d' ++ (existsE g l).2 = l := by
  refine pullLoop_represents (F := fun fuel (_ : Unit) => «exists» f m fuel) (K := fun u v k => do
      if ← IM.liftG (f v) then return true
      k u) (fin := fun _ => false)
    (fun _ _ => rfl) (E := fun _ => existsE g) (fun _ => rfl) (fun z a as k s lg => ?_) h hfuel () lg
  obtain ⟨lg', e⟩ := liftG_outcome hf a s lg
  refine ⟨lg', ?_⟩
  simp only [existsE]
  cases hg : g a with
  | error q =>
    rw [hg] at e
    exact .inr ⟨bind_err e, rfl⟩
  | ok b =>
    rw [hg] at e
    cases b with
    | false => exact .inl ⟨(), bind_ok e, rfl⟩
    | true => exact .inr ⟨bind_ok e, rfl⟩

theorem exists_eq (p : α → GoM Bool) (g : α → Bool) (hp : Total p g)
    (m : Machine σ α) (s : σ) (l : List α) (h : Represents m s [] l) (fuel : Nat)
    (hfuel : l.length < fuel) (lg : Log) :
    ∃ s' lg' d', «exists» p m fuel s lg = (.ok (l.any g), s', lg') ∧ Represents m s' d' (afterHit g l) ∧
      d' ++ afterHit g l = l := by
  simpa only [existsE_ok] using exists_panic p _ hp.outcome m s l h fuel hfuel lg

theorem forAll_panic (f : α → GoM Bool) (g : α → Except PanicVal Bool) (hf : Outcome f g)
    (m : Machine σ α) (s : σ) (l : List α) (h : Represents m s [] l) (fuel : Nat)
    (hfuel : l.length < fuel) (lg : Log) :
    ∃ s' lg' d', forAll f m fuel s lg = ((forAllE g l).1, s', lg') ∧
      Represents m s' d' (forAllE g l).2 ∧ d' ++ (forAllE g l).2 = l := by
  refine pullLoop_represents (F := fun fuel (_ : Unit) => forAll f m fuel) (K := fun u v k => do
      if !(← IM.liftG (f v)) then return false
      k u) (fin := fun _ => true)
    (fun _ _ => rfl) (E := fun _ => forAllE g) (fun _ => rfl) (fun z a as k s lg => ?_) h hfuel () lg
  obtain ⟨lg', e⟩ := liftG_outcome hf a s lg
  refine ⟨lg', ?_⟩
  simp only [forAllE]
  cases hg : g a with
  | error q =>
    rw [hg] at e
    exact .inr ⟨bind_err e, rfl⟩
  | ok b =>
    rw [hg] at e
    cases b with
    | false => exact .inr ⟨bind_ok e, rfl⟩
    | true => exact .inl ⟨(), bind_ok e, rfl⟩

theorem forAll_eq (p : α → GoM Bool) (g : α → Bool) (hp : Total p g)
    (m : Machine σ α) (s : σ) (l : List α) (h : Represents m s [] l) (fuel : Nat)
    (hfuel : l.length < fuel) (lg : Log) :
    ∃ s' lg' d', forAll p m fuel s lg = (.ok (l.all g), s', lg') ∧
      Represents m s' d' (afterHit (fun x => !g x) l) ∧ d' ++ afterHit (fun x => !g x) l = l := by
  simpa only [forAllE_ok] using forAll_panic p _ hp.outcome m s l h fuel hfuel lg

theorem foreach_panic (f : α → GoM Unit) (g : α → Except PanicVal Unit) (hf : Outcome f g)
    (m : Machine σ α) (s : σ) (l : List α) (h : Represents m s [] l) (fuel : Nat)
    (hfuel : l.length < fuel) (lg : Log) :
    ∃ s' lg' d', foreach f m fuel s lg = ((foreachE g l).1, s', lg') ∧
      Represents m s' d' (foreachE g l).2 ∧ d' ++ (foreachE g l).2 = l := by
  refine pullLoop_represents (F := fun fuel (_ : Unit) => foreach f m fuel) (K := fun u v k => do IM.liftG (f v); k u)
    (fin := id) (fun _ _ => rfl) (E := fun _ => foreachE g) (fun _ => rfl) (fun z a as k s lg => ?_) h hfuel () lg
  obtain ⟨lg', e⟩ := liftG_outcome hf a s lg
  refine ⟨lg', ?_⟩
  simp only [foreachE]
  cases hg : g a with
  | error q =>
    rw [hg] at e
    exact .inr ⟨bind_err e, rfl⟩
  | ok u =>
    rw [hg] at e
    exact .inl ⟨(), bind_ok e, rfl⟩

theorem foreach_eq (p : α → GoM Unit) (hp : Total p (fun _ => ()))
    (m : Machine σ α) (s : σ) (l : List α) (h : Represents m s [] l) (fuel : Nat)
    (hfuel : l.length < fuel) (lg : Log) :
    ∃ s' lg', foreach p m fuel s lg = (.ok (), s', lg') ∧ Represents m s' l [] := by
  obtain ⟨s', lg', d', e, hR, hd⟩ := foreach_panic p _ hp.outcome m s l h fuel hfuel lg
  rw [foreachE_ok] at e hR hd
  rw [List.append_nil] at hd
  exact ⟨s', lg', e, hd ▸ hR⟩

/-- range-over-func `All()`: stops pulling as soon as `yield` returns false. -/
theorem all_eq (p : α → GoM Bool) (g : α → Bool) (hp : Total p g)
    (m : Machine σ α) (s : σ) (l : List α) (h : Represents m s [] l) (fuel : Nat)
    (hfuel : l.length < fuel) (lg : Log) :
    ∃ s' lg' d', all p m fuel s lg = (.ok (), s', lg') ∧
      Represents m s' d' (afterHit (fun x => !g x) l) ∧ d' ++ afterHit (fun x => !g x) l = l := by
  refine pullLoop_represents (F := fun fuel (_ : Unit) => all p m fuel) (K := fun u v k => do
      if !(← IM.liftG (p v)) then return ()
      k u) (fin := id) (fun _ _ => rfl)
    (E := fun _ l => (.ok (), afterHit (fun x => !g x) l)) (fun _ => rfl)
    (fun z a as k s lg => ?_) h hfuel () lg
  obtain ⟨lg', e⟩ := liftG_total hp a s lg
  refine ⟨lg', ?_⟩
  simp only [afterHit, List.dropWhile_cons]
  cases hg : g a with
  | true =>
    rw [hg] at e
    exact .inl ⟨(), bind_ok e, rfl⟩
  | false =>
    rw [hg] at e
    exact .inr ⟨bind_ok e, rfl⟩

theorem nextOption_eq (m : Machine σ α) (s : σ) (l : List α) (h : Represents m s [] l) (lg : Log) :
    ∃ s' lg', nextOption m s lg = (.ok l.head?, s', lg') ∧ Represents m s' l.head?.toList l.tail := by
  -- `nextOption` is, word for word, the `nextfn` of `MakePullIterator`
  exact pullNextFn_spec (Represents.sim m) s [] l lg h

/-- the pure step functions of `Min` / `Max` -/
def minStepP (lt : α → α → Bool) (acc : Option α) (v : α) : Option α :=
  match acc with
  | some m => if lt m v then acc else some v
  | none => some v

def maxStepP (lt : α → α → Bool) (acc : Option α) (v : α) : Option α :=
  match acc with
  | some m => if lt v m then acc else some v
  | none => some v

theorem minStep_total (less : α → α → GoM Bool) (lt : α → α → Bool) (h : Total2 less lt) :
    Total2 (minStep less) (minStepP lt) := by
  intro acc v lg
  cases acc with
  | none => exact ⟨lg, rfl⟩
  | some m =>
    obtain ⟨lg', h'⟩ := h m v lg
    refine ⟨lg', (Coll.run_bind_ok h').trans ?_⟩
    simp only [minStepP]
    cases lt m v <;> rfl

/-- `Max` is `Min` of the flipped order -/
theorem maxStep_total (less : α → α → GoM Bool) (lt : α → α → Bool) (h : Total2 less lt) :
    Total2 (maxStep less) (maxStepP lt) :=
  minStep_total (fun a b => less b a) (fun a b => lt b a) fun a b => h b a

/-- `Min` / `Max` = the left fold with the "keep the smaller (larger), later wins on ties" step. -/
theorem min_eq (less : α → α → GoM Bool) (lt : α → α → Bool) (hl : Total2 less lt)
    (m : Machine σ α) (s : σ) (l : List α) (h : Represents m s [] l) (fuel : Nat)
    (hfuel : l.length < fuel) (lg : Log) :
    ∃ s' lg', It.min less m fuel s lg = (.ok (l.foldl (minStepP lt) none), s', lg') ∧ Represents m s' l [] :=
  fold_eq _ _ (minStep_total less lt hl) none m s l h fuel hfuel lg

theorem max_eq (less : α → α → GoM Bool) (lt : α → α → Bool) (hl : Total2 less lt)
    (m : Machine σ α) (s : σ) (l : List α) (h : Represents m s [] l) (fuel : Nat)
    (hfuel : l.length < fuel) (lg : Log) :
    ∃ s' lg', It.max less m fuel s lg = (.ok (l.foldl (maxStepP lt) none), s', lg') ∧ Represents m s' l [] :=
  fold_eq _ _ (maxStep_total less lt hl) none m s l h fuel hfuel lg

/-- for a strict total order `Min` returns a minimum of the list -/
theorem minStepP_le (lt : α → α → Bool) (le : α → α → Prop)
    (hle_refl : ∀ a, le a a) (hle_trans : ∀ a b c, le a b → le b c → le a c)
    (hlt : ∀ a b, lt a b = true → le a b) (hnlt : ∀ a b, lt a b = false → le b a)
    (l : List α) (acc : Option α) :
    match l.foldl (minStepP lt) acc with
    | some r => (∀ x ∈ l, le r x) ∧ (∀ a, acc = some a → le r a) ∧ (r ∈ l ∨ acc = some r)
    | none => l = [] ∧ acc = none := by
  induction l generalizing acc with
  | nil => cases acc <;> simp [hle_refl]
  | cons v l ih =>
    simp only [List.foldl_cons]
    have := ih (minStepP lt acc v)
    cases hres : l.foldl (minStepP lt) (minStepP lt acc v) with
    | none => rw [hres] at this; cases acc <;> simp [minStepP] at this; split at this <;> simp at this
    | some r =>
      rw [hres] at this
      obtain ⟨h1, h2, h3⟩ := this
      cases acc with
      | none =>
        simp only [minStepP] at h2 h3
        refine ⟨?_, by simp, ?_⟩
        · intro x hx
          rcases List.mem_cons.mp hx with rfl | hx
          · exact h2 _ rfl
          · exact h1 x hx
        · rcases h3 with h3 | h3
          · exact Or.inl (List.mem_cons_of_mem _ h3)
          · simp only [Option.some.injEq] at h3; subst h3; exact Or.inl (List.mem_cons_self ..)
      | some a =>
        simp only [minStepP] at h2 h3
        cases hc : lt a v
        · simp only [hc, Bool.false_eq_true, if_false] at h2 h3
          have hrv := h2 v rfl
          refine ⟨?_, ?_, ?_⟩
          · intro x hx
            rcases List.mem_cons.mp hx with rfl | hx
            · exact hrv
            · exact h1 x hx
          · intro a' ha'; simp only [Option.some.injEq] at ha'; subst ha'
            exact hle_trans _ _ _ hrv (hnlt _ _ hc)
          · rcases h3 with h3 | h3
            · exact Or.inl (List.mem_cons_of_mem _ h3)
            · simp only [Option.some.injEq] at h3; subst h3; exact Or.inl (List.mem_cons_self ..)
        · simp only [hc, if_true] at h2 h3
          have hra := h2 a rfl
          refine ⟨?_, ?_, ?_⟩
          · intro x hx
            rcases List.mem_cons.mp hx with rfl | hx
            · exact hle_trans _ _ _ hra (hlt _ _ hc)
            · exact h1 x hx
          · intro a' ha'; simp only [Option.some.injEq] at ha'; subst ha'; exact hra
          · rcases h3 with h3 | h3
            · exact Or.inl (List.mem_cons_of_mem _ h3)
            · exact Or.inr h3

/-- `GroupBy` = the left fold that appends each element to its key's group. -/
theorem groupBy_eq {κ : Type} [BEq κ] (kf : α → GoM κ) (kg : α → κ) (hk : Total kf kg)
    (m : Machine σ α) (s : σ) (l : List α) (h : Represents m s [] l) (fuel : Nat)
    (hfuel : l.length < fuel) (lg : Log) :
    ∃ s' lg', groupBy kf m fuel s lg = (.ok (l.foldl (fun b a => groupInsert (kg a) a b) []), s', lg') ∧
      Represents m s' l [] := by
  have : Total2 (fun (b : List (κ × List α)) a => do let k ← kf a; pure (groupInsert k a b))
      (fun b a => groupInsert (kg a) a b) := by
    intro b a lg
    exact total_bind_pure hk (fun k => groupInsert k a b) a lg
  exact fold_eq _ _ this [] m s l h fuel hfuel lg

/-! ## demand: how far the source is pulled

The source is the instrumented slice iterator `ofSeq tag xs`, whose state is its pull counter.
After ANY script `cs` of `HasNext`/`Next` calls on the combinator, the consumer has obtained
`got` elements and the counter is bounded in terms of `got`. -/

/-- what is common to the statements below: run a script on a one-stage pipeline over the
    instrumented source and look at the source's pull counter and the combinator's variables. -/
theorem demand_frame {γ β : Type} (C : Machine (Nat × γ) β) (c0 : γ)
    (Inv : γ → List α → List α → List β → List β → Prop) (xs : List α) (out : List β)
    (hC : Sim C (liftRel Inv (ofSeqRel xs))) (h0 : Inv c0 [] xs [] out)
    (cs : List Call) (lg : Log) :
    ∃ d r d', Inv (runScript C cs (0, c0) lg).2.1.2 d r d' (specRest cs out) ∧
      d.length = (runScript C cs (0, c0) lg).2.1.1 ∧ d ++ r = xs ∧ d' ++ specRest cs out = out := by
  obtain ⟨d', _, ⟨d, r, ⟨hle, hd, hr⟩, hI⟩, hd'⟩ :=
    runScript_sim hC cs (0, c0) [] out lg ⟨[], xs, ofSeqRel_zero xs, h0⟩
  refine ⟨d, r, d', hI, ?_, ?_, by simpa using hd'⟩
  · rw [hd]; simp; omega
  · rw [hd, hr]; simp

/-- `TakeWhile`: at most one element beyond what was handed out (the look-ahead `fv`, or the
    element that ended the run). -/
theorem takeWhile_demand (p : α → GoM Bool) (g : α → Bool) (hp : Total p g) (tag : Option (α → Event))
    (xs : List α) (cs : List Call) (lg : Log) :
    let got := (xs.takeWhile g).length - (specRest cs (xs.takeWhile g)).length
    (runScript (takeWhile p (ofSeq tag xs)) cs (0, {}) lg).2.1.1 ≤ got + 1 := by
  intro got
  obtain ⟨d, r, d', hI, hlen, _, hd'⟩ := demand_frame (takeWhile p (ofSeq tag xs)) {} (TakeWhileInv g) xs
    (xs.takeWhile g) (takeWhile_sim hp (ofSeq_sim tag xs)) (by simp [TakeWhileInv]) cs lg
  have hgot : d'.length = got := length_eq_sub_of_append hd'
  rw [← hlen, ← hgot]
  generalize (runScript (takeWhile p (ofSeq tag xs)) cs (0, {}) lg).2.1.2 = c at hI
  rcases c with ⟨_ | _, _ | v⟩ <;> simp only [TakeWhileInv] at hI
  · rw [hI.1]; omega
  · rw [hI.1]; simp
  · obtain ⟨⟨v, hv, _⟩, _⟩ := hI; rw [hv]; simp

/-- `Take(n)`: exactly as many as were handed out. -/
theorem take_demand (n : Int) (tag : Option (α → Event)) (xs : List α) (cs : List Call) (lg : Log) :
    let got := (xs.take n.toNat).length - (specRest cs (xs.take n.toNat)).length
    (runScript (take n (ofSeq tag xs)) cs (0, 0) lg).2.1.1 = got := by
  intro got
  obtain ⟨d', _, ⟨r, ⟨hle, hd, hr⟩, hi, _⟩, hd'⟩ :=
    runScript_sim (take_sim n (ofSeq_sim tag xs)) cs (0, 0) [] (xs.take n.toNat) lg
      ⟨xs, ofSeqRel_zero xs, rfl, by simp⟩
  have hgot : d'.length = got := length_eq_sub_of_append (c := xs.take n.toNat) hd'
  rw [← hgot, hd, List.length_take]
  omega

/-- `Map`: exactly as many as were handed out. -/
theorem map_demand (f : α → GoM β) (g : α → β) (hf : Total f g) (tag : Option (α → Event))
    (xs : List α) (cs : List Call) (lg : Log) :
    let got := xs.length - (specRest cs (xs.map g)).length
    (runScript (map f (ofSeq tag xs)) cs 0 lg).2.1 = got := by
  intro got
  obtain ⟨d', _, ⟨d, r, ⟨hle, hd, hr⟩, hdm, _⟩, hd'⟩ :=
    runScript_sim (map_sim hf (ofSeq_sim tag xs)) cs 0 [] (xs.map g) lg
      ⟨[], xs, ofSeqRel_zero xs, rfl, rfl⟩
  have h1 : d'.length = got := (length_eq_sub_of_append (c := xs.map g) hd').trans (by rw [List.length_map])
  have h2 : d'.length = d.length := by rw [hdm]; simp
  rw [← h1, h2, hd, List.length_take]
  omega

/-- `Scan`: never ahead of the consumer (the first element, `zero`, needs no pull at all). -/
theorem scan_demand (f : β → α → GoM β) (g : β → α → β) (hf : Total2 f g) (zero : β)
    (tag : Option (α → Event)) (xs : List α) (cs : List Call) (lg : Log) :
    let got := (scanl g zero xs).length - (specRest cs (scanl g zero xs)).length
    (runScript (scan f (ofSeq tag xs)) cs (0, { sum := zero }) lg).2.1.1 ≤ got := by
  intro got
  obtain ⟨d, r, d', hI, hlen, _, hd'⟩ := demand_frame (scan f (ofSeq tag xs)) { sum := zero } (ScanInv g) xs
    (scanl g zero xs) (scan_sim hf (ofSeq_sim tag xs)) (by simp [ScanInv]) cs lg
  have hgot : d'.length = got := length_eq_sub_of_append hd'
  rw [← hlen, ← hgot]
  simp only [ScanInv] at hI
  split at hI <;> omega

/-- `Filter`: the source has been pulled exactly up to (and including) the next hit after the
    elements handed out — the look-ahead `fv` — or, before the first call, not at all; it is
    pulled to the end only when no further hit exists. -/
theorem filter_demand (p : α → GoM Bool) (g : α → Bool) (hp : Total p g) (tag : Option (α → Event))
    (xs : List α) (cs : List Call) (lg : Log) :
    ∃ d r d', d ++ r = xs ∧ d.length = (runScript (filter (xs.length + 1) p (ofSeq tag xs)) cs (0, {}) lg).2.1.1 ∧
      d' ++ specRest cs (xs.filter g) = xs.filter g ∧
      (d = [] ∨ (d.filter g = d' ∧ r = []) ∨ (∃ v d0, d = d0 ++ [v] ∧ g v = true ∧ d.filter g = d' ++ [v])) := by
  obtain ⟨d, r, d', hI, hlen, hdr, hd'⟩ := demand_frame (filter (xs.length + 1) p (ofSeq tag xs)) {}
    (FilterInvF (xs.length + 1) g) xs (xs.filter g) (filter_sim hp _ (ofSeq_sim tag xs))
    (by simp [FilterInvF, FilterInv]) cs lg
  refine ⟨d, r, d', hdr, hlen, hd', ?_⟩
  generalize (runScript (filter (xs.length + 1) p (ofSeq tag xs)) cs (0, {}) lg).2.1.2 = c at hI
  obtain ⟨_, hI⟩ := hI
  rcases c with ⟨_ | _, _ | v⟩ <;> simp only [FilterInv] at hI
  · exact Or.inr (Or.inl ⟨hI.2.2.symm, hI.1⟩)
  · obtain ⟨⟨d0, hd0⟩, hg, hf, _⟩ := hI
    exact Or.inr (Or.inr ⟨v, d0, hd0, hg, hf⟩)
  · exact Or.inl hI.1

/-- `DropWhile`: the dropped prefix is pulled, then the source runs at most one element (the
    look-ahead `first`) ahead of the consumer; once the first kept element has been seen the pull
    count is exact. -/
theorem dropWhile_demand (p : α → GoM Bool) (g : α → Bool) (hp : Total p g) (tag : Option (α → Event))
    (xs : List α) (fuel : Nat) (hfuel : xs.length < fuel) (cs : List Call) (lg : Log) :
    let got := (xs.dropWhile g).length - (specRest cs (xs.dropWhile g)).length
    let st := (runScript (dropWhile fuel p (ofSeq tag xs)) cs (0, {}) lg).2.1
    st.1 ≤ (xs.takeWhile g).length + got + 1 ∧
    (st.2.found = true → st.1 = (xs.takeWhile g).length + got + (if st.2.first.isSome then 1 else 0)) := by
  intro got st
  obtain ⟨d, r, d', hI, hlen, hdr, hd'⟩ := demand_frame (dropWhile fuel p (ofSeq tag xs)) {} (DropWhileInv fuel g) xs
    (xs.dropWhile g) (dropWhile_sim hp fuel (ofSeq_sim tag xs)) (by simp [DropWhileInv, hfuel]) cs lg
  have hsplit : (xs.takeWhile g).length + (xs.dropWhile g).length = xs.length := by
    rw [← List.length_append, List.takeWhile_append_dropWhile]
  have hgot : d'.length = got := length_eq_sub_of_append hd'
  have hxs : d.length + r.length = xs.length := by rw [← hdr, List.length_append]
  have hout : d'.length + (specRest cs (xs.dropWhile g)).length = (xs.dropWhile g).length := by
    rw [← List.length_append, hd']
  have hst : st.1 = d.length := hlen.symm
  have hc : (runScript (dropWhile fuel p (ofSeq tag xs)) cs (0, {}) lg).2.1.2 = st.2 := rfl
  rw [hc] at hI
  generalize st.2 = c at hI ⊢
  obtain ⟨_, hI⟩ := hI
  rcases c with ⟨fd, fst⟩
  cases fd <;> cases fst <;> simp only at hI
  · have hle : (specRest cs (xs.dropWhile g)).length ≤ r.length := by
      rw [hI]; exact (List.dropWhile_sublist g).length_le
    exact ⟨by omega, by simp⟩
  · have : (specRest cs (xs.dropWhile g)).length = r.length := by rw [hI]
    exact ⟨by omega, fun _ => by simp; omega⟩
  · have : (specRest cs (xs.dropWhile g)).length = r.length + 1 := by rw [hI]; simp
    exact ⟨by omega, fun _ => by simp; omega⟩

/-- `FlatMap`: the source is pulled only as far as needed — everything the source elements before
    the last pulled one expand to has already been handed out, and nothing is handed out that does
    not come from a pulled element.  (`h a`: the list the iterator returned by the callback
    represents; the callback needs to behave only on the elements of `xs`.) -/
theorem flatMap_demand (mf : α → GoM τ) (inner : Machine τ β) (Ri : τ → List β → List β → Prop)
    (hI : Sim inner Ri) (h : α → List β) (tag : Option (α → Event)) (xs : List α)
    (hmf : ∀ a, a ∈ xs → MfOK mf Ri h a) (fuel : Nat) (hfuel : xs.length < fuel) (cs : List Call) (lg : Log) :
    let got := (xs.flatMap h).length - (specRest cs (xs.flatMap h)).length
    let n := (runScript (flatMap fuel mf inner (ofSeq tag xs)) cs (0, none) lg).2.1.1
    ((xs.take n).dropLast.flatMap h).length ≤ got ∧ got ≤ ((xs.take n).flatMap h).length := by
  intro got n
  have hinit : FlatMapInv fuel mf Ri h none [] xs [] (xs.flatMap h) := by
    refine ⟨hfuel, hmf, [], rfl, ?_, ?_⟩
    · exact (List.nil_append _).symm
    -- `flatMapHist`: no inner iterator is current, so there is nothing to remember about one
    · exact fun hne => absurd rfl hne
  obtain ⟨d, r, d', hInv, hlen, hdr, hd'⟩ := demand_frame (flatMap fuel mf inner (ofSeq tag xs)) none
    (FlatMapInv fuel mf Ri h) xs (xs.flatMap h) (flatMap_sim hI h fuel (ofSeq_sim tag xs)) hinit cs lg
  have hgot : d'.length = got := length_eq_sub_of_append hd'
  have hd : xs.take n = d := by
    have : n = d.length := hlen.symm
    rw [this, ← hdr]; simp
  obtain ⟨_, _, rc, _, hrest, hhist⟩ := hInv
  have hcat : d' ++ rc = d.flatMap h := by
    have h1 : d' ++ (rc ++ r.flatMap h) = d.flatMap h ++ r.flatMap h := by
      rw [← hrest, hd', ← hdr, List.flatMap_append]
    rw [← List.append_assoc] at h1
    exact List.append_cancel_right h1
  have hl : d'.length + rc.length = (d.flatMap h).length := by rw [← hcat, List.length_append]
  rw [hd, ← hgot]
  refine ⟨?_, by omega⟩
  cases hrc : rc with
  | nil =>
    rw [hrc] at hl
    have : (d.dropLast.flatMap h).length ≤ (d.flatMap h).length := by
      rcases List.eq_nil_or_concat d with rfl | ⟨d0, a, rfl⟩
      · simp
      · simp [List.flatMap_append]
    simp only [List.length_nil, Nat.add_zero] at hl
    rw [hl]; exact this
  | cons b bs =>
    obtain ⟨d0, a, pre, hd0, hpre⟩ := hhist (by rw [hrc]; simp)
    subst hd0
    have h2 : ((d0 ++ [a]).flatMap h).length = (d0.flatMap h).length + (h a).length := by
      simp [List.flatMap_append]
    have h3 : rc.length ≤ (h a).length := by rw [← hpre, List.length_append]; omega
    rw [hrc] at hl h3
    simp only [List.dropLast_concat]
    omega

/-- `Concat`: no look-ahead at all — the two sources together have been pulled exactly as often
    as elements were handed out. -/
theorem concat_demand (t1 t2 : Option (α → Event)) (xs ys : List α) (cs : List Call) (lg : Log) :
    let got := (xs ++ ys).length - (specRest cs (xs ++ ys)).length
    let st := (runScript (concat ((MMachine.single (ofSeq t1 xs)).join (MMachine.single (ofSeq t2 ys)))) cs
      ((0, 0), {}) lg).2.1
    st.1.1 + st.1.2 = got := by
  intro got st
  have hms := join_msim (single_msim (ofSeq_sim t1 xs)) (single_msim (ofSeq_sim t2 ys))
  obtain ⟨d', _, ⟨L, ⟨La, Lb, ⟨da, hRa⟩, ⟨db, hRb⟩, hL⟩, hInv⟩, hd'⟩ :=
    runScript_sim (concat_sim hms) cs ((0, 0), {}) [] (xs ++ ys) lg
      ⟨fun i => if i < 1 then xs else ys,
        ⟨fun _ => xs, fun _ => ys, ⟨[], ofSeqRel_zero xs⟩, ⟨[], ofSeqRel_zero ys⟩, fun i => by simp [MMachine.single]⟩,
        by simp [ConcatInv, MMachine.join, MMachine.single, flatFrom]⟩
  have hflat := hInv.flat
  have hn : ((MMachine.single (ofSeq t1 xs)).join (MMachine.single (ofSeq t2 ys))).n = 2 := rfl
  rw [hn] at hflat
  simp only [flatFrom, List.append_nil] at hflat
  have h0 : L 0 = La 0 := by rw [hL 0]; simp [MMachine.single]
  have h1 : L 1 = Lb 0 := by rw [hL 1]; simp [MMachine.single]
  obtain ⟨hlea, _, hra⟩ : ofSeqRel xs st.1.1 da (La 0) := hRa
  obtain ⟨hleb, _, hrb⟩ : ofSeqRel ys st.1.2 db (Lb 0) := hRb
  have hlen : (specRest cs (xs ++ ys)).length = (xs.length - st.1.1) + (ys.length - st.1.2) := by
    rw [hflat, List.length_append, h0, h1, hra, hrb, List.length_drop, List.length_drop]
  have hout : d'.length + (specRest cs (xs ++ ys)).length = (xs ++ ys).length := by
    rw [← List.length_append, hd']; simp
  have : got = (xs ++ ys).length - (specRest cs (xs ++ ys)).length := rfl
  rw [List.length_append] at hout this
  omega

/-- `Zip(a, b)`: `b` is pulled exactly once per pair handed out; so is `a`, except that a `Next`
    called although `b` is exhausted (it panics) still consumes an element of `a`. -/
theorem zip_demand (t1 : Option (α → Event)) (t2 : Option (β → Event)) (xs : List α) (ys : List β)
    (cs : List Call) (lg : Log) :
    let got := (xs.zip ys).length - (specRest cs (xs.zip ys)).length
    let st := (runScript (zip (ofSeq t1 xs) (ofSeq t2 ys)) cs (0, 0) lg).2.1
    st.2 = got ∧ got ≤ st.1 ∧ (got < st.1 → got = ys.length) := by
  intro got st
  obtain ⟨d', _, ⟨d1, r1, d2, r2, hRa, hRb, _, hl2, hl1, hex⟩, hd'⟩ :=
    runScript_sim (zip_sim (ofSeq_sim t1 xs) (ofSeq_sim t2 ys)) cs (0, 0) [] (xs.zip ys) lg
      ⟨[], xs, [], ys, ofSeqRel_zero xs, ofSeqRel_zero ys, rfl, rfl, Nat.le_refl _, by simp⟩
  obtain ⟨hlea, hda, _⟩ : ofSeqRel xs st.1 d1 r1 := hRa
  obtain ⟨hleb, hdb, hrb⟩ : ofSeqRel ys st.2 d2 r2 := hRb
  have h1 : d1.length = st.1 := by rw [hda, List.length_take]; omega
  have h2 : d2.length = st.2 := by rw [hdb, List.length_take]; omega
  have hgot : d'.length = got := length_eq_sub_of_append (c := xs.zip ys) hd'
  refine ⟨by omega, by omega, fun hlt => ?_⟩
  have hr2 : r2 = [] := hex (by omega)
  rw [hr2] at hrb
  have : ys.length ≤ st.2 := by
    have := congrArg List.length hrb
    simp only [List.length_nil, List.length_drop] at this
    omega
  omega

/-! ## a panicking step over every pipeline -/

/-- `iterator.Fold` with a panicking step over EVERY pipeline, lists of every length, every fuel above
    the bounds. -/
theorem pipe_fold_panicF (p : Pipe) (x : Val) (hwb : p.WB x) (f : Val → Val → GoM Val)
    (g : Val → Val → Except PanicVal Val) (hf : Outcome2 f g) (z : Val) (pfuel : Nat) (hpfuel : p.need x < pfuel)
    (fuel : Nat) (hfuel : (p.denote x).length < fuel) (lg : Log) :
    ∃ s lg1 s' lg' d', (p.buildF pfuel x).run.run lg = (.ok s, lg1) ∧
      fold f (Pipe.machineF pfuel p) fuel z s lg1 = ((foldE g z (p.denote x)).1, s', lg') ∧
      Represents (Pipe.machineF pfuel p) s' d' (foldE g z (p.denote x)).2 ∧ d' ++ (foldE g z (p.denote x)).2 = p.denote x := by
  obtain ⟨s, lg1, e, hR⟩ := pipe_representsF p x hwb pfuel hpfuel lg
  obtain ⟨s', lg', d', e2, hR', hd⟩ := fold_panic f g hf z _ s _ hR fuel hfuel lg1
  exact ⟨s, lg1, s', lg', d', e, e2, hR', hd⟩

/-- put together with `pipe_represents`: `iterator.Fold` with a panicking step over EVERY pipeline. -/
theorem pipe_fold_panic (p : Pipe) (x : Val) (hok : p.OK x) (f : Val → Val → GoM Val)
    (g : Val → Val → Except PanicVal Val) (hf : Outcome2 f g) (z : Val) (fuel : Nat)
    (hfuel : (p.denote x).length < fuel) (lg : Log) :
    ∃ s lg1 s' lg' d', (p.build x).run.run lg = (.ok s, lg1) ∧
      fold f (Pipe.machine p) fuel z s lg1 = ((foldE g z (p.denote x)).1, s', lg') ∧
      Represents (Pipe.machine p) s' d' (foldE g z (p.denote x)).2 ∧ d' ++ (foldE g z (p.denote x)).2 = p.denote x := by
  obtain ⟨s, lg1, e, hR⟩ := pipe_represents p x hok lg
  obtain ⟨s', lg', d', e2, hR', hd⟩ := fold_panic f g hf z _ s _ hR fuel hfuel lg1
  exact ⟨s, lg1, s', lg', d', e, e2, hR', hd⟩

/-! ## unbounded generators: the lazy combinators make finite iterators out of `Generate`

`iterator.Generate` never ends, so it represents no list; `PreSim` ("at least this prefix will be
delivered"; `PreSim.upTo`: a `SimUpTo False`) is what `Take` / `TakeWhile` need — these combinators
contain no fuel at all: they terminate because they stop asking. -/

/-- `Generate(g).Take(n)` is the finite iterator over the first `n` values. -/
theorem take_generate (g : Nat → GoM α) (gf : Nat → α) (hg : Total g gf) (n : Int) (n0 : Nat) :
    Represents (take n (generate g)) (n0, 0) [] (genList gf n0 n.toNat) := by
  refine ⟨_, take_simU n (generate_presim hg).upTo, genList gf n0 n.toNat, ⟨n.toNat, rfl⟩, rfl, ?_, .inr ?_⟩
  · simp [List.take_of_length_le, genList_length]
  · simp [genList_length]

/-- `Generate(g).Map(f).Take(n)`. -/
theorem take_map_generate (g : Nat → GoM α) (gf : Nat → α) (hg : Total g gf) (f : α → GoM β) (h : α → β)
    (hf : Total f h) (n : Int) (n0 : Nat) :
    Represents (take n (map f (generate g))) (n0, 0) [] ((genList gf n0 n.toNat).map h) := by
  refine ⟨_, take_simU n (map_simU hf (generate_presim hg).upTo), (genList gf n0 n.toNat).map h,
    ⟨[], _, ⟨n.toNat, rfl⟩, rfl, rfl⟩, rfl, ?_, .inr ?_⟩
  · simp [List.take_of_length_le, genList_length]
  · simp [genList_length]

/-- `Generate(g).TakeWhile(p)` is finite as soon as some generated value fails `p`. -/
theorem takeWhile_generate (g : Nat → GoM α) (gf : Nat → α) (hg : Total g gf) (p : α → GoM Bool) (gp : α → Bool)
    (hp : Total p gp) (n0 k : Nat) (hk : gp (gf (n0 + k)) = false) :
    Represents (takeWhile p (generate g)) (n0, {}) [] ((genList gf n0 (k + 1)).takeWhile gp) :=
  ⟨_, takeWhile_simU hp (generate_presim hg).upTo, [], genList gf n0 (k + 1), ⟨k + 1, rfl⟩, by simp [TakeWhileInv],
    .inr (.inr ⟨gf (n0 + k), genList_mem_last gf n0 k, hk⟩)⟩

/-! ## demand, compositionally: the pull counter of EVERY linear pipeline (audit finding 13)

`Pipe.pulls` (Model/IterPipe.lean) is the number of elements handed out by the instrumented sources
of a pipeline.  The theorems of the section "demand" above are about ONE combinator over ONE
instrumented slice and need `Total` callbacks.  Here: an induction over the `Pipe` AST by a potential
argument on single closure calls (`Lemmas/PipeDemand.lean`, `StepB`): every `HasNext` / `Next` raises
`pulls − held` (`held` = pulls that sit in a look-ahead variable) by at most `width p` (the number of
instrumented sources pulled together), a `HasNext` that returns by nothing.  NO hypothesis on the callbacks (they may
log and panic), none on the sources (`Generate` included — no `Pipe.WB`), none on the script, none on
the fuel.  A panicking call may lose the element it was working on, which is why the panicking calls
are counted next to the elements handed out.

`Pipe.Linear` — sources, `Map`, `TapEach`, `Take`, `TakeWhile`, `Scan`, `Zip`, `Zip3`,
`ZipWithIndex`, `MakePullIterator`, `Concat` (over the shared component list `parts`, any nesting) —
are the combinators for which "pulls ≤ elements handed out + constant" is TRUE; `Pipe.LinearD` adds
`Drop(n)`, which spends `n` elements ONCE at construction (`Pipe.dropped`; `pipe_demand_drop`, so also
`x.Concat(y).Drop(n).Concat(z)`).  `Filter`, `FilterNot`, `DropWhile`, `FlatMap`, `FilterMap` skip a
data-dependent number of elements: for them such a bound is FALSE (`filter_no_linear_bound`); what
they pull is stated per combinator in `filter_demand`, `dropWhile_demand`, `flatMap_demand` above. -/

/-- EVERY linear pipeline `p`, every argument, every fuel, every log: building `p` succeeds, and
    after ANY script of `HasNext` / `Next` calls the instrumented sources have handed out at most

        width p · (elements handed out + calls that panicked) + lookahead p

    elements; `lookahead p` is the structural constant `Pipe.lookahead` (one per `MakePullIterator`,
    `width` of the underlying pipeline per `TakeWhile`).  Nothing is assumed about callbacks or
    sources. -/
theorem pipe_demand (p : Pipe) (hl : p.Linear) (fuel : Nat) (x : Val) (lg : Log) :
    ∃ (s0 : p.St) (lg0 : Log), (p.buildF fuel x).run.run lg = (.ok s0, lg0) ∧
      ∀ cs : List Call,
        p.pulls (runScript (p.machineF fuel) cs s0 lg0).2.1
          ≤ p.width * (vals (runScript (p.machineF fuel) cs s0 lg0).1 + panics (runScript (p.machineF fuel) cs s0 lg0).1)
            + p.lookahead := by
  obtain ⟨s0, lg0, e, h0⟩ := Pipe.build_linear fuel p hl x lg
  exact ⟨s0, lg0, e, fun cs => Pipe.pulls_le_of_stepB fuel p hl s0 h0 cs lg0⟩

/-- the same for what the oracle runs (`Pipe.build`, `Pipe.machine`: fuel `FUEL`) -/
theorem pipe_demand_oracle (p : Pipe) (hl : p.Linear) (x : Val) (lg : Log) :
    ∃ (s0 : p.St) (lg0 : Log), (p.build x).run.run lg = (.ok s0, lg0) ∧
      ∀ cs : List Call,
        p.pulls (runScript p.machine cs s0 lg0).2.1
          ≤ p.width * (vals (runScript p.machine cs s0 lg0).1 + panics (runScript p.machine cs s0 lg0).1) + p.lookahead :=
  pipe_demand p hl FUEL x lg

/-- the step form: one call of a linear pipeline's iterator, from ANY state. -/
theorem pipe_demand_step (p : Pipe) (hl : p.Linear) (fuel : Nat) :
    StepB (p.machineF fuel) p.pot p.width p.width := Pipe.stepB fuel p hl

/-- the look-ahead really is bounded by the structural constant, in every state -/
theorem pipe_held_le (p : Pipe) (s : p.St) : p.held s ≤ p.lookahead := Pipe.held_le_lookahead p s

/-- pipelines that also contain `Drop(n)`: IF construction returns (a panicking callback can abort
    a `Drop` loop; for `Pipe.WB` pipelines it does return: `pipe_jointF`), then after any script

        pulls ≤ width p · (handed out + panicked) + lookahead p + dropped p

    where `dropped p` is the sum of `n · width` over the `Drop(n)` of the pipeline. -/
theorem pipe_demand_drop (p : Pipe) (hl : p.LinearD) (fuel : Nat) (x : Val) (lg : Log) (s0 : p.St) (lg0 : Log)
    (hb : (p.buildF fuel x).run.run lg = (.ok s0, lg0)) (cs : List Call) :
    p.pulls (runScript (p.machineF fuel) cs s0 lg0).2.1
      ≤ p.width * (vals (runScript (p.machineF fuel) cs s0 lg0).1 + panics (runScript (p.machineF fuel) cs s0 lg0).1)
        + p.lookahead + p.dropped :=
  Pipe.pulls_le_of_stepBD fuel p hl s0 p.dropped (Pipe.build_linearD fuel p hl x lg s0 lg0 hb) cs lg0

/-- `x.Concat(y).Drop(n).Concat(z)` over three instrumented slices (the pipeline of
    `concat_drop_concat`), followed by `Map(f)` with an arbitrary `f`: every element handed out
    costs ONE pull, `Drop` has spent at most `n`, there is no look-ahead. -/
theorem concat_drop_concat_demand (xs ys zs : List Val) (n : Int) (f : Val → GoM Val) (fuel : Nat) (x : Val) (lg : Log)
    (s0 : (Pipe.map (.concat (.drop (.concat (.src 0 xs) (.src 1 ys)) n) (.src 2 zs)) f).St) (lg0 : Log)
    (hb : ((Pipe.map (.concat (.drop (.concat (.src 0 xs) (.src 1 ys)) n) (.src 2 zs)) f).buildF fuel x).run.run lg = (.ok s0, lg0))
    (cs : List Call) :
    let P := Pipe.map (.concat (.drop (.concat (.src 0 xs) (.src 1 ys)) n) (.src 2 zs)) f
    P.pulls (runScript (P.machineF fuel) cs s0 lg0).2.1
      ≤ vals (runScript (P.machineF fuel) cs s0 lg0).1 + panics (runScript (P.machineF fuel) cs s0 lg0).1 + n.toNat := by
  intro P
  have := pipe_demand_drop P ⟨⟨trivial, trivial⟩, trivial⟩ fuel x lg s0 lg0 hb cs
  have hw : P.width = 1 := rfl
  have hl : P.lookahead = 0 := rfl
  have hd : P.dropped = 0 + 0 + n.toNat * 1 + 0 := rfl
  rw [hw, hl, hd] at this
  omega

/-- `q.Take(n)` for a linear `q` (also over `Generate`, also `n` huge or negative): however long the
    script, every source is pulled at most `n` times plus the look-ahead of `q` plus once per
    panicking call.  The number of calls does not enter: `Take` stops asking. -/
theorem take_pipe_demand (q : Pipe) (hl : q.Linear) (n : Int) (fuel : Nat) (x : Val) (lg : Log) :
    ∃ (s0 : (Pipe.take q n).St) (lg0 : Log), ((Pipe.take q n).buildF fuel x).run.run lg = (.ok s0, lg0) ∧
      ∀ cs : List Call,
        (Pipe.take q n).pulls (runScript ((Pipe.take q n).machineF fuel) cs s0 lg0).2.1
          ≤ q.width * (n.toNat + panics (runScript ((Pipe.take q n).machineF fuel) cs s0 lg0).1) + q.lookahead := by
  obtain ⟨s0, lg0, e, h0⟩ := Pipe.build_linear fuel q hl x lg
  refine ⟨(s0, (0 : Nat)), lg0, by rw [Pipe.buildF_take, Coll.run_bind_ok e]; rfl, fun cs => ?_⟩
  rw [Pipe.machineF_take]
  exact Pipe.take_pulls_le fuel q hl n s0 h0 cs lg0

/-- `Generate(g).Map(f).TakeWhile(p).Take(n)` with ARBITRARY `f`, `p` (logging, panicking): the
    generator is called at most `n + 1` times plus once per panicking call, whatever the script. -/
theorem take_takeWhile_map_generate_demand (id : Nat) (a b : Int) (f : Val → GoM Val) (p : Val → GoM Bool) (n : Int)
    (fuel : Nat) (x : Val) (lg : Log) :
    let P := Pipe.take (.takew (.map (.gen id a b) f) p) n
    ∃ (s0 : P.St) (lg0 : Log), (P.buildF fuel x).run.run lg = (.ok s0, lg0) ∧
      ∀ cs : List Call,
        P.pulls (runScript (P.machineF fuel) cs s0 lg0).2.1 ≤ n.toNat + panics (runScript (P.machineF fuel) cs s0 lg0).1 + 1 := by
  intro P
  obtain ⟨s0, lg0, e, h⟩ := take_pipe_demand (.takew (.map (.gen id a b) f) p) trivial n fuel x lg
  refine ⟨s0, lg0, e, fun cs => ?_⟩
  have := h cs
  have hw : (Pipe.takew (.map (.gen id a b) f) p).width = 1 := rfl
  have hl : (Pipe.takew (.map (.gen id a b) f) p).lookahead = 1 := rfl
  rw [hw, hl, Nat.one_mul] at this
  exact this

/-- For the skipping combinators NO bound of the shape `c · (handed out + panicked) + c'` holds with
    structural constants: `Filter(never)` over a five element slice — ONE `HasNext`, nothing handed
    out, nothing panicked, the whole source pulled.  (Replace the slice by a longer one for any
    given constants.)  What `Filter` pulls is "up to the next hit": `filter_demand`. -/
theorem filter_no_linear_bound :
    let p : Pipe := .filter (.src 0 [.int 1, .int 2, .int 3, .int 4, .int 5]) (fun _ => pure false)
    ∃ s0 : p.St, (p.buildF 10 (.int 0)).run.run [] = (.ok s0, []) ∧
      vals (runScript (p.machineF 10) [.H] s0 []).1 = 0 ∧ panics (runScript (p.machineF 10) [.H] s0 []).1 = 0 ∧
      p.pulls (runScript (p.machineF 10) [.H] s0 []).2.1 = 5 := by
  intro p
  have em : p.machineF 10 = filter 10 (fun _ => pure false) (ofSeq (some (srcTag 0)) [.int 1, .int 2, .int 3, .int 4, .int 5]) := by
    show Pipe.machineF 10 (.filter (.src 0 _) _) = _
    rw [Pipe.machineF_filter, Pipe.machineF_src]; rfl
  have eb : (p.buildF 10 (.int 0)).run.run [] = (.ok (((0 : Nat), {}) : p.St), []) := by
    show (Pipe.buildF 10 (.filter (.src 0 _) _) _).run.run [] = _
    rw [Pipe.buildF_filter, Pipe.buildF_src]; rfl
  refine ⟨((0 : Nat), {}), eb, ?_⟩
  rw [em]
  exact ⟨rfl, rfl, rfl⟩

/-- non-vacuity of `pipe_demand`: two linear pipelines and their constants — a `Concat` of a slice, a
    `Generate` and a pull iterator; a `TakeWhile` over the `Zip` of a pull iterator and a mapped `Generate` -/
example : (Pipe.concat (.concat (.src 0 [.int 1]) (.gen 1 0 1)) (.pullseq 2 [.int 5])).Linear :=
  ⟨⟨trivial, trivial⟩, trivial⟩
example : (Pipe.concat (.concat (.src 0 [.int 1]) (.gen 1 0 1)) (.pullseq 2 [.int 5])).width = 1 := rfl
example : (Pipe.concat (.concat (.src 0 [.int 1]) (.gen 1 0 1)) (.pullseq 2 [.int 5])).lookahead = 1 := rfl
example : (Pipe.takew (.zip (.pullseq 1 [.int 1, .int 2]) (.map (.gen 2 0 1) (fun v => pure v))) (fun _ => pure true)).Linear :=
  ⟨trivial, trivial⟩
example : (Pipe.takew (.zip (.pullseq 1 [.int 1, .int 2]) (.map (.gen 2 0 1) (fun v => pure v))) (fun _ => pure true)).width = 2 := rfl
example : (Pipe.takew (.zip (.pullseq 1 [.int 1, .int 2]) (.map (.gen 2 0 1) (fun v => pure v))) (fun _ => pure true)).lookahead = 3 := rfl

/-! ## callbacks INSIDE a pipeline that panic or log (audit finding 12)

`Total f g` (all the `…_represents` theorems, `Pipe.WB`) lets a callback log but not panic, and says
nothing about WHAT is logged.  Here the callback of `Map`, `Filter`, `TakeWhile`, `FlatMap` is any
`Outcome f g` (`g a : Except PanicVal _`: returns or panics; logs at will), the iterator below is
ANY iterator that represents a list (any pipeline of this file).  The demand side needs no
hypothesis at all: `pipe_demand` above holds for panicking and logging callbacks. -/

/-- `Map(f)`: `Next` returns `g a` or panics with `g a`'s panic — the panic comes out of the `Next`
    that evaluates `f a` — and in both cases the iterator then represents exactly the elements
    AFTER `a` (the state of `Map` is the state of the iterator below). -/
theorem map_next_panic (f : α → GoM β) (g : α → Except PanicVal β) (hf : Outcome f g) (m : Machine σ α) (s : σ)
    (a : α) (r : List α) (h : Represents m s [] (a :: r)) (lg : Log) :
    ∃ s' lg', (map f m).next s lg = (g a, s', lg') ∧ Represents m s' [] r := by
  obtain ⟨s', lg', e, hR⟩ := map_next_outcome hf (Represents.sim m) s [] a r lg h
  exact ⟨s', lg', e, hR.reset⟩

/-- `Map(f)` under ANY script: the observations are those of the reference `mapSpecObs g` on the
    list (`val (g a)` or `panic q` per element pulled, in order; a panicking element is consumed),
    and the iterator is left representing exactly what the script has not consumed. -/
theorem map_script_panic (f : α → GoM β) (g : α → Except PanicVal β) (hf : Outcome f g) (m : Machine σ α) (s : σ)
    (l : List α) (h : Represents m s [] l) (cs : List Call) (lg : Log) :
    ObsAgreeL (runScript (map f m) cs s lg).1 (mapSpecObs g cs l) ∧
      Represents m (runScript (map f m) cs s lg).2.1 [] (specRest cs l) := by
  induction cs generalizing s l lg with
  | nil => exact ⟨trivial, h⟩
  | cons c cs ih =>
    cases c with
    | H =>
      obtain ⟨s1, lg1, h1, hR1⟩ := (Represents.sim m).hasNext s [] l lg h
      have h1' : (map f m).hasNext s lg = (.ok (!l.isEmpty), s1, lg1) := h1
      obtain ⟨ho, hr⟩ := ih s1 l hR1 lg1
      simp only [runScript, runCall, h1', mapSpecObs, specRest]
      exact ⟨⟨Or.inl rfl, ho⟩, hr⟩
    | N =>
      cases l with
      | nil =>
        obtain ⟨q, s1, lg1, h1, hR1⟩ := (Represents.sim m).next_nil s [] lg h
        have h1' : (map f m).next s lg = (.error q, s1, lg1) := by simp [map, bind_err h1]
        obtain ⟨ho, hr⟩ := ih s1 [] hR1 lg1
        simp only [runScript, runCall, h1', mapSpecObs, specRest]
        exact ⟨⟨Or.inr ⟨q, rfl, rfl⟩, ho⟩, hr⟩
      | cons a r =>
        obtain ⟨s1, lg1, h1, hR1⟩ := map_next_panic f g hf m s a r h lg
        obtain ⟨ho, hr⟩ := ih s1 r hR1 lg1
        rcases hg : g a with q | b
        · rw [hg] at h1
          simp only [runScript, runCall, h1, mapSpecObs, specRest, hg, outcomeObs]
          exact ⟨⟨Or.inl rfl, ho⟩, hr⟩
        · rw [hg] at h1
          simp only [runScript, runCall, h1, mapSpecObs, specRest, hg, outcomeObs]
          exact ⟨⟨Or.inl rfl, ho⟩, hr⟩

/-- with `Total` callbacks `mapSpecObs` is the plain `specScript` of the mapped list (panic messages
    erased) -/
theorem mapSpecObs_total (g : α → β) : ∀ (cs : List Call) (l : List α),
    (mapSpecObs (fun a => .ok (g a)) cs l).map Obs.erase = specScript cs (l.map g) := by
  intro cs
  induction cs with
  | nil => intro l; rfl
  | cons c cs ih =>
    intro l
    cases c with
    | H => simp [mapSpecObs, specScript, ih, Obs.erase]
    | N =>
      cases l with
      | nil => simpa [mapSpecObs, specScript, Obs.erase] using ih []
      | cons a r => simp [mapSpecObs, specScript, ih, Obs.erase, outcomeObs]

/-- LOGGING callbacks: `Map(f)` over the (instrumented) slice iterator, `f a` logging `ev a` and then
    returning / panicking as `g a`; ANY script.  Observations, position of the source and the LOG are
    the reference's — the log of the run is, in pull order, for every element pulled: the source's
    event, then the callback's events.  Nothing is evaluated ahead of the consumer, nothing twice. -/
theorem map_log_pull_order (f : α → GoM β) (g : α → Except PanicVal β) (ev : α → List Event) (hf : Logs f g ev)
    (tag : Option (α → Event)) (xs : List α) (cs : List Call) (lg : Log) :
    runScript (map f (ofSeq tag xs)) cs 0 lg =
      (mapSpecObs g cs xs, xs.length - (specRest cs xs).length, lg ++ mapSpecLog (tagEvs tag) ev cs xs) := by
  simpa using map_ofSeq_script hf tag xs cs 0 lg (Nat.zero_le _)

/-- a full run of `Next` calls over a callback that never panics: the log is the concatenation of
    the callback logs (interleaved with the source's events) in element order -/
theorem map_log_all (tagEv ev : α → List Event) : ∀ (xs : List α),
    mapSpecLog tagEv ev (List.replicate xs.length Call.N) xs = xs.flatMap (fun a => tagEv a ++ ev a) := by
  intro xs
  induction xs with
  | nil => rfl
  | cons a r ih => simp [List.replicate_succ, mapSpecLog, ih]

/-- `Filter(p).HasNext` before the first look-ahead, `p` panicking where `g` says so: `findE g l` is
    the reference (outcome of the search, elements not pulled).  A panic propagates out of `HasNext`,
    the captured variables are untouched, and the iterator below represents exactly the elements
    AFTER the offending one — the Filter iterator is a fresh Filter over them. -/
theorem filter_hasNext_panic (p : α → GoM Bool) (g : α → Except PanicVal Bool) (hp : Outcome p g) (m : Machine σ α)
    (s : σ) (l : List α) (h : Represents m s [] l) (fuel : Nat) (hfuel : l.length < fuel) (lg : Log) :
    ∃ s' lg', Represents m s' [] (findE g l).2 ∧
      (filter fuel p m).hasNext (s, {}) lg =
        match (findE g l).1 with
        | .ok fv => (.ok fv.isSome, (s', { first := false, fv := fv }), lg')
        | .error q => (.error q, (s', {}), lg') := by
  obtain ⟨s', lg', d1, hR, _, e⟩ := filter_hasNext_first hp (Represents.sim m) fuel s none [] l lg hfuel h
  exact ⟨s', lg', hR.reset, e⟩

/-- `Filter(p).Next` with look-ahead `ret`: it runs the search for the NEXT look-ahead before
    returning.  If `p` panics there, the panic comes out of this `Next` (one element early), `ret`
    is NOT lost (`fv` still holds it) and the iterator below represents the elements after the
    offending one: a client that recovers gets `ret` next, then the later hits. -/
theorem filter_next_panic (p : α → GoM Bool) (g : α → Except PanicVal Bool) (hp : Outcome p g) (m : Machine σ α)
    (s : σ) (ret : α) (l : List α) (h : Represents m s [] l) (fuel : Nat) (hfuel : l.length < fuel) (lg : Log) :
    ∃ s' lg', Represents m s' [] (findE g l).2 ∧
      (filter fuel p m).next (s, { first := false, fv := some ret }) lg =
        match (findE g l).1 with
        | .ok fv => (.ok ret, (s', { first := false, fv := fv }), lg')
        | .error q => (.error q, (s', { first := false, fv := some ret }), lg') := by
  obtain ⟨s', lg', d1, hR, _, e⟩ := filter_next_lookahead hp (Represents.sim m) fuel s ret [] l lg hfuel h
  exact ⟨s', lg', hR.reset, e⟩

/-- `Filter(p)` under ANY script, over any iterator that represents `l`, `p` panicking where `g` says
    so: the observations are EXACTLY those of the reference `filterSpec g` (a small state machine over
    the list: `filterStep`), the captured variables end in the reference's mode, and the iterator
    below represents the reference's rest.  Together with `map_script_panic` this is the outcome
    semantics of the two combinators for every script. -/
theorem filter_script_panic (p : α → GoM Bool) (g : α → Except PanicVal Bool) (hp : Outcome p g) (m : Machine σ α)
    (s : σ) (l : List α) (h : Represents m s [] l) (fuel : Nat) (hfuel : l.length < fuel) (cs : List Call) (lg : Log) :
    (runScript (filter fuel p m) cs (s, {}) lg).1 = (filterSpec g cs none l).1 ∧
      filterMode (runScript (filter fuel p m) cs (s, {}) lg).2.1.2 = (filterSpec g cs none l).2.1 ∧
      Represents m (runScript (filter fuel p m) cs (s, {}) lg).2.1.1 [] (filterSpec g cs none l).2.2 := by
  obtain ⟨h1, h2, d', h3⟩ := filter_outcome_script hp (Represents.sim m) fuel cs s {} [] l lg hfuel h
  exact ⟨h1, h2, h3.reset⟩

/-- the reference at work: the predicate panics on `2`.  `HasNext` finds `1`; the first `Next` panics
    ("boom" — raised while looking for the element AFTER `1`) and keeps `1`; the second `Next` hands
    out `1`, the third `3`.  A recovering client sees the panic one element early and loses only `2`. -/
example :
    (filterSpec (fun n : Nat => if n = 2 then (.error "boom" : Except PanicVal Bool) else .ok true)
      [.H, .N, .N, .N, .H] none [1, 2, 3]).1 = [.has true, .panic "boom", .val 1, .val 3, .has false] := by decide +kernel

/-- `findE` at the first panic: everything before is rejected, the offending element is consumed,
    what follows has not been pulled -/
theorem findE_at_first_panic (g : α → Except PanicVal Bool) (pre post : List α) (a : α) (q : PanicVal)
    (hpre : ∀ b ∈ pre, g b = .ok false) (ha : g a = .error q) :
    findE g (pre ++ a :: post) = (.error q, post) := by
  induction pre with
  | nil => simp [findE, ha]
  | cons b pre ih =>
    have hb := hpre b (by simp)
    simp only [List.cons_append, findE, hb]
    exact ih (fun c hc => hpre c (by simp [hc]))

/-- `TakeWhile(p).HasNext` without look-ahead: the outcome of `p` on the next element decides; a
    panic propagates, the element is consumed, `breaking` stays `false` — the iterator continues as
    a fresh TakeWhile over the elements after it. -/
theorem takeWhile_hasNext_panic (p : α → GoM Bool) (g : α → Except PanicVal Bool) (hp : Outcome p g) (m : Machine σ α)
    (s : σ) (a : α) (r : List α) (h : Represents m s [] (a :: r)) (lg : Log) :
    ∃ s' lg', Represents m s' [] r ∧
      (takeWhile p m).hasNext (s, {}) lg =
        match g a with
        | .ok true => (.ok true, (s', { breaking := false, fv := some a }), lg')
        | .ok false => (.ok false, (s', { breaking := true, fv := none }), lg')
        | .error q => (.error q, (s', {}), lg') := by
  obtain ⟨s', lg', hR, e⟩ := takeWhile_hasNext_outcome hp (Represents.sim m) s [] a r lg h
  exact ⟨s', lg', hR.reset, e⟩

/-- `TakeWhile(p)` under ANY script, over any iterator that represents `l`, `p` panicking where `g`
    says so: observations and captured variables are EXACTLY the reference's (`twSpec g` /
    `twStep`), the iterator below represents the reference's rest. -/
theorem takeWhile_script_panic (p : α → GoM Bool) (g : α → Except PanicVal Bool) (hp : Outcome p g) (m : Machine σ α)
    (s : σ) (l : List α) (h : Represents m s [] l) (cs : List Call) (lg : Log) :
    (runScript (takeWhile p m) cs (s, {}) lg).1 = (twSpec g cs {} l).1 ∧
      (runScript (takeWhile p m) cs (s, {}) lg).2.1.2 = (twSpec g cs {} l).2.1 ∧
      Represents m (runScript (takeWhile p m) cs (s, {}) lg).2.1.1 [] (twSpec g cs {} l).2.2 := by
  obtain ⟨h1, h2, d', h3⟩ := takeWhile_outcome_script hp (Represents.sim m) cs s {} [] l lg h
  exact ⟨h1, h2, h3.reset⟩

/-- the reference at work: the predicate panics on `2` and rejects `4`: the panic comes out of the
    call that evaluates it, `2` is lost, the iterator CONTINUES with `3` and ends at `4`. -/
example :
    (twSpec (fun n : Nat => if n = 2 then (.error "boom" : Except PanicVal Bool) else .ok (decide (n < 4)))
      [.N, .H, .N, .N, .H] {} [1, 2, 3, 4, 5]).1 = [.val 1, .panic "boom", .val 3, .panic nextOnEmpty, .has false] := by decide +kernel

/-- `FlatMap(mf).HasNext` when `mf` panics on the next element (no inner iterator yet): the panic
    propagates, the element is consumed, `current` stays `None`. -/
theorem flatMap_hasNext_cb_panic (mf : α → GoM τ) (gm : α → Except PanicVal τ) (hmf : Outcome mf gm) (inner : Machine τ β)
    (m : Machine σ α) (s : σ) (a : α) (r : List α) (h : Represents m s [] (a :: r)) (q : PanicVal) (hq : gm a = .error q)
    (fuel : Nat) (lg : Log) :
    ∃ s' lg', (flatMap (fuel + 1) mf inner m).hasNext (s, none) lg = (.error q, (s', none), lg') ∧ Represents m s' [] r := by
  obtain ⟨s', lg', e, hR⟩ := flatMap_hasNext_panic hmf inner (Represents.sim m) fuel s [] a r lg q h hq
  exact ⟨s', lg', e, hR.reset⟩

/-- non-vacuity: a callback that logs and panics on some elements satisfies `Logs` (hence `Outcome`) -/
example (t : α → Event) (bad : α → Bool) (q : PanicVal) (h : α → β) :
    Logs (fun a => (do emit (t a); if bad a then throw q else pure (h a) : GoM β))
      (fun a => if bad a then .error q else .ok (h a)) (fun a => [t a]) := logs_example t bad q h
