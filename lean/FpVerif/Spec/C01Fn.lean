import FpVerif.Model.FnMonad
import FpVerif.Lemmas.FnMemo
import FpVerif.Lemmas.CollRun
import FpVerif.Spec.C01
/-!
# C01 (part 4) — the function monads `fn0` / `fn1` (reader monad over the effect monad)

Everything is stated as equality of Go function values' behaviour on EVERY argument: two functions
`X → m A` are equal iff for every `u` they perform the same effects (same events in the same order, same
panic) and return the same value.  `m` is any lawful monad — in particular `GoM` (panic + event log) and
`GoS V` (`GoM` + memo cells, the monad the oracle runs in).  All functions — `m`, the callbacks, and the
functions the callbacks return — are arbitrary effectful functions.

Sections: 1 reader laws and monad laws · 2 defining equations · 3 `fn0` = `fn1` at `Unit` ·
4 what the log shows (`GoM`: order of evaluation, panics) · 5 the `MonadOps` instance: the generated family
theorems of `Spec/C01.lean` instantiate · 6 arrows · 7 `Memoize` · 8 `liftG` from `GoM` into `GoS V` commutes with the combinators.
-/
namespace FpVerif.Spec.C01Fn
open FpVerif
open FpVerif.FnM (Fn flatMap flatten map compose const id' withArg first second split merge merge2 joinK)

variable {m : Type → Type} [Monad m] [LawfulMonad m]
variable {X A B C D R : Type}

-- ------------------------------------------------------------------------------------------------
-- 1. reader laws, monad laws

/-- THE reader law: `FlatMap(m, fn)(u)` evaluates `m(u)`, then `fn(a)`, then applies the function `fn`
    returned to the SAME, unchanged `u` — in this order. -/
theorem flatMap_apply (mm : Fn m X A) (fn : Fn m A (Fn m X B)) (u : X) :
    flatMap mm fn u = (do let a ← mm u; let g ← fn a; g u) := by
  simp only [flatMap, flatten, map, compose, bind_assoc]

/-- left identity: `FlatMap(Pure(a), fn)(u) = fn(a)(u)` -/
theorem left_id (a : A) (fn : Fn m A (Fn m X B)) :
    flatMap (FnM.pure a) fn = (fun u => do let g ← fn a; g u) := by
  funext u; simp only [flatMap_apply, FnM.pure, const, pure_bind]

/-- right identity: `FlatMap(m, Pure) = m` (`Pure` as a callback has no effects of its own) -/
theorem right_id (mm : Fn m X A) :
    flatMap mm (fun a => Pure.pure (FnM.pure a)) = mm := by
  funext u; simp [flatMap_apply, FnM.pure, const]

/-- associativity, the right-hand side written as in Go:
    `FlatMap(m, func(a) { return FlatMap(f(a), g) })` — `f(a)` is evaluated when the callback runs. -/
theorem assoc (mm : Fn m X A) (f : Fn m A (Fn m X B)) (g : Fn m B (Fn m X C)) :
    flatMap (flatMap mm f) g = flatMap mm (fun a => do let h ← f a; Pure.pure (flatMap h g)) := by
  funext u; simp only [flatMap_apply, bind_assoc, pure_bind]

/-- associativity, the inner `FlatMap` built lazily:
    `FlatMap(m, func(a) { return func(u) { return FlatMap(f(a), g)(u) } })` -/
theorem assoc_lazy (mm : Fn m X A) (f : Fn m A (Fn m X B)) (g : Fn m B (Fn m X C)) :
    flatMap (flatMap mm f) g
      = flatMap mm (fun a => Pure.pure (fun u => do let h ← f a; flatMap h g u)) := by
  funext u; simp only [flatMap_apply, bind_assoc, pure_bind]

omit [LawfulMonad m] in
/-- `Get()(u) = u`, no effects -/
theorem get_apply (u : X) : (FnM.get : Fn m X X) u = Pure.pure u := rfl

/-- `FlatMap(Get, k)(u) = k(u)(u)` -/
theorem flatMap_get (k : Fn m X (Fn m X A)) (u : X) :
    flatMap FnM.get k u = (do let g ← k u; g u) := by
  simp only [flatMap_apply, FnM.get, pure_bind]

/-- asking for the environment and ignoring it is a no-op -/
theorem get_ignore (mm : Fn m X A) : flatMap FnM.get (fun _ => Pure.pure mm) = mm := by
  funext u; simp only [flatMap_apply, FnM.get, pure_bind]

/-- asking twice yields the same environment twice -/
theorem get_get (k : X → X → Fn m X A) :
    flatMap FnM.get (fun a => Pure.pure (flatMap FnM.get (fun b => Pure.pure (k a b))))
      = flatMap FnM.get (fun a => Pure.pure (k a a)) := by
  funext u; simp only [flatMap_apply, FnM.get, pure_bind]

omit [LawfulMonad m] in
/-- `Pure(v)(u) = v`: the argument is ignored, no effects -/
theorem pure_apply (v : A) (u : X) : (FnM.pure v : Fn m X A) u = Pure.pure v := rfl

-- ------------------------------------------------------------------------------------------------
-- 2. defining equations of the derived functions

/-- `Map(m, f) = FlatMap(m, unit ∘ f)`, `unit ∘ f` = `func(a) { return Pure(f(a)) }` -/
theorem map_def (mm : Fn m X A) (f : Fn m A B) :
    map mm f = flatMap mm (fun a => do let b ← f a; Pure.pure (FnM.pure b)) := by
  funext u; simp [flatMap_apply, map, compose, FnM.pure, const]

omit [LawfulMonad m] in
/-- `Map(m, f)(u) = f(m(u))`, `m` first -/
theorem map_apply (mm : Fn m X A) (f : Fn m A B) (u : X) :
    map mm f u = (do let a ← mm u; f a) := rfl

/-- `Flatten(mm) = FlatMap(mm, fp.Id)` -/
theorem flatten_def (mm : Fn m X (Fn m X A)) : flatten mm = flatMap mm id' := by
  funext u; simp only [flatMap_apply, flatten, id', pure_bind]

omit [LawfulMonad m] in
/-- `Flatten(mm)(u) = mm(u)(u)`: two stages, same argument -/
theorem flatten_apply (mm : Fn m X (Fn m X A)) (u : X) :
    flatten mm u = (do let g ← mm u; g u) := rfl

omit [LawfulMonad m] in
/-- `FlatMap = Flatten ∘ Map`, as written in fn1.go -/
theorem flatMap_def (mm : Fn m X A) (fn : Fn m A (Fn m X B)) :
    flatMap mm fn = flatten (map mm fn) := rfl

omit [LawfulMonad m] in
/-- `WithArg(fn) = FlatMap(Get, fn)`, as written -/
theorem withArg_def (fn : Fn m X (Fn m X A)) : withArg fn = flatMap FnM.get fn := rfl

/-- `WithArg(fn)(u) = fn(u)(u)`; hence `WithArg = Flatten` -/
theorem withArg_apply (fn : Fn m X (Fn m X A)) (u : X) :
    withArg fn u = (do let g ← fn u; g u) := flatMap_get fn u

theorem withArg_eq_flatten (fn : Fn m X (Fn m X A)) : withArg fn = flatten fn := by
  funext u; simp only [withArg_apply, flatten]

/-- functor laws of `Map` -/
theorem map_id (mm : Fn m X A) : map mm id' = mm := by
  funext u; simp [map, compose, id']

theorem map_map (mm : Fn m X A) (f : Fn m A B) (g : Fn m B C) :
    map (map mm f) g = map mm (compose f g) := by
  funext u; simp only [map, compose, bind_assoc]

/-- `Flatten(Pure(g)) = g`, `Flatten(Map(m, Pure)) = m` -/
theorem flatten_pure (g : Fn m X A) : flatten (FnM.pure g) = g := by
  funext u; simp only [flatten, FnM.pure, const, pure_bind]

theorem flatten_map_pure (mm : Fn m X A) :
    flatten (map mm (fun a => Pure.pure (FnM.pure a))) = mm := right_id mm

-- ------------------------------------------------------------------------------------------------
-- 3. fn0 is fn1 at X = Unit

omit [LawfulMonad m] in
theorem fn0_pure (v : A) : (Fn0M.pure v : Unit → m A) = FnM.pure v := rfl
omit [LawfulMonad m] in
theorem fn0_map (mm : Unit → m A) (fn : A → m B) : Fn0M.map mm fn = map mm fn := rfl
omit [LawfulMonad m] in
theorem fn0_flatten (mm : Unit → m (Unit → m A)) : Fn0M.flatten mm = flatten mm := rfl
omit [LawfulMonad m] in
theorem fn0_flatMap (mm : Unit → m A) (fn : A → m (Unit → m B)) :
    Fn0M.flatMap mm fn = flatMap mm fn := rfl

/-- so the laws hold for `fn0`, e.g. spelled out with `Func0.Apply`: -/
theorem fn0_flatMap_apply (mm : Unit → m A) (fn : A → m (Unit → m B)) :
    Fn0M.apply (Fn0M.flatMap mm fn) = (do let a ← mm (); let g ← fn a; g ()) :=
  flatMap_apply mm fn ()

theorem fn0_left_id (a : A) (fn : A → m (Unit → m B)) :
    Fn0M.flatMap (Fn0M.pure a) fn = (fun u => do let g ← fn a; g u) := left_id a fn

theorem fn0_right_id (mm : Unit → m A) :
    Fn0M.flatMap mm (fun a => Pure.pure (Fn0M.pure a)) = mm := right_id mm

theorem fn0_assoc (mm : Unit → m A) (f : A → m (Unit → m B)) (g : B → m (Unit → m C)) :
    Fn0M.flatMap (Fn0M.flatMap mm f) g
      = Fn0M.flatMap mm (fun a => do let h ← f a; Pure.pure (Fn0M.flatMap h g)) := assoc mm f g

theorem fn0_map_def (mm : Unit → m A) (f : A → m B) :
    Fn0M.map mm f = Fn0M.flatMap mm (fun a => do let b ← f a; Pure.pure (Fn0M.pure b)) := map_def mm f

-- ------------------------------------------------------------------------------------------------
-- 4. what an observer sees (m = GoM): value / panic and the event log

/-- started with any log `l`, the computation returns `a` and appends exactly `evs` -/
def Yields {α : Type} (c : GoM α) (a : α) (evs : List Event) : Prop :=
  ∀ l, c.run.run l = (.ok a, l ++ evs)

/-- started with any log `l`, the computation panics with `p` after appending exactly `evs` -/
def Panics {α : Type} (c : GoM α) (p : PanicVal) (evs : List Event) : Prop :=
  ∀ l, c.run.run l = (.error p, l ++ evs)

theorem yields_bind {α β : Type} {c : GoM α} {k : α → GoM β} {a : α} {b : β} {l1 l2 : List Event}
    (h1 : Yields c a l1) (h2 : Yields (k a) b l2) : Yields (c >>= k) b (l1 ++ l2) :=
  fun l => by rw [Coll.run_bind_ok (h1 l), h2, List.append_assoc]

theorem panics_bind_left {α β : Type} {c : GoM α} {k : α → GoM β} {p : PanicVal} {l1 : List Event}
    (h1 : Panics c p l1) : Panics (c >>= k) p l1 :=
  fun l => Coll.run_bind_err (h1 l)

theorem panics_bind_right {α β : Type} {c : GoM α} {k : α → GoM β} {a : α} {p : PanicVal}
    {l1 l2 : List Event} (h1 : Yields c a l1) (h2 : Panics (k a) p l2) : Panics (c >>= k) p (l1 ++ l2) :=
  fun l => by rw [Coll.run_bind_ok (h1 l), h2, List.append_assoc]

/-- all three stages return: the log is the concatenation `m(u)`, `fn(a)`, `fn(a)(u)` — in this order -/
theorem flatMap_yields {mm : X → GoM A} {fn : A → GoM (X → GoM B)} {u : X} {a : A} {g : X → GoM B} {b : B}
    {l1 l2 l3 : List Event}
    (h1 : Yields (mm u) a l1) (h2 : Yields (fn a) g l2) (h3 : Yields (g u) b l3) :
    Yields (flatMap mm fn u) b (l1 ++ l2 ++ l3) := by
  rw [flatMap_apply, List.append_assoc]
  exact yields_bind h1 (yields_bind h2 h3)

/-- `m(u)` panics: the callback is never called -/
theorem flatMap_panics_m {mm : X → GoM A} (fn : A → GoM (X → GoM B)) {u : X} {p : PanicVal} {l1 : List Event}
    (h1 : Panics (mm u) p l1) : Panics (flatMap mm fn u) p l1 := by
  rw [flatMap_apply]; exact panics_bind_left h1

/-- the callback panics while producing the function -/
theorem flatMap_panics_fn {mm : X → GoM A} {fn : A → GoM (X → GoM B)} {u : X} {a : A} {p : PanicVal}
    {l1 l2 : List Event} (h1 : Yields (mm u) a l1) (h2 : Panics (fn a) p l2) :
    Panics (flatMap mm fn u) p (l1 ++ l2) := by
  rw [flatMap_apply]; exact panics_bind_right h1 (panics_bind_left h2)

/-- the function returned by the callback panics -/
theorem flatMap_panics_res {mm : X → GoM A} {fn : A → GoM (X → GoM B)} {u : X} {a : A} {g : X → GoM B}
    {p : PanicVal} {l1 l2 l3 : List Event}
    (h1 : Yields (mm u) a l1) (h2 : Yields (fn a) g l2) (h3 : Panics (g u) p l3) :
    Panics (flatMap mm fn u) p (l1 ++ l2 ++ l3) := by
  rw [flatMap_apply, List.append_assoc]
  exact panics_bind_right h1 (panics_bind_right h2 h3)

-- non-vacuity: concrete logging functions
section Examples
private def exM : Nat → GoM Nat := fun u => do emit s!"m:{u}"; Pure.pure (u + 1)
private def exK : Nat → GoM (Nat → GoM Nat) := fun a => do
  emit s!"k:{a}"; Pure.pure (fun u => do emit s!"h:{u}"; Pure.pure (10 * a + u))
private def exP : Nat → GoM (Nat → GoM Nat) := fun a => do emit s!"k:{a}"; goPanic "boom"

example : (flatMap exM exK 3).exec = (.ok 43, ["m:3", "k:4", "h:3"]) := by rfl
example : (flatMap exM exP 3).exec = (.error "boom", ["m:3", "k:4"]) := by rfl
example : (flatMap (FnM.pure 4) exK 3).exec = (.ok 43, ["k:4", "h:3"]) := by rfl
example : (withArg exK 3).exec = (.ok 33, ["k:3", "h:3"]) := by rfl
example : Yields (exM 3) 4 ["m:3"] := by intro l; rfl
example : Panics (exP 4) "boom" ["k:4"] := by intro l; rfl
end Examples

-- ------------------------------------------------------------------------------------------------
-- 5. the reader carrier is a lawful instance of the generated family's signature

theorem fn_lawful : (FnM.ops X).Lawful where
  seq_pure a k := funext fun _ => pure_bind a _
  seq_bind g h k := funext fun _ => bind_assoc g h _
  flatMap_seq g k h := by funext u; simp only [FnM.ops, flatMap_apply, bind_assoc]
  left_id a k := by funext u; simp only [FnM.ops, flatMap_apply, FnM.pure, const, pure_bind]
  assoc mm k h := by funext u; simp only [FnM.ops, flatMap_apply, bind_assoc, pure_bind]

theorem fn_right_id (mm : X → GoM A) : (FnM.ops X).flatMap mm (FnM.ops X).pure' = mm :=
  right_id mm

/-- the package's own `FlatMap` on a Go callback (effects before the function is returned) is the
    carrier's `flatMap` on the joined continuation -/
theorem flatMap_ops (mm : X → GoM A) (fn : A → GoM (X → GoM B)) :
    flatMap mm fn = (FnM.ops X).flatMap mm (joinK fn) := by
  funext u; simp only [FnM.ops, flatMap_apply, joinK, pure_bind]

/-- the package's hand-written `Map` / `Flatten` are the family's -/
theorem map_family (mm : X → GoM A) (f : A → GoM B) : map mm f = MonadFamily.map (FnM.ops X) mm f := by
  funext u; simp [MonadFamily.map, MonadFamily.lift, FnM.ops, flatMap_apply, map, compose, FnM.pure, const]

theorem flatten_family (mm : X → GoM (X → GoM A)) :
    flatten mm = MonadFamily.flatten (FnM.ops X) mm := by
  funext u; simp only [MonadFamily.flatten, FnM.ops, flatMap_apply, flatten, pure_bind]

/-- … so every theorem of `Spec/C01.lean` holds for the reader carrier, e.g.: -/
example (fa : A → X → GoM R) (ta : X → GoM A) :
    MonadFamily.liftM (FnM.ops X) fa ta = (FnM.ops X).flatMap ta fa :=
  Spec.C01.liftM_def (FnM.ops X) fn_lawful fa ta

example (a : X → GoM A) (b : X → GoM B) :
    MonadFamily.zip (FnM.ops X) a b
      = (FnM.ops X).flatMap a (fun x => (FnM.ops X).flatMap b (fun y => (FnM.ops X).pure' (x, y))) :=
  Spec.C01.zip_def (FnM.ops X) fn_lawful a b

-- ------------------------------------------------------------------------------------------------
-- 6. arrows (arrow1.go): defining equations, order of evaluation

omit [LawfulMonad m] in
theorem first_apply (f : Fn m B C) (b : B) (d : D) :
    first f b d = (do let c ← f b; Pure.pure (c, d)) := rfl

omit [LawfulMonad m] in
theorem second_apply (f : Fn m B C) (d : D) (b : B) :
    second f d b = (do let c ← f b; Pure.pure (d, c)) := rfl

omit [LawfulMonad m] in
/-- `Split(f1, f2)(a, c) = (f1(a), f2(c))`, `f1` evaluated first -/
theorem split_apply (f1 : Fn m A B) (f2 : Fn m C D) (a : A) (c : C) :
    split f1 f2 a c = (do let b ← f1 a; let d ← f2 c; Pure.pure (b, d)) := rfl

omit [LawfulMonad m] in
/-- `Merge(f1, f2)(a) = (f1(a), f2(a))`, `f1` evaluated first -/
theorem merge_apply (f1 : Fn m A B) (f2 : Fn m A C) (a : A) :
    merge f1 f2 a = (do let b ← f1 a; let c ← f2 a; Pure.pure (b, c)) := rfl

omit [LawfulMonad m] in
/-- `Merge(f1, f2)(a) = Split(f1, f2)(a, a)`  (`f &&& g = (f *** g) ∘ dup`) -/
theorem merge_eq_split (f1 : Fn m A B) (f2 : Fn m A C) (a : A) : merge f1 f2 a = split f1 f2 a a := rfl

omit [LawfulMonad m] in
theorem merge2_eq_merge (f1 : Fn m A B) (f2 : Fn m A C) : merge2 f1 f2 = merge f1 f2 := rfl

/-- `First(f) = Split(f, Id)`, `Second(f) = Split(Id, f)` -/
theorem first_eq_split (f : Fn m B C) (b : B) (d : D) : first f b d = split f id' b d := by
  simp only [first, split, id', pure_bind]

theorem second_eq_split (f : Fn m B C) (d : D) (b : B) : second f d b = split id' f d b := by
  simp only [second, split, id', pure_bind]

/-- observable order for `Merge`: `f1`'s events precede `f2`'s; if `f1` panics `f2` never runs -/
theorem merge_yields {f1 : A → GoM B} {f2 : A → GoM C} {a : A} {b : B} {c : C} {l1 l2 : List Event}
    (h1 : Yields (f1 a) b l1) (h2 : Yields (f2 a) c l2) : Yields (merge f1 f2 a) (b, c) (l1 ++ l2) := by
  have h3 : Yields (Pure.pure (b, c) : GoM (B × C)) (b, c) [] := by intro l; simp; rfl
  have := yields_bind h1 (k := fun b => do let c ← f2 a; Pure.pure (b, c)) (yields_bind h2 h3)
  simpa [merge] using this

theorem merge_panics_first {f1 : A → GoM B} (f2 : A → GoM C) {a : A} {p : PanicVal} {l1 : List Event}
    (h1 : Panics (f1 a) p l1) : Panics (merge f1 f2 a) p l1 := panics_bind_left h1

theorem merge_panics_second {f1 : A → GoM B} {f2 : A → GoM C} {a : A} {b : B} {p : PanicVal}
    {l1 l2 : List Event} (h1 : Yields (f1 a) b l1) (h2 : Panics (f2 a) p l2) :
    Panics (merge f1 f2 a) p (l1 ++ l2) :=
  panics_bind_right h1 (panics_bind_left h2)

example : (merge exM (fun u => do emit s!"n:{u}"; Pure.pure (2 * u)) 3).exec = (.ok (4, 6), ["m:3", "n:3"]) := by
  rfl

-- ------------------------------------------------------------------------------------------------
-- 7. Memoize (fn1.go) — what the code does, stated honestly: the FIRST call's argument decides; every
--    later call returns the stored `ret` whatever its argument is, and runs nothing.
section Memoize
open FpVerif.FnM (GoS Cell memoize memoFn liftG calls attempt runS stepArg runSchedArg)
variable {V T : Type}

/-- `Memoize(f)` itself runs no user code: it allocates one fresh cell (`once` not fired, `ret` the zero
    value) and returns the closure over it; the log is unchanged. -/
theorem memoize_alloc (zero : V) (f : A → GoS V V) (l : List Event) (cs : List (Cell V)) :
    runS (memoize zero f) (l, cs) = (.ok (memoFn zero f cs.length), (l, cs ++ [⟨false, zero⟩])) := by
  simp only [memoize, FnM.runS_bind, FnM.runS_allocCell, FnM.runS_pure]

/-- A call after `once` has fired: returns `ret` for ANY argument and ANY `f` — `f` is not run, no event
    is logged, no cell changes. -/
theorem memo_later_call (zero : V) (f : A → GoS V V) (i : Nat) (a : A) (l : List Event) (cs : List (Cell V))
    (c : Cell V) (hc : cs[i]? = some c) (hd : c.done = true) :
    runS (memoFn zero f i a) (l, cs) = (.ok c.ret, (l, cs)) := by
  simp [memoFn, FnM.onceDo, FnM.runS_bind, hc, hd]

/-- The first call, `f(a)` returns `b`: the call returns `b` and the cell becomes `(done, b)`.  `f` is an
    arbitrary computation that may itself use other memoised functions (it changes the heap to `cs'`);
    the only assumption is that cell `i` still exists afterwards (Go: the variables are private to the closure). -/
theorem memo_first_call (zero : V) (f : A → GoS V V) (i : Nat) (a : A) (l : List Event) (cs : List (Cell V))
    (c : Cell V) (hc : cs[i]? = some c) (hd : c.done = false)
    (b : V) (l' : List Event) (cs' : List (Cell V)) (c' : Cell V)
    (hf : runS (f a) (l, cs) = (.ok b, (l', cs'))) (hc' : cs'[i]? = some c') :
    runS (memoFn zero f i a) (l, cs) = (.ok b, (l', cs'.set i ⟨true, b⟩)) := by
  simp [memoFn, FnM.onceDo, FnM.runS_bind, FnM.runS_tryCatch, hc, hd, hf, hc', List.modify_modify_eq]
  rw [FnM.modify_eq_set_of_getElem? _ _ _ _ hc']
  rfl

/-- The first call, `f(a)` panics: the panic propagates, and `once` has fired all the same
    (`defer o.done.Store(1)`), `ret` untouched. -/
theorem memo_first_call_panic (zero : V) (f : A → GoS V V) (i : Nat) (a : A) (l : List Event)
    (cs : List (Cell V)) (c : Cell V) (hc : cs[i]? = some c) (hd : c.done = false)
    (p : PanicVal) (l' : List Event) (cs' : List (Cell V))
    (hf : runS (f a) (l, cs) = (.error p, (l', cs'))) :
    runS (memoFn zero f i a) (l, cs) = (.error p, (l', cs'.modify i (fun c => { c with done := true }))) := by
  simp [memoFn, FnM.onceDo, FnM.runS_bind, FnM.runS_tryCatch, hc, hd, hf]

/-- … and so does every sequence of recovered calls after `once` has fired -/
theorem memo_later_calls (zero : V) (f : A → GoS V V) (i : Nat) (as : List A) (l : List Event) (cs : List (Cell V))
    (c : Cell V) (hc : cs[i]? = some c) (hd : c.done = true) :
    runS (calls (memoFn zero f i) as) (l, cs) = (.ok (List.replicate as.length (.ok c.ret)), (l, cs)) := by
  induction as with
  | nil => rfl
  | cons a as ih =>
    simp only [calls, FnM.runS_bind, FnM.runS_attempt, memo_later_call zero f i a l cs c hc hd, ih, FnM.runS_pure,
      List.length_cons, List.replicate_succ]

/-- Memoise a user function `f` (log + panic) and call the result on `a, a₁, …, aₙ` (each call recovered): the first
    call IS `f(a)` — its value or its panic `r`, its events — and every later call returns the memo: the value, or
    the zero value if `f(a)` panicked; `f` is not run again. -/
theorem memo_calls_outcome (zero : V) (f : A → GoM V) (a : A) (as : List A) (r : Except PanicVal V)
    (l l' : List Event) (cs : List (Cell V)) (hf : (f a).run.run l = (r, l')) :
    runS (do let g ← memoize zero (fun x => liftG (f x)); calls g (a :: as)) (l, cs)
      = (.ok (r :: List.replicate as.length (.ok (r.toOption.getD zero))),
         (l', cs ++ [⟨true, r.toOption.getD zero⟩])) := by
  have hc : (cs ++ [(⟨false, zero⟩ : Cell V)])[cs.length]? = some ⟨false, zero⟩ := by simp
  have h2 := fun b => memo_later_calls zero (fun x => (liftG (f x) : GoS V V)) cs.length as l' (cs ++ [⟨true, b⟩])
    ⟨true, b⟩ (by simp) rfl
  cases r with
  | ok b =>
    have h1 := memo_first_call zero (fun x => (liftG (f x) : GoS V V)) cs.length a l _ _ hc rfl b l'
      (cs ++ [⟨false, zero⟩]) ⟨false, zero⟩ (by simp [hf]) hc
    rw [FnM.set_append_length] at h1
    simp only [FnM.runS_bind, memoize_alloc, calls, FnM.runS_attempt, h1, h2, FnM.runS_pure]
    rfl
  | error p =>
    have h1 := memo_first_call_panic zero (fun x => (liftG (f x) : GoS V V)) cs.length a l _ _ hc rfl p l'
      (cs ++ [⟨false, zero⟩]) (by simp [hf])
    rw [FnM.modify_eq_set_of_getElem? _ _ _ _ hc, FnM.set_append_length] at h1
    simp only [FnM.runS_bind, memoize_alloc, calls, FnM.runS_attempt, h1, h2, FnM.runS_pure]
    rfl

/-- RUN AT MOST ONCE + FIRST RESULT WINS.  Memoise a user function `f` (log + panic) and call the result
    on `a, a₁, …, aₙ` (each call recovered): if `f(a)` returns `b` logging `evs`, then ALL `n+1` calls return
    `b` — the later arguments are ignored — and the log shows `evs` exactly once. -/
theorem memo_calls (zero : V) (f : A → GoM V) (a : A) (as : List A) (b : V) (evs : List Event)
    (hf : Yields (f a) b evs) (l : List Event) (cs : List (Cell V)) :
    runS (do let g ← memoize zero (fun x => liftG (f x)); calls g (a :: as)) (l, cs)
      = (.ok (List.replicate (as.length + 1) (.ok b)), (l ++ evs, cs ++ [⟨true, b⟩])) :=
  memo_calls_outcome zero f a as _ l _ cs (hf l)

/-- … and if `f(a)` panics: the first call panics, `f` is still never run again, and every later call
    returns the ZERO VALUE of the result type (the code never assigned `ret`). -/
theorem memo_calls_panic (zero : V) (f : A → GoM V) (a : A) (as : List A) (p : PanicVal) (evs : List Event)
    (hf : Panics (f a) p evs) (l : List Event) (cs : List (Cell V)) :
    runS (do let g ← memoize zero (fun x => liftG (f x)); calls g (a :: as)) (l, cs)
      = (.ok (.error p :: List.replicate as.length (.ok zero)), (l ++ evs, cs ++ [⟨true, zero⟩])) :=
  memo_calls_outcome zero f a as _ l _ cs (hf l)

/-- the cell is the `Option` cell of `Model/Memo.lean` (C16): for a returning user function one call is
    `Memo.get` on the cell's view -/
theorem memo_refines_get (zero : V) (f : A → GoM V) (i : Nat) (a : A) (b : V) (evs : List Event)
    (hf : Yields (f a) b evs) (l : List Event) (cs : List (Cell V)) (c : Cell V) (hc : cs[i]? = some c) :
    ∃ cs', runS (memoFn zero (fun x => liftG (f x)) i a) (l, cs)
        = (.ok (Memo.get (fun _ => (b, evs)) c.view).1, (l ++ (Memo.get (fun _ => (b, evs)) c.view).2.2, cs'))
      ∧ (cs'[i]?).map Cell.view = some (Memo.get (fun _ => (b, evs)) c.view).2.1 := by
  cases hd : c.done with
  | true =>
    refine ⟨cs, ?_, ?_⟩
    · rw [memo_later_call zero _ i a l cs c hc hd]; simp [Cell.view, hd, Memo.get]
    · simp [hc, Cell.view, hd, Memo.get]
  | false =>
    have hi : i < cs.length := by
      rcases Nat.lt_or_ge i cs.length with h | h
      · exact h
      · rw [List.getElem?_eq_none h] at hc; cases hc
    refine ⟨cs.set i ⟨true, b⟩, ?_, ?_⟩
    · rw [memo_first_call zero _ i a l cs c hc hd b (l ++ evs) cs c (by simp [hf l]) hc]
      simp [Cell.view, hd, Memo.get]
    · simp [hi, Cell.view, hd, Memo.get]

/-- CONCURRENT callers, each with its own argument (`vals i = f(argᵢ)`, `sync.Once` as modelled in
    `Model/Memo.lean`): for EVERY number of goroutines and EVERY interleaving, `f` is executed at most once,
    every call that has returned returned the one stored value, and that value is `f` of the argument of
    one of the callers (whoever won the race). -/
theorem memo_all_schedules (vals : Nat → T) (n : Nat) (sched : List Nat) :
    let s := runSchedArg vals (Memo.init n) sched
    s.runs ≤ 1
      ∧ (∀ t ∈ s.threads, ∀ r, t = Memo.TState.returned r → s.cell = some r)
      ∧ (∀ r, s.cell = some r → ∃ w, w < n ∧ r = vals w) := by
  have h : FnM.InvArg vals n (runSchedArg vals (Memo.init n) sched) :=
    List.foldlRecOn sched (stepArg vals) (FnM.invArg_init vals n) fun s hs i _ => FnM.invArg_step vals n s i hs
  exact ⟨h.toOnceInv.runs_le_one, h.returned_v, h.cell_v⟩

/-- with one common argument this is exactly the model of C16 -/
theorem stepArg_const (v : T) : stepArg (fun _ => v) = Memo.step v := by
  funext s i; rfl

-- non-vacuity
example : runS (do let g ← memoize 0 (fun x => liftG (exM x)); calls g [3, 5, 7]) ([], [])
    = (.ok [.ok 4, .ok 4, .ok 4], (["m:3"], [⟨true, 4⟩])) :=
  memo_calls 0 exM 3 [5, 7] 4 ["m:3"] (fun _ => rfl) [] []
example : runS (do let g ← memoize (0 : Nat) (fun x => liftG (do emit s!"m:{x}"; goPanic "boom")); calls g [3, 5])
    ([], []) = (.ok [.error "boom", .ok 0], (["m:3"], [⟨true, 0⟩])) :=
  memo_calls_panic 0 _ 3 [5] "boom" ["m:3"] (fun _ => rfl) [] []
/-- thread 1 wins the race: both get `f(arg₁)` -/
example : (runSchedArg (fun i => 10 * i) (Memo.init 2) [1, 0, 1, 0]).cell = some 10
    ∧ (runSchedArg (fun i => 10 * i) (Memo.init 2) [1, 0, 1, 0]).runs = 1 := by decide
end Memoize

-- ------------------------------------------------------------------------------------------------
-- 8. the oracle's monad: `GoS V` is `GoM` plus memo cells; user callbacks enter through `liftG`, a monad
--    morphism, and every combinator commutes with it — a memo-free expression behaves in `GoS V` exactly as
--    its `GoM` reading (sections 4, 5) says.
section Lift
open FpVerif.FnM (GoS liftG emitS)
variable {V : Type}

theorem liftG_pure {α : Type} (a : α) : (liftG (Pure.pure a) : GoS V α) = Pure.pure a :=
  FnM.goS_ext _ _ fun _ => rfl

theorem liftG_bind {α β : Type} (g : GoM α) (k : α → GoM β) :
    (liftG (g >>= k) : GoS V β) = liftG g >>= fun a => liftG (k a) := by
  apply FnM.goS_ext; intro s
  rw [FnM.runS_bind]
  simp only [FnM.runS_liftG]
  rw [ExceptT.run_bind, StateT.run_bind]
  rcases h : (ExceptT.run g).run s.1 with ⟨r, l⟩
  cases r <;> rfl

theorem liftG_flatMap (mm : X → GoM A) (fn : A → GoM (X → GoM B)) (u : X) :
    (liftG (flatMap mm fn u) : GoS V B)
      = flatMap (fun u => liftG (mm u))
          (fun a => do let g ← liftG (fn a); Pure.pure (fun u => liftG (g u))) u := by
  simp only [flatMap, flatten, map, compose, liftG_bind, bind_assoc, pure_bind]

theorem liftG_map (mm : X → GoM A) (f : A → GoM B) (u : X) :
    (liftG (map mm f u) : GoS V B) = map (fun u => liftG (mm u)) (fun a => liftG (f a)) u := by
  simp only [map, compose, liftG_bind]

theorem liftG_flatten (mm : X → GoM (X → GoM A)) (u : X) :
    (liftG (flatten mm u) : GoS V A)
      = flatten (fun u => do let g ← liftG (mm u); Pure.pure (fun u => liftG (g u))) u := by
  simp only [flatten, liftG_bind, bind_assoc, pure_bind]
end Lift

end FpVerif.Spec.C01Fn
