import FpVerif.Gen.TCGen
import FpVerif.Lemmas.FactsLookup
/-!
# C09 / C10 / C11 / C18 — coverage of the translation tie for the hand-written type-class combinators

`harness/cmd/tc2lean` lists in `FpVerif/Gen/TCGen.lean` (regenerated from the working tree on every check)

* `found`        every exported function, method and package variable of `eq/eq_op.go`, `hash/hash_op.go`,
                 `ord/ord_op.go`, `monoid/monoid_op.go`, `semigroup/semigroup.go`, `clone/clone.go`, `monoid.go`, and the
                 methods of `EqFunc`, `CompareFunc`, `LessFunc`, `CloneFunc` + `EqGiven`, `LessGiven` of `typeclass.go`;
* `translated`   those it translated (each has a theorem `…_is_model` / `…_def` in `Spec/C09Gen`, `C09GenPred`, `C09GenHash`,
                 `C10Gen`, `C11Gen`, `C18Gen`;
                 the command at the end of each of these files fails the build if one is missing);
* `untranslated` those outside the fragment.

The lists below are fixed under version control.  A NEW exported combinator added to one of the files is `found`; it is
then either translated (and `translated_as_expected` fails: there is no model theorem for it) or untranslated (and
`exceptions_as_expected` fails: it is not a listed exception).  A listed declaration that disappears, or one that
leaves the fragment after an edit, fails the same theorems.
-/
namespace FpVerif.Spec.TCGenCover
open FpVerif.Gen.TC

/-- the exceptions: declarations that stay tied by the differential harnesses only (`cmd/tc`, `cmd/clone`, `cmd/misc`),
    WITH REASONS -/
def exceptions : List (String × String) := [
  ("clone.Generic", "fp.Generic (a struct of two user functions To / From outside the translated files); model CloneHeap.clone (.generic), clone harness"),
  ("clone.GoMap", "Go map literal, range over a map, map assignment; model CloneHeap.clone (.gomap), clone harness"),
  ("clone.Ptr", "`&t` allocates: a pointer with an identity; model CloneHeap.clone (.ptr) over an explicit heap, clone harness"),
  ("eq.Bytes", "standard library: bytes.Equal (model EqD.bytes)"),
  ("eq.FpMap", "fp.Map (Size / Iterator().ForAll / Get of the immutable HAMT: C03); model EqD.fpMap, tc harness"),
  ("eq.GoMap", "Go map: `for k, av := range a` has no iteration order that is a function of the value; model EqD.goMap over association lists, tc harness"),
  ("eq.Time", "standard library: time.Time.Equal (model EqD.time states what is assumed about it)"),
  ("fp.EmptyFunc.Empty", "adapter (EmptyFunc used as a value with an Empty method): Spec/C14Misc.lean, misc harness"),
  ("fp.SemigroupFunc.Curried", "currying adapter, not an instance: modelled in Model/Misc.lean, Spec/C14Misc.lean, misc harness"),
  ("hash.Bytes", "standard library: hash/fnv New32 / Write / Sum32 (statements that are not in the fragment); model HashD.bytes = FNV-1, tc harness"),
  ("monoid.Future", "fp.Future: asynchronous, C06 network model (Model/FutureMisc.lean, Spec/C14Misc); not in C11"),
  ("monoid.MergeGoMap", "Go map literal, range over maps, map assignment; model MonoidD.mergeGoMap over association lists, tc harness"),
  ("monoid.MergeMap", "fp.Map.Concat (immutable HAMT: C03); model MonoidD.mergeMap, tc harness"),
  ("monoid.MergeSet", "fp.Set.Concat (C03); model MonoidD.mergeSet, tc harness"),
  ("ord.Time", "standard library: time.Time.Compare (model OrdD.time)")]

/-- what is expected to be translated; every entry has its `…_is_model` (or, where the model has no definition, `…_def`) theorem -/
def expectedTranslated : List String := [
  "clone.Given", "clone.HCons", "clone.HNil", "clone.New", "clone.Option", "clone.Seq",
  "clone.Slice", "clone.Tuple2", "eq.ContraMap", "eq.FieldNilOr", "eq.FieldNoneOr", "eq.FieldNotNilAnd",
  "eq.FieldSomeAnd", "eq.Given", "eq.GivenFieldPtr", "eq.GivenFieldValue", "eq.GivenPtr", "eq.GivenValue",
  "eq.HCons", "eq.HNil", "eq.New", "eq.NilOr", "eq.NoneOr", "eq.NotNilAnd",
  "eq.NotZero", "eq.NotZeroAnd", "eq.Option", "eq.Ptr", "eq.PtrGiven", "eq.Seq",
  "eq.Slice", "eq.SomeAnd", "eq.String", "eq.Tuple1", "eq.ZeroOr", "fp.CloneFunc.Clone",
  "fp.CompareFunc.Compare", "fp.CompareFunc.Eqv", "fp.CompareFunc.Less", "fp.CompareFunc.LessEq", "fp.CompareFunc.Max", "fp.CompareFunc.Min",
  "fp.CompareFunc.Reversed", "fp.CompareFunc.ThenComparing", "fp.Endo.AsFunc", "fp.EqFunc.Eqv", "fp.EqGiven", "fp.LessFunc.Compare",
  "fp.LessFunc.Eqv", "fp.LessFunc.Less", "fp.LessFunc.LessEq", "fp.LessFunc.Max", "fp.LessFunc.Min", "fp.LessFunc.Reversed",
  "fp.LessFunc.ThenComparing", "fp.LessGiven", "fp.Product", "fp.SemigroupFunc.Combine", "fp.SemigroupFunc.Empty", "fp.Sum",
  "hash.ContraMap", "hash.HCons", "hash.HNil", "hash.New", "hash.Number", "hash.Option",
  "hash.Ptr", "hash.Seq", "hash.Slice", "hash.String", "hash.Tuple1", "monoid.All",
  "monoid.Any", "monoid.Dual", "monoid.Endo", "monoid.Eval", "monoid.HCons", "monoid.HNil",
  "monoid.IMap", "monoid.MergeSeq", "monoid.MergeSlice", "monoid.New", "monoid.Option", "monoid.Product",
  "monoid.Ptr", "monoid.String", "monoid.Sum", "monoid.Try", "monoid.Unit", "ord.ContraMap",
  "ord.FromCompare", "ord.Given", "ord.GivenField", "ord.HCons", "ord.HNil", "ord.New",
  "ord.Option", "ord.Ptr", "ord.Seq", "ord.Slice", "ord.Tuple1", "semigroup.All",
  "semigroup.Any", "semigroup.Dual", "semigroup.Endo", "semigroup.Eval", "semigroup.IMap", "semigroup.New",
  "semigroup.Option", "semigroup.Product", "semigroup.Ptr", "semigroup.Sum"]

/-- unexported declarations and callees from other files that the translated code calls and that are translated too
    (`hash.hashUint64` is the exception among them: a `for cond {}` loop; calls go to the model's `HashD.hashUint64`) -/
def expectedHelpers : List String := [
  "fp.Compose", "fp.Id", "fp.Min", "fp.Option.OrElse", "fp.Zero", "fp.monoid.Combine",
  "fp.monoid.Empty", "hash.hashUint64", "hash.hasher.Hash", "monoid.monoid.Combine", "monoid.monoid.Empty", "seq.Fold"]

/-- the translator translated exactly the declarations the model theorems speak about -/
theorem translated_as_expected : translated = expectedTranslated :=
  FactsLookup.eq_of_take_of_drop 64 (by rfl) (by rfl)

/-- … and what it left out is exactly the listed exceptions -/
theorem exceptions_as_expected : untranslated.map Prod.fst = exceptions.map Prod.fst := by rfl

theorem helpers_as_expected : helpers = expectedHelpers := by rfl

/-- coverage: the translator's three lists are one list split by a flag — every exported declaration found in the files
    is EITHER translated OR untranslated (= a listed exception, by `exceptions_as_expected`), never both -/
theorem coverage_found : found = foundFlags.map Prod.fst :=
  FactsLookup.eq_of_take_of_drop 64 (by rfl) (by rfl)

theorem coverage_translated : translated = (foundFlags.filter fun p => p.2).map Prod.fst := by rfl

theorem coverage_untranslated : untranslated.map Prod.fst = (foundFlags.filter fun p => !p.2).map Prod.fst := by rfl

theorem coverage_count : found.length = expectedTranslated.length + exceptions.length := by decide +kernel

end FpVerif.Spec.TCGenCover
