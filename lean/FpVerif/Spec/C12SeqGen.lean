import FpVerif.Gen.SeqGen
import FpVerif.Lemmas.GoSemMLoops
import FpVerif.Lemmas.CollSeq
import FpVerif.Spec.C12
import FpVerif.Lemmas.SeqGenCheck
/-!
# C12 / C01 / C11 — translation tie (Tie A) for the EAGER `Seq` functions: the code of the working tree IS the reference

`harness/cmd/seq2lean` translates, on every check, the bodies of `seq/seq_op.go` and of the `fp.Seq` methods of `seq.go`
found in the working tree into `FpVerif/Gen/SeqGen.lean` (definitions over `GoM`, semantics of the Go fragment:
`Model/GoSemM.lean`).  The theorems below are committed; they state, for every translated function `X`,

* `X_eq`      : for ALL slices and ALL callbacks `A → GoM B` (they may log and panic) the translated function equals a
                structural recursion over the list in which the callbacks run element by element in Go's order
                (`Coll.seqMap`, `Coll.seqFlatMap`, … of `Model/CollMonad.lean` — the models of C01 —, `List.foldlM`,
                `filterG`, `scanG`, `spanG`, … of `Lemmas/GoSemMLoops.lean`), or, for functions without callbacks, the
                pure list function (`r.take n`, `r.reverse`, `s1.zip s2`, `r ++ items`, …);
* `X_value`   : when the callbacks return (`It.Total f g`, the hypothesis of the C12 theorems) the value is the
                LIST FUNCTION the C12 / C11 theorems use as the eager reference (`l.map g`, `l.filter g`, `l.flatMap g`,
                `l.foldl g z`, `It.scanl g z l`, `(l.takeWhile g, l.dropWhile g)`, `l.any g`, `l.find? g`,
                `l.foldl (minStepP lt) none`, `(It.foldTryL g z l).1`, `l.foldr g z`, …);
* section "transport": end-to-end corollaries — draining the iterator machine of C12 gives the value of the TRANSLATED
  eager function.

VALUES ONLY: a slice is its list of elements.  Which backing array a result shares with its argument (`Take`, `Drop`,
`Tail`, `Init`, `Append` with no items, `Concat` with an empty tail return (a view of) the receiver), capacities, and nil
versus empty are out of scope here — `Model/SliceHeap.lean` + `cmd/seqheap` cover those.
Every statement quantifies over all `GoZero` instances of the element types (the zero values `make` fills a slice with):
no result depends on them.
-/
namespace FpVerif.Spec.C12SeqGen
open FpVerif FpVerif.GoSem FpVerif.GoSemM FpVerif.Gen.SeqGen FpVerif.It

variable {α β γ : Type} [GoZero α] [GoZero β] [GoZero γ]

/-! ## `seq.go` : methods without callbacks -/

theorem Seq_Widen_eq (r : List α) : fp.Seq_Widen r = pure r := rfl
theorem Seq_Size_eq (r : List α) : fp.Seq_Size r = pure (r.length : Int) := rfl

theorem Seq_IsEmpty_eq (r : List α) : fp.Seq_IsEmpty r = pure r.isEmpty := by
  cases r with
  | nil => simp [fp.Seq_IsEmpty, Seq_Size_eq]
  | cons a as =>
    have : ¬ ((as.length : Int) + 1 = 0) := by omega
    simp [fp.Seq_IsEmpty, Seq_Size_eq, this]

theorem Seq_NonEmpty_eq (r : List α) : fp.Seq_NonEmpty r = pure (!r.isEmpty) := by
  cases r with
  | nil => simp [fp.Seq_NonEmpty, Seq_Size_eq]
  | cons a as =>
    have : (0 : Int) < (as.length : Int) + 1 := by omega
    simp [fp.Seq_NonEmpty, Seq_Size_eq, this]

theorem Seq_Head_eq (r : List α) : fp.Seq_Head r = pure r.head? := by
  cases r with
  | nil => simp [fp.Seq_Head, Seq_Size_eq]
  | cons a as =>
    have : (0 : Int) < (as.length : Int) + 1 := by omega
    simp [fp.Seq_Head, Seq_Size_eq, idxM, this]

theorem Seq_Tail_eq (r : List α) : fp.Seq_Tail r = pure r.tail := by
  cases r with
  | nil => simp [fp.Seq_Tail, Seq_Size_eq]; rfl
  | cons a as =>
    have h : (0 : Int) < (as.length : Int) + 1 := by omega
    simp [fp.Seq_Tail, Seq_Size_eq, len, h, sliceM_tail]

theorem Seq_Init_eq (r : List α) : fp.Seq_Init r = pure r.dropLast := by
  unfold fp.Seq_Init
  simp only [Seq_Size_eq, pure_bind]
  by_cases h : (r.length : Int) > 1
  · have h' : 1 ≤ r.length := by omega
    have := sliceM_ok r 0 (r.length - 1) (by omega) (by omega)
    have e : ((r.length - 1 : Nat) : Int) = (r.length : Int) - 1 := by omega
    rw [e] at this
    simp only [h, decide_true, if_true]
    simp only [Int.natCast_zero] at this
    rw [this]; simp [List.dropLast_eq_take]
  · simp only [h, decide_false, Bool.false_eq_true, if_false]
    have : r.length ≤ 1 := by omega
    match r, this with
    | [], _ => rfl
    | [_], _ => rfl

theorem Seq_Last_eq (r : List α) : fp.Seq_Last r = pure r.getLast? := by
  unfold fp.Seq_Last
  simp only [Seq_Size_eq, pure_bind]
  by_cases h : (r.length : Int) > 0
  · have h' : r.length - 1 < r.length := by omega
    have := idxM_lt r (r.length - 1) h'
    have e : ((r.length - 1 : Nat) : Int) = (r.length : Int) - 1 := by omega
    rw [e] at this
    simp only [h, decide_true, if_true, this, pure_bind]
    rw [List.getLast?_eq_getElem?]
    simp [h']
  · have : r = [] := by
      cases r with
      | nil => rfl
      | cons a as => exfalso; exact h (by simp only [List.length_cons]; omega)
    subst this; simp

theorem Seq_UnSeq_eq (r : List α) : fp.Seq_UnSeq r = pure (r.head?, r.tail) := by
  unfold fp.Seq_UnSeq
  simp only [Seq_Head_eq, Seq_Size_eq, pure_bind]
  cases r with
  | nil => simp; rfl
  | cons a as =>
    have h : (0 : Int) < (as.length : Int) + 1 := by omega
    simp [len, h, sliceM_tail]

/-- `Get(idx)` for a non-negative index (a negative one panics: `r[idx]`) -/
theorem Seq_Get_eq (r : List α) (idx : Nat) : fp.Seq_Get r (idx : Int) = pure r[idx]? := by
  unfold fp.Seq_Get
  simp only [Seq_Size_eq, pure_bind]
  by_cases h : idx < r.length
  · have h' : (r.length : Int) > (idx : Int) := by omega
    simp [h', idxM_lt r idx h, h]
  · have h' : ¬ (r.length : Int) > (idx : Int) := by omega
    simp only [h', decide_false, Bool.false_eq_true, if_false]
    rw [List.getElem?_eq_none (by omega)]

/-- `Take(n)`, `n ≥ 0`: the first `n` elements (all of them when `n` exceeds the length) -/
theorem Seq_Take_eq (r : List α) (n : Nat) : fp.Seq_Take r (n : Int) = pure (r.take n) := by
  unfold fp.Seq_Take
  by_cases h : r.length < n
  · have h' : len r < (n : Int) := by simp only [len]; omega
    simp [h', List.take_of_length_le (Nat.le_of_lt h)]
  · have h' : ¬ len r < (n : Int) := by simp only [len]; omega
    have := sliceM_ok r 0 n (by omega) (by omega)
    simp only [Int.natCast_zero] at this
    simp [h', this]

/-- `Take(n)` with a negative `n` panics in Go (`r[0:n]`) — unlike `iterator.Take`, which yields nothing -/
theorem Seq_Take_neg (r : List α) (n : Int) (hn : n < 0) :
    fp.Seq_Take r n = goPanic "slice bounds out of range" := by
  have h' : ¬ len r < n := by simp only [len]; omega
  simp [fp.Seq_Take, h', sliceM, hn]

/-- `Drop(n)`, `n ≥ 0` -/
theorem Seq_Drop_eq (r : List α) (n : Nat) : fp.Seq_Drop r (n : Int) = pure (r.drop n) := by
  unfold fp.Seq_Drop
  by_cases h : r.length < n
  · have h' : len r < (n : Int) := by simp only [len]; omega
    simp [h', List.drop_of_length_le (Nat.le_of_lt h)]; rfl
  · have h' : ¬ len r < (n : Int) := by simp only [len]; omega
    have := sliceM_ok r n r.length (by omega) (by omega)
    simp [h', len, this]

theorem Seq_Drop_neg (r : List α) (n : Int) (hn : n < 0) :
    fp.Seq_Drop r n = goPanic "slice bounds out of range" := by
  have h' : ¬ len r < n := by simp only [len]; omega
  simp [fp.Seq_Drop, h', sliceM, hn]

/-! ## `for _, v := range s` loops with callbacks -/

theorem Seq_Filter_eq (r : List α) (p : α → GoM Bool) : fp.Seq_Filter r p = filterG p r := by
  unfold fp.Seq_Filter
  rw [filterLoop (p := p) (fun _ _ => rfl)]
  simp

theorem Seq_FilterNot_eq (r : List α) (p : α → GoM Bool) :
    fp.Seq_FilterNot r p = filterG (fun t => do let b ← p t; pure (!b)) r := by
  simp [fp.Seq_FilterNot, Seq_Filter_eq]

theorem Seq_Exists_eq (r : List α) (p : α → GoM Bool) : fp.Seq_Exists r p = anyG p r :=
  loopM_eq (ref := fun l _ => anyG p l) (fun _ => rfl) (fun a as _ => by
    simp only [anyG, bind_assoc]
    congr 1; funext b
    cases b <;> simp) r _

theorem Seq_ForAll_eq (r : List α) (p : α → GoM Bool) : fp.Seq_ForAll r p = allG p r :=
  loopM_eq (ref := fun l _ => allG p l) (fun _ => rfl) (fun a as _ => by
    simp only [allG, bind_assoc]
    congr 1; funext b
    cases b <;> simp) r _

theorem Seq_Find_eq (r : List α) (p : α → GoM Bool) : fp.Seq_Find r p = findG p r :=
  loopM_eq (ref := fun l _ => findG p l) (fun _ => rfl) (fun a as _ => by
    simp only [findG, bind_assoc]
    congr 1; funext b
    cases b <;> simp) r _

theorem Seq_Foreach_eq (r : List α) (f : α → GoM Unit) : fp.Seq_Foreach r f = foreachG f r :=
  loopM_eq (ref := fun l _ => foreachG f l) (fun _ => rfl) (fun a as _ => by simp [foreachG]) r _

/-- the method `Seq.Map` (an `append` loop) and the function `seq.Map` (`make` + index writes) are the same model -/
theorem Seq_Map_eq (r : List α) (mf : α → GoM α) : fp.Seq_Map r mf = Coll.seqMap r mf := by
  unfold fp.Seq_Map Coll.seqMap
  rw [mapAppendLoop (f := mf) (fun _ _ => rfl)]
  simp

theorem Seq_FlatMap_eq (r : List α) (mf : α → GoM (List α)) : fp.Seq_FlatMap r mf = Coll.seqFlatMap r mf := by
  unfold fp.Seq_FlatMap Coll.seqFlatMap
  rw [flatMapAppendLoop (f := mf) (fun _ _ => rfl)]
  simp

theorem seq_FlatMap_eq (opt : List α) (fn : α → GoM (List β)) : seq.FlatMap opt fn = Coll.seqFlatMap opt fn := by
  unfold seq.FlatMap Coll.seqFlatMap
  rw [flatMapAppendLoop (f := fn) (fun _ _ => rfl)]
  simp

theorem seq_Fold_eq (s : List α) (zero : β) (f : β → α → GoM β) : seq.Fold s zero f = s.foldlM f zero :=
  loopM_eq (ref := fun l z => l.foldlM f z) (fun _ => rfl) (fun a as z => by simp) s zero

theorem seq_FoldTry_eq (s : List α) (zero : β) (f : β → α → GoM (Try β)) : seq.FoldTry s zero f = foldTryG f zero s :=
  loopM_eq (ref := fun l z => foldTryG f z l) (fun _ => rfl) (fun a as z => by
    simp only [foldTryG, bind_assoc]
    congr 1; funext t
    cases t <;> simp [Try.isSuccess, tryGetM]) s zero

theorem seq_FoldOption_eq (s : List α) (zero : β) (f : β → α → GoM (Option β)) :
    seq.FoldOption s zero f = foldOptionG f zero s :=
  loopM_eq (ref := fun l z => foldOptionG f z l) (fun _ => rfl) (fun a as z => by
    simp only [foldOptionG, bind_assoc]
    congr 1; funext t
    cases t <;> simp [optGetM]) s zero

theorem seq_FoldError_eq (s : List α) (f : α → GoM (Option Err)) : seq.FoldError s f = foldErrorG f s :=
  loopM_eq (ref := fun l _ => foldErrorG f l) (fun _ => rfl) (fun a as _ => by
    simp only [foldErrorG, bind_assoc]
    congr 1; funext t
    cases t <;> simp) s _

theorem seq_Partition_eq (r : List α) (p : α → GoM Bool) : seq.Partition r p = partitionG p r := by
  unfold seq.Partition
  rw [partitionLoop (p := p) (fun _ _ _ => rfl)]
  simp

theorem seq_Span_eq (r : List α) (p : α → GoM Bool) : seq.Span r p = spanG p r := by
  unfold seq.Span
  rw [spanLoop (p := p) (fun _ _ _ => rfl) (fun _ _ _ => rfl)]
  simp

/-! ## `make` + index writes -/

theorem seq_Map_eq (opt : List α) (fn : α → GoM β) : seq.Map opt fn = Coll.seqMap opt fn := by
  unfold seq.Map Coll.seqMap
  simp only [len, makeSliceM_ofNat, pure_bind, enumI]
  suffices h : ∀ (l : List α) (pre : List β), loopM (enumFrom (pre.length : Int) l) (pre ++ List.replicate l.length GoZero.zero)
      (fun (x : Int × α) ret => (do
        let t_2 ← fn x.2
        let ret ← setIdxM ret x.1 t_2
        pure (Step.next ret))) (fun ret => pure ret) = Coll.seqMapLoop fn l pre by
    simpa using h opt []
  intro l
  induction l with
  | nil => intro pre; simp [Coll.seqMapLoop]
  | cons a as ih =>
    intro pre
    simp only [enumFrom_cons, loopM_cons, Coll.seqMapLoop, bind_assoc, List.length_cons, List.replicate_succ]
    congr 1; funext u
    rw [setIdxM_append_cons _ _ _ _ _ rfl]
    simp only [pure_bind]
    have := ih (pre ++ [u])
    simpa using this

theorem seq_Scan_eq (s : List α) (zero : β) (f : β → α → GoM β) : seq.Scan s zero f = scanG f zero s := by
  unfold seq.Scan
  simp only [Seq_IsEmpty_eq, Seq_Size_eq, pure_bind]
  cases s with
  | nil => simp [seq.Of, scanG]
  | cons a0 as0 =>
    simp only [List.isEmpty_cons, Bool.false_eq_true, if_false, enumI]
    have e : ((a0 :: as0).length : Int) + (1 : Int) = ((a0 :: as0).length + 1 : Nat) := by simp
    rw [e, makeSliceM_ofNat]
    simp only [pure_bind, List.replicate_succ, setIdxM_zero_cons]
    suffices h : ∀ (l : List α) (pre : List β) (z : β), loopM (enumFrom (pre.length : Int) l)
        (z, pre ++ z :: List.replicate l.length GoZero.zero)
        (fun (x : Int × α) (st : β × List β) => (do
            let t_4 ← f st.1 x.2
            let ret ← setIdxM st.2 (x.1 + (1 : Int)) t_4
            pure (Step.next (t_4, ret))))
        (fun (st : β × List β) => pure st.2)
        = (do let r ← scanG f z l; pure (pre ++ r)) by
      simpa using h (a0 :: as0) [] zero
    intro l
    induction l with
    | nil => intro pre z; simp [scanG]
    | cons a as ih =>
      intro pre z
      simp only [enumFrom_cons, loopM_cons, scanG, bind_assoc, List.length_cons, List.replicate_succ]
      congr 1; funext z'
      have e2 : pre ++ z :: GoZero.zero :: List.replicate as.length GoZero.zero
          = (pre ++ [z]) ++ GoZero.zero :: List.replicate as.length (GoZero.zero : β) := by simp
      rw [e2, setIdxM_append_cons _ _ _ _ _ (by simp)]
      simp only [pure_bind]
      have := ih (pre ++ [z]) z'
      simp only [List.length_append, List.length_singleton, Int.natCast_add, Int.cast_ofNat_Int] at this
      rw [this]
      simp

theorem seq_Reduce_eq (r : List α) (m : MonoidM α) :
    seq.Reduce r m = (do let e ← m.empty; r.foldlM m.combine e) := by
  unfold seq.Reduce
  simp only [Seq_Size_eq, pure_bind, indexRange_len]
  by_cases h : r = []
  · subst h; simp
  · have h' : ¬ ((r.length : Int) = 0) := by
      cases r with
      | nil => exact absurd rfl h
      | cons a as => simp only [List.length_cons]; omega
    simp only [h', decide_false, Bool.false_eq_true, if_false]
    congr 1; funext e
    suffices hh : ∀ (rest pre : List α) (acc : α), loopM (indexFrom (pre.length : Int) rest.length) acc
        (fun i reduce => (do
          let t_4 ← idxM (pre ++ rest) i
          let t_5 ← m.combine reduce t_4
          let reduce := t_5
          pure (Step.next reduce)))
        (fun reduce => (do pure reduce)) = rest.foldlM m.combine acc by
      simpa using hh r [] e
    intro rest
    induction rest with
    | nil => intro pre acc; simp
    | cons a as ih =>
      intro pre acc
      simp only [List.length_cons, indexFrom_succ, loopM_cons, List.foldlM_cons, bind_assoc]
      rw [idxM_append_cons _ _ _ _ rfl]
      simp only [pure_bind]
      congr 1; funext x
      have := ih (pre ++ [a]) x
      simpa using this

theorem seq_ZipWithIndex_eq (s1 : List α) : seq.ZipWithIndex s1 = pure (enumI s1) := by
  unfold seq.ZipWithIndex
  simp only [Seq_Size_eq, pure_bind, makeSliceM_ofNat, indexRange_ofNat, enumI]
  suffices hh : ∀ (rest pre : List α) (done : List (Int × α)), done.length = pre.length →
      loopM (indexFrom (pre.length : Int) rest.length) (done ++ List.replicate rest.length GoZero.zero)
        (fun i ret => (do
          let t_4 ← idxM (pre ++ rest) i
          let ret ← setIdxM ret i (i, t_4)
          pure (Step.next ret)))
        (fun ret => (do pure ret)) = pure (done ++ enumFrom (pre.length : Int) rest) by
    simpa using hh s1 [] [] rfl
  intro rest
  induction rest with
  | nil => intro pre done _; simp
  | cons a as ih =>
    intro pre done hd
    simp only [List.length_cons, indexFrom_succ, loopM_cons, bind_assoc, List.replicate_succ, enumFrom_cons]
    rw [idxM_append_cons _ _ _ _ rfl]
    simp only [pure_bind]
    rw [setIdxM_append_cons _ _ _ _ _ (by rw [hd])]
    simp only [pure_bind]
    have := ih (pre ++ [a]) (done ++ [((pre.length : Int), a)]) (by simp [hd])
    simpa using this

theorem seq_Zip_eq (s1 : List α) (s2 : List β) : seq.Zip s1 s2 = pure (s1.zip s2) := by
  unfold seq.Zip
  simp only [Seq_Size_eq, pure_bind]
  have e : min (s1.length : Int) (s2.length : Int) = ((min s1.length s2.length : Nat) : Int) := by omega
  rw [e]
  simp only [makeSliceM_ofNat, indexRange_ofNat, pure_bind]
  have := zipLoop (s1 := s1) (s2 := s2) (fin := fun ret => pure ret) (fun _ _ => rfl) s1 [] s2 [] [] rfl rfl rfl rfl
  simpa using this

/-- the copy loop shared by `Append` and `Concat` -/
theorem appendLoop (r : List α) : ∀ (rest pre : List α),
    loopM (indexFrom (pre.length : Int) rest.length) (r ++ pre ++ List.replicate rest.length GoZero.zero)
      (fun i ret => (do
        let t_5 ← idxM (pre ++ rest) i
        let ret ← setIdxM ret (i + (r.length : Int)) t_5
        pure (Step.next ret)))
      (fun ret => (do pure ret)) = pure (r ++ pre ++ rest) := by
  intro rest
  induction rest with
  | nil => intro pre; simp
  | cons a as ih =>
    intro pre
    simp only [List.length_cons, indexFrom_succ, loopM_cons, bind_assoc, List.replicate_succ, pure_bind]
    rw [idxM_append_cons _ _ _ _ rfl]
    simp only [pure_bind]
    rw [setIdxM_append_cons _ _ _ _ _ (by simp; omega)]
    simp only [pure_bind]
    have := ih (pre ++ [a])
    simpa using this

theorem Seq_Concat_eq (r tail : List α) : fp.Seq_Concat r tail = pure (r ++ tail) := by
  unfold fp.Seq_Concat
  cases tail with
  | nil => simp [len]
  | cons a as =>
    have h : decide (len (a :: as) > (0 : Int)) = true := by
      simp only [len, List.length_cons, decide_eq_true_eq]; omega
    simp only [h, if_true, Seq_Size_eq, pure_bind, indexRange_len]
    have e : (r.length : Int) + ((a :: as).length : Int) = ((r.length + (a :: as).length : Nat) : Int) := by
      simp only [List.length_cons]; omega
    rw [e, makeSliceM_ofNat]
    simp only [pure_bind, goCopy_replicate]
    have := appendLoop r (a :: as) []
    simpa using this

/-- `Append(items...)` is `Concat(items)` with the parameter renamed -/
theorem Seq_Append_eq (r items : List α) : fp.Seq_Append r items = pure (r ++ items) :=
  Seq_Concat_eq r items

theorem Seq_Add_eq (r : List α) (item : α) : fp.Seq_Add r item = pure (r ++ [item]) := by
  simp [fp.Seq_Add, Seq_Append_eq]

theorem Seq_Reverse_eq (r : List α) : fp.Seq_Reverse r = pure r.reverse := by
  unfold fp.Seq_Reverse
  simp only [Seq_Size_eq, pure_bind, makeSliceM_ofNat, indexRange_len]
  suffices hh : ∀ (rest pre : List α) (n : Int), n = ((pre.length + rest.length : Nat) : Int) →
      loopM (indexFrom (pre.length : Int) rest.length) (List.replicate rest.length GoZero.zero ++ pre.reverse)
        (fun i ret => (do
          let t_4 ← idxM (pre ++ rest) i
          let ret ← setIdxM ret ((n - i) - (1 : Int)) t_4
          pure (Step.next ret)))
        (fun ret => (do pure ret)) = pure ((pre ++ rest).reverse) by
    simpa using hh r [] _ (by simp)
  intro rest
  induction rest with
  | nil => intro pre n _; simp
  | cons a as ih =>
    intro pre n hn
    simp only [List.length_cons, indexFrom_succ, loopM_cons, bind_assoc, List.replicate_succ]
    rw [idxM_append_cons _ _ _ _ rfl]
    simp only [pure_bind]
    have e2 : GoZero.zero :: List.replicate as.length (GoZero.zero : α) = List.replicate as.length GoZero.zero ++ [GoZero.zero] := by
      rw [← List.replicate_succ, List.replicate_succ']
    rw [e2, List.append_assoc, List.singleton_append]
    rw [setIdxM_append_cons _ _ _ _ _ (by simp at hn ⊢; omega)]
    simp only [pure_bind]
    have := ih (pre ++ [a]) n (by simp at hn ⊢; omega)
    simpa using this

/-! ## `seq/seq_op.go` : functions defined through the others (the derived combinators of C01) -/

theorem seq_Size_eq (s : List α) : seq.Size s = pure (s.length : Int) := rfl
theorem seq_Head_eq (s : List α) : seq.Head s = pure s.head? := by simp [seq.Head, Seq_Head_eq]
theorem seq_Last_eq (s : List α) : seq.Last s = pure s.getLast? := by simp [seq.Last, Seq_Last_eq]
theorem seq_Init_eq (s : List α) : seq.Init s = pure s.dropLast := by simp [seq.Init, Seq_Init_eq]
theorem seq_Tail_eq (s : List α) : seq.Tail s = pure s.tail := by simp [seq.Tail, Seq_Tail_eq]
theorem seq_Empty_eq : (seq.Empty : GoM (List α)) = pure [] := rfl
theorem seq_Pure_eq (v : α) : seq.Pure v = pure (Coll.seqPure v) := rfl
theorem seq_Of_eq (l : List α) : seq.Of l = pure (Coll.seqOf l) := rfl

/-- `seq.Concat(head, tail) = Of(head).Concat(tail)` : the model of C01, i.e. `head :: tail` -/
theorem seq_Concat_eq (head : α) (tail : List α) : seq.Concat head tail = pure (Coll.seqConcat head tail) := by
  simp only [seq.Concat, seq_Of_eq, Seq_Concat_eq, pure_bind, Coll.seqConcat, Coll.seqConcatM, Coll.seqOf]
  cases tail <;> simp

theorem seq_Flatten_eq (opt : List (List α)) : seq.Flatten opt = Coll.seqFlatten opt := by
  simp [seq.Flatten, seq_FlatMap_eq, Coll.seqFlatten]

theorem seq_FilterMap_eq (opt : List α) (fn : α → GoM (Option β)) : seq.FilterMap opt fn = Coll.seqFilterMap opt fn := by
  simp only [seq.FilterMap, seq_FlatMap_eq, Coll.seqFilterMap]
  unfold composeM optionToSeqM
  congr 1; funext v; congr 1; funext o; cases o <;> rfl

/-- function values that are ELEMENTS of a slice are applied directly (`app = id` in the model of C01) -/
theorem seq_Ap_eq (t : List (α → GoM β)) (a : List α) : seq.Ap t a = Coll.seqAp (fun f => f) t a := by
  simp [seq.Ap, seq_FlatMap_eq, seq_Map_eq, Coll.seqAp]

theorem seq_Map2_eq (a : List α) (b : List β) (f : α → β → GoM γ) : seq.Map2 a b f = Coll.seqMap2 a b f := by
  simp [seq.Map2, seq_FlatMap_eq, seq_Map_eq, Coll.seqMap2]

theorem seq_Lift_eq (f : α → GoM β) : seq.Lift f = pure (Coll.seqLift f) := by
  simp only [seq.Lift, seq_Map_eq]; rfl

theorem seq_LiftM_eq (f : α → GoM (List β)) : seq.LiftM f = pure (Coll.seqLiftM f) := by
  simp only [seq.LiftM, seq_FlatMap_eq]; rfl

theorem seq_Compose_eq (f1 : α → GoM (List β)) (f2 : β → GoM (List γ)) :
    seq.Compose f1 f2 = pure (Coll.seqCompose f1 f2) := by
  simp only [seq.Compose, seq_FlatMap_eq]; rfl

theorem seq_ComposePure_eq (fab : α → GoM β) : seq.ComposePure fab = pure (Coll.seqComposePure fab) := by
  simp only [seq.ComposePure, seq_Of_eq]; rfl

/-- `FoldMap(s, m, f)` = the left fold of `Combine(acc, f(a))` from `Empty()` (C11) -/
theorem seq_FoldMap_eq (s : List α) (m : MonoidM β) (f : α → GoM β) :
    seq.FoldMap s m f = (do let e ← m.empty; s.foldlM (fun b a => do let x ← f a; m.combine b x) e) := by
  simp [seq.FoldMap, seq_Fold_eq]

/-- `Min` = the left fold with the step `It.minStep` of the iterator model (C12 `min_eq`) -/
theorem seq_Min_eq (r : List α) (ord : OrdM α) : seq.Min r ord = r.foldlM (It.minStep ord.less) none := by
  simp only [seq.Min, seq_Fold_eq]
  congr 1; funext acc v
  cases acc <;> simp [It.minStep, optGetM]

theorem seq_Max_eq (r : List α) (ord : OrdM α) : seq.Max r ord = r.foldlM (It.maxStep ord.less) none := by
  simp only [seq.Max, seq_Fold_eq]
  congr 1; funext acc v
  cases acc <;> simp [It.maxStep, optGetM]

/-- `FoldRight`: the step function receives the SUSPENDED fold of the tail (`lazy.TailCall`); nothing of the tail runs
    unless the step forces it -/
theorem seq_FoldRight_eq (s : List α) (zero : β) (f : α → EvalM β → GoM (EvalM β)) :
    seq.FoldRight s zero f = foldRightG f zero s := by
  unfold seq.FoldRight
  suffices h : ∀ (l : List α) (fuel : Nat), l.length < fuel → seq.FoldRight_fuel fuel l zero f = foldRightG f zero l from
    h s _ (Nat.lt_succ_self _)
  intro l
  induction l with
  | nil =>
    intro fuel hf
    cases fuel with
    | zero => simp at hf
    | succ n => simp [seq.FoldRight_fuel, Seq_IsEmpty_eq, foldRightG]
  | cons a as ih =>
    intro fuel hf
    cases fuel with
    | zero => simp at hf
    | succ n =>
      have := ih n (by simpa using hf)
      simp [seq.FoldRight_fuel, Seq_IsEmpty_eq, Seq_UnSeq_eq, foldRightG, optGetM, evalTailCall, this]

variable {σ σ₂ : Type}

/-! ## values: when the callbacks return, the translated functions compute the list functions of C12 / C11 -/

omit [GoZero α] [GoZero β] in
theorem total_iff_returns {f : α → GoM β} {g : α → β} : Total f g ↔ ∀ a, Returns (f a) (g a) := Iff.rfl
omit [GoZero α] [GoZero β] [GoZero γ] in
theorem total2_iff_returns {f : α → β → GoM γ} {g : α → β → γ} : Total2 f g ↔ ∀ a b, Returns (f a b) (g a b) := Iff.rfl

theorem seq_Map_value {fn : α → GoM β} {g : α → β} (h : Total fn g) (l : List α) : Returns (seq.Map l fn) (l.map g) := by
  rw [seq_Map_eq]; exact fun lg => Coll.seqMap_total h l lg

theorem Seq_Map_value {fn : α → GoM α} {g : α → α} (h : Total fn g) (l : List α) : Returns (fp.Seq_Map l fn) (l.map g) := by
  rw [Seq_Map_eq]; exact fun lg => Coll.seqMap_total h l lg

theorem seq_FlatMap_value {fn : α → GoM (List β)} {g : α → List β} (h : Total fn g) (l : List α) :
    Returns (seq.FlatMap l fn) (l.flatMap g) := by
  rw [seq_FlatMap_eq]; exact fun lg => Coll.seqFlatMap_total h l lg

theorem Seq_Filter_value {p : α → GoM Bool} {g : α → Bool} (h : Total p g) (l : List α) :
    Returns (fp.Seq_Filter l p) (l.filter g) := by
  rw [Seq_Filter_eq]; exact filterG_returns h l

theorem Seq_FilterNot_value {p : α → GoM Bool} {g : α → Bool} (h : Total p g) (l : List α) :
    Returns (fp.Seq_FilterNot l p) (l.filter (fun x => !g x)) := by
  rw [Seq_FilterNot_eq]
  exact filterG_returns (g := fun x => !g x) (fun a => returns_bind (h a) (returns_pure _)) l

theorem Seq_Exists_value {p : α → GoM Bool} {g : α → Bool} (h : Total p g) (l : List α) :
    Returns (fp.Seq_Exists l p) (l.any g) := by
  rw [Seq_Exists_eq]; exact anyG_returns h l

theorem Seq_ForAll_value {p : α → GoM Bool} {g : α → Bool} (h : Total p g) (l : List α) :
    Returns (fp.Seq_ForAll l p) (l.all g) := by
  rw [Seq_ForAll_eq]; exact allG_returns h l

theorem Seq_Find_value {p : α → GoM Bool} {g : α → Bool} (h : Total p g) (l : List α) :
    Returns (fp.Seq_Find l p) (l.find? g) := by
  rw [Seq_Find_eq]; exact findG_returns h l

theorem seq_Fold_value {f : β → α → GoM β} {g : β → α → β} (h : Total2 f g) (l : List α) (z : β) :
    Returns (seq.Fold l z f) (l.foldl g z) := by
  rw [seq_Fold_eq]; exact foldlM_returns h l z

/-- C11: `Reduce` is the left fold of `Combine` from `Empty` (no law needed) -/
theorem seq_Reduce_value {m : MonoidM α} {e : α} {g : α → α → α} (he : Returns m.empty e) (h : Total2 m.combine g)
    (l : List α) : Returns (seq.Reduce l m) (l.foldl g e) := by
  rw [seq_Reduce_eq]; exact returns_bind he (foldlM_returns h l e)

theorem seq_FoldMap_value {m : MonoidM β} {e : β} {g : β → β → β} {f : α → GoM β} {fg : α → β}
    (he : Returns m.empty e) (h : Total2 m.combine g) (hf : Total f fg) (l : List α) :
    Returns (seq.FoldMap l m f) (l.foldl (fun acc x => g acc (fg x)) e) := by
  rw [seq_FoldMap_eq]
  exact returns_bind he (foldlM_returns (fun b a => returns_bind (hf a) (h b (fg a))) l e)

omit [GoZero α] [GoZero β] in
theorem scanG_returns {f : β → α → GoM β} {g : β → α → β} (h : Total2 f g) (l : List α) (z : β) :
    Returns (scanG f z l) (scanl g z l) := by
  induction l generalizing z with
  | nil => exact returns_pure _
  | cons a as ih => exact returns_bind (h z a) (returns_bind (ih _) (returns_pure _))

theorem seq_Scan_value {f : β → α → GoM β} {g : β → α → β} (h : Total2 f g) (l : List α) (z : β) :
    Returns (seq.Scan l z f) (scanl g z l) := by
  rw [seq_Scan_eq]; exact scanG_returns h l z

theorem seq_Span_value {p : α → GoM Bool} {g : α → Bool} (h : Total p g) (l : List α) :
    Returns (seq.Span l p) (l.takeWhile g, l.dropWhile g) := by
  rw [seq_Span_eq]; exact spanG_returns h l

theorem seq_Partition_value {p : α → GoM Bool} {g : α → Bool} (h : Total p g) (l : List α) :
    Returns (seq.Partition l p) (l.filter g, l.filter (fun x => !g x)) := by
  rw [seq_Partition_eq]; exact partitionG_returns h l

theorem seq_Min_value {ord : OrdM α} {lt : α → α → Bool} (h : Total2 ord.less lt) (l : List α) :
    Returns (seq.Min l ord) (l.foldl (C12.minStepP lt) none) := by
  rw [seq_Min_eq]; exact foldlM_returns (C12.minStep_total ord.less lt h) l none

theorem seq_Max_value {ord : OrdM α} {lt : α → α → Bool} (h : Total2 ord.less lt) (l : List α) :
    Returns (seq.Max l ord) (l.foldl (C12.maxStepP lt) none) := by
  rw [seq_Max_eq]; exact foldlM_returns (C12.maxStep_total ord.less lt h) l none

theorem seq_FoldTry_value {f : β → α → GoM (Try β)} {g : β → α → Try β} (h : Total2 f g) (l : List α) (z : β) :
    Returns (seq.FoldTry l z f) (foldTryL g z l).1 := by
  rw [seq_FoldTry_eq]
  induction l generalizing z with
  | nil => exact returns_pure _
  | cons a as ih =>
    refine returns_bind (h z a) ?_
    simp only [foldTryL]
    cases hg : g z a with
    | success z' => exact ih z'
    | failure e => exact returns_pure _

theorem seq_FoldOption_value {f : β → α → GoM (Option β)} {g : β → α → Option β} (h : Total2 f g) (l : List α) (z : β) :
    Returns (seq.FoldOption l z f) (foldOptionL g z l).1 := by
  rw [seq_FoldOption_eq]
  induction l generalizing z with
  | nil => exact returns_pure _
  | cons a as ih =>
    refine returns_bind (h z a) ?_
    simp only [foldOptionL]
    cases hg : g z a with
    | some z' => exact ih z'
    | none => exact returns_pure _

theorem seq_FoldError_value {f : α → GoM (Option Err)} {g : α → Option Err} (h : Total f g) (l : List α) :
    Returns (seq.FoldError l f) (foldErrorL g l).1 := by
  rw [seq_FoldError_eq]
  induction l with
  | nil => exact returns_pure _
  | cons a as ih =>
    refine returns_bind (h a) ?_
    simp only [foldErrorL]
    cases hg : g a with
    | some e => exact returns_pure _
    | none => exact ih

/-- `FoldRight` with a step that forces the suspended tail (`f(a, th) = lazy.Done(step(a, th.Get()))` in the reading of
    `EvalM`): forcing the result gives `foldr` (the reference of C12 `foldRight_eq`) -/
theorem seq_FoldRight_value {step : α → β → GoM β} {g : α → β → β} (h : Total2 step g) (l : List α) (zero : β) :
    Returns (do let e ← seq.FoldRight l zero (fun a th => pure (do let b ← th; step a b)); e) (l.foldr g zero) := by
  rw [seq_FoldRight_eq]
  induction l with
  | nil => exact returns_bind (returns_pure _) (returns_pure _)
  | cons a as ih =>
    simp only [foldRightG, pure_bind, List.foldr_cons]
    exact returns_bind ih (h a _)

/-! ## transport: the iterator machine of C12 against the TRANSLATED eager functions

Each theorem: the iterator-side computation (run from state `s` and log `lg`) and the translated eager function
return the same value.  The iterator side is the model of C12 (tied to `iterator_op.go` by `cmd/iter`); the eager side is
the Go text of `seq.go` / `seq_op.go` itself. -/

/-- `iterator.Map(it, f).ToSeq()` = translated `seq.Map(it.ToSeq(), f)` -/
theorem iterator_Map_ToSeq_eq_translated (f : α → GoM β) (g : α → β) (hf : Total f g) (m : Machine σ α) (s : σ)
    (l : List α) (h : Represents m s [] l) (fuel : Nat) (hfuel : l.length < fuel) (lg : Log) :
    ∃ v, (∃ s' lg', toSeq (It.map f m) fuel [] s lg = (.ok v, s', lg')) ∧ Returns (seq.Map l f) v := by
  obtain ⟨s', lg', e, _⟩ := C12.toSeq_eq (It.map f m) s (l.map g) (C12.map_represents f g hf m s l h) fuel
    (by simpa using hfuel) lg
  exact ⟨l.map g, ⟨s', lg', e⟩, seq_Map_value hf l⟩

/-- `it.Filter(p)` drained = translated `Seq.Filter` of the drained source -/
theorem iterator_Filter_ToSeq_eq_translated (p : α → GoM Bool) (g : α → Bool) (hp : Total p g) (m : Machine σ α) (s : σ)
    (l : List α) (h : Represents m s [] l) (fuel : Nat) (hfuel : l.length < fuel) (lg : Log) :
    ∃ v, (∃ s' lg', toSeq (It.filter fuel p m) fuel [] (s, {}) lg = (.ok v, s', lg')) ∧ Returns (fp.Seq_Filter l p) v := by
  have hlen : (l.filter g).length < fuel := Nat.lt_of_le_of_lt (List.length_filter_le _ _) hfuel
  obtain ⟨s', lg', e, _⟩ := C12.toSeq_eq _ _ _ (C12.filter_represents p g hp m s l h fuel hfuel) fuel hlen lg
  exact ⟨l.filter g, ⟨s', lg', e⟩, Seq_Filter_value hp l⟩

/-- `iterator.Fold(it, z, f)` = translated `seq.Fold(it.ToSeq(), z, f)` -/
theorem iterator_Fold_eq_translated (f : β → α → GoM β) (g : β → α → β) (hf : Total2 f g) (z : β) (m : Machine σ α) (s : σ)
    (l : List α) (h : Represents m s [] l) (fuel : Nat) (hfuel : l.length < fuel) (lg : Log) :
    ∃ v, (∃ s' lg', It.fold f m fuel z s lg = (.ok v, s', lg')) ∧ Returns (seq.Fold l z f) v := by
  obtain ⟨s', lg', e, _⟩ := C12.fold_eq f g hf z m s l h fuel hfuel lg
  exact ⟨l.foldl g z, ⟨s', lg', e⟩, seq_Fold_value hf l z⟩

/-- `iterator.Zip(a, b).ToSeq()` = translated `seq.Zip(a.ToSeq(), b.ToSeq())` (truncation to the SHORTER side) -/
theorem iterator_Zip_ToSeq_eq_translated (a : Machine σ α) (b : Machine σ₂ β) (sa : σ) (sb : σ₂) (la : List α) (lb : List β)
    (ha : Represents a sa [] la) (hb : Represents b sb [] lb) (fuel : Nat) (hfuel : la.length < fuel) (lg : Log) :
    ∃ s' lg', toSeq (It.zip a b) fuel [] (sa, sb) lg = (.ok (la.zip lb), s', lg') ∧ seq.Zip la lb = pure (la.zip lb) := by
  have hlen : (la.zip lb).length < fuel := by
    rw [List.length_zip]; exact Nat.lt_of_le_of_lt (Nat.min_le_left _ _) hfuel
  obtain ⟨s', lg', e, _⟩ := C12.toSeq_eq _ _ _ (C12.zip_represents a b sa sb la lb ha hb) fuel hlen lg
  exact ⟨s', lg', e, seq_Zip_eq la lb⟩

/-- the three-stage pipeline of C12 `pipeline_example`, `src.Filter(p).Map(f).Take(n)` (`n ≥ 0`), against the TRANSLATED
    eager functions composed in the same order -/
theorem pipeline_eq_translated (p : α → GoM Bool) (gp : α → Bool) (hp : Total p gp)
    (f : α → GoM β) (gf : α → β) (hf : Total f gf) (n : Nat) (tag : Option (α → Event)) (xs : List α) :
    ∃ v, Represents (It.take (n : Int) (It.map f (It.filter (xs.length + 1) p (ofSeq tag xs)))) ((0, {}), 0) [] v ∧
      Returns (do let a ← fp.Seq_Filter xs p; let b ← seq.Map a f; fp.Seq_Take b (n : Int)) v := by
  refine ⟨((xs.filter gp).map gf).take n, ?_, ?_⟩
  · simpa using C12.pipeline_example p gp hp f gf hf (n : Int) tag xs
  · refine returns_bind (Seq_Filter_value hp xs) (returns_bind (seq_Map_value hf _) ?_)
    rw [Seq_Take_eq]; exact returns_pure _

/-! ## non-vacuity -/

example : Total (fun (x : Int) => (do emit "f"; pure (x + 1) : GoM Int)) (fun x => x + 1) :=
  fun _ lg => ⟨lg ++ ["f"], rfl⟩

/-- the translated code runs: `Map`, `Filter`, `Scan`, `Zip`, `Reverse`, `Span` on concrete input -/
example : (seq.Map [1, 2, 3] (fun (x : Int) => (pure (x * 2) : GoM Int))).exec = (.ok [2, 4, 6], []) := rfl
example : (fp.Seq_Filter [1, 2, 3, 4] (fun (x : Int) => (pure (x % 2 == 0) : GoM Bool))).exec = (.ok [2, 4], []) := rfl
example : (seq.Scan [1, 2, 3] (0 : Int) (fun b (a : Int) => (pure (b + a) : GoM Int))).exec = (.ok [0, 1, 3, 6], []) := rfl
example : (seq.Zip [1, 2, 3] [true, false] : GoM (List (Int × Bool))).exec = (.ok [(1, true), (2, false)], []) := rfl
example : (fp.Seq_Reverse [1, 2, 3] : GoM (List Int)).exec = (.ok [3, 2, 1], []) := rfl
example : (seq.Span [1, 2, 5, 1] (fun (x : Int) => (pure (x < 3) : GoM Bool))).exec = (.ok ([1, 2], [5, 1]), []) := rfl
/-- a panicking callback: the panic propagates, the events before it stay in the log (`Map` stops at the second element) -/
example : (seq.Map [1, 2, 3] (fun (x : Int) => (do emit "f"; if x = 2 then goPanic "boom" else pure x : GoM Int))).exec
    = (.error "boom", ["f", "f"]) := rfl
/-- `Take` with a negative count panics (eager), whereas `iterator.Take` yields nothing -/
example : (fp.Seq_Take [1, 2, 3] (-1) : GoM (List Int)).exec = (.error "slice bounds out of range", []) := rfl

end FpVerif.Spec.C12SeqGen

-- every translated function has its tie theorem above (fails the build otherwise)
#seq_ties FpVerif.Spec.C12SeqGen
