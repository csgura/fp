import FpVerif.Gen.AtomFacts
/-!
# C06 — regenerated facts: the Future combinators reach the promise cell only through the Promise's own functions

`Model/Future.lean` works at TASK granularity: a promise is an atomic single-assignment cell with exactly-once
delivery (that is C05, at the granularity of atomic steps), `OnComplete(cb)` registers
`t => executor.ExecuteUnsafe(func(){ cb(t) })`, one executed runnable is one step.  Tied to the code here:

* no combinator of `future.go` (methods of `fp.Future`) or of `future/future_op.go` performs a shared-memory
  operation or contains a yield point of its own — everything goes through `NewPromise` / `promise.New`,
  `Future.OnComplete`, `Promise.Complete` / `Success` / `Failure`, `IsCompleted`, `Value` (C05Facts pins those);
* `OnComplete` wraps the callback into a runnable handed to the executor, the user callback runs inside that runnable;
* both default executors are: spawn hook (the harness takes the task), else `go`;
* the only other synchronisation constructs are `future.Await`'s channel and the deferred recover closures of
  `future.Apply` / `Apply2`.

The labels (c), (d) on the theorems are those of the head of `Spec/C05Facts.lean`.
-/
namespace FpVerif.Spec.C06Facts
open FpVerif.AtomShape FpVerif.Gen.Atom

def body (name : String) : Sq := bodyOf funcs name

def futureOps : List AFunc := funcs.filter (fun f => f.file == "future/future_op.go")

/-- the promise core of future.go, pinned by C05Facts; `combinators` are the other functions -/
def coreNames : List String :=
  ["fp.Promise.Value", "fp.Promise.IsCompleted", "fp.Promise.Complete", "fp.Promise.tryCompleteAndGetListeners",
   "fp.Promise.dispatchOrAddCallback", "fp.Future.Value"]

def combinators : List AFunc :=
  funcs.filter (fun f => (f.file == "future.go" && !coreNames.contains f.name) || f.file == "future/future_op.go"
    || f.file == "promise/promise_op.go" || f.file == "promise/future_op.go")

/-- (d) none of them touches shared memory, locks, or yields itself; no call of an `internal/atomic` wrapper -/
theorem combinators_use_promise_api_only :
    combinators.all (fun f => f.events.all (fun e =>
      match e with
      | .yield _ | .load | .store | .cas | .rmw | .lock | .unlock | .deferUnlock | .onceDo _ | .append
      | .fload _ | .fstore _ | .rvar _ | .wvar _ => false
      | .call c => !["atomic.Reference.Get", "atomic.Reference.Load", "atomic.Reference.Store",
                     "atomic.Reference.CompareAndSwap", "atomic.Value.Get", "atomic.Value.Load", "atomic.Value.Store",
                     "atomic.Value.CompareAndSwap", "fp.Promise.tryCompleteAndGetListeners"].contains c
      | _ => true)) = true := by decide +kernel

theorem combinators_nonempty : combinators.length ≥ 150 ∧ futureOps.length ≥ 100 := by decide +kernel

/-- `dispatchOrAddCallback` is entered through `Future.OnComplete` only -/
theorem dispatch_only_via_onComplete :
    (funcs.filter (fun f => f.callees.contains "fp.Promise.dispatchOrAddCallback")).map (·.name) =
      ["fp.Promise.dispatchOrAddCallback", "fp.Future.OnComplete"] := by decide +kernel

/-- (c) `OnComplete`: the registered closure hands a runnable to the executor; the user callback runs inside it -/
theorem skeleton_onComplete :
    body "fp.Future.OnComplete" = seq [a (.call "fp.Promise.dispatchOrAddCallback")] ∧
    body "fp.Future.OnComplete$1" = seq [a (.call "fp.getExecutor"), a (.call "fp.Executor.ExecuteUnsafe")] ∧
    body "fp.Future.OnComplete$1$1" = seq [a .cb] ∧
    body "fp.getExecutor" = seq [br [seq [a .ret], seq []], a .ret] ∧
    body "future.getExecutor" = seq [br [seq [a .ret], seq []], a .ret] := by decide +kernel

/-- (c) both default executors: offer the runnable to the spawn hook, else start a goroutine -/
theorem skeleton_executors :
    body "fp.goExecutor.ExecuteUnsafe" = seq [a .spawnHook, br [seq [a .ret], seq []], a .goStmt] ∧
    body "future.goExecutor.ExecuteUnsafe" = seq [a .spawnHook, br [seq [a .ret], seq []], a .goStmt] ∧
    (funcs.filter (fun f => f.events.contains .goStmt || f.events.contains .spawnHook)).map (·.name) =
      ["fp.goExecutor.ExecuteUnsafe", "future.goExecutor.ExecuteUnsafe"] ∧
    impls.lookup "fp.Executor" = some ["fp.goExecutor", "future.goExecutor"] := by decide +kernel

/-- (c) the transforming methods of `fp.Future` all have one shape: new promise, ONE `OnComplete` on the receiver, return
    the new promise's future -/
theorem skeleton_methods :
    ["fp.Future.Failed", "fp.Future.Or", "fp.Future.OrFuture", "fp.Future.Recover", "fp.Future.RecoverCase",
     "fp.Future.RecoverWith", "fp.Future.RecoverCaseWith", "fp.Future.Map", "fp.Future.FlatMap"].map body =
      List.replicate 9 (seq [a (.call "fp.NewPromise"), a (.call "fp.Future.OnComplete"), a (.call "fp.Promise.Future"), a .ret]) := by
  decide +kernel

/-- the synchronisation constructs outside the vocabulary, all in package `future`: the channel of `Await`, the
    deferred recover closures of `Apply` / `Apply2` -/
theorem other_constructs :
    (funcs.flatMap (fun f => f.events.filterMap (fun e =>
      match e with
      | .other w => some (f.name, w)
      | _ => none))) =
      [("future.Apply$1", "defer future.Apply$1$1"), ("future.Apply2$1", "defer future.Apply2$1$1"),
       ("future.Await", "recv"), ("future.Await$1", "send"), ("future.Await$2", "send")] := by decide +kernel

end FpVerif.Spec.C06Facts
