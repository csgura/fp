import FpVerif.Lemmas.MemoPanicSeq
import FpVerif.Lemmas.MemoPanicLive
/-!
# C16, run-once with thunks that PANIC and have effects

"… a deferred computation (lazy.Call, TailCall, lazy.Memoize, fp.Memoize, memoised list cells) is executed at most
once, even when the result is requested repeatedly or from many goroutines at once."

`Spec/C16.lean` proves this for thunks that return (`memo_gets`, `once_all_schedules`).  Here the thunk is an
arbitrary effectful computation that may panic, and may behave differently each time it is executed
(`f : Nat → GoM T`, `f k` = the `k`-th execution).  Model: `Model/MemoPanic.lean` (`sync.Once` marks itself done
also when the function panics; `ret` then keeps the zero value).

Part 1: one goroutine.  Part 2: any number of goroutines × any number of calls each × every interleaving.
The Eval level (`lazy.Call`, `lazy.TailCall`) and the list cells (`fp.MakeList`) are in `Spec/C16PanicEval.lean`.
-/
namespace FpVerif.Spec.C16Panic
open FpVerif FpVerif.It FpVerif.MemoPanic

variable {T A : Type}

-- ================================================================================== 1. one goroutine

/-- `n+1` requests on a fresh memo, for EVERY thunk (effects, panic, behaviour depending on the execution number)
    and every initial log: the first request IS the first execution of `f` (its value or its panic, its events);
    the `n` others return the memoised value — the zero value if `f` panicked — and add nothing to the log; `f`
    has been started exactly once. -/
theorem getN_fresh (zero : T) (f : Nat → GoM T) (n : Nat) (lg : Log) :
    getN f (n + 1) (Cell.fresh zero) lg
      = (.ok (((f 0).run.run lg).1 :: List.replicate n (.ok (memoOf zero ((f 0).run.run lg).1))),
         { done := true, ret := memoOf zero ((f 0).run.run lg).1, runs := 1 },
         ((f 0).run.run lg).2) := by
  simp only [getN, bind_apply, attempt_apply, get_fresh, pure_apply]
  rw [getN_of_done f n _ _ rfl]

/-- the thunk panics: the first request panics, the `n` others return the ZERO value, the events of `f` appear
    exactly once, `f` ran once (it is not retried). -/
theorem getN_panicking (zero : T) (f : Nat → GoM T) (n : Nat) (lg lg' : Log) (p : PanicVal)
    (hf : (f 0).run.run lg = (.error p, lg')) :
    getN f (n + 1) (Cell.fresh zero) lg
      = (.ok (.error p :: List.replicate n (.ok zero)), { done := true, ret := zero, runs := 1 }, lg') := by
  rw [getN_fresh, hf]; rfl

/-- the thunk returns `v`: every request returns `v`; events once. -/
theorem getN_returning (zero : T) (f : Nat → GoM T) (n : Nat) (lg lg' : Log) (v : T)
    (hf : (f 0).run.run lg = (.ok v, lg')) :
    getN f (n + 1) (Cell.fresh zero) lg
      = (.ok (List.replicate (n + 1) (.ok v)), { done := true, ret := v, runs := 1 }, lg') := by
  rw [getN_fresh, hf]; rfl

/-- at most once, as a statement about the ghost counter: however many requests, `f` was started at most once -/
theorem getN_runs_le_one (zero : T) (f : Nat → GoM T) (n : Nat) (lg : Log) :
    (getN f n (Cell.fresh zero) lg).2.1.runs ≤ 1 := by
  cases n with
  | zero => simp [getN, pure_apply, Cell.fresh]
  | succ n => rw [getN_fresh]; exact Nat.le_refl 1

/-- what a second, third, … execution of the thunk WOULD do is irrelevant: it never happens.  (The discriminating
    input of the correspondence harness: panic the first time, return a value the second time.) -/
theorem getN_ignores_later_executions (zero : T) (f g : Nat → GoM T) (h0 : f 0 = g 0) (n : Nat) (lg : Log) :
    getN f n (Cell.fresh zero) lg = getN g n (Cell.fresh zero) lg := by
  cases n with
  | zero => rfl
  | succ n => rw [getN_fresh, getN_fresh, h0]

/-- `fn1.Memoize(f)` called with `a :: as`: `f` runs once, on the FIRST argument; whatever that execution did
    (value or panic) every later call — with whatever argument — returns the memo and runs nothing. -/
theorem getArgs_fresh (zero : T) (f : A → Nat → GoM T) (a : A) (as : List A) (lg : Log) :
    getArgs f (a :: as) (Cell.fresh zero) lg
      = (.ok (((f a 0).run.run lg).1 :: as.map (fun _ => .ok (memoOf zero ((f a 0).run.run lg).1))),
         { done := true, ret := memoOf zero ((f a 0).run.run lg).1, runs := 1 },
         ((f a 0).run.run lg).2) := by
  simp only [getArgs, bind_apply, attempt_apply, get_fresh, pure_apply]
  rw [getArgs_of_done f as _ _ rfl]

-- non-vacuity ---------------------------------------------------------------------------------------------------

/-- a thunk that logs, panics the first time and would return 42 the second time -/
def flaky : Nat → GoM Nat := fun k => do
  emit s!"run{k}"
  if k = 0 then goPanic "boom" else pure 42

example : getN flaky 3 (Cell.fresh 0) []
    = (.ok [.error "boom", .ok 0, .ok 0], { done := true, ret := 0, runs := 1 }, ["run0"]) := by
  rw [getN_panicking 0 flaky 2 [] ["run0"] "boom" rfl]; rfl

example : getN (fun _ => (do emit "x"; pure 7 : GoM Nat)) 3 (Cell.fresh 0) []
    = (.ok [.ok 7, .ok 7, .ok 7], { done := true, ret := 7, runs := 1 }, ["x"]) := by
  rw [getN_returning 0 _ 2 [] ["x"] 7 rfl]; rfl

-- the mutant -------------------------------------------------------------------------------------------------

/-- A `Memoize` WITHOUT the `Once` (`if !done { ret = f(); done = true }`, `Model/MemoPanic.getNoOnce`) violates
    the statement of `getN_runs_le_one` / `getN_panicking`: the panicking thunk is started again by the second
    request (two executions, two events). -/
theorem mutant_noOnce_reruns :
    (getNNoOnce flaky 2 (Cell.fresh 0) []).2.1.runs = 2
    ∧ (getNNoOnce flaky 2 (Cell.fresh 0) []).2.2 = ["run0", "run1"]
    ∧ ¬ ((getNNoOnce flaky 2 (Cell.fresh 0) []).2.1.runs ≤ 1) := by
  refine ⟨by decide +kernel, by decide +kernel, by decide +kernel⟩

-- ================================================================================== 2. many goroutines

/-- the state reached from "goroutine `i` is going to make `progs[i]` calls" under the schedule `sched` -/
def reach (zero : T) (out : Nat → Out T) (progs : List Nat) (sched : List Nat) : Sys T :=
  runSched out (init zero progs) sched

theorem reach_inv (zero : T) (out : Nat → Out T) (progs sched : List Nat) :
    Inv zero out (reach zero out progs sched) :=
  inv_runSched (inv_init zero out progs) sched

/-- For EVERY number of goroutines, EVERY number of calls per goroutine, EVERY interleaving of the atomic steps
    of `sync.Once`, and both kinds of outcome (`out k` = outcome of the `k`-th execution, value or panic):
    `f` is started at most once. -/
theorem once_runs_le_one (zero : T) (out : Nat → Out T) (progs sched : List Nat) :
    (reach zero out progs sched).runs ≤ 1 :=
  (reach_inv zero out progs sched).runs_le

/-- … exactly once as soon as any call has been answered (returned or panicked); and no call is answered before
    `f` has finished: at that moment `f` has been started once AND has finished once. -/
theorem once_answered_after_f (zero : T) (out : Nat → Out T) (progs sched : List Nat)
    (t : Thread T) (ht : t ∈ (reach zero out progs sched).threads) (hans : t.results ≠ []) :
    (reach zero out progs sched).runs = 1 ∧ (reach zero out progs sched).finished = 1 := by
  obtain ⟨j, hj⟩ := List.getElem?_of_mem ht
  have h := reach_inv zero out progs sched
  obtain ⟨-, hdone, -, -⟩ := h.thr j t hj
  exact h.fin (hdone hans)

/-- every call that RETURNS returns the same value: what the one execution of `f` returned, or the zero value
    if it panicked — whichever goroutine asks, however often -/
theorem once_returns_agree (zero : T) (out : Nat → Out T) (progs sched : List Nat)
    (t : Thread T) (ht : t ∈ (reach zero out progs sched).threads) (v : T) (hv : Res.returned v ∈ t.results) :
    v = memoVal zero out := by
  obtain ⟨j, hj⟩ := List.getElem?_of_mem ht
  obtain ⟨-, -, hmemo, -⟩ := (reach_inv zero out progs sched).thr j t hj
  exact hmemo v hv

/-- at most ONE call, over all goroutines, observes a panic … -/
theorem once_panic_at_most_one (zero : T) (out : Nat → Out T) (progs sched : List Nat) :
    sumW wPan (reach zero out progs sched).threads ≤ 1 := by
  rw [sumW_eq]
  refine Nat.le_trans (Sched.sumBy_le (g := wPanic) fun t _ => Nat.le_add_right _ _) ?_
  rw [(reach_inv zero out progs sched).pan]
  split <;> decide

/-- … it is a call of the goroutine that ran `f`, and the panic is the one `f` raised -/
theorem once_panic_is_runners (zero : T) (out : Nat → Out T) (progs sched : List Nat)
    (i : Nat) (t : Thread T) (ht : (reach zero out progs sched).threads[i]? = some t)
    (p : PanicVal) (hp : Res.panicked p ∈ t.results) :
    (reach zero out progs sched).runner = some i ∧ out 0 = .panic p := by
  obtain ⟨-, -, -, hrunner⟩ := (reach_inv zero out progs sched).thr i t ht
  exact hrunner p hp

/-- consequently a goroutine whose call returned normally although `f` panicked got the ZERO value -/
theorem once_zero_after_panic (zero : T) (out : Nat → Out T) (progs sched : List Nat) (p : PanicVal)
    (hout : out 0 = .panic p)
    (t : Thread T) (ht : t ∈ (reach zero out progs sched).threads) (v : T) (hv : Res.returned v ∈ t.results) :
    v = zero := by
  rw [once_returns_agree zero out progs sched t ht v hv]; simp [memoVal, hout]

/-- the number of calls of every goroutine (completed + in flight + still to start) never changes -/
theorem once_accounting (zero : T) (out : Nat → Out T) (progs sched : List Nat) :
    (reach zero out progs sched).threads.map calls = progs := by
  rw [reach, calls_runSched, calls_init]

/-- in a quiescent state every goroutine has an answer for every one of its calls -/
theorem once_quiescent_all_answered (zero : T) (out : Nat → Out T) (progs sched : List Nat)
    (hq : (reach zero out progs sched).quiescent = true) :
    (reach zero out progs sched).threads.map (fun t => t.results.length) = progs := by
  refine Eq.trans ?_ (once_accounting zero out progs sched)
  simp only [Sys.quiescent, List.all_eq_true] at hq
  refine List.map_congr_left fun t ht => ?_
  rw [Thread.eq_of_quiet (hq t ht)]
  rfl

/-- No deadlock, no starvation: EVERY fair schedule — a concatenation of at least `6 · (total number of calls)`
    blocks, each of which gives every goroutine at least one turn — ends in a quiescent state: every call of
    every goroutine has been answered (also when `f` panics: the deferred `Unlock` releases the waiters). -/
theorem once_fair_quiescent (zero : T) (out : Nat → Out T) (progs : List Nat) (blocks : List (List Nat))
    (hfair : ∀ b ∈ blocks, Covers progs.length b) (hlen : 6 * progs.sum ≤ blocks.length) :
    (reach zero out progs blocks.flatten).quiescent = true := by
  apply fair_quiescent blocks (init zero progs) (inv_init zero out progs)
  · intro b hb
    have : (init zero progs).threads.length = progs.length := by simp [init]
    rw [this]; exact hfair b hb
  · rw [measure_init]; exact hlen

/-- in particular round-robin -/
theorem once_roundRobin_quiescent (zero : T) (out : Nat → Out T) (progs : List Nat) (rounds : Nat)
    (hr : 6 * progs.sum ≤ rounds) :
    (reach zero out progs (roundRobin progs.length rounds)).quiescent = true := by
  rw [roundRobin_eq]
  apply once_fair_quiescent
  · intro b hb
    rw [List.eq_of_mem_replicate hb]
    intro i hi
    exact List.mem_range.mpr hi
  · simpa using hr

/-- The whole story for a complete run (round-robin): every goroutine got exactly as many answers as it made
    calls, `f` was started at most once, every returned value is the memo, at most one call saw the panic. -/
theorem once_complete (zero : T) (out : Nat → Out T) (progs : List Nat) (rounds : Nat)
    (hr : 6 * progs.sum ≤ rounds) :
    let s := reach zero out progs (roundRobin progs.length rounds)
    s.threads.map (fun t => t.results.length) = progs
    ∧ s.runs ≤ 1
    ∧ (∀ t ∈ s.threads, ∀ v, Res.returned v ∈ t.results → v = memoVal zero out)
    ∧ sumW wPan s.threads ≤ 1 :=
  ⟨once_quiescent_all_answered zero out progs _ (once_roundRobin_quiescent zero out progs rounds hr),
   once_runs_le_one zero out progs _,
   fun t ht v hv => once_returns_agree zero out progs _ t ht v hv,
   once_panic_at_most_one zero out progs _⟩

/-- … and in a complete run in which at least one call was made and `f` panicked, EXACTLY one call observed the
    panic (the panic is not swallowed), all the others returned the zero value. -/
theorem once_complete_panic_exactly_one (zero : T) (out : Nat → Out T) (progs sched : List Nat)
    (hq : (reach zero out progs sched).quiescent = true) (hpos : 0 < progs.sum)
    (p : PanicVal) (hout : out 0 = .panic p) :
    sumW wPan (reach zero out progs sched).threads = 1 := by
  have hinv := reach_inv zero out progs sched
  have hall := once_quiescent_all_answered zero out progs sched hq
  have hdone : (reach zero out progs sched).done = true := by
    rw [← hall] at hpos
    obtain ⟨j, t, hj, hlen⟩ := exists_pos_of_sumW_pos (fun t => t.results.length) _ hpos
    obtain ⟨-, hdone, -, -⟩ := hinv.thr j t hj
    exact hdone (List.ne_nil_of_length_pos hlen)
  rw [← wPanic_of_quiescent _ hq, hinv.pan, hdone, hout]
  rfl

-- non-vacuity ---------------------------------------------------------------------------------------------------

/-- `f` panics "7" the first time (and would return 42 afterwards): 3 goroutines × 2 calls, round-robin -/
def outFlaky : Nat → Out Nat := fun k => if k = 0 then .panic "7" else .value 42

example : (reach 0 outFlaky [2, 2, 2] (roundRobin 3 12)).quiescent = true := by decide +kernel
example : (reach 0 outFlaky [2, 2, 2] (roundRobin 3 12)).runs = 1 := by decide +kernel
example : (reach 0 outFlaky [2, 2, 2] (roundRobin 3 12)).threads.map (fun t => t.results)
    = [[.panicked "7", .returned 0], [.returned 0, .returned 0], [.returned 0, .returned 0]] := by decide +kernel
/-- a schedule in which goroutine 1 is blocked on the mutex while goroutine 0 runs the panicking `f` -/
example : ((reach 0 outFlaky [1, 1] [0, 1, 0, 1, 1, 0, 0, 1]).threads.map (fun t => t.pc matches .locking))
    = [false, true] := by decide +kernel
example : (reach 0 outFlaky [1, 1] [0, 1, 0, 1, 1, 0, 0, 1, 0, 0, 1, 1]).threads.map (fun t => t.results)
    = [[.panicked "7"], [.returned 0]] := by decide +kernel
/-- a fair schedule that is not round-robin (goroutine 1 first, goroutine 0 twice per block: 0 overtakes 1 at the mutex) -/
example : (reach 0 outFlaky [1, 1] (List.replicate 12 [1, 0, 0]).flatten).quiescent = true := by decide +kernel
example : (reach 0 outFlaky [1, 1] (List.replicate 12 [1, 0, 0]).flatten).threads.map (fun t => t.results)
    = [[.panicked "7"], [.returned 0]] := by decide +kernel
/-- the hypotheses of `once_complete_panic_exactly_one` are satisfiable, and its conclusion computed -/
example : sumW wPan (reach 0 outFlaky [2, 2, 2] (roundRobin 3 12)).threads = 1 := by decide +kernel
/-- a returning `f` -/
example : (reach 0 (fun _ => Out.value 5) [1, 3] (roundRobin 2 12)).threads.map (fun t => t.results)
    = [[.returned 5], [.returned 5, .returned 5, .returned 5]] := by decide +kernel

/-- MUTANT `stepNoLock` (a `Once` whose slow path does not take the mutex): two goroutines both start `f`; the
    statement of `once_runs_le_one` fails. -/
theorem mutant_noLock_runs_twice :
    ([0, 1, 0, 1, 0, 1].foldl (stepNoLock outFlaky) (init 0 [1, 1])).runs = 2 := by decide +kernel

end FpVerif.Spec.C16Panic
