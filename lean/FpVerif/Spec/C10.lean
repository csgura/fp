import FpVerif.Lemmas.TCOrd
import FpVerif.Spec.C09
/-!
# C10 — Ord instances are strict total orders; sorting is an ordered permutation.

`StrictTotal o` (Lemmas/TCLaws.lean) bundles what the property demands of an `fp.Ord`: exactly one
of `Less(a,b)`, `Less(b,a)`, `Eqv(a,b)`; `Less` transitive; `Eqv` (the instance's own) transitive;
`Compare`, `LessEq`, `Min`, `Max` consistent with `Less`.

* `*_strictTotal` : every instance / combinator of package ord is `StrictTotal`, given `StrictTotal`
  components (user supplied functions: given that they are a strict weak order / a lawful three-way
  comparison);
* `*_less_iff`    : sequences, tuples and hlists compare lexicographically, `None`/nil first,
  `ThenComparing` only breaks ties, `Reversed` flips;
* `oinst_strictTotal` : every instance expression (any nesting depth, every tuple arity);
* `*Sort_spec`, `foldMin_spec`, `foldMax_spec` : `Sort` on Seq/Iterator/List returns an ordered
  permutation (for every sorting routine satisfying `SortSpec`, which merge sort does), `Min`/`Max`
  return a least/greatest element, or `None` exactly for the empty input;
* `seqAsIs_*` : `ord.Seq` as it was in the library before fix cbf2a21 is not antisymmetric.
-/
namespace FpVerif.Spec.C10
open FpVerif.TC

variable {α β τ : Type}

-- ============================================================================ built-in orders

/-- the built-in `<` of an `ImplicitOrd` type is a strict linear order -/
structure LinearLT (α : Type) [LT α] [DecidableRel (α := α) (· < ·)] : Prop where
  irrefl : ∀ a : α, ¬ a < a
  trans : ∀ a b c : α, a < b → b < c → a < c
  total : ∀ a b : α, a < b ∨ a = b ∨ b < a

theorem linearLT_int : LinearLT Int := ⟨fun a => Int.lt_irrefl a, fun _ _ _ => Int.lt_trans, fun a b => by omega⟩

theorem linearLT_int64 : LinearLT Int64 where
  irrefl _ := Int64.lt_irrefl
  trans _ _ _ := Int64.lt_trans
  total a b := by
    by_cases h : a = b
    · exact Or.inr (Or.inl h)
    · rcases Int64.lt_or_lt_of_ne h with h | h
      · exact Or.inl h
      · exact Or.inr (Or.inr h)

theorem linearLT_string : LinearLT String where
  irrefl a := String.lt_irrefl a
  trans _ _ _ := String.lt_trans
  total a b := by
    by_cases h1 : a < b
    · exact Or.inl h1
    · by_cases h2 : b < a
      · exact Or.inr (Or.inr h2)
      · exact Or.inr (Or.inl (String.le_antisymm (String.not_lt.mp h2) (String.not_lt.mp h1)))

theorem LinearLT.strictWeak [LT α] [DecidableRel (α := α) (· < ·)] (h : LinearLT α) :
    StrictWeak fun a b : α => decide (a < b) := strictWeak_of_linear h.irrefl h.trans h.total

section sign
variable {p : α → α → Prop} [DecidableRel p]

/-- `ord.Given` and `ord.Time` are written as the same three-way comparison by a decidable relation `p`. -/
theorem signCompare_less (a b : α) :
    (OrdD.compareFunc fun a b => if p a b then -1 else if p b a then 1 else 0).less a b = decide (p a b) := by
  simp only [OrdD.less]
  by_cases h1 : p a b
  · simp [h1]
  · by_cases h2 : p b a <;> simp [h1, h2]

theorem signCompare_strictTotal (h : StrictWeak fun a b => decide (p a b)) :
    StrictTotal (OrdD.compareFunc fun a b => if p a b then -1 else if p b a then 1 else 0) := by
  apply strictTotal_of
  · have hless : (OrdD.compareFunc fun a b => if p a b then -1 else if p b a then 1 else 0).less =
        fun a b => decide (p a b) := funext fun a => funext (signCompare_less a)
    rw [hless]
    exact h
  · intro a b
    rw [signCompare_less]
    simp only [OrdD.compare, decide_eq_true_eq]
    by_cases h1 : p a b
    · have : ¬ p b a := of_decide_eq_false (h.asymm a b (decide_eq_true h1))
      simp [h1, this]
    · by_cases h2 : p b a <;> simp [h1, h2]
end sign

section given
variable [LT α] [DecidableRel (α := α) (· < ·)]

theorem given_less_iff (a b : α) : (OrdD.given : OrdD α).less a b = true ↔ a < b := by
  rw [OrdD.given, signCompare_less, decide_eq_true_eq]

/-- `ord.Given` (`fp.LessGiven`) : the built-in order; `Eqv` is `==`. -/
theorem given_strictTotal (h : LinearLT α) : StrictTotal (OrdD.given : OrdD α) :=
  signCompare_strictTotal h.strictWeak

theorem given_eqv_iff (h : LinearLT α) (a b : α) : (OrdD.given : OrdD α).eqv a b = true ↔ a = b := by
  rw [(given_strictTotal h).eqv_iff, ← Bool.not_eq_true, ← Bool.not_eq_true, given_less_iff, given_less_iff]
  constructor
  · intro ⟨h1, h2⟩
    exact ((h.total a b).resolve_left h1).resolve_right h2
  · intro e; subst e; exact ⟨h.irrefl a, h.irrefl a⟩
end given

/-- `ord.Time` : by instant. -/
theorem time_strictTotal : StrictTotal OrdD.time :=
  signCompare_strictTotal (p := fun a b : TimeV => a.instant < b.instant) (linearLT_int.strictWeak.comap TimeV.instant)

theorem hnil_strictTotal : StrictTotal OrdD.hnil :=
  new_strictTotal
    { irrefl := fun _ => rfl, trans := fun _ _ _ h _ => by simp at h, incomp_trans := fun _ _ _ _ _ _ _ => ⟨rfl, rfl⟩ }
    (fun a b => by simp [EqD.given])

-- ============================================================================ user supplied functions

/-- `as.Ord(less)` : a `LessFunc` is a strict total order when `less` is a strict weak order. -/
theorem asOrd_strictTotal {less : α → α → Bool} (h : StrictWeak less) : StrictTotal (OrdD.asOrd less) :=
  lessFunc_strictTotal h

/-- a lawful three-way comparison -/
structure CmpLawful (cmp : α → α → Int) : Prop where
  weak : StrictWeak fun a b => decide (cmp a b < 0)
  antisymm : ∀ a b, 0 < cmp a b ↔ cmp b a < 0

/-- `ord.FromCompare(cmp)` -/
theorem fromCompare_strictTotal {cmp : α → α → Int} (h : CmpLawful cmp) : StrictTotal (OrdD.fromCompare cmp) :=
  strictTotal_of h.weak fun a b => by simp [OrdD.fromCompare, OrdD.compare, OrdD.less, h.antisymm]

/-- `ord.New(eqv, less)` : `less` a strict weak order and `eqv` its incomparability relation -/
theorem new_strictTotal_spec {eqv : EqD α} {less : α → α → Bool} (hsw : StrictWeak less)
    (heq : ∀ a b, eqv.eqv a b = true ↔ (less a b = false ∧ less b a = false)) :
    StrictTotal (OrdD.new eqv less) := new_strictTotal hsw heq

-- ============================================================================ combinators

/-- `ord.Tuple1` -/
theorem tuple1_strictTotal {o : OrdD α} (h : StrictTotal o) : StrictTotal (OrdD.tuple1 o) :=
  new_strictTotal (h.strictWeak.comap T1.i1) fun a b => h.eqv_iff a.i1 b.i1

theorem tuple1_less (o : OrdD α) (h : StrictTotal o) (a b : T1 α) : (OrdD.tuple1 o).less a b = o.less a.i1 b.i1 :=
  new_less (fun a b => h.eqv_iff a.i1 b.i1) a b

theorem lex_heq {o : OrdD α} {p : OrdD τ} (h1 : StrictTotal o) (h2 : StrictTotal p) (a b : α × τ) :
    (o.eqv a.1 b.1 && p.eqv a.2 b.2) = true ↔
      (lexLess o.less p.less a b = false ∧ lexLess o.less p.less b a = false) := by
  rw [lexLess_incomp_iff, Bool.and_eq_true, h1.eqv_iff, h2.eqv_iff]

/-- `ord.TupleN` (N ≥ 2) -/
theorem tupleN_strictTotal {o : OrdD α} {p : OrdD τ} (h1 : StrictTotal o) (h2 : StrictTotal p) :
    StrictTotal (OrdD.tupleN o p) :=
  new_strictTotal (h1.strictWeak.lex h2.strictWeak) (lex_heq h1 h2)

theorem tupleN_less {o : OrdD α} {p : OrdD τ} (h1 : StrictTotal o) (h2 : StrictTotal p) (a b : α × τ) :
    (OrdD.tupleN o p).less a b = lexLess o.less p.less a b :=
  new_less (lex_heq h1 h2) a b

/-- tuples compare lexicographically: by the first component, ties by the remaining ones -/
theorem tupleN_less_iff {o : OrdD α} {p : OrdD τ} (h1 : StrictTotal o) (h2 : StrictTotal p) (a b : α × τ) :
    (OrdD.tupleN o p).less a b = true ↔
      (o.less a.1 b.1 = true ∨ (o.eqv a.1 b.1 = true ∧ p.less a.2 b.2 = true)) := by
  rw [tupleN_less h1 h2, lexLess_iff, h1.eqv_iff]

theorem tupleN_eqv_iff {o : OrdD α} {p : OrdD τ} (h1 : StrictTotal o) (h2 : StrictTotal p) (a b : α × τ) :
    (OrdD.tupleN o p).eqv a b = true ↔ (o.eqv a.1 b.1 = true ∧ p.eqv a.2 b.2 = true) := by
  rw [OrdD.tupleN, new_eqv (lex_heq h1 h2)]
  exact Bool.and_eq_true_iff

theorem hcons_eq_tupleN (o : OrdD α) (p : OrdD τ) : OrdD.hcons o p = OrdD.tupleN o p := rfl

/-- `ord.HCons` -/
theorem hcons_strictTotal {o : OrdD α} {p : OrdD τ} (h1 : StrictTotal o) (h2 : StrictTotal p) :
    StrictTotal (OrdD.hcons o p) :=
  hcons_eq_tupleN o p ▸ tupleN_strictTotal h1 h2

theorem hcons_less_iff {o : OrdD α} {p : OrdD τ} (h1 : StrictTotal o) (h2 : StrictTotal p) (a b : α × τ) :
    (OrdD.hcons o p).less a b = true ↔
      (o.less a.1 b.1 = true ∨ (o.eqv a.1 b.1 = true ∧ p.less a.2 b.2 = true)) :=
  hcons_eq_tupleN o p ▸ tupleN_less_iff h1 h2 a b

theorem option_eq (m : OrdD α) : OrdD.option m = OrdD.lessFunc (optLess m.less) := by
  unfold OrdD.option
  congr
  funext t1 t2
  cases t1 <;> cases t2 <;> rfl

/-- `ord.Option` : `None` first, then by content -/
theorem option_strictTotal {m : OrdD α} (h : StrictTotal m) : StrictTotal (OrdD.option m) := by
  rw [option_eq]
  exact lessFunc_strictTotal h.strictWeak.opt

theorem option_less (m : OrdD α) (a b : Option α) : (OrdD.option m).less a b = optLess m.less a b := by
  rw [option_eq]
  rfl

theorem ptr_eq (o : Unit → OrdD α) :
    OrdD.ptr o = OrdD.new (EqD.ptr fun _ => (o ()).toEq)
      (fun a b => optLess (o ()).less (a.map Ref.val) (b.map Ref.val)) := by
  unfold OrdD.ptr
  congr
  funext a b
  cases a <;> cases b <;> rfl

theorem ptr_heq {o : Unit → OrdD α} (h : StrictTotal (o ())) (a b : Ptr α) :
    (EqD.ptr fun _ => (o ()).toEq).eqv a b = true ↔
      (optLess (o ()).less (a.map Ref.val) (b.map Ref.val) = false ∧
       optLess (o ()).less (b.map Ref.val) (a.map Ref.val) = false) := by
  rw [C09.ptr_eqv_iff, optLess_incomp_iff, optRel_map]
  exact OptRel.congr (fun x y => h.eqv_iff x.val y.val) a b

/-- `ord.Ptr` : nil first, then by target (the pointer identity plays no role) -/
theorem ptr_strictTotal {o : Unit → OrdD α} (h : StrictTotal (o ())) : StrictTotal (OrdD.ptr o) := by
  rw [ptr_eq]
  exact new_strictTotal (h.strictWeak.opt.comap fun a : Ptr α => a.map Ref.val) (ptr_heq h)

theorem ptr_less (o : Unit → OrdD α) (h : StrictTotal (o ())) (a b : Ptr α) :
    (OrdD.ptr o).less a b = optLess (o ()).less (a.map Ref.val) (b.map Ref.val) := by
  rw [ptr_eq]
  exact new_less (ptr_heq h) a b

theorem seq_heq {o : OrdD α} (h : StrictTotal o) (a b : List α) :
    (EqD.seq o.toEq).eqv a b = true ↔ (OrdD.seqLess o a b = false ∧ OrdD.seqLess o b a = false) := by
  rw [FpVerif.TC.seq_eqv_iff, seqLess_incomp_iff]
  exact pointwise_congr fun x y => h.eqv_iff x y

/-- `ord.Seq` (as the property demands it) -/
theorem seq_strictTotal {o : OrdD α} (h : StrictTotal o) : StrictTotal (OrdD.seq o) :=
  new_strictTotal h.strictWeak.seq (seq_heq h)

theorem seq_less (o : OrdD α) (h : StrictTotal o) (a b : List α) : (OrdD.seq o).less a b = OrdD.seqLess o a b :=
  new_less (seq_heq h) a b

/-- sequences compare lexicographically: the first position with non-equivalent elements decides;
    if there is none, the shorter sequence comes first. -/
theorem seq_less_iff {o : OrdD α} (h : StrictTotal o) :
    (∀ ys : List α, (OrdD.seq o).less [] ys = true ↔ ys ≠ []) ∧
    (∀ xs : List α, (OrdD.seq o).less xs [] = false) ∧
    (∀ (x y : α) (xs ys : List α), (OrdD.seq o).less (x :: xs) (y :: ys) = true ↔
      (o.less x y = true ∨ (o.eqv x y = true ∧ (OrdD.seq o).less xs ys = true))) := by
  refine ⟨fun ys => ?_, fun xs => ?_, fun x y xs ys => ?_⟩
  · rw [seq_less o h, seqLess_nil_left]; cases ys <;> simp
  · rw [seq_less o h, seqLess_nil_right]
  · rw [seq_less o h, seq_less o h, seqLess_cons, lexLess_iff, h.eqv_iff]

theorem seq_eqv_iff {o : OrdD α} (h : StrictTotal o) (a b : List α) :
    (OrdD.seq o).eqv a b = true ↔ Pointwise (fun x y => o.eqv x y = true) a b := by
  rw [OrdD.seq, new_eqv (seq_heq h), FpVerif.TC.seq_eqv_iff]
  rfl

/-- `ord.ContraMap` : the order of the images -/
theorem contraMap_strictTotal {o : OrdD β} (h : StrictTotal o) (fn : α → β) : StrictTotal (OrdD.contraMap o fn) :=
  new_strictTotal (h.strictWeak.comap fn) fun a b => h.eqv_iff (fn a) (fn b)

theorem contraMap_less (o : OrdD β) (h : StrictTotal o) (fn : α → β) (a b : α) :
    (OrdD.contraMap o fn).less a b = o.less (fn a) (fn b) :=
  new_less (fun a b => h.eqv_iff (fn a) (fn b)) a b

/-- `ord.Slice` -/
theorem slice_strictTotal {o : OrdD α} (h : StrictTotal o) : StrictTotal (OrdD.slice o) :=
  contraMap_strictTotal (seq_strictTotal h) id

/-- `ord.GivenField` -/
theorem givenField_strictTotal [LT β] [DecidableRel (α := β) (· < ·)] (h : LinearLT β) (getter : α → β) :
    StrictTotal (OrdD.givenField getter) :=
  contraMap_strictTotal (given_strictTotal h) getter

theorem thenComparing_compare (o p : OrdD α) (a b : α) :
    (o.thenComparing p).compare a b = if o.compare a b = 0 then p.compare a b else o.compare a b := by
  show (if (o.compare a b == 0) = true then p.compare a b else o.compare a b) = _
  by_cases h : o.compare a b = 0 <;> simp [h]

/-- the `Less` of `ThenComparing` : first order, ties (first order's `Eqv`) by the second -/
theorem thenComparing_less_iff {o p : OrdD α} (h1 : StrictTotal o) (a b : α) :
    (o.thenComparing p).less a b = true ↔ (o.less a b = true ∨ (o.eqv a b = true ∧ p.less a b = true)) := by
  rw [← OrdD.compare_neg_iff, thenComparing_compare]
  have hn := h1.compare_neg a b
  have hz := h1.compare_zero a b
  have hp := p.compare_neg_iff a b
  by_cases c0 : o.compare a b = 0
  · have : ¬ o.compare a b < 0 := by omega
    have hl : ¬ o.less a b = true := fun hx => this (hn.mpr hx)
    simp only [c0, ↓reduceIte, hp]
    simp [hz.mp c0, hl]
  · have : ¬ o.eqv a b = true := fun he => c0 (hz.mpr he)
    simp [c0, hn, this]

/-- `ThenComparing` only breaks ties: where the first order decides, the second is not consulted -/
theorem thenComparing_of_less {o p : OrdD α} (h1 : StrictTotal o) (a b : α) (h : o.less a b = true) :
    (o.thenComparing p).less a b = true ∧ (o.thenComparing p).less b a = false := by
  constructor
  · exact (thenComparing_less_iff h1 a b).mpr (Or.inl h)
  · have hsw := h1.strictWeak
    cases hx : (o.thenComparing p).less b a with
    | false => rfl
    | true =>
      rcases (thenComparing_less_iff h1 b a).mp hx with h2 | ⟨h2, _⟩
      · have := hsw.asymm a b h; simp [h2] at this
      · have := ((h1.eqv_iff b a).mp h2).2; simp [h] at this

theorem thenComparing_strictTotal {o p : OrdD α} (h1 : StrictTotal o) (h2 : StrictTotal p) :
    StrictTotal (o.thenComparing p) := by
  have hl : (o.thenComparing p).less = fun a b => lexLess o.less p.less (a, a) (b, b) :=
    funext fun a => funext fun b => Bool.eq_iff_iff.mpr <| by
      rw [thenComparing_less_iff h1, lexLess_iff, h1.eqv_iff]
  apply strictTotal_of
  · rw [hl]
    exact (h1.strictWeak.lex h2.strictWeak).comap fun a => (a, a)
  · intro a b
    rw [thenComparing_less_iff h1 b a, thenComparing_compare]
    have hp1 := h1.compare_pos a b
    have hz := h1.compare_zero a b
    have hp2 := h2.compare_pos a b
    by_cases c0 : o.compare a b = 0
    · have he := hz.mp c0
      have : o.less b a = false := ((h1.eqv_iff a b).mp he).2
      simp [c0, hp2, this, h1.eqv_symm a b he]
    · have : ¬ o.eqv b a = true := fun he => c0 (hz.mpr (h1.eqv_symm b a he))
      simp [c0, hp1, this]

/-- `Reversed` (the code after fix d4da40a): `CompareFunc.Reversed` compares the SWAPPED operands (`r.Compare(b, a)`); it does not
    negate the result: in Go `-math.MinInt == math.MinInt`, so negation does not reverse every sign, while on the model's
    unbounded `Int` it would (audit finding 8).  `LessFunc.Reversed` negates: its `Compare` is -1 / 0 / 1. -/
theorem reversed_compare_compareFunc (r : α → α → Int) (a b : α) :
    (OrdD.compareFunc r).reversed.compare a b = r b a := rfl

theorem reversed_compare_lessFunc (r : α → α → Bool) (a b : α) :
    (OrdD.lessFunc r).reversed.compare a b = - (OrdD.lessFunc r).compare a b := rfl

/-- the sign-level statement that holds for both constructors: the reversed comparison is negative exactly when the original
    comparison OF THE SWAPPED OPERANDS is negative -/
theorem reversed_compare_neg (o : OrdD α) (a b : α) (h : StrictTotal o) :
    o.reversed.compare a b < 0 ↔ o.compare b a < 0 := by
  cases o with
  | compareFunc r => exact Iff.rfl
  | lessFunc r =>
    rw [reversed_compare_lessFunc, h.compare_neg b a, ← h.compare_pos a b]
    omega

theorem reversed_less (o : OrdD α) (a b : α) (h : StrictTotal o) : o.reversed.less a b = o.less b a :=
  Bool.eq_iff_iff.mpr <|
    (o.reversed.compare_neg_iff a b).symm.trans ((reversed_compare_neg o a b h).trans (h.compare_neg b a))

/-- `Reversed` keeps the equivalence (for a strict total order: `Eqv` is symmetric) -/
theorem reversed_eqv (o : OrdD α) (a b : α) (h : StrictTotal o) : o.reversed.eqv a b = o.eqv a b := by
  cases o with
  | compareFunc r => exact Bool.eq_iff_iff.mpr ⟨h.eqv_symm b a, h.eqv_symm a b⟩
  | lessFunc r =>
    show (- (OrdD.lessFunc r).compare a b == 0) = ((OrdD.lessFunc r).compare a b == 0)
    exact Bool.eq_iff_iff.mpr (by rw [beq_iff_eq, beq_iff_eq, Int.neg_eq_zero])

/-- the positive counterpart of `reversed_compare_neg` -/
theorem reversed_compare_pos (o : OrdD α) (a b : α) (h : StrictTotal o) :
    0 < o.reversed.compare a b ↔ 0 < o.compare b a := by
  cases o with
  | compareFunc r => exact Iff.rfl
  | lessFunc r =>
    rw [reversed_compare_lessFunc, h.compare_pos b a, ← h.compare_neg a b]
    omega

theorem reversed_strictTotal {o : OrdD α} (h : StrictTotal o) : StrictTotal o.reversed := by
  have hl : o.reversed.less = fun a b => o.less b a := funext fun a => funext fun b => reversed_less o a b h
  apply strictTotal_of
  · rw [hl]
    exact h.strictWeak.flip
  · intro a b
    rw [reversed_less o b a h]
    exact (reversed_compare_pos o a b h).trans (h.compare_pos b a)

/-- the Go-level reason for the fix, as a statement about machine integers: negation does not reverse the sign of `Int64`'s
    least value, swapping the operands needs no negation at all -/
theorem int64_neg_min : -(Int64.minValue) = Int64.minValue := by decide

-- ============================================================================ every instance expression

/-- Typed instance expressions of package ord (+ `as.Ord`, `ThenComparing`, `Reversed`). User supplied
    functions come with the evidence that they are orders. -/
inductive OInst : Type → Type 1 where
  | givenInt : OInst Int
  | givenInt64 : OInst Int64
  | givenString : OInst String
  | time : OInst TimeV
  | hnil : OInst Unit
  | tuple1 {α : Type} (i : OInst α) : OInst (T1 α)
  | tupleN {α τ : Type} (i : OInst α) (rest : OInst τ) : OInst (α × τ)
  | option {α : Type} (i : OInst α) : OInst (Option α)
  | seq {α : Type} (i : OInst α) : OInst (List α)
  | slice {α : Type} (i : OInst α) : OInst (List α)
  | hcons {α τ : Type} (h : OInst α) (t : OInst τ) : OInst (α × τ)
  | ptr {α : Type} (i : OInst α) : OInst (Ptr α)
  | contraMap {α β : Type} (i : OInst β) (fn : α → β) : OInst α
  | givenFieldInt64 {α : Type} (getter : α → Int64) : OInst α
  | givenFieldString {α : Type} (getter : α → String) : OInst α
  | asOrd {α : Type} (less : α → α → Bool) (h : StrictWeak less) : OInst α
  | fromCompare {α : Type} (cmp : α → α → Int) (h : CmpLawful cmp) : OInst α
  | new {α : Type} (eqv : EqD α) (less : α → α → Bool) (hsw : StrictWeak less)
      (heq : ∀ a b, eqv.eqv a b = true ↔ (less a b = false ∧ less b a = false)) : OInst α
  | thenComparing {α : Type} (i j : OInst α) : OInst α
  | reversed {α : Type} (i : OInst α) : OInst α

def OInst.denote : {α : Type} → OInst α → OrdD α
  | _, .givenInt => OrdD.given
  | _, .givenInt64 => OrdD.given
  | _, .givenString => OrdD.given
  | _, .time => OrdD.time
  | _, .hnil => OrdD.hnil
  | _, .tuple1 i => OrdD.tuple1 i.denote
  | _, .tupleN i rest => OrdD.tupleN i.denote rest.denote
  | _, .option i => OrdD.option i.denote
  | _, .seq i => OrdD.seq i.denote
  | _, .slice i => OrdD.slice i.denote
  | _, .hcons h t => OrdD.hcons h.denote t.denote
  | _, .ptr i => OrdD.ptr fun _ => i.denote
  | _, .contraMap i fn => OrdD.contraMap i.denote fn
  | _, .givenFieldInt64 g => OrdD.givenField g
  | _, .givenFieldString g => OrdD.givenField g
  | _, .asOrd less _ => OrdD.asOrd less
  | _, .fromCompare cmp _ => OrdD.fromCompare cmp
  | _, .new eqv less _ _ => OrdD.new eqv less
  | _, .thenComparing i j => i.denote.thenComparing j.denote
  | _, .reversed i => i.denote.reversed

/-- Every Ord instance expression is a strict total order. -/
theorem oinst_strictTotal : ∀ {α : Type} (i : OInst α), StrictTotal i.denote := by
  intro α i
  induction i with
  | givenInt => exact given_strictTotal linearLT_int
  | givenInt64 => exact given_strictTotal linearLT_int64
  | givenString => exact given_strictTotal linearLT_string
  | time => exact time_strictTotal
  | hnil => exact hnil_strictTotal
  | tuple1 _ ih => exact tuple1_strictTotal ih
  | tupleN _ _ ih1 ih2 => exact tupleN_strictTotal ih1 ih2
  | option _ ih => exact option_strictTotal ih
  | seq _ ih => exact seq_strictTotal ih
  | slice _ ih => exact slice_strictTotal ih
  | hcons _ _ ih1 ih2 => exact hcons_strictTotal ih1 ih2
  | ptr _ ih => exact ptr_strictTotal ih
  | contraMap _ fn ih => exact contraMap_strictTotal ih fn
  | givenFieldInt64 g => exact givenField_strictTotal linearLT_int64 g
  | givenFieldString g => exact givenField_strictTotal linearLT_string g
  | asOrd _ h => exact asOrd_strictTotal h
  | fromCompare _ h => exact fromCompare_strictTotal h
  | new _ _ hsw heq => exact new_strictTotal hsw heq
  | thenComparing _ _ ih1 ih2 => exact thenComparing_strictTotal ih1 ih2
  | reversed _ ih => exact reversed_strictTotal ih

/-- non-vacuity: a user supplied order that is not injective (residues mod 3) and a nested expression -/
example : StrictWeak fun a b : Int => decide (a % 3 < b % 3) :=
  linearLT_int.strictWeak.comap fun a : Int => a % 3

example : StrictTotal (OrdD.tupleN (OrdD.given : OrdD Int64)
    (OrdD.tupleN (OrdD.seq (OrdD.option (OrdD.given : OrdD String))) (OrdD.tuple1 (OrdD.given : OrdD Int64).reversed))) :=
  oinst_strictTotal (.tupleN .givenInt64 (.tupleN (.seq (.option .givenString)) (.tuple1 (.reversed .givenInt64))))

-- ============================================================================ Sort / Min / Max

/-- What is assumed of the standard library's `sort.Sort`: handed a strict weak order it returns an
    ordered permutation. (An hypothesis of the theorems below, not an axiom.) -/
def SortSpec (impl : SortImpl α) : Prop :=
  ∀ (less : α → α → Bool), StrictWeak less → ∀ xs : List α,
    (impl less xs).Perm xs ∧ (impl less xs).Pairwise (fun a b => less b a = false)

/-- the hypothesis is satisfiable: merge sort -/
theorem sortSpec_mergeSort : SortSpec (fun less (xs : List α) => xs.mergeSort fun a b => !less b a) := by
  intro less h xs
  refine ⟨List.mergeSort_perm xs _, ?_⟩
  have := List.pairwise_mergeSort (le := fun a b => !less b a)
    (fun a b c h1 h2 => by
      simp only [Bool.not_eq_eq_eq_not, Bool.not_true] at h1 h2 ⊢
      exact h.neg_trans c b a h2 h1)
    (fun a b => by
      cases hab : less a b with
      | false => simp
      | true => simp [h.asymm a b hab]) xs
  exact this.imp fun hx => by simpa using hx

/-- `seq.Sort`, `iterator.Sort`, `list.Sort` return a permutation of the input in which no element
    is `Less` than an earlier one; the result depends on the instance only through `Less`. -/
theorem seqSort_spec {impl : SortImpl α} (hs : SortSpec impl) {o : OrdD α} (ho : StrictTotal o) (r : List α) :
    (seqSort impl r o).Perm r ∧ (seqSort impl r o).Pairwise (fun a b => o.less b a = false) :=
  hs o.less ho.strictWeak r

theorem iteratorSort_spec {impl : SortImpl α} (hs : SortSpec impl) {o : OrdD α} (ho : StrictTotal o) (r : List α) :
    (iteratorSort impl r o).Perm r ∧ (iteratorSort impl r o).Pairwise (fun a b => o.less b a = false) :=
  hs o.less ho.strictWeak r

theorem listSort_spec {impl : SortImpl α} (hs : SortSpec impl) {o : OrdD α} (ho : StrictTotal o) (r : List α) :
    (listSort impl r o).Perm r ∧ (listSort impl r o).Pairwise (fun a b => o.less b a = false) :=
  hs o.less ho.strictWeak r

theorem sort_agree (impl : SortImpl α) (o : OrdD α) (r : List α) :
    seqSort impl r o = iteratorSort impl r o ∧ iteratorSort impl r o = listSort impl r o := ⟨rfl, rfl⟩

/-- invariant of the `Min` fold -/
def MinInv (o : OrdD α) (acc : Option α) (seen : List α) : Prop :=
  match acc with
  | none => seen = []
  | some m => m ∈ seen ∧ ∀ x ∈ seen, o.less x m = false

theorem minStep_inv {o : OrdD α} (hsw : StrictWeak o.less) {acc : Option α} {seen : List α} (v : α)
    (h : MinInv o acc seen) : MinInv o (minStep o acc v) (seen ++ [v]) := by
  cases acc with
  | none =>
    have hs : seen = [] := h
    subst hs
    exact ⟨List.mem_singleton.mpr rfl, fun x hx => List.mem_singleton.mp hx ▸ hsw.irrefl v⟩
  | some m =>
    have ⟨hm, hle⟩ : m ∈ seen ∧ ∀ x ∈ seen, o.less x m = false := h
    show MinInv o (if o.less m v = true then some m else some v) (seen ++ [v])
    cases hmv : o.less m v with
    | true =>
      -- the old minimum stays: it is not above the new element
      rw [if_pos rfl]
      refine ⟨List.mem_append_left _ hm, fun x hx => ?_⟩
      rcases List.mem_append.mp hx with hx | hx
      · exact hle x hx
      · rw [List.mem_singleton.mp hx]
        exact hsw.asymm m v hmv
    | false =>
      -- the new element takes over: whatever was not below `m` is not below `v`
      rw [if_neg Bool.false_ne_true]
      refine ⟨List.mem_append_right _ (List.mem_singleton.mpr rfl), fun x hx => ?_⟩
      rcases List.mem_append.mp hx with hx | hx
      · exact hsw.neg_trans x m v (hle x hx) hmv
      · rw [List.mem_singleton.mp hx]
        exact hsw.irrefl v

theorem foldl_minStep {o : OrdD α} (hsw : StrictWeak o.less) (r : List α) :
    ∀ (acc : Option α) (seen : List α), MinInv o acc seen → MinInv o (r.foldl (minStep o) acc) (seen ++ r) := by
  induction r with
  | nil => intro acc seen h; rwa [List.append_nil]
  | cons v vs ih =>
    intro acc seen h
    rw [List.foldl_cons, List.append_cons]
    exact ih _ _ (minStep_inv hsw v h)

/-- the `Min` fold needs of the instance only that its `Less` is a strict weak order -/
theorem foldMin_spec_of_strictWeak {o : OrdD α} (hsw : StrictWeak o.less) (r : List α) :
    match foldMin r o with
    | none => r = []
    | some m => m ∈ r ∧ ∀ x ∈ r, o.less x m = false :=
  foldl_minStep hsw r none [] rfl

/-- `Min` (Seq, Iterator, List): `None` exactly for the empty input, otherwise an element of the
    input that no element is `Less` than. -/
theorem foldMin_spec {o : OrdD α} (ho : StrictTotal o) (r : List α) :
    match foldMin r o with
    | none => r = []
    | some m => m ∈ r ∧ ∀ x ∈ r, o.less x m = false :=
  foldMin_spec_of_strictWeak ho.strictWeak r

/-- `Max` is `Min` for the flipped `Less` -/
theorem foldMax_eq_foldMin (r : List α) (o : OrdD α) : foldMax r o = foldMin r (.lessFunc fun a b => o.less b a) := by
  have : maxStep o = minStep (.lessFunc fun a b => o.less b a) := by
    funext acc v
    cases acc <;> rfl
  rw [foldMax, this, foldMin]

theorem foldMax_spec {o : OrdD α} (ho : StrictTotal o) (r : List α) :
    match foldMax r o with
    | none => r = []
    | some m => m ∈ r ∧ ∀ x ∈ r, o.less m x = false := by
  rw [foldMax_eq_foldMin]
  exact foldMin_spec_of_strictWeak (o := .lessFunc fun a b => o.less b a) ho.strictWeak.flip r

-- ============================================================================ the library before fix cbf2a21

/-- `ord.Seq` as written before fix cbf2a21 has no `if ord.Less(b[i], a[i]) { return false }` in its loop, so a later
    position can overrule an earlier one: `[2,1] < [1,2]` and `[1,2] < [2,1]` both hold. -/
theorem seqAsIs_not_antisymmetric :
    (OrdD.seqAsIs (OrdD.given : OrdD Int)).less [2, 1] [1, 2] = true ∧
    (OrdD.seqAsIs (OrdD.given : OrdD Int)).less [1, 2] [2, 1] = true := by decide

theorem seqAsIs_not_strictTotal : ¬ StrictTotal (OrdD.seqAsIs (OrdD.given : OrdD Int)) := fun h => by
  have := h.strictWeak.asymm [2, 1] [1, 2] seqAsIs_not_antisymmetric.1
  simp [seqAsIs_not_antisymmetric.2] at this

end FpVerif.Spec.C10
