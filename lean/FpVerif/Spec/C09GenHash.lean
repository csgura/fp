import FpVerif.Gen.TCGen
import FpVerif.Lemmas.TCGenCheck
import FpVerif.Lemmas.GoSemLoops
import FpVerif.Spec.C09Gen
/-!
# C09 — the HAND-WRITTEN combinators of `hash/hash_op.go`, TRANSLATED from the source on every run, are the model
# definitions

Conventions: `Spec/C09Gen.lean`.  The `Eq` half of every `hash` instance is the translated `eq` combinator (the Go code
passes the `fp.Hashable` where an `fp.Eq` is wanted: `.toEq`), so these theorems rest on those of `Spec/C09Gen`.
`hash.Bytes` (hash/fnv) is an exception; `hashUint64` (a `for cond {}` loop, unexported) is not translated: `hash.Number`
calls the model's `HashD.hashUint64`.
-/
namespace FpVerif.Spec.C09GenHash
open FpVerif.TC FpVerif.GoSem FpVerif.Gen.TC FpVerif.Spec.C09Gen

variable {T U A H : Type}

-- hash/hash_op.go ----------------------------------------------------------------------------------------------------

theorem hash_hasher_Hash_is_model [GoZero T] (e : EqD T) (f : T → UInt32) : hash_hasher_Hash e f = (HashD.mk e f).hash := rfl
theorem hash_New_is_model [GoZero T] (e : EqD T) (f : T → UInt32) : hash_New e f = HashD.new e f := rfl
/-- `hash.Number` at the two integer carriers of the model (`hashUint64` itself, a `for cond {}` loop, is not translated) -/
theorem hash_Number_int_is_model : (hash_Number : HashD Int) = HashD.numberInt := rfl
theorem hash_Number_int64_is_model : (hash_Number : HashD Int64) = HashD.numberInt64 := rfl
theorem hash_Tuple1_is_model [GoZero A] (i : HashD A) : hash_Tuple1 i = HashD.tuple1 i := rfl
theorem hash_HNil_is_model : hash_HNil = HashD.hnil := rfl
theorem hash_ContraMap_is_model [GoZero T] [GoZero U] (teq : HashD T) (fn : U → T) :
    hash_ContraMap teq fn = HashD.contraMap teq fn := rfl

theorem hash_HCons_is_model [GoZero H] [HListT T] [GoZero T] (heq : HashD H) (teq : HashD T) :
    hash_HCons heq teq = HashD.hcons heq teq := rfl

/-- the callee `seq.Fold` (accumulator loop `for _, v := range s { sum = f(sum, v) }`) is `foldl` — proved -/
theorem seq_Fold_is_model {B : Type} [GoZero A] [GoZero B] (s : List A) (zero : B) (f : B → A → B) :
    seq_Fold s zero f = s.foldl f zero := by
  unfold seq_Fold; exact forAcc_idx_eq_foldl f s zero

/-- proved: FNV-1 by index over the bytes of the string is the model's `foldl` over the byte list -/
theorem hash_String_is_model : hash_String = HashD.string := by
  unfold hash_String HashD.string
  rw [hash_New_is_model, eq_Given_is_model]
  congr 1; funext value
  exact forAcc_idx_eq_foldl (fun h (b : UInt8) => (h * HashD.prime32) ^^^ b.toUInt32) (strBytes value) HashD.offset32

theorem hash_Seq_is_model [GoZero T] (hashT : HashD T) : hash_Seq hashT = HashD.seq hashT := by
  unfold hash_Seq HashD.seq
  rw [hash_New_is_model, eq_Seq_is_model]
  congr 1; funext a
  exact seq_Fold_is_model _ _ _

theorem hash_Slice_is_model [GoZero T] (hashT : HashD T) : hash_Slice hashT = HashD.slice hashT := by
  unfold hash_Slice HashD.slice; rw [hash_ContraMap_is_model, hash_Seq_is_model]

theorem hash_Ptr_is_model [GoZero T] (hashT : Unit → HashD T) : hash_Ptr hashT = HashD.ptr hashT := by
  unfold hash_Ptr HashD.ptr
  rw [hash_New_is_model, eq_Ptr_is_model]
  congr 1; funext a
  cases a <;> rfl

theorem hash_Option_is_model [GoZero T] (hashT : HashD T) : hash_Option hashT = HashD.option hashT := by
  unfold hash_Option HashD.option
  rw [hash_New_is_model, eq_Option_is_model]
  congr 1; funext a
  cases a <;> rfl

-- what the ties buy: laws of Spec/C09 hold for the translated code ---------------------------------------------------

theorem hash_Seq_lawful [GoZero T] {h : HashD T} (hl : LawfulHash h) : LawfulHash (hash_Seq h) := by
  rw [hash_Seq_is_model]; exact FpVerif.Spec.C09.hash_seq_lawful hl

theorem hash_Option_lawful [GoZero T] {h : HashD T} (hl : LawfulHash h) : LawfulHash (hash_Option h) := by
  rw [hash_Option_is_model]; exact FpVerif.Spec.C09.hash_option_lawful hl

theorem hash_String_lawful : LawfulHash hash_String := by
  rw [hash_String_is_model]; exact FpVerif.Spec.C09.string_lawful

/-- the hypotheses are satisfiable -/
example : LawfulHash (hash_Seq (hash_Option hash_String)) := hash_Seq_lawful (hash_Option_lawful hash_String_lawful)

end FpVerif.Spec.C09GenHash

-- every translated declaration of this file has its tie theorem above (fails the build otherwise)
#tc_ties FpVerif.Spec.C09GenHash "hash."
