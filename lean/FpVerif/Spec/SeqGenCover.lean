import FpVerif.Gen.SeqGen
/-!
# C12 / C01 / C11 — coverage of the translation tie for the eager `Seq` functions

`harness/cmd/seq2lean` lists in `FpVerif/Gen/SeqGen.lean` (regenerated from the working tree on every check)

* `found`        every exported function, and every exported method of an exported type, with a body in `seq.go` and
                 `seq/seq_op.go`;
* `translated`   those it translated (each has its theorem `…_eq` in `Spec/C12SeqGen.lean`; the check at the end of that
                 file fails the build if one is missing);
* `untranslated` those outside the fragment, with the translator's reason.

The lists below are fixed under version control.  A NEW exported function added to one of the two files is `found`; it
is then either translated (`translated_as_expected` fails: there is no theorem for it) or untranslated
(`exceptions_as_expected` fails: it is not a listed exception).  A listed function that disappears, or one that leaves
the fragment after an edit, fails the same theorems.
-/
namespace FpVerif.Spec.SeqGenCover
open FpVerif.Gen.SeqGen

/-- the exceptions: functions that stay tied by the differential harnesses only, WITH REASONS -/
def exceptions : List (String × String) := [
  ("fp.IteratorOfOption", "builds an fp.Iterator (closures over mutable captured state): the machine `It.ofOption`, C12 `ofOption_represents`, cmd/iter"),
  ("fp.IteratorOfSeq", "builds an fp.Iterator (closures over a mutable index): the machine `It.ofSeq`, C12 `ofSeq_represents`, cmd/iter"),
  ("fp.Seq.MakeString", "bytes.Buffer / fmt.Sprint (standard library, reflection-based formatting); cmd/coll"),
  ("fp.SliceCasting", "a conversion between named slice types over a TYPE PARAMETER (`To(a)`); identity on values, nothing to compute"),
  ("seq.Collect", "consumes an fp.Iterator (`for r.HasNext()`): `It.toSeq`, C12 `toSeq_eq`, cmd/iter"),
  ("seq.Distinct", "Go map as a mutable set captured by the fold closure; Model/ListX, cmd/listx"),
  ("seq.FilterNil", "pointers (`option.Ptr`): a pointer has an identity; cmd/coll"),
  ("seq.FoldFuture", "fp.Future / fp.Promise: asynchronous, C06"),
  ("seq.FromMap", "range over a Go map: no iteration order that is a function of the value; cmd/listx compares as sets"),
  ("seq.FromMapKeys", "range over a Go map"),
  ("seq.FromMapValues", "range over a Go map"),
  ("seq.GroupBy", "Go map result mutated in place by the fold closure (`b[k] = b[k].Append(a)`); the association-list reference `It.groupInsert` (C12 `groupBy_eq`) is tied by cmd/iter, cmd/listx"),
  ("seq.Iterator", "returns an fp.Iterator (fp.IteratorOfSeq)"),
  ("seq.Sort", "sort.Sort of the standard library over a copied slice: C10 `seqSort_spec`, Model/SliceHeap, cmd/seqheap"),
  ("seq.ToGoMap", "Go map result"),
  ("seq.ToGoSet", "Go map result (mutable.Set)"),
  ("seq.ToMap", "fp.Map via immutable.MapBuilder (HAMT: C03)"),
  ("seq.ToSet", "fp.Set via immutable.SetBuilder (HAMT: C03)")]

/-- what is expected to be translated; every entry has its `…_eq` theorem in `Spec/C12SeqGen.lean` -/
def expectedTranslated : List String := [
  "fp.Seq.Add", "fp.Seq.Append", "fp.Seq.Concat", "fp.Seq.Drop", "fp.Seq.Exists", "fp.Seq.Filter", "fp.Seq.FilterNot",
  "fp.Seq.Find", "fp.Seq.FlatMap", "fp.Seq.ForAll", "fp.Seq.Foreach", "fp.Seq.Get", "fp.Seq.Head", "fp.Seq.Init",
  "fp.Seq.IsEmpty", "fp.Seq.Last", "fp.Seq.Map", "fp.Seq.NonEmpty", "fp.Seq.Reverse", "fp.Seq.Size", "fp.Seq.Tail",
  "fp.Seq.Take", "fp.Seq.UnSeq", "fp.Seq.Widen", "seq.Ap", "seq.Compose", "seq.ComposePure", "seq.Concat", "seq.Empty",
  "seq.FilterMap", "seq.FlatMap", "seq.Flatten", "seq.Fold", "seq.FoldError", "seq.FoldMap", "seq.FoldOption",
  "seq.FoldRight", "seq.FoldTry", "seq.Head", "seq.Init", "seq.Last", "seq.Lift", "seq.LiftM", "seq.Map", "seq.Map2",
  "seq.Max", "seq.Min", "seq.Of", "seq.Partition", "seq.Pure", "seq.Reduce", "seq.Scan", "seq.Size", "seq.Span",
  "seq.Tail", "seq.Zip", "seq.ZipWithIndex"]

/-- the translator translated exactly the functions the theorems of `Spec/C12SeqGen.lean` speak about -/
theorem translated_as_expected : translated = expectedTranslated := by rfl

/-- … and what it left out is exactly the listed exceptions -/
theorem exceptions_as_expected : untranslated.map Prod.fst = exceptions.map Prod.fst := by rfl

/-- coverage: the translator's lists are one list split by a flag — every exported function found in the two files is
    EITHER translated OR untranslated (= a listed exception), never both -/
theorem coverage_found : found = foundFlags.map Prod.fst := by rfl

theorem coverage_translated : translated = (foundFlags.filter fun p => p.2).map Prod.fst := by rfl

theorem coverage_untranslated : untranslated.map Prod.fst = (foundFlags.filter fun p => !p.2).map Prod.fst := by rfl

theorem coverage_count : found.length = expectedTranslated.length + exceptions.length := by decide +kernel

end FpVerif.Spec.SeqGenCover
