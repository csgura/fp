import FpVerif.Lemmas.Arity
import FpVerif.Spec.C01Inst
/-!
# C14 — arity-indexed families compute their defining equation at every arity

Every theorem below is proved ONCE FOR ALL N by induction on the arity index of the model
(`Model/Arity.lean`, which follows the recursion of the generator templates), for arbitrary
arguments and arbitrary effectful callbacks (`GoM`: may log, may panic), so "the callback is invoked
exactly once, with argument i in position i" is part of each equation.  Hypotheses such as
`args.length = n + 1` say that the call is well typed in Go; the branch Go's type checker rules out
is stated separately (`…_arity`); where a family has both, they are the two cases of one equation on
arbitrary argument lists (`…_eq`, by `arityRec`).  The member at Go arity `N = n + 1` is the model at index `n`.
-/
namespace FpVerif.Spec.C14
open FpVerif MonadFamily FpVerif.Arity

variable {A R : Type}

-- tuples: accessors return exactly the fields, in order

theorem tuple_head_tail (a : A) (t : List A) :
    tupHead (a :: t) = some a ∧ tupTail (a :: t) = t := ⟨rfl, rfl⟩

/-- `Init` followed by `Last` is the whole tuple: nothing dropped, duplicated or reordered. -/
theorem tuple_init_last (t : List A) (h : t ≠ []) :
    ∃ l, tupLast t = some l ∧ tupInit t ++ [l] = t := by
  refine ⟨t.getLast h, ?_, ?_⟩
  · simp [tupLast, List.getLast?_eq_some_getLast h]
  · simp [tupInit, List.dropLast_concat_getLast]

theorem tuple_init_length (t : List A) : (tupInit t).length = t.length - 1 := by simp [tupInit]
theorem tuple_tail_length (t : List A) : (tupTail t).length = t.length - 1 := by simp [tupTail]

/-- field `i` of `Init()` is field `i` of the tuple -/
theorem tuple_init_get (t : List A) (i : Nat) (hi : i < t.length - 1) :
    (tupInit t)[i]? = t[i]? := by
  simp only [tupInit]
  rw [List.getElem?_dropLast]
  simp [hi]

/-- field `i` of `Tail()` is field `i+1` of the tuple -/
theorem tuple_tail_get (t : List A) (i : Nat) : (tupTail t)[i]? = t[i + 1]? := by
  cases t <;> simp [tupTail]

theorem tuple_unapply (t : List A) : tupUnapply t = t := rfl
theorem tuple_mk (args : List A) : mkTuple args = args := rfl

-- curried functions

/-- `curried.FuncN(f)` applied to any argument list: with exactly N arguments one call of `f`, arguments in order,
    and no other effect; with too few or too many `f` is never called -/
theorem curry_apply_eq (n : Nat) (args : List A) : ∀ f : NFun A R,
    applyCur n (curry n f) args = if args.length = n + 1 then f args else arityPanic := by
  induction n, args using arityRec with
  | nil n => simp
  | one a => intro f; rfl
  | many a b as => intro f; rfl
  | step n a as ih =>
    intro f
    simp only [applyCur_succ, curry_succ, pure_bind_cur, ih, List.length_cons, Nat.add_right_cancel_iff]

/-- `curried.FuncN(f)(a1)…(aN) = f(a1,…,aN)`: one call of `f`, arguments in order, and no other effect. -/
theorem curry_apply (n : Nat) (f : NFun A R) (args : List A) (h : args.length = n + 1) :
    applyCur n (curry n f) args = f args := by
  rw [curry_apply_eq, if_pos h]

/-- `curried.RevertN(curried.FuncN(f)) = f` on every well-typed argument list -/
theorem revert_curry (n : Nat) (f : NFun A R) (args : List A) (h : args.length = n + 1) :
    revert n (curry n f) args = f args := curry_apply n f args h

/-- the branch excluded by Go's types: with too few or too many arguments `f` is never called -/
theorem curry_apply_arity (n : Nat) (f : NFun A R) (args : List A) (h : args.length ≠ n + 1) :
    applyCur n (curry n f) args = arityPanic := by
  rw [curry_apply_eq, if_neg h]

/-- `as.CurriedN` is the same function as `curried.FuncN` (its recursion bottoms out one level earlier) -/
theorem asCurried_eq_curry (n : Nat) (f : NFun A R) : asCurried n f = curry (n + 1) f := by
  induction n generalizing f with
  | zero => rfl
  | succ n ih => funext a; simp [ih]

/-- `as.CurriedN(f)(a1)…(aN) = f(a1,…,aN)` -/
theorem asCurried_apply (n : Nat) (f : NFun A R) (args : List A) (h : args.length = n + 2) :
    applyCur (n + 1) (asCurried n f) args = f args := by
  rw [asCurried_eq_curry]; exact curry_apply (n + 1) f args h

/-- currying an uncurried curried function changes nothing observable once all arguments are there -/
theorem curry_revert_apply (n : Nat) (g : CurF A R n) (args : List A) (h : args.length = n + 1) :
    applyCur n (curry n (revert n g)) args = applyCur n g args := curry_apply n _ args h

theorem lastToFront_snoc (as : List A) (a : A) : lastToFront (as ++ [a]) = a :: as := by
  simp [lastToFront]

theorem headToBack_cons (a : A) (as : List A) : headToBack (a :: as) = as ++ [a] := rfl

/-- `curried.FlipK` (K = n+1, a function of n+2 arguments): the flipped function applied to
    `(a2,…,aN,a1)` is `f` applied to `(a1,a2,…,aN)` — the first argument moves to the last position,
    all others keep their order; `f`'s levels run once each, only when the last argument arrives. -/
theorem flip_apply (n : Nat) (f : CurF A R (n + 1)) (a1 : A) (rest : List A) (h : rest.length = n + 1) :
    applyCur (n + 1) (Arity.flip n f) (rest ++ [a1]) = applyCur (n + 1) f (a1 :: rest) := by
  have hl : (rest ++ [a1]).length = n + 1 + 1 := by simp [h]
  rw [Arity.flip, curry_apply (n + 1) _ _ hl, lastToFront_snoc]

/-- the permutation, index by index: argument `i+1` of `f` is argument `i` of the flipped call,
    `f`'s first is its last -/
theorem flip_perm (rest : List A) (a1 : A) :
    (lastToFront (rest ++ [a1]))[0]? = some a1 ∧
    ∀ i, i < rest.length → (lastToFront (rest ++ [a1]))[i + 1]? = (rest ++ [a1])[i]? := by
  rw [lastToFront_snoc]
  refine ⟨rfl, fun i hi => ?_⟩
  simp [List.getElem?_append_left hi]

/-- hand-written two-argument `Flip`: `Flip(f)(b)(a) = f(a)(b)`; it is the template `FlipK` at K = 1
    (`flip1 f` unfolds to `flip 0 f`) -/
theorem flip1_apply (f : CurF A R 1) (a b : A) :
    applyCur 1 (flip1 f) [b, a] = applyCur 1 f [a, b] := flip_apply 0 f a [b] rfl

theorem fpFlip2_apply (f : NFun A R) (a b : A) : applyCur 1 (fpFlip2 f) [b, a] = f [a, b] := by
  -- `erw` (also below, at literal arities): `g b` with `g : Cur A R 1` types only up to unfolding `Cur`;
  -- `pure_bind_cur` does not fire
  simp only [fpFlip2, applyCur_succ]; erw [pure_bind]; rfl

/-- `curried.SlipLN`: applied to `(aN,a1,…,a(N-1))` it is `f` applied to `(a1,…,a(N-1),aN)` — the last
    argument moves to the first position. -/
theorem slipL_apply (n : Nat) (f : CurF A R (n + 1)) (aN : A) (init : List A) (h : init.length = n + 1) :
    applyCur (n + 1) (slipL n f) (aN :: init) = applyCur (n + 1) f (init ++ [aN]) := by
  have hl : (aN :: init).length = n + 1 + 1 := by simp [h]
  rw [slipL, curry_apply (n + 1) _ _ hl, headToBack_cons]

/-- `SlipL` undoes `Flip` and vice versa (on full applications) -/
theorem slipL_flip_apply (n : Nat) (f : CurF A R (n + 1)) (a1 : A) (rest : List A) (h : rest.length = n + 1) :
    applyCur (n + 1) (slipL n (Arity.flip n f)) (a1 :: rest) = applyCur (n + 1) f (a1 :: rest) := by
  rw [slipL_apply n _ a1 rest h, flip_apply n f a1 rest h]

/-- `curried.FlipApplyK(f, a2,…,aN)(a1) = f(a1)(a2)…(aN)` -/
theorem flipApply_apply (n : Nat) (f : CurF A R (n + 1)) (a1 : A) (rest : List A) :
    flipApply n f rest a1 = applyCur (n + 1) f (a1 :: rest) := rfl

/-- `curried.ComposeN(f, g)(a1)…(aN) = g(f(a1)…(aN))` -/
theorem composeCur_apply {GA GR : Type} (n : Nat) (f : CurF A GA (n + 1)) (g : GA → GoM GR) (args : List A)
    (h : args.length = n + 2) :
    applyCur (n + 1) (composeCur n f g) args = (do let r ← applyCur (n + 1) f args; g r) := by
  induction n generalizing args with
  | zero =>
    match args, h with
    | [a, b], _ =>
      simp only [applyCur_succ, composeCur_zero]; erw [pure_bind]
      simp only [bind_assoc]; rfl
  | succ n ih =>
    match args, h with
    | a :: as, h =>
      have h' : as.length = n + 2 := by simpa using h
      simp only [applyCur_succ, composeCur_succ, bind_assoc]
      refine bind_congr fun x => ?_
      rw [pure_bind_cur]
      exact ih x as h'

-- fp: ApplyFirstN / ApplyLastN / Widen / ComposeN / IdN, as: FuncN / SupplierN / UnTupledN / Tupled2

/-- `r.ApplyFirstK(a1…a(N-1))(aN) = r(a1…aN)` -/
theorem applyFirst_def (f : NFun A R) (firsts : List A) (last : A) :
    applyFirst f firsts last = f (firsts ++ [last]) := rfl

/-- `r.ApplyLastK(a2…aN)(a1) = r(a1…aN)` -/
theorem applyLast_def (f : NFun A R) (rest : List A) (a1 : A) : applyLast f rest a1 = f (a1 :: rest) := rfl

theorem widen_def (f : NFun A R) : widen f = f := rfl
theorem asFunc_def (f : NFun A R) : asFunc f = f := rfl
theorem supplier_def (f : NFun A R) (args : List A) : supplier f args () = f args := rfl
theorem unTupled_def (f : NFun A R) (args : List A) : unTupled f args = f args := rfl
theorem tupled_def (f : NFun A R) (t : List A) : tupled f t = f t := rfl

/-- left-to-right composition of a list of functions -/
def pipeline : List (A → GoM A) → A → GoM A
  | [], a => pure a
  | f :: fs, a => do let b ← f a; pipeline fs b

/-- `fp.ComposeN(f1,…,fN)(a) = fN(…f2(f1(a)))`: every `fi` is applied once, left to right. -/
theorem composeN_pipeline (fs : List (A → GoM A)) (h : 2 ≤ fs.length) (a : A) :
    composeN fs a = pipeline fs a := by
  match fs, h with
  | [f, g], _ => simp [compose2, pipeline]
  | f :: g :: h :: fs, _ =>
    have ih := fun b => composeN_pipeline (g :: h :: fs) (by simp) b
    simp only [composeN_cons, compose2, pipeline, ih]
termination_by fs.length

theorem composeN_arity (fs : List (A → GoM A)) (h : fs.length < 2) (a : A) : composeN fs a = arityPanic := by
  match fs, h with
  | [], _ => rfl
  | [_], _ => rfl

/-- `fp.IdN(a1,…,a(N-1), r) = r` -/
theorem idN_def (init : List A) (r : A) : idN (init ++ [r]) = some r := by simp [idN]

-- hlist

theorem hlistOf_eq (n : Nat) (args : List A) :
    hlistOf n args = if args.length = n + 1 then some args else none := by
  induction n, args using arityRec with
  | nil n => simp
  | one a => rfl
  | many a b as => rfl
  | step n a as ih =>
    simp only [hlistOf_succ, ih, List.length_cons, Nat.add_right_cancel_iff]
    split <;> rfl

/-- `hlist.OfN(a1,…,aN)` is the list `a1 :: … :: aN :: Nil` -/
theorem hlistOf_def (n : Nat) (args : List A) (h : args.length = n + 1) : hlistOf n args = some args := by
  rw [hlistOf_eq, if_pos h]

theorem hlistOf_arity (n : Nat) (args : List A) (h : args.length ≠ n + 1) : hlistOf n args = none := by
  rw [hlistOf_eq, if_neg h]

theorem hcase_eq (n : Nat) (hl : List A) : ∀ f : NFun A R,
    hcase n hl f = if n + 1 ≤ hl.length then f (hl.take (n + 1)) else arityPanic := by
  induction n, hl using arityRec with
  | nil n => simp
  | one a => intro f; rfl
  | many a b as => intro f; simp
  | step n a as ih =>
    intro f
    simp only [hcase_succ, ih, List.length_cons, Nat.add_le_add_iff_right, List.take_succ_cons]

/-- `hlist.CaseN(hl, f) = f(hl[0], …, hl[N-1])`: `f` is called once, with the first N elements in
    order, whatever follows them in the list. -/
theorem hcase_def (n : Nat) (hl : List A) (f : NFun A R) (h : n + 1 ≤ hl.length) :
    hcase n hl f = f (hl.take (n + 1)) := by
  rw [hcase_eq, if_pos h]

theorem hcase_arity (n : Nat) (hl : List A) (f : NFun A R) (h : hl.length < n + 1) :
    hcase n hl f = arityPanic := by
  rw [hcase_eq, if_neg (Nat.not_le.mpr h)]

theorem hlift_eq (n : Nat) (v : List A) : ∀ f : NFun A R,
    hlift n f v = if v.length = n + 1 then f v else arityPanic := by
  induction n, v using arityRec with
  | nil n => simp
  | one a => intro f; rfl
  | many a b as => intro f; rfl
  | step n a as ih =>
    intro f
    simp only [hlift_succ, ih, List.length_cons, Nat.add_right_cancel_iff]

/-- `hlist.LiftN(f)(v) = f(v[0], …, v[N-1])` -/
theorem hlift_def (n : Nat) (f : NFun A R) (v : List A) (h : v.length = n + 1) : hlift n f v = f v := by
  rw [hlift_eq, if_pos h]

theorem hrift_eq (n : Nat) (v : List A) : ∀ f : NFun A R,
    hrift n f v = if v.length = n + 1 then f v.reverse else arityPanic := by
  induction n, v using arityRec with
  | nil n => simp
  | one a => intro f; rfl
  | many a b as => intro f; rfl
  | step n a as ih =>
    intro f
    simp only [hrift_succ, ih, List.length_cons, Nat.add_right_cancel_iff, List.reverse_cons]

/-- `hlist.RiftN(f)(v) = f(v[N-1], …, v[0])`: the reversed list is fed to `f` back to front -/
theorem hrift_def (n : Nat) (f : NFun A R) (v : List A) (h : v.length = n + 1) :
    hrift n f v = f v.reverse := by
  rw [hrift_eq, if_pos h]

/-- `RiftN(f)` on the reversed list is `LiftN(f)` on the list -/
theorem hrift_reverse (n : Nat) (f : NFun A R) (v : List A) (h : v.length = n + 1) :
    hrift n f v.reverse = hlift n f v := by
  rw [hrift_def n f _ (by simpa using h), hlift_def n f v h, List.reverse_reverse]

/-- `hlist.ReverseN(hl)` is the reversed list -/
theorem hreverse_def (n : Nat) (hl : List A) (h : hl.length = n + 1) : hreverse n hl = pure hl.reverse := by
  have ht : hl.take (n + 1) = hl := by rw [← h]; exact List.take_length
  simp [hreverse, hcase_def n hl _ (by omega), ht, hlistOf_def n hl.reverse (by simpa using h)]

/-- reversing twice is the identity -/
theorem hreverse_hreverse (n : Nat) (hl : List A) (h : hl.length = n + 1) :
    (do let r ← hreverse n hl; hreverse n r) = pure hl := by
  simp [hreverse_def n hl h, hreverse_def n hl.reverse (by simpa using h)]

-- as.HListN, product.TupleFromHListN / LabelledFromHListN / FlattenN / LiftN

theorem asHList_def (n : Nat) (t : List A) (h : t.length = n + 1) : asHList n t = some t := by
  induction n, t, h using stepsRec with
  | one a => rfl
  | step n a rest h' _ => simp [hlistOf_def n rest h']

theorem asHListLabelled_def (n : Nat) (t : List A) (h : t.length = n + 1) : asHListLabelled n t = some t :=
  hlistOf_def n t h

theorem tupleFromHList_eq (n : Nat) (l : List A) :
    tupleFromHList n l = if l.length = n + 1 then some l else none := by
  induction n, l using arityRec with
  | nil n => simp
  | one a => rfl
  | many a b as => rfl
  | step n a as ih =>
    simp only [tupleFromHList_succ, ih, List.length_cons, Nat.add_right_cancel_iff]
    split <;> rfl

/-- `product.TupleFromHListN(l)` has exactly the elements of `l` as its fields, in order -/
theorem tupleFromHList_def (n : Nat) (l : List A) (h : l.length = n + 1) : tupleFromHList n l = some l := by
  rw [tupleFromHList_eq, if_pos h]

theorem tupleFromHList_arity (n : Nat) (l : List A) (h : l.length ≠ n + 1) : tupleFromHList n l = none := by
  rw [tupleFromHList_eq, if_neg h]

theorem tupleFromHList_cons {n : Nat} {a : A} {xs ys : List A} (h : some ys = tupleFromHList n xs) :
    some (a :: ys) = tupleFromHList (n + 1) (a :: xs) := congrArg (Option.map (a :: ·)) h

/-- `product.TupleFromHListN(as.HListN(t)) = t` -/
theorem tupleFromHList_asHList (n : Nat) (t : List A) (h : t.length = n + 1) :
    (asHList n t).bind (tupleFromHList n) = some t := by
  simp [asHList_def n t h, tupleFromHList_def n t h]

theorem tupleFromHList_of_asHList (n : Nat) {t h r : List A} (hr : some r = tupleFromHList n h)
    (hh : some h = asHList n t) (ht : t.length = n + 1) : r = t := by
  have := tupleFromHList_asHList n t ht
  rw [← hh, Option.bind_some, ← hr] at this
  exact Option.some.inj this

/-- `as.HListN(product.TupleFromHListN(l)) = l` -/
theorem asHList_tupleFromHList (n : Nat) (l : List A) (h : l.length = n + 1) :
    (tupleFromHList n l).bind (asHList n) = some l := by
  simp [asHList_def n l h, tupleFromHList_def n l h]

/-- `product.TupleFromHListN(hlist.OfN(a1…aN)) = (a1,…,aN)` -/
theorem tupleFromHList_hlistOf (n : Nat) (args : List A) (h : args.length = n + 1) :
    (hlistOf n args).bind (tupleFromHList n) = some args := by
  simp [hlistOf_def n args h, tupleFromHList_def n args h]

/-- `product.FlattenN` of the right-nested pair encoding of `l` is the flat tuple `l` -/
theorem flatten_def (n : Nat) (l : List A) (h : l.length = n + 3) :
    (Nest.ofList l).bind (flatten n) = some l := by
  induction n generalizing l with
  | zero =>
    match l, h with
    | [a, b, c], _ => rfl
  | succ n ih =>
    match l, h with
    | a :: b :: c :: rest, h =>
      have h' : (b :: c :: rest).length = n + 3 := by simpa using h
      have := ih (b :: c :: rest) h'
      cases hn : Nest.ofList (b :: c :: rest) with
      | none => simp [hn] at this
      | some t =>
        simp [hn] at this
        simp [hn, this]

-- fn1.MergeN, unit.FuncN, lazy.TailCallN

/-- the `fi(a)` run in order, once each -/
theorem merge_cons (f : A → GoM A) (fs : List (A → GoM A)) (a : A) :
    merge (f :: fs) a = (do let x ← f a; let xs ← merge fs a; pure (x :: xs)) := by
  simp [merge, List.mapM_cons]

theorem merge_nil (a : A) : merge ([] : List (A → GoM A)) a = pure [] := by simp [merge]

/-- `merge_cons` under a continuation: rewriting with it walks down `fs` without re-associating any bind -/
theorem merge_cons_bind {β : Type} (f : A → GoM A) (fs : List (A → GoM A)) (a : A) (k : List A → GoM β) :
    merge (f :: fs) a >>= k = f a >>= fun x => merge fs a >>= fun xs => k (x :: xs) := by
  simp [merge_cons]

theorem unitFunc_def (f : List A → GoM Unit) (args : List A) : unitFunc f args = f args := by
  simp [unitFunc]

/-- `lazy.TailCallN(f, a1…aN)` evaluates to what `f(a1…aN)` evaluates to; `f` is called when the
    result is run, not when it is built (it sits under `tailCall`'s thunk). -/
theorem tailCallN_run {T : Type} [Inhabited T] (f : List A → EvalM.Eval T) (args : List A) :
    EvalM.run (tailCallN f args) = EvalM.run (f args) := by
  simp [tailCallN, EvalM.tailCall, EvalM.run, EvalM.callFirst]

-- try.FuncN / PureN / UnitN / PtrN and their curried forms

theorem tryFunc_ok (f : List A → GoM (R × Err)) (args : List A) (r : R) (h : f args = pure (r, .nil)) :
    tryFunc f args = pure (.success r) := by simp [tryFunc, h, TryM.apply]

theorem tryFunc_err (f : List A → GoM (R × Err)) (args : List A) (r : R) (e : Err) (he : e ≠ .nil)
    (h : f args = pure (r, e)) : tryFunc f args = pure (.failure e) := by
  simp [tryFunc, h, TryM.apply, he]

theorem tryPtr_nil (f : List A → GoM (Option R × Err)) (args : List A) (h : f args = pure (none, .nil)) :
    tryPtr f args = pure (.failure .optionEmpty) := by
  simp [tryPtr, h, TryM.apply, TryM.flatMap, fromPtr]

theorem tryPtr_some (f : List A → GoM (Option R × Err)) (args : List A) (r : R)
    (h : f args = pure (some r, .nil)) : tryPtr f args = pure (.success r) := by
  simp [tryPtr, h, TryM.apply, TryM.flatMap, fromPtr]

/-- `try.CurriedN(f)(a1)…(aN) = try.FuncN(f)(a1,…,aN)` (and likewise for the Pure/Unit/Ptr forms) -/
theorem tryCurried_apply (n : Nat) (f : List A → GoM (R × Err)) (args : List A) (h : args.length = n + 2) :
    applyCur (n + 1) (tryCurried n f) args = tryFunc f args := asCurried_apply n _ args h
theorem tryCurriedPure_apply (n : Nat) (f : NFun A R) (args : List A) (h : args.length = n + 2) :
    applyCur (n + 1) (tryCurriedPure n f) args = tryPure f args := asCurried_apply n _ args h
theorem tryCurriedUnit_apply (n : Nat) (f : List A → GoM Err) (args : List A) (h : args.length = n + 2) :
    applyCur (n + 1) (tryCurriedUnit n f) args = tryUnit f args := asCurried_apply n _ args h
theorem tryCurriedPtr_apply (n : Nat) (f : List A → GoM (Option R × Err)) (args : List A) (h : args.length = n + 2) :
    applyCur (n + 1) (tryCurriedPtr n f) args = tryPtr f args := asCurried_apply n _ args h

-- option / try builders: ApplicativeN … and ChainN …

section builders
variable {M : Type → Type} (V : VMonad M)

theorem optV_ops : optV.ops = OptM.ops := rfl
theorem tryV_ops : tryV.ops = TryM.ops := rfl
theorem optV_lawful : (optV.ops).Lawful := C01.option_lawful
theorem tryV_lawful : (tryV.ops).Lawful := C01.try_lawful

/-- the operand of a step that does not look at earlier values, as a computation: values are
    effect-free, suppliers run when (and only when) the chain reaches them -/
def operandC : Step M A → GoM (M A)
  | .apM a => pure a
  | .ap a => pure (V.vpure a)
  | .apOpt a => pure (V.fromOption a)
  | .apMFunc s => s ()
  | .apOptFunc s => do let x ← s (); pure (V.fromOption x)
  | .apFunc s => do let x ← s (); pure (V.vpure x)
  | _ => arityPanic

/-- the methods `ApplicativeFunctorN` has -/
def Step.isAp : Step M A → Bool
  | .flatMap _ | .map _ | .hlistFlatMap _ | .hlistMap _ => false
  | _ => true

theorem ops_flatMap_pure {α β : Type} (t : M α) (k : α → GoM (M β)) :
    V.ops.flatMap (pure t) k = V.vbind t k := pure_bind t _

theorem bind_ops_flatMap {α β : Type} (X : GoM (M α)) (k : α → GoM (M β)) :
    (X >>= fun t => V.ops.flatMap (pure t) k) = V.ops.flatMap X k := bind_congr fun t => ops_flatMap_pure V t k

theorem apStep_eq {n : Nat} (fn : ApSt M A R n) (s : Step M A) (h : Step.isAp s = true) :
    apStep V fn s = V.ops.flatMap (pure fn) (fun fab => MonadFamily.map V.ops (operandC V s) fab) := by
  cases s <;> first | rfl | cases h

/-- every `ApplicativeFunctorN` chain binds its state once, before anything else: a failed builder runs nothing -/
theorem runApplicativeFrom_bind (L : V.ops.Lawful) (n : Nat) (steps : List (Step M A))
    (hl : steps.length = n + 1) (hs : ∀ s ∈ steps, Step.isAp s = true) : ∀ fn : ApSt M A R n,
    runApplicativeFrom V n fn steps
      = V.ops.flatMap (pure fn) (fun g => runApplicativeFrom V n (V.vpure g) steps) := by
  induction n, steps, hl using stepsRec with
  | one s =>
    intro fn
    simp only [runApplicativeFrom_zero, apStep_eq V _ s (hs s (by simp))]
    exact congrArg _ (funext fun g => (L.left_id g _).symm)
  | step n s ss _ ih =>
    intro fn
    have hs' : ∀ s ∈ ss, Step.isAp s = true := fun x hx => hs x (by simp [hx])
    simp only [runApplicativeFrom_succ, apStep_eq V _ s (hs s (by simp))]
    -- the rest of the chain binds its state first (`ih`), so it can move under the bind of `fn`
    rw [funext (ih hs'), bind_ops_flatMap, L.assoc]
    refine congrArg _ (funext fun g => ?_)
    rw [← bind_ops_flatMap]
    exact congrArg (· >>= _) (L.left_id g _).symm

/-- with `curried.FuncN(f)` as the function, only the last application has an effect: the call of `f` -/
theorem runApplicativeFrom_curry (L : V.ops.Lawful) (n : Nat) (steps : List (Step M A))
    (hl : steps.length = n + 1) (hs : ∀ s ∈ steps, Step.isAp s = true) : ∀ f : NFun A R,
    runApplicativeFrom V n (V.vpure (curry n f)) steps
      = bindAll V.ops (steps.map (operandC V)) (fun xs => V.ops.seq (f xs) V.ops.pure') := by
  induction n, steps, hl using stepsRec with
  | one s =>
    intro f
    rw [runApplicativeFrom_zero, apStep_eq V _ s (hs s (by simp))]
    exact L.left_id _ _
  | step n s ss hl' ih =>
    intro f
    have hs' : ∀ s ∈ ss, Step.isAp s = true := fun x hx => hs x (by simp [hx])
    rw [runApplicativeFrom_succ, apStep_eq V _ s (hs s (by simp)),
      funext (runApplicativeFrom_bind V L n ss hl' hs'), bind_ops_flatMap]
    refine (congrArg (V.ops.flatMap · _) (L.left_id _ _)).trans ?_
    simp only [MonadFamily.map, MonadFamily.lift, L.assoc, curry_succ, List.map_cons, bindAll]
    refine congrArg _ (funext fun x => ?_)
    rw [L.seq_pure, L.left_id]
    exact ih hs' _

/-- **ApplicativeN**: `ApplicativeN(f).m1(o1)…mN(oN)` is `LiftAN(f)` of the operands: the operands
    are evaluated left to right with short-circuit at the first failure (suppliers after it are not
    called), then `f` is called exactly once with the N values in order. -/
theorem applicative_def (L : V.ops.Lawful) (n : Nat) (f : NFun A R) (steps : List (Step M A))
    (hl : steps.length = n + 1) (hs : ∀ s ∈ steps, Step.isAp s = true) :
    runApplicative V n f steps = liftAList V.ops (steps.map (operandC V)) f := by
  rw [C01.liftAList_def]
  exact runApplicativeFrom_curry V L n steps hl hs f

/-- the operand of a `MonadChain` step, given the values `hl` obtained so far (most recent first) -/
def chainOperandNF (hl : List A) : Step M A → GoM (M A)
  | .apM a => pure a
  | .ap a => pure (V.vpure a)
  | .apOpt a => pure (V.fromOption a)
  | .apMFunc s => s ()
  | .apOptFunc s => do let x ← s (); pure (V.fromOption x)
  | .apFunc s => do let x ← s (); pure (V.vpure x)
  | .flatMap k => k (hl.take 1)
  | .map k => do let x ← k (hl.take 1); pure (V.vpure x)
  | .hlistFlatMap k => k hl
  | .hlistMap k => do let x ← k hl; pure (V.vpure x)

/-- the do-notation reading of a chain: each operand may depend on the values before it; `k` gets the
    new values in order -/
def chainBind : List A → List (Step M A) → (List A → GoM (M R)) → GoM (M R)
  | _, [], k => k []
  | hl, s :: ss, k =>
      V.ops.flatMap (chainOperandNF V hl s) (fun x => chainBind (x :: hl) ss (fun rest => k (x :: rest)))

variable {V}

/-- the operands handed to the builder as VALUES must not be the zero-value `Try{}` -/
def StaticOk (S : V.Sum) : Step M A → Prop
  | .apM a => S.Ok a
  | _ => True

theorem ops_flatMap_vpure (S : V.Sum) {α β : Type} (x : α) (k : α → GoM (M β)) :
    V.ops.flatMap (pure (V.vpure x)) k = k x := by
  rw [ops_flatMap_pure, S.bind_pure]

theorem chainOperand_pure (S : V.Sum) (hl : List A) (s : Step M A) :
    chainOperand V (V.vpure hl) s = chainOperandNF V hl s := by
  cases s <;> first | rfl | exact ops_flatMap_vpure S hl _

theorem ops_flatMap_def {α β : Type} (m : GoM (M α)) (k : α → GoM (M β)) :
    V.ops.flatMap m k = m >>= fun t => V.vbind t k := rfl
theorem ops_seq_def {α β : Type} (g : GoM α) (k : α → GoM (M β)) : V.ops.seq g k = g >>= k := rfl
theorem ops_pure_def {α : Type} (a : α) : V.ops.pure' a = pure (V.vpure a) := rfl

theorem ops_flatMap_err (S : V.Sum) {α β : Type} (e : S.E) (he : S.abort e = none) (k : α → GoM (M β)) :
    V.ops.flatMap (pure (S.err e)) k = pure (S.err e) := by
  rw [ops_flatMap_pure, S.bind_err, he]

/-- while the hlist field holds a (non-zero) failure no callback and no supplier runs: the operand
    is either the static value or that failure (every method but the three static ones binds `r.h` first) -/
theorem chainOperand_err (S : V.Sum) (eh : S.E) (hh : S.abort eh = none) (s : Step M A) (hs : StaticOk S s) :
    ∃ av : M A, S.Ok av ∧ chainOperand V (S.err eh : M (List A)) s = pure av := by
  cases s with
  | apM a => exact ⟨a, hs, rfl⟩
  | ap a => exact ⟨V.vpure a, Or.inl ⟨a, rfl⟩, rfl⟩
  | apOpt a => exact ⟨V.fromOption a, S.fromOption_ok a, rfl⟩
  | _ => exact ⟨S.err eh, Or.inr ⟨eh, hh, rfl⟩, ops_flatMap_err S eh hh _⟩

/-- a method called on a builder that already holds a failure keeps `fn`'s failure, runs nothing -/
theorem chainStepG_err {B : Type} (S : V.Sum) (eh ef : S.E) (hh : S.abort eh = none) (hf : S.abort ef = none)
    (s : Step M A) (hs : StaticOk S s) :
    ∃ eh', S.abort eh' = none ∧
      chainStepG V (S.err eh) (S.err ef : M (A → GoM B)) s = pure (S.err eh', S.err ef) := by
  obtain ⟨av, hok, hav⟩ := chainOperand_err S eh hh s hs
  rcases hok with ⟨x, rfl⟩ | ⟨e, he, rfl⟩
  · exact ⟨eh, hh, by
      simp [chainStepG, hav, MonadFamily.map2, MonadFamily.map, MonadFamily.ap,
        ops_flatMap_pure, S.bind_pure, S.bind_err, hh, hf]⟩
  · exact ⟨e, he, by
      simp [chainStepG, hav, MonadFamily.map2, MonadFamily.map, MonadFamily.ap,
        ops_flatMap_pure, S.bind_err, he, hf]⟩

theorem chainLastG_err {B : Type} (S : V.Sum) (eh ef : S.E) (hh : S.abort eh = none) (hf : S.abort ef = none)
    (s : Step M A) (hs : StaticOk S s) :
    chainLastG V (S.err eh) (S.err ef : M (A → GoM B)) s = pure (S.err ef) := by
  obtain ⟨av, _, hav⟩ := chainOperand_err S eh hh s hs
  simp [chainLastG, hav, MonadFamily.ap, ops_flatMap_pure, S.bind_err, hf]

/-- a builder whose state already holds a failure ignores every further step (no callback, no
    supplier runs) and ends in the failure of `fn` -/
theorem runChainFrom_err (S : V.Sum) (n : Nat) (eh ef : S.E) (hh : S.abort eh = none) (hf : S.abort ef = none)
    (steps : List (Step M A)) (hl : steps.length = n + 1) (hs : ∀ s ∈ steps, StaticOk S s) :
    runChainFrom V n (⟨S.err eh, S.err ef⟩ : ChainSt M A R n) steps = pure (S.err ef) := by
  induction n, steps, hl using stepsRec generalizing eh with
  | one s => exact chainLastG_err S eh ef hh hf s (hs s (by simp))
  | step n s ss _ ih =>
    have hs' : ∀ s ∈ ss, StaticOk S s := fun x hx => hs x (by simp [hx])
    obtain ⟨eh', hh', hstep⟩ := chainStepG_err (B := Cur A R (n + 1)) S eh ef hh hf s (hs s (by simp))
    rw [runChainFrom_succ, chainStep]
    erw [hstep]
    simp only [pure_bind]
    exact ih eh' hh' hs'

/-- a successful builder state: the method evaluates its operand, extends the hlist and applies the
    function once; `K` is any continuation that maps a failed state to its failure (as the rest of a
    chain does, `runChainFrom_err`) -/
theorem chainStepG_ok {B : Type} (S : V.Sum) (hl : List A) (g : A → GoM B) (s : Step M A)
    (K : M (List A) × M B → GoM (M R))
    (hK : ∀ e, S.abort e = none → K (S.err e, S.err e) = pure (S.err e)) :
    (chainStepG V (V.vpure hl) (V.vpure g) s >>= K)
      = V.ops.flatMap (chainOperandNF V hl s)
          (fun x => V.ops.seq (g x) (fun g' => K (V.vpure (x :: hl), V.vpure g'))) := by
  simp only [chainStepG, chainOperand_pure S, ops_flatMap_def, ops_seq_def, bind_assoc]
  refine bind_congr fun av => ?_
  rcases S.cases av with ⟨x, rfl⟩ | ⟨e, rfl⟩
  · simp [MonadFamily.map2, C01.map_def, MonadFamily.ap, ops_flatMap_def, ops_seq_def,
      ops_pure_def, S.bind_pure]
  · cases ha : S.abort e with
    | none =>
      simp [MonadFamily.map2, C01.map_def, MonadFamily.ap, ops_flatMap_def, ops_seq_def,
        ops_pure_def, S.bind_pure, S.bind_err, ha, hK e ha]
    | some p =>
      simp [MonadFamily.map2, C01.map_def, MonadFamily.ap, ops_flatMap_def, ops_seq_def,
        ops_pure_def, S.bind_pure, S.bind_err, ha]

theorem chainLastG_ok {B : Type} (S : V.Sum) (hl : List A) (g : A → GoM B) (s : Step M A) :
    chainLastG V (V.vpure hl) (V.vpure g) s
      = V.ops.flatMap (chainOperandNF V hl s) (fun x => V.ops.seq (g x) V.ops.pure') := by
  simp only [chainLastG, chainOperand_pure S, ops_flatMap_def, ops_seq_def]
  refine bind_congr fun av => ?_
  simp [C01.map_def, MonadFamily.ap, ops_flatMap_def, ops_seq_def, S.bind_pure]

/-- a failing operand on a successful builder: both fields take the failure, the function is not applied -/
theorem chainStepG_fail {B : Type} (S : V.Sum) (hl : List A) (g : A → GoM B) (e : S.E) (ha : S.abort e = none) :
    chainStepG V (V.vpure hl) (V.vpure g) (.apM (S.err e)) = pure (S.err e, S.err e) := by
  simp [chainStepG, chainOperand, MonadFamily.map2, MonadFamily.map, MonadFamily.ap, ops_flatMap_pure, S.bind_err,
    S.bind_pure, ha]

/-- `Map2(a, r.h, hlist.Concat)` binds the operand first: a zero-value operand panics whatever the builder holds -/
theorem chainStepG_abort {B : Type} (S : V.Sum) (h : M (List A)) (fn : M (A → GoM B)) (e : S.E) (p : PanicVal)
    (ha : S.abort e = some p) : chainStepG V h fn (.apM (S.err e)) = throw p := by
  simp only [chainStepG, chainOperand, pure_bind, MonadFamily.map2, ops_flatMap_pure, S.bind_err, ha]
  rfl

/-- …so it does in every method of `MonadChainN`, N ≥ 2, even after an earlier failure -/
theorem runChainFrom_abort (S : V.Sum) (n : Nat) (r : ChainSt M A R (n + 1)) (e : S.E) (p : PanicVal)
    (ha : S.abort e = some p) (ss : List (Step M A)) :
    runChainFrom V (n + 1) r (.apM (S.err e) :: ss) = throw p := by
  rw [runChainFrom_succ, chainStep, chainStepG_abort S r.h r.fn e p ha]
  rfl

/-- from a state holding the values `hl` and `curried.FuncN(f)` the chain is its do-notation reading: the intermediate
    applications of the curried function are effect free, and `curry (n+1) f x` is again a `curry n f'` -/
theorem runChainFrom_curry (S : V.Sum) (n : Nat) (f : NFun A R) (hl : List A) (steps : List (Step M A))
    (hlen : steps.length = n + 1) (hs : ∀ s ∈ steps, StaticOk S s) :
    runChainFrom V n (⟨V.vpure hl, V.vpure (curry n f)⟩ : ChainSt M A R n) steps
      = chainBind V hl steps (fun xs => V.ops.seq (f xs) V.ops.pure') := by
  induction n, steps, hlen using stepsRec generalizing f hl with
  | one s => exact chainLastG_ok S hl _ s
  | step n s ss hl' ih =>
    have hs' : ∀ s ∈ ss, StaticOk S s := fun x hx => hs x (by simp [hx])
    rw [runChainFrom_succ, chainStep]
    simp only [bind_assoc, pure_bind]
    refine (chainStepG_ok (B := Cur A R (n + 1)) S hl _ s
      (fun p => runChainFrom V n ⟨p.1, p.2⟩ ss)
      (fun e he => runChainFrom_err S n e e he he ss hl' hs')).trans ?_
    simp only [chainBind, curry_succ, ops_seq_def, pure_bind_cur]
    congr 1; funext x
    exact ih _ (x :: hl) hs'

-- the hypothesis `L` is not used: the one law on the way, `seq (pure a) k = k a`, holds by definition of `VMonad.ops`
/-- **ChainN**: `ChainN(f).m1(…)…mN(…)` reads as do-notation: the operands are computed left to
    right, each callback seeing the values before it (`Map`/`FlatMap`: the most recent one,
    `HListMap`/`HListFlatMap`: all of them, most recent first), the chain stops at the first failure
    (no later callback or supplier runs), and `f` is called exactly once with the N values in order.
    Hypothesis: the operands passed as VALUES are not the zero-value `Try{}`. -/
theorem chain_def (L : V.ops.Lawful) (S : V.Sum) (n : Nat) (f : NFun A R) (steps : List (Step M A))
    (hlen : steps.length = n + 1) (hs : ∀ s ∈ steps, StaticOk S s) :
    runChain V n f steps = chainBind V [] steps (fun xs => V.ops.seq (f xs) V.ops.pure') :=
  runChainFrom_curry S n f [] steps hlen hs

theorem chainOperandNF_isAp (hl : List A) (s : Step M A) (h : Step.isAp s = true) :
    chainOperandNF V hl s = operandC V s := by
  cases s <;> first | rfl | cases h

/-- on steps that do not look back, the do-notation reading is the left-to-right nest of the operands -/
theorem chainBind_isAp (hl : List A) (steps : List (Step M A)) (hs : ∀ s ∈ steps, Step.isAp s = true)
    (k : List A → GoM (M R)) :
    chainBind V hl steps k = bindAll V.ops (steps.map (operandC V)) k := by
  induction steps generalizing hl k with
  | nil => rfl
  | cons s ss ih =>
    simp only [chainBind, List.map_cons, bindAll, chainOperandNF_isAp hl s (hs s List.mem_cons_self)]
    congr 1; funext x
    exact ih (x :: hl) (fun s hs' => hs s (List.mem_cons_of_mem _ hs')) _

/-- the do-notation reading stops at the first failing operand, in either package: nothing after it runs -/
theorem chainBind_stops (S : V.Sum) (e : S.E) (he : S.abort e = none) (xs : List A) (rest : List (Step M A)) :
    ∀ (hl : List A) (k : List A → GoM (M R)),
      chainBind V hl (xs.map Step.ap ++ Step.apM (S.err e) :: rest) k = pure (S.err e) := by
  induction xs with
  | nil => exact fun hl k => ops_flatMap_err S e he _
  | cons x xs ih => exact fun hl k => (ops_flatMap_vpure S x _).trans (ih _ _)

/-- a `ChainN` used with the applicative methods only is `ApplicativeN`, i.e. `LiftAN` -/
theorem chain_applicative (L : V.ops.Lawful) (S : V.Sum) (n : Nat) (f : NFun A R) (steps : List (Step M A))
    (hlen : steps.length = n + 1) (hs : ∀ s ∈ steps, StaticOk S s) (ha : ∀ s ∈ steps, Step.isAp s = true) :
    runChain V n f steps = runApplicative V n f steps := by
  rw [chain_def L S n f steps hlen hs, applicative_def V L n f steps hlen ha, chainBind_isAp [] steps ha,
    C01.liftAList_def]

/-- all operands present: the result is `Some(f(a1,…,aN))`, `f` called once -/
theorem applicative_all_values (L : V.ops.Lawful) (n : Nat) (f : NFun A R) (xs : List A) (hlen : xs.length = n + 1) :
    runApplicative V n f (xs.map Step.ap) = (do let r ← f xs; pure (V.vpure r)) := by
  rw [applicative_def V L n f _ (by simpa using hlen) (by simp [Step.isAp]), C01.liftAList_def, List.map_map]
  exact C01.bindAll_pure V.ops L xs _

/-- in package option every value is fine -/
theorem optSum_staticOk (s : Step Option A) : StaticOk optSum s := by
  cases s with
  | apM a => cases a with
    | none => exact Or.inr ⟨(), rfl, rfl⟩
    | some x => exact Or.inl ⟨x, rfl⟩
  | _ => trivial

/-- option.ChainN at every arity -/
theorem option_chain_def (n : Nat) (f : NFun A R) (steps : List (Step Option A)) (hlen : steps.length = n + 1) :
    runChain optV n f steps = chainBind optV [] steps (fun xs => do let r ← f xs; pure (some r)) :=
  chain_def optV_lawful optSum n f steps hlen (fun s _ => optSum_staticOk s)

/-- in package try every value but the zero value `Try{}` is fine -/
theorem trySum_ok {α : Type} (a : Try α) (h : a ≠ .failure .nil) : trySum.Ok a :=
  match a with
  | .success x => Or.inl ⟨x, rfl⟩
  | .failure e => Or.inr ⟨e, if_neg (fun he => h (congrArg Try.failure he)), rfl⟩

/-- try.ChainN at every arity (static operands must not be the zero value `Try{}`) -/
theorem try_chain_def (n : Nat) (f : NFun A R) (steps : List (Step Try A)) (hlen : steps.length = n + 1)
    (hs : ∀ a, Step.apM a ∈ steps → a ≠ .failure .nil) :
    runChain tryV n f steps = chainBind tryV [] steps (fun xs => do let r ← f xs; pure (.success r)) := by
  refine chain_def tryV_lawful trySum n f steps hlen (fun s hmem => ?_)
  cases s with
  | apM a => exact trySum_ok a (hs a hmem)
  | _ => trivial

/-- …and the excluded input: a zero-value operand after an earlier failure makes the real builder
    panic where the do-notation reading would just return the earlier failure -/
theorem try_chain_zero_value (f : NFun A R) (e : Err) (he : e ≠ .nil) (s : Step Try A) :
    runChain tryV 2 f [.apM (.failure e), .apM (.failure .nil), s] = throw "ErrNotInit" := by
  rw [runChain, chainN, runChainFrom_succ, chainStep]
  erw [chainStepG_fail trySum [] _ e (if_neg he)]
  simp only [pure_bind]
  exact runChainFrom_abort trySum 0 _ Err.nil _ rfl [s]

theorem option_applicative_def (n : Nat) (f : NFun A R) (steps : List (Step Option A))
    (hlen : steps.length = n + 1) (hs : ∀ s ∈ steps, Step.isAp s = true) :
    runApplicative optV n f steps = liftAList OptM.ops (steps.map (operandC optV)) f :=
  applicative_def optV optV_lawful n f steps hlen hs

theorem try_applicative_def (n : Nat) (f : NFun A R) (steps : List (Step Try A))
    (hlen : steps.length = n + 1) (hs : ∀ s ∈ steps, Step.isAp s = true) :
    runApplicative tryV n f steps = liftAList TryM.ops (steps.map (operandC tryV)) f :=
  applicative_def tryV tryV_lawful n f steps hlen hs

/-- short circuit, package option: a `None` operand after the present values `xs` ends the chain in `None`;
    `f` and every later supplier / callback are not run -/
theorem option_chain_none (n : Nat) (f : NFun A R) (xs : List A) (rest : List (Step Option A))
    (hlen : xs.length + 1 + rest.length = n + 1) :
    runChain optV n f (xs.map Step.ap ++ Step.apM none :: rest) = pure none := by
  rw [option_chain_def n f _ (by simp; omega)]
  exact chainBind_stops optSum () rfl xs rest [] _

end builders

-- non-vacuity: the hypotheses are satisfiable and the equations compute (all by `rfl`)

def f3 : NFun Nat (List Nat) := fun xs => do emit "f"; pure xs

example : (applyCur 2 (curry 2 f3) [10, 20, 30]).exec = (.ok [10, 20, 30], ["f"]) := by rfl
example : (applyCur 2 (Arity.flip 1 (curry 2 f3)) [20, 30, 10]).exec = (.ok [10, 20, 30], ["f"]) := by rfl
example : (applyCur 2 (slipL 1 (curry 2 f3)) [30, 10, 20]).exec = (.ok [10, 20, 30], ["f"]) := by rfl
example : (applyCur 2 (curry 2 f3) [10, 20]).exec = (.error "arity", []) := by rfl
example : (hrift 2 f3 [30, 20, 10]).exec = (.ok [10, 20, 30], ["f"]) := by rfl
example : (hcase 1 [10, 20, 30] f3).exec = (.ok [10, 20], ["f"]) := by rfl
example : (hreverse 2 [10, 20, 30]).exec = (.ok [30, 20, 10], []) := by rfl
example : (Nest.ofList [10, 20, 30, 40]).bind (flatten 1) = some [10, 20, 30, 40] := by rfl
example : tupleFromHList 2 [10, 20, 30] = some [10, 20, 30] := by rfl
example : (runChain optV 2 f3 [.ap 10, .flatMap (fun h => do emit "k"; pure (some (h.sum + 10))),
      .hlistMap (fun h => do emit "h"; pure (h.sum))]).exec = (.ok (some [10, 20, 30]), ["k", "h", "f"]) := by rfl
example : (runChain optV 2 f3 [.ap 10, .apM none, .apFunc (fun _ => do emit "s"; pure 1)]).exec = (.ok none, []) := by rfl
example : (runApplicative tryV 1 f3 [.apM (.failure (.code 3)), .apMFunc (fun _ => do emit "s"; pure (.success 1))]).exec
    = (.ok (.failure (.code 3)), []) := by rfl
/-- the hypothesis of `try_chain_def` is satisfiable with a failing static operand -/
example : ∀ a, Step.apM a ∈ [Step.apM (Try.failure (.code 3)), Step.ap (5 : Nat)] → a ≠ .failure .nil := by
  intro a h; simp at h; subst h; simp
example : ([Step.ap 1, Step.apM (some 2)] : List (Step Option Nat)).length = 1 + 1 := rfl
example : ∀ s ∈ ([Step.ap 1, Step.apM (some 2)] : List (Step Option Nat)), Step.isAp s = true := by
  intro s h; simp at h; rcases h with rfl | rfl <;> rfl

end FpVerif.Spec.C14
