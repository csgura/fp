import FpVerif.Gen.FutGen
import FpVerif.Spec.C06
import FpVerif.Spec.C14Fut
import FpVerif.Model.FutureMisc
/-!
# Tie A for the DERIVED future combinators (C06, C14)

`Gen/FutGen.lean` is REGENERATED on every check by `harness/cmd/fut2lean` from the working tree's
`future/future_op.go` and `future/func_gen.go`: every function whose body is a composition of other combinators
becomes an `FExpr`-building Lean definition of the same structure.  This file (committed text) proves that each
translated definition IS the model's derived program (`Model/Future.lean`, `Model/FutureChain.lean`,
`Model/FutureMisc.lean`) — by `rfl`, up to the model's encoding of closures (an n-ary user callback is
`fun c a1 … an => f c [a1, …, an]`; the executor a callback runs on is its first argument) — and transports the
left-to-right short-circuit theorems of `Spec/C06.lean` / `Spec/C14Fut.lean` to the translated definitions.
A change of the Go source that changes the structure (operand order, nesting, which executor is passed on) makes
the corresponding theorem below stop checking; a new / removed / reclassified function makes `coverage` fail.
-/
namespace FpVerif.Spec.C06Gen
open FpVerif FpVerif.Fut FpVerif.Gen.FutGen FpVerif.FutGenPrelude FpVerif.Spec.C06

-- coverage ----------------------------------------------------------------------------------------------------

/-- every function declaration of the two files, with its class: `primitive` (written with `promise.New` /
    `OnComplete`; the `FExpr` constructors, tied by the Tie C skeletons `Spec/C06Facts.lean` and the future harness;
    `FromTry` / `FromOption` are the two-way branches the model reads as `fromTry` / `fromOption`), `translated`,
    `method` (the builder structs `MonadChain1` / `ApplicativeFunctor1`: struct-of-handles state, modelled at Net level
    by `chainStep` / `applicativeStep`, tied by the future harness), `untranslatable` (= the explicit exceptions below) -/
def expectedFunctions : List (String × String) := [
  ("goExecutor.ExecuteUnsafe", "method"),
  ("getExecutor", "untranslatable"),
  ("Successful", "primitive"),
  ("Failed", "primitive"),
  ("Apply", "primitive"),
  ("Apply2", "primitive"),
  ("FromOption", "primitive"),
  ("FromTry", "primitive"),
  ("Ap", "translated"),
  ("ApFunc", "translated"),
  ("Map", "translated"),
  ("Replace", "translated"),
  ("MapSeqLift", "translated"),
  ("MapSliceLift", "translated"),
  ("Map2", "translated"),
  ("With", "untranslatable"),
  ("Lift", "translated"),
  ("LiftA2", "translated"),
  ("LiftM", "translated"),
  ("LiftM2", "translated"),
  ("Compose", "translated"),
  ("Compose2", "translated"),
  ("ComposeOption", "translated"),
  ("ComposeTry", "translated"),
  ("ComposePure", "translated"),
  ("FlatMap", "primitive"),
  ("FlatMapTraverseSeq", "translated"),
  ("FlatMapTraverseSlice", "translated"),
  ("Transform", "primitive"),
  ("TransformWith", "primitive"),
  ("Flatten", "translated"),
  ("Flap", "untranslatable"),
  ("Flap2", "untranslatable"),
  ("FlapMap", "translated"),
  ("FlatFlapMap", "translated"),
  ("Method1", "translated"),
  ("FlatMethod1", "translated"),
  ("Method2", "translated"),
  ("FlatMethod2", "translated"),
  ("Zip", "translated"),
  ("Zip3", "translated"),
  ("Sequence", "translated"),
  ("SequenceIterator", "translated"),
  ("traverse", "translated"),
  ("Traverse", "translated"),
  ("TraverseSeq", "translated"),
  ("TraverseSlice", "translated"),
  ("TraverseFunc", "translated"),
  ("TraverseSeqFunc", "translated"),
  ("TraverseSliceFunc", "translated"),
  ("MonadChain1.Map", "method"),
  ("MonadChain1.HListMap", "method"),
  ("MonadChain1.HListFlatMap", "method"),
  ("MonadChain1.FlatMap", "method"),
  ("MonadChain1.ApOption", "method"),
  ("MonadChain1.ApTry", "method"),
  ("MonadChain1.ApFuture", "method"),
  ("MonadChain1.Ap", "method"),
  ("MonadChain1.ApFutureFunc", "method"),
  ("MonadChain1.ApTryFunc", "method"),
  ("MonadChain1.ApOptionFunc", "method"),
  ("MonadChain1.ApFunc", "method"),
  ("Chain1", "untranslatable"),
  ("ApplicativeFunctor1.ApOption", "method"),
  ("ApplicativeFunctor1.ApTry", "method"),
  ("ApplicativeFunctor1.ApFuture", "method"),
  ("ApplicativeFunctor1.Ap", "method"),
  ("ApplicativeFunctor1.ApFutureFunc", "method"),
  ("ApplicativeFunctor1.ApTryFunc", "method"),
  ("ApplicativeFunctor1.ApOptionFunc", "method"),
  ("ApplicativeFunctor1.ApFunc", "method"),
  ("Applicative1", "untranslatable"),
  ("Await", "untranslatable"),
  ("Func0", "translated"),
  ("LiftA3", "translated"),
  ("LiftM3", "translated"),
  ("Flap3", "untranslatable"),
  ("Method3", "translated"),
  ("FlatMethod3", "translated"),
  ("LiftA4", "translated"),
  ("LiftM4", "translated"),
  ("Flap4", "untranslatable"),
  ("Method4", "translated"),
  ("FlatMethod4", "translated"),
  ("LiftA5", "translated"),
  ("LiftM5", "translated"),
  ("Flap5", "untranslatable"),
  ("Method5", "translated"),
  ("FlatMethod5", "translated"),
  ("LiftA6", "translated"),
  ("LiftM6", "translated"),
  ("Flap6", "untranslatable"),
  ("Method6", "translated"),
  ("FlatMethod6", "translated"),
  ("LiftA7", "translated"),
  ("LiftM7", "translated"),
  ("Flap7", "untranslatable"),
  ("Method7", "translated"),
  ("FlatMethod7", "translated"),
  ("LiftA8", "translated"),
  ("LiftM8", "translated"),
  ("Flap8", "untranslatable"),
  ("Method8", "translated"),
  ("FlatMethod8", "translated"),
  ("LiftA9", "translated"),
  ("LiftM9", "translated"),
  ("Flap9", "untranslatable"),
  ("Method9", "translated"),
  ("FlatMethod9", "translated"),
  ("Func1", "translated"),
  ("Unit1", "translated"),
  ("Func2", "translated"),
  ("Unit2", "translated"),
  ("Func3", "translated"),
  ("Unit3", "translated"),
  ("Func4", "translated"),
  ("Unit4", "translated"),
  ("Func5", "translated"),
  ("Unit5", "translated"),
  ("Func6", "translated"),
  ("Unit6", "translated"),
  ("Func7", "translated"),
  ("Unit7", "translated"),
  ("Func8", "translated"),
  ("Unit8", "translated"),
  ("Func9", "translated"),
  ("Unit9", "translated"),
  ("Compose3", "translated"),
  ("Compose4", "translated"),
  ("Compose5", "translated")
]

/-- the explicit exceptions: `Flap`, `Flap2..9`, `With` build `Successful(a)` and hand its HANDLE to `Ap`, whose inner
    task captures it — a let-bound handle, which an `FExpr` cannot express (the model has them as Net-level programs
    `flapRun` / `withRun`; tied by the future harness); `Chain1` / `Applicative1` return builder structs; `Await` blocks on a
    channel; `getExecutor` is executor selection. -/
def expectedExceptions : List String := ["getExecutor", "With", "Flap", "Flap2", "Chain1", "Applicative1", "Await", "Flap3", "Flap4", "Flap5", "Flap6", "Flap7", "Flap8", "Flap9"]

theorem coverage : functions = expectedFunctions := rfl
theorem exceptions_are_the_expected : untranslatable.map (·.1) = expectedExceptions := rfl
theorem variants_are_the_expected : variants = ["Map_F", "Map2_F", "FlapMap_F"] := rfl
theorem class_partition : functions.all (fun p => p.2 == "primitive" || p.2 == "translated" || p.2 == "method" || p.2 == "untranslatable") = true := by decide +kernel
theorem translated_count : (functions.filter (·.2 == "translated")).length = 86 := by decide +kernel

-- future_op.go: fixed arity -------------------------------------------------------------------------------------------

theorem Map_is_model (e : FExpr) (f : Ex → Val → W Val) (c cur : Ex) : Map e f c cur = Fut.map e (f c) := rfl
theorem Map2_is_model (a b : Nat) (f : Ex → Val → Val → W Val) (c cur : Ex) :
    Map2 (.ref a) b f c cur = Fut.map2 a b (f c) := rfl
theorem Zip_is_model (a b : Nat) (cur : Ex) : Zip (.ref a) b cur = Fut.zip a b := rfl
theorem Zip_is_zipN (a b : Nat) (cur : Ex) : Zip (.ref a) b cur = zipN [a, b] := rfl
theorem Zip3_is_model (a b c : Nat) (cur : Ex) : Zip3 (.ref a) b c cur = zipN [a, b, c] := rfl
theorem Ap_is_model (app : Ex → Val → Val → W Val) (t a : Nat) (c cur : Ex) : Ap app (.ref t) a c cur = Fut.ap app t a c := rfl
theorem ApFunc_is_model (app : Ex → Val → Val → W Val) (t : Nat) (a : Ex → FExpr) (c cur : Ex) :
    ApFunc app (.ref t) a c cur = Fut.apFunc app t a c := rfl
theorem Replace_is_model (ta : Nat) (b : Val) (cur : Ex) : Replace (.ref ta) b cur = Fut.replace ta b := rfl
theorem Flatten_is_model (e : FExpr) (cur : Ex) : Flatten e cur = Fut.flatten e := rfl
theorem Lift_is_model (f : NFn) (c cur0 cur : Ex) (p : Nat) :
    Lift (fun c a => f c [a]) c cur0 cur (.ref p) = liftA f c [p] := rfl
theorem LiftA2_is_model (f : NFn) (c cur0 cur : Ex) (p1 p2 : Nat) :
    LiftA2 (fun c a1 a2 => f c [a1, a2]) c cur0 cur (.ref p1) p2 = liftA f c [p1, p2] := rfl
theorem LiftA2_is_map2 (f : Ex → Val → Val → W Val) (c cur0 cur : Ex) (p1 p2 : Nat) :
    LiftA2 f c cur0 cur (.ref p1) p2 = Fut.map2 p1 p2 (f c) := rfl
theorem LiftM_is_model (fa : Ex → Val → FExpr) (c cur0 cur : Ex) (ta : Nat) :
    LiftM fa c cur0 cur (.ref ta) = Fut.liftM (fa c) ta := rfl
theorem LiftM_is_liftMN (f : Ex → List Val → FExpr) (c cur0 cur : Ex) (p : Nat) :
    LiftM (fun c a => f c [a]) c cur0 cur (.ref p) = liftMN f c [p] := rfl
theorem LiftM2_is_model (f : Ex → List Val → FExpr) (c cur0 cur : Ex) (p1 p2 : Nat) :
    LiftM2 (fun c a1 a2 => f c [a1, a2]) c cur0 cur (.ref p1) p2 = liftMN f c [p1, p2] := rfl
theorem Compose_is_model (f1 f2 : Ex → Val → FExpr) (c cur0 cur : Ex) (a : Val) :
    Compose f1 f2 c cur0 cur a = Fut.compose (f1 cur) (f2 c) a := rfl
theorem Compose_is_composeN (f1 f2 : Ex → Val → FExpr) (c cur0 cur : Ex) (a : Val) :
    Compose f1 f2 c cur0 cur a = composeN c [f1, f2] cur a := rfl
theorem Compose2_is_model (f1 f2 : Ex → Val → FExpr) (c cur0 cur : Ex) (a : Val) :
    Compose2 f1 f2 c cur0 cur a = composeN c [f1, f2] cur a := rfl
/-- the first function runs in the caller (`.s`) -/
theorem ComposeTry_is_model (f1 : Ex → Val → W (Try Val)) (f2 : Ex → Val → FExpr) (c cur0 : Ex) (a : Val) :
    ComposeTry f1 f2 c cur0 .s a = composeTry f1 f2 c a := rfl
theorem ComposeOption_is_model (f1 : Ex → Val → W (Option Val)) (f2 : Ex → Val → FExpr) (c cur0 : Ex) (a : Val) :
    ComposeOption f1 f2 c cur0 .s a = composeOption f1 f2 c a := rfl
theorem ComposePure_is_model (f : Ex → Val → W Val) (c cur0 : Ex) (a : Val) :
    ComposePure f c cur0 .s a = composePure f a := rfl
theorem MapSeqLift_is_model (ta : FExpr) (f : Ex → Val → W Val) (c cur : Ex) : MapSeqLift ta f c cur = mapSeqLift ta f c := rfl
theorem MapSliceLift_is_model (ta : FExpr) (f : Ex → Val → W Val) (c cur : Ex) : MapSliceLift ta f c cur = mapSeqLift ta f c := rfl
theorem FlapMap_is_model (ta : Nat) (f : NFn) (c cur0 cur : Ex) (b : Val) :
    FlapMap (fun c a b => f c [a, b]) (.ref ta) c cur0 cur b = methodN ta f c [b] := rfl
theorem Method1_is_model (ta : Nat) (f : NFn) (c cur0 cur : Ex) (b : Val) :
    Method1 ta (fun c a b => f c [a, b]) c cur0 cur b = methodN ta f c [b] := rfl
theorem Method2_is_model (ta : Nat) (f : NFn) (c cur0 cur : Ex) (b d : Val) :
    Method2 (.ref ta) (fun c a b d => f c [a, b, d]) c cur0 cur b d = methodN ta f c [b, d] := rfl
/-- `FlatFlapMap = fp.Compose(FlapMap(fab, ta, ctx...), Flatten)`: a future of a future -/
theorem FlatFlapMap_is_model (ta : Nat) (f : Ex → List Val → FExpr) (c cur0 cur : Ex) (b : Val) :
    FlatFlapMap (fun c a b => f c [a, b]) ta c cur0 cur b = flatMethodN 1 ta f c [b] := rfl
theorem FlatMethod1_is_model (ta : Nat) (f : Ex → List Val → FExpr) (c cur0 cur : Ex) (b : Val) :
    FlatMethod1 ta (fun c a b => f c [a, b]) c cur0 cur b = flatMethodN 1 ta f c [b] := rfl
/-- the hand-written `FlatMethod2` passes NO executor on (whatever `c`) -/
theorem FlatMethod2_is_model (ta : Nat) (f : Ex → List Val → FExpr) (c cur0 cur : Ex) (b d : Val) :
    FlatMethod2 (.ref ta) (fun c a b d => f c [a, b, d]) cur0 cur b d = flatMethodN 2 ta f c [b, d] := rfl
theorem Func0_is_model (f : Ex → List Val → W (Try Val)) (c cur0 cur : Ex) (u : Val) :
    Func0 (fun c => f c []) c cur0 cur u = func0 f c := rfl

-- Sequence / Traverse: the folds -----------------------------------------------------------------------------------------

theorem foldFuts_is_sequenceAcc (c cur : Ex) (ps : List Nat) (acc : FExpr) :
    foldFuts (fun acc p => LiftA2 (fun _ xs x => (snocV xs x, [])) c cur cur acc p) ps acc = sequenceAcc ps acc := by
  induction ps generalizing acc with
  | nil => rfl
  | cons p ps ih => exact ih _

/-- `Sequence` folds LEFT-to-right: the accumulator is the outer `FlatMap`, each future the inner `Map` -/
theorem Sequence_is_model (ps : List Nat) (c cur : Ex) : Sequence ps c cur = Fut.sequence ps := by
  simp only [Sequence, foldFuts_is_sequenceAcc]; rfl
theorem SequenceIterator_is_model (ps : List Nat) (c cur : Ex) : SequenceIterator ps c cur = Fut.sequence ps := by
  simp only [SequenceIterator, foldFuts_is_sequenceAcc]; rfl

theorem foldFutureAcc_is_traverseAcc (fn : Ex → Val → FExpr) (c : Ex) (xs : List Val) (acc : FExpr) :
    foldFutureAcc (fun acc v => Map (fn .d v) (fun _ x => (snocV acc x, [])) c .d) xs acc = traverseAcc (fn .d) xs acc := by
  induction xs generalizing acc with
  | nil => rfl
  | cons v vs ih => exact ih _

/-- `traverse` calls `iterator.FoldFuture` WITHOUT `ctx`: the user function runs on the default executor -/
theorem traverse_is_model (xs : List Val) (fn : Ex → Val → FExpr) (c cur : Ex) :
    traverse (.seq xs) fn c cur = traverseSeq xs (fn .d) := by
  simp only [traverse, foldFuture, elems, foldFutureAcc_is_traverseAcc]; rfl
theorem TraverseSeq_is_model (xs : List Val) (fn : Ex → Val → FExpr) (c cur : Ex) :
    TraverseSeq (.seq xs) fn c cur = traverseSeq xs (fn .d) := traverse_is_model xs fn c cur
theorem TraverseSeq_elems (xs : Val) (fn : Ex → Val → FExpr) (c cur : Ex) :
    TraverseSeq xs fn c cur = traverseSeq (elems xs) (fn .d) := by
  simp only [TraverseSeq, traverse, foldFuture, foldFutureAcc_is_traverseAcc]; rfl
theorem TraverseSeqFunc_is_model (xs : List Val) (fn : Ex → Val → FExpr) (c cur0 cur : Ex) :
    TraverseSeqFunc fn c cur0 cur (.seq xs) = traverseSeq xs (fn .d) := traverse_is_model xs fn c cur
theorem Traverse_is_model (xs : List Val) (fn : Ex → Val → FExpr) (c cur : Ex) :
    Traverse (.seq xs) fn c cur = traverseFunc (fn .d) xs := by
  simp only [Traverse, traverse_is_model]; rfl
theorem TraverseFunc_is_model (xs : List Val) (fn : Ex → Val → FExpr) (c cur0 cur : Ex) :
    TraverseFunc fn c cur0 cur (.seq xs) = traverseFunc (fn .d) xs := Traverse_is_model xs fn c cur
theorem TraverseSlice_is_model (xs : List Val) (fn : Ex → Val → FExpr) (c cur : Ex) :
    TraverseSlice (.seq xs) fn c cur = Fut.map (traverseSeq xs (fn .d)) (fun l => (l, [])) := by
  simp only [TraverseSlice, traverse_is_model]; rfl
theorem TraverseSlice_elems (xs : Val) (fn : Ex → Val → FExpr) (c cur : Ex) :
    TraverseSlice xs fn c cur = Fut.map (traverseSeq (elems xs) (fn .d)) (fun l => (l, [])) := by
  simp only [TraverseSlice, traverse, foldFuture, foldFutureAcc_is_traverseAcc]; rfl
theorem TraverseSliceFunc_is_model (xs : List Val) (fn : Ex → Val → FExpr) (c cur0 cur : Ex) :
    TraverseSliceFunc fn c cur0 cur (.seq xs) = Fut.map (traverseSeq xs (fn .d)) (fun l => (l, [])) :=
  TraverseSlice_is_model xs fn c cur
theorem FlatMapTraverseSeq_is_model (ta : FExpr) (f : Ex → Val → FExpr) (c cur : Ex) :
    FlatMapTraverseSeq ta f c cur = flatMapTraverseSeq ta (f .d) := by
  show FExpr.flatMap ta (fun xs => TraverseSeq xs f c c) = _
  simp only [TraverseSeq_elems]; rfl
theorem FlatMapTraverseSlice_is_model (ta : FExpr) (f : Ex → Val → FExpr) (c cur : Ex) :
    FlatMapTraverseSlice ta f c cur
      = .flatMap ta (fun xs => Fut.map (traverseSeq (elems xs) (f .d)) (fun l => (l, []))) := by
  show FExpr.flatMap ta (fun xs => TraverseSlice xs f c c) = _
  simp only [TraverseSlice_elems]

-- func_gen.go: per arity ---------------------------------------------------------------------------------------------------

theorem LiftA3_is_model (f : NFn) (c cur0 cur : Ex) (p1 p2 p3 : Nat) :
    LiftA3 (fun c a1 a2 a3 => f c [a1, a2, a3]) c cur0 cur (.ref p1) p2 p3 = liftA f c [p1, p2, p3] := by rfl
theorem LiftM3_is_model (f : Ex → List Val → FExpr) (c cur0 cur : Ex) (p1 p2 p3 : Nat) :
    LiftM3 (fun c a1 a2 a3 => f c [a1, a2, a3]) c cur0 cur (.ref p1) p2 p3 = liftMN f c [p1, p2, p3] := by rfl
theorem Method3_is_model (ta : Nat) (f : NFn) (c cur0 cur : Ex) (a2 a3 : Val) :
    Method3 (.ref ta) (fun c a1 a2 a3 => f c [a1, a2, a3]) c cur0 cur a2 a3 = methodN ta f c [a2, a3] := by rfl
theorem FlatMethod3_is_model (ta : Nat) (f : Ex → List Val → FExpr) (c cur0 cur : Ex) (a2 a3 : Val) :
    FlatMethod3 (.ref ta) (fun c a1 a2 a3 => f c [a1, a2, a3]) c cur0 cur a2 a3 = flatMethodN 3 ta f c [a2, a3] := by rfl

theorem LiftA4_is_model (f : NFn) (c cur0 cur : Ex) (p1 p2 p3 p4 : Nat) :
    LiftA4 (fun c a1 a2 a3 a4 => f c [a1, a2, a3, a4]) c cur0 cur (.ref p1) p2 p3 p4 = liftA f c [p1, p2, p3, p4] := by rfl
theorem LiftM4_is_model (f : Ex → List Val → FExpr) (c cur0 cur : Ex) (p1 p2 p3 p4 : Nat) :
    LiftM4 (fun c a1 a2 a3 a4 => f c [a1, a2, a3, a4]) c cur0 cur (.ref p1) p2 p3 p4 = liftMN f c [p1, p2, p3, p4] := by rfl
theorem Method4_is_model (ta : Nat) (f : NFn) (c cur0 cur : Ex) (a2 a3 a4 : Val) :
    Method4 (.ref ta) (fun c a1 a2 a3 a4 => f c [a1, a2, a3, a4]) c cur0 cur a2 a3 a4 = methodN ta f c [a2, a3, a4] := by rfl
theorem FlatMethod4_is_model (ta : Nat) (f : Ex → List Val → FExpr) (c cur0 cur : Ex) (a2 a3 a4 : Val) :
    FlatMethod4 (.ref ta) (fun c a1 a2 a3 a4 => f c [a1, a2, a3, a4]) c cur0 cur a2 a3 a4 = flatMethodN 4 ta f c [a2, a3, a4] := by rfl

theorem LiftA5_is_model (f : NFn) (c cur0 cur : Ex) (p1 p2 p3 p4 p5 : Nat) :
    LiftA5 (fun c a1 a2 a3 a4 a5 => f c [a1, a2, a3, a4, a5]) c cur0 cur (.ref p1) p2 p3 p4 p5 = liftA f c [p1, p2, p3, p4, p5] := by rfl
theorem LiftM5_is_model (f : Ex → List Val → FExpr) (c cur0 cur : Ex) (p1 p2 p3 p4 p5 : Nat) :
    LiftM5 (fun c a1 a2 a3 a4 a5 => f c [a1, a2, a3, a4, a5]) c cur0 cur (.ref p1) p2 p3 p4 p5 = liftMN f c [p1, p2, p3, p4, p5] := by rfl
theorem Method5_is_model (ta : Nat) (f : NFn) (c cur0 cur : Ex) (a2 a3 a4 a5 : Val) :
    Method5 (.ref ta) (fun c a1 a2 a3 a4 a5 => f c [a1, a2, a3, a4, a5]) c cur0 cur a2 a3 a4 a5 = methodN ta f c [a2, a3, a4, a5] := by rfl
theorem FlatMethod5_is_model (ta : Nat) (f : Ex → List Val → FExpr) (c cur0 cur : Ex) (a2 a3 a4 a5 : Val) :
    FlatMethod5 (.ref ta) (fun c a1 a2 a3 a4 a5 => f c [a1, a2, a3, a4, a5]) c cur0 cur a2 a3 a4 a5 = flatMethodN 5 ta f c [a2, a3, a4, a5] := by rfl

theorem LiftA6_is_model (f : NFn) (c cur0 cur : Ex) (p1 p2 p3 p4 p5 p6 : Nat) :
    LiftA6 (fun c a1 a2 a3 a4 a5 a6 => f c [a1, a2, a3, a4, a5, a6]) c cur0 cur (.ref p1) p2 p3 p4 p5 p6 = liftA f c [p1, p2, p3, p4, p5, p6] := by rfl
theorem LiftM6_is_model (f : Ex → List Val → FExpr) (c cur0 cur : Ex) (p1 p2 p3 p4 p5 p6 : Nat) :
    LiftM6 (fun c a1 a2 a3 a4 a5 a6 => f c [a1, a2, a3, a4, a5, a6]) c cur0 cur (.ref p1) p2 p3 p4 p5 p6 = liftMN f c [p1, p2, p3, p4, p5, p6] := by rfl
theorem Method6_is_model (ta : Nat) (f : NFn) (c cur0 cur : Ex) (a2 a3 a4 a5 a6 : Val) :
    Method6 (.ref ta) (fun c a1 a2 a3 a4 a5 a6 => f c [a1, a2, a3, a4, a5, a6]) c cur0 cur a2 a3 a4 a5 a6 = methodN ta f c [a2, a3, a4, a5, a6] := by rfl
theorem FlatMethod6_is_model (ta : Nat) (f : Ex → List Val → FExpr) (c cur0 cur : Ex) (a2 a3 a4 a5 a6 : Val) :
    FlatMethod6 (.ref ta) (fun c a1 a2 a3 a4 a5 a6 => f c [a1, a2, a3, a4, a5, a6]) c cur0 cur a2 a3 a4 a5 a6 = flatMethodN 6 ta f c [a2, a3, a4, a5, a6] := by rfl

theorem LiftA7_is_model (f : NFn) (c cur0 cur : Ex) (p1 p2 p3 p4 p5 p6 p7 : Nat) :
    LiftA7 (fun c a1 a2 a3 a4 a5 a6 a7 => f c [a1, a2, a3, a4, a5, a6, a7]) c cur0 cur (.ref p1) p2 p3 p4 p5 p6 p7 = liftA f c [p1, p2, p3, p4, p5, p6, p7] := by rfl
theorem LiftM7_is_model (f : Ex → List Val → FExpr) (c cur0 cur : Ex) (p1 p2 p3 p4 p5 p6 p7 : Nat) :
    LiftM7 (fun c a1 a2 a3 a4 a5 a6 a7 => f c [a1, a2, a3, a4, a5, a6, a7]) c cur0 cur (.ref p1) p2 p3 p4 p5 p6 p7 = liftMN f c [p1, p2, p3, p4, p5, p6, p7] := by rfl
theorem Method7_is_model (ta : Nat) (f : NFn) (c cur0 cur : Ex) (a2 a3 a4 a5 a6 a7 : Val) :
    Method7 (.ref ta) (fun c a1 a2 a3 a4 a5 a6 a7 => f c [a1, a2, a3, a4, a5, a6, a7]) c cur0 cur a2 a3 a4 a5 a6 a7 = methodN ta f c [a2, a3, a4, a5, a6, a7] := by rfl
theorem FlatMethod7_is_model (ta : Nat) (f : Ex → List Val → FExpr) (c cur0 cur : Ex) (a2 a3 a4 a5 a6 a7 : Val) :
    FlatMethod7 (.ref ta) (fun c a1 a2 a3 a4 a5 a6 a7 => f c [a1, a2, a3, a4, a5, a6, a7]) c cur0 cur a2 a3 a4 a5 a6 a7 = flatMethodN 7 ta f c [a2, a3, a4, a5, a6, a7] := by rfl

theorem LiftA8_is_model (f : NFn) (c cur0 cur : Ex) (p1 p2 p3 p4 p5 p6 p7 p8 : Nat) :
    LiftA8 (fun c a1 a2 a3 a4 a5 a6 a7 a8 => f c [a1, a2, a3, a4, a5, a6, a7, a8]) c cur0 cur (.ref p1) p2 p3 p4 p5 p6 p7 p8 = liftA f c [p1, p2, p3, p4, p5, p6, p7, p8] := by rfl
theorem LiftM8_is_model (f : Ex → List Val → FExpr) (c cur0 cur : Ex) (p1 p2 p3 p4 p5 p6 p7 p8 : Nat) :
    LiftM8 (fun c a1 a2 a3 a4 a5 a6 a7 a8 => f c [a1, a2, a3, a4, a5, a6, a7, a8]) c cur0 cur (.ref p1) p2 p3 p4 p5 p6 p7 p8 = liftMN f c [p1, p2, p3, p4, p5, p6, p7, p8] := by rfl
theorem Method8_is_model (ta : Nat) (f : NFn) (c cur0 cur : Ex) (a2 a3 a4 a5 a6 a7 a8 : Val) :
    Method8 (.ref ta) (fun c a1 a2 a3 a4 a5 a6 a7 a8 => f c [a1, a2, a3, a4, a5, a6, a7, a8]) c cur0 cur a2 a3 a4 a5 a6 a7 a8 = methodN ta f c [a2, a3, a4, a5, a6, a7, a8] := by rfl
theorem FlatMethod8_is_model (ta : Nat) (f : Ex → List Val → FExpr) (c cur0 cur : Ex) (a2 a3 a4 a5 a6 a7 a8 : Val) :
    FlatMethod8 (.ref ta) (fun c a1 a2 a3 a4 a5 a6 a7 a8 => f c [a1, a2, a3, a4, a5, a6, a7, a8]) c cur0 cur a2 a3 a4 a5 a6 a7 a8 = flatMethodN 8 ta f c [a2, a3, a4, a5, a6, a7, a8] := by rfl

theorem LiftA9_is_model (f : NFn) (c cur0 cur : Ex) (p1 p2 p3 p4 p5 p6 p7 p8 p9 : Nat) :
    LiftA9 (fun c a1 a2 a3 a4 a5 a6 a7 a8 a9 => f c [a1, a2, a3, a4, a5, a6, a7, a8, a9]) c cur0 cur (.ref p1) p2 p3 p4 p5 p6 p7 p8 p9 = liftA f c [p1, p2, p3, p4, p5, p6, p7, p8, p9] := by rfl
theorem LiftM9_is_model (f : Ex → List Val → FExpr) (c cur0 cur : Ex) (p1 p2 p3 p4 p5 p6 p7 p8 p9 : Nat) :
    LiftM9 (fun c a1 a2 a3 a4 a5 a6 a7 a8 a9 => f c [a1, a2, a3, a4, a5, a6, a7, a8, a9]) c cur0 cur (.ref p1) p2 p3 p4 p5 p6 p7 p8 p9 = liftMN f c [p1, p2, p3, p4, p5, p6, p7, p8, p9] := by rfl
theorem Method9_is_model (ta : Nat) (f : NFn) (c cur0 cur : Ex) (a2 a3 a4 a5 a6 a7 a8 a9 : Val) :
    Method9 (.ref ta) (fun c a1 a2 a3 a4 a5 a6 a7 a8 a9 => f c [a1, a2, a3, a4, a5, a6, a7, a8, a9]) c cur0 cur a2 a3 a4 a5 a6 a7 a8 a9 = methodN ta f c [a2, a3, a4, a5, a6, a7, a8, a9] := by rfl
theorem FlatMethod9_is_model (ta : Nat) (f : Ex → List Val → FExpr) (c cur0 cur : Ex) (a2 a3 a4 a5 a6 a7 a8 a9 : Val) :
    FlatMethod9 (.ref ta) (fun c a1 a2 a3 a4 a5 a6 a7 a8 a9 => f c [a1, a2, a3, a4, a5, a6, a7, a8, a9]) c cur0 cur a2 a3 a4 a5 a6 a7 a8 a9 = flatMethodN 9 ta f c [a2, a3, a4, a5, a6, a7, a8, a9] := by rfl

-- `FuncN` / `UnitN` do NOT pass `exec` on: the task runs on the default executor

theorem Func1_is_model (f : Ex → List Val → W (Try Val)) (c cur0 cur : Ex) (a1 : Val) :
    Func1 (fun c a1 => f c [a1]) c cur0 cur a1 = funcN f [a1] := by rfl
theorem Unit1_is_model (f : Ex → List Val → W (Try Val)) (c cur0 cur : Ex) (a1 : Val) :
    Unit1 (fun c a1 => f c [a1]) c cur0 cur a1 = funcN f [a1] := by rfl

theorem Func2_is_model (f : Ex → List Val → W (Try Val)) (c cur0 cur : Ex) (a1 a2 : Val) :
    Func2 (fun c a1 a2 => f c [a1, a2]) c cur0 cur a1 a2 = funcN f [a1, a2] := by rfl
theorem Unit2_is_model (f : Ex → List Val → W (Try Val)) (c cur0 cur : Ex) (a1 a2 : Val) :
    Unit2 (fun c a1 a2 => f c [a1, a2]) c cur0 cur a1 a2 = funcN f [a1, a2] := by rfl

theorem Func3_is_model (f : Ex → List Val → W (Try Val)) (c cur0 cur : Ex) (a1 a2 a3 : Val) :
    Func3 (fun c a1 a2 a3 => f c [a1, a2, a3]) c cur0 cur a1 a2 a3 = funcN f [a1, a2, a3] := by rfl
theorem Unit3_is_model (f : Ex → List Val → W (Try Val)) (c cur0 cur : Ex) (a1 a2 a3 : Val) :
    Unit3 (fun c a1 a2 a3 => f c [a1, a2, a3]) c cur0 cur a1 a2 a3 = funcN f [a1, a2, a3] := by rfl

theorem Func4_is_model (f : Ex → List Val → W (Try Val)) (c cur0 cur : Ex) (a1 a2 a3 a4 : Val) :
    Func4 (fun c a1 a2 a3 a4 => f c [a1, a2, a3, a4]) c cur0 cur a1 a2 a3 a4 = funcN f [a1, a2, a3, a4] := by rfl
theorem Unit4_is_model (f : Ex → List Val → W (Try Val)) (c cur0 cur : Ex) (a1 a2 a3 a4 : Val) :
    Unit4 (fun c a1 a2 a3 a4 => f c [a1, a2, a3, a4]) c cur0 cur a1 a2 a3 a4 = funcN f [a1, a2, a3, a4] := by rfl

theorem Func5_is_model (f : Ex → List Val → W (Try Val)) (c cur0 cur : Ex) (a1 a2 a3 a4 a5 : Val) :
    Func5 (fun c a1 a2 a3 a4 a5 => f c [a1, a2, a3, a4, a5]) c cur0 cur a1 a2 a3 a4 a5 = funcN f [a1, a2, a3, a4, a5] := by rfl
theorem Unit5_is_model (f : Ex → List Val → W (Try Val)) (c cur0 cur : Ex) (a1 a2 a3 a4 a5 : Val) :
    Unit5 (fun c a1 a2 a3 a4 a5 => f c [a1, a2, a3, a4, a5]) c cur0 cur a1 a2 a3 a4 a5 = funcN f [a1, a2, a3, a4, a5] := by rfl

theorem Func6_is_model (f : Ex → List Val → W (Try Val)) (c cur0 cur : Ex) (a1 a2 a3 a4 a5 a6 : Val) :
    Func6 (fun c a1 a2 a3 a4 a5 a6 => f c [a1, a2, a3, a4, a5, a6]) c cur0 cur a1 a2 a3 a4 a5 a6 = funcN f [a1, a2, a3, a4, a5, a6] := by rfl
theorem Unit6_is_model (f : Ex → List Val → W (Try Val)) (c cur0 cur : Ex) (a1 a2 a3 a4 a5 a6 : Val) :
    Unit6 (fun c a1 a2 a3 a4 a5 a6 => f c [a1, a2, a3, a4, a5, a6]) c cur0 cur a1 a2 a3 a4 a5 a6 = funcN f [a1, a2, a3, a4, a5, a6] := by rfl

theorem Func7_is_model (f : Ex → List Val → W (Try Val)) (c cur0 cur : Ex) (a1 a2 a3 a4 a5 a6 a7 : Val) :
    Func7 (fun c a1 a2 a3 a4 a5 a6 a7 => f c [a1, a2, a3, a4, a5, a6, a7]) c cur0 cur a1 a2 a3 a4 a5 a6 a7 = funcN f [a1, a2, a3, a4, a5, a6, a7] := by rfl
theorem Unit7_is_model (f : Ex → List Val → W (Try Val)) (c cur0 cur : Ex) (a1 a2 a3 a4 a5 a6 a7 : Val) :
    Unit7 (fun c a1 a2 a3 a4 a5 a6 a7 => f c [a1, a2, a3, a4, a5, a6, a7]) c cur0 cur a1 a2 a3 a4 a5 a6 a7 = funcN f [a1, a2, a3, a4, a5, a6, a7] := by rfl

theorem Func8_is_model (f : Ex → List Val → W (Try Val)) (c cur0 cur : Ex) (a1 a2 a3 a4 a5 a6 a7 a8 : Val) :
    Func8 (fun c a1 a2 a3 a4 a5 a6 a7 a8 => f c [a1, a2, a3, a4, a5, a6, a7, a8]) c cur0 cur a1 a2 a3 a4 a5 a6 a7 a8 = funcN f [a1, a2, a3, a4, a5, a6, a7, a8] := by rfl
theorem Unit8_is_model (f : Ex → List Val → W (Try Val)) (c cur0 cur : Ex) (a1 a2 a3 a4 a5 a6 a7 a8 : Val) :
    Unit8 (fun c a1 a2 a3 a4 a5 a6 a7 a8 => f c [a1, a2, a3, a4, a5, a6, a7, a8]) c cur0 cur a1 a2 a3 a4 a5 a6 a7 a8 = funcN f [a1, a2, a3, a4, a5, a6, a7, a8] := by rfl

theorem Func9_is_model (f : Ex → List Val → W (Try Val)) (c cur0 cur : Ex) (a1 a2 a3 a4 a5 a6 a7 a8 a9 : Val) :
    Func9 (fun c a1 a2 a3 a4 a5 a6 a7 a8 a9 => f c [a1, a2, a3, a4, a5, a6, a7, a8, a9]) c cur0 cur a1 a2 a3 a4 a5 a6 a7 a8 a9 = funcN f [a1, a2, a3, a4, a5, a6, a7, a8, a9] := by rfl
theorem Unit9_is_model (f : Ex → List Val → W (Try Val)) (c cur0 cur : Ex) (a1 a2 a3 a4 a5 a6 a7 a8 a9 : Val) :
    Unit9 (fun c a1 a2 a3 a4 a5 a6 a7 a8 a9 => f c [a1, a2, a3, a4, a5, a6, a7, a8, a9]) c cur0 cur a1 a2 a3 a4 a5 a6 a7 a8 a9 = funcN f [a1, a2, a3, a4, a5, a6, a7, a8, a9] := by rfl

theorem Compose3_is_model (f1 f2 f3 : Ex → Val → FExpr) (c cur0 cur : Ex) (a : Val) :
    Compose3 f1 f2 f3 c cur0 cur a = composeN c [f1, f2, f3] cur a := rfl

theorem Compose4_is_model (f1 f2 f3 f4 : Ex → Val → FExpr) (c cur0 cur : Ex) (a : Val) :
    Compose4 f1 f2 f3 f4 c cur0 cur a = composeN c [f1, f2, f3, f4] cur a := rfl

theorem Compose5_is_model (f1 f2 f3 f4 f5 : Ex → Val → FExpr) (c cur0 cur : Ex) (a : Val) :
    Compose5 f1 f2 f3 f4 f5 c cur0 cur a = composeN c [f1, f2, f3, f4, f5] cur a := rfl

-- transported theorems: left-to-right short circuit ------------------------------------------------------------------------

abbrev TV := Option (Try Val)

/-- `Map2`: a failed FIRST operand is the result whatever the second is (C06 `evalS_map2_first_failure`) -/
theorem Map2_first_failure (σ : Nat → TV) (a b : Nat) (f : Ex → Val → Val → W Val) (c cur : Ex) (e : Err)
    (h : σ a = some (.failure e)) : evalS σ (Map2 (.ref a) b f c cur) = some (.failure e) :=
  evalS_map2_first_failure σ a b (f c) e h
theorem Map2_pending (σ : Nat → TV) (a b : Nat) (f : Ex → Val → Val → W Val) (c cur : Ex)
    (h : σ a = none) : evalS σ (Map2 (.ref a) b f c cur) = none :=
  evalS_map2_pending σ a b (f c) h
theorem Map2_denotation (σ : Nat → TV) (a b : Nat) (f : Ex → Val → Val → W Val) (c cur : Ex) :
    evalS σ (Map2 (.ref a) b f c cur) = bindOk (σ a) (fun x => bindOk (σ b) (fun y => some (.success (f c x y).1))) :=
  evalS_map2 σ a b (f c)
/-- `Zip` pairs in operand order -/
theorem Zip_denotation (σ : Nat → TV) (a b : Nat) (cur : Ex) :
    evalS σ (Zip (.ref a) b cur) = bindOk (σ a) (fun x => bindOk (σ b) (fun y => some (.success (.tup [x, y])))) :=
  evalS_map2 σ a b (fun x y => (Val.tup [x, y], []))
theorem Zip_first_failure (σ : Nat → TV) (a b : Nat) (cur : Ex) (e : Err) (h : σ a = some (.failure e)) :
    evalS σ (Zip (.ref a) b cur) = some (.failure e) :=
  evalS_map2_first_failure σ a b (fun x y => (Val.tup [x, y], [])) e h
/-- `Ap`: the FUNCTION future is bound first -/
theorem Ap_function_failure (σ : Nat → TV) (app : Ex → Val → Val → W Val) (t a : Nat) (c cur : Ex) (e : Err)
    (h : σ t = some (.failure e)) : evalS σ (Ap app (.ref t) a c cur) = some (.failure e) := by
  simp [Ap, evalS, bindOk, h]
theorem Ap_function_pending (σ : Nat → TV) (app : Ex → Val → Val → W Val) (t a : Nat) (c cur : Ex)
    (h : σ t = none) : evalS σ (Ap app (.ref t) a c cur) = none := by
  simp [Ap, evalS, bindOk, h]
theorem Ap_denotation (σ : Nat → TV) (app : Ex → Val → Val → W Val) (t a : Nat) (c cur : Ex) :
    evalS σ (Ap app (.ref t) a c cur)
      = bindOk (σ t) (fun f => bindOk (σ a) (fun x => some (.success (app c f x).1))) := by
  simp only [Ap, Map, evalS]
/-- `LiftA3`: the denotation of the model's `liftA`, hence first failure in operand order (C14 `liftASpec_first_failure`) -/
theorem LiftA3_denotation (σ : Nat → TV) (f : NFn) (c cur0 cur : Ex) (p1 p2 p3 : Nat) :
    evalS σ (LiftA3 (fun c a1 a2 a3 => f c [a1, a2, a3]) c cur0 cur (.ref p1) p2 p3)
      = FpVerif.Spec.C14Fut.liftASpec σ (f c) [p1, p2, p3] [] := by
  rw [LiftA3_is_model]; exact FpVerif.Spec.C14Fut.evalS_liftA σ f c _
theorem LiftA3_first_failure (σ : Nat → TV) (f : Ex → Val → Val → Val → W Val) (c cur0 cur : Ex) (p1 p2 p3 : Nat) (e : Err)
    (h : σ p1 = some (.failure e)) : evalS σ (LiftA3 f c cur0 cur (.ref p1) p2 p3) = some (.failure e) := by
  simp [LiftA3, evalS, bindOk, h]
theorem LiftA3_second_failure (σ : Nat → TV) (f : Ex → Val → Val → Val → W Val) (c cur0 cur : Ex) (p1 p2 p3 : Nat) (v : Val) (e : Err)
    (h1 : σ p1 = some (.success v)) (h2 : σ p2 = some (.failure e)) :
    evalS σ (LiftA3 f c cur0 cur (.ref p1) p2 p3) = some (.failure e) := by
  simp [LiftA3, LiftA2, Map2, evalS, bindOk, h1, h2]
/-- `Sequence`: a failed accumulator stays failed (C06 `evalS_sequenceAcc_failure`) — the first failure in list order wins -/
theorem Sequence_first_failure (σ : Nat → TV) (p : Nat) (ps : List Nat) (c cur : Ex) (e : Err)
    (h : σ p = some (.failure e)) : evalS σ (Sequence (p :: ps) c cur) = some (.failure e) := by
  rw [Sequence_is_model]
  simp only [Fut.sequence, evalS_map, Fut.sequenceAcc]
  rw [evalS_sequenceAcc_failure σ ps _ e (by simp [evalS, Fut.map, bindOk, h])]
  rfl

-- non-vacuity ---------------------------------------------------------------------------------------------------------------
example : evalS (fun p => if p = 0 then some (.failure .optionEmpty) else none)
    (Map2 (.ref 0) 1 (fun _ x _ => (x, [])) .d .s) = some (.failure .optionEmpty) := by
  apply Map2_first_failure; rfl
example : evalS (fun _ => some (.success (.int 1))) (Zip (.ref 0) 1 .s) = some (.success (.tup [.int 1, .int 1])) := by
  rw [Zip_denotation]; rfl

end FpVerif.Spec.C06Gen
