import FpVerif.Lemmas.ListBasics
/-!
# A small interleaving framework.

A concurrent system is a shared state plus a list of thread-local states.  One `step` of thread
`t` executes one ATOMIC BLOCK of that thread: the code between two consecutive yield points of
the Go code (a yield point sits before every atomic Load / Store / CompareAndSwap and before
every other access to shared memory).  A schedule is a list of thread ids; `run` executes it,
skipping the entries that name a thread which does not exist, has finished, or is blocked.
"For every interleaving" is therefore `∀ sched : List Tid`.
-/
namespace FpVerif.Sched

abbrev Tid := Nat

structure Sys (Sh L : Type) where
  shared : Sh
  threads : List L
  deriving DecidableEq, Repr

variable {Sh L : Type}

/-- `stepT sh l = none`: thread `l` is finished or blocked in shared state `sh`. -/
abbrev StepT (Sh L : Type) := Sh → L → Option (Sh × L)

def step (stepT : StepT Sh L) (s : Sys Sh L) (t : Tid) : Option (Sys Sh L) :=
  match s.threads[t]? with
  | none => none
  | some l =>
    match stepT s.shared l with
    | none => none
    | some (sh, l') => some ⟨sh, s.threads.set t l'⟩

/-- a schedule entry that cannot be executed is skipped -/
def stepOr (stepT : StepT Sh L) (s : Sys Sh L) (t : Tid) : Sys Sh L :=
  (step stepT s t).getD s

def run (stepT : StepT Sh L) (s : Sys Sh L) : List Tid → Sys Sh L
  | [] => s
  | t :: ts => run stepT (stepOr stepT s t) ts

/-- number of schedule entries that were really executed -/
def effSteps (stepT : StepT Sh L) (s : Sys Sh L) : List Tid → Nat
  | [] => 0
  | t :: ts =>
    match step stepT s t with
    | none => effSteps stepT s ts
    | some s' => effSteps stepT s' ts + 1

/-- no thread can move: every thread has finished (or the system is deadlocked) -/
def Quiescent (stepT : StepT Sh L) (s : Sys Sh L) : Prop :=
  ∀ t, step stepT s t = none

variable {stepT : StepT Sh L}

theorem step_eq_some {s s' : Sys Sh L} {t : Tid} (h : step stepT s t = some s') :
    ∃ l sh l', s.threads[t]? = some l ∧ stepT s.shared l = some (sh, l') ∧
      s' = ⟨sh, s.threads.set t l'⟩ := by
  unfold step at h
  cases hl : s.threads[t]? with
  | none => simp [hl] at h
  | some l =>
    cases hs : stepT s.shared l with
    | none => simp [hl, hs] at h
    | some p =>
      obtain ⟨sh, l'⟩ := p
      simp [hl, hs] at h
      exact ⟨l, sh, l', rfl, hs, h.symm⟩

theorem step_of {s : Sys Sh L} {t : Tid} {l : L} {sh : Sh} {l' : L}
    (hl : s.threads[t]? = some l) (hs : stepT s.shared l = some (sh, l')) :
    step stepT s t = some ⟨sh, s.threads.set t l'⟩ := by
  simp [step, hl, hs]

theorem step_length {s s' : Sys Sh L} {t : Tid} (h : step stepT s t = some s') :
    s'.threads.length = s.threads.length := by
  obtain ⟨l, sh, l', _, _, rfl⟩ := step_eq_some h
  simp

theorem run_nil (s : Sys Sh L) : run stepT s [] = s := rfl

theorem run_cons (s : Sys Sh L) (t : Tid) (ts : List Tid) :
    run stepT s (t :: ts) = run stepT (stepOr stepT s t) ts := rfl

/-- a schedule is run by folding `stepOr` over it -/
theorem run_eq_foldl (s : Sys Sh L) (sched : List Tid) : run stepT s sched = sched.foldl (stepOr stepT) s := by
  induction sched generalizing s with
  | nil => rfl
  | cons t ts ih => exact ih _

theorem run_append (s : Sys Sh L) (a b : List Tid) :
    run stepT s (a ++ b) = run stepT (run stepT s a) b := by
  simp only [run_eq_foldl, List.foldl_append]

/-- An invariant preserved by every step holds after every schedule. -/
theorem inv_run {Inv : Sys Sh L → Prop}
    (hstep : ∀ s t s', Inv s → step stepT s t = some s' → Inv s')
    {s : Sys Sh L} (h0 : Inv s) (sched : List Tid) : Inv (run stepT s sched) := by
  rw [run_eq_foldl]
  refine Fold.inv (P := Inv) (fun s t h => ?_) h0 sched
  unfold stepOr
  cases e : step stepT s t with
  | none => exact h
  | some s' => exact hstep s t s' h e

/-- A relation between the start and the current state that is reflexive, and extended by every
    step taken from a state satisfying `Inv`, holds between `s` and `run s sched`. -/
theorem rel_run {Inv : Sys Sh L → Prop} {Rel : Sys Sh L → Sys Sh L → Prop}
    (hinv : ∀ s t s', Inv s → step stepT s t = some s' → Inv s')
    (hrefl : ∀ s, Rel s s)
    (hstep : ∀ s0 s t s', Inv s → Rel s0 s → step stepT s t = some s' → Rel s0 s')
    {s : Sys Sh L} (h0 : Inv s) (sched : List Tid) : Rel s (run stepT s sched) :=
  (inv_run (Inv := fun s' => Inv s' ∧ Rel s s')
    (fun a t a' h e => ⟨hinv a t a' h.1 e, hstep s a t a' h.1 h.2 e⟩) ⟨h0, hrefl s⟩ sched).2

/-- A measure that strictly decreases with every step executed from a state satisfying the invariant bounds
    the number of executed steps of every schedule: no schedule can keep the threads busy for ever. -/
theorem effSteps_le_measure_inv {Inv : Sys Sh L → Prop} {μ : Sys Sh L → Nat}
    (hinv : ∀ s t s', Inv s → step stepT s t = some s' → Inv s')
    (hdec : ∀ s t s', Inv s → step stepT s t = some s' → μ s' < μ s)
    (s : Sys Sh L) (h0 : Inv s) (sched : List Tid) :
    effSteps stepT s sched + μ (run stepT s sched) ≤ μ s := by
  induction sched generalizing s with
  | nil => simp [effSteps, run]
  | cons t ts ih =>
    unfold effSteps run stepOr
    cases h : step stepT s t with
    | none => simpa using ih s h0
    | some s' =>
      have := ih s' (hinv s t s' h0 h)
      have := hdec s t s' h0 h
      simp only [Option.getD_some]
      omega

/-- the same, without an invariant -/
theorem effSteps_le_measure {μ : Sys Sh L → Nat}
    (hdec : ∀ s t s', step stepT s t = some s' → μ s' < μ s)
    (s : Sys Sh L) (sched : List Tid) :
    effSteps stepT s sched + μ (run stepT s sched) ≤ μ s :=
  effSteps_le_measure_inv (Inv := fun _ => True) (fun _ _ _ _ _ => trivial) (fun s t s' _ h => hdec s t s' h) s trivial sched

/-- Round-robin driver used by the oracles (and mirrored by the harnesses) after the explicit
    schedule is exhausted: repeatedly give every thread one turn, `fuel` rounds. -/
def roundRobin (nThreads : Nat) : Nat → List Tid
  | 0 => []
  | fuel + 1 => List.range nThreads ++ roundRobin nThreads fuel

/-- `run` that also reports, per schedule entry, the new local state of the thread that moved
    (`none` = the entry was skipped).  This is what the oracles print. -/
def runTrace (stepT : StepT Sh L) (s : Sys Sh L) : List Tid → Sys Sh L × List (Tid × Option L)
  | [] => (s, [])
  | t :: ts =>
    match step stepT s t with
    | none => let r := runTrace stepT s ts; (r.1, (t, none) :: r.2)
    | some s' => let r := runTrace stepT s' ts; (r.1, (t, s'.threads[t]?) :: r.2)

theorem runTrace_fst (stepT : StepT Sh L) (s : Sys Sh L) (sched : List Tid) :
    (runTrace stepT s sched).1 = run stepT s sched := by
  induction sched generalizing s with
  | nil => rfl
  | cons t ts ih =>
    unfold runTrace run stepOr
    cases h : step stepT s t <;> simp [ih]

/-! ### sums over the thread list -/

def sumBy (f : L → Nat) : List L → Nat
  | [] => 0
  | l :: ls => f l + sumBy f ls

theorem sumBy_eq_sum_map (f : L → Nat) (ls : List L) : sumBy f ls = (ls.map f).sum := by
  induction ls with
  | nil => rfl
  | cons a as ih => rw [sumBy, ih, List.map_cons, List.sum_cons]

theorem sumBy_le {f g : L → Nat} {ls : List L} (h : ∀ l ∈ ls, f l ≤ g l) :
    sumBy f ls ≤ sumBy g ls := by
  rw [sumBy_eq_sum_map, sumBy_eq_sum_map]
  exact sum_map_le h

/-- replacing thread `t`: the sum changes by exactly that thread's contribution -/
theorem sumBy_set (f : L → Nat) {ls : List L} {t : Nat} {l l' : L} (h : ls[t]? = some l) :
    sumBy f (ls.set t l') + f l = sumBy f ls + f l' := by
  rw [sumBy_eq_sum_map, sumBy_eq_sum_map]
  exact sum_map_set f ls t l' l h

/-- Strict decrease of a sum: the moved thread strictly decreases, no other thread increases. -/
theorem sumBy_set_lt {f g : L → Nat} {ls : List L} {t : Nat} {l l' : L} (h : ls[t]? = some l)
    (hothers : ∀ x ∈ ls, g x ≤ f x) (hmoved : g l' < f l) :
    sumBy g (ls.set t l') < sumBy f ls := by
  induction ls generalizing t with
  | nil => simp at h
  | cons a as ih =>
    cases t with
    | zero =>
      simp at h
      subst h
      simp only [List.set_cons_zero, sumBy]
      have : sumBy g as ≤ sumBy f as := sumBy_le (fun x hx => hothers x (by simp [hx]))
      omega
    | succ n =>
      simp at h
      simp only [List.set_cons_succ, sumBy]
      have ha : g a ≤ f a := hothers a (by simp)
      have := ih h (fun x hx => hothers x (by simp [hx]))
      omega

theorem sumBy_eq_zero {f : L → Nat} {ts : List L} (h : ∀ x ∈ ts, f x = 0) : sumBy f ts = 0 := by
  induction ts with
  | nil => rfl
  | cons a as ih => simp [sumBy, h a (by simp), ih (fun x hx => h x (by simp [hx]))]

end FpVerif.Sched
