import FpVerif.Model.Record
/-!
# Semantics of gombok's `@fp.Derive` output (C08).

The generator (`cmd/gombok/derive.go`) is not modelled; what its output *means* is.  For a struct
`T` with applicable fields `f1..fn` (declaration order) and component instances `d1..dn` it emits

* `eq.ContraMap(eq.TupleN(d1..dn), T.AsTuple)`
* `ord.ContraMap(ord.TupleN(d1..dn), T.AsTuple)`
* `hash.ContraMap(hash.TupleN(d1..dn), T.AsTuple)`
* `monoid.IMap(monoid.TupleN(d1..dn), TBuilder{}.FromTuple(·).Build, T.AsTuple)`
* `clone.Generic(as.Generic(.., T.AsTuple, TBuilder{}.FromTuple(·).Build), clone.TupleN(d1..dn))`

(for one field and for more than 21 fields the same thing over an `hlist` of the same fields in the
same order: `HCons(d1, HCons(d2, … HNil))`, through `Unapply` / `Builder.Apply`; for a struct
without `@fp.Value` the two conversions are written out as a closure and a composite literal).
A tuple / hlist is the LIST of the applicable field values, so every combinator below is defined
over lists of any length, by recursion on the instance list exactly like the Go templates
(`TupleN` builds `pt := Tuple(N-1)(ins2..insN)` for the tail; `Tuple1` / `HNil` are the base cases).
An arity mismatch between the instance list and a value list cannot be written in Go (it is a type
error); the model answers `false` / `0` / `[]` there.

Everything is polymorphic in the type `α` of field values: the theorems of `Spec/C08.lean` hold
for every `α`; the record model of C07 is the instance `α = RV` (`Lemmas/Record.lean`:
`projectG = project`, `maskG = mask`, …; `Spec/C08.lean`: `unapplyG = unapply`, …), the oracle (`Oracle/Derive.lean`) runs the very same
definitions at the typed value universe `DV` of `Model/DeriveInst.lean`.

This file is a *minimal* dictionary model (`EqD`, `OrdD`, `HashD`, `MonoidD`, `CloneD`): just the
functions a Go type-class value carries.
-/
namespace FpVerif.Derive
open FpVerif.Rec

/-! ## Dictionaries (`fp.Eq[T]`, `fp.Ord[T]`, `fp.Hashable[T]`, `fp.Monoid[T]`) -/

structure EqD (α : Type) where
  eqv : α → α → Bool

structure OrdD (α : Type) where
  eqv : α → α → Bool
  less : α → α → Bool

structure HashD (α : Type) where
  eqv : α → α → Bool
  hash : α → UInt32

structure MonoidD (α : Type) where
  empty : α
  combine : α → α → α

/-- `fp.Ord[T]` embeds `fp.Eq[T]` -/
def OrdD.toEq {α : Type} (d : OrdD α) : EqD α := ⟨d.eqv⟩
/-- `fp.Hashable[T]` embeds `fp.Eq[T]` -/
def HashD.toEq {α : Type} (d : HashD α) : EqD α := ⟨d.eqv⟩

variable {α β : Type}

/-! ## Records of any value type

`Model/Record.lean` fixes the field values to `RV`; the same functions for records over any value
type (`projectG = project`, `injectG = inject`, `maskG = mask` at `RV`: `Lemmas/Record.lean`). -/

/-- the values of the applicable fields in declaration order (`AsTuple` / `Unapply`) -/
def projectG : List Field → List α → List α
  | f :: fs, v :: vs => if f.applicable then v :: projectG fs vs else projectG fs vs
  | _, _ => []

/-- assign the applicable fields of `b` from `t`, position by position (`FromTuple` / `Apply`) -/
def injectG : List Field → List α → List α → List α
  | f :: fs, bv :: bs, t =>
    if f.applicable then
      match t with
      | v :: t' => v :: injectG fs bs t'
      | [] => bv :: injectG fs bs []
    else bv :: injectG fs bs t
  | _, bs, _ => bs

/-- keep the applicable fields of `x`, take the others from `zero` -/
def maskG : List Field → List α → List α → List α
  | f :: fs, z :: zs, v :: vs => (if f.applicable then v else z) :: maskG fs zs vs
  | _, _, _ => []

/-- `T.AsTuple` / `T.Unapply` -/
def unapplyG (s : StructSpec) (x : List α) : List α := projectG s.fields x

/-- a value of the struct: one value per declared field -/
def WFG (s : StructSpec) (x : List α) : Prop := x.length = s.fields.length

/-! ## `eq` -/

/-- `eq.HNil` / `eq.Tuple1` / the `eq.TupleN` template / `eq.HCons`:
    `ins1.Eqv(t1.I1, t2.I1) && pt.Eqv(as.Tuple(N-1)(t1.Tail()), as.Tuple(N-1)(t2.Tail()))` -/
def tupleEq : List (EqD α) → List α → List α → Bool
  | [], _, _ => true
  | [d], a :: _, b :: _ => d.eqv a b
  | d :: ds, a :: as, b :: bs => d.eqv a b && tupleEq ds as bs
  | _, _, _ => false

/-- `eq.ContraMap(instance, fn)`: `instance.Eqv(fn(a), fn(b))` -/
def EqD.contraMap (eqv : α → α → Bool) (fn : β → α) : EqD β :=
  ⟨fun a b => eqv (fn a) (fn b)⟩

/-- `EqT()`: `eq.ContraMap(eq.TupleN(d1..dn), T.AsTuple)` -/
def derivedEq (s : StructSpec) (ds : List (EqD α)) : EqD (List α) :=
  EqD.contraMap (tupleEq ds) (unapplyG s)

/-! ## `ord` -/

/-- `ord.New(eqv, less)` (ord_op.go): a `fp.CompareFunc` —
    `if eqv.Eqv(a, b) { return 0 }; return less.Compare(a, b)` with `LessFunc.Compare` =
    `-1` if `less(a,b)`, `1` if `less(b,a)`, else `0`.  Its `Eqv` is `Compare == 0`, its `Less` is
    `Compare < 0`: the `less` function is consulted only when `eqv` says "different". -/
def OrdD.new (eqv less : α → α → Bool) : OrdD α :=
  ⟨fun a b => eqv a b || (!less a b && !less b a), fun a b => !eqv a b && less a b⟩

/-- the lexicographic `Less` the `ord.TupleN` template spells out:
    `if ins1.Less(t1.I1, t2.I1) { return true }; if ins1.Less(t2.I1, t1.I1) { return false };
     return pt.Less(tail t1, tail t2)` — WITHOUT the `ord.New` wrapping of every level (the
    property's reference order; `tupleOrd` is the code) -/
def tupleLess : List (OrdD α) → List α → List α → Bool
  | [], _, _ => false
  | [d], a :: _, b :: _ => d.less a b
  | d :: ds, a :: as, b :: bs =>
    if d.less a b then true
    else if d.less b a then false
    else tupleLess ds as bs
  | _, _, _ => false

/-- `ord.HNil` (`New(EqGiven, false)`) / the `ord.TupleN` template / `ord.HCons`:
    `New(eq.New(ins1.Eqv(heads) && pt.Eqv(tails)), LessFunc(… pt.Less(tails)))` with
    `pt := Tuple(N-1)(ins2..insN)`.  (`ord.Tuple1(a) = New(a.Eqv, a.Less)` is the same function
    as `HCons(a, HNil)`: `a.Eqv && true`, `a.Less` else `a.Less` flipped else `false`.) -/
def tupleOrd : List (OrdD α) → OrdD (List α)
  | [] => OrdD.new (fun _ _ => true) (fun _ _ => false)
  | d :: ds =>
    OrdD.new
      (fun t1 t2 =>
        match t1, t2 with
        | a :: as, b :: bs => d.eqv a b && (tupleOrd ds).eqv as bs
        | _, _ => false)
      (fun t1 t2 =>
        match t1, t2 with
        | a :: as, b :: bs =>
          if d.less a b then true
          else if d.less b a then false
          else (tupleOrd ds).less as bs
        | _, _ => false)

/-- `ord.ContraMap(instance, fn)`:
    `New(eq.ContraMap(instance, fn), instance.Less(fn(a), fn(b)))` -/
def OrdD.contraMap (inst : OrdD α) (fn : β → α) : OrdD β :=
  OrdD.new (fun a b => inst.eqv (fn a) (fn b)) (fun a b => inst.less (fn a) (fn b))

/-- `OrdT()` -/
def derivedOrd (s : StructSpec) (ds : List (OrdD α)) : OrdD (List α) :=
  OrdD.contraMap (tupleOrd ds) (unapplyG s)

/-! ## `hash` -/

/-- `hash.HNil` (0) / `hash.Tuple1` (`ins1.Hash(t.Head())`) / the `hash.TupleN` template /
    `hash.HCons` (`ins1.Hash(t.Head())*31 + pt.Hash(tail)`, `uint32` arithmetic; the last
    component is not multiplied) -/
def tupleHash : List (HashD α) → List α → UInt32
  | [], _ => 0
  | [d], a :: _ => d.hash a
  | d :: ds, a :: as => d.hash a * 31 + tupleHash ds as
  | _, _ => 0

/-- `hash.ContraMap(teq, fn)`: `New(eq.ContraMap(teq, fn), teq.Hash(fn(a)))` -/
def HashD.contraMap (eqv : α → α → Bool) (hash : α → UInt32) (fn : β → α) : HashD β :=
  ⟨fun a b => eqv (fn a) (fn b), fun a => hash (fn a)⟩

/-- `HashableT()`; the `Eqv` of `hash.TupleN` is the same expression as `eq.TupleN` -/
def derivedHash (s : StructSpec) (ds : List (HashD α)) : HashD (List α) :=
  HashD.contraMap (tupleEq (ds.map HashD.toEq)) (tupleHash ds) (unapplyG s)

/-! ## `monoid` -/

/-- `Empty` of the `monoid.TupleN` template: `product.TupleN(ins1.Empty(), …, insN.Empty())` -/
def tupleEmpty (ds : List (MonoidD α)) : List α := ds.map MonoidD.empty

/-- `Combine` of the `monoid.TupleN` template:
    `product.TupleN(ins1.Combine(t1.I1, t2.I1), …, insN.Combine(t1.IN, t2.IN))` -/
def tupleCombine : List (MonoidD α) → List α → List α → List α
  | d :: ds, a :: as, b :: bs => d.combine a b :: tupleCombine ds as bs
  | _, _, _ => []

/-- `monoid.IMap(instance, fab, fba)`: `Empty = fab(instance.Empty())`,
    `Combine(a, b) = fab(instance.Combine(fba(a), fba(b)))` -/
def MonoidD.imap (empty : α) (combine : α → α → α) (fab : α → β) (fba : β → α) : MonoidD β :=
  ⟨fab empty, fun a b => fab (combine (fba a) (fba b))⟩

/-- `fp.Compose(as.Curried2(TBuilder.FromTuple)(TBuilder{}), TBuilder.Build)` (or the composite
    literal that names the applicable fields): assign the applicable fields of the ZERO value
    `zero` of the struct from the tuple -/
def fromZero (s : StructSpec) (zero : List α) (t : List α) : List α := injectG s.fields zero t

/-- `MonoidT()`; `zero` is the zero value of the struct (`TBuilder{}`) -/
def derivedMonoid (s : StructSpec) (zero : List α) (ds : List (MonoidD α)) : MonoidD (List α) :=
  MonoidD.imap (tupleEmpty ds) (tupleCombine ds) (fromZero s zero) (unapplyG s)

/-! ## Generic structs

`EqG[T, U, V any](eqT fp.Eq[T], eqV fp.Eq[V]) fp.Eq[G[T,U,V]]`: the derived instance of a generic
struct is a FUNCTION of one dictionary per *used* type parameter.  The component of a field is
either the dictionary passed for its type parameter or an instance found in scope. -/

/-- the component instance of field `f`: the parameter's dictionary when the field type is one of
    the struct's type parameters, else whatever instance resolution finds for the type -/
def resolve {D : Type} (params : List String) (paramDict : String → D) (given : Ty → D)
    (f : Field) : D :=
  match f.ty with
  | .conc n => if params.contains n then paramDict n else given f.ty
  | t => given t

def components {D : Type} (s : StructSpec) (params : List String) (given : Ty → D)
    (paramDict : String → D) : List D :=
  s.applicableFields.map (resolve params paramDict given)

def derivedEqG (s : StructSpec) (params : List String) (given : Ty → EqD α) :
    (String → EqD α) → EqD (List α) :=
  fun pd => derivedEq s (components s params given pd)

def derivedOrdG (s : StructSpec) (params : List String) (given : Ty → OrdD α) :
    (String → OrdD α) → OrdD (List α) :=
  fun pd => derivedOrd s (components s params given pd)

def derivedHashG (s : StructSpec) (params : List String) (given : Ty → HashD α) :
    (String → HashD α) → HashD (List α) :=
  fun pd => derivedHash s (components s params given pd)

def derivedMonoidG (s : StructSpec) (zero : List α) (params : List String)
    (given : Ty → MonoidD α) : (String → MonoidD α) → MonoidD (List α) :=
  fun pd => derivedMonoid s zero (components s params given pd)

/-! ## `clone`: values with mutable storage

"Shares no mutable storage" needs a value type that shows storage.
`HV.ref a c` is anything with identity: a pointer, the backing array of a slice, a map — mutable
storage at address `a` holding `c`.  `HV.pair` is by-value aggregation (struct fields, slice
elements: an n-ary aggregate is a right-nested pair), `HV.leaf` an immutable scalar (also `nil`). -/

inductive HV where
  | leaf (s : String)
  | ref (addr : Nat) (content : HV)
  | pair (l r : HV)
  deriving DecidableEq, Repr, Inhabited

/-- every address reachable from the value, in pre-order -/
def HV.addrs : HV → List Nat
  | .leaf _ => []
  | .ref a c => a :: c.addrs
  | .pair l r => l.addrs ++ r.addrs

/-- equal content, addresses ignored -/
def HV.same : HV → HV → Bool
  | .leaf s, .leaf t => s == t
  | .ref _ c, .ref _ c' => c.same c'
  | .pair l r, .pair l' r' => l.same l' && r.same r'
  | _, _ => false

def addrsL (vs : List HV) : List Nat := vs.flatMap HV.addrs

def sameL : List HV → List HV → Bool
  | [], [] => true
  | a :: as, b :: bs => a.same b && sameL as bs
  | _, _ => false

/-- the allocator: the state is the next fresh address -/
abbrev Alloc := StateM Nat

/-- `new(T)` / `make(...)` -/
def fresh : Alloc Nat := fun n => (n, n + 1)

/-- `fp.Clone[T]`: `Clone(T) T`, which may allocate -/
structure CloneD (α : Type) where
  clone : α → Alloc α

/-- a copy that re-allocates every piece of mutable storage -/
def deepClone : HV → Alloc HV
  | .leaf s => pure (.leaf s)
  | .ref _ c => do
    let a' ← fresh
    let c' ← deepClone c
    pure (.ref a' c')
  | .pair l r => do
    let l' ← deepClone l
    let r' ← deepClone r
    pure (.pair l' r')

def CloneD.deep : CloneD HV := ⟨deepClone⟩

/-- `clone.Given[T]()`: `return t` -/
def CloneD.given : CloneD HV := ⟨fun v => pure v⟩

/-- `clone.Ptr` as it was written before commit ddaa598 ("clone.Ptr ignored its element
    instance": the argument `tshow` was never used): `if pt == nil { return nil }; var t = *pt;
    return &t` — a new cell holding a SHALLOW copy of the pointee.  Kept as the counter-model of
    the theorems `ptrCloneShallow_*` (what the property excludes). -/
def ptrCloneShallow (_tshow : CloneD HV) : CloneD HV :=
  ⟨fun pt =>
    match pt with
    | .ref _ t => do
      let a' ← fresh
      pure (.ref a' t)
    | v => pure v⟩

/-- `clone.Ptr` (clone/clone.go): the pointee is cloned with the component instance:
    `if pt == nil { return nil }; var t = tshow.Get().Clone(*pt); return &t` -/
def ptrCloneDeep (tclone : CloneD HV) : CloneD HV :=
  ⟨fun pt =>
    match pt with
    | .ref _ t => do
      let a' ← fresh
      let t' ← tclone.clone t
      pure (.ref a' t')
    | v => pure v⟩

/-- `clone.Slice(tclone)`: `seq.Map(s, tclone.Clone)` allocates a new backing array and clones the
    elements (here the element aggregate) into it -/
def sliceClone (tclone : CloneD HV) : CloneD HV := ptrCloneDeep tclone

/-- `clone.TupleN` template: `as.TupleN(ins1.Clone(t.I1), …, insN.Clone(t.IN))`, left to right -/
def tupleClone : List (CloneD α) → List α → Alloc (List α)
  | d :: ds, a :: as => do
    let a' ← d.clone a
    let r ← tupleClone ds as
    pure (a' :: r)
  | _, _ => pure []

abbrev HRec := List HV

/-- a zero value holds no storage (nil pointer, nil slice, 0, "") -/
def HV.ofRV : RV → HV
  | .atom s => .leaf s
  | .none => .leaf "None"
  | .some v => .pair (.leaf "Some") (HV.ofRV v)
  | .nilIface => .leaf "nil"
  | .iface d v => .pair (.leaf d) (HV.ofRV v)

/-- `TBuilder{}` -/
def zeroH (s : StructSpec) : HRec := s.fields.map (fun f => HV.ofRV f.zero)

/-- `clone.Generic(gen, reprClone)`: `gen.From(reprClone.Clone(gen.To(a)))` with
    `gen.To = T.AsTuple`, `gen.From = TBuilder{}.FromTuple(·).Build` -/
def derivedClone (s : StructSpec) (ds : List (CloneD HV)) : CloneD HRec :=
  ⟨fun a => do
    let t ← tupleClone ds (projectG s.fields a)
    pure (injectG s.fields (zeroH s) t)⟩

/-! ## Law bundles (the vocabulary of the C08 theorems)

Each bundle is relative to a carrier predicate `P` (the values the laws are claimed for): a
component is lawful on the values of its Go type, the derived instance is proved lawful on the
well-formed records `WFG s` whose fields lie in the carriers of their components. -/

structure LawfulEqOn (P : α → Prop) (d : EqD α) : Prop where
  refl : ∀ a, P a → d.eqv a a = true
  symm : ∀ a b, P a → P b → d.eqv a b = true → d.eqv b a = true
  trans : ∀ a b c, P a → P b → P c → d.eqv a b = true → d.eqv b c = true → d.eqv a c = true

abbrev LawfulEq (d : EqD α) : Prop := LawfulEqOn (fun _ => True) d

/-- a strict weak order whose `Eqv` is "neither is less": irreflexive, transitive, and
    incomparability (= `Eqv`) is transitive.  (When `Eqv` is equality this is a strict total order.) -/
structure LawfulOrdOn (P : α → Prop) (d : OrdD α) : Prop where
  irrefl : ∀ a, P a → d.less a a = false
  trans : ∀ a b c, P a → P b → P c → d.less a b = true → d.less b c = true → d.less a c = true
  eqv_iff : ∀ a b, P a → P b → (d.eqv a b = true ↔ (d.less a b = false ∧ d.less b a = false))
  eqv_trans : ∀ a b c, P a → P b → P c → d.eqv a b = true → d.eqv b c = true → d.eqv a c = true

abbrev LawfulOrd (d : OrdD α) : Prop := LawfulOrdOn (fun _ => True) d

/-- the one law the lexicographic characterisation needs of a component: its `Eqv` is exactly
    "neither is less" (`ord.New` consults `less` only when `eqv` fails) -/
def OrdCompat (d : OrdD α) : Prop :=
  ∀ a b, d.eqv a b = true ↔ (d.less a b = false ∧ d.less b a = false)

structure LawfulHashOn (P : α → Prop) (d : HashD α) : Prop where
  congr : ∀ a b, P a → P b → d.eqv a b = true → d.hash a = d.hash b

abbrev LawfulHash (d : HashD α) : Prop := LawfulHashOn (fun _ => True) d

structure LawfulMonoidOn (P : α → Prop) (d : MonoidD α) : Prop where
  left_id : ∀ a, P a → d.combine d.empty a = a
  right_id : ∀ a, P a → d.combine a d.empty = a
  assoc : ∀ a b c, P a → P b → P c → d.combine (d.combine a b) c = d.combine a (d.combine b c)

abbrev LawfulMonoid (d : MonoidD α) : Prop := LawfulMonoidOn (fun _ => True) d

/-- pointwise relation between two lists of the same length (core has no `List.Forall₂`) -/
inductive Forall2 {β : Type} (R : α → β → Prop) : List α → List β → Prop where
  | nil : Forall2 R [] []
  | cons {a : α} {b : β} {as : List α} {bs : List β} : R a b → Forall2 R as bs → Forall2 R (a :: as) (b :: bs)

/-- every value of the tuple lies in the carrier of its position -/
abbrev InCarriers (Ps : List (α → Prop)) (vs : List α) : Prop := Forall2 (fun P v => P v) Ps vs

/-- every component is a lawful monoid on the carrier of its position -/
abbrev LawfulMonoids (ds : List (MonoidD α)) (Ps : List (α → Prop)) : Prop :=
  Forall2 (fun d P => LawfulMonoidOn P d) ds Ps

/-- run an allocating computation with `n` as the next fresh address: (result, next fresh address) -/
def runAlloc (m : Alloc α) (n : Nat) : α × Nat := (m.run n).run

/-- "an equal copy sharing no mutable storage", for the clone `d` at the value `v`: from every
    allocator state `n` the copy has the same content, and its addresses are pairwise distinct and
    all allocated by this call (in `[n, n')`) — hence none of them occurs in any value that
    existed before the call. -/
structure CloneOK (d : CloneD HV) (v : HV) : Prop where
  same : ∀ n, (runAlloc (d.clone v) n).1.same v = true
  mono : ∀ n, n ≤ (runAlloc (d.clone v) n).2
  fresh : ∀ n a, a ∈ (runAlloc (d.clone v) n).1.addrs → n ≤ a ∧ a < (runAlloc (d.clone v) n).2
  nodup : ∀ n, (runAlloc (d.clone v) n).1.addrs.Nodup

/-- the same for a record clone -/
structure CloneOKRec (s : StructSpec) (d : CloneD HRec) (x : HRec) : Prop where
  same : ∀ n, sameL (projectG s.fields (runAlloc (d.clone x) n).1) (projectG s.fields x) = true
  mono : ∀ n, n ≤ (runAlloc (d.clone x) n).2
  fresh : ∀ n a, a ∈ addrsL (runAlloc (d.clone x) n).1 → n ≤ a ∧ a < (runAlloc (d.clone x) n).2
  nodup : ∀ n, (addrsL (runAlloc (d.clone x) n).1).Nodup

/-! ## Sample component instances over `RV` (used to show the law bundles are satisfiable) -/

/-- `eq.Given[T]()` for a comparable `T`: Go `==` on the canonical value -/
def EqD.given : EqD RV := ⟨fun a b => a == b⟩

/-- the number an unsigned integer field holds (canonical decimal rendering) -/
def rvNum : RV → Nat
  | .atom s => s.toList.foldl (fun n c => n * 10 + (c.toNat - 48)) 0
  | _ => 0

/-- `ord.Given[uint]()` -/
def OrdD.byNum : OrdD RV := ⟨fun a b => rvNum a == rvNum b, fun a b => decide (rvNum a < rvNum b)⟩

/-- `hash.Number[uint]()` -/
def HashD.byNum : HashD RV := ⟨fun a b => rvNum a == rvNum b, fun a => (rvNum a).toUInt32⟩

/-- "first defined wins" (`None` is the identity) -/
def MonoidD.first : MonoidD RV := ⟨.none, fun a b => if a = .none then b else a⟩

/-! ## Sample declarations and values (used by the concrete examples of C08) -/

/-- `type B struct { p *A; n int }` where `type A struct { name string; sl []string }` -/
def specB : StructSpec :=
  { name := "B", fields := [{ name := "p", ty := .conc "*A" }, { name := "n", ty := .conc "int" }] }

/-- `B{p: &A{name: "x", sl: []string{"e"}}, n: 7}`: the `A` lives at address 0, the backing array of
    its slice at address 1 -/
def valB : HRec := [.ref 0 (.pair (.leaf "x") (.ref 1 (.leaf "e"))), .leaf "7"]

/-- a struct with a non-applicable field in the middle: `struct { a uint; _pad uint; b uint }` -/
def specP : StructSpec :=
  { name := "P", fields := [{ name := "a", ty := .conc "uint" }, { name := "_pad", ty := .conc "uint" },
      { name := "b", ty := .conc "uint" }] }

end FpVerif.Derive
