import FpVerif.Lemmas.IterSim
/-!
# The sources (slice, option, empty, zero value, `Range`, `ReverseSeq`): simulations by a relation on their own state
-/
namespace FpVerif.It
variable {α : Type}

/-- relation of `ofSeq`: `idx` elements delivered. -/
def ofSeqRel (xs : List α) (idx : Nat) (d r : List α) : Prop :=
  idx ≤ xs.length ∧ d = xs.take idx ∧ r = xs.drop idx

theorem ofSeqRel_zero (xs : List α) : ofSeqRel xs 0 [] xs := ⟨Nat.zero_le _, rfl, rfl⟩

def tagEvs (tag : Option (α → Event)) (a : α) : List Event :=
  match tag with
  | some t => [t a]
  | none => []

/-! The slice iterator call by call, in terms of what is left of the slice (`xs.drop idx`). -/

theorem ofSeq_hasNext (tag : Option (α → Event)) (xs : List α) (idx : Nat) (lg : Log) :
    (ofSeq tag xs).hasNext idx lg = (.ok (!(xs.drop idx).isEmpty), idx, lg) := by
  have : decide (idx < xs.length) = !(xs.drop idx).isEmpty := by
    by_cases h : idx < xs.length
    · simp [h]
    · simp [h]; omega
  simp [ofSeq, bind_apply, this]

theorem ofSeq_next_nil (tag : Option (α → Event)) {xs : List α} {idx : Nat} (lg : Log) (h : xs.drop idx = []) :
    (ofSeq tag xs).next idx lg = (.error nextOnEmpty, idx, lg) := by
  simp [ofSeq, bind_apply, List.getElem?_eq_none (List.drop_eq_nil_iff.mp h)]

theorem ofSeq_next_cons (tag : Option (α → Event)) {xs : List α} {idx : Nat} {a : α} {r : List α} (lg : Log)
    (h : xs.drop idx = a :: r) :
    (ofSeq tag xs).next idx lg = (.ok a, idx + 1, lg ++ tagEvs tag a) ∧ idx < xs.length ∧
      xs.drop (idx + 1) = r ∧ xs.take (idx + 1) = xs.take idx ++ [a] := by
  have hlt : idx < xs.length := by
    rcases Nat.lt_or_ge idx xs.length with h' | h'
    · exact h'
    · rw [List.drop_eq_nil_of_le h'] at h; cases h
  rw [List.drop_eq_getElem_cons hlt] at h
  obtain ⟨rfl, rfl⟩ := List.cons.inj h
  refine ⟨?_, hlt, rfl, by rw [List.take_add_one, List.getElem?_eq_getElem hlt]; rfl⟩
  cases tag with
  | none => simp [ofSeq, bind_apply, List.getElem?_eq_getElem hlt, tagEvs]
  | some t =>
    have he : (IM.liftG (emit (t xs[idx])) : IM Nat Unit) (idx + 1) lg = (.ok (), idx + 1, lg ++ [t xs[idx]]) := rfl
    simp [ofSeq, bind_apply, List.getElem?_eq_getElem hlt, he, tagEvs]

theorem ofSeq_sim (tag : Option (α → Event)) (xs : List α) : Sim (ofSeq tag xs) (ofSeqRel xs) where
  hasNext := by
    rintro idx d r lg ⟨hle, rfl, rfl⟩
    exact ⟨idx, lg, ofSeq_hasNext tag xs idx lg, hle, rfl, rfl⟩
  next_cons := by
    rintro idx d a r lg ⟨hle, rfl, hr⟩
    obtain ⟨e, hlt, hd, ht⟩ := ofSeq_next_cons tag lg hr.symm
    exact ⟨idx + 1, _, e, hlt, ht.symm, hd.symm⟩
  next_nil := by
    rintro idx d lg ⟨hle, rfl, hr⟩
    exact ⟨nextOnEmpty, idx, lg, ofSeq_next_nil tag lg hr.symm, hle, rfl, hr⟩

theorem empty_sim : Sim (empty : Machine Unit α) (fun _ _ r => r = []) where
  hasNext := by rintro s d r lg rfl; exact ⟨s, lg, rfl, rfl⟩
  next_cons := by rintro s d a r lg h; cases h
  next_nil := by rintro s d lg _; exact ⟨nextOnEmpty, s, lg, rfl, rfl⟩

theorem zero_sim : Sim (zero : Machine Unit α) (fun _ _ r => r = []) where
  hasNext := by rintro s d r lg rfl; exact ⟨s, lg, rfl, rfl⟩
  next_cons := by rintro s d a r lg h; cases h
  next_nil := by rintro s d lg _; exact ⟨nilFunc, s, lg, rfl, rfl⟩

theorem ofOption_sim (o : Option α) :
    Sim (ofOption o) (fun first _ r => r = if first then o.toList else []) where
  hasNext := by
    rintro first d r lg rfl
    refine ⟨first, lg, ?_, rfl⟩
    cases first <;> cases o <;> rfl
  next_cons := by
    rintro first d a r lg h
    rcases first with _ | _
    · cases h
    · rcases o with _ | v
      · cases h
      · cases h; exact ⟨false, lg, rfl, rfl⟩
  next_nil := by
    rintro first d lg h
    rcases first with _ | _
    · exact ⟨nextOnEmpty, false, lg, by cases o <;> rfl, rfl⟩
    · rcases o with _ | v
      · exact ⟨nextOnEmpty, true, lg, rfl, rfl⟩
      · cases h

theorem optionIter_sim :
    Sim (optionIter : Machine (Option α × Bool) α)
      (fun st _ r => r = if st.2 then st.1.toList else []) where
  hasNext := by
    rintro ⟨o, first⟩ d r lg rfl
    refine ⟨(o, first), lg, ?_, rfl⟩
    cases first <;> cases o <;> rfl
  next_cons := by
    rintro ⟨o, first⟩ d a r lg h
    rcases first with _ | _
    · cases h
    · rcases o with _ | v
      · cases h
      · cases h; exact ⟨(some a, false), lg, rfl, rfl⟩
  next_nil := by
    rintro ⟨o, first⟩ d lg h
    rcases first with _ | _
    · exact ⟨nextOnEmpty, (o, false), lg, by cases o <;> rfl, rfl⟩
    · rcases o with _ | v
      · exact ⟨nextOnEmpty, (none, true), lg, rfl, rfl⟩
      · cases h

/-- `[i, i+1, …]`, `k` elements -/
def intRange : Int → Nat → List Int
  | _, 0 => []
  | i, k + 1 => i :: intRange (i + 1) k

/-- number of elements `Range`/`RangeClosed` still yields from `i` -/
def rangeCount (closed : Bool) (bound i : Int) : Nat :=
  if closed then (bound + 1 - i).toNat else (bound - i).toNat

/-- the list `Range` yields, unfolded once along the test that `hasNext` and `next` make -/
theorem intRange_rangeCount (closed : Bool) (bound i : Int) :
    intRange i (rangeCount closed bound i) =
      if (if closed then decide (i ≤ bound) else decide (i < bound)) = true
      then i :: intRange (i + 1) (rangeCount closed bound (i + 1)) else [] := by
  have step : ∀ b : Int, (if i < b then i :: intRange (i + 1) (b - (i + 1)).toNat else []) = intRange i (b - i).toNat := by
    intro b
    by_cases h : i < b
    · obtain ⟨k, hk⟩ : ∃ k, (b - i).toNat = k + 1 := ⟨(b - i).toNat - 1, by omega⟩
      have hk' : (b - (i + 1)).toNat = k := by omega
      rw [if_pos h, hk, hk']; rfl
    · have : (b - i).toNat = 0 := by omega
      rw [if_neg h, this]; rfl
  cases closed
  · simpa [rangeCount] using (step bound).symm
  · have := (step (bound + 1)).symm
    simpa [rangeCount, Int.lt_add_one_iff] using this

theorem range_sim (closed : Bool) (bound : Int) :
    Sim (range closed bound) (fun i _ r => r = intRange i (rangeCount closed bound i)) where
  hasNext := by
    rintro i d r lg rfl
    refine ⟨i, lg, ?_, rfl⟩
    rw [intRange_rangeCount]
    by_cases h : (if closed then decide (i ≤ bound) else decide (i < bound)) = true <;>
      simp [range, bind_apply, h]
  next_cons := by
    rintro i d a r lg h
    rw [intRange_rangeCount] at h
    by_cases hc : (if closed then decide (i ≤ bound) else decide (i < bound)) = true
    · rw [if_pos hc] at h
      obtain ⟨rfl, rfl⟩ := List.cons.inj h
      exact ⟨a + 1, lg, by simp only [range, bind_apply, get_apply, hc, ↓reduceIte]; rfl, rfl⟩
    · rw [if_neg hc] at h; cases h
  next_nil := by
    rintro i d lg h
    refine ⟨nextOnEmpty, i, lg, ?_, h⟩
    rw [intRange_rangeCount] at h
    by_cases hc : (if closed then decide (i ≤ bound) else decide (i < bound)) = true
    · rw [if_pos hc] at h; cases h
    · simp only [range, bind_apply, get_apply, hc]; rfl

theorem reverseSeq_sim (xs : List α) :
    Sim (reverseSeq xs) (fun idx _ r => idx ≤ xs.length ∧ r = (xs.take idx).reverse) where
  hasNext := by
    rintro idx d r lg ⟨hle, rfl⟩
    have hpos : decide (idx > 0) = !(xs.take idx).reverse.isEmpty := by
      have : (xs.take idx).length = idx := List.length_take_of_le hle
      cases h : xs.take idx with
      | nil => rw [h] at this; simp [← this]
      | cons _ _ => rw [h] at this; simp [← this]
    exact ⟨idx, lg, by simp only [reverseSeq, bind_apply, get_apply, pure_apply, hpos], hle, rfl⟩
  next_cons := by
    rintro idx d a r lg ⟨hle, hr⟩
    cases idx with
    | zero => simp at hr
    | succ k =>
      have hk : k < xs.length := by omega
      rw [List.take_add_one, List.getElem?_eq_getElem hk] at hr
      simp only [Option.toList_some, List.reverse_append, List.reverse_cons, List.reverse_nil,
        List.nil_append, List.singleton_append, List.cons.injEq] at hr
      obtain ⟨rfl, rfl⟩ := hr
      refine ⟨k, lg, ?_, by omega, rfl⟩
      simp [reverseSeq, bind_apply, List.getElem?_eq_getElem hk]
  next_nil := by
    rintro idx d lg ⟨hle, hr⟩
    cases idx with
    | zero => exact ⟨nextOnEmpty, 0, lg, rfl, hle, hr⟩
    | succ k =>
      have hk : k < xs.length := by omega
      rw [List.take_add_one, List.getElem?_eq_getElem hk] at hr
      simp at hr
      subst hr
      simp at hk

end FpVerif.It
