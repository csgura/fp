/-!
# Arrays of memo cells, and fuel arithmetic: what the two lazy-list heaps (`Model/LazyList.lean`,
# `Model/CollList.lean`) have in common

A heap holds arrays of `(cell, start counter)`; the cell type is a parameter here (`run` is the value
that marks a running closure).  Cells are only pushed and overwritten in place: the facts below say
what a predicate on cells, the set of running cells and the cells left alone keep across a push, an
overwrite and the life of one forced cell.  Namespace `FpVerif.LL`; the `Coll` files open what they use.
-/
namespace FpVerif.LL

/-! ## reading a pushed or overwritten array -/

theorem push_get_lt {C : Type} (a : Array C) (x : C) (i : Nat) (h : i < a.size) : (a.push x)[i]? = a[i]? := by
  rw [Array.getElem?_push]; simp; omega

theorem set_get_same {C : Type} (a : Array C) (c : Nat) (x : C) (h : c < a.size) : (a.set! c x)[c]? = some x := by
  simp [Array.set!_eq_setIfInBounds, h]

theorem set_get_other {C : Type} (a : Array C) (c j : Nat) (x : C) (h : j ≠ c) : (a.set! c x)[j]? = a[j]? := by
  simp [Array.set!_eq_setIfInBounds, Array.getElem?_setIfInBounds]; omega

/-- the cell a closure pushes while cell `c` is running is still there when `c` is set done -/
theorem push_set_get {C : Type} (a : Array C) (c : Nat) (x w : C) (h : c < a.size) :
    ((a.push x).set! c w)[a.size]? = some x := by
  rw [set_get_other _ _ _ _ (Nat.ne_of_gt h)]
  exact Array.getElem?_push_size

theorem set_set_get {C : Type} (a : Array C) (c : Nat) (w x : C) (h : c < a.size) :
    ((a.set! c w).set! c x)[c]? = some x :=
  set_get_same _ _ _ ((Array.size_set! a c w).symm ▸ h)

theorem arr_push_ok {C : Type} {P : C → Prop} {a : Array C} {x : C}
    (h : ∀ (i : Nat) c, a[i]? = some c → P c) (hx : P x) : ∀ (i : Nat) c, (a.push x)[i]? = some c → P c := by
  intro i c hc
  rw [Array.getElem?_push] at hc
  split at hc
  · cases hc; exact hx
  · exact h i c hc

theorem arr_set_ok {C : Type} {P : C → Prop} {a : Array C} {x : C} (j : Nat)
    (h : ∀ (i : Nat) c, a[i]? = some c → P c) (hx : P x) : ∀ (i : Nat) c, (a.set! j x)[i]? = some c → P c := by
  intro i c hc
  simp only [Array.set!_eq_setIfInBounds, Array.getElem?_setIfInBounds] at hc
  split at hc
  · split at hc
    · cases hc; exact hx
    · cases hc
  · exact h i c hc

theorem push_cases {C : Type} {a : Array C} {x c : C} {i : Nat} (h : (a.push x)[i]? = some c) :
    (i < a.size ∧ a[i]? = some c) ∨ (i = a.size ∧ c = x) := by
  rw [Array.getElem?_push] at h
  split at h
  · next he => right; exact ⟨he, by cases h; rfl⟩
  · next hne =>
    left
    refine ⟨?_, h⟩
    exact (Array.getElem?_eq_some_iff.mp h).1

theorem set_cases {C : Type} {a : Array C} {x c : C} {i j : Nat} (h : (a.set! j x)[i]? = some c) :
    (i ≠ j ∧ a[i]? = some c) ∨ (i = j ∧ j < a.size ∧ c = x) := by
  simp only [Array.set!_eq_setIfInBounds, Array.getElem?_setIfInBounds] at h
  split at h
  · next he =>
    split at h
    · next hlt => right; exact ⟨he.symm, hlt, by cases h; rfl⟩
    · cases h
  · next hne => left; exact ⟨fun e => hne e.symm, h⟩

theorem size_set! {C : Type} (a : Array C) (j : Nat) (x : C) : (a.set! j x).size = a.size := by
  simp [Array.set!_eq_setIfInBounds]

theorem get_lt {C : Type} {a : Array C} {c : C} {i : Nat} (h : a[i]? = some c) : i < a.size :=
  (Array.getElem?_eq_some_iff.mp h).1

theorem cell_of_lt {C : Type} (a : Array C) (c : Nat) (h : c < a.size) : ∃ x, a[c]? = some x :=
  ⟨a[c], by simp [h]⟩

/-- the shape of the fields `hs`, `ts`, `ls` of `Cons` -/
def CellsOK {C Ty : Type} (need : Ty → Nat) (ok : Ty → C → Prop) (ty : Nat → Ty) (a : Array (C × Nat)) : Prop :=
  ∀ (c : Nat) cell n, a[c]? = some (cell, n) → 2 ≤ need (ty c) ∧ ok (ty c) cell

theorem CellsOK.mono {C Ty : Type} {need : Ty → Nat} {ok ok' : Ty → C → Prop} {ty ty' : Nat → Ty}
    {a : Array (C × Nat)} (h : CellsOK need ok ty a) (hok : ∀ t c, ok t c → ok' t c)
    (hty : ∀ c, c < a.size → ty' c = ty c) : CellsOK need ok' ty' a := by
  intro c cell n hc
  rw [hty c (get_lt hc)]
  exact ⟨(h c cell n hc).1, hok _ _ (h c cell n hc).2⟩

theorem CellsOK.push {C Ty : Type} {need : Ty → Nat} {ok ok' : Ty → C → Prop} {ty ty' : Nat → Ty}
    {a : Array (C × Nat)} (h : CellsOK need ok ty a) (hok : ∀ t c, ok t c → ok' t c)
    (hty : ∀ c, c < a.size → ty' c = ty c) {x : C}
    (hx : 2 ≤ need (ty' a.size) ∧ ok' (ty' a.size) x) : CellsOK need ok' ty' (a.push (x, 0)) := by
  intro c cell n hc
  rcases push_cases hc with ⟨_, hc⟩ | ⟨he, hx'⟩
  · exact h.mono hok hty c cell n hc
  · cases hx'
    rw [he]; exact hx

theorem CellsOK.set {C Ty : Type} {need : Ty → Nat} {ok : Ty → C → Prop} {ty : Nat → Ty}
    {a : Array (C × Nat)} (h : CellsOK need ok ty a) (c : Nat) {x : C} (n : Nat)
    (hx : ok (ty c) x) : CellsOK need ok ty (a.set! c (x, n)) := by
  intro i cl m hi
  rcases set_cases hi with ⟨_, hi⟩ | ⟨he, hlt, hx'⟩
  · exact h i cl m hi
  · cases hx'
    subst he
    exact ⟨(h i a[i].1 a[i].2 (by simp [hlt])).1, hx⟩

theorem running_of_push {C : Type} {run x : C} (hx : x ≠ run) {a : Array (C × Nat)} (i k : Nat)
    (h : (a.push (x, 0))[i]? = some (run, k)) : ∃ k', a[i]? = some (run, k') := by
  rcases push_cases h with ⟨_, h⟩ | ⟨_, he⟩
  · exact ⟨k, h⟩
  · exact absurd (congrArg Prod.fst he).symm hx

/-- after the forced cell `c` is set to `dn`, every running cell was running before -/
theorem running_of_forced {C : Type} {run dn : C} (hd : dn ≠ run) {a a2 : Array (C × Nat)} {c m m' : Nat}
    (h : ∀ (i : Nat) k, a2[i]? = some (run, k) → ∃ k', (a.set! c (run, m))[i]? = some (run, k'))
    (i k : Nat) (hi : (a2.set! c (dn, m'))[i]? = some (run, k)) : ∃ k', a[i]? = some (run, k') := by
  rcases set_cases hi with ⟨hne, hi⟩ | ⟨_, _, hx⟩
  · obtain ⟨k', hk'⟩ := h i k hi
    rcases set_cases hk' with ⟨_, hk'⟩ | ⟨he, _, _⟩
    · exact ⟨k', hk'⟩
    · exact absurd he hne
  · exact absurd (congrArg Prod.fst hx).symm hd

theorem quiet_running {C : Type} {run : C} {a : Array (C × Nat)} {need : Nat → Nat} {c m : Nat}
    (h : ∀ (i : Nat) k, a[i]? = some (run, k) → need c + 1 ≤ need i)
    (i k : Nat) (hi : (a.set! c (run, m))[i]? = some (run, k)) : need c ≤ need i := by
  rcases set_cases hi with ⟨_, hi⟩ | ⟨he, _, _⟩
  · exact Nat.le_of_succ_le (h i k hi)
  · rw [he]; exact Nat.le_refl _

/-- what the run of the closure of cell `c` leaves in place stays in place -/
theorem kept_of_forced {C : Type} {a a2 : Array C} {c i : Nat} {p x r d : C} (hp : a[c]? = some p) (hx : x ≠ p)
    (h : (a.set! c r)[i]? = some x → a2[i]? = some x) (hi : a[i]? = some x) : (a2.set! c d)[i]? = some x := by
  have hne : i ≠ c := fun e => by subst e; rw [hp] at hi; exact hx (Option.some.inj hi).symm
  rw [set_get_other _ _ _ _ hne]
  exact h (by rw [set_get_other _ _ _ _ hne]; exact hi)

/-- one array of cells: what runs afterwards ran before, and the needs of the old cells are kept -/
theorem quiet_post {C : Type} {run : C} {a a' : Array (C × Nat)} {need need' : Nat → Nat} {K : Nat}
    (h : ∀ (i : Nat) k, a[i]? = some (run, k) → K ≤ need i)
    (hrun : ∀ (i : Nat) k, a'[i]? = some (run, k) → ∃ k', a[i]? = some (run, k'))
    (hext : ∀ i, i < a.size → need' i = need i) (i k : Nat) (hi : a'[i]? = some (run, k)) : K ≤ need' i := by
  obtain ⟨k', h'⟩ := hrun i k hi
  rw [hext i (Array.getElem?_eq_some_iff.mp h').1]
  exact h i k' h'

/-! ## the largest start counter -/

theorem foldl_max_le {C : Type} (a : Array (C × Nat)) (b m : Nat)
    (h : ∀ (i : Nat) c, a[i]? = some c → c.2 ≤ b) (hm : m ≤ b) :
    a.foldl (fun m c => Nat.max m c.2) m ≤ b := by
  rw [← Array.foldl_toList]
  have h' : ∀ c ∈ a.toList, c.2 ≤ b := by
    intro c hc
    obtain ⟨i, hi, rfl⟩ := List.getElem_of_mem hc
    exact h i _ (by simp [Array.getElem?_eq_getElem (by simpa using hi)])
  generalize a.toList = l at h'
  induction l generalizing m with
  | nil => simpa using hm
  | cons c l ih =>
    simp only [List.foldl_cons]
    exact ih _ (Nat.max_le.mpr ⟨hm, h' c (List.mem_cons_self ..)⟩) (fun d hd => h' d (List.mem_cons_of_mem _ hd))

/-! ## fuel arithmetic -/

/-- a callee with bound `X` fits the fuel `n` left for a closure body whose cell has `need ≤ n + 2`,
    provided the closure reserved `X + 2 ≤ need` -/
theorem fits {X need n : Nat} (h : X + 2 ≤ need) (hn : need ≤ n + 2) : X ≤ n :=
  Nat.le_of_add_le_add_right (Nat.le_trans h hn)

theorem lt_max4 (a b : Nat) {c : Nat} (h : c < 4) : a + c < max (a + 4) b :=
  Nat.lt_of_lt_of_le (Nat.add_lt_add_left h a) (Nat.le_max_left _ _)

theorem max4_le (a b : Nat) : max (a + 4) b ≤ max a b + 4 :=
  Nat.max_le.mpr
    ⟨Nat.add_le_add_right (Nat.le_max_left a b) 4, Nat.le_trans (Nat.le_max_right a b) (Nat.le_add_right _ 4)⟩

/-! All that `FlatMap` needs of its bound `F` is `Ks + Bi + 4 ≤ F` (`LL.FMB_pos`, `Coll.FMB_pos`). -/

theorem src_fits {Ks Bi F n : Nat} (hF : Ks + Bi + 4 ≤ F) (h : F ≤ n + 1) : Ks + 1 ≤ n := by omega

theorem max_inner_le {Ks Bi F K : Nat} (hF : Ks + Bi + 4 ≤ F) (h : F ≤ K) : max (Bi + 4) F ≤ K :=
  Nat.max_le.mpr ⟨Nat.le_trans (Nat.le_trans (Nat.add_le_add_right (Nat.le_add_left Bi Ks) 4) hF) h, h⟩

/-- the fuel and quiescence side conditions of everything a `FlatMap` closure with budget `need` calls:
    forcing its lazy head (`lneed`), the inner list (bound `Bi`), the `FlatMap` of the rest (bound `F`) -/
theorem fm_budget {lneed Ks Bi F need n : Nat} (hl : lneed ≤ Ks + Bi + 1) (hF : Ks + Bi + 4 ≤ F)
    (h : F + 2 ≤ need) (hn : need ≤ n + 2) :
    lneed ≤ n ∧ lneed + 1 ≤ need ∧ Bi + 1 ≤ n ∧ Bi ≤ need ∧ F ≤ n ∧ F ≤ need := by omega

end FpVerif.LL
