import FpVerif.Model.FutureChain
import FpVerif.Spec.C06Sound
/-!
# Helper lemmas for Spec/C14Fut.lean and Spec/C06Chain.lean

* `Consistent R σ n` for the relations of `ERel` (`Spec/C06.lean`): "below" (soundness), its converse (completeness)
  and equality (fixpoint) — one proof of the builder theorems serves all three;
* what one `build` of a *shallow* expression (`Successful`, `Failed`, `FlatMap(handle, …)`) does to the net;
* the Try-level reading of the builders (`operandS`, `chainSpec`, `argsSpec`).
-/
namespace FpVerif.Spec.C14Fut
open FpVerif.Fut FpVerif.Spec.C06

abbrev TV := Option (Try Val)

/-- `σ` agrees (in the sense of `R`) with the construction expressions recorded in the net:
    for `R = Below`, `σ = n.status` this is `Sound n` -/
def Consistent (R : TV → TV → Prop) (σ : Nat → TV) (n : Net) : Prop := ∀ p, R (σ p) (evalS σ (n.spec p))

theorem sound_consistent {n : Net} (h : Sound n) : Consistent Below n.status n := fun p v hv => h p v hv

def bindP {α β : Type} (o : Option (Try α)) (f : α → Option (Try β)) : Option (Try β) :=
  match o with
  | some (.success v) => f v
  | some (.failure e) => some (.failure e)
  | none => none

theorem bindP_eq_bindOk (o : TV) (f : Val → TV) : bindP o f = bindOk o f := by
  rcases o with _ | (_ | _) <;> rfl

theorem bindP_success {α β : Type} (v : α) (f : α → Option (Try β)) : bindP (some (.success v)) f = f v := rfl

theorem bindP_assoc {α β γ : Type} (o : Option (Try α)) (f : α → Option (Try β)) (g : β → Option (Try γ)) :
    bindP (bindP o f) g = bindP o (fun v => bindP (f v) g) := by
  rcases o with _ | (_ | _) <;> rfl

theorem bindP_congr {α : Type} (D : Option (Try α)) (K K' : α → TV) (h : ∀ ws, D = some (.success ws) → K ws = K' ws) :
    bindP D K = bindP D K' := by
  rcases D with _ | (ws | e)
  · rfl
  · exact h ws rfl
  · rfl

theorem bindP_success_inv {α β : Type} {o : Option (Try α)} {g : α → Option (Try β)} {w : β}
    (h : bindP o g = some (.success w)) : ∃ v, o = some (.success v) ∧ g v = some (.success w) := by
  rcases o with _ | (v | e)
  · cases h
  · exact ⟨v, rfl, h⟩
  · cases h

theorem bindOk_assoc (o : TV) (f g : Val → TV) : bindOk (bindOk o f) g = bindOk o (fun v => bindOk (f v) g) := by
  rcases o with _ | (_ | _) <;> rfl

theorem bindOk_success (v : Val) (f : Val → TV) : bindOk (some (.success v)) f = f v := rfl

theorem bindOk_pure (o : TV) : bindOk o (fun v => some (.success v)) = o := by
  rcases o with _ | (_ | _) <;> rfl

/-- what a step shared by both builders denotes -/
def aOperandS (σ : Nat → TV) (c : Ex) : AStep → TV
  | .apFuture a => σ a
  | .ap v => some (.success v)
  | .apTry t => some t
  | .apOption o => some (tryOfOption o)
  | .apFutureFunc s => evalS σ (s c)
  | .apTryFunc s => some (s c).1
  | .apOptionFunc s => some (tryOfOption (s c).1)
  | .apFunc s => some (.success (s c).1)

/-- what operand `s` of a `MonadChainN` denotes, given the values `vs` of the earlier positions (oldest first):
    the callbacks of `Map`/`FlatMap` see the most recent one, those of `HListMap`/`HListFlatMap` all of them -/
def operandS (σ : Nat → TV) (c : Ex) (vs : List Val) : Step → TV
  | .a s => aOperandS σ c s
  | .flatMap k => evalS σ (k c (hhead (hl vs)))
  | .map k => some (.success (k c (hhead (hl vs))).1)
  | .hlistFlatMap k => evalS σ (k c (hl vs))
  | .hlistMap k => some (.success (k c (hl vs)).1)

/-- **the do-notation reading of a chain over fp.Try**: operands left to right, each callback sees exactly the
    values so far, the first failure (or undetermined operand) ends the evaluation — later suppliers and
    callbacks are not consulted —, finally `fn(a1, …, aN)` -/
def chainSpec (σ : Nat → TV) (fn : NFn) : List (Ex × Step) → List Val → TV
  | [], vs => some (.success (fn .d vs).1)
  | (c, s) :: ss, vs => bindOk (operandS σ c vs s) (fun a => chainSpec σ fn ss (vs ++ [a]))

/-- the values of the first positions, left to right (the prefix of `chainSpec`) -/
def argsStep (σ : Nat → TV) (D : Option (Try (List Val))) (cs : Ex × Step) : Option (Try (List Val)) :=
  bindP D (fun vs => bindP (operandS σ cs.1 vs cs.2) (fun y => some (.success (vs ++ [y]))))

def argsSpec (σ : Nat → TV) (steps : List (Ex × Step)) : Option (Try (List Val)) :=
  steps.foldl (argsStep σ) (some (.success []))

/-- the continuation of one more position sees the operand after the values so far -/
theorem bindP_argsStep (σ : Nat → TV) (D : Option (Try (List Val))) (cs : Ex × Step) (K : List Val → TV) :
    bindP (argsStep σ D cs) K = bindP D (fun vs => bindOk (operandS σ cs.1 vs cs.2) (fun y => K (vs ++ [y]))) := by
  simp only [argsStep, bindP_assoc, bindP_success, bindP_eq_bindOk]

/-- a continuation after the prefix values is the right-nested sequence of binds -/
theorem bindP_foldl_argsStep (σ : Nat → TV) (K : List Val → TV) (steps : List (Ex × Step)) :
    ∀ D, bindP (steps.foldl (argsStep σ) D) K
      = bindP D (steps.foldr (fun cs k ws => bindOk (operandS σ cs.1 ws cs.2) (fun a => k (ws ++ [a]))) K) := by
  induction steps with
  | nil => exact fun _ => rfl
  | cons cs ss ih => exact fun D => (ih _).trans (bindP_argsStep σ D cs _)

/-- `chainSpec` is `fn` applied to the prefix values -/
theorem chainSpec_eq_fold (σ : Nat → TV) (fn : NFn) (steps : List (Ex × Step)) (vs : List Val) :
    chainSpec σ fn steps vs
      = bindP (steps.foldl (argsStep σ) (some (.success vs))) (fun ws => some (.success (fn .d ws).1)) := by
  rw [bindP_foldl_argsStep]
  induction steps generalizing vs with
  | nil => rfl
  | cons cs ss ih => exact congrArg (bindOk _) (funext fun a => ih _)

theorem chainSpec_eq_args (σ : Nat → TV) (fn : NFn) (steps : List (Ex × Step)) :
    chainSpec σ fn steps [] = bindP (argsSpec σ steps) (fun ws => some (.success (fn .d ws).1)) :=
  chainSpec_eq_fold σ fn steps []

theorem argsSpec_snoc (σ : Nat → TV) (steps : List (Ex × Step)) (cs : Ex × Step) :
    argsSpec σ (steps ++ [cs]) = argsStep σ (argsSpec σ steps) cs := by
  simp [argsSpec, List.foldl_append]

theorem argsStep_success {σ : Nat → TV} {D : Option (Try (List Val))} {cs : Ex × Step} {ws : List Val}
    (h : argsStep σ D cs = some (.success ws)) :
    ∃ vs y, D = some (.success vs) ∧ operandS σ cs.1 vs cs.2 = some (.success y) ∧ ws = vs ++ [y] := by
  rcases D with _ | (vs | e)
  · cases h
  · rcases ho : operandS σ cs.1 vs cs.2 with _ | (y | e)
    · simp [argsStep, bindP, ho] at h
    · simp [argsStep, bindP, ho] at h; exact ⟨vs, y, rfl, ho, h.symm⟩
    · simp [argsStep, bindP, ho] at h
  · cases h

theorem foldl_argsStep_success (σ : Nat → TV) (steps : List (Ex × Step)) (vs : List Val) :
    ∀ D, steps.foldl (argsStep σ) D = some (.success vs) →
      ∃ ws, D = some (.success ws) ∧ vs.length = ws.length + steps.length := by
  induction steps with
  | nil => exact fun D h => ⟨vs, h, rfl⟩
  | cons cs ss ih =>
    intro D h
    obtain ⟨ws, hws, hl⟩ := ih _ h
    obtain ⟨us, y, hD, _, rfl⟩ := argsStep_success hws
    exact ⟨us, hD, by simp at hl ⊢; omega⟩

theorem argsSpec_length (σ : Nat → TV) (steps : List (Ex × Step)) (vs : List Val)
    (h : argsSpec σ steps = some (.success vs)) : vs.length = steps.length := by
  obtain ⟨_, hD, hl⟩ := foldl_argsStep_success σ steps vs _ h
  cases hD
  simpa using hl

/-- **the do-notation reading of an applicative builder over fp.Try** -/
def applicativeSpec (σ : Nat → TV) (fn : NFn) : List (Ex × AStep) → List Val → TV
  | [], vs => some (.success (fn .d vs).1)
  | [(c, s)], vs =>
    bindOk (aOperandS σ c s) (fun a => some (.success (fn (if s.supplier.isSome then c else .d) (vs ++ [a])).1))
  | (_, s) :: ss, vs => bindOk (aOperandS σ .d s) (fun a => applicativeSpec σ fn ss (vs ++ [a]))

/-- expressions whose `build` allocates exactly one promise -/
inductive Shallow : FExpr → Prop where
  | successful (v : Val) : Shallow (.successful v)
  | failed (e : Err) : Shallow (.failed e)
  | flatMap (p : Nat) (k : Val → FExpr) : Shallow (.flatMap (.ref p) k)

structure Alloc1 (n : Net) (e : FExpr) (q : Nat) (n' : Net) : Prop where
  root : q = n.next
  next : n'.next = n.next + 1
  spec : ∀ p, n'.spec p = if p = n.next then e else n.spec p
  log : n'.log = n.log

theorem build_shallow {e : FExpr} (h : Shallow e) {n : Net} {q : Nat} {n' : Net} (hr : build e n = (q, n')) :
    Alloc1 n e q n' := by
  suffices Alloc1 n e (build e n).1 (build e n).2 by rwa [hr] at this
  cases h with
  | successful v =>
    have hf := complete_frame n.next (.success v) (fresh (.successful v) n).2
    exact ⟨rfl, hf.1.trans rfl, fun p => (congrFun hf.2.1 p).trans rfl, hf.2.2.trans rfl⟩
  | failed x =>
    have hf := complete_frame n.next (.failure x) (fresh (.failed x) n).2
    exact ⟨rfl, hf.1.trans rfl, fun p => (congrFun hf.2.1 p).trans rfl, hf.2.2.trans rfl⟩
  | flatMap p k =>
    have hf := onComplete_frame p (.flatMapA k n.next) (fresh (.flatMap (.ref p) k) n).2
    exact ⟨rfl, hf.1.trans rfl, fun q => (congrFun hf.2.1 q).trans rfl, hf.2.2.1.trans rfl⟩

/-- the specs of existing promises are kept, new ones may appear -/
structure SpecLe (n n' : Net) : Prop where
  next : n.next ≤ n'.next
  spec : ∀ p, p < n.next → n'.spec p = n.spec p

theorem SpecLe.refl (n : Net) : SpecLe n n := ⟨Nat.le_refl _, fun _ _ => rfl⟩

theorem SpecLe.lt {n n' : Net} (h : SpecLe n n') {p : Nat} (hp : p < n.next) : p < n'.next :=
  Nat.lt_of_lt_of_le hp h.next

theorem SpecLe.spec_eq {n n' : Net} (h : SpecLe n n') {p : Nat} {e : FExpr} (hp : p < n.next) (he : n.spec p = e) :
    n'.spec p = e :=
  (h.spec p hp).trans he

theorem SpecLe.trans {a b c : Net} (h1 : SpecLe a b) (h2 : SpecLe b c) : SpecLe a c :=
  ⟨Nat.le_trans h1.next h2.next, fun p hp => h2.spec_eq (h1.lt hp) (h1.spec p hp)⟩

theorem SpecLe.of_le {n n' : Net} (h : Le n n') : SpecLe n n' := ⟨h.next, h.spec⟩

theorem Alloc1.specLe {n n' : Net} {e : FExpr} {q : Nat} (h : Alloc1 n e q n') : SpecLe n n' :=
  ⟨by rw [h.next]; omega, fun p hp => by rw [h.spec p]; simp [Nat.ne_of_lt hp]⟩

theorem Alloc1.spec_root {n n' : Net} {e : FExpr} {q : Nat} (h : Alloc1 n e q n') : n'.spec q = e := by
  rw [h.spec q, h.root]; simp

theorem Alloc1.lt {n n' : Net} {e : FExpr} {q : Nat} (h : Alloc1 n e q n') : q < n'.next := by
  rw [h.root, h.next]; omega

/-- in every later net with which `σ` is consistent, the new handle denotes the expression it was built for -/
theorem Alloc1.rel {R : TV → TV → Prop} {σ : Nat → TV} {n n1 n' : Net} {e : FExpr} {q : Nat}
    (b : Alloc1 n e q n1) (hle : SpecLe n1 n') (hc : Consistent R σ n') : R (σ q) (evalS σ e) := by
  have h := hc q
  rwa [hle.spec q b.lt, b.spec_root] at h

/-- in every later net, for every reading `σ` consistent with it (in the sense of any `ERel`), `q` holds `F σ` -/
def Means (n : Net) (q : Nat) (F : (Nat → TV) → TV) : Prop :=
  ∀ (R : TV → TV → Prop), ERel R → ∀ (σ : Nat → TV) (n' : Net), SpecLe n n' → Consistent R σ n' → R (σ q) (F σ)

theorem Means.congr {n : Net} {q : Nat} {F G : (Nat → TV) → TV} (h : ∀ σ, F σ = G σ) (hm : Means n q F) : Means n q G :=
  fun R hR σ n' hle hc => h σ ▸ hm R hR σ n' hle hc

/-- `q` is the handle of the future the (shallow or handle) expression `e` stands for -/
def ShallowRoot (n : Net) (q : Nat) (e : FExpr) : Prop := e = .ref q ∨ n.spec q = e

theorem shallowRoot_consistent {R : TV → TV → Prop} (hR : ERel R) {σ : Nat → TV} {n : Net}
    (hc : Consistent R σ n) {q : Nat} {e : FExpr} (h : ShallowRoot n q e) : R (σ q) (evalS σ e) := by
  rcases h with rfl | h
  · exact hR.refl _
  · rw [← h]; exact hc q

theorem ShallowRoot.mono {n n' : Net} (hle : SpecLe n n') {q : Nat} {e : FExpr} (hq : q < n.next)
    (h : ShallowRoot n q e) : ShallowRoot n' q e :=
  h.imp_right (hle.spec_eq hq)

/-- an expression that is either a handle below `b` or shallow -/
def RefOrShallow (b : Nat) (e : FExpr) : Prop := (∃ a, e = .ref a ∧ a < b) ∨ Shallow e

/-- building a handle-or-shallow expression: the root stands for it, nothing else changes -/
theorem build_refOrShallow {e : FExpr} {n : Net} (h : RefOrShallow n.next e) {q : Nat} {n' : Net}
    (hr : build e n = (q, n')) : SpecLe n n' ∧ ShallowRoot n' q e ∧ q < n'.next ∧ n'.log = n.log := by
  rcases h with ⟨a, rfl, ha⟩ | h
  · cases hr
    exact ⟨SpecLe.refl n, .inl rfl, ha, rfl⟩
  · have hb := build_shallow h hr
    exact ⟨hb.specLe, .inr hb.spec_root, hb.lt, hb.log⟩

end FpVerif.Spec.C14Fut
