import FpVerif.Model.Cow
/-!
The vocabulary in which Spec/C19 states linearizability (`proj`, `linsOf`, `seqRun`, `doneEvents`,
`curEvents`: a thread's part of the ghost history, the linearization order, the atomic map run
sequentially) and what `startNext` does to it.
-/
namespace FpVerif.Cow

/-! ### histories -/

def HEv.tid : HEv → Nat
  | .call t .. => t
  | .lin t .. => t
  | .ret t .. => t

/-- the events of thread `t` -/
def proj (t : Nat) (h : List HEv) : List HEv := h.filter (fun e => e.tid == t)

/-- the linearization order: operations with the results the atomic map gave them -/
def linsOf : List HEv → List (Op × Ret)
  | [] => []
  | .lin _ _ op r :: es => (op, r) :: linsOf es
  | .call .. :: es => linsOf es
  | .ret .. :: es => linsOf es

/-- run operations one after the other on an atomic map -/
def seqRun (m : AMap) : List Op → AMap × List Ret
  | [] => (m, [])
  | o :: os => ((seqRun (o.apply m).1 os).1, (o.apply m).2 :: (seqRun (o.apply m).1 os).2)

theorem seqRun_snoc (m : AMap) (os : List Op) (o : Op) :
    seqRun m (os ++ [o]) =
      ((o.apply (seqRun m os).1).1, (seqRun m os).2 ++ [(o.apply (seqRun m os).1).2]) := by
  induction os generalizing m with
  | nil => simp [seqRun]
  | cons a as ih => simp [seqRun, ih]

theorem linsOf_append (a b : List HEv) : linsOf (a ++ b) = linsOf a ++ linsOf b := by
  induction a with
  | nil => rfl
  | cons e es ih => cases e <;> simp [linsOf, ih]

theorem proj_append (t : Nat) (a b : List HEv) : proj t (a ++ b) = proj t a ++ proj t b := by
  simp [proj]

theorem proj_all {t : Nat} {evs : List HEv} (h : ∀ e ∈ evs, e.tid = t) : proj t evs = evs := by
  simp only [proj, List.filter_eq_self]
  intro e he; simp [h e he]

theorem proj_none {t : Nat} {evs : List HEv} {u : Nat} (h : ∀ e ∈ evs, e.tid = u) (hne : u ≠ t) :
    proj t evs = [] := by
  simp only [proj, List.filter_eq_nil_iff]
  intro e he; simp [h e he, hne]

/-- events of the completed operations of a thread -/
def doneEvents (t : Nat) : Nat → List (Op × Ret) → List HEv
  | _, [] => []
  | i, (op, r) :: rest => .call t i op :: .lin t i op r :: .ret t i r :: doneEvents t (i + 1) rest

theorem doneEvents_snoc (t i : Nat) (ds : List (Op × Ret)) (op : Op) (r : Ret) :
    doneEvents t i (ds ++ [(op, r)]) =
      doneEvents t i ds ++ [.call t (i + ds.length) op, .lin t (i + ds.length) op r, .ret t (i + ds.length) r] := by
  induction ds generalizing i with
  | nil => simp [doneEvents]
  | cons d rest ih =>
    obtain ⟨o', r'⟩ := d
    simp [doneEvents, ih, Nat.add_assoc, Nat.add_comm 1]

/-- events of the operation in progress -/
def curEvents (l : Local) : List HEv :=
  match l.phase with
  | .finished => []
  | .running op pc =>
    .call l.tid l.done.length op ::
      (match pc with
       | .hold m => [.lin l.tid l.done.length op (.kvs m)]
       | _ => [])

/-- what thread `l` contributed to the history -/
def expected (l : Local) : List HEv := doneEvents l.tid 0 l.done ++ curEvents l

/-! ### projections of the helper functions -/

def entryPc : Op → Pc
  | .updated .. | .removed _ | .updatedWith .. => .enter
  | _ => .load

theorem startNext_eq (sh : Shared) (l : Local) :
    startNext sh l =
      match l.todo with
      | [] => (sh, { l with phase := .finished })
      | op :: rest =>
        ({ sh with hist := sh.hist ++ [.call l.tid l.done.length op] },
         { l with phase := .running op (entryPc op), todo := rest }) := by
  unfold startNext
  cases l.todo with
  | nil => rfl
  | cons op rest => cases op <;> rfl

/-- where `startNext` leaves a thread: at the first yield point of an operation, or out of operations -/
def Local.AtEntry (l : Local) : Prop :=
  match l.phase with
  | .finished => l.todo = []
  | .running op pc => pc = entryPc op

/-- `startNext` only appends the call event of the next operation -/
theorem startNext_spec (sh : Shared) (l : Local) :
    (startNext sh l).1.snap = sh.snap ∧ (startNext sh l).1.lock = sh.lock ∧
    (startNext sh l).1.calls = sh.calls ∧
    (startNext sh l).2.tid = l.tid ∧ (startNext sh l).2.done = l.done ∧
    (startNext sh l).1.hist = sh.hist ++ curEvents (startNext sh l).2 ∧
    (startNext sh l).2.AtEntry := by
  rw [startNext_eq]
  cases ht : l.todo with
  | nil => simp [curEvents, Local.AtEntry]
  | cons op rest => cases op <;> simp [curEvents, Local.AtEntry, entryPc]

theorem curEvents_tid (l : Local) : ∀ e ∈ curEvents l, e.tid = l.tid := by
  intro e he
  unfold curEvents at he
  cases hp : l.phase with
  | finished => simp [hp] at he
  | running op pc =>
    simp only [hp, List.mem_cons] at he
    rcases he with rfl | he
    · rfl
    · cases pc <;> simp at he
      subst he; rfl

/-- a freshly started operation has not been linearized -/
theorem Local.AtEntry.lins {l : Local} (h : l.AtEntry) : linsOf (curEvents l) = [] := by
  unfold Local.AtEntry at h
  unfold curEvents
  cases hp : l.phase with
  | finished => rfl
  | running op pc =>
    rw [hp] at h
    subst h
    cases op <;> rfl

theorem Local.AtEntry.fin {l : Local} (h : l.AtEntry) (hp : l.phase = .finished) : l.todo = [] := by
  unfold Local.AtEntry at h
  rw [hp] at h
  exact h

end FpVerif.Cow
