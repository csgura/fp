import FpVerif.Lemmas.PromiseTrans
import FpVerif.Lemmas.ConcProgress
/-!
Invariant A of the promise protocol — independent of how `append` treats the backing array, so it
holds for both variants (future.go before and after fix f17f413):
captured pointer identities are never from the future, a thread whose captured identity is still
current knows the cell's content, there is exactly one winner once the cell is done, and every
logged invocation carries the cell's result.
-/
namespace FpVerif.Promise
open FpVerif.Sched

variable {R : Type}

def TInvA (sh : Shared R) : Local R → Prop
  | .cGet _ => True
  | .cCas _ ap c => ap ≤ sh.ver ∧ (ap = sh.ver → sh.cell.isDone = false ∧ captOf sh.cell = c)
  | .cRun r _ _ _ => sh.cell = .done r
  | .cRet r true => sh.cell = .done r
  | .cRet _ false => sh.cell.isDone = true
  | .rGet _ => True
  | .rAppend _ ap s => ap ≤ sh.ver ∧ (ap = sh.ver → sh.cell = .cbs s)
  | .rCas _ ap new => ap ≤ sh.ver ∧ (ap = sh.ver → sh.cell.isDone = false ∧ new.len ≤ sh.cell.len + 1)
  | .rCall _ r => sh.cell = .done r
  | .rRet _ => True
  | .oLoad1 => True
  | .oLoad2 => sh.cell.isDone = true
  | .oRet (some r) => sh.cell = .done r
  | .oRet none => True
  | .panicked (.complete r) => sh.cell = .done r
  | .panicked _ => False

/-- the thread whose `Complete` won the race (returns / will return true) -/
def Local.isWinner : Local R → Bool
  | .cRun .. => true
  | .cRet _ true => true
  | .panicked (.complete _) => true
  | _ => false

def winners (ts : List (Local R)) : Nat := sumBy (fun l => if l.isWinner then 1 else 0) ts

structure InvA (s : PSys R) : Prop where
  threads : ∀ l ∈ s.threads, TInvA s.shared l
  winner : winners s.threads = if s.shared.cell.isDone then 1 else 0
  log : ∀ p ∈ s.shared.log, s.shared.cell = .done p.2

theorem TInvA_pushLog (sh : Shared R) (cb : Cb) (r : R) (x : Local R) :
    TInvA sh x → TInvA (pushLog sh cb r) x := by
  intro h
  cases x with
  | cRet r b => cases b <;> exact h
  | oRet v => cases v <;> exact h
  | panicked p => cases p <;> exact h
  | _ => exact h

theorem TInvA_setHeap (sh : Shared R) (hp : Heap) (x : Local R) :
    TInvA sh x → TInvA (setHeap sh hp) x := by
  intro h
  cases x with
  | cRet r b => cases b <;> exact h
  | oRet v => cases v <;> exact h
  | panicked p => cases p <;> exact h
  | _ => exact h

/-- after a successful CAS no captured identity is current any more -/
theorem le_bump {ap ver : Nat} (h : ap ≤ ver) {P : Prop} : ap ≤ ver + 1 ∧ (ap = ver + 1 → P) :=
  ⟨Nat.le_succ_of_le h, fun e => absurd (Nat.le_trans (Nat.le_of_eq e.symm) h) (Nat.not_succ_le_self ver)⟩

theorem TInvA_bump (sh : Shared R) (c : Cell R) (hnd : sh.cell.isDone = false) (x : Local R) :
    TInvA sh x → TInvA (bump sh c) x := by
  intro h
  -- a thread that has seen the cell done cannot exist yet
  have hd : ∀ {r : R}, sh.cell = .done r → False := fun e => by rw [e] at hnd; cases hnd
  have hd' : sh.cell.isDone = true → False := fun e => by rw [e] at hnd; cases hnd
  cases x with
  | cGet | rGet | rRet | oLoad1 => trivial
  | cCas | rAppend | rCas => exact le_bump h.1
  | cRun | rCall => exact (hd h).elim
  | cRet r b =>
    cases b with
    | true => exact (hd h).elim
    | false => exact (hd' h).elim
  | oLoad2 => exact (hd' h).elim
  | oRet v =>
    cases v with
    | none => trivial
    | some r => exact (hd h).elim
  | panicked p =>
    cases p with
    | complete r => exact (hd h).elim
    | _ => exact h.elim

theorem resolve_length_le (h : Heap) (s : Slice) : (resolve h s).length ≤ s.len := by
  simp [resolve]; omega

theorem goAppend_len_le (v : Variant) (h : Heap) (s : Slice) (cb : Cb) :
    (goAppend v h s cb).2.len ≤ s.len + 1 := by
  have := resolve_length_le h s
  cases v <;> simp only [goAppend, allocCopy]
  · split <;> simp <;> omega
  · simp; omega

theorem log_empty_of_not_done {s : PSys R} (h : InvA s) (hnd : s.shared.cell.isDone = false) :
    s.shared.log = [] := by
  cases hl : s.shared.log with
  | nil => rfl
  | cons p ps =>
    have := h.log p (by simp [hl])
    simp [this, Cell.isDone] at hnd

theorem Won.isWinner {r : R} {l : Local R} (h : Won r l) : l.isWinner = true := by
  cases h <;> rfl

theorem Won.tinvA {r : R} {l : Local R} (h : Won r l) {sh : Shared R} (hc : sh.cell = .done r) :
    TInvA sh l := by
  cases h <;> exact hc

theorem winners_set_same {ts : List (Local R)} {t : Nat} {l l' : Local R} (hl : ts[t]? = some l)
    (h : l.isWinner = l'.isWinner) : winners (ts.set t l') = winners ts :=
  sumBy_set_of_eq hl (by rw [h]) rfl

theorem winners_set_win {ts : List (Local R)} {t : Nat} {l l' : Local R} (hl : ts[t]? = some l)
    (h : l.isWinner = false) (h' : l'.isWinner = true) : winners (ts.set t l') = winners ts + 1 :=
  sumBy_set_eq hl (by rw [h, h']; rfl)

/-- a block that leaves the shared state alone -/
theorem InvA_same {s : PSys R} {t : Nat} {l l' : Local R} (h : InvA s) (hl : s.threads[t]? = some l)
    (hw : l.isWinner = l'.isWinner) (hT : TInvA s.shared l') :
    InvA ⟨s.shared, s.threads.set t l'⟩ :=
  ⟨forall_mem_set h.threads hT, (winners_set_same hl hw).trans h.winner, h.log⟩

theorem InvA_step (v : Variant) (s : PSys R) (t : Tid) (s' : PSys R)
    (hinv : InvA s) (hstep : step (stepT v) s t = some s') : InvA s' := by
  obtain ⟨l, sh', l', hl, htr, rfl⟩ := step_trans hstep
  have hTl := hinv.threads l (List.mem_of_getElem? hl)
  have hth := hinv.threads
  have hwin := hinv.winner
  have hlog := hinv.log
  -- a logged invocation carries the result of the cell, which is done
  have hpush : ∀ cb r, s.shared.cell = .done r →
      ∀ p ∈ (pushLog s.shared cb r).log, s.shared.cell = .done p.2 := by
    intro cb r hc p hp
    rcases List.mem_append.mp hp with hp | hp
    · exact hlog p hp
    · cases List.mem_singleton.mp hp
      exact hc
  -- a successful CAS: the cell was pending, so nobody has won and nothing is logged yet
  have hcas : ∀ c : Cell R, s.shared.cell.isDone = false →
      (∀ x ∈ s.threads, TInvA (bump s.shared c) x) ∧
      ∀ p ∈ (bump s.shared c).log, (bump s.shared c).cell = .done p.2 := by
    intro c hnd
    refine ⟨fun x hx => TInvA_bump _ _ hnd x (hth x hx), fun p hp => ?_⟩
    rw [bump_log, log_empty_of_not_done hinv hnd] at hp
    cases hp
  cases htr with
  | cGetPend hnd => exact InvA_same hinv hl rfl ⟨Nat.le_refl _, fun _ => ⟨hnd, rfl⟩⟩
  | cGetDone hc => exact InvA_same hinv hl rfl (by simp [TInvA, hc, Cell.isDone])
  | @cCasOk r ap c hap =>
    obtain ⟨hnd, _⟩ := hTl.2 hap
    refine ⟨forall_mem_set (hcas _ hnd).1 ((afterWin_won _ r c).tinvA rfl), ?_, (hcas _ hnd).2⟩
    rw [winners_set_win hl rfl (afterWin_won _ r c).isWinner, hwin, hnd]
    rfl
  | cCasFail hap => exact InvA_same hinv hl rfl trivial
  | @cRun r sl i cb =>
    have hc : s.shared.cell = .done r := hTl
    exact ⟨forall_mem_set (fun x hx => TInvA_pushLog _ cb r x (hth x hx))
        ((enterRun_won _ r sl (i + 1)).tinvA hc),
      (winners_set_same hl (enterRun_won _ r sl (i + 1)).isWinner.symm).trans hwin, hpush cb r hc⟩
  | @rGetNil cb hc =>
    refine ⟨forall_mem_set (fun x hx => TInvA_setHeap _ _ x (hth x hx)) ?_,
      (winners_set_same hl (by rfl)).trans hwin, hlog⟩
    simp [TInvA, setHeap, hc, Cell.isDone, allocCopy, Cell.len]
  | rGetCbs hc => exact InvA_same hinv hl rfl ⟨Nat.le_refl _, fun _ => hc⟩
  | rGetDone hc => exact InvA_same hinv hl rfl hc
  | @rAppend cb ap sl =>
    refine ⟨forall_mem_set (fun x hx => TInvA_setHeap _ _ x (hth x hx)) ⟨hTl.1, fun hap => ?_⟩,
      (winners_set_same hl (by rfl)).trans hwin, hlog⟩
    have hc : s.shared.cell = .cbs sl := hTl.2 hap
    rw [setHeap_cell, hc]
    exact ⟨rfl, goAppend_len_le v s.shared.heap sl cb⟩
  | @rCasOk cb ap new hap =>
    obtain ⟨hnd, _⟩ := hTl.2 hap
    refine ⟨forall_mem_set (hcas _ hnd).1 trivial, ?_, (hcas _ hnd).2⟩
    rw [winners_set_same hl (by rfl), hwin, hnd]
    rfl
  | rCasFail hap => exact InvA_same hinv hl rfl trivial
  | @rCall cb r =>
    have hc : s.shared.cell = .done r := hTl
    exact ⟨forall_mem_set (fun x hx => TInvA_pushLog _ cb r x (hth x hx)) trivial,
      (winners_set_same hl (by rfl)).trans hwin, hpush cb r hc⟩
  | oLoad1Done hd => exact InvA_same hinv hl rfl hd
  | oLoad1Pend hd => exact InvA_same hinv hl rfl trivial
  | oLoad2Done hc => exact InvA_same hinv hl rfl hc
  | oLoad2Pend hd =>
    have : s.shared.cell.isDone = true := hTl
    rw [this] at hd
    cases hd

theorem winners_cons (a : Local R) (as : List (Local R)) :
    winners (a :: as) = (if a.isWinner then 1 else 0) + winners as := rfl

theorem winners_start (progs : List (Prog R)) :
    winners (progs.map (Prog.start false)) = 0 := by
  induction progs with
  | nil => rfl
  | cons p ps ih =>
    rw [List.map_cons, winners_cons, ih]
    cases p <;> simp [Prog.start, Local.isWinner]

/-- a fresh (`NewPromise`) promise with all threads at their first yield point -/
theorem InvA_init (progs : List (Prog R)) : InvA (init false progs) := by
  refine ⟨?_, ?_, ?_⟩
  · intro l hl
    simp only [init, List.mem_map] at hl
    obtain ⟨p, _, rfl⟩ := hl
    cases p <;> simp [Prog.start, TInvA]
  · simp [init, winners_start, emptyShared, Cell.isDone]
  · simp [init, emptyShared]

theorem InvA_run (v : Variant) {s : PSys R} (h : InvA s) (sched : List Tid) :
    InvA (prun v s sched) :=
  inv_run (InvA_step v) h sched

end FpVerif.Promise
