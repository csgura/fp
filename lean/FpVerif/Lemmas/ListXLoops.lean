import FpVerif.Model.ListX
import FpVerif.Lemmas.ListLoops
import FpVerif.Lemmas.CollRun
/-!
# The loops of `Model/ListX.lean`: the accumulator loop of `ToGoMap / ToMap / ToSet / ToGoSet` over any `LSim`;
# `Unapply`, `Foreach` in loop form; the chain of `FoldFuture` against `futRef`; all of them step along every
# `StepRel` (so they keep the memo heap well-formed: every cell started at most once).
-/
namespace FpVerif.LX
open FpVerif.It FpVerif.LL

variable {k : Nat} {R : Heap → LV → List Val → Prop}

/-! ## the accumulator loop -/

theorem accLoop_cursorLoop {α : Type} (upd : α → Val → α) :
    CursorLoop (fun ret x k => k (upd ret x)) id (accLoop upd) :=
  ⟨fun _ _ => rfl, fun _ _ _ => rfl⟩

theorem accLoop_lspec {α : Type} (upd : α → Val → α) (hS : LSim k R) :
    ∀ (xs : List Val) (fuel : Nat) (hp : Heap) (l : LV) (z : α) (lg : Log),
      k + xs.length < fuel → R hp l xs →
      ∃ hp' lg', accLoop upd fuel l z hp lg = (.ok (xs.foldl upd z), hp', lg') := by
  intro xs fuel hp l z lg hfu hR
  obtain ⟨hp', lg', e, _⟩ := (accLoop_cursorLoop upd).lspec (E := fun z xs => (.ok (xs.foldl upd z), []))
    (fun _ => rfl) (fun z a as k hp lg => ⟨lg, .inl ⟨upd z a, rfl, rfl⟩⟩) hS xs fuel hp l z lg hfu hR
  exact ⟨hp', lg', e⟩

/-! ## `Unapply` -/

/-- On `Nil` the Go code returns `r` itself for the tail, but only after `r.Head()` has panicked. -/
theorem unapply_succ (n : Nat) (l : LV) :
    unapply (n + 1) l = LL.head n l >>= fun h => LL.tail n l >>= fun t => pure (h, t) := by
  cases l with
  | nil => cases n <;> rfl
  | _ => rfl

/-! ## `Foreach` -/

theorem foreachCursor_cursorLoop (f : Val → GoM Unit) :
    CursorLoop (fun u v k => do IM.liftG (f v); k u) id (fun fuel l (_ : Unit) => foreachCursor f fuel l) :=
  ⟨fun _ _ => rfl, fun _ _ _ => rfl⟩

/-! ## `FoldFuture` -/

/-- the sequential fold over results: a failure stops it -/
def futRef (g : Val → Val → Try Val) : Try Val → List Val → Try Val
  | acc, [] => acc
  | .success a, v :: vs => futRef g (g a v) vs
  | .failure e, _ :: vs => futRef g (.failure e) vs

theorem futRef_failure (g : Val → Val → Try Val) (e : Err) (vs : List Val) : futRef g (.failure e) vs = .failure e := by
  induction vs with
  | nil => rfl
  | cons v vs ih => simpa [futRef] using ih

/-- once the chain has failed `fn` is not called any more: no event, same failure -/
theorem futChain_failed (fn : Val → Val → GoM (Try Val)) (e : Err) (he : e ≠ .nil) :
    ∀ (vs : List Val) (lg : Log), (futChain fn vs (.failure e)).run.run lg = (.ok (.failure e), lg) := by
  intro vs
  induction vs with
  | nil => intro lg; rfl
  | cons v vs ih =>
    intro lg
    have h1 : (futStep fn (.failure e) v).run.run lg = (.ok (.failure e), lg) := by
      simp [futStep, Try.failedGet_failure e he]; rfl
    simp only [futChain]
    rw [Coll.run_bind_ok h1]
    exact ih lg

theorem futChain_total {fn : Val → Val → GoM (Try Val)} {g : Val → Val → Try Val} (hf : Total2 fn g)
    (hg : ∀ a v, g a v ≠ .failure .nil) :
    ∀ (vs : List Val) (acc : Try Val) (lg : Log), acc ≠ .failure .nil →
      ∃ lg', (futChain fn vs acc).run.run lg = (.ok (futRef g acc vs), lg') := by
  intro vs
  induction vs with
  | nil => intro acc lg _; exact ⟨lg, by cases acc <;> rfl⟩
  | cons v vs ih =>
    intro acc lg hacc
    cases acc with
    | failure e =>
      have he : e ≠ .nil := fun h => hacc (by rw [h])
      exact ⟨lg, by rw [futChain_failed fn e he, futRef_failure]⟩
    | success a =>
      obtain ⟨lg1, h1⟩ := hf a v lg
      obtain ⟨lg2, h2⟩ := ih (g a v) lg1 (hg a v)
      refine ⟨lg2, ?_⟩
      simp only [futChain, futRef]
      have h1' : (futStep fn (.success a) v).run.run lg = (.ok (g a v), lg1) := h1
      rw [Coll.run_bind_ok h1']
      exact h2

/-! ## `Foreach` on the representations outside the heap is the slice loop -/

theorem seqForeach_eq {σ : Type} (f : Val → GoM Unit) :
    ∀ xs, (seqForeach f xs : IM σ Unit) = IM.liftG (Sq.foreach f xs)
  | [] => rfl
  | x :: xs => by rw [seqForeach, Sq.foreach, liftG_bind, seqForeach_eq f xs]

/-- `Foreach` of `Nil` / `Cons` / `Seq` touches no memo cell: whatever the callback does (log, panic), it is
    `r.Foreach(f)` of `fp.Seq` over the elements -/
theorem foreachL_plain (f : Val → GoM Unit) :
    ∀ (l : LV) (xs : List Val) (fuel : Nat), plainDen l = some xs → xs.length < fuel →
      foreachL f fuel l = IM.liftG (Sq.foreach f xs)
  | .nil, _, n + 1, h, _ => by cases h; rfl
  | .cons a t, _, n + 1, h, hfuel => by
    obtain ⟨ys, hy, rfl⟩ := Option.map_eq_some_iff.mp h
    rw [foreachL, Sq.foreach, liftG_bind, foreachL_plain f t ys n hy (Nat.lt_of_succ_lt_succ hfuel)]
  | .seq ys, _, n + 1, h, _ => by cases h; exact seqForeach_eq f ys

end FpVerif.LX

/-! ## the loops and access functions step along every heap relation that the list operations respect -/
namespace FpVerif.LL.StepRel
open FpVerif.LX
open FpVerif.MemoPanic (Good)
variable {Q : Heap → Heap → Prop} (hR : StepRel Q)
include hR

theorem accLoop {α : Type} (upd : α → Val → α) : ∀ fuel l z, Good Q (LX.accLoop upd fuel l z) :=
  hR.cursorLoop (accLoop_cursorLoop upd) fun _ _ _ hk => hk _

theorem unapply : ∀ fuel l, Good Q (LX.unapply fuel l)
  | 0, _ => hR.panic _
  | n + 1, l =>
    have hA := stepsAll hR n
    unapply_succ n l ▸ hR.bind (hA.head l) fun _ => hR.bind (hA.tail l) fun _ => hR.pure _

theorem nonEmpty (fuel : Nat) (l : LV) : Good Q (LX.nonEmpty fuel l) :=
  hR.bind ((stepsAll hR fuel).isEmpty l) (fun _ => hR.pure _)

theorem seqForeach (f : Val → GoM Unit) (xs : List Val) : Good Q (LX.seqForeach f xs : HM Unit) :=
  seqForeach_eq f xs ▸ hR.liftG _

theorem foreachCursor (f : Val → GoM Unit) (fuel : Nat) (l : LV) : Good Q (LX.foreachCursor f fuel l) :=
  hR.cursorLoop (foreachCursor_cursorLoop f) (fun _ _ _ hk => hR.bind (hR.liftG _) fun _ => hk _) fuel l ()

theorem foreachL (f : Val → GoM Unit) : ∀ fuel l, Good Q (LX.foreachL f fuel l) := by
  intro fuel
  induction fuel with
  | zero => intro l; cases l <;> exact hR.panic _
  | succ n ih =>
    intro l
    cases l with
    | nil => exact hR.pure _
    | cons a t => exact hR.bind (hR.liftG _) (fun _ => ih t)
    | seq ys => exact hR.seqForeach f ys
    | adaptor a b => exact hR.foreachCursor f n _
    | nilIface => exact hR.panic _

theorem toSeqM : ∀ fuel l acc, Good Q (LX.toSeqM fuel l acc) := by
  intro fuel
  induction fuel with
  | zero => intro l acc; cases l <;> exact hR.panic _
  | succ n ih =>
    intro l acc
    cases l with
    | nil => exact hR.pure _
    | cons a t => exact ih t _
    | seq ys => exact hR.pure _
    | adaptor a b => exact hR.toSeq n _ _
    | nilIface => exact hR.panic _

theorem foldFuture (fn : Val → Val → GoM (Try Val)) (fuel : Nat) (l : LV) (z : Val) : Good Q (LX.foldFuture fn fuel l z) :=
  hR.bind (hR.toSeq fuel l []) (fun _ => hR.liftG _)

end FpVerif.LL.StepRel
