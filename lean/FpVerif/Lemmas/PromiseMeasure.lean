import FpVerif.Lemmas.PromiseInvA
/-!
Termination of the CAS retry loops: `Promise.measure` strictly decreases with every executed
atomic block (both variants).  A failing CAS is paid for by the successful CAS of another thread
that made the captured identity stale.
-/
namespace FpVerif.Promise
open FpVerif.Sched

variable {R : Type}

@[simp] theorem Cell.len_cbs (sl : Slice) : (Cell.cbs sl : Cell R).len = sl.len := rfl
@[simp] theorem Cell.len_done (r : R) : (Cell.done r : Cell R).len = 0 := rfl
@[simp] theorem Cell.len_nil : (Cell.nil : Cell R).len = 0 := rfl

theorem stale_le (v a : Nat) : stale v a ≤ 3 := by unfold stale; split <;> omega
theorem stale_self (v : Nat) : stale v v = 0 := by simp [stale]
theorem stale_ne {v a : Nat} (h : a ≠ v) : stale v a = 3 := by simp [stale, h]

/-- `phi` is monotone in `k` and `n`.  A successful CAS (`d = 1`) makes the identities the other
    threads captured stale, which costs each of them at most 3; the unit of `k` it uses up pays. -/
theorem phi_le {k k' n n' ver ver' d : Nat} (hk : k' + d ≤ k) (hn : n' ≤ n)
    (hs : ∀ ap, stale ver' ap ≤ stale ver ap + 3 * d) (x : Local R) :
    phi k' n' ver' x ≤ phi k n ver x := by
  cases x with
  | cCas _ ap _ | rAppend _ ap _ | rCas _ ap _ =>
    have := hs ap
    simp only [phi]
    omega
  | cGet _ | rGet _ =>
    simp only [phi]
    omega
  | _ => exact Nat.le_refl _

theorem kBound_set {s : PSys R} {sh' : Shared R} {t : Nat} {l l' : Local R}
    (hl : s.threads[t]? = some l) :
    kBound (⟨sh', s.threads.set t l'⟩ : PSys R) + (if l.canCas then 1 else 0) =
      kBound s + (if l'.canCas then 1 else 0) :=
  sumBy_set _ hl

theorem pendingRegs_set {ts : List (Local R)} {t : Nat} {l l' : Local R} (hl : ts[t]? = some l) :
    pendingRegs (ts.set t l') + (if l.isPendingReg then 1 else 0) =
      pendingRegs ts + (if l'.isPendingReg then 1 else 0) :=
  sumBy_set _ hl

theorem capt_len_captOf (c : Cell R) : (captOf c).len = c.len := by
  cases c <;> rfl

theorem phi_enterRun_le (k n ver : Nat) (h : Heap) (r : R) (s : Slice) (i : Nat) :
    phi k n ver (enterRun h r s i) ≤ s.len + 1 - i := by
  unfold enterRun
  split
  · split
    · simp only [phi]; omega
    · exact Nat.zero_le _
  · exact Nat.zero_le _

theorem phi_afterWin_le (k n ver : Nat) (h : Heap) (r : R) (c : Capt) :
    phi k n ver (afterWin h r c) ≤ c.len + 1 := by
  cases c with
  | nil => exact Nat.zero_le _
  | cbs s => exact phi_enterRun_le k n ver h r s 0

/-- At fixed parameters the potential of the moving thread itself strictly decreases. -/
theorem phi_trans {v : Variant} {sh sh' : Shared R} {l l' : Local R} (h : Trans v sh l sh' l')
    (k : Nat) {n : Nat} (hn : sh.cell.len ≤ n) : phi k n sh.ver l' < phi k n sh.ver l := by
  cases h with
  | cGetPend _ =>
    simp only [phi, stale_self, capt_len_captOf]
    omega
  | @cCasOk r ap c _ =>
    refine Nat.lt_of_le_of_lt (phi_afterWin_le _ _ _ _ r c) ?_
    simp only [phi]
    omega
  | cCasFail hap | rCasFail hap =>
    simp only [phi, stale_ne hap]
    omega
  | @cRun r sl i cb =>
    refine Nat.lt_of_le_of_lt (phi_enterRun_le _ _ _ _ r sl (i + 1)) ?_
    simp only [phi]
    omega
  | rGetNil _ | rGetCbs _ =>
    simp only [phi, stale_self]
    omega
  | _ =>
    simp only [phi]
    omega

/-- what a transition may do to the parameters of `phi`: `d = 1` for a successful CAS -/
def ParamsLe (sh : Shared R) (l : Local R) (sh' : Shared R) (l' : Local R) : Prop :=
  ∃ d, (if l'.canCas then 1 else 0) + d ≤ (if l.canCas then 1 else 0) ∧
    sh'.cell.len + (if l'.isPendingReg then 1 else 0) ≤
      sh.cell.len + (if l.isPendingReg then 1 else 0) ∧
    ∀ ap, stale sh'.ver ap ≤ stale sh.ver ap + 3 * d

/-- a block that leaves cell and identity alone -/
theorem ParamsLe.same {sh sh' : Shared R} {l l' : Local R} (hv : sh'.ver = sh.ver)
    (hc : sh'.cell = sh.cell) (hk : (!l'.canCas || l.canCas) = true)
    (hp : (!l'.isPendingReg || l.isPendingReg) = true) : ParamsLe sh l sh' l' := by
  refine ⟨0, ?_, ?_, fun _ => by rw [hv]; exact Nat.le_refl _⟩
  · revert hk; cases l'.canCas <;> cases l.canCas <;> decide
  · rw [hc]; revert hp; cases l'.isPendingReg <;> cases l.isPendingReg <;> simp

theorem ParamsLe.cas {sh sh' : Shared R} {l l' : Local R} (hk : l.canCas = true) (hk' : l'.canCas = false)
    (hn : sh'.cell.len + (if l'.isPendingReg then 1 else 0) ≤
      sh.cell.len + (if l.isPendingReg then 1 else 0)) : ParamsLe sh l sh' l' := by
  refine ⟨1, by rw [hk, hk']; exact Nat.le_refl _, hn, fun ap => ?_⟩
  exact Nat.le_trans (stale_le _ ap) (Nat.le_add_left _ _)

/-- No thread regains the right to a CAS, the callbacks still to be run do not grow, and only a
    successful CAS (using up its thread's right) renews the identity. -/
theorem trans_params {v : Variant} {sh sh' : Shared R} {l l' : Local R} (h : Trans v sh l sh' l')
    (hT : TInvA sh l) : ParamsLe sh l sh' l' := by
  cases h with
  | cCasOk _ =>
    refine ParamsLe.cas rfl (afterWin_won _ _ _).canCas ?_
    rw [(afterWin_won _ _ _).isPendingReg]
    exact Nat.zero_le _
  | rCasOk hap => exact ParamsLe.cas rfl rfl (hT.2 hap).2
  | cRun =>
    refine ParamsLe.same rfl rfl ?_ ?_
    · rw [(enterRun_won _ _ _ _).canCas]
      rfl
    · rw [(enterRun_won _ _ _ _).isPendingReg]
      rfl
  | _ => exact ParamsLe.same rfl rfl rfl rfl

theorem measure_step (v : Variant) (s : PSys R) (t : Tid) (s' : PSys R)
    (hinv : InvA s) (hstep : step (stepT v) s t = some s') : measure s' < measure s := by
  obtain ⟨l, sh', l', hl, htr, rfl⟩ := step_trans hstep
  obtain ⟨d, hk, hn, hs⟩ := trans_params htr (hinv.threads l (List.mem_of_getElem? hl))
  have hkb := kBound_set (sh' := sh') (l' := l') hl
  have hpr := pendingRegs_set (l' := l') hl
  have hle := phi_le (R := R) (k := kBound s) (k' := kBound ⟨sh', s.threads.set t l'⟩)
    (n := nBound s) (n' := nBound ⟨sh', s.threads.set t l'⟩) (by omega)
    (by simp only [nBound]; omega) hs
  exact sumBy_set_lt hl (fun x _ => hle x)
    (Nat.lt_of_le_of_lt (hle l') (phi_trans htr _ (Nat.le_add_right _ _)))

end FpVerif.Promise
