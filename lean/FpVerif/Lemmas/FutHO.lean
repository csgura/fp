import FpVerif.Spec.C06Sound
/-!
# Futures of futures (`Flatten`, `LiftM*`) — typed syntax, Try-level denotation (helper layer for `Spec/C06HO.lean`)

The executable model (`Model/Future.lean`) carries a future handle as a *value* (`handle q`): `Flatten`'s
continuation is `v ↦ ref (unhandle v)`, and `Successful(h)` is `successfulOf e`.  The first-order theorems
(`Spec/C06Sound.lean` …) exclude both.  Here:

* `Ty`      — `val` (a future of a plain value) / `fut τ` (a future whose success value is a future of type `τ`);
* `TExpr τ` — the construction programs of type `τ`: every `FExpr` primitive, `successfulOf`, and `flatten` as a
              primitive of the *typed* syntax (its continuation is the only one that may look at a handle);
* `erase`   — the `FExpr` the program actually is (what `build` runs): `erase (flatten e) = Fut.flatten (erase e)`;
* `Sem τ`   — what a completed future of type `τ` holds, Try-level: a `Val`, or the three-valued status of the
              inner future (`Option (Try (Sem τ))`) — no handles;
* `den ρ`   — the denotation: `flatten` is the monadic join, `successfulOf e` is `success (den e)`;
* `absS σ τ p` — the `Sem`-level reading of the status of promise `p` (follows handles `τ`-deep).
* `HO τ e`, `EvOK`, `Valid` — the fragment (erasures of typed programs) and the runs the theorems of `Spec/C06HO.lean` speak of.
-/
namespace FpVerif.Spec.C06.HO
open FpVerif.Fut

inductive Ty where
  | val
  | fut (t : Ty)
  deriving DecidableEq, Repr

/-- Try-level content of a successfully completed future of type `τ` -/
@[reducible] def Sem : Ty → Type
  | .val => Val
  | .fut t => Option (Try (Sem t))

/-- three-valued status of a future of type `τ` -/
abbrev St (τ : Ty) : Type := Option (Try (Sem τ))

inductive TExpr : Ty → Type where
  | ref (τ : Ty) (p : Nat) : TExpr τ
  | successful (v : Val) : TExpr .val
  | failed (τ : Ty) (e : Err) : TExpr τ
  | successfulOf {τ : Ty} (e : TExpr τ) : TExpr (.fut τ)
  | logged {τ : Ty} (evs : List Event) (e : TExpr τ) : TExpr τ
  | flatMap {τ : Ty} (e : TExpr .val) (k : Val → TExpr τ) : TExpr τ
  | flatten {τ : Ty} (e : TExpr (.fut τ)) : TExpr τ
  | transform (e : TExpr .val) (f : Try Val → W (Try Val)) : TExpr .val
  | transformWith {τ : Ty} (e : TExpr .val) (k : Try Val → TExpr τ) : TExpr τ
  | recoverWith {τ : Ty} (e : TExpr τ) (d : Err → Bool) (k : Err → TExpr τ) : TExpr τ
  | orFuture {τ : Ty} (e alt : TExpr τ) : TExpr τ
  | apply (f : Unit → W (Try Val)) : TExpr .val

/-- the untyped program that is actually run -/
def erase : {τ : Ty} → TExpr τ → FExpr
  | _, .ref _ p => .ref p
  | _, .successful v => .successful v
  | _, .failed _ e => .failed e
  | _, .successfulOf e => .successfulOf (erase e)
  | _, .logged evs e => .logged evs (erase e)
  | _, .flatMap e k => .flatMap (erase e) (fun v => erase (k v))
  | _, .flatten e => Fut.flatten (erase e)
  | _, .transform e f => .transform (erase e) f
  | _, .transformWith e k => .transformWith (erase e) (fun t => erase (k t))
  | _, .recoverWith e d k => .recoverWith (erase e) d (fun x => erase (k x))
  | _, .orFuture e alt => .orFuture (erase e) (erase alt)
  | _, .apply f => .apply f

-- generic three-valued binds ----------------------------------------------------------------------------------

def bindOkS {α β : Type} (o : Option (Try α)) (f : α → Option (Try β)) : Option (Try β) :=
  match o with
  | some (.success v) => f v
  | some (.failure err) => some (.failure err)
  | none => none

def bindTryS {α β : Type} (o : Option (Try α)) (f : Try α → Option (Try β)) : Option (Try β) :=
  match o with
  | some t => f t
  | none => none

/-- the monadic join of the three-valued Try: what `Flatten` means -/
def joinS {τ : Ty} (o : St (.fut τ)) : St τ :=
  bindOkS o (fun inner => inner)

theorem bindOkS_eq_bindOk (o : Option (Try Val)) (f : Val → Option (Try Val)) : bindOkS o f = bindOk o f := by
  cases o with
  | none => rfl
  | some t => cases t <;> rfl

theorem bindTryS_eq_bindTry (o : Option (Try Val)) (f : Try Val → Option (Try Val)) : bindTryS o f = bindTry o f := by
  cases o <;> rfl

theorem bindOkS_some {α β : Type} {o : Option (Try α)} {f : α → Option (Try β)} {r : Try β}
    (h : bindOkS o f = some r) :
    (∃ v, o = some (.success v) ∧ f v = some r) ∨ (∃ e, o = some (.failure e) ∧ r = .failure e) := by
  unfold bindOkS at h
  split at h
  · exact .inl ⟨_, rfl, h⟩
  · simp at h; exact .inr ⟨_, rfl, h.symm⟩
  · simp at h

theorem bindTryS_some {α β : Type} {o : Option (Try α)} {f : Try α → Option (Try β)} {r : Try β}
    (h : bindTryS o f = some r) : ∃ t, o = some t ∧ f t = some r := by
  unfold bindTryS at h
  split at h
  · exact ⟨_, rfl, h⟩
  · simp at h

/-- a success stays what it is, a failure is handed to `F` (`RecoverWith`, `OrFuture`) -/
def recS {α : Type} (F : Err → Option (Try α)) : Try α → Option (Try α)
  | .success v => some (.success v)
  | .failure err => F err

/-- environment: the `Sem`-level status of every handle, at every type it may be used at -/
abbrev Env : Type := (τ : Ty) → Nat → St τ

/-- **The denotation** of a typed construction program, over the statuses `ρ` of the handles it refers to. -/
def den (ρ : Env) : {τ : Ty} → TExpr τ → St τ
  | _, .ref τ p => ρ τ p
  | _, .successful v => some (.success v)
  | _, .failed _ e => some (.failure e)
  | _, .successfulOf e => some (.success (den ρ e))
  | _, .logged _ e => den ρ e
  | _, .flatMap e k => bindOkS (den ρ e) (fun v => den ρ (k v))
  | _, .flatten e => joinS (den ρ e)
  | _, .transform e f => (den ρ e).map (fun t => (f t).1)
  | _, .transformWith e k => bindTryS (den ρ e) (fun t => den ρ (k t))
  | _, .recoverWith e d k =>
    bindTryS (den ρ e) (recS (fun err => if d err then den ρ (k err) else some (.failure err)))
  | _, .orFuture e alt => bindTryS (den ρ e) (recS (fun _ => den ρ alt))
  | _, .apply f => some (f ()).1

-- reading the handle-level statuses at the Try level --------------------------------------------------------------

/-- the `Sem`-level reading of a handle-level result of type `τ` -/
def absT (σ : Nat → Option (Try Val)) : (τ : Ty) → Try Val → Try (Sem τ)
  | .val, t => t
  | .fut _, .failure e => .failure e
  | .fut τ, .success v => .success ((σ (unhandle v)).map (absT σ τ))

/-- the `Sem`-level status of promise `p` read at type `τ` -/
def absS (σ : Nat → Option (Try Val)) (τ : Ty) (p : Nat) : St τ := (σ p).map (absT σ τ)

/-- the environment induced by the statuses of a network -/
def absE (σ : Nat → Option (Try Val)) : Env := fun τ p => absS σ τ p

@[simp] theorem absE_apply (σ : Nat → Option (Try Val)) (τ : Ty) (p : Nat) : absE σ τ p = absS σ τ p := rfl

theorem unhandle_handle (q : Nat) : unhandle (handle q) = q := by
  simp [unhandle, handle]

theorem absT_failure (σ : Nat → Option (Try Val)) (τ : Ty) (e : Err) : absT σ τ (.failure e) = .failure e := by
  cases τ <;> rfl

theorem absT_val (σ : Nat → Option (Try Val)) (t : Try Val) : absT σ .val t = t := rfl

theorem absT_handle (σ : Nat → Option (Try Val)) (τ : Ty) (q : Nat) :
    absT σ (.fut τ) (.success (handle q)) = .success (absS σ τ q) := by
  simp [absT, absS, unhandle_handle]

theorem absT_success (σ : Nat → Option (Try Val)) (τ : Ty) (v : Val) :
    ∃ x, absT σ τ (.success v) = .success x := by
  cases τ with
  | val => exact ⟨v, rfl⟩
  | fut τ => exact ⟨_, rfl⟩

theorem absS_val (σ : Nat → Option (Try Val)) (p : Nat) : absS σ .val p = σ p := by
  unfold absS
  cases σ p <;> rfl

theorem absS_none {σ : Nat → Option (Try Val)} {p : Nat} (τ : Ty) (h : σ p = none) : absS σ τ p = none := by
  simp [absS, h]

theorem absS_some {σ : Nat → Option (Try Val)} {p : Nat} {t : Try Val} (τ : Ty) (h : σ p = some t) :
    absS σ τ p = some (absT σ τ t) := by
  simp [absS, h]

theorem absS_isSome {σ : Nat → Option (Try Val)} {p : Nat} {τ : Ty} {x : Try (Sem τ)} (h : absS σ τ p = some x) :
    ∃ t, σ p = some t ∧ x = absT σ τ t := by
  unfold absS at h
  cases hp : σ p with
  | none => simp [hp] at h
  | some t => simp [hp] at h; exact ⟨t, rfl, h.symm⟩

/-- reading a future of futures: the outer future succeeded with the handle `unhandle v` -/
theorem absS_fut_success {σ : Nat → Option (Try Val)} {p : Nat} {v : Val} (τ : Ty) (h : σ p = some (.success v)) :
    absS σ (.fut τ) p = some (.success (absS σ τ (unhandle v))) := by
  simp [absS, h, absT]

/-- the programs that are (erasures of) typed construction programs of type `τ` -/
def HO (τ : Ty) (e : FExpr) : Prop := ∃ t : TExpr τ, erase t = e

/-- what the environment and the program may do: only source promises are completed from outside; the program
    constructs futures from typed programs (first-order combinators, `Successful` of a future, `Flatten`) -/
def EvOK (nsrc : Nat) : Ev → Prop
  | .run _ => True
  | .src p t => p < nsrc ∧ WFTry t       -- audit finding 1: never `Try{}` / `Failure(nil)` (see `Lemmas/FutWF.lean`)
  | .mk e => (∃ τ, HO τ e) ∧ WFE e       -- … and every Try a constructed program can produce is well formed
  | .obs _ _ => True

theorem EvOK.wf {nsrc : Nat} {ev : Ev} (h : EvOK nsrc ev) : EvWF ev := by
  cases ev with
  | run i => trivial
  | src p t => exact h.2
  | mk e => exact h.2
  | obs p id => trivial

def Valid (nsrc : Nat) (evs : List Ev) : Prop := ∀ ev ∈ evs, EvOK nsrc ev

end FpVerif.Spec.C06.HO
