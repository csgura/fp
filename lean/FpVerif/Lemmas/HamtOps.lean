import FpVerif.Lemmas.HamtBits
/-!
`get`, `setCore` and `delete` on a branch node of either kind (bitmap-indexed, hash-array), one equation each:
read the slot of the key's hash fragment (`Node.slot`), recurse into the child, put the result back
(`Node.putChild`) or drop the slot (`Node.dropChild`).  `Node.slot` panics where the three operations panic
(index out of range in `nodes`, a hash-array node without 32 slots) and with the model's own messages, so the
equations hold without any condition on the slot, panics included.  The value-level specifications and the heap
simulation both read a branch node through them and never unfold the operations there.
-/
namespace FpVerif.Hamt
variable {K V : Type} {h : Hasher K} {k : K} {s : Nat} {kh : UInt32} {n : Node K V}

theorem bind_ok {α β : Type} {x : GoE α} {f : α → GoE β} {a : α} {b : β} (hx : x = .ok a) (hf : f a = .ok b) :
    x >>= f = .ok b := by
  rw [hx]; exact hf

theorem ok_bind {α β : Type} (a : α) (f : α → GoE β) : (Except.ok a : GoE α) >>= f = f a := rfl

def Node.isBranch : Node K V → Prop
  | .bitmap .. | .hashArray .. => True
  | _ => False

theorem Node.isBranch.not_array {n : Node K V} (hb : n.isBranch) (es : List (K × V)) : n ≠ .array es :=
  fun he => by rw [he] at hb; exact hb

/-- reading slot `j` of a branch node: the child there, if any (an index out of range panics, as in
    each of the three operations) -/
def Node.slot : Node K V → Nat → GoE (Option (Node K V))
  | .bitmap bm ns, j =>
    if bm.testBit j then
      match ns[rank bm j]? with
      | some c => pure (some c)
      | none => throw "index out of range"
    else pure none
  | .hashArray _ os, j =>
    match os[j]? with
    | some o => pure o
    | none => throw "model: hash array node without 32 slots"
  | _, _ => pure none

/-- slot `j` of a branch node filled with `c`: what `set` builds, and `delete` while the child stays -/
def Node.putChild : Node K V → Nat → Node K V → GoE (Node K V)
  | .bitmap bm ns, j, c =>
    if bm.testBit j then pure (.bitmap bm (ns.set (rank bm j) c))
    else if ns.length > maxBitmapIndexedSize then
      bitmapToHashArray bm ns >>= fun x => pure (.hashArray (x.2 + 1) (x.1.set j (some c)))
    else pure (.bitmap (bm ||| 1 <<< j) (ns.take (rank bm j) ++ c :: ns.drop (rank bm j)))
  | .hashArray cnt os, j, c =>
    pure (.hashArray (if (os[j]?).join.isSome then cnt else cnt + 1) (os.set j (some c)))
  | n, _, _ => pure n

/-- slot `j` of a branch node emptied: what `delete` builds when the child is gone (`none`: it was the
    only child) -/
def Node.dropChild : Node K V → Nat → Option (Node K V)
  | .bitmap bm ns, j =>
    if ns.length == 1 then none
    else some (.bitmap (bm ^^^ 1 <<< j) (ns.take (rank bm j) ++ ns.drop (rank bm j + 1)))
  | .hashArray cnt os, j =>
    if cnt ≤ maxBitmapIndexedSize then some (.bitmap (hashArrayToBitmap os j).1 (hashArrayToBitmap os j).2)
    else some (.hashArray (cnt - 1) (os.set j none))
  | n, _ => some n

/-- `get` on a branch node: look into the slot of the hash fragment -/
theorem get_branch (hb : n.isBranch) :
    n.get h k s kh = n.slot (frag kh s) >>= fun o => match o with
      | none => pure none
      | some c => c.get h k (s + 5) kh := by
  cases n with
  | array _ | value _ _ _ | collision _ _ => exact hb.elim
  | bitmap bm ns =>
    conv => lhs; unfold Node.get
    simp only [Node.slot, and_bit_eq_zero]
    cases bm.testBit (frag kh s) with
    | false => rfl
    | true =>
      simp only [Bool.not_true, Bool.false_eq_true, if_false, if_true]
      split
      · rename_i c hc
        rw [rank, hc]
        rfl
      · rename_i hc
        rw [rank, hc]
        rfl
  | hashArray cnt os =>
    conv => lhs; unfold Node.get
    simp only [Node.slot]
    split
    · rename_i c hc
      rw [hc]
      rfl
    · rename_i hc
      rw [hc]
      rfl
    · rename_i hc
      rw [hc]
      rfl

variable {ex : List (K × V) → K → V → Bool → GoE (Node K V × Bool)} {v : V} {mu r : Bool}

/-- `setCore` on a branch node: set into the child in the slot (or make a value node) and put the result into
    the slot -/
theorem setCore_branch (hb : n.isBranch) :
    n.setCore h ex k v s kh mu r = n.slot (frag kh s) >>= fun o => match o with
      | none => n.putChild (frag kh s) (.value kh k v) >>= fun n' => pure (n', true)
      | some c => c.setCore h ex k v (s + 5) kh mu r >>= fun x =>
          n.putChild (frag kh s) x.1 >>= fun n' => pure (n', x.2) := by
  cases n with
  | array _ | value _ _ _ | collision _ _ => exact hb.elim
  | bitmap bm ns =>
    conv => lhs; unfold Node.setCore
    simp only [Node.slot, Node.putChild, and_bit_ne_zero]
    cases ht : bm.testBit (frag kh s) with
    | false =>
      simp only [Bool.not_false, Bool.true_and, Bool.false_eq_true, if_false, if_true]
      by_cases hbig : ns.length > maxBitmapIndexedSize
      · simp only [hbig, decide_true, if_true]
        cases bitmapToHashArray bm ns with
        | error _ => rfl
        | ok _ => rfl
      · simp only [hbig, decide_false, Bool.false_eq_true, if_false]
        rfl
    | true =>
      -- the copying path writes `bm ||| bit`, which is `bm`
      have hbm : (if mu = true then bm else bm ||| 1 <<< frag kh s) = bm := by
        cases mu
        · exact or_bit_of_testBit ht
        · rfl
      simp only [Bool.not_true, Bool.false_and, Bool.false_eq_true, if_false, if_true, hbm]
      split
      · rename_i c hc
        rw [rank, hc]
        rfl
      · rename_i hc
        rw [rank, hc]
        rfl
  | hashArray cnt os =>
    conv => lhs; unfold Node.setCore
    simp only [Node.slot, Node.putChild]
    split
    · rename_i hc
      rw [hc]
      rfl
    · rename_i o hc
      rw [hc]
      cases o with
      | none => rfl
      | some _ => rfl

/-- `delete` on a branch node: delete from the child in the slot; if that changed it, put the new child into the
    slot or drop the slot -/
theorem delete_branch (hb : n.isBranch) :
    n.delete h k s kh mu r = n.slot (frag kh s) >>= fun o => match o with
      | none => pure (some n, r)
      | some c => c.delete h k (s + 5) kh mu r >>= fun x =>
          if !x.2 then pure (some n, x.2)
          else match x.1 with
            | none => pure (n.dropChild (frag kh s), x.2)
            | some c' => n.putChild (frag kh s) c' >>= fun n' => pure (some n', x.2) := by
  cases n with
  | array _ | value _ _ _ | collision _ _ => exact hb.elim
  | bitmap bm ns =>
    conv => lhs; unfold Node.delete
    simp only [Node.slot, Node.putChild, Node.dropChild, and_bit_eq_zero]
    cases ht : bm.testBit (frag kh s) with
    | false => rfl
    | true =>
      simp only [Bool.not_true, Bool.false_eq_true, if_false, if_true]
      split
      · rename_i hc
        rw [rank, hc]
        rfl
      · rename_i c hc
        rw [rank, hc]
        refine congrArg _ (funext fun x => ?_)
        obtain ⟨_ | c', _ | _⟩ := x
        · rfl
        · simp only [Bool.not_true, Bool.false_eq_true, if_false]
          split
          · rfl
          · rfl
        · rfl
        · rfl
  | hashArray cnt os =>
    conv => lhs; unfold Node.delete
    simp only [Node.slot, Node.putChild, Node.dropChild]
    split
    · rename_i hc
      rw [hc]
      rfl
    · rename_i hc
      rw [hc]
      rfl
    · rename_i c hc
      rw [hc]
      refine congrArg _ (funext fun x => ?_)
      obtain ⟨_ | c', _ | _⟩ := x
      · rfl
      · simp only [Bool.not_true, Bool.false_eq_true, if_false, Option.isNone_none, Bool.true_and,
          decide_eq_true_eq]
        split
        · rfl
        · rfl
      · rfl
      · rfl

end FpVerif.Hamt
