import FpVerif.Model.Cow
/-!
The association-list map is a map (get/put/del laws); which operations of the ATOMIC map may change
the binding of a key (`Op.writes`): the others leave it as it is (`apply_frame`).
-/
namespace FpVerif.Cow

theorem AMap.get_cons (a : K) (b : V) (ps : AMap) (k : K) :
    AMap.get ((a, b) :: ps) k = if k = a then some b else AMap.get ps k := by
  unfold AMap.get
  by_cases h : k = a
  · subst h; simp
  · have hb : (k == a) = false := by simpa using h
    simp [List.lookup_cons, hb, h]

/-- `del` and `delAll` are filters on the key: the bindings of the keys kept are untouched, the
    others are gone -/
theorem AMap.get_filter (m : AMap) (keep : K → Bool) (k : K) :
    AMap.get (m.filter (fun p => keep p.1)) k = if keep k then AMap.get m k else none := by
  induction m with
  | nil => cases keep k <;> rfl
  | cons p ps ih =>
    obtain ⟨a, b⟩ := p
    rw [List.filter_cons]
    cases ha : keep a with
    | true =>
      rw [if_pos rfl, AMap.get_cons, AMap.get_cons, ih]
      by_cases hk : k = a
      · rw [if_pos hk, if_pos hk, hk, ha]
        rfl
      · rw [if_neg hk, if_neg hk]
    | false =>
      rw [if_neg Bool.false_ne_true, ih, AMap.get_cons]
      by_cases hk : k = a
      · rw [hk, ha]
        rfl
      · rw [if_neg hk]

theorem AMap.get_del_self (m : AMap) (k : K) : AMap.get (AMap.del m k) k = none :=
  (AMap.get_filter m (· != k) k).trans (by simp)

theorem AMap.get_del_ne (m : AMap) {k k' : K} (h : k' ≠ k) :
    AMap.get (AMap.del m k') k = AMap.get m k :=
  (AMap.get_filter m (· != k') k).trans (by simp [Ne.symm h])

theorem AMap.get_put_self (m : AMap) (k : K) (v : V) : AMap.get (AMap.put m k v) k = some v := by
  simp [AMap.put, AMap.get]

theorem AMap.get_put_ne (m : AMap) {k k' : K} (v : V) (h : k' ≠ k) :
    AMap.get (AMap.put m k' v) k = AMap.get m k := by
  rw [AMap.put, AMap.get_cons, if_neg (Ne.symm h)]
  exact AMap.get_del_ne m h

theorem AMap.get_delAll_notin (m : AMap) {k : K} {ks : List K} (h : k ∉ ks) :
    AMap.get (AMap.delAll m ks) k = AMap.get m k :=
  (AMap.get_filter m (fun a => !ks.contains a) k).trans (by simp [h])

theorem AMap.get_delAll_in (m : AMap) {k : K} {ks : List K} (h : k ∈ ks) :
    AMap.get (AMap.delAll m ks) k = none :=
  (AMap.get_filter m (fun a => !ks.contains a) k).trans (by simp [h])

/-- `ComputeIfAbsent k f` -/
def Op.isCia (k : K) : Op → Prop
  | .computeIf k' none _ _ _ => k' = k
  | _ => False

/-- the operation may change the binding of `k` -/
def Op.writes (k : K) : Op → Prop
  | .updated k' _ => k' = k
  | .removed ks => k ∈ ks
  | .updatedWith k' _ _ => k' = k
  | .computeIf k' _ _ _ _ => k' = k
  | _ => False

theorem apply_frame {op : Op} {k : K} (h : ¬ op.writes k) (m : AMap) :
    AMap.get (op.apply m).1 k = AMap.get m k := by
  cases op with
  | get _ => rfl
  | size => rfl
  | iter => rfl
  | updated k' v => exact AMap.get_put_ne m v h
  | removed ks => exact AMap.get_delAll_notin m h
  | updatedWith k' rid remap =>
    simp only [Op.apply, updatedWithMap]
    split
    · exact AMap.get_put_ne m _ h
    · split
      · exact AMap.get_del_ne m h
      · rfl
  | computeIf k' pid pred fid nv =>
    simp only [Op.apply, computeIfMap]
    split
    · split
      · exact AMap.get_put_ne m _ h
      · rfl
    · exact AMap.get_put_ne m _ h

end FpVerif.Cow
