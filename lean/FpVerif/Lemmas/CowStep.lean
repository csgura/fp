import FpVerif.Lemmas.CowBasic
/-!
Summary of one atomic block of the repaired CopyOnWriteMap (`Variant.recheck`): every step
appends events of the moving thread only, extends that thread's expected history by exactly
those events, passes at most one linearization point — at which the atomic map makes exactly the
transition the concrete map makes — and only the publishing step (`cow.store`) changes the map
(the slow path of `load()` merely stores the empty map in place of a nil snapshot).
-/
namespace FpVerif.Cow

def Local.isStore (l : Local) : Bool :=
  match l.phase with
  | .running _ (.store ..) => true
  | _ => false

/-- per-thread invariant: a thread about to publish has computed exactly what the atomic map
    would do now; the re-read states of the unrepaired ComputeIf are never entered -/
def TInv (sh : Shared) (l : Local) : Prop :=
  match l.phase with
  | .running op (.store nm out) => op.apply sh.map = (nm, out)
  | .running _ .load2 => False
  | .running _ .load2Lock => False
  | _ => True

/-- the program of a thread: completed, current and future operations -/
def Local.ops (l : Local) : List Op :=
  l.done.map (·.1) ++ (match l.phase with | .running op _ => [op] | .finished => []) ++ l.todo

structure StepSum (sh : Shared) (l : Local) (sh' : Shared) (l' : Local) : Prop where
  tid : l'.tid = l.tid
  ops : l'.ops = l.ops
  noPanic : Ret.panic ∉ l.rets → Ret.panic ∉ l'.rets
  tinv : TInv sh' l'
  fin : l'.phase = .finished → l'.todo = []
  hist : ∃ evs, sh'.hist = sh.hist ++ evs ∧ (∀ e ∈ evs, e.tid = l.tid) ∧
      expected l' = expected l ++ evs ∧
      ((linsOf evs = [] ∧ sh'.map = sh.map) ∨
       (∃ op r, linsOf evs = [(op, r)] ∧ op.apply sh.map = (sh'.map, r)))
  map : l.isStore = false → sh'.map = sh.map

theorem complete_eq (sh : Shared) (l : Local) (op : Op) (r : Ret) (hr : r ≠ .panic) :
    complete sh l op r =
      startNext { sh with hist := sh.hist ++ [.ret l.tid l.done.length r] }
        { l with done := l.done ++ [(op, r)] } := by
  cases r <;> simp_all [complete]

theorem ops_startNext (sh : Shared) (l : Local) :
    (startNext sh l).2.ops = l.done.map (·.1) ++ l.todo := by
  rw [startNext_eq]
  cases l.todo <;> simp [Local.ops]

theorem Local.AtEntry.tinv {l : Local} (h : l.AtEntry) (sh : Shared) : TInv sh l := by
  unfold Local.AtEntry at h
  unfold TInv
  cases hp : l.phase with
  | finished => trivial
  | running op pc =>
    rw [hp] at h
    subst h
    cases op <;> trivial

/-- The current operation returns the (non-panic) result `r`, in a shared state `shm` reached from
    `sh` by the events `pre`, which together with the thread's current events make up
    `call; lin r`: the whole block from `sh` is summarised by what happened up to `shm`. -/
theorem complete_sum {sh shm : Shared} {l : Local} {op : Op} {pc : Pc} {r : Ret} {pre : List HEv}
    (hp : l.phase = .running op pc) (hr : r ≠ .panic)
    (hpre : curEvents l ++ pre = [.call l.tid l.done.length op, .lin l.tid l.done.length op r])
    (hh : shm.hist = sh.hist ++ pre)
    (hlin : (linsOf pre = [] ∧ shm.map = sh.map) ∨
      (linsOf pre = [(op, r)] ∧ op.apply sh.map = (shm.map, r)))
    (hmap : l.isStore = false → shm.map = sh.map) :
    StepSum sh l (complete shm l op r).1 (complete shm l op r).2 := by
  rw [complete_eq shm l op r hr]
  obtain ⟨h1, _, _, h4, h5, h6, h7⟩ :=
    startNext_spec { shm with hist := shm.hist ++ [.ret l.tid l.done.length r] }
      { l with done := l.done ++ [(op, r)] }
  have hops := ops_startNext { shm with hist := shm.hist ++ [.ret l.tid l.done.length r] }
    { l with done := l.done ++ [(op, r)] }
  generalize startNext _ { l with done := l.done ++ [(op, r)] } = res at h1 h4 h5 h6 h7 hops ⊢
  simp only at h1 h4 h5 h6 hops
  have hm : res.1.map = shm.map := congrArg (fun o => o.getD []) h1
  refine ⟨h4, ?_, fun hnp => ?_, h7.tinv _, h7.fin,
    ⟨pre ++ .ret l.tid l.done.length r :: curEvents res.2, ?_, fun e he => ?_, ?_, ?_⟩,
    fun hs => hm.trans (hmap hs)⟩
  · rw [hops]
    simp [Local.ops, hp]
  · simp only [Local.rets, h5, List.map_append, List.mem_append, not_or]
    exact ⟨hnp, by simpa using hr.symm⟩
  · rw [h6, hh]
    simp
  · rcases List.mem_append.mp he with he | he
    · have : e ∈ [HEv.call l.tid l.done.length op, .lin l.tid l.done.length op r] :=
        hpre ▸ List.mem_append_right _ he
      simp only [List.mem_cons, List.not_mem_nil, or_false] at this
      rcases this with rfl | rfl <;> rfl
    · rcases List.mem_cons.mp he with rfl | he
      · rfl
      · exact (curEvents_tid res.2 e he).trans h4
  · unfold expected
    rw [h4, h5, doneEvents_snoc]
    have : doneEvents l.tid 0 l.done ++ curEvents l ++ (pre ++ .ret l.tid l.done.length r :: curEvents res.2)
        = doneEvents l.tid 0 l.done ++ (curEvents l ++ pre) ++ .ret l.tid l.done.length r :: curEvents res.2 := by
      simp
    rw [this, hpre]
    simp
  · have hl : linsOf (pre ++ .ret l.tid l.done.length r :: curEvents res.2) = linsOf pre := by
      simp [linsOf_append, linsOf, h7.lins]
    rw [hl, hm]
    exact hlin.imp id (fun h => ⟨op, r, h⟩)

theorem apply_ne_panic (op : Op) (m : AMap) : (op.apply m).2 ≠ .panic := by
  cases op <;> simp [Op.apply]

theorem writeBody_apply {op : Op} {m nm : AMap} {out : Ret} {cs : List Call}
    (h : writeBody .recheck op m = some (nm, out, cs)) : op.apply m = (nm, out) := by
  cases op with
  | updated k x | removed ks | updatedWith k rid remap =>
    cases h
    rfl
  | computeIf k pid pred fid nv =>
    simp only [writeBody] at h
    simp only [Op.apply, computeIfMap]
    generalize AMap.get m k = g at h ⊢
    cases g with
    | none =>
      cases h
      rfl
    | some x =>
      simp only at h ⊢
      generalize pred x = b at h ⊢
      cases b <;> cases h <;> rfl
  | get k | size | iter => cases h

theorem isAsIs_recheck (op : Op) : isAsIsComputeIf .recheck op = false := by
  cases op <;> simp [isAsIsComputeIf]

theorem curEvents_not_hold {l : Local} {op : Op} {pc : Pc} (hp : l.phase = .running op pc)
    (hh : ∀ m, pc ≠ .hold m) : curEvents l = [.call l.tid l.done.length op] := by
  unfold curEvents
  rw [hp]
  cases pc <;> simp
  rename_i m; exact absurd rfl (hh m)

/-- a step that emits no event and leaves the map alone: the thread's program counter moves on, callbacks
    may have been invoked, the lock may have changed hands -/
theorem quiet_sum {sh sh' : Shared} {l : Local} {op : Op} {pc pc' : Pc}
    (hp : l.phase = .running op pc) (hh : sh'.hist = sh.hist) (hm : sh'.map = sh.map)
    (h1 : ∀ m, pc ≠ .hold m) (h2 : ∀ m, pc' ≠ .hold m)
    (hT : TInv sh' { l with phase := .running op pc' }) :
    StepSum sh l sh' { l with phase := .running op pc' } := by
  refine ⟨rfl, ?_, fun h => h, hT, by simp, ⟨[], by simp [hh], by simp, ?_, Or.inl ⟨rfl, hm⟩⟩,
    fun _ => hm⟩
  · simp [Local.ops, hp]
  · simp only [List.append_nil, expected]
    rw [curEvents_not_hold hp h1, curEvents_not_hold (l := { l with phase := .running op pc' }) rfl h2]

/-- What an operation does with the map `m` its first `load()` returned: a read is linearized now
    and returns, `Iterator` keeps the snapshot, `ComputeIf` goes on to write. -/
theorem afterLoad_cases {sh sh' : Shared} {l l' : Local} {op : Op} {m : AMap}
    (h : afterLoad sh l op m = some (sh', l')) :
    (∃ shx r, shx.snap = sh.snap ∧ shx.lock = sh.lock ∧ shx.hist = sh.hist ∧ op.apply m = (m, r) ∧
      (sh', l') = complete (linEv shx l op r) l op r) ∨
    (op = .iter ∧
      (sh', l') = (linEv sh l .iter (.kvs m), { l with phase := .running .iter (.hold m) })) ∨
    (∃ k pid pred fid nv cs, op = .computeIf k pid pred fid nv ∧
      (sh', l') = ({ sh with calls := sh.calls ++ cs }, { l with phase := .running op .enter })) := by
  cases op with
  | get k =>
    simp only [afterLoad, Option.some.injEq] at h
    exact Or.inl ⟨sh, _, rfl, rfl, rfl, rfl, h.symm⟩
  | size =>
    simp only [afterLoad, Option.some.injEq] at h
    exact Or.inl ⟨sh, _, rfl, rfl, rfl, rfl, h.symm⟩
  | iter =>
    simp only [afterLoad, Option.some.injEq] at h
    exact Or.inr (Or.inl ⟨rfl, h.symm⟩)
  | computeIf k pid pred fid nv =>
    simp only [afterLoad] at h
    cases hg : AMap.get m k with
    | none =>
      simp only [hg, Option.some.injEq] at h
      exact Or.inr (Or.inr ⟨k, pid, pred, fid, nv, _, rfl, h.symm⟩)
    | some x =>
      simp only [hg] at h
      cases hpx : pred x with
      | true =>
        simp only [hpx, if_true, Option.some.injEq, List.append_assoc] at h
        exact Or.inr (Or.inr ⟨k, pid, pred, fid, nv, _, rfl, h.symm⟩)
      | false =>
        simp only [hpx, Bool.false_eq_true, if_false, Option.some.injEq] at h
        refine Or.inl ⟨{ sh with calls := sh.calls ++ _ }, .val x, rfl, rfl, rfl, ?_, h.symm⟩
        simp [Op.apply, computeIfMap, hg, hpx]
  | updated k x => simp [afterLoad] at h
  | removed ks => simp [afterLoad] at h
  | updatedWith k rid remap => simp [afterLoad] at h

/-- the part of a step after `load()` has produced the map `m`, in the state `shm`: `sh`, or (slow
    path) `sh` with the empty map stored in place of the nil snapshot -/
theorem afterLoad_sum {sh shm sh' : Shared} {l l' : Local} {op : Op} {pc : Pc} {m : AMap}
    (hp : l.phase = .running op pc) (hpc : pc = .load ∨ pc = .loadLock)
    (hm1 : shm.map = m) (hm2 : sh.map = m) (hh : shm.hist = sh.hist)
    (h : afterLoad shm l op m = some (sh', l')) : StepSum sh l sh' l' := by
  have hnh : ∀ m, pc ≠ .hold m := by rcases hpc with rfl | rfl <;> simp
  have hcur := curEvents_not_hold hp hnh
  have hmm : shm.map = sh.map := hm1.trans hm2.symm
  rcases afterLoad_cases h with ⟨shx, r, hs1, _, hs3, hap, heq⟩ | ⟨rfl, heq⟩ |
      ⟨k, pid, pred, fid, nv, cs, rfl, heq⟩
  · -- a read that is linearized now and returns
    have hr : r ≠ .panic := by have := apply_ne_panic op m; rw [hap] at this; exact this
    have hxm : (linEv shx l op r).map = sh.map := (congrArg (fun o => o.getD []) hs1).trans hmm
    have := complete_sum (sh := sh) (shm := linEv shx l op r) (pre := [.lin l.tid l.done.length op r])
      hp hr (by rw [hcur]; rfl) (by simp [linEv, hs3, hh])
      (Or.inr ⟨rfl, by rw [hxm, hm2]; exact hap⟩) (fun _ => hxm)
    rw [← heq] at this
    exact this
  · obtain ⟨rfl, rfl⟩ := Prod.mk.inj heq
    refine ⟨rfl, ?_, fun h => h, trivial, by simp,
      ⟨[.lin l.tid l.done.length .iter (.kvs m)], by simp [linEv, hh], by simp [HEv.tid], ?_,
        Or.inr ⟨.iter, .kvs m, rfl, ?_⟩⟩, fun _ => hmm⟩
    · simp [Local.ops, hp]
    · simp only [expected]
      rw [hcur]
      simp [curEvents]
    · show (sh.map, Ret.kvs sh.map) = (shm.map, Ret.kvs m)
      rw [hmm, hm2]
  · obtain ⟨rfl, rfl⟩ := Prod.mk.inj heq
    exact quiet_sum hp hh hmm hnh (by simp) trivial

theorem stepT_sum {sh sh' : Shared} {l l' : Local} (hT : TInv sh l)
    (h : stepT .recheck sh l = some (sh', l')) : StepSum sh l sh' l' := by
  unfold stepT at h
  cases hp : l.phase with
  | finished => simp [hp] at h
  | running op pc =>
    simp only [hp] at h
    cases pc with
    | load =>
      simp only at h
      cases hs : sh.snap with
      | none =>
        simp only [hs, Option.some.injEq, Prod.mk.injEq] at h
        obtain ⟨rfl, rfl⟩ := h
        exact quiet_sum hp rfl rfl (by simp) (by simp) trivial
      | some m =>
        simp only [hs] at h
        exact afterLoad_sum hp (Or.inl rfl) (by simp [Shared.map, hs]) (by simp [Shared.map, hs]) rfl h
    | loadLock =>
      simp only at h
      by_cases hl : sh.lock = true
      · simp [hl] at h
      · simp only [hl, Bool.false_eq_true, if_false] at h
        exact afterLoad_sum (shm := { snap := some sh.map, lock := false, calls := sh.calls, hist := sh.hist })
          hp (Or.inr rfl) (by simp [Shared.map]) rfl rfl h
    | hold m =>
      simp only [Option.some.injEq] at h
      have := complete_sum (sh := sh) (shm := sh) (pre := []) (r := .kvs m) hp (by simp)
        (by simp [curEvents, hp]) (List.append_nil _).symm
        (Or.inl ⟨rfl, rfl⟩) (fun _ => rfl)
      rw [h] at this
      exact this
    | enter =>
      simp only at h
      by_cases hl : sh.lock = true
      · simp [hl] at h
      · simp only [hl] at h
        cases hw : writeBody .recheck op sh.map with
        | none => simp [hw] at h
        | some res =>
          obtain ⟨nm, out, cs⟩ := res
          simp only [hw] at h
          obtain ⟨rfl, rfl⟩ := h
          exact quiet_sum hp rfl rfl (by simp) (by simp) (writeBody_apply hw)
    | store nm out =>
      simp only [isAsIs_recheck, Bool.false_eq_true, if_false, Option.some.injEq] at h
      have hap : op.apply sh.map = (nm, out) := by simpa [TInv, hp] using hT
      have hr : out ≠ .panic := by have := apply_ne_panic op sh.map; rw [hap] at this; exact this
      have := complete_sum (sh := sh) (shm := linEv { sh with snap := some nm, lock := false } l op out)
        (pre := [.lin l.tid l.done.length op out]) hp hr (by simp [curEvents, hp]) rfl (Or.inr ⟨rfl, hap⟩)
        (fun hst => by simp [Local.isStore, hp] at hst)
      rw [h] at this
      exact this
    | load2 => simp [TInv, hp] at hT
    | load2Lock => simp [TInv, hp] at hT

end FpVerif.Cow
