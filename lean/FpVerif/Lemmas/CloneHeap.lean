import FpVerif.Model.CloneHeap
/-!
Lemmas for C18: `Shape` (the case analysis that `WT` allows); locality (`local_eq`) and `reach_lt`, of which `mono` is a
corollary; `Copy`, the invariant of `clone`, with one step lemma per combinator from which `Spec/C18.clone_ok` is assembled.
-/
namespace FpVerif.CloneHeap

/-- pointwise relation of two lists (core has no `List.Forall₂`) -/
inductive All2 {α β : Type} (P : α → β → Prop) : List α → List β → Prop
  | nil : All2 P [] []
  | cons {a b l1 l2} : P a b → All2 P l1 l2 → All2 P (a :: l1) (b :: l2)

namespace All2
variable {α β γ : Type} {P Q : α → β → Prop} {l1 : List α} {l2 : List β}

theorem imp (hpq : ∀ a b, P a b → Q a b) (hf : All2 P l1 l2) : All2 Q l1 l2 := by
  induction hf with
  | nil => exact .nil
  | cons h _ ih => exact .cons (hpq _ _ h) ih

theorem length_eq (hf : All2 P l1 l2) : l1.length = l2.length := by
  induction hf with
  | nil => rfl
  | cons _ _ ih => exact congrArg Nat.succ ih

theorem forall_right {Q : β → Prop} (hf : All2 P l1 l2) (hpq : ∀ a b, P a b → Q b) : ∀ b ∈ l2, Q b := by
  induction hf with
  | nil => exact fun _ hb => nomatch hb
  | cons h _ ih => exact List.forall_mem_cons.mpr ⟨hpq _ _ h, ih⟩

theorem map_eq {f : α → γ} {g : β → γ} (hf : All2 P l1 l2) (hpq : ∀ a b, P a b → g b = f a) :
    l2.map g = l1.map f := by
  induction hf with
  | nil => rfl
  | cons h _ ih => exact congr (congrArg List.cons (hpq _ _ h)) ih

end All2

/-- the well-formed values, one rule per line of `WT`; `cases` on it yields the values of the type at hand only -/
inductive Shape (h : Heap) : Ty → Val → Prop
  | int (n : Int) : Shape h .int (.int n)
  | nilptr {t : Ty} : Shape h (.ptr t) .nilptr
  | ptr {t : Ty} {a : Nat} {w : Val} : h[a]? = some (.box w) → WT t h w → Shape h (.ptr t) (.ptr a)
  | nilslice {t : Ty} : Shape h (.slice t) .nilslice
  | slice {t : Ty} {a len : Nat} {vs : List Val} : h[a]? = some (.arr vs) → len ≤ vs.length →
      (∀ v ∈ vs.take len, WT t h v) → Shape h (.slice t) (.slice a len)
  | nilmap {k t : Ty} : Shape h (.map k t) .nilmap
  | map {k t : Ty} {a : Nat} {kvs : List (Val × Val)} : h[a]? = some (.mp kvs) →
      (∀ kv ∈ kvs, WT k h kv.1 ∧ WT t h kv.2) → Shape h (.map k t) (.map a)
  | none {t : Ty} : Shape h (.option t) .none
  | some {t : Ty} {v : Val} : WT t h v → Shape h (.option t) (.some v)
  | unit : Shape h .unit .unit
  | pair {ta tb : Ty} {a b : Val} : WT ta h a → WT tb h b → Shape h (.pair ta tb) (.pair a b)

variable {t k ta tb : Ty} {h h' h0 h1 h2 : Heap} {a len n : Nat} {v w b : Val} {tr tra trb : Tree}
  {vs : List Val} {kvs : List (Val × Val)} {c : Cell}

-- `fun_cases WT` and `fun_induction WT` number their cases as the lines of `WT`: 3 a pointer, 5 a slice, 7 a map, 9 `some`,
-- 11 a pair; 1, 2, 4, 6, 8 and 10 are the values that hold no cell, 12 is a value of the wrong type.
theorem WT.shape : WT t h v → Shape h t v := by
  fun_cases WT t h v with
  | case1 h n => exact fun _ => .int n
  | case2 => exact fun _ => .nilptr
  | case3 => exact fun ⟨_, hc, hw⟩ => .ptr hc hw
  | case4 => exact fun _ => .nilslice
  | case5 => exact fun ⟨_, hc, hl, hall⟩ => .slice hc hl hall
  | case6 => exact fun _ => .nilmap
  | case7 => exact fun ⟨_, hc, hall⟩ => .map hc hall
  | case8 => exact fun _ => .none
  | case9 => exact .some
  | case10 => exact fun _ => .unit
  | case11 => exact fun hw => .pair hw.1 hw.2
  | case12 => exact False.elim

theorem get_lt (hc : h[a]? = some c) : a < h.length :=
  (List.getElem?_eq_some_iff.mp hc).1

theorem get_append (ext : Heap) (hc : h[a]? = some c) : (h ++ ext)[a]? = some c :=
  (List.getElem?_append_left (get_lt hc)).trans hc

theorem view_ptr (hc : h[a]? = some (.box w)) : view (.ptr t) h (.ptr a) = .ptr (view t h w) := by
  -- only the left side is to be unfolded, the right one mentions `view` as well
  conv => lhs; unfold view
  rw [hc]

theorem reach_ptr (hc : h[a]? = some (.box w)) : reach (.ptr t) h (.ptr a) = a :: reach t h w := by
  conv => lhs; unfold reach
  rw [hc]

theorem view_slice (hc : h[a]? = some (.arr vs)) :
    view (.slice t) h (.slice a len) = .seq ((vs.take len).map (view t h)) := by
  conv => lhs; unfold view
  rw [hc]

theorem reach_slice (hc : h[a]? = some (.arr vs)) :
    reach (.slice t) h (.slice a len) = a :: ((vs.take len).map (reach t h)).flatten := by
  conv => lhs; unfold reach
  rw [hc]

theorem view_map (hc : h[a]? = some (.mp kvs)) :
    view (.map k t) h (.map a) = .map (kvs.map fun kv => (view k h kv.1, view t h kv.2)) := by
  conv => lhs; unfold view
  rw [hc]

theorem reach_map (hc : h[a]? = some (.mp kvs)) :
    reach (.map k t) h (.map a) = a :: (kvs.map fun kv => reach k h kv.1 ++ reach t h kv.2).flatten := by
  conv => lhs; unfold reach
  rw [hc]

theorem forall_mem_flatten_map {α β : Type} {f : α → List β} {l : List α} {P : β → Prop} :
    (∀ x ∈ (l.map f).flatten, P x) ↔ ∀ y ∈ l, ∀ x ∈ f y, P x :=
  List.forall_mem_flatten.trans List.forall_mem_map

theorem reach_lt : WT t h v → ∀ x ∈ reach t h v, x < h.length := by
  fun_induction WT t h v with
  | case1 | case2 | case4 | case6 | case8 | case10 => exact fun _ _ hx => nomatch hx
  | case3 t h a ih =>
    rintro ⟨w, hc, hw⟩
    rw [reach_ptr hc]
    exact List.forall_mem_cons.mpr ⟨get_lt hc, ih w hw⟩
  | case5 t h a len ih =>
    rintro ⟨vs, hc, -, hall⟩
    rw [reach_slice hc]
    exact List.forall_mem_cons.mpr ⟨get_lt hc, forall_mem_flatten_map.mpr fun v hv => ih v (hall v hv)⟩
  | case7 k t h a ihk iht =>
    rintro ⟨kvs, hc, hall⟩
    rw [reach_map hc]
    exact List.forall_mem_cons.mpr ⟨get_lt hc, forall_mem_flatten_map.mpr fun kv hkv =>
      List.forall_mem_append.mpr ⟨ihk kv (hall kv hkv).1, iht kv (hall kv hkv).2⟩⟩
  | case9 t h v ih => exact ih
  | case11 ta tb h a b iha ihb => exact fun hw => List.forall_mem_append.mpr ⟨iha hw.1, ihb hw.2⟩
  | case12 => exact False.elim

theorem local_eq : WT t h1 v → (∀ x ∈ reach t h1 v, h2[x]? = h1[x]?) →
    view t h2 v = view t h1 v ∧ reach t h2 v = reach t h1 v ∧ WT t h2 v := by
  fun_induction WT t h1 v with
  | case1 | case2 | case4 | case6 | case8 | case10 => exact fun _ _ => ⟨rfl, rfl, trivial⟩
  | case3 t h1 a ih =>
    rintro ⟨w, hc, hw⟩ hag
    rw [reach_ptr hc, List.forall_mem_cons] at hag
    have hc2 := hag.1.trans hc
    obtain ⟨e1, e2, e3⟩ := ih w hw hag.2
    rw [view_ptr hc, view_ptr hc2, reach_ptr hc, reach_ptr hc2, e1, e2]
    exact ⟨rfl, rfl, w, hc2, e3⟩
  | case5 t h1 a len ih =>
    rintro ⟨vs, hc, hl, hall⟩ hag
    rw [reach_slice hc, List.forall_mem_cons, forall_mem_flatten_map] at hag
    have hc2 := hag.1.trans hc
    have hel := fun v hv => ih v (hall v hv) (hag.2 v hv)
    rw [view_slice hc, view_slice hc2, reach_slice hc, reach_slice hc2,
      List.map_congr_left fun v hv => (hel v hv).1, List.map_congr_left fun v hv => (hel v hv).2.1]
    exact ⟨rfl, rfl, vs, hc2, hl, fun v hv => (hel v hv).2.2⟩
  | case7 k t h1 a ihk iht =>
    rintro ⟨kvs, hc, hall⟩ hag
    rw [reach_map hc, List.forall_mem_cons, forall_mem_flatten_map] at hag
    have hc2 := hag.1.trans hc
    have hk := fun kv hkv => ihk kv (hall kv hkv).1 (List.forall_mem_append.mp (hag.2 kv hkv)).1
    have ht := fun kv hkv => iht kv (hall kv hkv).2 (List.forall_mem_append.mp (hag.2 kv hkv)).2
    rw [view_map hc, view_map hc2, reach_map hc, reach_map hc2]
    refine ⟨congrArg Tree.map (List.map_congr_left fun kv hkv => ?_),
      congrArg (a :: List.flatten ·) (List.map_congr_left fun kv hkv => ?_),
      kvs, hc2, fun kv hkv => ⟨(hk kv hkv).2.2, (ht kv hkv).2.2⟩⟩
    · rw [(hk kv hkv).1, (ht kv hkv).1]
    · rw [(hk kv hkv).2.1, (ht kv hkv).2.1]
  | case9 t h1 v ih => exact fun hw hag => (ih hw hag).imp (congrArg Tree.some) id
  | case11 ta tb h1 a b iha ihb =>
    intro hw hag
    have hag := List.forall_mem_append.mp hag
    obtain ⟨a1, a2, a3⟩ := iha hw.1 hag.1
    obtain ⟨b1, b2, b3⟩ := ihb hw.2 hag.2
    exact ⟨show Tree.pair _ _ = Tree.pair _ _ by rw [a1, b1], show _ ++ _ = _ ++ _ by rw [a2, b2], a3, b3⟩
  | case12 => exact False.elim

theorem WT.mono (hw : WT t h v) (p : h <+: h') :
    view t h' v = view t h v ∧ reach t h' v = reach t h v ∧ WT t h' v := by
  obtain ⟨ext, rfl⟩ := p
  exact local_eq hw fun x hx => List.getElem?_append_left (reach_lt hw x hx)

/-- The invariant of `clone`: in `h`, `v` is a well-formed `t` that reads as `tr` and reaches no cell below `n`. -/
def Copy (t : Ty) (n : Nat) (tr : Tree) (h : Heap) (v : Val) : Prop :=
  WT t h v ∧ view t h v = tr ∧ ∀ x ∈ reach t h v, n ≤ x

theorem Copy.mono (p : h <+: h') (c : Copy t n tr h v) : Copy t n tr h' v := by
  obtain ⟨e1, e2, hw⟩ := c.1.mono p
  exact ⟨hw, e1.trans c.2.1, e2 ▸ c.2.2⟩

theorem Copy.ptr (hc : h[a]? = some (.box w)) (c : Copy t n tr h w) (hn : n ≤ a) :
    Copy (.ptr t) n (.ptr tr) h (.ptr a) := by
  refine ⟨⟨w, hc, c.1⟩, (view_ptr hc).trans (congrArg Tree.ptr c.2.1), ?_⟩
  rw [reach_ptr hc]
  exact List.forall_mem_cons.mpr ⟨hn, c.2.2⟩

theorem Copy.slice {trs : List Tree} (hc : h[a]? = some (.arr vs)) (hl : len ≤ vs.length)
    (c : All2 (Copy t n · h ·) trs (vs.take len)) (hn : n ≤ a) : Copy (.slice t) n (.seq trs) h (.slice a len) := by
  refine ⟨⟨vs, hc, hl, c.forall_right fun _ _ c => c.1⟩, ?_, ?_⟩
  · rw [view_slice hc, c.map_eq (f := id) fun _ _ c => c.2.1, List.map_id]
  · rw [reach_slice hc]
    exact List.forall_mem_cons.mpr ⟨hn, forall_mem_flatten_map.mpr (c.forall_right fun _ _ c => c.2.2)⟩

theorem Copy.map {trs : List (Tree × Tree)} (hc : h[a]? = some (.mp kvs))
    (c : All2 (fun tr kv => Copy k n tr.1 h kv.1 ∧ Copy t n tr.2 h kv.2) trs kvs) (hn : n ≤ a) :
    Copy (.map k t) n (.map trs) h (.map a) := by
  refine ⟨⟨kvs, hc, c.forall_right fun _ _ c => ⟨c.1.1, c.2.1⟩⟩, ?_, ?_⟩
  · rw [view_map hc, c.map_eq (f := id) fun _ _ c => Prod.ext c.1.2.1 c.2.2.1, List.map_id]
  · rw [reach_map hc]
    exact List.forall_mem_cons.mpr ⟨hn, forall_mem_flatten_map.mpr
      (c.forall_right fun _ _ c => List.forall_mem_append.mpr ⟨c.1.2.2, c.2.2.2⟩)⟩

theorem Copy.pair (ca : Copy ta n tra h v) (cb : Copy tb n trb h b) :
    Copy (.pair ta tb) n (.pair tra trb) h (.pair v b) :=
  ⟨⟨ca.1, cb.1⟩, congr (congrArg Tree.pair ca.2.1) cb.2.1, List.forall_mem_append.mpr ⟨ca.2.2, cb.2.2⟩⟩

/-- what `Clone` must achieve for one value: the heap only grows, the result is a well-formed value
    that reads like the original and reaches fresh cells only -/
structure StepOK (t : Ty) (f : Val → Heap → Val × Heap) (v : Val) (h : Heap) : Prop where
  ext : ∃ e, (f v h).2 = h ++ e
  wt : WT t (f v h).2 (f v h).1
  view : view t (f v h).2 (f v h).1 = view t h v
  fresh : ∀ a ∈ reach t (f v h).2 (f v h).1, h.length ≤ a

variable {f fk fv : Val → Heap → Val × Heap}

abbrev Clones (t : Ty) (f : Val → Heap → Val × Heap) : Prop :=
  ∀ v h, WT t h v → StepOK t f v h

theorem stepOK_iff : StepOK t f v h ↔ h <+: (f v h).2 ∧ Copy t h.length (view t h v) (f v h).2 (f v h).1 :=
  ⟨fun s => ⟨s.ext.imp fun _ => Eq.symm, s.wt, s.view, s.fresh⟩,
   fun ⟨p, c⟩ => ⟨p.imp fun _ => Eq.symm, c.1, c.2.1, c.2.2⟩⟩

/-- a step taken in a later heap `h` copies what was a value of `h0` -/
theorem Clones.later (hf : Clones t f) (p : h0 <+: h) (hw : WT t h0 v) :
    h <+: (f v h).2 ∧ Copy t h0.length (view t h0 v) (f v h).2 (f v h).1 := by
  obtain ⟨e, -, hw'⟩ := hw.mono p
  obtain ⟨q, c⟩ := stepOK_iff.mp (hf v h hw')
  exact ⟨q, c.1, c.2.1.trans e, fun x hx => Nat.le_trans p.length_le (c.2.2 x hx)⟩

theorem cloneList_ok (hf : Clones t f) :
    ∀ (vs : List Val) (h : Heap), h0 <+: h → (∀ v ∈ vs, WT t h0 v) →
      h <+: (cloneList f vs h).2 ∧
      All2 (Copy t h0.length · (cloneList f vs h).2 ·) (vs.map (view t h0)) (cloneList f vs h).1 := by
  intro vs
  induction vs with
  | nil => exact fun h _ _ => ⟨List.prefix_refl h, .nil⟩
  | cons v vs ih =>
    intro h p hall
    obtain ⟨p1, c1⟩ := hf.later p (hall v List.mem_cons_self)
    obtain ⟨p2, c2⟩ := ih _ (p.trans p1) fun w hw => hall w (List.mem_cons_of_mem v hw)
    exact ⟨p1.trans p2, .cons (c1.mono p2) c2⟩

theorem cloneEntries_ok (hfk : Clones k fk) (hfv : Clones t fv) :
    ∀ (kvs : List (Val × Val)) (h : Heap), h0 <+: h → (∀ kv ∈ kvs, WT k h0 kv.1 ∧ WT t h0 kv.2) →
      h <+: (cloneEntries fk fv kvs h).2 ∧
      All2 (fun tr kv => Copy k h0.length tr.1 (cloneEntries fk fv kvs h).2 kv.1 ∧
          Copy t h0.length tr.2 (cloneEntries fk fv kvs h).2 kv.2)
        (kvs.map fun kv => (view k h0 kv.1, view t h0 kv.2)) (cloneEntries fk fv kvs h).1 := by
  intro kvs
  induction kvs with
  | nil => exact fun h _ _ => ⟨List.prefix_refl h, .nil⟩
  | cons kv kvs ih =>
    intro h p hall
    obtain ⟨p1, c1⟩ := hfk.later p (hall kv List.mem_cons_self).1
    obtain ⟨p2, c2⟩ := hfv.later (p.trans p1) (hall kv List.mem_cons_self).2
    obtain ⟨p3, c3⟩ := ih _ (p.trans (p1.trans p2)) fun x hx => hall x (List.mem_cons_of_mem kv hx)
    exact ⟨p1.trans (p2.trans p3), .cons ⟨c1.mono (p2.trans p3), c2.mono p3⟩ c3⟩

variable {e i j : Inst}

theorem clone_ptr (hc : h[a]? = some (.box w)) :
    clone (.ptr e) (.ptr a) h = (.ptr (clone e w h).2.length, (clone e w h).2 ++ [.box (clone e w h).1]) := by
  conv => lhs; unfold clone
  rw [hc]

theorem clone_slice (hc : h[a]? = some (.arr vs)) :
    clone (.slice e) (.slice a len) h = (.slice (cloneList (clone e) (vs.take len) h).2.length len,
      (cloneList (clone e) (vs.take len) h).2 ++ [.arr (cloneList (clone e) (vs.take len) h).1]) := by
  conv => lhs; unfold clone
  rw [hc]

theorem clone_map (hc : h[a]? = some (.mp kvs)) :
    clone (.gomap i j) (.map a) h = (.map (cloneEntries (clone i) (clone j) kvs h).2.length,
      (cloneEntries (clone i) (clone j) kvs h).2 ++ [.mp (cloneEntries (clone i) (clone j) kvs h).1]) := by
  conv => lhs; unfold clone
  rw [hc]

theorem clone_pair {b : Val} : clone (.pair i j) (.pair v b) h =
    (.pair (clone i v h).1 (clone j b (clone i v h).2).1, (clone j b (clone i v h).2).2) :=
  rfl

theorem clone_seq : clone (.seq e) = clone (.slice e) := by
  funext v h
  cases v <;> rfl

theorem stepOK_same (hf : f v h = (v, h)) (hw : WT t h v) (hr : reach t h v = []) : StepOK t f v h := by
  rw [stepOK_iff, hf]
  exact ⟨List.prefix_refl h, hw, rfl, fun x hx => nomatch hr ▸ hx⟩

theorem stepOK_ptr (ih : Clones e.ty (clone e)) (hw : WT (.ptr e.ty) h v) :
    StepOK (.ptr e.ty) (clone (.ptr e)) v h := by
  cases hw.shape with
  | nilptr => exact stepOK_same rfl hw rfl
  | @ptr _ a w hc hw' =>
    obtain ⟨p, c⟩ := ih.later (List.prefix_refl h) hw'
    have q := List.prefix_append (clone e w h).2 [.box (clone e w h).1]
    rw [stepOK_iff, clone_ptr hc, view_ptr hc]
    exact ⟨p.trans q, .ptr List.getElem?_concat_length (c.mono q) p.length_le⟩

theorem stepOK_slice (ih : Clones e.ty (clone e)) (hw : WT (.slice e.ty) h v) :
    StepOK (.slice e.ty) (clone (.slice e)) v h := by
  cases hw.shape with
  | nilslice =>
    exact stepOK_iff.mpr ⟨List.prefix_append h _,
      .slice List.getElem?_concat_length (Nat.zero_le _) .nil (Nat.le_refl _)⟩
  | @slice _ a len vs hc hl hall =>
    obtain ⟨p, c⟩ := cloneList_ok ih (vs.take len) h (List.prefix_refl h) hall
    rw [stepOK_iff, clone_slice hc, view_slice hc]
    generalize cloneList (clone e) (vs.take len) h = r at p c
    have q := List.prefix_append r.2 [.arr r.1]
    have hlen : len = r.1.length := by
      rw [← c.length_eq, List.length_map, List.length_take, Nat.min_eq_left hl]
    refine ⟨p.trans q, .slice List.getElem?_concat_length (Nat.le_of_eq hlen) ?_ p.length_le⟩
    rw [List.take_of_length_le (Nat.le_of_eq hlen.symm)]
    exact c.imp fun _ _ c => c.mono q

theorem stepOK_map (ihi : Clones i.ty (clone i)) (ihj : Clones j.ty (clone j)) (hw : WT (.map i.ty j.ty) h v) :
    StepOK (.map i.ty j.ty) (clone (.gomap i j)) v h := by
  cases hw.shape with
  | nilmap =>
    exact stepOK_iff.mpr ⟨List.prefix_append h _, .map List.getElem?_concat_length .nil (Nat.le_refl _)⟩
  | @map _ _ a kvs hc hall =>
    obtain ⟨p, c⟩ := cloneEntries_ok ihi ihj kvs h (List.prefix_refl h) hall
    rw [stepOK_iff, clone_map hc, view_map hc]
    generalize cloneEntries (clone i) (clone j) kvs h = r at p c
    have q := List.prefix_append r.2 [.mp r.1]
    exact ⟨p.trans q, .map List.getElem?_concat_length (c.imp fun _ _ c => ⟨c.1.mono q, c.2.mono q⟩) p.length_le⟩

theorem stepOK_option (ih : Clones e.ty (clone e)) (hw : WT (.option e.ty) h v) :
    StepOK (.option e.ty) (clone (.option e)) v h := by
  cases hw.shape with
  | none => exact stepOK_same rfl hw rfl
  | some hw' =>
    obtain ⟨p, c⟩ := stepOK_iff.mp (ih _ h hw')
    exact stepOK_iff.mpr ⟨p, c.1, congrArg Tree.some c.2.1, c.2.2⟩

theorem stepOK_pair (ihi : Clones i.ty (clone i)) (ihj : Clones j.ty (clone j)) (hw : WT (.pair i.ty j.ty) h v) :
    StepOK (.pair i.ty j.ty) (clone (.pair i j)) v h := by
  cases hw.shape with
  | pair ha hb =>
    obtain ⟨p1, c1⟩ := ihi.later (List.prefix_refl h) ha
    obtain ⟨p2, c2⟩ := ihj.later p1 hb
    exact stepOK_iff.mpr ⟨p1.trans p2, (c1.mono p2).pair c2⟩

end FpVerif.CloneHeap
