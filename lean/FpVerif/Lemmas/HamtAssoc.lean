import FpVerif.Lemmas.HamtWF
/-!
Association lists up to the hasher's `Eqv`: what `lookup` sees after an entry is inserted, replaced or
dropped and after a filter; same lookups give the same length (the same entries when `Eqv` is equality).
The array and collision nodes of the trie, the reference maps of the refinement theorems and the Go-map
fallback are all read through these lemmas.
-/
namespace FpVerif.Hamt
variable {K V : Type} {h : Hasher K}


theorem LawfulHash.eqv_congr_left (hl : LawfulHash h) {a b : K} (hab : h.eqv a b = true) (c : K) :
    h.eqv a c = h.eqv b c := by
  cases hbc : h.eqv b c with
  | true => exact hl.trans _ _ _ hab hbc
  | false =>
    cases hac : h.eqv a c with
    | false => rfl
    | true =>
      have := hl.trans _ _ _ (hl.symm _ _ hab) hac
      rw [hbc] at this; cases this

theorem LawfulHash.eqv_comm (hl : LawfulHash h) (a b : K) : h.eqv a b = h.eqv b a := by
  cases hab : h.eqv a b with
  | true => exact (hl.symm _ _ hab).symm
  | false =>
    cases hba : h.eqv b a with
    | false => rfl
    | true => have := hl.symm _ _ hba; rw [hab] at this; cases this

theorem LawfulHash.eqv_congr_right (hl : LawfulHash h) {a b : K} (hab : h.eqv a b = true) (c : K) :
    h.eqv c a = h.eqv c b := by
  rw [hl.eqv_comm c a, hl.eqv_comm c b]
  exact hl.eqv_congr_left hab c

theorem LawfulHash.ne_of_hash_ne (hl : LawfulHash h) {a b : K} (hne : h.hash a ≠ h.hash b) :
    h.eqv a b = false := by
  cases hab : h.eqv a b with
  | false => rfl
  | true => exact absurd (hl.hash_eq _ _ hab) hne


theorem lookup_absent (hl : LawfulHash h) {l : List (K × V)} {k : K} (hn : lookup h k l = none) (k' : K) :
    lookup h k' l = if h.eqv k k' then none else lookup h k' l := by
  cases hkk : h.eqv k k' with
  | false => rfl
  | true =>
    apply lookup_eq_none_iff.mpr
    intro e he
    rw [← hl.eqv_congr_right hkk]
    exact lookup_eq_none_iff.mp hn e he

/-- an entry with a new key goes in anywhere -/
theorem lookup_insert (hl : LawfulHash h) {l T D : List (K × V)} {k : K} (v : V) (hs : l = T ++ D)
    (hno : ∀ e ∈ l, h.eqv e.1 k = false) (k' : K) :
    lookup h k' (T ++ (k, v) :: D) = if h.eqv k k' then some v else lookup h k' l := by
  subst hs
  rw [lookup_append, lookup_append, lookup_cons]
  cases hkk : h.eqv k k' with
  | false => rfl
  | true =>
    have : lookup h k' T = none := lookup_eq_none_iff.mpr fun e he => by
      rw [← hl.eqv_congr_right hkk]
      exact hno e (List.mem_append_left _ he)
    rw [this]
    rfl

theorem distinct_insert (hl : LawfulHash h) {l T D : List (K × V)} {k : K} (v : V) (hs : l = T ++ D)
    (hd : DistinctKeys h l) (hno : ∀ e ∈ l, h.eqv e.1 k = false) : DistinctKeys h (T ++ (k, v) :: D) := by
  subst hs
  unfold DistinctKeys at *
  rw [List.pairwise_append] at hd ⊢
  refine ⟨hd.1, List.pairwise_cons.mpr ⟨fun a ha => ?_, hd.2.1⟩, fun a ha b hb => ?_⟩
  · rw [hl.eqv_comm]
    exact hno a (List.mem_append_right _ ha)
  · rcases List.mem_cons.mp hb with rfl | hb
    · exact hno a (List.mem_append_left _ ha)
    · exact hd.2.2 a ha b hb


theorem lookup_filter (q : K → Bool) (hq : ∀ k k', h.eqv k k' = true → q k = q k')
    (r : List (K × V)) (k' : K) :
    lookup h k' (r.filter (fun e => q e.1)) = if q k' then lookup h k' r else none := by
  induction r with
  | nil => exact (ite_self _).symm
  | cons a r ih =>
    rw [List.filter_cons, lookup_cons]
    cases hak : h.eqv a.1 k' with
    | true =>
      rw [← hq _ _ hak]
      cases hqa : q a.1 with
      | true => rw [if_pos rfl, lookup_cons, hak]; rfl
      | false => rw [if_neg Bool.false_ne_true, ih, ← hq _ _ hak, hqa]; rfl
    | false =>
      cases hqa : q a.1 with
      | true => rw [if_pos rfl, lookup_cons, hak, ih]; rfl
      | false => rw [if_neg Bool.false_ne_true, ih]; rfl

theorem distinct_filter {r : List (K × V)} (hd : DistinctKeys h r) (p : K × V → Bool) :
    DistinctKeys h (r.filter p) :=
  List.Pairwise.sublist List.filter_sublist hd

theorem not_eqv_of_mem_filter (r : List (K × V)) (k : K) :
    ∀ e ∈ r.filter (fun e => !h.eqv e.1 k), h.eqv e.1 k = false :=
  fun _ he => Eq.mp (Bool.not_eq_true' _) (List.mem_filter.mp he).2

theorem lookup_filter_ne (hl : LawfulHash h) (r : List (K × V)) (k k' : K) :
    lookup h k' (r.filter (fun e => !h.eqv e.1 k)) = if h.eqv k k' then none else lookup h k' r := by
  refine (lookup_filter (fun x => !h.eqv x k)
    (fun a b hab => congrArg (!·) (hl.eqv_congr_left hab k)) r k').trans ?_
  rw [hl.eqv_comm k' k]
  cases h.eqv k k' <;> rfl

theorem length_filter_ne (hl : LawfulHash h) {r : List (K × V)} (hd : DistinctKeys h r) (k : K) :
    (r.filter (fun e => !h.eqv e.1 k)).length + (if (lookup h k r).isSome then 1 else 0) = r.length := by
  induction r with
  | nil => rfl
  | cons a r ih =>
    obtain ⟨ha, hd⟩ := List.pairwise_cons.mp hd
    rw [lookup_cons]
    cases hak : h.eqv a.1 k with
    | true =>
      have hall : ∀ b ∈ r, (!h.eqv b.1 k) = true := by
        intro b hb
        rw [hl.eqv_comm, ← hl.eqv_congr_left hak, ha b hb]
        rfl
      rw [List.filter_cons_of_neg (by simp [hak]), List.filter_eq_self.mpr hall]
      rfl
    | false =>
      rw [List.filter_cons_of_pos (by simp [hak]), if_neg Bool.false_ne_true, List.length_cons,
        Nat.add_right_comm, ih hd]
      rfl


/-- the entry `indexOf` finds is the only one with a key `Eqv` to `k` -/
theorem erase_eq_filter (hl : LawfulHash h) {es : List (K × V)} {k : K} {i : Nat}
    (hd : DistinctKeys h es) (hi : indexOf h es k = some i) :
    es.take i ++ es.drop (i + 1) = es.filter (fun e => !h.eqv e.1 k) := by
  obtain ⟨e, -, hek, hsplit, hbefore⟩ := indexOf_some hi
  unfold DistinctKeys at hd
  rw [hsplit, List.pairwise_append, List.pairwise_cons] at hd
  have hT : (es.take i).filter (fun e => !h.eqv e.1 k) = es.take i :=
    List.filter_eq_self.mpr fun x hx => by rw [hbefore x hx]; rfl
  have hD : (es.drop (i + 1)).filter (fun e => !h.eqv e.1 k) = es.drop (i + 1) :=
    List.filter_eq_self.mpr fun x hx => by
      rw [hl.eqv_comm, ← hl.eqv_congr_left hek, hd.2.1.1 x hx]
      rfl
  conv => rhs; rw [hsplit, List.filter_append, List.filter_cons_of_neg (by simp [hek]), hT, hD]

theorem erase_spec (hl : LawfulHash h) {es : List (K × V)} {k : K} {i : Nat}
    (hd : DistinctKeys h es) (hi : indexOf h es k = some i) :
    (∀ k', lookup h k' (es.take i ++ es.drop (i + 1)) = if h.eqv k k' then none else lookup h k' es) ∧
    (es.take i ++ es.drop (i + 1)).length + 1 = es.length ∧
    DistinctKeys h (es.take i ++ es.drop (i + 1)) ∧ (lookup h k es).isSome = true ∧
    (∀ e ∈ es.take i ++ es.drop (i + 1), e ∈ es) := by
  obtain ⟨e, hei, hek, -⟩ := indexOf_some hi
  have hsome : (lookup h k es).isSome = true := lookup_isSome_iff.mpr ⟨e, List.mem_of_getElem? hei, hek⟩
  have hlen := length_filter_ne hl hd k
  rw [hsome, if_pos rfl] at hlen
  rw [erase_eq_filter hl hd hi]
  exact ⟨lookup_filter_ne hl es k, hlen, distinct_filter hd _, hsome, fun x hx => (List.mem_filter.mp hx).1⟩

theorem replace_spec (hl : LawfulHash h) {es : List (K × V)} {k : K} {v : V} {i : Nat}
    (hd : DistinctKeys h es) (hi : indexOf h es k = some i) :
    (∀ k', lookup h k' (es.set i (k, v)) = if h.eqv k k' then some v else lookup h k' es) ∧
    (es.set i (k, v)).length = es.length ∧ DistinctKeys h (es.set i (k, v)) ∧
    (lookup h k es).isSome = true ∧
    (∀ e ∈ es.set i (k, v), (∃ e0 ∈ es, e0.1 = e.1) ∨ e.1 = k) ∧
    (∀ e ∈ es.set i (k, v), e = (k, v) ∨ e ∈ es) := by
  obtain ⟨e, hei, hek, -⟩ := indexOf_some hi
  have hsome : (lookup h k es).isSome = true := lookup_isSome_iff.mpr ⟨e, List.mem_of_getElem? hei, hek⟩
  have hset : es.set i (k, v) = es.take i ++ (k, v) :: es.drop (i + 1) := by
    rw [List.set_eq_take_append_cons_drop, if_pos (List.getElem?_eq_some_iff.mp hei).1]
  -- the rest is the list without the key, so `(k, v)` is a new key there
  have hs := (erase_eq_filter hl hd hi).symm
  have hno := not_eqv_of_mem_filter (h := h) es k
  have hmem : ∀ x ∈ es.set i (k, v), x = (k, v) ∨ x ∈ es := fun x hx => (List.mem_or_eq_of_mem_set hx).symm
  refine ⟨fun k' => ?_, List.length_set, ?_, hsome, fun x hx => ?_, hmem⟩
  · rw [hset, lookup_insert hl v hs hno, lookup_filter_ne hl]
    cases h.eqv k k' <;> rfl
  · rw [hset]
    exact distinct_insert hl v hs (distinct_filter hd _) hno
  · rcases hmem x hx with rfl | hx
    · exact Or.inr rfl
    · exact Or.inl ⟨x, hx, rfl⟩


/-- same key set, same length: "Size = number of distinct keys" needs no bookkeeping -/
theorem length_eq_of_isSome_eq (hl : LawfulHash h) {W : Type} : ∀ {l : List (K × V)} {r : List (K × W)},
    DistinctKeys h l → DistinctKeys h r →
    (∀ k, (lookup h k l).isSome = (lookup h k r).isSome) → l.length = r.length := by
  intro l
  induction l with
  | nil =>
    intro r _ _ hlook
    cases r with
    | nil => rfl
    | cons e r =>
      have := hlook e.1
      rw [lookup_cons, hl.refl] at this
      simp [lookup_nil] at this
  | cons a l ih =>
    intro r hdl hdr hlook
    have hdl' := hdl
    unfold DistinctKeys at hdl'
    rw [List.pairwise_cons] at hdl'
    have hlen := length_filter_ne hl hdr a.1
    have hsome : (lookup h a.1 r).isSome = true := by
      rw [← hlook a.1, lookup_cons, hl.refl]; rfl
    rw [hsome] at hlen
    simp only [if_true] at hlen
    have hrec : l.length = (r.filter (fun e => !h.eqv e.1 a.1)).length := by
      apply ih hdl'.2 (distinct_filter hdr _)
      intro k
      rw [lookup_filter_ne hl]
      cases hak : h.eqv a.1 k with
      | true =>
        have : lookup h k l = none := by
          apply lookup_eq_none_iff.mpr
          intro b hb
          rw [← hl.eqv_congr_right hak, hl.eqv_comm]
          exact hdl'.1 b hb
        simp [this]
      | false =>
        have := hlook k
        rw [lookup_cons, hak] at this
        simpa using this
    simp only [List.length_cons]
    omega

theorem length_eq_of_lookup_eq (hl : LawfulHash h) {l r : List (K × V)}
    (hdl : DistinctKeys h l) (hdr : DistinctKeys h r) (hlook : ∀ k, lookup h k l = lookup h k r) :
    l.length = r.length :=
  length_eq_of_isSome_eq hl hdl hdr (fun k => by rw [hlook k])

theorem perm_of_lookup_eq (hl : LawfulHash h) (heq : ∀ a b, h.eqv a b = true ↔ a = b) {l r : List (K × V)}
    (hd1 : DistinctKeys h l) (hd2 : DistinctKeys h r) (hlook : ∀ k, lookup h k l = lookup h k r) :
    l.Perm r := by
  have nodup_of : ∀ {x : List (K × V)}, DistinctKeys h x → x.Nodup := by
    intro x hx
    apply List.Pairwise.imp _ hx
    intro a b hab hab'
    subst hab'
    rw [hl.refl] at hab; cases hab
  have mem_iff : ∀ {x : List (K × V)}, DistinctKeys h x → ∀ e, e ∈ x ↔ lookup h e.1 x = some e.2 := by
    intro x hx e
    constructor
    · intro he; exact lookup_of_mem hl hx he (hl.refl _)
    · intro hlk
      obtain ⟨e', he', hk, hv⟩ := lookup_eq_some hlk
      exact Prod.ext ((heq _ _).mp hk) hv ▸ he'
  rw [List.perm_ext_iff_of_nodup (nodup_of hd1) (nodup_of hd2)]
  intro e
  rw [mem_iff hd1, mem_iff hd2, hlook]


/-- reference `Updated` -/
def upd (h : Hasher K) (r : List (K × V)) (k : K) (v : V) : List (K × V) :=
  r.filter (fun e => !h.eqv e.1 k) ++ [(k, v)]

/-- reference `Removed(k...)` -/
def remAll (h : Hasher K) (r : List (K × V)) (ks : List K) : List (K × V) :=
  r.filter (fun e => !ks.any (fun k => h.eqv k e.1))

/-- effect of `Removed(key...)` on a lookup -/
def lookupRemoved (h : Hasher K) (ks : List K) (k' : K) (base : Option V) : Option V :=
  if ks.any (fun k => h.eqv k k') then none else base

/-- "last write wins" over a sequence of entries -/
def concatLookup (h : Hasher K) (l : List (K × V)) (k' : K) (base : Option V) : Option V :=
  l.foldl (fun acc e => if h.eqv e.1 k' then some e.2 else acc) base

theorem lookup_upd (hl : LawfulHash h) (r : List (K × V)) (k : K) (v : V) (k' : K) :
    lookup h k' (upd h r k v) = if h.eqv k k' then some v else lookup h k' r := by
  unfold upd
  rw [lookup_insert hl v (List.append_nil _).symm (not_eqv_of_mem_filter r k), lookup_filter_ne hl]
  cases h.eqv k k' <;> rfl

theorem distinct_upd (hl : LawfulHash h) {r : List (K × V)} (hd : DistinctKeys h r) (k : K) (v : V) :
    DistinctKeys h (upd h r k v) :=
  distinct_insert hl v (List.append_nil _).symm (distinct_filter hd _) (not_eqv_of_mem_filter r k)

theorem lookupRemoved_cons (h : Hasher K) (k : K) (ks : List K) (k' : K) (base : Option V) :
    lookupRemoved h (k :: ks) k' base = lookupRemoved h ks k' (if h.eqv k k' then none else base) := by
  unfold lookupRemoved
  rw [List.any_cons]
  cases h.eqv k k' with
  | true => simp
  | false => rfl

theorem lookup_remAll (hl : LawfulHash h) (r : List (K × V)) (ks : List K) (k' : K) :
    lookup h k' (remAll h r ks) = lookupRemoved h ks k' (lookup h k' r) := by
  unfold remAll lookupRemoved
  rw [lookup_filter (fun x => !ks.any (fun k => h.eqv k x))
    (fun a b hab => congrArg (fun f => !ks.any f) (funext (hl.eqv_congr_right hab)))]
  cases ks.any (fun k => h.eqv k k') <;> rfl

theorem distinct_remAll {r : List (K × V)} (hd : DistinctKeys h r) (ks : List K) :
    DistinctKeys h (remAll h r ks) := distinct_filter hd _

theorem lookup_foldl_upd (hl : LawfulHash h) (t : List (K × V)) : ∀ (r : List (K × V)) (k' : K),
    lookup h k' (t.foldl (fun r e => upd h r e.1 e.2) r) = concatLookup h t k' (lookup h k' r) := by
  induction t with
  | nil => intro r k'; rfl
  | cons e t ih =>
    intro r k'
    rw [List.foldl_cons, ih, lookup_upd hl]
    rfl

theorem distinct_foldl_upd (hl : LawfulHash h) (t : List (K × V)) : ∀ {r : List (K × V)}, DistinctKeys h r →
    DistinctKeys h (t.foldl (fun r e => upd h r e.1 e.2) r) := by
  induction t with
  | nil => intro r hd; exact hd
  | cons e t ih => intro r hd; exact ih (distinct_upd hl hd _ _)


def memL (h : Hasher K) (l : List K) (k : K) : Bool := l.any (fun e => h.eqv e k)

def DistinctL (h : Hasher K) (l : List K) : Prop := l.Pairwise (fun a b => h.eqv a b = false)

/-- as an association list, to reuse the `lookup` lemmas -/
def asPairs (l : List K) : List (K × Unit) := l.map (fun k => (k, ()))

theorem memL_map_fst {V : Type} (l : List (K × V)) (k : K) :
    memL h (l.map (·.1)) k = (lookup h k l).isSome := by
  rw [Bool.eq_iff_iff, lookup_isSome_iff]
  unfold memL
  simp only [List.any_eq_true, List.mem_map]
  constructor
  · rintro ⟨e, ⟨x, hx, rfl⟩, hk⟩; exact ⟨x, hx, hk⟩
  · rintro ⟨x, hx, hk⟩; exact ⟨x.1, ⟨x, hx, rfl⟩, hk⟩

theorem lookup_asPairs (l : List K) (k : K) : (lookup h k (asPairs l)).isSome = memL h l k := by
  rw [← memL_map_fst, asPairs, List.map_map]
  exact congrArg (memL h · k) (List.map_id l)

theorem distinct_asPairs {l : List K} : DistinctKeys h (asPairs l) ↔ DistinctL h l := by
  unfold DistinctKeys DistinctL asPairs
  rw [List.pairwise_map]

theorem length_eq_of_memL_eq (hl : LawfulHash h) {l r : List K} (hdl : DistinctL h l) (hdr : DistinctL h r)
    (hm : ∀ k, memL h l k = memL h r k) : l.length = r.length := by
  have := length_eq_of_isSome_eq hl (distinct_asPairs.mpr hdl) (distinct_asPairs.mpr hdr)
    (fun k => by rw [lookup_asPairs, lookup_asPairs, hm])
  simpa [asPairs] using this

theorem memL_nil (k : K) : memL h [] k = false := rfl

theorem memL_congr (hl : LawfulHash h) {k k' : K} (hkk : h.eqv k k' = true) (l : List K) :
    memL h l k = memL h l k' := by
  unfold memL; congr 1; funext e; exact hl.eqv_congr_right hkk e

theorem memL_eq_false {l : List K} {k : K} (hm : memL h l k = false) : ∀ e ∈ l, h.eqv e k = false :=
  fun e he => Bool.eq_false_iff.mpr (List.any_eq_false.mp hm e he)

theorem perm_of_memL_eq (hl : LawfulHash h) (heq : ∀ a b, h.eqv a b = true ↔ a = b) {l r : List K}
    (hd1 : DistinctL h l) (hd2 : DistinctL h r) (hm : ∀ k, memL h l k = memL h r k) : l.Perm r := by
  have hp := perm_of_lookup_eq hl heq (distinct_asPairs.mpr hd1) (distinct_asPairs.mpr hd2)
    (fun k => Option.ext fun u => by
      have := hm k
      rw [← lookup_asPairs, ← lookup_asPairs] at this
      revert this
      cases lookup h k (asPairs l) <;> cases lookup h k (asPairs r) <;> simp)
  simpa [asPairs, Function.comp_def] using hp.map (·.1)


/-- reference `Incl` -/
def inclL (h : Hasher K) (r : List K) (k : K) : List K := if memL h r k then r else r ++ [k]
/-- reference `Excl` -/
def exclL (h : Hasher K) (r : List K) (k : K) : List K := r.filter (fun e => !h.eqv e k)

theorem memL_inclL (hl : LawfulHash h) (r : List K) (k k' : K) :
    memL h (inclL h r k) k' = (h.eqv k k' || memL h r k') := by
  unfold inclL
  cases hm : memL h r k with
  | false => simp [memL, Bool.or_comm]
  | true =>
    simp only [if_true]
    cases hkk : h.eqv k k' with
    | false => simp
    | true => rw [← memL_congr hl hkk, hm]; rfl

theorem distinct_inclL {r : List K} (hd : DistinctL h r) (k : K) :
    DistinctL h (inclL h r k) := by
  unfold inclL
  cases hm : memL h r k with
  | true => exact hd
  | false =>
    simp only [Bool.false_eq_true, if_false]
    unfold DistinctL
    rw [List.pairwise_append]
    refine ⟨hd, by simp, ?_⟩
    intro a ha b hb
    simp at hb; subst hb
    exact memL_eq_false hm a ha

theorem memL_filter (r : List K) (q : K → Bool)
    (hq : ∀ k k', h.eqv k k' = true → q k = q k') (k' : K) :
    memL h (r.filter q) k' = (memL h r k' && q k') := by
  unfold memL
  rw [Bool.eq_iff_iff]
  simp only [List.any_eq_true, List.mem_filter, Bool.and_eq_true]
  constructor
  · rintro ⟨e, ⟨he, hqe⟩, hek⟩; exact ⟨⟨e, he, hek⟩, by rw [← hq _ _ hek]; exact hqe⟩
  · rintro ⟨⟨e, he, hek⟩, hqk⟩; exact ⟨e, ⟨he, by rw [hq _ _ hek]; exact hqk⟩, hek⟩

theorem memL_exclL (hl : LawfulHash h) (r : List K) (k k' : K) :
    memL h (exclL h r k) k' = (!h.eqv k k' && memL h r k') := by
  unfold exclL
  rw [memL_filter r (fun e => !h.eqv e k) (fun a b hab => by simp [hl.eqv_congr_left hab]),
    hl.eqv_comm k' k, Bool.and_comm]

theorem distinct_filterL {r : List K} (hd : DistinctL h r) (q : K → Bool) : DistinctL h (r.filter q) :=
  List.Pairwise.sublist List.filter_sublist hd

theorem memL_foldl_inclL (hl : LawfulHash h) (ks : List K) : ∀ (r : List K) (k' : K),
    memL h (ks.foldl (inclL h) r) k' = (memL h r k' || memL h ks k') := by
  induction ks with
  | nil => intro r k'; simp [memL_nil]
  | cons k ks ih =>
    intro r k'
    rw [List.foldl_cons, ih, memL_inclL hl, Bool.or_assoc, Bool.or_left_comm]
    rfl

theorem distinct_foldl_inclL (ks : List K) : ∀ {r : List K}, DistinctL h r →
    DistinctL h (ks.foldl (inclL h) r) := by
  induction ks with
  | nil => intro r hd; exact hd
  | cons k ks ih => intro r hd; exact ih (distinct_inclL hd k)

end FpVerif.Hamt
