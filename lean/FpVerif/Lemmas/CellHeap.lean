import FpVerif.Lemmas.MemoPanicSeq
/-!
# Heaps of memo cells: facts shared by `Lemmas/EvalPanic.lean` and `Lemmas/ListPanic.lean`

* `CellOK`: the ghost counter of a cell says "started once" exactly when the `Once` has fired;
* `ExtL`: how a list of cells may evolve — cells are only appended, a cell keeps its thunk, a cell whose `Once`
  has fired never changes again; `GrowL`: the special case in which cells were only appended (what evaluating an
  expression does), which also keeps `CellOK` of every cell;
* `good_attempt`: a recovered call moves the heap as the call does (`Good`, with its rules: `Lemmas/IM.lean`).
-/
namespace FpVerif.MemoPanic
open FpVerif.It

variable {T α β σ X : Type}

/-- started at most once, and exactly once iff the `Once` has fired -/
def CellOK (c : Cell T) : Prop := c.runs = if c.done then 1 else 0

theorem cellOK_fresh (zero : T) : CellOK (Cell.fresh zero) := rfl

/-- `CellOK` in the form the statements of `Spec/C16PanicEval` (`evalp_run_once`, `listp_run_once`) have -/
theorem runs_of_cellOK {c : Cell T} (hc : CellOK c) : c.runs ≤ 1 ∧ (c.runs = 1 ↔ c.done = true) := by
  unfold CellOK at hc
  cases hd : c.done <;> simp [hd] at hc ⊢ <;> omega

theorem CellOK.runs_le_one {c : Cell T} (h : CellOK c) : c.runs ≤ 1 := (runs_of_cellOK h).1

/-- the first execution, whether it stores `r` or panics and leaves `r := c.ret` -/
theorem CellOK.fire {c : Cell T} (h : CellOK c) (hd : c.done = false) (r : T) :
    CellOK { done := true, ret := r, runs := c.runs + 1 } := by
  have hr : c.runs = 0 := by simpa [CellOK, hd] using h
  simp [CellOK, hr]

theorem get_cellOK (f : Nat → GoM T) (c : Cell T) (lg : Log) (h : CellOK c) : CellOK (get f c lg).2.1 := by
  unfold get
  cases hd : c.done with
  | true => simpa using h
  | false =>
    simp only [Bool.false_eq_true, if_false]
    rcases (f c.runs).run.run lg with ⟨r, lg'⟩
    cases r <;> exact h.fire hd _

theorem get_stable (f : Nat → GoM T) (c : Cell T) (lg : Log) (h : c.done = true) : (get f c lg).2.1 = c := by
  rw [get_of_done f c lg h]

theorem set_same {l : List α} {c : Nat} {a : α} (h : l[c]? = some a) : l.set c a = l := by
  obtain ⟨hc, rfl⟩ := List.getElem?_eq_some_iff.mp h
  exact List.set_getElem_self hc

/-- evolution of a list of cells: `key` = what never changes (the thunk), `done` = frozen from then on -/
def ExtL (key : α → β) (done : α → Bool) (l l' : List α) : Prop :=
  ∀ (c : Nat) (a : α), l[c]? = some a → ∃ a', l'[c]? = some a' ∧ key a' = key a ∧ (done a = true → a' = a)

theorem ExtL.refl (key : α → β) (done : α → Bool) (l : List α) : ExtL key done l l :=
  fun _ a h => ⟨a, h, rfl, fun _ => rfl⟩

theorem ExtL.trans {key : α → β} {done : α → Bool} {l1 l2 l3 : List α}
    (h12 : ExtL key done l1 l2) (h23 : ExtL key done l2 l3) : ExtL key done l1 l3 := by
  intro c a h
  obtain ⟨a2, h2, k2, d2⟩ := h12 c a h
  obtain ⟨a3, h3, k3, d3⟩ := h23 c a2 h2
  refine ⟨a3, h3, k3.trans k2, fun hd => ?_⟩
  have e2 := d2 hd
  subst e2
  exact d3 hd

theorem ExtL.append (key : α → β) (done : α → Bool) (l : List α) (x : α) : ExtL key done l (l ++ [x]) := by
  intro c a h
  refine ⟨a, ?_, rfl, fun _ => rfl⟩
  have hlt : c < l.length := (List.getElem?_eq_some_iff.mp h).1
  rw [List.getElem?_append_left hlt]; exact h

/-- overwriting cell `c` (currently `old`) by `new` with the same thunk; allowed to differ only if `old` was not done -/
theorem ExtL.set (key : α → β) (done : α → Bool) (l : List α) (c : Nat) (old new : α)
    (hold : l[c]? = some old) (hk : key new = key old) (hd : done old = true → new = old) :
    ExtL key done l (l.set c new) := by
  intro c' a h
  rw [List.getElem?_set]
  by_cases hc : c = c'
  · subst hc
    have hlt : c < l.length := (List.getElem?_eq_some_iff.mp h).1
    rw [hold] at h
    cases h
    exact ⟨new, by simp [hlt], hk, hd⟩
  · exact ⟨a, by simp [hc, h], rfl, fun _ => rfl⟩

/-- a cell whose `Once` has fired is found unchanged, at its index, in every later list -/
theorem ExtL.frozen {key : α → β} {done : α → Bool} {l l' : List α} (h : ExtL key done l l') {c : Nat} {a : α}
    (hc : l[c]? = some a) (hd : done a = true) : l'[c]? = some a := by
  obtain ⟨a', h1, _, h3⟩ := h c a hc
  rw [h1, h3 hd]

theorem ExtL.length_le {key : α → β} {done : α → Bool} {l l' : List α} (h : ExtL key done l l') :
    l.length ≤ l'.length := by
  cases hl : l.length with
  | zero => exact Nat.zero_le _
  | succ n =>
    have hn : n < l.length := by omega
    obtain ⟨a', ha', _, _⟩ := h n l[n] (List.getElem?_eq_getElem hn)
    have := (List.getElem?_eq_some_iff.mp ha').1
    omega

/-- the list of cells grew by cells that are `CellOK` (evaluating an expression only allocates) -/
def GrowL (cell : α → Cell T) (l l' : List α) : Prop := ∃ xs, l' = l ++ xs ∧ ∀ c ∈ xs, CellOK (cell c)

theorem GrowL.refl (cell : α → Cell T) (l : List α) : GrowL cell l l := ⟨[], by simp, by simp⟩

theorem GrowL.trans {cell : α → Cell T} {a b c : List α} (h1 : GrowL cell a b) (h2 : GrowL cell b c) :
    GrowL cell a c := by
  obtain ⟨xs, e1, o1⟩ := h1
  obtain ⟨ys, e2, o2⟩ := h2
  exact ⟨xs ++ ys, by rw [e2, e1, List.append_assoc], List.forall_mem_append.mpr ⟨o1, o2⟩⟩

theorem GrowL.snoc (cell : α → Cell T) (l : List α) {x : α} (hx : CellOK (cell x)) : GrowL cell l (l ++ [x]) :=
  ⟨[x], rfl, by simpa using hx⟩

/-- a cell stays at its index -/
theorem GrowL.getElem? {cell : α → Cell T} {l l' : List α} (h : GrowL cell l l') {c : Nat} {a : α}
    (hc : l[c]? = some a) : l'[c]? = some a := by
  obtain ⟨xs, e, _⟩ := h
  rw [e, List.getElem?_append_left (List.getElem?_eq_some_iff.mp hc).1]; exact hc

theorem GrowL.extL {cell : α → Cell T} {l l' : List α} (h : GrowL cell l l') (key : α → β) (done : α → Bool) :
    ExtL key done l l' := fun _ a hc => ⟨a, h.getElem? hc, rfl, fun _ => rfl⟩

theorem GrowL.ok {cell : α → Cell T} {l l' : List α} (h : GrowL cell l l') (hl : ∀ c ∈ l, CellOK (cell c)) :
    ∀ c ∈ l', CellOK (cell c) := by
  obtain ⟨xs, e, o⟩ := h
  rw [e]; exact List.forall_mem_append.mpr ⟨hl, o⟩

theorem good_attempt {R : σ → σ → Prop} {m : IM σ X} (hm : Good R m) : Good R (attempt m) := fun s lg => hm s lg

end FpVerif.MemoPanic
