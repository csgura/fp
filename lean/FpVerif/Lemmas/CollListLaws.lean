import FpVerif.Spec.C12List
/-!
# C01 for the lazy memoised `fp.List`: the monad laws of `list.FlatMap` / `list.Of` for the C12 heap evaluator
# `LL.eval` (`Model/LazyList.lean`, not `Model/CollList.lean`: that one is `Lemmas/CollListDen`), as statements
# about what the REAL traversal of the heap model returns

`Model/LazyList.lean` runs `list.FlatMap`, `list.Map`, `list.Of` … closure by closure over a heap of
`sync.Once` cells; `Spec/C12List.lean` (`eval_toSeq_eq`) proves that for every pure expression `e`
the traversal `list.ToSeq(eval e)` returns `e.denote x`, every memo cell started at most once.
Here the monad laws are derived from it: for each law, both sides

* denote the same plain list (an equation between `LExpr.denote`s), and
* the library calls (`LL.eval`) followed by the traversal loop (`LL.toSeq`) SUCCEED on the heap model —
  no panic, no `sync.Once` re-entrance, no fuel exhaustion, for every fuel above the bound of
  `eval_toSeq_eq` — and return exactly that list, with `maxEvals ≤ 1`.

The unit `x ↦ list.Of(x)` is the expression `.argOf 1`; `argOf` rebuilds its element as
`Val.int x.asInt`, so the laws in which the unit is applied to the ELEMENTS of a list (right
identity, `Map = FlatMap ∘ unit`) are stated for lists of ints.  `Returns e x xs` below is only an
abbreviation (`returns_iff` unfolds it); `Spec/C01Coll` states every law with the run written out.
-/
namespace FpVerif.CollList
open FpVerif.It FpVerif.LL FpVerif.Spec.C12List

/-- "the traversal of `e` (outer argument `x`) returns `xs`": for every fuel above the bound of
    `eval_toSeq_eq` and every start log, from the EMPTY heap, the library calls return a list value
    and the `ToSeq` loop over it returns `xs`; afterwards every memo cell has been started at most
    once. -/
def Returns (e : LExpr) (x : Val) (xs : List Val) : Prop :=
  ∀ (fuel : Nat), e.bnd x + xs.length < fuel → ∀ (lg : Log),
    ∃ l hp lg1 hp' lg', LL.eval fuel e x {} lg = (.ok l, hp, lg1) ∧
      LL.toSeq fuel l [] hp lg1 = (.ok xs, hp', lg') ∧ hp'.maxEvals ≤ 1

theorem returns_iff (e : LExpr) (x : Val) (xs : List Val) :
    Returns e x xs ↔ ∀ (fuel : Nat), e.bnd x + xs.length < fuel → ∀ (lg : Log),
      ∃ l hp lg1 hp' lg', LL.eval fuel e x {} lg = (.ok l, hp, lg1) ∧
        LL.toSeq fuel l [] hp lg1 = (.ok xs, hp', lg') ∧ hp'.maxEvals ≤ 1 := Iff.rfl

/-- a pure expression returns its denotation (`eval_toSeq_eq`) -/
theorem returns_denote (e : LExpr) (x : Val) (hpure : e.Pure) : Returns e x (e.denote x) :=
  fun fuel hfuel lg => eval_toSeq_eq e x hpure fuel hfuel lg

/-- … hence any list its denotation is equal to -/
theorem returns_of_denote_eq (e : LExpr) (x : Val) (hpure : e.Pure) (xs : List Val) (h : e.denote x = xs) :
    Returns e x xs := h ▸ returns_denote e x hpure

/-- the traversal is deterministic: it returns one list only -/
theorem Returns.unique {e : LExpr} {x : Val} {xs ys : List Val} (h1 : Returns e x xs) (h2 : Returns e x ys) :
    xs = ys := by
  obtain ⟨l, hp, lg1, hp', lg', he, ht, _⟩ := h1 (e.bnd x + xs.length + ys.length + 1) (by omega) []
  obtain ⟨l2, hp2, lg2, hp2', lg2', he2, ht2, _⟩ := h2 (e.bnd x + xs.length + ys.length + 1) (by omega) []
  rw [he] at he2
  injection he2 with h1 h2
  injection h1 with h1
  injection h2 with h2 h3
  subst h1 h2 h3
  rw [ht] at ht2
  injection ht2 with h1 _
  injection h1

/-! ## the unit -/

/-- `list.Of(x)` (for an integer `x`) denotes the one-element list -/
theorem unit_denote (y : Val) : (LExpr.argOf 1).denote y = [.int y.asInt] := by
  simp [LExpr.denote, List.range_succ]

theorem unit_denote_int (n : Int) : (LExpr.argOf 1).denote (.int n) = [.int n] := by
  rw [unit_denote]; rfl

theorem asInt_of_int {v : Val} (h : ∃ n, v = .int n) : Val.int v.asInt = v := by
  obtain ⟨n, rfl⟩ := h; rfl

theorem flatMap_unit_ints (ys : List Val) (h : ∀ v ∈ ys, ∃ n, v = .int n) :
    ys.flatMap (fun y => (LExpr.argOf 1).denote y) = ys := by
  induction ys with
  | nil => rfl
  | cons y ys ih =>
    rw [List.flatMap_cons, unit_denote, asInt_of_int (h y (List.mem_cons_self ..)),
      ih (fun v hv => h v (List.mem_cons_of_mem _ hv))]
    rfl

/-! ## left identity: `FlatMap(Of(a), k) = k(a)` -/

theorem list_left_identity_denote (a : Val) (id : Int) (k : LExpr) (x : Val) :
    (LExpr.flatMap (.of [a]) id k).denote x = k.denote a := by
  simp [LExpr.denote]

/-- Left identity.  `list.FlatMap(list.Of(a), x ↦ k x)` denotes the list that `k` at `a` denotes, and
    the run on the heap model — the library calls, then the traversal loop — succeeds and returns
    exactly that list; every memo cell started at most once.  (`x` is the argument of an enclosing
    callback, irrelevant here.) -/
theorem list_left_identity (a : Val) (id : Int) (k : LExpr) (hk : k.Pure) (x : Val) :
    (LExpr.flatMap (.of [a]) id k).denote x = k.denote a ∧ Returns (.flatMap (.of [a]) id k) x (k.denote a) :=
  ⟨list_left_identity_denote a id k x,
   returns_of_denote_eq (.flatMap (.of [a]) id k) x ⟨trivial, hk⟩ _ (list_left_identity_denote a id k x)⟩

/-- … and running `k` at `a` directly returns the same list: the two programs of the law agree. -/
theorem list_left_identity_both (a : Val) (id : Int) (k : LExpr) (hk : k.Pure) (x : Val) :
    Returns (.flatMap (.of [a]) id k) x (k.denote a) ∧ Returns k a (k.denote a) :=
  ⟨(list_left_identity a id k hk x).2, returns_denote k a hk⟩

/-! ## right identity: `FlatMap(m, x ↦ Of(x)) = m` -/

theorem list_right_identity_denote (m : LExpr) (id : Int) (x : Val) (hint : ∀ v ∈ m.denote x, ∃ n, v = .int n) :
    (LExpr.flatMap m id (.argOf 1)).denote x = m.denote x := by
  show (m.denote x).flatMap (fun y => (LExpr.argOf 1).denote y) = m.denote x
  exact flatMap_unit_ints _ hint

/-- Right identity, for a list of ints (the unit `.argOf 1` = `list.Of(x)` rebuilds an int).
    `list.FlatMap(m, x ↦ list.Of(x))` denotes what `m` denotes, the run over the heap model returns
    it, and so does the run of `m` itself. -/
theorem list_right_identity (m : LExpr) (hm : m.Pure) (id : Int) (x : Val)
    (hint : ∀ v ∈ m.denote x, ∃ n, v = .int n) :
    (LExpr.flatMap m id (.argOf 1)).denote x = m.denote x ∧
    Returns (.flatMap m id (.argOf 1)) x (m.denote x) ∧ Returns m x (m.denote x) :=
  ⟨list_right_identity_denote m id x hint,
   returns_of_denote_eq (.flatMap m id (.argOf 1)) x ⟨hm, trivial⟩ _ (list_right_identity_denote m id x hint),
   returns_denote m x hm⟩

/-- ranges are lists of ints -/
theorem range_ints (closed : Bool) (a b : Int) (x : Val) :
    ∀ v ∈ (LExpr.range closed a b).denote x, ∃ n, v = .int n := by
  intro v hv
  simp only [LExpr.denote, List.mem_map] at hv
  obtain ⟨i, _, rfl⟩ := hv
  exact ⟨_, rfl⟩

/-- non-vacuity: `FlatMap(Range(0, 3), x ↦ Of(x))` returns `[0, 1, 2]` -/
example (x : Val) : Returns (.flatMap (.range false 0 3) 5 (.argOf 1)) x [.int 0, .int 1, .int 2] := by
  have h := (list_right_identity (.range false 0 3) trivial 5 x (range_ints false 0 3 x)).2.1
  have e : (LExpr.range false 0 3).denote x = [.int 0, .int 1, .int 2] := by
    simp [LExpr.denote, List.range_succ]
  rw [e] at h
  exact h

example (x : Val) : Returns (.flatMap (.of [.int 1, .int 2]) 5 (.argOf 1)) x [.int 1, .int 2] :=
  (list_right_identity (.of [.int 1, .int 2]) trivial 5 x (by
    intro v hv
    simp only [LExpr.denote, List.mem_cons, List.not_mem_nil, or_false] at hv
    rcases hv with rfl | rfl <;> exact ⟨_, rfl⟩)).2.1

/-- the hypothesis cannot be dropped: on a non-int the unit `.argOf 1` is not the identity. -/
example : (LExpr.flatMap (.of [.str "a"]) 0 (.argOf 1)).denote (.int 0) ≠ (LExpr.of [.str "a"]).denote (.int 0) := by
  simp [LExpr.denote, List.range_succ, Val.asInt]

/-! ## associativity: `FlatMap(FlatMap(m, f), g) = FlatMap(m, x ↦ FlatMap(f x, g))` -/

theorem list_assoc_denote_left (m f g : LExpr) (i j : Int) (x : Val) :
    (LExpr.flatMap (.flatMap m i f) j g).denote x =
      ((m.denote x).flatMap (f.denote ·)).flatMap (g.denote ·) := rfl

theorem list_assoc_denote_right (m f g : LExpr) (i j : Int) (x : Val) :
    (LExpr.flatMap m i (.flatMap f j g)).denote x =
      ((m.denote x).flatMap (f.denote ·)).flatMap (g.denote ·) := by
  show (m.denote x).flatMap (fun y => (f.denote y).flatMap (fun z => g.denote z)) = _
  exact List.flatMap_assoc.symm

/-- Associativity.  Both nestings denote `(m >>= f) >>= g`, and BOTH runs over the heap model succeed
    and return it (each with its own fuel bound, the one of `eval_toSeq_eq`), every memo cell started
    at most once. -/
theorem list_assoc (m f g : LExpr) (hm : m.Pure) (hf : f.Pure) (hg : g.Pure) (i j : Int) (x : Val) :
    (LExpr.flatMap (.flatMap m i f) j g).denote x = ((m.denote x).flatMap (f.denote ·)).flatMap (g.denote ·) ∧
    (LExpr.flatMap m i (.flatMap f j g)).denote x = ((m.denote x).flatMap (f.denote ·)).flatMap (g.denote ·) ∧
    Returns (.flatMap (.flatMap m i f) j g) x (((m.denote x).flatMap (f.denote ·)).flatMap (g.denote ·)) ∧
    Returns (.flatMap m i (.flatMap f j g)) x (((m.denote x).flatMap (f.denote ·)).flatMap (g.denote ·)) :=
  ⟨list_assoc_denote_left m f g i j x, list_assoc_denote_right m f g i j x,
   returns_of_denote_eq (.flatMap (.flatMap m i f) j g) x ⟨⟨hm, hf⟩, hg⟩ _ (list_assoc_denote_left m f g i j x),
   returns_of_denote_eq (.flatMap m i (.flatMap f j g)) x ⟨hm, hf, hg⟩ _ (list_assoc_denote_right m f g i j x)⟩

/-! ## `Map(m, f) = FlatMap(m, unit ∘ f)` — up to `Map(Of(x), f) = Of(f x)`

`LExpr` has no constructor for `list.Of(f x)` with a callback `f`; the closest continuation is
`.map (.argOf 1) f` = `x ↦ list.Map(list.Of(x), f)`.  What is proved is therefore
`Map(m, f) = FlatMap(m, x ↦ Map(Of(x), f))` (denotation and both runs), i.e. the law
`Map(m, f) = FlatMap(m, x ↦ Of(f x))` up to the identity `Map(Of(x), f) = Of(f x)`, which is proved
separately at the denotation level (`map_unit_denote`).

    -- full statement, not expressible in `LExpr` (no `Of(f x)` node):
    -- theorem list_map_eq_flatMap_unit : Map(m, f) and FlatMap(m, x ↦ Of(f x)) return the same list
-/

/-- `Map(Of(x), f)` denotes `Of(f x)` — the one-element list of the value `f` returns -/
theorem map_unit_denote (f : Val → GoM Val) (x : Val) :
    (LExpr.map (.argOf 1) f).denote x = [pure1 f (.int x.asInt)] := by
  show ((LExpr.argOf 1).denote x).map (pure1 f) = _
  rw [unit_denote]; rfl

theorem list_map_eq_flatMap_unit_denote (m : LExpr) (f : Val → GoM Val) (id : Int) (x : Val)
    (hint : ∀ v ∈ m.denote x, ∃ n, v = .int n) :
    (LExpr.flatMap m id (.map (.argOf 1) f)).denote x = (LExpr.map m f).denote x := by
  show (m.denote x).flatMap (fun y => (LExpr.map (.argOf 1) f).denote y) = (m.denote x).map (pure1 f)
  generalize m.denote x = ys at hint
  induction ys with
  | nil => rfl
  | cons y ys ih =>
    rw [List.flatMap_cons, map_unit_denote, asInt_of_int (hint y (List.mem_cons_self ..)),
      ih (fun v hv => hint v (List.mem_cons_of_mem _ hv))]
    rfl

/-- `Map(m, f) = FlatMap(m, x ↦ Map(Of(x), f))` for a list of ints and a callback that does not panic:
    same denotation `(m.denote x).map (pure1 f)`, and both runs over the heap model return it. -/
theorem list_map_eq_flatMap_unit_partial (m : LExpr) (hm : m.Pure) (f : Val → GoM Val) (hf : Total f (pure1 f))
    (id : Int) (x : Val) (hint : ∀ v ∈ m.denote x, ∃ n, v = .int n) :
    (LExpr.map m f).denote x = (m.denote x).map (pure1 f) ∧
    (LExpr.flatMap m id (.map (.argOf 1) f)).denote x = (m.denote x).map (pure1 f) ∧
    Returns (.map m f) x ((m.denote x).map (pure1 f)) ∧
    Returns (.flatMap m id (.map (.argOf 1) f)) x ((m.denote x).map (pure1 f)) :=
  ⟨rfl, list_map_eq_flatMap_unit_denote m f id x hint,
   returns_of_denote_eq (.map m f) x ⟨hm, hf⟩ _ rfl,
   returns_of_denote_eq (.flatMap m id (.map (.argOf 1) f)) x ⟨hm, trivial, hf⟩ _ (list_map_eq_flatMap_unit_denote m f id x hint)⟩

/-! ## the hypotheses are satisfiable: concrete instances -/

/-- the logging callback used below does not panic -/
theorem logging_total : Total (fun v => (do emit "m"; pure v : GoM Val)) (pure1 (fun v => (do emit "m"; pure v : GoM Val))) :=
  Total.pure1 (total_emit (fun _ => "m") id)

/-- left identity at `k = x ↦ Of(x, x+1)`, `a = 7`: the run returns `[7, 8]` -/
example (x : Val) : Returns (.flatMap (.of [.int 7]) 1 (.argOf 2)) x [.int 7, .int 8] := by
  have h := (list_left_identity (.int 7) 1 (.argOf 2) trivial x).2
  have e : (LExpr.argOf 2).denote (.int 7) = [.int 7, .int 8] := by
    simp [LExpr.denote, List.range_succ, Val.asInt]
  rw [e] at h
  exact h

/-- left identity at a logging `k = x ↦ Map(Of(x, x+1), v ↦ {log m; v})` -/
example (x : Val) : Returns (.flatMap (.of [.int 7]) 1 (.map (.argOf 2) (fun v => do emit "m"; pure v))) x
    ((LExpr.map (.argOf 2) (fun v => do emit "m"; pure v)).denote (.int 7)) :=
  (list_left_identity (.int 7) 1 (.map (.argOf 2) (fun v => do emit "m"; pure v)) ⟨trivial, logging_total⟩ x).2

/-- associativity at `m = Range(0, 3)`, `f = x ↦ Of(x, x+1)`, `g = x ↦ Map(Of(x), v ↦ {log m; v})`:
    both nestings return the same list -/
example (x : Val) :
    ∃ xs, Returns (.flatMap (.flatMap (.range false 0 3) 1 (.argOf 2)) 2 (.map (.argOf 1) (fun v => do emit "m"; pure v))) x xs ∧
      Returns (.flatMap (.range false 0 3) 1 (.flatMap (.argOf 2) 2 (.map (.argOf 1) (fun v => do emit "m"; pure v)))) x xs := by
  obtain ⟨_, _, r1, r2⟩ := list_assoc (.range false 0 3) (.argOf 2)
    (.map (.argOf 1) (fun v => do emit "m"; pure v)) trivial trivial ⟨trivial, logging_total⟩ 1 2 x
  exact ⟨_, r1, r2⟩

/-- `Map = FlatMap ∘ unit` (partial form) at `m = Range(0, 3)` and the logging callback -/
example (x : Val) :
    Returns (.map (.range false 0 3) (fun v => do emit "m"; pure v)) x
      (((LExpr.range false 0 3).denote x).map (pure1 (fun v => (do emit "m"; pure v : GoM Val)))) ∧
    Returns (.flatMap (.range false 0 3) 9 (.map (.argOf 1) (fun v => do emit "m"; pure v))) x
      (((LExpr.range false 0 3).denote x).map (pure1 (fun v => (do emit "m"; pure v : GoM Val)))) := by
  obtain ⟨_, _, r1, r2⟩ := list_map_eq_flatMap_unit_partial (.range false 0 3) trivial
    (fun v => do emit "m"; pure v) logging_total 9 x (range_ints false 0 3 x)
  exact ⟨r1, r2⟩

end FpVerif.CollList
