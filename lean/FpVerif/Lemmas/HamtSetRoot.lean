import FpVerif.Lemmas.HamtSetNode
import FpVerif.Lemmas.HamtGet
/-! `set` at the root: array node (update, append, expansion into a trie).  The map level begins here: its entries
`Hamt.toList`, its invariant `Hamt.Inv` (well-formed root, `size` = number of entries), and `Hamt.set`. -/
namespace FpVerif.Hamt
variable {K V : Type} {h : Hasher K}

/-- what `set` must achieve on the root node -/
structure SetPostR (h : Hasher K) (n : Node K V) (k : K) (v : V) (r : Bool)
    (res : Node K V × Bool) : Prop where
  wf : WF h 0 res.1
  resized : res.2 = (r || (lookup h k n.toList).isNone)
  look : ∀ k', lookup h k' res.1.toList = if h.eqv k k' then some v else lookup h k' n.toList
  len : res.1.toList.length = n.toList.length + (if (lookup h k n.toList).isSome then 0 else 1)
  keys : ∀ e ∈ res.1.toList, (∃ e0 ∈ n.toList, e0.1 = e.1) ∨ e.1 = k

theorem SetPost.toR {n : Node K V} {k : K} {v : V} {r : Bool} {res : Node K V × Bool}
    (hp : SetPost h 0 n k v r res) : SetPostR h n k v r res :=
  ⟨hp.wf, hp.resized, hp.look, hp.len, hp.keys⟩

theorem SetPostR.of_entries {n n' : Node K V} {es es' : List (K × V)} {k : K} {v : V} {r r' : Bool}
    (hn : n.toList = es) (hn' : n'.toList = es') (wf : WF h 0 n')
    (resized : r' = (r || (lookup h k es).isNone))
    (look : ∀ k', lookup h k' es' = if h.eqv k k' then some v else lookup h k' es)
    (len : es'.length = es.length + (if (lookup h k es).isSome then 0 else 1))
    (keys : ∀ e ∈ es', (∃ e0 ∈ es, e0.1 = e.1) ∨ e.1 = k) : SetPostR h n k v r (n', r') := by
  subst hn hn'
  exact ⟨wf, resized, look, len, keys⟩

/-- the expansion loop of a full array node: the trie built so far holds the entries `L` consumed so
    far (the new one first) -/
theorem expand_fold (hl : LawfulHash h) :
    ∀ (Q L : List (K × V)) (N : Node K V), DistinctKeys h (L ++ Q) → WF h 0 N → (∀ es, N ≠ .array es) →
      (∀ k', lookup h k' N.toList = lookup h k' L) → (∀ e ∈ N.toList, ∃ e0 ∈ L, e0.1 = e.1) →
      ∃ N', Q.foldlM (fun (acc : Node K V × Bool) entry =>
                acc.1.setTrie h entry.1 entry.2 0 (h.hash entry.1) false acc.2) (N, true) = .ok (N', true) ∧
        WF h 0 N' ∧ (∀ es, N' ≠ .array es) ∧
        (∀ k', lookup h k' N'.toList = lookup h k' (L ++ Q)) ∧
        (∀ e ∈ N'.toList, ∃ e0 ∈ L ++ Q, e0.1 = e.1) := by
  intro Q
  induction Q with
  | nil =>
    intro L N _ hwf hna hlook hkeys
    rw [List.append_nil]
    exact ⟨N, rfl, hwf, hna, hlook, hkeys⟩
  | cons e Q ih =>
    intro L N hd hwf hna hlook hkeys
    obtain ⟨⟨N1, r1⟩, hset, hpost⟩ := setCore_spec hl (fun _ _ _ _ => throw "model: array node below the root")
      hwf e.1 hna e.2 false true (fun x _ => pfxEq_zero _ _)
    obtain rfl : r1 = true := hpost.resized
    have hLe : ∀ x ∈ L, h.eqv x.1 e.1 = false := fun x hx =>
      (List.pairwise_append.mp hd).2.2 x hx e List.mem_cons_self
    rw [List.append_cons] at hd ⊢
    obtain ⟨N', hfold, hrest⟩ := ih (L ++ [e]) N1 hd hpost.wf hpost.notArray
      (fun k' => (hpost.look k').trans (by
        rw [hlook k']
        exact (lookup_insert hl e.2 (List.append_nil L).symm hLe k').symm))
      (fun x hx => by
        rcases hpost.keys x hx with ⟨e0, he0, heq⟩ | heq
        · obtain ⟨e1, he1, heq1⟩ := hkeys e0 he0
          exact ⟨e1, List.mem_append_left _ he1, heq1.trans heq⟩
        · exact ⟨e, List.mem_append_right _ (List.mem_singleton.mpr rfl), heq.symm⟩)
    exact ⟨N', bind_ok hset hfold, hrest⟩

theorem Node.set_spec (hl : LawfulHash h) {n : Node K V} (hwf : WF h 0 n) (k : K) (v : V) (mu r : Bool) :
    ∃ res, n.set h k v 0 (h.hash k) mu r = .ok res ∧ SetPostR h n k v r res := by
  by_cases hna : ∀ es, n ≠ .array es
  · obtain ⟨res, h1, h2⟩ := setCore_spec hl (expandArray h) hwf k hna v mu r (fun _ _ => pfxEq_zero _ _)
    exact ⟨res, h1, h2.toR⟩
  obtain ⟨es, rfl⟩ : ∃ es, n = .array es := Classical.not_forall_not.mp hna
  cases hwf with
  | @array _ es h0 hne hlen hd =>
    unfold Node.set
    unfold Node.setCore
    cases hi : indexOf h es k with
    | some i =>
      obtain ⟨hlook, hlen', hdist, hsome, hkeys, hmem⟩ := replace_spec hl (v := v) hd hi
      have hres : r = (r || (lookup h k es).isNone) := by
        rw [Option.isNone_eq_false_iff.mpr hsome, Bool.or_false]
      have hlen'' : (es.set i (k, v)).length = es.length + (if (lookup h k es).isSome then 0 else 1) := by
        rw [hsome, hlen']
        rfl
      refine ⟨(Node.array (es.set i (k, v)), r), by simp [pure, Except.pure],
        SetPostR.of_entries (toList_array _) (toList_array _) ?_ hres hlook hlen'' hkeys⟩
      refine WF.array rfl ?_ (by rw [List.length_set]; exact hlen) hdist
      intro h0
      exact hne ((List.set_eq_nil_iff _ _).mp h0)
    | none =>
      have hno : ∀ e ∈ es, h.eqv e.1 k = false := indexOf_none.mp hi
      by_cases hfull : es.length ≥ maxArrayMapSize
      · -- expansion
        have hdist : DistinctKeys h ([(k, v)] ++ es) := distinct_insert hl v (T := []) rfl hd hno
        obtain ⟨N', hfold, hwf', hna', hlook', hkeys'⟩ := expand_fold hl es [(k, v)] (Node.value (h.hash k) k v)
          hdist (WF.value rfl) (by intro es; simp) (fun k' => by rw [toList_value])
          (fun e he => ⟨e, by rwa [toList_value] at he, rfl⟩)
        have hnone : lookup h k es = none := lookup_eq_none_iff.mpr hno
        refine ⟨(N', true), ?_, SetPostR.of_entries (toList_array _) rfl hwf' ?_
          (fun k' => (hlook' k').trans (lookup_cons h k' (k, v) es)) ?_ ?_⟩
        · have : decide (es.length ≥ maxArrayMapSize) = true := by simpa using hfull
          simp only [beq_self_eq_true, if_true, this, Bool.and_self, expandArray]
          exact hfold
        · rw [hnone]
          simp
        · rw [hnone, length_eq_of_lookup_eq hl (hwf'.distinct hl) hdist hlook']
          rfl
        · intro e he
          obtain ⟨e0, he0, heq⟩ := hkeys' e he
          rcases List.mem_cons.mp he0 with rfl | he0
          · exact Or.inr heq.symm
          · exact Or.inl ⟨e0, he0, heq⟩
      · have hnone : lookup h k es = none := lookup_eq_none_iff.mpr hno
        refine ⟨(Node.array (es ++ [(k, v)]), true), ?_,
          SetPostR.of_entries (toList_array _) (toList_array _) ?_ ?_
            (lookup_insert hl v (List.append_nil _).symm hno) ?_ ?_⟩
        · have : decide (es.length ≥ maxArrayMapSize) = false := by simpa using hfull
          simp [this, pure, Except.pure]
        · exact WF.array rfl (by simp) (by simp; omega) (distinct_insert hl v (List.append_nil _).symm hd hno)
        · rw [hnone]
          simp
        · rw [hnone, List.length_append]
          rfl
        · intro e he
          rcases List.mem_append.mp he with he | he
          · exact Or.inl ⟨e, he, rfl⟩
          · exact Or.inr (by rw [List.mem_singleton.mp he])

-- hamt ---------------------------------------------------------------------------------------------

def Hamt.toList (m : Hamt K V) : List (K × V) :=
  match m.root with
  | none => []
  | some root => root.toList

/-- well-formed map: well-formed root (an empty map has no root), `size` = number of entries -/
def Hamt.Inv (h : Hasher K) (m : Hamt K V) : Prop :=
  match m.root with
  | none => m.size = 0
  | some root => FpVerif.Hamt.WF h 0 root ∧ m.size = root.toList.length

theorem Hamt.toList_eq_optList (m : Hamt K V) : m.toList = optList m.root := by
  unfold Hamt.toList
  cases m.root with
  | none => rfl
  | some root => rfl

theorem Hamt.Inv.root {m : Hamt K V} (hwf : Hamt.Inv h m) {root : Node K V} (hr : m.root = some root) :
    WF h 0 root ∧ m.size = root.toList.length := by
  unfold Hamt.Inv at hwf
  rw [hr] at hwf
  exact hwf

theorem Hamt.Inv.of_optList {size : Nat} {root : Option (Node K V)} (hwf : ∀ n, root = some n → WF h 0 n)
    (hsize : size = (optList root).length) : Hamt.Inv h ⟨size, root⟩ := by
  cases root with
  | none => exact hsize
  | some n => exact ⟨hwf n rfl, hsize⟩

theorem Hamt.Inv.size_eq {m : Hamt K V} (hwf : Hamt.Inv h m) : m.size = m.toList.length := by
  obtain ⟨size, root⟩ := m
  cases root with
  | none => exact hwf
  | some root => exact hwf.2

theorem Hamt.set_spec (hl : LawfulHash h) {m : Hamt K V} (hwf : Hamt.Inv h m) (k : K) (v : V) (mu : Bool) :
    ∃ m', m.set h k v mu = .ok m' ∧ Hamt.Inv h m' ∧
      (∀ k', lookup h k' m'.toList = if h.eqv k k' then some v else lookup h k' m.toList) ∧
      m'.size = m.size + (if (lookup h k m.toList).isSome then 0 else 1) ∧
      (∀ e ∈ m'.toList, (∃ e0 ∈ m.toList, e0.1 = e.1) ∨ e.1 = k) := by
  unfold Hamt.set
  cases hr : m.root with
  | none =>
    have hsz : m.size = 0 := by unfold Hamt.Inv at hwf; simpa [hr] using hwf
    refine ⟨_, rfl, ?_, ?_, ?_, ?_⟩
    · unfold Hamt.Inv
      exact ⟨WF.array rfl (by simp) (by simp [maxArrayMapSize]) (by unfold DistinctKeys; simp), by simp⟩
    · intro k'; simp [Hamt.toList, hr, lookup_cons, lookup_nil]
    · simp [Hamt.toList, hr, hsz, lookup_nil]
    · intro e he; simp [Hamt.toList] at he; exact Or.inr (by rw [he])
  | some root =>
    have hw := hwf.root hr
    obtain ⟨⟨nr, rz⟩, hset, hpost⟩ := Node.set_spec hl hw.1 k v mu false
    have hrz : rz = (lookup h k root.toList).isNone := by simpa using hpost.resized
    have hm : m.toList = root.toList := by
      rw [Hamt.toList_eq_optList, hr]
      rfl
    rw [hm]
    refine ⟨{ size := if rz = true then m.size + 1 else m.size, root := some nr },
      by simp [hset, bind, Except.bind, pure, Except.pure], ?_, hpost.look, ?_, hpost.keys⟩
    · unfold Hamt.Inv
      refine ⟨hpost.wf, ?_⟩
      have := hpost.len
      simp only at this ⊢
      rw [this, hrz, hw.2]
      cases lookup h k root.toList <;> simp
    · simp only [hrz]
      cases lookup h k root.toList <;> simp

end FpVerif.Hamt
