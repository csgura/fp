import FpVerif.Model.TypeClasses
/-! Helper lemmas about the association-list model of Go maps. -/
namespace FpVerif.TC

variable {κ ν : Type} [DecidableEq κ]

theorem lookup_isSome_iff_mem {k : κ} {l : List (κ × ν)} :
    (lookup k l).isSome = true ↔ k ∈ l.map Prod.fst := by
  induction l with
  | nil => exact ⟨nofun, nofun⟩
  | cons p rest ih =>
    obtain ⟨k', v⟩ := p
    rw [lookup, List.map_cons, List.mem_cons, ← ih]
    by_cases h : k = k'
    · rw [if_pos h]
      exact ⟨fun _ => .inl h, fun _ => rfl⟩
    · rw [if_neg h]
      exact ⟨.inr, fun
        | .inl e => absurd e h
        | .inr m => m⟩

theorem lookup_eq_none_of_not_mem {k : κ} {l : List (κ × ν)} (h : k ∉ l.map Prod.fst) :
    lookup k l = none :=
  Option.not_isSome_iff_eq_none.mp (mt lookup_isSome_iff_mem.mp h)

theorem lookup_eraseKey_ne {k k' : κ} (h : k' ≠ k) (l : List (κ × ν)) :
    lookup k' (GoMap.eraseKey k l) = lookup k' l := by
  induction l with
  | nil => rfl
  | cons p rest ih =>
    obtain ⟨k2, v⟩ := p
    simp only [GoMap.eraseKey]
    by_cases h2 : k = k2
    · subst h2; simp [lookup, h]
    · simp only [h2, ↓reduceIte, lookup, ih]

theorem GoMap.get_insert (m : GoMap κ ν) (k k' : κ) (v : ν) :
    (m.insert k v).get k' = if k' = k then some v else m.get k' := by
  simp only [GoMap.get, GoMap.insert, lookup]
  by_cases h : k' = k
  · simp [h]
  · simp [h, lookup_eraseKey_ne h]

theorem GoMap.get_empty (k : κ) : (GoMap.empty : GoMap κ ν).get k = none := rfl

/-- the loop `for k, v := range l { ret[k] = v }` -/
theorem get_foldl_insert (l : List (κ × ν)) (hl : (l.map Prod.fst).Nodup) (ret : GoMap κ ν) (k : κ) :
    (l.foldl (fun m kv => m.insert kv.1 kv.2) ret).get k = (lookup k l).or (ret.get k) := by
  induction l generalizing ret with
  | nil => simp [lookup]
  | cons p rest ih =>
    obtain ⟨k', v⟩ := p
    simp only [List.map_cons, List.nodup_cons] at hl
    simp only [List.foldl_cons, ih hl.2, GoMap.get_insert, lookup]
    by_cases h : k = k'
    · subst h
      simp [lookup_eq_none_of_not_mem hl.1]
    · simp [h]

theorem get_putAll (ret a : GoMap κ ν) (k : κ) :
    (MonoidD.putAll ret a).get k = (a.get k).or (ret.get k) :=
  get_foldl_insert a.entries a.nodup ret k

end FpVerif.TC
