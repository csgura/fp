import FpVerif.Lemmas.ListGen
import FpVerif.Lemmas.ListLoops
/-!
# Lazy list: demand of a `GenerateFrom` list (`Generate`, `Range`, `RangeClosed`)

`GenR` (Lemmas/ListGen.lean) describes a partially forced generated list.  `GenFresh` is the cursor
of a traversal of a list that nobody else has forced: the head cell of the cursor is pending or
done, its TAIL cell is PENDING, and the two cells are the LAST cells of the heap — the cells of what
follows do not exist yet.  It is closed under the three interface operations (`LSim`), `Tail` moves it
by allocating exactly one new pair of cells; `N = (number of head cells) + (elements not yet passed)`
is constant.  So every loop of package `list` proved for an arbitrary `LSim` leaves the heap with
exactly one more cell pair per element it has passed.
-/
namespace FpVerif.LL
open FpVerif.It

variable {g : Int → GoM (Option Val)} {gp : Int → Option Val}

/-- the cursor of a traversal over a generated list whose rest has not been forced -/
def GenFresh (g : Int → GoM (Option Val)) (gp : Int → Option Val) (N : Nat) : Heap → LV → List Val → Prop
  | hp, .adaptor hc tc, xs => ∃ i : Int,
      (hp.hs[hc]? = some (.pending (.gen i g), 0) ∨ hp.hs[hc]? = some (.done (gp i), 1)) ∧
      hp.ts[tc]? = some (.pending (.gen i g), 0) ∧ Enum gp i xs ∧
      hc + 1 = hp.hs.size ∧ tc + 1 = hp.ts.size ∧ hp.hs.size + xs.length = N
  | _, _, _ => False

theorem GenFresh.adaptor {N : Nat} {hp : Heap} {l : LV} {xs : List Val} (h : GenFresh g gp N hp l xs) :
    ∃ hc tc, l = .adaptor hc tc := by
  cases l with
  | adaptor hc tc => exact ⟨hc, tc, rfl⟩
  | _ => exact h.elim

/-- a fresh cursor is in particular a (partially forced) generated list -/
theorem GenFresh.genR {N : Nat} {hp : Heap} {l : LV} {xs : List Val} (h : GenFresh g gp N hp l xs) :
    ∃ i, GenR g gp xs hp l i := by
  obtain ⟨hc, tc, rfl⟩ := h.adaptor
  obtain ⟨i, hh, ht, he, _⟩ := h
  refine ⟨i, ?_⟩
  cases xs with
  | nil => exact ⟨hh, he⟩
  | cons v rest => exact ⟨hh, he.1, Or.inl ⟨ht, he.2⟩⟩

/-- what the invariant says about the heap: the cursor's cells are the last ones, and the number of
    head cells plus the number of elements not yet passed is the constant `N` -/
theorem GenFresh.sizes {N : Nat} {hp : Heap} {l : LV} {xs : List Val} (h : GenFresh g gp N hp l xs) :
    hp.hs.size + xs.length = N ∧ ∃ hc tc, l = .adaptor hc tc ∧ hc + 1 = hp.hs.size ∧ tc + 1 = hp.ts.size ∧
      ∃ i, hp.ts[tc]? = some (.pending (.gen i g), 0) := by
  obtain ⟨hc, tc, rfl⟩ := h.adaptor
  obtain ⟨i, _, ht, _, h1, h2, h3⟩ := h
  exact ⟨h3, hc, tc, rfl, h1, h2, i, ht⟩

/-- A relation whose lists are adaptors over a `gen` head cell (pending, or done with the generator's
    value) and which survives running that cell satisfies the contract as soon as `Tail` keeps it:
    `IsEmpty` and `Head` only force that cell. -/
theorem lsim_of_gen (hg : Total g gp) {R : Heap → LV → List Val → Prop}
    (hR : ∀ hp l xs, R hp l xs → ∃ hc tc i, l = .adaptor hc tc ∧
      (hp.hs[hc]? = some (.pending (.gen i g), 0) ∨ hp.hs[hc]? = some (.done (gp i), 1)) ∧ Enum gp i xs ∧
      ∀ w, R { hp with hs := (hp.hs.set! hc w).set! hc (.done (gp i), 0 + 1) } l xs)
    (hT : ∀ fuel hp l x xs lg, 3 ≤ fuel → R hp l (x :: xs) →
      ∃ t hp' lg', LL.tail fuel l hp lg = (.ok t, hp', lg') ∧ R hp' t xs) : LSim 3 R where
  isEmpty := by
    intro fuel hp l xs lg hk h
    obtain ⟨f, rfl⟩ : ∃ f, fuel = f + 3 := ⟨fuel - 3, by omega⟩
    obtain ⟨hc, tc, i, rfl, hcell, he, hw⟩ := hR hp l xs h
    obtain ⟨hp', lg', e, h'⟩ := forceH_gen hg f hc hp lg i hcell (P := fun hp' => R hp' (.adaptor hc tc) _) h hw
    refine ⟨hp', lg', (bind_ok e).trans ?_, h'⟩
    cases xs with
    | nil => rw [show gp i = none from he]; rfl
    | cons v r => rw [show gp i = some v from he.1]; rfl
  head := by
    intro fuel hp l x xs lg hk h
    obtain ⟨f, rfl⟩ : ∃ f, fuel = f + 3 := ⟨fuel - 3, by omega⟩
    obtain ⟨hc, tc, i, rfl, hcell, he, hw⟩ := hR hp l _ h
    obtain ⟨hp', lg', e, h'⟩ := forceH_gen hg f hc hp lg i hcell (P := fun hp' => R hp' (.adaptor hc tc) _) h hw
    refine ⟨hp', lg', (bind_ok e).trans ?_, h'⟩
    rw [show gp i = some x from he.1]; rfl
  tail := hT

/-- `Tail` on a pending tail cell runs the closure: two fresh cells, pending, at the end of the heap -/
theorem tail_genFresh {fuel : Nat} (hc : Nat) {tc : Nat} {hp : Heap} {i : Int} {xs : List Val} (hk : 3 ≤ fuel)
    (hpend : hp.ts[tc]? = some (.pending (.gen i g), 0)) (he : Enum gp (i + 1) xs) (lg : Log) :
    ∃ t hp', LL.tail fuel (.adaptor hc tc) hp lg = (.ok t, hp', lg) ∧
      GenFresh g gp (hp.hs.size + 1 + xs.length) hp' t xs := by
  obtain ⟨f, rfl⟩ : ∃ f, fuel = f + 3 := ⟨fuel - 3, by omega⟩
  have hlt : tc < (hp.ts.set! tc (.running, 0 + 1)).size :=
    (Array.size_set! _ _ _).symm ▸ (Array.getElem?_eq_some_iff.mp hpend).1
  refine ⟨_, _, (forceT_eq (f + 1) tc hp lg).trans (force_ok tsA _ _ tc hpend rfl), i + 1, ?headCell, ?tailCell, he,
    ?hsSize, ?tsSize, ?total⟩
  case headCell => exact Or.inl Array.getElem?_push_size
  case tailCell => exact push_set_get _ tc _ _ hlt
  case hsSize => simp
  case tsSize => simp
  case total => simp

/-- a generated list, however far it has been forced, satisfies the interface contract -/
theorem gen_lsim (hg : Total g gp) : LSim 3 (fun hp l xs => ∃ i, GenR g gp xs hp l i) := by
  refine lsim_of_gen hg ?_ ?_
  · rintro hp l xs ⟨i, h⟩
    obtain ⟨hc, tc, rfl⟩ := h.adaptor
    exact ⟨hc, tc, i, rfl, h.head_cell, GenR_enum _ _ _ _ h, fun w => ⟨i, GenR_force_head xs hp hc tc i h w⟩⟩
  · rintro fuel hp l x xs lg hk ⟨i, h⟩
    obtain ⟨hc, tc, rfl⟩ := h.adaptor
    rcases h.2.2 with ⟨hpend, henum⟩ | ⟨hc', tc', ht, _, _, hr⟩
    · obtain ⟨t, hp', e, hF⟩ := tail_genFresh hc hk hpend henum lg
      exact ⟨t, hp', lg, e, hF.genR⟩
    · obtain ⟨f, rfl⟩ : ∃ f, fuel = f + 2 := ⟨fuel - 2, by omega⟩
      exact ⟨.adaptor hc' tc', hp, lg, (forceT_eq f tc hp lg).trans (force_done tsA _ _ tc ht), i + 1, hr⟩

theorem genFresh_lsim (hg : Total g gp) (N : Nat) : LSim 3 (GenFresh g gp N) := by
  refine lsim_of_gen hg ?_ ?_
  · intro hp l xs h
    obtain ⟨hc, tc, rfl⟩ := h.adaptor
    obtain ⟨i, hcell, ht, he, h1, h2, h3⟩ := h
    refine ⟨hc, tc, i, rfl, hcell, he, fun w => ⟨i, Or.inr (set_set_get _ _ _ _ (by omega)), ht, he, ?_, h2, ?_⟩⟩
    · rw [Array.size_set!, Array.size_set!]; exact h1
    · rw [Array.size_set!, Array.size_set!]; exact h3
  · intro fuel hp l x xs lg hk h
    obtain ⟨hc, tc, rfl⟩ := h.adaptor
    obtain ⟨i, _, hpend, he, _, _, h3⟩ := h
    obtain ⟨t, hp', e, hF⟩ := tail_genFresh hc hk hpend he.2 lg
    have hN : hp.hs.size + 1 + xs.length = N := by rw [← h3, List.length_cons]; omega
    exact ⟨t, hp', lg, e, hN ▸ hF⟩

/-- `list.GenerateFrom(i, g)` builds a fresh cursor: two new cells at the end of the heap -/
theorem genFresh_makeList (hp : Heap) (lg : Log) (i : Int) (xs : List Val) (he : Enum gp i xs) :
    ∃ l hp', makeList (.gen i g) (.gen i g) hp lg = (.ok l, hp', lg) ∧
      GenFresh g gp (hp.hs.size + 1 + xs.length) hp' l xs := by
  refine ⟨.adaptor hp.hs.size hp.ts.size, _, rfl, i, Or.inl (by simp), by simp, he, by simp, by simp, by simp⟩

/-- `list.Range(a, b)` / `RangeClosed` from the empty heap: a fresh cursor; the heap holds ONE pair of
    cells however long the range is -/
theorem range_eval_fresh (closed : Bool) (a b : Int) (x : Val) (fuel : Nat) (lg : Log) :
    ∃ l hp, LL.eval (fuel + 1) (.range closed a b) x {} lg = (.ok l, hp, lg) ∧ hp.hs.size = 1 ∧
      GenFresh (rangeGen closed b) (rangeP closed b) (1 + ((LExpr.range closed a b).denote x).length) hp l
        ((LExpr.range closed a b).denote x) := by
  have henum := range_enum closed a b x
  obtain ⟨l, hp', e, hF⟩ := genFresh_makeList (g := rangeGen closed b) ({} : Heap) lg a _ henum
  refine ⟨l, hp', ?_, ?_, by simpa using hF⟩
  · exact e
  · have := hF.sizes.1
    simp at this
    omega

end FpVerif.LL
