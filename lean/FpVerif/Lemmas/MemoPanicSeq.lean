import FpVerif.Model.MemoPanic
import FpVerif.Lemmas.IM
/-!
# Sequential behaviour of the memo cell (`Model/MemoPanic.lean`, part 1): helper lemmas
-/
namespace FpVerif.MemoPanic
open FpVerif.It

variable {T A σ X : Type}

theorem im_pure_apply (x : X) (s : σ) (lg : Log) : (pure x : IM σ X) s lg = (.ok x, s, lg) := rfl

theorem attempt_apply (m : IM σ X) (s : σ) (lg : Log) :
    attempt m s lg = (.ok (m s lg).1, (m s lg).2.1, (m s lg).2.2) := rfl

/-- once the `Once` has fired, a call returns `ret`, runs nothing, changes nothing -/
theorem get_of_done (f : Nat → GoM T) (c : Cell T) (lg : Log) (h : c.done = true) :
    get f c lg = (.ok c.ret, c, lg) := by
  simp [get, h]

theorem getN_of_done (f : Nat → GoM T) (n : Nat) (c : Cell T) (lg : Log) (h : c.done = true) :
    getN f n c lg = (.ok (List.replicate n (.ok c.ret)), c, lg) := by
  induction n with
  | zero => rfl
  | succ n ih =>
    simp only [getN, bind_apply, attempt_apply, get_of_done f c lg h, ih, pure_apply,
      List.replicate_succ]

theorem getArgs_of_done (f : A → Nat → GoM T) (as : List A) (c : Cell T) (lg : Log) (h : c.done = true) :
    getArgs f as c lg = (.ok (as.map (fun _ => .ok c.ret)), c, lg) := by
  induction as with
  | nil => rfl
  | cons a as ih =>
    simp only [getArgs, bind_apply, attempt_apply, get_of_done (f a) c lg h, ih, pure_apply,
      List.map_cons]

/-- the first call on a fresh cell: `f`'s first execution, its outcome to the caller, `done` set either way -/
theorem get_fresh (zero : T) (f : Nat → GoM T) (lg : Log) :
    get f (Cell.fresh zero) lg
      = (((f 0).run.run lg).1, { done := true, ret := memoOf zero ((f 0).run.run lg).1, runs := 1 },
         ((f 0).run.run lg).2) := by
  simp only [get, Cell.fresh]
  rcases h : (f 0).run.run lg with ⟨r, lg'⟩
  cases r <;> simp [memoOf]

end FpVerif.MemoPanic
