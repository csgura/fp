import FpVerif.Lemmas.ListMemo
/-!
# Lazy list: a cell is `running` only while its closure runs

Every operation of the model — whether it returns or panics — leaves exactly the cells running that
were running when it started (`SameRun`, a relation that `stepsAll` applies to: `keepAll`).  A cell is set
`running` when its closure starts and, since `sync.Once` is done on the return path AND on the panic
path, it is `done` when the closure ends either way.  Hence from a heap
without running cells no sequence of operations ever leaves one behind, and the model panic `deadlock`
(forcing a running cell) can only come from genuine re-entrance: a closure that forces its own cell.
-/
namespace FpVerif.LL
open FpVerif.It

def isRunning {T V : Type} : Option (Cell T V × Nat) → Prop
  | some (.running, _) => True
  | _ => False

structure SameRun (hp hp' : Heap) : Prop where
  hs : ∀ i : Nat, isRunning hp'.hs[i]? ↔ isRunning hp.hs[i]?
  ts : ∀ i : Nat, isRunning hp'.ts[i]? ↔ isRunning hp.ts[i]?
  ls : ∀ i : Nat, isRunning hp'.ls[i]? ↔ isRunning hp.ls[i]?

/-- the computation ends (returns or panics) with the same cells running as it started with -/
def Keep {X : Type} (m : HM X) : Prop := ∀ hp lg, SameRun hp (m hp lg).2.1

theorem isRunning_push {T V : Type} (a : Array (Cell T V × Nat)) (t : T) (i : Nat) :
    isRunning (a.push (.pending t, 0))[i]? ↔ isRunning a[i]? := by
  rw [Array.getElem?_push]
  split
  · next h => subst h; simp [isRunning]
  · exact Iff.rfl

/-- the life of one memo cell: pending in `a`; set running; the closure runs and keeps the running
    cells (`aB`); the cell is set done, which is not running -/
theorem cell_cycle {T V : Type} {a aB : Array (Cell T V × Nat)} {c : Nat} {t : T} {n k k' : Nat} (v : V)
    (hcell : a[c]? = some (.pending t, n))
    (hB : ∀ i : Nat, isRunning aB[i]? ↔ isRunning (a.set! c (.running, k))[i]?) :
    ∀ i : Nat, isRunning (aB.set! c (.done v, k'))[i]? ↔ isRunning a[i]? := by
  intro i
  simp only [Array.set!_eq_setIfInBounds, Array.getElem?_setIfInBounds] at hB ⊢
  by_cases hi : c = i
  · subst hi
    rw [hcell, if_pos rfl]
    split <;> simp [isRunning]
  · rw [if_neg hi]
    have := hB i
    rw [if_neg hi] at this
    exact this

theorem sameRunStep : StepRel SameRun where
  refl _ := ⟨fun _ => Iff.rfl, fun _ => Iff.rfl, fun _ => Iff.rfl⟩
  trans h1 h2 :=
    ⟨fun i => (h2.hs i).trans (h1.hs i), fun i => (h2.ts i).trans (h1.ts i), fun i => (h2.ls i).trans (h1.ls i)⟩
  pushHT _ _ _ := ⟨fun i => isRunning_push _ _ i, fun i => isRunning_push _ _ i, fun _ => Iff.rfl⟩
  pushL _ _ := ⟨fun _ => Iff.rfl, fun _ => Iff.rfl, fun i => isRunning_push _ _ i⟩
  its _ _ := ⟨fun _ => Iff.rfl, fun _ => Iff.rfl, fun _ => Iff.rfl⟩
  cellH w hcell hB := ⟨cell_cycle w hcell hB.hs, hB.ts, hB.ls⟩
  cellT w hcell hB := ⟨hB.hs, cell_cycle w hcell hB.ts, hB.ls⟩
  cellL w hcell hB := ⟨hB.hs, hB.ts, cell_cycle w hcell hB.ls⟩

structure KeepAll (fuel : Nat) : Prop where
  isEmpty : ∀ l, Keep (LL.isEmpty fuel l)
  head : ∀ l, Keep (LL.head fuel l)
  tail : ∀ l, Keep (LL.tail fuel l)
  headOpt : ∀ l, Keep (LL.headOpt fuel l)
  forceH : ∀ c, Keep (LL.forceH fuel c)
  forceT : ∀ c, Keep (LL.forceT fuel c)
  forceL : ∀ c, Keep (LL.forceL fuel c)
  applyK : ∀ k x, Keep (LL.applyK fuel k x)
  runH : ∀ t, Keep (LL.runH fuel t)
  runT : ∀ t, Keep (LL.runT fuel t)
  flatMap : ∀ l k, Keep (LL.flatMap fuel l k)
  combine : ∀ a b, Keep (LL.combine fuel a b)
  eval : ∀ e x, Keep (LL.eval fuel e x)

theorem keepAll (fuel : Nat) : KeepAll fuel :=
  have h := stepsAll sameRunStep fuel
  ⟨h.isEmpty, h.head, h.tail, h.headOpt, h.forceH, h.forceT, h.forceL, h.applyK, h.runH, h.runT, h.flatMap,
    h.combine, h.eval⟩

def Heap.NoRunning (hp : Heap) : Prop :=
  (∀ i : Nat, ¬ isRunning hp.hs[i]?) ∧ (∀ i : Nat, ¬ isRunning hp.ts[i]?) ∧ (∀ i : Nat, ¬ isRunning hp.ls[i]?)

theorem Heap.NoRunning.empty : ({} : Heap).NoRunning := by
  refine ⟨fun i => ?_, fun i => ?_, fun i => ?_⟩ <;> simp [isRunning]

theorem SameRun.noRunning {hp hp' : Heap} (h : SameRun hp hp') (hn : hp.NoRunning) : hp'.NoRunning :=
  ⟨fun i hr => hn.1 i ((h.hs i).mp hr), fun i hr => hn.2.1 i ((h.ts i).mp hr), fun i hr => hn.2.2 i ((h.ls i).mp hr)⟩

end FpVerif.LL
