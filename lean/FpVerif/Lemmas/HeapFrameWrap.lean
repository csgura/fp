import FpVerif.Lemmas.HeapFrame
import FpVerif.Model.HamtWorld
/-!
The `fp.Map` / `fp.Set` wrapper methods (and the composite operations of the histories) only
allocate: none of them writes a cell that existed before the call.  No well-formedness is assumed.
-/
namespace FpVerif.HamtHeap
open FpVerif.Hamt
variable {K V : Type}

theorem Pres.hamtConcat (h : Hasher K) (m : Addr) (kvs : List (K × V)) : Pres (hamtConcat h m kvs) := by
  unfold HamtHeap.hamtConcat
  apply Pres.foldlM
  intro b a
  exact Pres.hamtUpdated h b a.1 a.2

theorem Pres.hamtUpdatedWith (h : Hasher K) (m : Addr) (k : K) (remap : Option V → Option V) :
    Pres (hamtUpdatedWith h m k remap) := by
  unfold HamtHeap.hamtUpdatedWith
  refine Pres.bind (Pres.readHamt _) fun _ => Pres.bind (Pres.liftE _) fun v => ?_
  split
  · exact Pres.hamtUpdated h m k _
  · exact Pres.ite (Pres.hamtRemoved h m [k]) (Pres.pure _)

theorem Pres.hamtFilterInto (h : Hasher K) (mi mj : Addr) (neg : Bool) (tt : V) :
    Pres (hamtFilterInto h mi mj neg tt) := by
  unfold HamtHeap.hamtFilterInto
  refine Pres.bind (Pres.readHamt _) (fun _ => Pres.bind (Pres.liftE _) (fun es => Pres.bind Pres.hamtNew (fun m0 => ?_)))
  apply Pres.foldlM
  intro b a
  refine Pres.bind (Pres.readHamt _) (fun _ => Pres.bind (Pres.liftE _) (fun c => ?_))
  split
  · exact Pres.hamtUpdated h _ _ _
  · exact Pres.pure _

section wrappers
variable [BEq K]

theorem Pres.HFMap_updated (h : Hasher K) (r : HFMap K V) (k : K) (v : V) : Pres (r.updated h k v) := by
  unfold HFMap.updated
  split
  · exact Pres.pure _
  · exact Pres.bind_pure (Pres.hamtUpdated h _ k v) _
  · exact Pres.pure _

theorem Pres.HFMap_removed (h : Hasher K) (r : HFMap K V) (ks : List K) : Pres (r.removed h ks) := by
  unfold HFMap.removed
  split
  · exact Pres.pure _
  · exact Pres.bind_pure (Pres.hamtRemoved h _ ks) _
  · exact Pres.pure _

theorem Pres.HFMap_get (h : Hasher K) (r : HFMap K V) (k : K) : Pres (r.get h k) := by
  unfold HFMap.get
  split
  · exact Pres.pure _
  · exact Pres.bind (Pres.readHamt _) fun _ => Pres.liftE _
  · exact Pres.pure _

theorem Pres.HFMap_updatedWith (h : Hasher K) (r : HFMap K V) (k : K) (remap : Option V → Option V) :
    Pres (r.updatedWith h k remap) := by
  unfold HFMap.updatedWith
  refine Pres.bind (Pres.HFMap_get h r k) fun v => ?_
  dsimp only
  split
  · exact Pres.HFMap_updated h r k _
  · exact Pres.ite (Pres.HFMap_removed h r [k]) (Pres.pure _)

theorem Pres.HFMap_concat (h : Hasher K) (r : HFMap K V) (other : List (K × V)) : Pres (r.concat h other) := by
  unfold HFMap.concat
  apply Pres.foldlM
  intro b a
  exact Pres.HFMap_updated h b a.1 a.2

theorem Pres.HSetMin_incl (h : Hasher K) (s : HSetMin K) (v : K) : Pres (s.incl h v) := by
  unfold HSetMin.incl
  split
  · exact Pres.bind_pure (Pres.hamtUpdated h _ _ true) _
  · exact Pres.pure _

theorem Pres.HSetMin_excl (h : Hasher K) (s : HSetMin K) (v : K) : Pres (s.excl h v) := by
  unfold HSetMin.excl
  split
  · exact Pres.bind_pure (Pres.hamtRemoved h _ _) _
  · exact Pres.pure _

theorem Pres.HSetMin_contains (h : Hasher K) (s : HSetMin K) (v : K) : Pres (s.contains h v) := by
  unfold HSetMin.contains
  split
  · exact Pres.bind (Pres.readHamt _) fun _ => Pres.bind_pure (Pres.liftE _) _
  · exact Pres.pure _

omit [BEq K] in
theorem Pres.HSetMin_iterList (s : HSetMin K) : Pres s.iterList := by
  unfold HSetMin.iterList
  split
  · exact Pres.bind (Pres.readHamt _) fun _ => Pres.bind_pure (Pres.liftE _) _
  · exact Pres.pure _

omit [BEq K] in
theorem Pres.HFSet_callGetEmpty (r : HFSet K) : Pres r.callGetEmpty := by
  unfold HFSet.callGetEmpty
  split
  · exact Pres.bind_pure Pres.hamtNew _
  · exact Pres.pure _
  · exact Pres.pure _

theorem Pres.HFSet_contains (h : Hasher K) (r : HFSet K) (v : K) : Pres (r.contains h v) := by
  unfold HFSet.contains
  split
  · exact Pres.pure _
  · exact Pres.HSetMin_contains h _ v

omit [BEq K] in
theorem Pres.HFSet_iterList (r : HFSet K) : Pres r.iterList := by
  unfold HFSet.iterList
  split
  · exact Pres.pure _
  · exact Pres.HSetMin_iterList _

theorem Pres.HFSet_incl (h : Hasher K) (r : HFSet K) (v : K) : Pres (r.incl h v) := by
  unfold HFSet.incl
  split
  · exact Pres.pure _
  · exact Pres.bind (Pres.HFSet_callGetEmpty r) (fun s => Pres.bind (Pres.HSetMin_incl h s v) (fun _ => Pres.pure _))
  · exact Pres.bind (Pres.HSetMin_incl h _ v) (fun _ => Pres.pure _)

theorem Pres.HFSet_excl (h : Hasher K) (r : HFSet K) (v : K) : Pres (r.excl h v) := by
  unfold HFSet.excl
  split
  · exact Pres.pure _
  · exact Pres.bind (Pres.HSetMin_excl h _ v) (fun _ => Pres.pure _)

theorem Pres.HFSet_concat (h : Hasher K) (r : HFSet K) (other : List K) : Pres (r.concat h other) := by
  unfold HFSet.concat
  apply Pres.foldlM
  intro b a
  exact Pres.HFSet_incl h b a

theorem Pres.HFSet_diff (h : Hasher K) (r other : HFSet K) : Pres (r.diff h other) := by
  unfold HFSet.diff
  refine Pres.bind (Pres.HFSet_iterList r) (fun es => Pres.bind (Pres.HFSet_callGetEmpty r) (fun e0 =>
    Pres.bind ?_ (fun _ => Pres.pure _)))
  apply Pres.foldlM
  intro b a
  refine Pres.bind (Pres.HFSet_contains h other a) (fun c => ?_)
  split
  · exact Pres.HSetMin_incl h b a
  · exact Pres.pure _

theorem Pres.HFSet_intersect (h : Hasher K) (r other : HFSet K) : Pres (r.intersect h other) := by
  unfold HFSet.intersect
  refine Pres.bind (Pres.HFSet_iterList r) (fun es => Pres.bind (Pres.HFSet_callGetEmpty r) (fun e0 =>
    Pres.bind ?_ (fun _ => Pres.pure _)))
  apply Pres.foldlM
  intro b a
  refine Pres.bind (Pres.HFSet_contains h other a) (fun c => ?_)
  split
  · exact Pres.HSetMin_incl h b a
  · exact Pres.pure _

end wrappers

end FpVerif.HamtHeap
