import FpVerif.Model.Future
/-!
# The primitive operations of the future network

Membership lemmas for `complete` / `onComplete` (what the pool gains, what the registrations lose); the invariants of
the network use them instead of unfolding the two functions.  `runTask` has three behaviours (`Act`), `build` composes
four primitive steps (`build_rel`): invariants that do not depend on WHICH callback runs or WHICH combinator is built
are proved per behaviour and per step.  Also here: `cbTarget` / `taskTarget` (the promise a callback / task will complete)
and `young_first`, the induction on the creation order of promises that both completeness proofs run on.
-/
namespace FpVerif.Fut

theorem complete_status_pending {p : Nat} (t : Try Val) {n : Net} (h : n.status p = none) :
    (complete p t n).status = fun q => if q = p then some t else n.status q := by
  simp [complete, h]

theorem complete_status_self {p : Nat} {t : Try Val} {n : Net} (h : n.status p = none) :
    (complete p t n).status p = some t := by
  simp [complete_status_pending t h]

theorem complete_status_ne (p : Nat) (t : Try Val) (n : Net) {q : Nat} (h : q ≠ p) :
    (complete p t n).status q = n.status q := by
  unfold complete
  split
  · rfl
  · simp [h]

theorem complete_status_mono (p : Nat) (t : Try Val) {n : Net} {q : Nat} {v : Try Val}
    (h : n.status q = some v) : (complete p t n).status q = some v := by
  by_cases hq : q = p
  · subst hq; simp [complete, h]
  · rw [complete_status_ne p t n hq]; exact h

theorem complete_status_inv {p : Nat} {t : Try Val} {n : Net} {q : Nat} {v : Try Val}
    (h : (complete p t n).status q = some v) : n.status q = some v ∨ (q = p ∧ n.status p = none ∧ v = t) := by
  by_cases hq : q = p
  · subst hq
    cases hst : n.status q with
    | some w => exact .inl (by rw [← h, complete_status_mono q t hst])
    | none => rw [complete_status_self hst] at h; exact .inr ⟨rfl, rfl, (Option.some.inj h).symm⟩
  · exact .inl (by rw [← h, complete_status_ne p t n hq])

theorem complete_status_none {p : Nat} {t : Try Val} {n : Net} {q : Nat} (h : (complete p t n).status q = none) :
    n.status q = none ∧ q ≠ p := by
  cases hst : n.status q with
  | some v => rw [complete_status_mono p t hst] at h; cases h
  | none => exact ⟨rfl, fun e => by subst e; rw [complete_status_self hst] at h; cases h⟩

theorem onComplete_status (p : Nat) (c : CB) (n : Net) : (onComplete p c n).status = n.status := by
  unfold onComplete; split <;> rfl

theorem complete_frame (p : Nat) (t : Try Val) (n : Net) :
    (complete p t n).next = n.next ∧ (complete p t n).spec = n.spec ∧ (complete p t n).log = n.log := by
  unfold complete; split <;> exact ⟨rfl, rfl, rfl⟩

theorem onComplete_frame (p : Nat) (c : CB) (n : Net) :
    (onComplete p c n).next = n.next ∧ (onComplete p c n).spec = n.spec ∧ (onComplete p c n).log = n.log ∧
    (onComplete p c n).completes = n.completes := by
  unfold onComplete; split <;> exact ⟨rfl, rfl, rfl, rfl⟩

theorem complete_completes (p : Nat) (t : Try Val) (n : Net) :
    (complete p t n).completes = n.completes ++ [(p, (n.status p).isNone)] := by
  unfold complete; cases n.status p <;> rfl

theorem mem_complete_pool {p : Nat} {t : Try Val} {n : Net} {tk : Task} :
    tk ∈ (complete p t n).pool ↔ tk ∈ n.pool ∨ (n.status p = none ∧ ∃ c ∈ n.cbs p, tk = .cb c t) := by
  unfold complete
  cases n.status p with
  | some v => simp
  | none => simp [eq_comm]

theorem mem_complete_cbs {p : Nat} {t : Try Val} {n : Net} {q : Nat} {c : CB} :
    c ∈ (complete p t n).cbs q ↔ c ∈ n.cbs q ∧ (q = p → n.status p ≠ none) := by
  unfold complete
  cases n.status p with
  | some v => simp
  | none =>
    by_cases hq : q = p
    · simp [hq]
    · simp [hq]

theorem mem_onComplete_pool {p : Nat} {c : CB} {n : Net} {tk : Task} :
    tk ∈ (onComplete p c n).pool ↔ tk ∈ n.pool ∨ ∃ t, n.status p = some t ∧ tk = .cb c t := by
  unfold onComplete
  cases n.status p with
  | some v => simp
  | none => simp

theorem mem_onComplete_cbs {p : Nat} {c : CB} {n : Net} {q : Nat} {c' : CB} :
    c' ∈ (onComplete p c n).cbs q ↔ c' ∈ n.cbs q ∨ (n.status p = none ∧ q = p ∧ c' = c) := by
  unfold onComplete
  cases n.status p with
  | some v => simp
  | none =>
    by_cases hq : q = p
    · subst hq; simp
    · simp [hq]

/-- induction on the creation order of promises, youngest first: the promises a user function's future allocates are
    younger than the promise waiting for it -/
theorem young_first {b : Nat} {P : Nat → Prop} (h : ∀ p, p < b → (∀ p', p < p' → p' < b → P p') → P p) :
    ∀ p, p < b → P p := by
  have key : ∀ k p, b ≤ p + k → p < b → P p := by
    intro k
    induction k with
    | zero => intro p hk hlt; omega
    | succ k ih => intro p hk hlt; exact h p hlt (fun p' h1 h2 => ih p' (by omega) h2)
  exact fun p hp => key b p (Nat.le_add_left _ _) hp

end FpVerif.Fut

namespace FpVerif.Spec.C06
open FpVerif.Fut

/-- the promise a callback will complete -/
def cbTarget : CB → Option Nat
  | .flatMapA _ np => some np
  | .completeWith np => some np
  | .transformA _ np => some np
  | .transformWithA _ np => some np
  | .recoverWithA _ _ np => some np
  | .orFutureA _ np => some np
  | .observe _ => none

def taskTarget : Task → Option Nat
  | .cb c _ => cbTarget c
  | .applyT _ np => some np

end FpVerif.Spec.C06

namespace FpVerif.Fut
open FpVerif.Spec.C06

inductive Act where
  | done (np : Nat) (r : Try Val)       -- `np.Complete(r)`
  | chain (e : FExpr) (np : Nat)        -- build `e`, then `OnComplete(np.Complete)` on the future it yields
  | nop

def Act.run : Act → Net → Net
  | .done np r, n => complete np r n
  | .chain e np, n => onComplete (build e n).1 (.completeWith np) (build e n).2
  | .nop, n => n

def Act.target : Act → Option Nat
  | .done np _ => some np
  | .chain _ np => some np
  | .nop => none

/-- what the task logs first, and what it does then -/
def Task.act : Task → List Event × Act
  | .applyT f np => ((f ()).2, .done np (f ()).1)
  | .cb (.flatMapA k np) (.success v) => ([], .chain (k v) np)
  | .cb (.flatMapA _ np) (.failure e) => ([], .done np (.failure e))
  | .cb (.completeWith np) t => ([], .done np t)
  | .cb (.transformA f np) t => ((f t).2, .done np (f t).1)
  | .cb (.transformWithA k np) t => ([], .chain (k t) np)
  | .cb (.recoverWithA _ _ np) (.success v) => ([], .done np (.success v))
  | .cb (.recoverWithA d k np) (.failure e) => ([], if d e then .chain (k e) np else .done np (.failure e))
  | .cb (.orFutureA _ np) (.success v) => ([], .done np (.success v))
  | .cb (.orFutureA q np) (.failure _) => ([], .chain (.ref q) np)
  | .cb (.observe id) t => ([s!"obs{id}:{Val.ofTry t}"], .nop)

theorem runTask_eq_act (tk : Task) (n : Net) : runTask tk n = tk.act.2.run { n with log := n.log ++ tk.act.1 } := by
  have hnil : { n with log := n.log ++ [] } = n := by simp
  match tk with
  | .applyT f np => rfl
  | .cb (.flatMapA k np) (.success v) => simp only [Task.act, hnil]; rfl
  | .cb (.flatMapA _ np) (.failure e) => simp only [Task.act, hnil]; rfl
  | .cb (.completeWith np) t => simp only [Task.act, hnil]; rfl
  | .cb (.transformA f np) t => rfl
  | .cb (.transformWithA k np) t => simp only [Task.act, hnil]; rfl
  | .cb (.recoverWithA _ _ np) (.success v) => simp only [Task.act, hnil]; rfl
  | .cb (.recoverWithA d k np) (.failure e) =>
    simp only [Task.act, hnil, runTask]
    split <;> rfl
  | .cb (.orFutureA _ np) (.success v) => simp only [Task.act, hnil]; rfl
  | .cb (.orFutureA q np) (.failure _) => simp only [Task.act, hnil]; rfl
  | .cb (.observe id) t => rfl

theorem act_target (tk : Task) : tk.act.2.target = taskTarget tk := by
  match tk with
  | .applyT f np => rfl
  | .cb (.flatMapA k np) (.success v) => rfl
  | .cb (.flatMapA _ np) (.failure e) => rfl
  | .cb (.completeWith np) t => rfl
  | .cb (.transformA f np) t => rfl
  | .cb (.transformWithA k np) t => rfl
  | .cb (.recoverWithA _ _ np) (.success v) => rfl
  | .cb (.recoverWithA d k np) (.failure e) =>
    simp only [Task.act]
    split <;> rfl
  | .cb (.orFutureA _ np) (.success v) => rfl
  | .cb (.orFutureA q np) (.failure _) => rfl
  | .cb (.observe id) t => rfl

/-- `build` composes four primitive steps (log; allocate and complete; allocate and register the completing callback;
    allocate and queue the completing task): a preorder on nets that holds across each holds across `build e`. -/
theorem build_rel {R : Net → Net → Prop} (hrefl : ∀ n, R n n) (htrans : ∀ {a b c}, R a b → R b c → R a c)
    (hlog : ∀ n evs, R n { n with log := n.log ++ evs })
    (hconst : ∀ n sp t, R n (complete n.next t (fresh sp n).2))
    (hnode : ∀ n sp p c, cbTarget c = some n.next → R n (onComplete p c (fresh sp n).2))
    (happly : ∀ n f, R n { (fresh (.apply f) n).2 with pool := (fresh (.apply f) n).2.pool ++ [Task.applyT f n.next] })
    (e : FExpr) : ∀ n, R n (build e n).2 := by
  induction e with
  | ref p => exact hrefl
  | successful v => exact fun n => hconst n _ _
  | failed x => exact fun n => hconst n _ _
  | successfulOf e ih => exact fun n => htrans (ih n) (hconst _ _ _)
  | logged evs e ih => exact fun n => htrans (hlog n evs) (ih _)
  | flatMap e k ih _ => exact fun n => htrans (ih n) (hnode _ _ _ (.flatMapA k _) rfl)
  | transform e f ih => exact fun n => htrans (ih n) (hnode _ _ _ (.transformA f _) rfl)
  | transformWith e k ih _ => exact fun n => htrans (ih n) (hnode _ _ _ (.transformWithA k _) rfl)
  | recoverWith e d k ih _ => exact fun n => htrans (ih n) (hnode _ _ _ (.recoverWithA d k _) rfl)
  | orFuture e alt ihe iha => exact fun n => htrans (htrans (ihe n) (iha _)) (hnode _ _ _ (.orFutureA _ _) rfl)
  | apply f => exact fun n => happly n f

end FpVerif.Fut
