import FpVerif.Model.IterPipe
/-!
# The equations of `Pipe.buildF`, `Pipe.machineF` and `Pipe.partsF`, one per constructor

`buildF`, `machineF`, `partsF` are one mutual recursion over the `Pipe` AST, so they do not unfold by
`rfl`; rewriting with `Pipe.buildF` tries its generated equations one after the other.  Each equation
is stated here once, from the unfolding lemmas `Pipe.buildF.eq_def`, `Pipe.machineF.eq_def`; `partsF`
has three cases (`concat`, `drop`, everything else).
-/
namespace FpVerif.It.Pipe
variable (fuel : Nat) (x : Val) (p q r : Pipe)

theorem buildF_src (id : Nat) (xs : List Val) : buildF fuel (.src id xs) x = pure (0 : Nat) := by
  rw [buildF.eq_def]; rfl
theorem buildF_seq (xs : List Val) : buildF fuel (.seq xs) x = pure (0 : Nat) := by rw [buildF.eq_def]; rfl
theorem buildF_arg (n : Nat) :
    buildF fuel (.arg n) x = pure ((List.range n).map (fun (i : Nat) => Val.int (x.asInt + (i : Int))), (0 : Nat)) := by
  rw [buildF.eq_def]; rfl
theorem buildF_gen (id : Nat) (start step : Int) : buildF fuel (.gen id start step) x = pure (0 : Nat) := by
  rw [buildF.eq_def]; rfl
theorem buildF_range (closed : Bool) (a b : Int) : buildF fuel (.range closed a b) x = pure a := by
  rw [buildF.eq_def]; rfl
theorem buildF_opt (o : Option Val) : buildF fuel (.opt o) x = pure true := by rw [buildF.eq_def]; rfl
theorem buildF_empty : buildF fuel .empty x = pure () := by rw [buildF.eq_def]; rfl
theorem buildF_zero : buildF fuel .zero x = pure () := by rw [buildF.eq_def]; rfl
theorem buildF_rev (xs : List Val) : buildF fuel (.rev xs) x = pure xs.length := by rw [buildF.eq_def]; rfl
theorem buildF_pullseq (id : Nat) (xs : List Val) :
    buildF fuel (.pullseq id xs) x = buildF.runInit (pullInit (ofSeq (some (srcTag id)) xs)) ((0 : Nat), none) := by
  rw [buildF.eq_def]; rfl
theorem buildF_map (f : Val → GoM Val) : buildF fuel (.map p f) x = buildF fuel p x := by rw [buildF.eq_def]
theorem buildF_tap (f : Val → GoM Unit) : buildF fuel (.tap p f) x = buildF fuel p x := by rw [buildF.eq_def]
theorem buildF_take (n : Int) : buildF fuel (.take p n) x = (do let s ← buildF fuel p x; pure (s, (0 : Nat))) := by
  rw [buildF.eq_def]
theorem buildF_drop (n : Int) :
    buildF fuel (.drop p n) x = (do let s ← buildF fuel p x; buildF.runInit (It.drop n (machineF fuel p)) s) := by
  rw [buildF.eq_def]
theorem buildF_takew (f : Val → GoM Bool) : buildF fuel (.takew p f) x = (do let s ← buildF fuel p x; pure (s, {})) := by
  rw [buildF.eq_def]
theorem buildF_dropw (f : Val → GoM Bool) : buildF fuel (.dropw p f) x = (do let s ← buildF fuel p x; pure (s, {})) := by
  rw [buildF.eq_def]
theorem buildF_filter (f : Val → GoM Bool) : buildF fuel (.filter p f) x = (do let s ← buildF fuel p x; pure (s, {})) := by
  rw [buildF.eq_def]
theorem buildF_filternot (f : Val → GoM Bool) :
    buildF fuel (.filternot p f) x = (do let s ← buildF fuel p x; pure (s, {})) := by
  rw [buildF.eq_def]
theorem buildF_concat :
    buildF fuel (.concat p q) x = (do let s ← buildF fuel p x; let t ← buildF fuel q x; pure ((s, t), {})) := by
  rw [buildF.eq_def]
theorem buildF_flatmap (pre : Val → GoM Val) (k : Pipe) :
    buildF fuel (.flatmap p pre k) x = (do let s ← buildF fuel p x; pure (s, none)) := by
  rw [buildF.eq_def]
theorem buildF_filtermap (f : Val → GoM (Option Val)) :
    buildF fuel (.filtermap p f) x = (do let s ← buildF fuel p x; pure (s, none)) := by
  rw [buildF.eq_def]
theorem buildF_scan (z : Val) (f : Val → Val → GoM Val) :
    buildF fuel (.scan p z f) x = (do let s ← buildF fuel p x; pure (s, { sum := z })) := by
  rw [buildF.eq_def]
theorem buildF_zip : buildF fuel (.zip p q) x = (do let s ← buildF fuel p x; let t ← buildF fuel q x; pure (s, t)) := by
  rw [buildF.eq_def]
theorem buildF_zip3 :
    buildF fuel (.zip3 p q r) x =
      (do let s ← buildF fuel p x; let t ← buildF fuel q x; let u ← buildF fuel r x; pure (s, t, u)) := by
  rw [buildF.eq_def]
theorem buildF_zipidx : buildF fuel (.zipidx p) x = (do let s ← buildF fuel p x; pure ((0 : Nat), s)) := by
  rw [buildF.eq_def]

theorem machineF_src (id : Nat) (xs : List Val) : machineF fuel (.src id xs) = ofSeq (some (srcTag id)) xs := by
  rw [machineF.eq_def]
theorem machineF_seq (xs : List Val) : machineF fuel (.seq xs) = ofSeq none xs := by rw [machineF.eq_def]
theorem machineF_arg (n : Nat) : machineF fuel (.arg n) = ofSeqS := by rw [machineF.eq_def]
theorem machineF_gen (id : Nat) (start step : Int) :
    machineF fuel (.gen id start step) = generate (fun n => do
      let v := Val.int (start + step * n)
      emit (srcTag id v)
      pure v) := by
  rw [machineF.eq_def]
theorem machineF_range (closed : Bool) (a b : Int) :
    machineF fuel (.range closed a b) = It.map (fun i => pure (Val.int i)) (It.range closed b) := by
  rw [machineF.eq_def]; rfl
theorem machineF_opt (o : Option Val) : machineF fuel (.opt o) = ofOption o := by rw [machineF.eq_def]
theorem machineF_empty : machineF fuel .empty = It.empty := by rw [machineF.eq_def]
theorem machineF_zero : machineF fuel .zero = It.zero := by rw [machineF.eq_def]
theorem machineF_rev (xs : List Val) : machineF fuel (.rev xs) = reverseSeq xs := by rw [machineF.eq_def]
theorem machineF_pullseq (id : Nat) (xs : List Val) :
    machineF fuel (.pullseq id xs) = pull (ofSeq (some (srcTag id)) xs) := by
  rw [machineF.eq_def]
theorem machineF_map (f : Val → GoM Val) : machineF fuel (.map p f) = It.map f (machineF fuel p) := by
  rw [machineF.eq_def]; rfl
theorem machineF_tap (f : Val → GoM Unit) : machineF fuel (.tap p f) = tapEach f (machineF fuel p) := by
  rw [machineF.eq_def]; rfl
theorem machineF_take (n : Int) : machineF fuel (.take p n) = It.take n (machineF fuel p) := by rw [machineF.eq_def]
theorem machineF_takew (f : Val → GoM Bool) : machineF fuel (.takew p f) = takeWhile f (machineF fuel p) := by
  rw [machineF.eq_def]
theorem machineF_dropw (f : Val → GoM Bool) : machineF fuel (.dropw p f) = dropWhile fuel f (machineF fuel p) := by
  rw [machineF.eq_def]
theorem machineF_filter (f : Val → GoM Bool) : machineF fuel (.filter p f) = It.filter fuel f (machineF fuel p) := by
  rw [machineF.eq_def]
theorem machineF_filternot (f : Val → GoM Bool) :
    machineF fuel (.filternot p f) = filterNot fuel f (machineF fuel p) := by
  rw [machineF.eq_def]
theorem machineF_flatmap (pre : Val → GoM Val) (k : Pipe) :
    machineF fuel (.flatmap p pre k) =
      flatMap fuel (fun x => do let _ ← pre x; buildF fuel k x) (machineF fuel k) (machineF fuel p) := by
  rw [machineF.eq_def]
theorem machineF_filtermap (f : Val → GoM (Option Val)) :
    machineF fuel (.filtermap p f) = filterMap fuel f (machineF fuel p) := by
  rw [machineF.eq_def]
theorem machineF_scan (z : Val) (f : Val → Val → GoM Val) : machineF fuel (.scan p z f) = It.scan f (machineF fuel p) := by
  rw [machineF.eq_def]
theorem machineF_zip :
    machineF fuel (.zip p q) = It.map (fun ab => pure (tupV ab.1 ab.2)) (It.zip (machineF fuel p) (machineF fuel q)) := by
  rw [machineF.eq_def]; rfl
theorem machineF_zip3 :
    machineF fuel (.zip3 p q r) = It.map (fun abc => pure (Val.tup [abc.1, abc.2.1, abc.2.2]))
      (It.zip3 (machineF fuel p) (machineF fuel q) (machineF fuel r)) := by
  rw [machineF.eq_def]; rfl
theorem machineF_zipidx :
    machineF fuel (.zipidx p) = It.map (fun ia => pure (tupV (.int ia.1) ia.2)) (zipWithIndex (machineF fuel p)) := by
  rw [machineF.eq_def]; rfl

/-! `partsF`, and `machineF` of the two constructors whose `concat` field is not the iterator itself -/

theorem partsF_concat (fuel : Nat) (a b : Pipe) :
    partsF fuel (.concat a b) = concatParts ((partsF fuel a).join (partsF fuel b)) := by
  conv => lhs; unfold partsF

theorem partsF_drop (fuel : Nat) (a : Pipe) (n : Int) : partsF fuel (.drop a n) = partsF fuel a := by
  conv => lhs; unfold partsF

theorem partsF_single (fuel : Nat) (p : Pipe) (h1 : ∀ a b, p ≠ .concat a b) (h2 : ∀ a n, p ≠ .drop a n) :
    partsF fuel p = MMachine.single (machineF fuel p) := by
  cases p with
  | concat a b => exact absurd rfl (h1 a b)
  | drop a n => exact absurd rfl (h2 a n)
  | _ => conv => lhs; unfold partsF

theorem partsF_n_pos (fuel : Nat) : ∀ (p : Pipe), 0 < (partsF fuel p).n := by
  intro p
  induction p with
  | concat a b iha ihb => rw [partsF_concat]; exact Nat.add_pos_left iha _
  | drop q n ih => rw [partsF_drop]; exact ih
  | _ => rw [partsF_single _ _ (by intro _ _ h; cases h) (by intro _ _ h; cases h)]; exact Nat.one_pos

theorem machineF_concat (fuel : Nat) (a b : Pipe) :
    machineF fuel (.concat a b) = It.concat ((partsF fuel a).join (partsF fuel b)) := by
  rw [machineF.eq_def]

theorem machineF_drop (fuel : Nat) (a : Pipe) (n : Int) : machineF fuel (.drop a n) = machineF fuel a := by
  rw [machineF.eq_def]

end FpVerif.It.Pipe
