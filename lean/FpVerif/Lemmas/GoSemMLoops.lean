import FpVerif.Model.GoSemM
import FpVerif.Model.CollMonad
import FpVerif.Lemmas.CollRun
/-!
# The loop schema and the slice primitives of `Model/GoSemM.lean`: unfolding lemmas, and the effectful list recursions
the translated `Seq` functions are compared with

`setIdxM_append_cons`, `idxM_append_cons`: the invariant of every `make` + `ret[i] = …` builder loop is
`ret = done ++ replicate (n - i) zero`. `It.Total f g` is `∀ a, Returns (f a) (g a)`. The `…G` references run the
callback left to right and stop where the Go loop returns.
-/
namespace FpVerif.GoSemM
open FpVerif.GoSem

variable {α β ρ σ ι : Type}

@[simp] theorem loopM_nil (st : σ) (body : ι → σ → GoM (Step ρ σ)) (rest : σ → GoM ρ) :
    loopM [] st body rest = rest st := rfl

theorem loopM_cons (x : ι) (xs : List ι) (st : σ) (body : ι → σ → GoM (Step ρ σ)) (rest : σ → GoM ρ) :
    loopM (x :: xs) st body rest = (do
      let r ← body x st
      match r with
      | .ret v => pure v
      | .next st' => loopM xs st' body rest) := rfl

/-- a `for … range` loop is the function that satisfies its two equations -/
theorem loopM_eq {body : ι → σ → GoM (Step ρ σ)} {fin : σ → GoM ρ} {ref : List ι → σ → GoM ρ}
    (hnil : ∀ st, ref [] st = fin st)
    (hcons : ∀ x xs st, ref (x :: xs) st = (do
      let r ← body x st
      match r with
      | .ret v => pure v
      | .next st' => ref xs st')) :
    ∀ (l : List ι) (st : σ), loopM l st body fin = ref l st := by
  intro l
  induction l with
  | nil => exact fun st => (hnil st).symm
  | cons x xs ih =>
    intro st
    rw [loopM_cons, hcons]
    congr 1; funext r
    cases r with
    | ret v => rfl
    | next st' => exact ih st'

@[simp] theorem enumFrom_nil (k : Int) : enumFrom k ([] : List α) = [] := rfl
@[simp] theorem enumFrom_cons (k : Int) (a : α) (as : List α) : enumFrom k (a :: as) = (k, a) :: enumFrom (k + 1) as := rfl
@[simp] theorem indexFrom_zero (k : Int) : indexFrom k 0 = [] := rfl
@[simp] theorem indexFrom_succ (k : Int) (n : Nat) : indexFrom k (n + 1) = k :: indexFrom (k + 1) n := rfl

@[simp] theorem indexRange_len (s : List α) : indexRange (len s) = indexFrom 0 s.length := by
  simp [indexRange, len]

theorem indexRange_ofNat (n : Nat) : indexRange (n : Int) = indexFrom 0 n := by
  simp [indexRange]

theorem setIdxM_append_cons (pre post : List α) (x v : α) (i : Int) (hi : i = (pre.length : Int)) :
    setIdxM (pre ++ x :: post) i v = pure (pre ++ v :: post) := by
  subst hi
  have h1 : ¬ ((pre.length : Int) < 0) := by omega
  simp [setIdxM, h1]

theorem setIdxM_zero_cons (x v : α) (xs : List α) : setIdxM (x :: xs) 0 v = pure (v :: xs) := by
  simp [setIdxM]

theorem idxM_append_cons (pre post : List α) (x : α) (i : Int) (hi : i = (pre.length : Int)) :
    idxM (pre ++ x :: post) i = pure x := by
  subst hi
  have h1 : ¬ ((pre.length : Int) < 0) := by omega
  simp [idxM, h1]

theorem idxM_lt (a : List α) (i : Nat) (h : i < a.length) : idxM a (i : Int) = pure a[i] := by
  have h1 : ¬ ((i : Int) < 0) := by omega
  simp [idxM, h1, h]

theorem sliceM_ok (a : List α) (lo hi : Nat) (h1 : lo ≤ hi) (h2 : hi ≤ a.length) :
    sliceM a (lo : Int) (hi : Int) = pure ((a.take hi).drop lo) := by
  have : ¬ ((lo : Int) < 0 ∨ (hi : Int) < (lo : Int) ∨ len a < (hi : Int)) := by
    simp only [len]; omega
  unfold sliceM
  rw [if_neg this]
  simp

/-- `r[1:]` of a non-empty slice (`len r` as `simp` normalises it) -/
theorem sliceM_tail (a : α) (as : List α) : sliceM (a :: as) (1 : Int) ((as.length : Int) + 1) = pure as := by
  have := sliceM_ok (a :: as) 1 (as.length + 1) (by omega) (by simp)
  simpa using this

@[simp] theorem makeSliceM_ofNat [GoZero α] (n : Nat) :
    (makeSliceM (n : Int) : GoM (List α)) = pure (List.replicate n GoZero.zero) := by
  have : ¬ ((n : Int) < 0) := by omega
  simp [makeSliceM, this]

theorem goCopy_replicate (r : List α) (k : Nat) (z : α) :
    goCopy (List.replicate (r.length + k) z) r = r ++ List.replicate k z := by
  simp [goCopy, List.take_of_length_le]


/-- `m` yields `v`: from every log it returns normally with `v` (it may append events) -/
def Returns (m : GoM α) (v : α) : Prop := ∀ lg, ∃ lg', m.run.run lg = (.ok v, lg')

theorem returns_pure (v : α) : Returns (pure v : GoM α) v := fun lg => ⟨lg, rfl⟩

theorem returns_bind {m : GoM α} {a : α} {k : α → GoM β} {b : β} (hm : Returns m a) (hk : Returns (k a) b) :
    Returns (m >>= k) b := fun lg =>
  let ⟨lg1, h1⟩ := hm lg
  let ⟨lg2, h2⟩ := hk lg1
  ⟨lg2, (Coll.run_bind_ok h1).trans h2⟩

theorem returns_of_eq {m m' : GoM α} {v : α} (h : m = m') (h' : Returns m' v) : Returns m v := h ▸ h'


/-- `Filter`: the predicate runs once per element, left to right -/
def filterG (p : α → GoM Bool) : List α → GoM (List α)
  | [] => pure []
  | a :: as => do
    let b ← p a
    let r ← filterG p as
    pure (if b then a :: r else r)

/-- `Exists`: stops at the first hit -/
def anyG (p : α → GoM Bool) : List α → GoM Bool
  | [] => pure false
  | a :: as => do
    let b ← p a
    if b then pure true else anyG p as

/-- `ForAll`: stops at the first miss -/
def allG (p : α → GoM Bool) : List α → GoM Bool
  | [] => pure true
  | a :: as => do
    let b ← p a
    if b then allG p as else pure false

/-- `Find`: stops at the first hit -/
def findG (p : α → GoM Bool) : List α → GoM (Option α)
  | [] => pure none
  | a :: as => do
    let b ← p a
    if b then pure (some a) else findG p as

def foreachG (f : α → GoM Unit) : List α → GoM Unit
  | [] => pure ()
  | a :: as => do
    f a
    foreachG f as

/-- `Scan`: `zero, f(zero,a₁), …` -/
def scanG (f : β → α → GoM β) : β → List α → GoM (List β)
  | z, [] => pure [z]
  | z, a :: as => do
    let z' ← f z a
    let r ← scanG f z' as
    pure (z :: r)

/-- `Span`: the predicate runs until its first `false`, and not afterwards -/
def spanG (p : α → GoM Bool) : List α → GoM (List α × List α)
  | [] => pure ([], [])
  | a :: as => do
    let b ← p a
    if b then do
      let (l, r) ← spanG p as
      pure (a :: l, r)
    else pure ([], a :: as)

/-- `Partition`: the predicate runs once per element -/
def partitionG (p : α → GoM Bool) : List α → GoM (List α × List α)
  | [] => pure ([], [])
  | a :: as => do
    let b ← p a
    let (l, r) ← partitionG p as
    pure (if b then (a :: l, r) else (l, a :: r))

/-- `FoldTry`: stops at the first failure -/
def foldTryG (f : β → α → GoM (Try β)) : β → List α → GoM (Try β)
  | z, [] => pure (.success z)
  | z, a :: as => do
    let t ← f z a
    match t with
    | .success z' => foldTryG f z' as
    | .failure e => pure (.failure e)

def foldOptionG (f : β → α → GoM (Option β)) : β → List α → GoM (Option β)
  | z, [] => pure (some z)
  | z, a :: as => do
    let t ← f z a
    match t with
    | some z' => foldOptionG f z' as
    | none => pure none

def foldErrorG (f : α → GoM (Option Err)) : List α → GoM (Option Err)
  | [] => pure none
  | a :: as => do
    let e ← f a
    match e with
    | some e => pure (some e)
    | none => foldErrorG f as

/-- `FoldRight` with suspended tails: the step receives the UNEVALUATED fold of the rest -/
def foldRightG (f : α → EvalM β → GoM (EvalM β)) (zero : β) : List α → GoM (EvalM β)
  | [] => pure (evalDone zero)
  | a :: as => f a (do let e ← foldRightG f zero as; e)

/-! Each lemma is about ANY loop body that satisfies the equations the Go loop body satisfies (`rfl` for the translated
body), so the induction does not carry the translated term. -/

/-- `for _, v := range l { if p(v) { ret = append(ret, v) } }` -/
theorem filterLoop {p : α → GoM Bool} {body : α → List α → GoM (Step ρ (List α))} {fin : List α → GoM ρ}
    (h : ∀ v acc, body v acc = (do
      let t ← p v
      if t then pure (Step.next (acc ++ [v])) else pure (Step.next acc))) :
    ∀ (l acc : List α), loopM l acc body fin = (do let r ← filterG p l; fin (acc ++ r)) :=
  loopM_eq (ref := fun l acc => do let r ← filterG p l; fin (acc ++ r)) (fun acc => by simp [filterG]) (fun a as acc => by
    rw [h]
    simp only [filterG, bind_assoc]
    congr 1; funext b
    cases b <;> simp)

/-- `for _, v := range l { if p(v) { left = append(left, v) } else { right = append(right, v) } }` -/
theorem partitionLoop {p : α → GoM Bool} {body : α → List α × List α → GoM (Step ρ (List α × List α))}
    {fin : List α × List α → GoM ρ}
    (h : ∀ v left right, body v (left, right) = (do
      let t ← p v
      if t then pure (Step.next (left ++ [v], right)) else pure (Step.next (left, right ++ [v])))) :
    ∀ (l accl accr : List α), loopM l (accl, accr) body fin
      = (do let lr ← partitionG p l; fin (accl ++ lr.1, accr ++ lr.2)) := by
  intro l
  induction l with
  | nil => intro accl accr; simp [partitionG]
  | cons a as ih =>
    intro accl accr
    rw [loopM_cons, h]
    simp only [partitionG, bind_assoc]
    congr 1; funext b
    cases b <;> simp [ih]

/-- the `Span` loop, state `(right, left, span)`: with `span == true` the predicate does not run -/
theorem spanLoop {p : α → GoM Bool} {body : α → List α × List α × Bool → GoM (Step ρ (List α × List α × Bool))}
    {fin : List α × List α × Bool → GoM ρ}
    (h2 : ∀ v right left, body v (right, left, true) = pure (Step.next (right ++ [v], left, true)))
    (h1 : ∀ v right left, body v (right, left, false) = (do
      let t ← p v
      if t then pure (Step.next (right, left ++ [v], false)) else pure (Step.next (right ++ [v], left, true)))) :
    ∀ (l accl : List α), loopM l (([] : List α), accl, false) body fin
      = (do let lr ← spanG p l; fin (lr.2, accl ++ lr.1, !lr.2.isEmpty)) := by
  have phase2 : ∀ (l accr accl : List α), loopM l (accr, accl, true) body fin = fin (accr ++ l, accl, true) := by
    intro l
    induction l with
    | nil => intro accr accl; simp
    | cons a as ih => intro accr accl; rw [loopM_cons, h2, pure_bind]; simp [ih]
  intro l
  induction l with
  | nil => intro accl; simp [spanG]
  | cons a as ih =>
    intro accl
    rw [loopM_cons, h1]
    simp only [spanG, bind_assoc]
    congr 1; funext b
    cases b
    · simp [phase2]
    · simp [ih]

/-- `for _, v := range l { ret = append(ret, f(v)) }` -/
theorem mapAppendLoop {f : α → GoM β} {body : α → List β → GoM (Step ρ (List β))} {fin : List β → GoM ρ}
    (h : ∀ v acc, body v acc = (do let t ← f v; pure (Step.next (acc ++ [t])))) :
    ∀ (l : List α) (acc : List β), loopM l acc body fin = (do let r ← Coll.seqMapLoop f l acc; fin r) :=
  loopM_eq (ref := fun l acc => do let r ← Coll.seqMapLoop f l acc; fin r) (fun acc => by simp [Coll.seqMapLoop])
    (fun a as acc => by rw [h]; simp only [Coll.seqMapLoop, bind_assoc, pure_bind])

/-- `for _, v := range l { ret = append(ret, f(v)...) }` -/
theorem flatMapAppendLoop {f : α → GoM (List β)} {body : α → List β → GoM (Step ρ (List β))}
    {fin : List β → GoM ρ} (h : ∀ v acc, body v acc = (do let t ← f v; pure (Step.next (acc ++ t)))) :
    ∀ (l : List α) (acc : List β), loopM l acc body fin = (do let r ← Coll.seqFlatMapLoop f l acc; fin r) :=
  loopM_eq (ref := fun l acc => do let r ← Coll.seqFlatMapLoop f l acc; fin r) (fun acc => by simp [Coll.seqFlatMapLoop])
    (fun a as acc => by rw [h]; simp only [Coll.seqFlatMapLoop, bind_assoc, pure_bind])

/-- the copy loop of `Zip`: `ret[i] = (s1[i], s2[i])` -/
theorem zipLoop [GoZero (α × β)] {body : Int → List (α × β) → GoM (Step ρ (List (α × β)))} {fin : List (α × β) → GoM ρ}
    {s1 : List α} {s2 : List β}
    (h : ∀ i ret, body i ret = (do
      let a ← idxM s1 i
      let b ← idxM s2 i
      let ret ← setIdxM ret i (a, b)
      pure (Step.next ret))) :
    ∀ (r1 p1 : List α) (r2 p2 : List β) (done : List (α × β)), s1 = p1 ++ r1 → s2 = p2 ++ r2 →
      done.length = p1.length → p2.length = p1.length →
      loopM (indexFrom (p1.length : Int) (min r1.length r2.length)) (done ++ List.replicate (min r1.length r2.length) GoZero.zero)
        body fin = fin (done ++ r1.zip r2) := by
  intro r1
  induction r1 with
  | nil => intro p1 r2 p2 done _ _ _ _; simp
  | cons a as ih =>
    intro p1 r2 p2 done e1 e2 hd hp
    cases r2 with
    | nil => simp
    | cons b bs =>
      simp only [List.length_cons, Nat.succ_min_succ, indexFrom_succ, List.replicate_succ, List.zip_cons_cons]
      rw [loopM_cons, h, e1, e2, idxM_append_cons _ _ _ _ rfl, pure_bind, idxM_append_cons _ _ _ _ (by rw [hp]),
        pure_bind, setIdxM_append_cons _ _ _ _ _ (by rw [hd]), pure_bind, pure_bind]
      have := ih (p1 ++ [a]) bs (p2 ++ [b]) (done ++ [(a, b)]) (by simp [e1]) (by simp [e2]) (by simp [hd]) (by simp [hp])
      simpa using this


theorem filterG_returns {p : α → GoM Bool} {g : α → Bool} (h : ∀ a, Returns (p a) (g a)) (l : List α) :
    Returns (filterG p l) (l.filter g) := by
  induction l with
  | nil => exact returns_pure _
  | cons a as ih =>
    refine returns_bind (h a) (returns_bind ih ?_)
    cases hg : g a <;> simp [hg] <;> exact returns_pure _

theorem anyG_returns {p : α → GoM Bool} {g : α → Bool} (h : ∀ a, Returns (p a) (g a)) (l : List α) :
    Returns (anyG p l) (l.any g) := by
  induction l with
  | nil => exact returns_pure _
  | cons a as ih =>
    refine returns_bind (h a) ?_
    cases hg : g a
    · simpa [hg] using ih
    · simpa [hg] using returns_pure true

theorem allG_returns {p : α → GoM Bool} {g : α → Bool} (h : ∀ a, Returns (p a) (g a)) (l : List α) :
    Returns (allG p l) (l.all g) := by
  induction l with
  | nil => exact returns_pure _
  | cons a as ih =>
    refine returns_bind (h a) ?_
    cases hg : g a
    · simpa [hg] using returns_pure false
    · simpa [hg] using ih

theorem findG_returns {p : α → GoM Bool} {g : α → Bool} (h : ∀ a, Returns (p a) (g a)) (l : List α) :
    Returns (findG p l) (l.find? g) := by
  induction l with
  | nil => exact returns_pure _
  | cons a as ih =>
    refine returns_bind (h a) ?_
    cases hg : g a
    · simpa [hg, List.find?_cons] using ih
    · simpa [hg, List.find?_cons] using returns_pure (some a)

theorem foldlM_returns {f : β → α → GoM β} {g : β → α → β} (h : ∀ b a, Returns (f b a) (g b a)) (l : List α) (z : β) :
    Returns (l.foldlM f z) (l.foldl g z) := by
  induction l generalizing z with
  | nil => exact returns_pure _
  | cons a as ih =>
    simp only [List.foldlM_cons, List.foldl_cons]
    exact returns_bind (h z a) (ih _)

theorem partitionG_returns {p : α → GoM Bool} {g : α → Bool} (h : ∀ a, Returns (p a) (g a)) (l : List α) :
    Returns (partitionG p l) (l.filter g, l.filter (fun x => !g x)) := by
  induction l with
  | nil => exact returns_pure _
  | cons a as ih =>
    refine returns_bind (h a) (returns_bind ih ?_)
    cases hg : g a <;> simp [hg] <;> exact returns_pure _

theorem spanG_returns {p : α → GoM Bool} {g : α → Bool} (h : ∀ a, Returns (p a) (g a)) (l : List α) :
    Returns (spanG p l) (l.takeWhile g, l.dropWhile g) := by
  induction l with
  | nil => exact returns_pure _
  | cons a as ih =>
    refine returns_bind (h a) ?_
    cases hg : g a
    · simpa [hg, List.takeWhile_cons, List.dropWhile_cons] using returns_pure (([] : List α), a :: as)
    · simp only [hg, if_true, List.takeWhile_cons, List.dropWhile_cons]
      exact returns_bind ih (returns_pure _)

end FpVerif.GoSemM
