import FpVerif.Lemmas.HamtRefine
/-! Hamt-backed `fp.Map` / `fp.Set` values, membership of a trie-backed set, and the constructors
(`MapBuilder`, `immutable.Map(hasher, t...)`). -/
namespace FpVerif.Hamt
variable {K V : Type} {h : Hasher K} [BEq K]

/-- an `fp.Map` backed by the immutable package -/
def hmap (m : Hamt K V) : FMap K V := ⟨some (.hamt m)⟩
/-- an `fp.Set` backed by the immutable package (`immutable.Set`) -/
def hset (m : Hamt K Bool) : FSet K := ⟨.hamt, some (.hamt m)⟩

-- sets ---------------------------------------------------------------------------------------------

/-- membership of a trie-backed set, as a function of its entries -/
def mem (h : Hasher K) (m : Hamt K Bool) (k : K) : Bool := (lookup h k m.toList).isSome

omit [BEq K] in
/-- adding to the trie of a set, in place (a builder before its first `Build`) or copying -/
theorem mem_set (hl : LawfulHash h) {m : Hamt K Bool} (hwf : Hamt.Inv h m) (k : K) (mu : Bool) :
    ∃ m', m.set h k true mu = .ok m' ∧ Hamt.Inv h m' ∧ ∀ k', mem h m' k' = (h.eqv k k' || mem h m k') := by
  obtain ⟨m', h1, h2, h3, _⟩ := Hamt.set_spec hl hwf k true mu
  refine ⟨m', h1, h2, fun k' => ?_⟩
  unfold mem; rw [h3]; cases h.eqv k k' <;> rfl

theorem SetMin.incl_hamt (hl : LawfulHash h) {m : Hamt K Bool} (hwf : Hamt.Inv h m) (k : K) :
    ∃ m', (SetMin.hamt m).incl h k = .ok (.hamt m') ∧ Hamt.Inv h m' ∧
      ∀ k', mem h m' k' = (h.eqv k k' || mem h m k') := by
  obtain ⟨m', h1, h2, h3⟩ := mem_set hl hwf k false
  exact ⟨m', bind_ok h1 rfl, h2, h3⟩

theorem SetMin.excl_hamt (hl : LawfulHash h) {m : Hamt K Bool} (hwf : Hamt.Inv h m) (k : K) :
    ∃ m', (SetMin.hamt m).excl h k = .ok (.hamt m') ∧ Hamt.Inv h m' ∧
      ∀ k', mem h m' k' = (!h.eqv k k' && mem h m k') := by
  obtain ⟨m', h1, h2, h3, _⟩ := Hamt.removed_spec hl [k] hwf
  refine ⟨m', bind_ok h1 rfl, h2, fun k' => ?_⟩
  unfold mem; rw [h3]; simp [lookupRemoved]; cases h.eqv k k' <;> simp

-- constructors / builders ------------------------------------------------------------------------------

omit [BEq K] in
theorem builderFold_spec (hl : LawfulHash h) (t : List (K × V)) : ∀ {m : Hamt K V}, Hamt.Inv h m →
    ∃ m', t.foldlM (fun (b : MapBuilder K V) kv => b.add h kv.1 kv.2) ⟨some m⟩ = .ok ⟨some m'⟩ ∧ Hamt.Inv h m' ∧
      ∀ k', lookup h k' m'.toList = concatLookup h t k' (lookup h k' m.toList) := by
  induction t with
  | nil => intro m hwf; exact ⟨m, rfl, hwf, fun _ => rfl⟩
  | cons e t ih =>
    intro m hwf
    obtain ⟨m1, h1, hwf1, hl1, _⟩ := Hamt.set_spec hl hwf e.1 e.2 true
    obtain ⟨m2, h2, hwf2, hl2⟩ := ih hwf1
    exact ⟨m2, bind_ok (bind_ok h1 rfl) h2, hwf2, fun k' => by rw [hl2, hl1]; rfl⟩

omit [BEq K] in
/-- `immutable.Map(hasher, tuples...)` / `MapBuilder` + `Add`... + `Build`: later tuples win -/
theorem Hamt.ofList_spec (hl : LawfulHash h) (t : List (K × V)) :
    ∃ m, Hamt.ofList h t = .ok m ∧ Hamt.Inv h m ∧
      ∀ k', lookup h k' m.toList = concatLookup h t k' none := by
  cases t with
  | nil => exact ⟨Hamt.empty, rfl, Hamt.Inv_empty, fun _ => rfl⟩
  | cons e t =>
    obtain ⟨m, h1, h2, h3⟩ := builderFold_spec hl (e :: t) (Hamt.Inv_empty (h := h) (V := V))
    refine ⟨m, ?_, h2, h3⟩
    rw [Hamt.ofList, if_pos (show (e :: t).length > 0 from Nat.succ_pos _)]
    exact bind_ok h1 rfl

end FpVerif.Hamt
