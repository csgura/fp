import FpVerif.Lemmas.HamtSetRoot
import FpVerif.Lemmas.HamtDelete
/-! The map level: the empty map, `Hamt.get`, `Hamt.delete`, `Hamt.removed`. -/
namespace FpVerif.Hamt
variable {K V : Type} {h : Hasher K}

theorem Hamt.Inv_empty : Hamt.Inv h (Hamt.empty : Hamt K V) := rfl

theorem Hamt.toList_empty : (Hamt.empty : Hamt K V).toList = [] := rfl

theorem Hamt.get_spec (hl : LawfulHash h) {m : Hamt K V} (hwf : Hamt.Inv h m) (k : K) :
    m.get h k = .ok (lookup h k m.toList) := by
  rw [Hamt.toList_eq_optList]
  unfold Hamt.get
  cases hr : m.root with
  | none => rfl
  | some root => exact Node.get_eq_lookup hl (hwf.root hr).1 k

theorem Hamt.Inv.distinct (hl : LawfulHash h) {m : Hamt K V} (hwf : Hamt.Inv h m) : DistinctKeys h m.toList := by
  rw [Hamt.toList_eq_optList]
  cases hr : m.root with
  | none => exact List.Pairwise.nil
  | some root => exact (hwf.root hr).1.distinct hl

theorem Hamt.delete_spec (hl : LawfulHash h) {m : Hamt K V} (hwf : Hamt.Inv h m) (k : K) (mu : Bool) :
    ∃ m', m.delete h k mu = .ok m' ∧ Hamt.Inv h m' ∧
      (∀ k', lookup h k' m'.toList = if h.eqv k k' then none else lookup h k' m.toList) ∧
      m'.size + (if (lookup h k m.toList).isSome then 1 else 0) = m.size ∧
      (∀ e ∈ m'.toList, e ∈ m.toList) := by
  cases hr : m.root with
  | none =>
    have hnone : lookup h k m.toList = none := by rw [Hamt.toList_eq_optList, hr]; rfl
    exact ⟨m, by unfold Hamt.delete; rw [hr]; rfl, hwf, lookup_absent hl hnone, by rw [hnone]; rfl,
      fun e he => he⟩
  | some root =>
    obtain ⟨hw, hsize⟩ := hwf.root hr
    obtain ⟨⟨nr, rz⟩, hdel, hpost⟩ := Node.delete_spec hl hw k mu
    have hrun : m.delete h k mu = .ok (if rz then ⟨m.size - 1, nr⟩ else m) := by
      unfold Hamt.delete
      rw [hr]
      simp only [hdel, bind, Except.bind]
      cases rz with
      | false => rfl
      | true => rfl
    have htl : m.toList = root.toList := by rw [Hamt.toList_eq_optList, hr]; rfl
    rw [htl]
    cases rz with
    | false =>
      have hnone : lookup h k root.toList = none :=
        Option.not_isSome_iff_eq_none.mp (by rw [← hpost.resized]; simp)
      exact ⟨m, hrun, hwf, by rw [htl]; exact lookup_absent hl hnone, by rw [hnone]; rfl,
        fun e he => htl ▸ he⟩
    | true =>
      have hlen : (optList nr).length + (if (lookup h k root.toList).isSome then 1 else 0) = _ := hpost.len
      rw [← hpost.resized, if_pos rfl] at hlen ⊢
      have hsz : m.size = (optList nr).length + 1 := hsize.trans hlen.symm
      refine ⟨⟨m.size - 1, nr⟩, hrun, .of_optList hpost.wf (by rw [hsz]; rfl), ?_, ?_, ?_⟩
      · rw [Hamt.toList_eq_optList ⟨_, nr⟩]
        exact hpost.look
      · show m.size - 1 + 1 = m.size
        rw [hsz]
        rfl
      · rw [Hamt.toList_eq_optList ⟨_, nr⟩]
        exact hpost.keys

theorem Hamt.removed_spec (hl : LawfulHash h) (ks : List K) : ∀ {m : Hamt K V}, Hamt.Inv h m →
    ∃ m', m.removed h ks = .ok m' ∧ Hamt.Inv h m' ∧
      (∀ k', lookup h k' m'.toList = lookupRemoved h ks k' (lookup h k' m.toList)) ∧
      (∀ e ∈ m'.toList, e ∈ m.toList) := by
  induction ks with
  | nil => exact fun hwf => ⟨_, rfl, hwf, fun _ => rfl, fun e he => he⟩
  | cons k ks ih =>
    intro m hwf
    obtain ⟨m1, h1, hwf1, hlook1, _, hk1⟩ := Hamt.delete_spec hl hwf k false
    obtain ⟨m2, h2, hwf2, hlook2, hk2⟩ := ih hwf1
    refine ⟨m2, bind_ok h1 h2, hwf2, fun k' => ?_, fun e he => hk1 e (hk2 e he)⟩
    rw [hlook2, hlook1, lookupRemoved_cons]

end FpVerif.Hamt
