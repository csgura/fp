import FpVerif.Model.SliceHeap
/-!
# The ownership discipline of the slice-heap programs (helper lemmas for Spec/C04Seq)

`Inv n0 h0 st`: the arrays below `n0` (those that existed when the library call started) are exactly as in `h0`,
and both slice registers are nil or point to arrays allocated since (`Own`), inside the heap.
Every primitive step preserves it — `goAppend` and `setAt` write into the REGISTER's array only, which is owned,
so the heap they leave is an `Ext`ension of the one they found — hence so does every program built from them (`Safe`).
`Window s t`: `t` is nil or Go's `s[i:j]`, the shape of every result that is not allocated.
-/
namespace FpVerif.SliceHeap

theorem updArr_length : ∀ (h : Heap) (a : Nat) (f : List Int → List Int), (updArr h a f).length = h.length
  | [], _, _ => rfl
  | _ :: _, 0, _ => rfl
  | _ :: xs, a + 1, f => congrArg (· + 1) (updArr_length xs a f)

theorem updArr_get_ne : ∀ (h : Heap) (a a' : Nat) (f : List Int → List Int), a' ≠ a →
    (updArr h a f)[a']? = h[a']?
  | [], _, _, _, _ => rfl
  | _ :: _, 0, 0, _, hne => absurd rfl hne
  | _ :: _, 0, _ + 1, _, _ => rfl
  | _ :: _, _ + 1, 0, _, _ => rfl
  | _ :: xs, a + 1, a' + 1, f, hne => updArr_get_ne xs a a' f fun e => hne (congrArg (· + 1) e)

/-- nil, or an array allocated at or after `n0` -/
def Own (n0 : Nat) (s : Slice) : Prop := ∀ a, s.arr = some a → n0 ≤ a

/-- nil, or an array of the heap -/
def InHeap (h : Heap) (s : Slice) : Prop := ∀ a, s.arr = some a → a < h.length

structure Inv (n0 : Nat) (h0 : Heap) (st : St) : Prop where
  len : n0 ≤ st.heap.length
  old : ∀ a, a < n0 → st.heap[a]? = h0[a]?
  ownA : Own n0 st.a
  ownB : Own n0 st.b
  inA : InHeap st.heap st.a
  inB : InHeap st.heap st.b

def Safe (p : Step) : Prop := ∀ n0 h0 st, Inv n0 h0 st → Inv n0 h0 (p st)

theorem own_nil (n0 : Nat) : Own n0 Slice.nil := by intro a h; simp [Slice.nil] at h
theorem inHeap_nil (h : Heap) : InHeap h Slice.nil := by intro a hh; simp [Slice.nil] at hh

/-! ### heaps that only grow, and write only at or above `n0` -/

/-- `h'` has every array of `h`, those below `n0` unchanged -/
structure Ext (n0 : Nat) (h h' : Heap) : Prop where
  len : h.length ≤ h'.length
  old : ∀ a, a < n0 → h'[a]? = h[a]?

theorem Ext.refl (n0 : Nat) (h : Heap) : Ext n0 h h := ⟨Nat.le_refl _, fun _ _ => rfl⟩

theorem Ext.trans {n n' : Nat} {h h' h'' : Heap} (e : Ext n h h') (e' : Ext n' h' h'') (hn : n ≤ n') : Ext n h h'' :=
  ⟨Nat.le_trans e.len e'.len, fun a ha => (e'.old a (Nat.lt_of_lt_of_le ha hn)).trans (e.old a ha)⟩

/-- a slice into an unchanged array shows the same elements -/
theorem Ext.view_eq {n : Nat} {h h' : Heap} (e : Ext n h h') {x : Slice} (hx : ∀ a, x.arr = some a → a < n) :
    view h' x = view h x := by
  unfold view
  cases hxa : x.arr with
  | none => rfl
  | some a => simp only [List.getD_eq_getElem?_getD, e.old a (hx a hxa)]

/-- allocation -/
theorem ext_push {n0 : Nat} {h : Heap} (hl : n0 ≤ h.length) (x : List Int) : Ext n0 h (h ++ [x]) :=
  ⟨by simp, fun _ ha => List.getElem?_append_left (Nat.lt_of_lt_of_le ha hl)⟩

/-- an in-place write into an array at or above `n0` -/
theorem ext_upd {n0 b : Nat} (h : Heap) (hb : n0 ≤ b) (f : List Int → List Int) : Ext n0 h (updArr h b f) :=
  ⟨Nat.le_of_eq (updArr_length h b f).symm, fun a ha => updArr_get_ne h b a f (Nat.ne_of_lt (Nat.lt_of_lt_of_le ha hb))⟩

theorem InHeap.mono {h h' : Heap} {s : Slice} (hs : InHeap h s) (hl : h.length ≤ h'.length) : InHeap h' s :=
  fun a ha => Nat.lt_of_lt_of_le (hs a ha) hl

/-- the slice `make` / a literal returns -/
theorem own_fresh {n0 : Nat} {h : Heap} (hl : n0 ≤ h.length) (l c : Nat) :
    Own n0 { arr := some h.length, off := 0, len := l, cap := c } :=
  fun _ ha => Option.some.inj ha ▸ hl

theorem inHeap_fresh (h : Heap) (x : List Int) (l c : Nat) :
    InHeap (h ++ [x]) { arr := some h.length, off := 0, len := l, cap := c } :=
  fun _ ha => Option.some.inj ha ▸ by simp

/-- a step that extends the heap and leaves owned, in-heap registers keeps the invariant -/
theorem Inv.ext {n0 : Nat} {h0 h' : Heap} {st : St} {a b : Slice} (h : Inv n0 h0 st) (he : Ext n0 st.heap h')
    (oa : Own n0 a) (ob : Own n0 b) (ia : InHeap h' a) (ib : InHeap h' b) :
    Inv n0 h0 { heap := h', a := a, b := b } :=
  ⟨Nat.le_trans h.len he.len, fun a ha => (he.old a ha).trans (h.old a ha), oa, ob, ia, ib⟩

/-! ### the primitives and the combinators -/

theorem safe_skip : Safe skip := fun _ _ _ h => h

theorem safe_seq {p q : Step} (hp : Safe p) (hq : Safe q) : Safe (p ;; q) :=
  fun n0 h0 st h => hq n0 h0 _ (hp n0 h0 st h)

theorem safe_iter (n : Nat) {body : Nat → Step} (hb : ∀ i, Safe (body i)) : Safe (iter n body) := by
  induction n with
  | zero => exact safe_skip
  | succ n ih => exact fun n0 h0 st h => hb n n0 h0 _ (ih n0 h0 st h)

theorem safe_cond (c : St → Bool) {p q : Step} (hp : Safe p) (hq : Safe q) : Safe (cond c p q) := by
  intro n0 h0 st h
  unfold cond
  split
  · exact hp n0 h0 st h
  · exact hq n0 h0 st h

/-- a step chosen by looking at the state -/
theorem safe_dep {P : St → Step} (hP : ∀ x, Safe (P x)) : Safe (fun st => P st st) :=
  fun n0 h0 st h => hP st n0 h0 st h

theorem safe_mkA (l c : Nat) : Safe (mkA l c) := fun _ _ _ h =>
  h.ext (ext_push h.len _) (own_fresh h.len l c) h.ownB (inHeap_fresh _ _ l c) (h.inB.mono (ext_push h.len _).len)

theorem safe_mkB (l c : Nat) : Safe (mkB l c) := fun _ _ _ h =>
  h.ext (ext_push h.len _) h.ownA (own_fresh h.len l c) (h.inA.mono (ext_push h.len _).len) (inHeap_fresh _ _ l c)

theorem safe_litA (xs : St → List Int) : Safe (litA xs) := fun _ _ _ h =>
  h.ext (ext_push h.len _) (own_fresh h.len _ _) h.ownB (inHeap_fresh _ _ _ _) (h.inB.mono (ext_push h.len _).len)

theorem safe_litB (xs : St → List Int) : Safe (litB xs) := fun _ _ _ h =>
  h.ext (ext_push h.len _) h.ownA (own_fresh h.len _ _) (h.inA.mono (ext_push h.len _).len) (inHeap_fresh _ _ _ _)

/-- `append` through an owned slice: in place into the owned array, or into a new array -/
theorem goAppend_spec {n0 : Nat} {h : Heap} (s : Slice) (xs : List Int)
    (hl : n0 ≤ h.length) (hs : Own n0 s) (hin : InHeap h s) :
    Ext n0 h (goAppend h s xs).2 ∧ Own n0 (goAppend h s xs).1 ∧ InHeap (goAppend h s xs).2 (goAppend h s xs).1 := by
  unfold goAppend
  split
  · exact ⟨.refl n0 h, hs, hin⟩
  · cases harr : s.arr with
    | none => exact ⟨ext_push hl _, own_fresh hl _ _, inHeap_fresh _ _ _ _⟩
    | some b =>
      have he := ext_upd h (hs b harr) fun arr => writeFrom arr (s.off + s.len) xs
      simp only
      split
      · exact ⟨he, fun a ha => hs a (harr.trans ha), fun a ha => hin.mono he.len a (harr.trans ha)⟩
      · exact ⟨ext_push hl _, own_fresh hl _ _, inHeap_fresh _ _ _ _⟩

theorem safe_appA (xs : St → List Int) : Safe (appA xs) := by
  intro n0 h0 st h
  obtain ⟨he, ho, hi⟩ := goAppend_spec st.a (xs st) h.len h.ownA h.inA
  exact h.ext he ho h.ownB hi (h.inB.mono he.len)

theorem safe_appB (xs : St → List Int) : Safe (appB xs) := by
  intro n0 h0 st h
  obtain ⟨he, ho, hi⟩ := goAppend_spec st.b (xs st) h.len h.ownB h.inB
  exact h.ext he h.ownA ho (h.inA.mono he.len) hi

theorem setAt_spec {n0 : Nat} (h : Heap) {s : Slice} (i : Nat) (xs : List Int) (hs : Own n0 s) :
    Ext n0 h (setAt h s i xs) := by
  unfold setAt
  cases harr : s.arr with
  | none => exact .refl n0 h
  | some b => exact ext_upd h (hs b harr) _

theorem safe_setA (i : St → Nat) (xs : St → List Int) : Safe (setA i xs) := fun _ _ st h =>
  have he := setAt_spec st.heap (i st) (xs st) h.ownA
  h.ext he h.ownA h.ownB (h.inA.mono he.len) (h.inB.mono he.len)

theorem safe_setB (i : St → Nat) (xs : St → List Int) : Safe (setB i xs) := fun _ _ st h =>
  have he := setAt_spec st.heap (i st) (xs st) h.ownB
  h.ext he h.ownA h.ownB (h.inA.mono he.len) (h.inB.mono he.len)

theorem safe_moveBA : Safe moveBA := fun _ _ _ h => ⟨h.len, h.old, h.ownB, h.ownB, h.inB, h.inB⟩

theorem safe_nilA : Safe nilA := fun n0 _ st h => ⟨h.len, h.old, own_nil n0, h.ownB, inHeap_nil st.heap, h.inB⟩

theorem safe_concatInto (s : Slice) (tl : St → List Int) (n : Nat) : Safe (concatInto s tl n) :=
  safe_seq (safe_mkA _ _) (safe_seq (safe_setA _ _) (safe_iter _ (fun _ => safe_setA _ _)))

theorem safe_mapIntoB (t : Slice) (f : St → Int → Int) : Safe (mapIntoB t f) :=
  safe_seq (safe_mkB _ _) (safe_iter _ (fun _ => safe_setB _ _))

theorem safe_flatMapWith (s : Slice) {chunk : Nat → Step} (hc : ∀ i, Safe (chunk i)) : Safe (flatMapWith s chunk) :=
  safe_seq (safe_mkA _ _) (safe_iter _ (fun i => safe_seq (hc i) (safe_appA _)))

/-! ### windows of a slice -/

/-- Go's `s[i:j]` -/
def Slice.sub (s : Slice) (i j : Nat) : Slice :=
  { arr := s.arr, off := s.off + i, len := j - i, cap := s.cap - i }

/-- nil, or `s[i:j]` with `i ≤ j ≤ len(s)`: what an operation returns when it allocates nothing -/
inductive Window (s : Slice) : Slice → Prop
  | nil : Window s Slice.nil
  | sub (i j : Nat) (hij : i ≤ j) (hj : j ≤ s.len) : Window s (s.sub i j)

theorem Window.refl (s : Slice) : Window s s := .sub 0 s.len (Nat.zero_le _) (Nat.le_refl _)

/-- a result that is one window or another, by a test on the receiver -/
theorem Window.of_ite {c : Prop} [Decidable c] {s a b t : Slice}
    (hr : (if c then Res.alias a else Res.alias b) = Res.alias t) (ha : c → Window s a) (hb : ¬c → Window s b) :
    Window s t := by
  split at hr <;> cases hr
  · exact ha ‹c›
  · exact hb ‹¬c›

theorem view_length_le (h : Heap) (s : Slice) : (view h s).length ≤ s.len := by
  unfold view
  cases s.arr with
  | none => exact Nat.zero_le _
  | some a => exact List.length_take_le _ _

/-- `s[i:j]` shows elements `i` to `j` of what `s` shows -/
theorem view_sub (h : Heap) (s : Slice) (i j : Nat) (hj : j ≤ s.len) :
    view h (s.sub i j) = ((view h s).take j).drop i := by
  unfold view
  show (match s.arr with | none => [] | some a => _) = _
  cases s.arr with
  | none => simp
  | some a =>
    simp only [Slice.sub, List.take_take, Nat.min_eq_left hj, List.drop_take, List.drop_drop, Nat.add_comm]

end FpVerif.SliceHeap
