import FpVerif.Lemmas.PromiseMeasure
import FpVerif.Lemmas.PromiseInvB
import FpVerif.Lemmas.ConcProgress
/-!
Consequences of the invariants, in the form the property theorems of Spec/C05 need; the instance
`progress` of `Sched.Progress`; Invariant B at the initial state.
-/
namespace FpVerif.Promise
open FpVerif.Sched

variable {R : Type}

/-! ### single assignment -/

theorem winners_le_one {s : PSys R} (h : InvA s) : winners s.threads ≤ 1 := by
  rw [h.winner]; split <;> omega

theorem winner_unique {s : PSys R} (h : InvA s) {i j : Nat} {a b : Local R}
    (hi : s.threads[i]? = some a) (hj : s.threads[j]? = some b) (ha : a.isWinner = true)
    (hb : b.isWinner = true) : i = j :=
  eq_of_sumBy_ind_le_one (winners_le_one h) hi hj ha hb

/-- a finished winner has returned true, or died inside its callback loop -/
theorem finished_winner {l : Local R} (hf : l.finished = true) (hw : l.isWinner = true) :
    ∃ r, l = .cRet r true ∨ l = .panicked (.complete r) := by
  cases l with
  | cRet r b =>
    cases b with
    | false => cases hw
    | true => exact ⟨r, .inl rfl⟩
  | panicked p =>
    cases p with
    | complete r => exact ⟨r, .inr rfl⟩
    | _ => cases hw
  | rRet | oRet => cases hw
  | _ => cases hf

/-- a finished `Complete(r)` call has returned, or died inside its callback loop -/
theorem finished_complete {l : Local R} {r : R} (hf : l.finished = true) (hp : l.prog = .complete r) :
    (∃ b, l = .cRet r b) ∨ l = .panicked (.complete r) := by
  cases l with
  | cRet r' b =>
    cases hp
    exact .inl ⟨b, rfl⟩
  | panicked p =>
    cases hp
    exact .inr rfl
  | rRet | oRet => cases hp
  | _ => cases hf

/-- a finished `Complete` call has completed the promise or found it completed -/
theorem done_of_finished_complete {sh : Shared R} {l : Local R} (hT : TInvA sh l)
    (hf : l.finished = true) (hc : l.prog.isComplete = true) : sh.cell.isDone = true := by
  cases l with
  | cRet r b =>
    cases b with
    | false => exact hT
    | true => rw [show sh.cell = .done r from hT]; rfl
  | panicked p =>
    cases p with
    | complete r => rw [show sh.cell = .done r from hT]; rfl
    | _ => cases hc
  | rRet | oRet => cases hc
  | _ => cases hf

/-- once done, the cell never changes -/
theorem done_step (v : Variant) {s s' : PSys R} {t : Tid} {r : R} (hinv : InvA s)
    (hd : s.shared.cell = .done r) (hstep : step (stepT v) s t = some s') :
    s'.shared.cell = .done r := by
  obtain ⟨l, sh', l', hl, htr, rfl⟩ := step_trans hstep
  have hTl := hinv.threads l (List.mem_of_getElem? hl)
  cases htr with
  | cCasOk hap => have := (hTl.2 hap).1; simp [hd, Cell.isDone] at this
  | rCasOk hap => have := (hTl.2 hap).1; simp [hd, Cell.isDone] at this
  | _ => exact hd

theorem done_run (v : Variant) {s : PSys R} {r : R} (hinv : InvA s) (hd : s.shared.cell = .done r)
    (sched : List Tid) : (prun v s sched).shared.cell = .done r := by
  have := inv_run (stepT := stepT v) (Inv := fun s => InvA s ∧ s.shared.cell = .done r)
    (fun s t s' h hs => ⟨InvA_step v s t s' h.1 hs, done_step v h.1 h.2 hs⟩) ⟨hinv, hd⟩ sched
  exact this.2

/-- the program of every thread is fixed -/
theorem prog_step (v : Variant) {s s' : PSys R} {t : Tid} (hstep : step (stepT v) s t = some s') :
    s'.threads.map Local.prog = s.threads.map Local.prog := by
  obtain ⟨l, sh', l', hl, htr, rfl⟩ := step_trans hstep
  have : l'.prog = l.prog := by
    cases htr with
    | cCasOk => exact (afterWin_won _ _ _).prog
    | cRun => exact (enterRun_won _ _ _ _).prog
    | _ => rfl
  exact map_set_of_eq hl this

theorem prog_run (v : Variant) (s : PSys R) (sched : List Tid) :
    (prun v s sched).threads.map Local.prog = s.threads.map Local.prog :=
  rel_run (Inv := fun _ => True)
    (Rel := fun s0 s => s.threads.map Local.prog = s0.threads.map Local.prog)
    (fun _ _ _ _ _ => trivial) (fun _ => rfl)
    (fun _ _ _ _ _ hr hs => (prog_step v hs).trans hr) trivial sched

theorem prog_start (zero : Bool) (p : Prog R) : (p.start zero).prog = p := by
  cases p <;> cases zero <;> rfl

theorem progs_init (zero : Bool) (progs : List (Prog R)) :
    (init zero progs).threads.map Local.prog = progs := by
  simp [init, List.map_map, Function.comp_def, prog_start]

/-! ### termination -/

/-- No thread ever blocks, so the CAS retry loops are the only obstacle to termination, and
    `measure` bounds them. -/
theorem progress (v : Variant) : Progress (stepT v) Local.finished (InvA (R := R)) measure where
  inv := InvA_step v
  dec := measure_step v
  halt := stepT_none_of_finished v
  enabled := fun s _ h => by
    obtain ⟨t, l, hl, hunf, hlt⟩ := exists_not_fin h
    exact ⟨t, hlt, step_isSome_of hl (stepT_isSome_of_not_finished v s.shared l hunf)⟩

/-! ### conservation (repaired algorithm) -/

theorem holds_start (c : Cb) (progs : List (Prog R)) :
    sumBy (holds c (emptyShared : Shared R)) (progs.map (Prog.start false)) = (regCbs progs).count c := by
  induction progs with
  | nil => rfl
  | cons p ps ih =>
    cases p with
    | complete r => simpa [sumBy, Prog.start, holds, regCbs] using ih
    | register cb =>
      simp only [List.map_cons, sumBy, Prog.start, regCbs, List.count_cons, ih]
      simp [holds]
      omega
    | observe => simpa [sumBy, Prog.start, holds, regCbs] using ih

theorem InvB_init (progs : List (Prog R)) :
    InvB (fun c => (regCbs progs).count c) (init false progs) := by
  refine ⟨?_, ?_, ?_⟩
  · intro l hl
    simp only [init, List.mem_map] at hl
    obtain ⟨p, _, rfl⟩ := hl
    cases p <;> simp [Prog.start, TInvB]
  · intro sl h; simp [init, emptyShared] at h
  · intro c
    simp only [occ, init, holds_start]
    simp [cellCount, logCount, emptyShared]

theorem InvAB_run {total : Cb → Nat} {s : PSys R} (hA : InvA s) (hB : InvB total s)
    (sched : List Tid) :
    InvA (prun .copyFirst s sched) ∧ InvB total (prun .copyFirst s sched) :=
  inv_run (stepT := stepT .copyFirst) (Inv := fun s => InvA s ∧ InvB total s)
    (fun s t s' h hs => ⟨InvA_step _ s t s' h.1 hs, InvB_step s t s' h.1 h.2 hs⟩) ⟨hA, hB⟩ sched

end FpVerif.Promise
