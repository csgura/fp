import FpVerif.Model.CollExpr
import FpVerif.Lemmas.IM
import FpVerif.Lemmas.CellArray
/-!
# The lazy `fp.List` over elements `El` (package `list`, derived combinators): memo cells

`Lemmas/ListMemo.lean`, its `Heap.WF` part, for the heap of `Model/CollList.lean`:

* a `done` cell is returned without running anything (`forceH_done`, `forceT_done`, `forceL_done`);
* `Heap.WF` (a pending closure was started 0 times, a running / done one exactly once) is kept by
  every operation (`presAll`), by the cursor loop `toSeq` and by `LX.evalF`;
* `isEmpty` / `head` / `tail` evaluated on plain lists (`.nil`, `.seq xs`), `toSeq` on `.seq xs`.
-/
namespace FpVerif.Coll
open FpVerif.It
open FpVerif.MemoPanic (Good)
open FpVerif.LL (arr_push_ok arr_set_ok foldl_max_le)

/-! ## `LX.eval` with the fuel as a parameter -/

def LX.evalF (fuel : Nat) : LX → HM LV
  | .of xs => pure (lOf xs)
  | .map e f => do let l ← e.evalF fuel; lMap l f
  | .lift f e => do let l ← e.evalF fuel; lLift f l
  | .flatMap e k => do let l ← e.evalF fuel; Coll.flatMap fuel l (.user k)
  | .compose k1 k2 a => lCompose fuel k1 k2 a
  | .composePure f a => lComposePure f a
  | .flatten e => do let l ← e.evalF fuel; lFlatten fuel l
  | .ap t a => do let lt ← t.evalF fuel; let la ← a.evalF fuel; lAp fuel lt la
  | .map2 a b g => do let la ← a.evalF fuel; let lb ← b.evalF fuel; lMap2 fuel la lb g
  | .flap t a => do let lt ← t.evalF fuel; lFlap fuel lt a
  | .flap2 t a b => do let lt ← t.evalF fuel; lFlap2 fuel lt a b
  | .flapMap g a b => do let la ← a.evalF fuel; lFlapMap fuel g la b
  | .method1 ta g b => do let la ← ta.evalF fuel; lMethod1 fuel la g b
  | .method2 ta h b c => do let la ← ta.evalF fuel; lMethod2 fuel la h b c

theorem LX.eval_eq_evalF (e : LX) : e.eval = e.evalF FUEL := by
  induction e <;> simp only [LX.eval, LX.evalF, *]

/-! ## memoisation: a done cell is never run again -/

theorem forceH_done (fuel c : Nat) (hp : Heap) (lg : Log) (v : Option El) (n : Nat)
    (h : hp.hs[c]? = some (.done v, n)) : Coll.forceH (fuel + 1) c hp lg = (.ok v, hp, lg) := by
  rw [Coll.forceH, bind_apply, get_apply]
  simp only [h, pure_apply]

theorem forceT_done (fuel c : Nat) (hp : Heap) (lg : Log) (v : LV) (n : Nat)
    (h : hp.ts[c]? = some (.done v, n)) : Coll.forceT (fuel + 1) c hp lg = (.ok v, hp, lg) := by
  rw [Coll.forceT, bind_apply, get_apply]
  simp only [h, pure_apply]

theorem forceL_done (fuel c : Nat) (hp : Heap) (lg : Log) (v : LV) (n : Nat)
    (h : hp.ls[c]? = some (.done v, n)) : Coll.forceL (fuel + 1) c hp lg = (.ok v, hp, lg) := by
  rw [Coll.forceL, bind_apply, get_apply]
  simp only [h, pure_apply]

/-! ## the interface operations on plain lists (`list.Nil`, `list.Seq`) -/

theorem isEmpty_nil (fuel : Nat) (hp : Heap) (lg : Log) :
    Coll.isEmpty (fuel + 1) .nil hp lg = (.ok true, hp, lg) := by
  rw [Coll.isEmpty.eq_def]; rfl

theorem isEmpty_seq (fuel : Nat) (xs : List El) (hp : Heap) (lg : Log) :
    Coll.isEmpty (fuel + 1) (.seq xs) hp lg = (.ok xs.isEmpty, hp, lg) := by
  rw [Coll.isEmpty.eq_def]; rfl

theorem head_seq (fuel : Nat) (x : El) (xs : List El) (hp : Heap) (lg : Log) :
    Coll.head (fuel + 1) (.seq (x :: xs)) hp lg = (.ok x, hp, lg) := by
  rw [Coll.head.eq_def]; rfl

theorem tail_nil (fuel : Nat) (hp : Heap) (lg : Log) :
    Coll.tail (fuel + 1) .nil hp lg = (.ok .nil, hp, lg) := by
  rw [Coll.tail.eq_def]; rfl

theorem tail_seq (fuel : Nat) (x : El) (xs : List El) (hp : Heap) (lg : Log) :
    Coll.tail (fuel + 1) (.seq (x :: xs)) hp lg = (.ok (.seq xs), hp, lg) := by
  rw [Coll.tail.eq_def]; rfl

theorem tail_seq_nil (fuel : Nat) (hp : Heap) (lg : Log) :
    Coll.tail (fuel + 1) (.seq []) hp lg = (.ok .nil, hp, lg) := by
  rw [Coll.tail.eq_def]; rfl

/-- the cursor loop over a slice-backed list returns the slice; heap and log untouched -/
theorem toSeq_seq : ∀ (xs : List El) (fuel : Nat) (acc : List El) (hp : Heap) (lg : Log),
    xs.length + 1 < fuel → Coll.toSeq fuel (.seq xs) acc hp lg = (.ok (acc ++ xs), hp, lg) := by
  intro xs
  induction xs with
  | nil =>
    intro fuel acc hp lg hf
    obtain ⟨f, rfl⟩ := Nat.exists_eq_succ_of_ne_zero (by omega : fuel ≠ 0)
    obtain ⟨f, rfl⟩ := Nat.exists_eq_succ_of_ne_zero (by simp at hf; omega : f ≠ 0)
    simp [Coll.toSeq, bind_ok (isEmpty_seq f [] hp lg)]
  | cons x xs ih =>
    intro fuel acc hp lg hf
    obtain ⟨g, rfl⟩ := Nat.exists_eq_succ_of_ne_zero (by omega : fuel ≠ 0)
    obtain ⟨f, hfe⟩ := Nat.exists_eq_succ_of_ne_zero (by simp at hf; omega : g ≠ 0)
    have h4 := ih g (acc ++ [x]) hp lg (by simp at hf ⊢; omega)
    have e1 : Coll.isEmpty g (.seq (x :: xs)) hp lg = (.ok false, hp, lg) := by rw [hfe]; exact isEmpty_seq f _ hp lg
    have e2 : Coll.head g (.seq (x :: xs)) hp lg = (.ok x, hp, lg) := by rw [hfe]; exact head_seq f x xs hp lg
    have e3 : Coll.tail g (.seq (x :: xs)) hp lg = (.ok (.seq xs), hp, lg) := by rw [hfe]; exact tail_seq f x xs hp lg
    simp [Coll.toSeq, bind_ok e1, bind_ok e2, bind_ok e3, h4]

theorem toSeq_nil (fuel : Nat) (acc : List El) (hp : Heap) (lg : Log) :
    Coll.toSeq (fuel + 2) .nil acc hp lg = (.ok acc, hp, lg) := by
  rw [Coll.toSeq, bind_ok (isEmpty_nil fuel hp lg)]
  rfl

/-! ## every memo cell's closure is started at most once -/

/-- a pending cell has never been started, a running or done cell exactly once -/
def cellOk {T V : Type} : Cell T V × Nat → Prop
  | (.pending _, n) => n = 0
  | (_, n) => n = 1

structure Heap.WF (hp : Heap) : Prop where
  hs : ∀ (i : Nat) c, hp.hs[i]? = some c → cellOk c
  ts : ∀ (i : Nat) c, hp.ts[i]? = some c → cellOk c
  ls : ∀ (i : Nat) c, hp.ls[i]? = some c → cellOk c

theorem Heap.WF.empty : ({} : Heap).WF := ⟨by simp, by simp, by simp⟩

/-- the computation keeps the heap well-formed (whether it returns or panics) -/
def Pres {X : Type} (m : HM X) : Prop := ∀ hp lg, hp.WF → (m hp lg).2.1.WF

theorem wfPre : Pre fun (hp hp' : Heap) => hp.WF → hp'.WF := Pre.imp _

theorem pres_makeList (h : HThunk) (t : TThunk) : Pres (makeList h t) := by
  intro hp lg wf
  exact ⟨arr_push_ok wf.hs rfl, arr_push_ok wf.ts rfl, wf.ls⟩

theorem pres_lMap (l : LV) (f : Fn) : Pres (lMap l f) := pres_makeList _ _

theorem pres_allocLazy (opt : LV) (k : KL) : Pres (allocLazy opt k) := by
  intro hp lg wf
  exact ⟨wf.hs, wf.ts, arr_push_ok wf.ls rfl⟩

theorem pres_setH (c : Nat) (x : Cell HThunk (Option El) × Nat) (hx : cellOk x) :
    Pres (IM.modify fun hp => { hp with hs := hp.hs.set! c x } : HM Unit) :=
  fun _ _ wf => ⟨arr_set_ok c wf.hs hx, wf.ts, wf.ls⟩

theorem pres_setT (c : Nat) (x : Cell TThunk LV × Nat) (hx : cellOk x) :
    Pres (IM.modify fun hp => { hp with ts := hp.ts.set! c x } : HM Unit) :=
  fun _ _ wf => ⟨wf.hs, arr_set_ok c wf.ts hx, wf.ls⟩

theorem pres_setL (c : Nat) (x : Cell (LV × KL) LV × Nat) (hx : cellOk x) :
    Pres (IM.modify fun hp => { hp with ls := hp.ls.set! c x } : HM Unit) :=
  fun _ _ wf => ⟨wf.hs, wf.ts, arr_set_ok c wf.ls hx⟩

theorem pres_forceH {fuel : Nat} (ih : ∀ t, Pres (Coll.runH fuel t)) (c : Nat) : Pres (Coll.forceH (fuel + 1) c) := by
  intro hp lg wf
  rw [Coll.forceH]
  simp only [bind_apply, get_apply]
  rcases hcell : hp.hs[c]? with _ | ⟨t | _ | w, n⟩
  · exact wf
  · cases (wf.hs c _ hcell : n = 0)
    exact (wfPre.bind (pres_setH c (.running, 0 + 1) rfl) fun _ => wfPre.bind (ih t) fun v =>
      wfPre.bind (pres_setH c (.done v, 0 + 1) rfl) fun _ => wfPre.pure v) hp lg wf
  · exact wf
  · exact wf

theorem pres_forceT {fuel : Nat} (ih : ∀ t, Pres (Coll.runT fuel t)) (c : Nat) : Pres (Coll.forceT (fuel + 1) c) := by
  intro hp lg wf
  rw [Coll.forceT]
  simp only [bind_apply, get_apply]
  rcases hcell : hp.ts[c]? with _ | ⟨t | _ | w, n⟩
  · exact wf
  · cases (wf.ts c _ hcell : n = 0)
    exact (wfPre.bind (pres_setT c (.running, 0 + 1) rfl) fun _ => wfPre.bind (ih t) fun v =>
      wfPre.bind (pres_setT c (.done v, 0 + 1) rfl) fun _ => wfPre.pure v) hp lg wf
  · exact wf
  · exact wf

theorem pres_forceL {fuel : Nat} (ihh : ∀ l, Pres (Coll.head fuel l)) (ihk : ∀ k x, Pres (Coll.applyK fuel k x)) (c : Nat) :
    Pres (Coll.forceL (fuel + 1) c) := by
  intro hp lg wf
  rw [Coll.forceL]
  simp only [bind_apply, get_apply]
  rcases hcell : hp.ls[c]? with _ | ⟨⟨opt, k⟩ | _ | w, n⟩
  · exact wf
  · cases (wf.ls c _ hcell : n = 0)
    exact (wfPre.bind (pres_setL c (.running, 0 + 1) rfl) fun _ => wfPre.bind (ihh opt) fun x =>
      wfPre.bind (ihk k x) fun v => wfPre.bind (pres_setL c (.done v, 0 + 1) rfl) fun _ => wfPre.pure v) hp lg wf
  · exact wf
  · exact wf

structure PresAll (fuel : Nat) : Prop where
  isEmpty : ∀ l, Pres (Coll.isEmpty fuel l)
  head : ∀ l, Pres (Coll.head fuel l)
  tail : ∀ l, Pres (Coll.tail fuel l)
  headOpt : ∀ l, Pres (Coll.headOpt fuel l)
  forceH : ∀ c, Pres (Coll.forceH fuel c)
  forceT : ∀ c, Pres (Coll.forceT fuel c)
  forceL : ∀ c, Pres (Coll.forceL fuel c)
  applyK : ∀ k x, Pres (Coll.applyK fuel k x)
  runH : ∀ t, Pres (Coll.runH fuel t)
  runT : ∀ t, Pres (Coll.runT fuel t)
  flatMap : ∀ l k, Pres (Coll.flatMap fuel l k)
  combine : ∀ a b, Pres (Coll.combine fuel a b)

theorem PresAll.zero : PresAll 0 :=
  ⟨fun _ => wfPre.panic _, fun _ => wfPre.panic _, fun _ => wfPre.panic _, fun _ => wfPre.panic _,
   fun _ => wfPre.panic _, fun _ => wfPre.panic _, fun _ => wfPre.panic _, fun _ _ => wfPre.panic _,
   fun _ => wfPre.panic _, fun _ => wfPre.panic _, fun _ _ => wfPre.panic _, fun _ _ => wfPre.panic _⟩

theorem PresAll.succ {n : Nat} (ih : PresAll n) : PresAll (n + 1) where
  isEmpty
    | .nil => wfPre.pure _
    | .seq _ => wfPre.pure _
    | .adaptor hc _ => wfPre.bind (ih.forceH hc) fun _ => wfPre.pure _
  head
    | .nil => wfPre.panic _
    | .seq [] => wfPre.panic _
    | .seq (_ :: _) => wfPre.pure _
    | .adaptor hc _ => wfPre.bind (ih.forceH hc) fun
      | some _ => wfPre.pure _
      | none => wfPre.panic _
  tail
    | .nil => wfPre.pure _
    | .seq [] => wfPre.pure _
    | .seq (_ :: _) => wfPre.pure _
    | .adaptor _ tc => ih.forceT tc
  headOpt l := wfPre.bind (ih.isEmpty l) fun _ => Good.ite (wfPre.pure _) (wfPre.bind (ih.head l) fun _ => wfPre.pure _)
  forceH := pres_forceH ih.runH
  forceT := pres_forceT ih.runT
  forceL := pres_forceL ih.head ih.applyK
  applyK
    | .user _, _ => wfPre.bind (wfPre.liftG _) fun _ => wfPre.pure _
    | .ident, .coll _ _ => wfPre.pure _
    | .ident, .v _ => wfPre.panic _
    | .ident, .fn _ => wfPre.panic _
    | .apInner _, .fn _ => pres_lMap _ _
    | .apInner _, .v _ => wfPre.panic _
    | .apInner _, .coll _ _ => wfPre.panic _
    | .map2Inner _ _, _ => pres_lMap _ _
  runH
    | .map opt _ => wfPre.bind (ih.headOpt opt) fun
      | some _ => wfPre.bind (wfPre.liftG _) fun _ => wfPre.pure _
      | none => wfPre.pure _
    | .flatMap lz tl k => wfPre.bind (ih.forceL lz) fun hl => wfPre.bind (ih.isEmpty hl) fun _ => Good.ite
        (wfPre.bind (ih.flatMap tl k) fun rest => ih.headOpt rest)
        (wfPre.bind (ih.head hl) fun _ => wfPre.pure _)
    | .combine l1 => wfPre.bind (ih.head l1) fun _ => wfPre.pure _
  runT
    | .map opt _ => wfPre.bind (ih.tail opt) fun _ => pres_lMap _ _
    | .flatMap lz tl k => wfPre.bind (ih.forceL lz) fun hl => wfPre.bind (ih.isEmpty hl) fun _ => Good.ite
        (wfPre.bind (ih.flatMap tl k) fun rest => ih.tail rest)
        (wfPre.bind (ih.tail hl) fun ht => wfPre.bind (ih.flatMap tl k) fun rest => ih.combine ht rest)
    | .combine l1 l2 => wfPre.bind (ih.tail l1) fun t => wfPre.bind (ih.isEmpty t) fun _ => Good.ite
        (ih.combine t l2) (wfPre.pure _)
  flatMap opt _ := wfPre.bind (ih.isEmpty opt) fun _ => Good.ite (wfPre.pure _)
    (wfPre.bind (pres_allocLazy _ _) fun _ => wfPre.bind (ih.tail opt) fun _ => pres_makeList _ _)
  combine l1 _ := wfPre.bind (ih.isEmpty l1) fun _ => Good.ite (wfPre.pure _) (pres_makeList _ _)

theorem presAll : ∀ fuel, PresAll fuel
  | 0 => PresAll.zero
  | n + 1 => (presAll n).succ

theorem pres_toSeq : ∀ fuel l acc, Pres (Coll.toSeq fuel l acc) := by
  intro fuel
  induction fuel with
  | zero => intro l acc; exact wfPre.panic _
  | succ n ih =>
    intro l acc
    have hA := presAll n
    simp only [Coll.toSeq]
    refine wfPre.bind (hA.isEmpty l) (fun b => ?_)
    cases b
    · exact wfPre.bind (hA.head l) (fun v => wfPre.bind (hA.tail l) (fun t => ih t _))
    · exact wfPre.pure _

theorem pres_lAp (fuel : Nat) (t a : LV) : Pres (lAp fuel t a) := (presAll fuel).flatMap _ _

theorem pres_evalF (fuel : Nat) : ∀ e : LX, Pres (e.evalF fuel) := by
  have hA := presAll fuel
  intro e
  induction e with
  | of xs => exact wfPre.pure _
  | map e f ih => exact wfPre.bind ih (fun _ => pres_lMap _ _)
  | lift f e ih => exact wfPre.bind ih (fun _ => pres_lMap _ _)
  | flatMap e k ih => exact wfPre.bind ih (fun _ => hA.flatMap _ _)
  | compose k1 k2 a => exact wfPre.bind (wfPre.liftG _) (fun _ => hA.flatMap _ _)
  | composePure f a => exact wfPre.bind (wfPre.liftG _) (fun _ => wfPre.pure _)
  | flatten e ih => exact wfPre.bind ih (fun _ => hA.flatMap _ _)
  | ap t a iht iha => exact wfPre.bind iht (fun _ => wfPre.bind iha (fun _ => hA.flatMap _ _))
  | map2 a b g iha ihb => exact wfPre.bind iha (fun _ => wfPre.bind ihb (fun _ => hA.flatMap _ _))
  | flap t a ih => exact wfPre.bind ih (fun _ => hA.flatMap _ _)
  | flap2 t a b ih => exact wfPre.bind ih (fun _ => wfPre.bind (hA.flatMap _ _) (fun _ => hA.flatMap _ _))
  | flapMap g a b ih => exact wfPre.bind ih (fun _ => wfPre.bind (pres_lMap _ _) (fun _ => hA.flatMap _ _))
  | method1 ta g b ih => exact wfPre.bind ih (fun _ => wfPre.bind (pres_lMap _ _) (fun _ => hA.flatMap _ _))
  | method2 ta h b c ih =>
    exact wfPre.bind ih (fun _ => wfPre.bind (pres_lMap _ _) (fun _ => wfPre.bind (hA.flatMap _ _) (fun _ => hA.flatMap _ _)))

theorem cellOk_le {T V : Type} (c : Cell T V × Nat) (h : cellOk c) : c.2 ≤ 1 := by
  rcases c with ⟨_ | _ | _, n⟩ <;> simp [cellOk] at h <;> omega

theorem WF.maxEvals_le (hp : Heap) (wf : hp.WF) : hp.maxEvals ≤ 1 := by
  unfold Heap.maxEvals
  apply foldl_max_le _ _ _ (fun i c hc => cellOk_le c (wf.ls i c hc))
  apply foldl_max_le _ _ _ (fun i c hc => cellOk_le c (wf.ts i c hc))
  apply foldl_max_le _ _ _ (fun i c hc => cellOk_le c (wf.hs i c hc))
  omega

end FpVerif.Coll
