import FpVerif.Lemmas.ListTot
import FpVerif.Lemmas.ListLoops
/-!
# Lazy list: from the typing to the interface contract
-/
namespace FpVerif.LL
open FpVerif.It

/-- the heap is consistent with the typing `S` and no `sync.Once` is currently executing (we are
    between two library calls) -/
structure WellTyped (S : Sty) (hp : Heap) : Prop where
  cons : Cons S hp
  idle : RunSub hp {}

theorem WellTyped.empty : WellTyped Sty.empty {} := ⟨Cons.empty, RunSub.refl _⟩

theorem WellTyped.quiet {S : Sty} {hp : Heap} (h : WellTyped S hp) (K : Nat) : Quiet K S hp := by
  refine ⟨fun c n hc => ?_, fun c n hc => ?_, fun c n hc => ?_⟩
  · obtain ⟨_, h'⟩ := h.idle.hs c n hc; simp at h'
  · obtain ⟨_, h'⟩ := h.idle.ts c n hc; simp at h'
  · obtain ⟨_, h'⟩ := h.idle.ls c n hc; simp at h'

theorem WellTyped.post {S S' : Sty} {hp hp' : Heap} (h : WellTyped S hp) (hP : Post S hp S' hp') :
    WellTyped S' hp' := ⟨hP.cons, hP.run.trans h.idle⟩

/-- "in heap `hp` the value `l` represents the list `xs`, and every interface operation on it and
    on its tails succeeds with fuel `k`" -/
def HeapRep (k : Nat) (hp : Heap) (l : LV) (xs : List Val) : Prop :=
  ∃ S, WellTyped S hp ∧ VDen S l (.fin xs) k

/-- `HeapRep` relative to a start typing `S`: the heap is typed by an extension of `S` -/
def TypedFrom (S : Sty) (k : Nat) (hp : Heap) (l : LV) (xs : List Val) : Prop :=
  ∃ S', WellTyped S' hp ∧ Ext S S' ∧ VDen S' l (.fin xs) k

/-- typed values satisfy the `fp.List` interface contract, and the typing only grows -/
theorem typedFrom_lsim (S : Sty) (k : Nat) : LSim k (TypedFrom S k) where
  isEmpty := by
    rintro fuel hp l xs lg hk ⟨S1, hW, hE, hV⟩
    obtain ⟨b, S', hp', lg', e, hP, hb⟩ := (totAll fuel).isEmpty S1 hp l _ k hW.cons hV hk (hW.quiet k) lg
    subst hb
    exact ⟨hp', lg', e, S', hW.post hP, hE.trans hP.ext, hV.ext hP.ext⟩
  head := by
    rintro fuel hp l x xs lg hk ⟨S1, hW, hE, hV⟩
    obtain ⟨v, S', hp', lg', e, hP, hv⟩ := (totAll fuel).head S1 hp l _ k x hW.cons hV rfl hk (hW.quiet k) lg
    subst hv
    exact ⟨hp', lg', e, S', hW.post hP, hE.trans hP.ext, hV.ext hP.ext⟩
  tail := by
    rintro fuel hp l x xs lg hk ⟨S1, hW, hE, hV⟩
    obtain ⟨t, S', hp', lg', e, hP, ht⟩ := (totAll fuel).tail S1 hp l _ k hW.cons hV rfl hk (hW.quiet k) lg
    exact ⟨t, hp', lg', e, S', hW.post hP, hE.trans hP.ext, ht⟩

theorem Ext.empty (S : Sty) : Ext Sty.empty S :=
  ⟨Nat.zero_le _, Nat.zero_le _, Nat.zero_le _, fun _ h => absurd h (Nat.not_lt_zero _),
   fun _ h => absurd h (Nat.not_lt_zero _), fun _ h => absurd h (Nat.not_lt_zero _)⟩

theorem heapRep_eq (k : Nat) : HeapRep k = TypedFrom Sty.empty k := by
  funext hp l xs
  exact propext ⟨fun ⟨S, hW, hV⟩ => ⟨S, hW, Ext.empty S, hV⟩, fun ⟨S, hW, _, hV⟩ => ⟨S, hW, hV⟩⟩

/-- the representation relation of the typing satisfies the `fp.List` interface contract -/
theorem heapRep_lsim (k : Nat) : LSim k (HeapRep k) := heapRep_eq k ▸ typedFrom_lsim Sty.empty k

/-- evaluating an expression in a well-typed heap: a well-typed heap and a value typed with the
    expression's denotation -/
theorem eval_typed (e : LExpr) (x : Val) (hpure : e.Pure) (S : Sty) (hp : Heap) (hW : WellTyped S hp)
    (fuel : Nat) (hfuel : e.bnd x ≤ fuel) (lg : Log) :
    ∃ l S' hp' lg', LL.eval fuel e x hp lg = (.ok l, hp', lg') ∧ WellTyped S' hp' ∧ Ext S S' ∧
      VDen S' l (.fin (e.denote x)) (e.bnd x) := by
  obtain ⟨l, S', hp', lg', he, hP, hV⟩ := (totAll fuel).eval S hp e x hW.cons hpure hfuel (hW.quiet _) lg
  exact ⟨l, S', hp', lg', he, hW.post hP, hP.ext, hV⟩

/-- from the empty heap: the value represents the denotation, every cell started at most once -/
theorem eval_rep (e : LExpr) (x : Val) (hpure : e.Pure) (fuel : Nat) (hfuel : e.bnd x ≤ fuel) (lg : Log) :
    ∃ l hp lg', LL.eval fuel e x {} lg = (.ok l, hp, lg') ∧ HeapRep (e.bnd x) hp l (e.denote x) ∧ hp.WF := by
  obtain ⟨l, S', hp', lg', he, hW, _, hV⟩ := eval_typed e x hpure _ _ WellTyped.empty fuel hfuel lg
  exact ⟨l, hp', lg', he, ⟨S', hW, hV⟩, Pres.wf_run ((presAll fuel).eval e x) Heap.WF.empty he⟩

end FpVerif.LL
