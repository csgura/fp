import FpVerif.Model.CollMonad
import FpVerif.Lemmas.IterComb
/-!
# package `iterator`: FlatMap with a shared one-shot continuation iterator (`flatMapShared`), the
# instrumented source `srcS`, and the `Represents` forms of the C12 simulation lemmas

`Spec/C01Coll` derives the combinators `Ap` … `Method2` and the monad laws of `It.flatMap` from these.
-/
namespace FpVerif.Coll
open FpVerif.It

variable {σ σ₂ τ α β φ : Type}

/-- the history argument of `Represents` is ghost: it can be reset. -/
theorem represents_reset (m : Machine σ α) (s : σ) (d r : List α) (h : Represents m s d r) :
    Represents m s [] r := h.reset

/-- `toSeq` with a postcondition established by the last (`false`) `hasNext`. -/
theorem toSeq_spec_post {m : Machine σ α} {R : σ → List α → List α → Prop} (hS : Sim m R)
    {P : σ → Prop}
    (hP : ∀ s d lg, R s d [] → ∃ s' lg', m.hasNext s lg = (.ok false, s', lg') ∧ R s' d [] ∧ P s') :
    ∀ (r : List α) (fuel : Nat) (s : σ) (d acc : List α) (lg : Log), r.length < fuel → R s d r →
      ∃ s' lg', toSeq m fuel acc s lg = (.ok (acc ++ r), s', lg') ∧ R s' (d ++ r) [] ∧ P s' := by
  intro r
  induction r with
  | nil =>
    intro fuel s d acc lg hf hR
    obtain ⟨k, rfl⟩ := Nat.exists_eq_succ_of_ne_zero (by omega : fuel ≠ 0)
    obtain ⟨s1, lg1, h1, hR1, hP1⟩ := hP s d lg hR
    exact ⟨s1, lg1, by simp [toSeq, bind_ok h1], by simpa using hR1, hP1⟩
  | cons a r ih =>
    intro fuel s d acc lg hf hR
    obtain ⟨k, rfl⟩ := Nat.exists_eq_succ_of_ne_zero (by omega : fuel ≠ 0)
    obtain ⟨s1, lg1, h1, hR1⟩ := hS.hasNext s d (a :: r) lg hR
    simp only [List.isEmpty_cons, Bool.not_false] at h1
    obtain ⟨s2, lg2, h2, hR2⟩ := hS.next_cons s1 d a r lg1 hR1
    obtain ⟨s', lg', h3, hR3, hP3⟩ := ih k s2 (d ++ [a]) (acc ++ [a]) lg2 (by simpa using hf) hR2
    exact ⟨s', lg', by simp [toSeq, bind_ok h1, bind_ok h2, h3], by simpa using hR3, hP3⟩

/-! ## `flatMapShared` -/

/-- what `flatMapShared` will still deliver: nothing pulled yet (`current = none`) — the first
    outer element applied to all of `shared`; afterwards — `current` applied to the rest of
    `shared`, whatever is left in `outer`. -/
def sharedOut (g : φ → α → β) (cur : Option φ) (dO rO : List φ) (rS : List α) (r' : List β) : Prop :=
  match cur with
  | none => dO = [] ∧ r' = (match rO with | [] => [] | v :: _ => rS.map (g v))
  | some v => r' = rS.map (g v)

/-- simulation relation of `flatMapShared` (the delivered part `_d'` is not constrained). -/
def SharedRel (fuel : Nat) (g : φ → α → β) (Ro : σ → List φ → List φ → Prop)
    (Rs : σ₂ → List α → List α → Prop) (sc : (σ × σ₂) × Option φ) (_d' r' : List β) : Prop :=
  ∃ dO rO dS rS, Ro sc.1.1 dO rO ∧ Rs sc.1.2 dS rS ∧ rO.length < fuel ∧ sharedOut g sc.2 dO rO rS r'

/-- one turn of the loop when `outer` is exhausted -/
theorem sharedLoop_done {outer : Machine σ φ} {shared : Machine σ₂ α} (k : Nat) {so so1 : σ} (ss : σ₂)
    (cur : Option φ) {lg lg1 : Log} (h1 : outer.hasNext so lg = (.ok false, so1, lg1)) :
    sharedLoop outer shared (k + 1) ((so, ss), cur) lg = (.ok false, ((so1, ss), cur), lg1) := by
  simp [sharedLoop, bind_apply, onFst_eq cur (onFst_eq ss h1)]

/-- one turn of the loop when `outer` delivers `a`: the loop stops iff `shared` has a next element -/
theorem sharedLoop_pull {outer : Machine σ φ} {shared : Machine σ₂ α} (k : Nat) {so so1 so2 : σ} {ss ss3 : σ₂}
    (cur : Option φ) {a : φ} {b : Bool} {lg lg1 lg2 lg3 : Log}
    (h1 : outer.hasNext so lg = (.ok true, so1, lg1)) (h2 : outer.next so1 lg1 = (.ok a, so2, lg2))
    (h3 : shared.hasNext ss lg2 = (.ok b, ss3, lg3)) :
    sharedLoop outer shared (k + 1) ((so, ss), cur) lg =
      bif b then (.ok true, ((so2, ss3), some a), lg3) else sharedLoop outer shared k ((so2, ss3), some a) lg3 := by
  cases b <;>
    simp [sharedLoop, bind_apply, onFst_eq cur (onFst_eq ss h1), onFst_eq cur (onFst_eq ss h2),
      onFst_eq (some a) (onSnd_eq so2 h3)]

theorem flatMapShared_hasNext_some (fuel : Nat) (h : φ → α → GoM β) {outer : Machine σ φ} {shared : Machine σ₂ α}
    (so : σ) {ss ss1 : σ₂} (v : φ) {b : Bool} {lg lg1 : Log} (h1 : shared.hasNext ss lg = (.ok b, ss1, lg1)) :
    (flatMapShared fuel h outer shared).hasNext ((so, ss), some v) lg =
      bif b then (.ok true, ((so, ss1), some v), lg1) else sharedLoop outer shared fuel ((so, ss1), some v) lg1 := by
  cases b <;> simp [flatMapShared, bind_apply, onFst_eq (some v) (onSnd_eq so h1)]

theorem flatMapShared_hasNext_none (fuel : Nat) (h : φ → α → GoM β) (outer : Machine σ φ) (shared : Machine σ₂ α)
    (so : σ) (ss : σ₂) (lg : Log) :
    (flatMapShared fuel h outer shared).hasNext ((so, ss), none) lg = sharedLoop outer shared fuel ((so, ss), none) lg := by
  rfl
/-- once `shared` is exhausted the loop consumes ALL of `outer`, leaves `current` at the last
    element pulled and answers `false`. -/
theorem sharedLoop_drain {outer : Machine σ φ} {Ro : σ → List φ → List φ → Prop} (hO : Sim outer Ro)
    {shared : Machine σ₂ α} {Rs : σ₂ → List α → List α → Prop} (hSh : Sim shared Rs) :
    ∀ (rO : List φ) (fuel : Nat) (so : σ) (ss : σ₂) (dO : List φ) (dS : List α) (cur : Option φ)
      (lg : Log), rO.length < fuel → Ro so dO rO → Rs ss dS [] →
      ∃ so' ss' cur' lg', sharedLoop outer shared fuel ((so, ss), cur) lg =
          (.ok false, ((so', ss'), cur'), lg') ∧
        Ro so' (dO ++ rO) [] ∧ Rs ss' dS [] ∧ (cur' = none → cur = none ∧ rO = []) := by
  intro rO
  induction rO with
  | nil =>
    intro fuel so ss dO dS cur lg hf hRo hRs
    obtain ⟨k, rfl⟩ := Nat.exists_eq_succ_of_ne_zero (by omega : fuel ≠ 0)
    obtain ⟨so1, lg1, h1, hR1⟩ := hO.hasNext so dO [] lg hRo
    simp only [List.isEmpty_nil, Bool.not_true] at h1
    exact ⟨so1, ss, cur, lg1, sharedLoop_done k ss cur h1, by simpa using hR1, hRs, fun h => ⟨h, rfl⟩⟩
  | cons a r ih =>
    intro fuel so ss dO dS cur lg hf hRo hRs
    obtain ⟨k, rfl⟩ := Nat.exists_eq_succ_of_ne_zero (by omega : fuel ≠ 0)
    obtain ⟨so1, lg1, h1, hR1⟩ := hO.hasNext so dO (a :: r) lg hRo
    obtain ⟨so2, lg2, h2, hR2⟩ := hO.next_cons so1 dO a r lg1 hR1
    obtain ⟨ss3, lg3, h3, hR3⟩ := hSh.hasNext ss dS [] lg2 hRs
    simp only [List.isEmpty_cons, Bool.not_false] at h1
    simp only [List.isEmpty_nil, Bool.not_true] at h3
    obtain ⟨so', ss', cur', lg', h4, hRo4, hRs4, hc4⟩ :=
      ih k so2 ss3 (dO ++ [a]) dS (some a) lg3 (by simpa using hf) hR2 hR3
    refine ⟨so', ss', cur', lg', ?_, by simpa using hRo4, hRs4, fun h => by simpa using (hc4 h).1⟩
    rw [sharedLoop_pull k cur h1 h2 h3]
    exact h4

/-- `hasNext` of `flatMapShared`: the answer, the invariant, and what the state looks like
    afterwards (`current` is set when something is left; `outer` is drained when nothing is). -/
theorem flatMapShared_hasNext {h : φ → α → GoM β} {g : φ → α → β} (fuel : Nat)
    {outer : Machine σ φ} {Ro : σ → List φ → List φ → Prop} (hO : Sim outer Ro)
    {shared : Machine σ₂ α} {Rs : σ₂ → List α → List α → Prop} (hSh : Sim shared Rs)
    (so : σ) (ss : σ₂) (cur : Option φ) (d' r' : List β) (lg : Log)
    (hrel : SharedRel fuel g Ro Rs ((so, ss), cur) d' r') :
    ∃ so' ss' cur' lg', (flatMapShared fuel h outer shared).hasNext ((so, ss), cur) lg =
        (.ok (!r'.isEmpty), ((so', ss'), cur'), lg') ∧
      ∃ dO rO dS rS, Ro so' dO rO ∧ Rs ss' dS rS ∧ rO.length < fuel ∧ sharedOut g cur' dO rO rS r' ∧
        (r' ≠ [] → ∃ v, cur' = some v) ∧ (r' = [] → rO = [] ∧ (dO ≠ [] → rS = [])) := by
  obtain ⟨dO, rO, dS, rS, hRo, hRs, hf, hout⟩ := hrel
  simp only at hRo hRs hout
  -- the loop, entered with `shared` exhausted
  have hdrain : ∀ (ss1 : σ₂) (cur1 : Option φ) (lg1 : Log), Rs ss1 dS [] → rS = [] →
      (cur1 = none → dO = [] ∧ cur = none) → r' = [] →
      ∃ so' ss' cur' lg', sharedLoop outer shared fuel ((so, ss1), cur1) lg1 =
          (.ok false, ((so', ss'), cur'), lg') ∧
        ∃ dO rO dS rS, Ro so' dO rO ∧ Rs ss' dS rS ∧ rO.length < fuel ∧ sharedOut g cur' dO rO rS r' ∧
          (r' ≠ [] → ∃ v, cur' = some v) ∧ (r' = [] → rO = [] ∧ (dO ≠ [] → rS = [])) := by
    intro ss1 cur1 lg1 hRs1 hrS hc1 hr'
    obtain ⟨so', ss', cur', lg', h4, hRo4, hRs4, hc4⟩ :=
      sharedLoop_drain hO hSh rO fuel so ss1 dO dS cur1 lg1 hf hRo hRs1
    refine ⟨so', ss', cur', lg', h4, dO ++ rO, [], dS, [], hRo4, hRs4, by simp; omega, ?_,
      fun hne => absurd hr' hne, fun _ => ⟨rfl, fun _ => rfl⟩⟩
    cases cur' with
    | none =>
      obtain ⟨hc, hr⟩ := hc4 rfl
      obtain ⟨hd, _⟩ := hc1 hc
      simp [sharedOut, hd, hr, hr']
    | some v => simp [sharedOut, hr']
  cases cur with
  | some v =>
    simp only [sharedOut] at hout
    obtain ⟨ss1, lg1, h1, hRs1⟩ := hSh.hasNext ss dS rS lg hRs
    cases rS with
    | cons x xs =>
      simp only [List.isEmpty_cons, Bool.not_false] at h1
      refine ⟨so, ss1, some v, lg1, ?_, dO, rO, dS, x :: xs, hRo, hRs1, hf, hout, fun _ => ⟨v, rfl⟩,
        fun h => by simp [hout] at h⟩
      rw [flatMapShared_hasNext_some fuel h so v h1, hout]
      rfl
    | nil =>
      simp only [List.isEmpty_nil, Bool.not_true] at h1
      have hr' : r' = [] := by simpa using hout
      obtain ⟨so', ss', cur', lg', h4, rest⟩ :=
        hdrain ss1 (some v) lg1 hRs1 rfl (fun h => by cases h) hr'
      refine ⟨so', ss', cur', lg', ?_, rest⟩
      rw [flatMapShared_hasNext_some fuel h so v h1, hr']
      exact h4
  | none =>
    simp only [sharedOut] at hout
    obtain ⟨hdO, hout⟩ := hout
    cases rO with
    | nil =>
      have hr' : r' = [] := by simpa using hout
      obtain ⟨k, rfl⟩ := Nat.exists_eq_succ_of_ne_zero (by omega : fuel ≠ 0)
      obtain ⟨so1, lg1, h1, hR1⟩ := hO.hasNext so dO [] lg hRo
      simp only [List.isEmpty_nil, Bool.not_true] at h1
      refine ⟨so1, ss, none, lg1, ?_, dO, [], dS, rS, hR1, hRs, hf, by simp [sharedOut, hdO, hr'],
        fun hne => absurd hr' hne, fun _ => ⟨rfl, fun hne => absurd hdO hne⟩⟩
      rw [flatMapShared_hasNext_none, sharedLoop_done k ss none h1, hr']
      rfl
    | cons a r =>
      simp only at hout
      obtain ⟨k, rfl⟩ := Nat.exists_eq_succ_of_ne_zero (by omega : fuel ≠ 0)
      obtain ⟨so1, lg1, h1, hR1⟩ := hO.hasNext so dO (a :: r) lg hRo
      obtain ⟨so2, lg2, h2, hR2⟩ := hO.next_cons so1 dO a r lg1 hR1
      obtain ⟨ss3, lg3, h3, hR3⟩ := hSh.hasNext ss dS rS lg2 hRs
      simp only [List.isEmpty_cons, Bool.not_false] at h1
      cases rS with
      | cons x xs =>
        simp only [List.isEmpty_cons, Bool.not_false] at h3
        refine ⟨so2, ss3, some a, lg3, ?_, dO ++ [a], r, dS, x :: xs, hR2, hR3,
          by simp at hf; omega, by simpa [sharedOut] using hout, fun _ => ⟨a, rfl⟩,
          fun h => by simp [hout] at h⟩
        rw [flatMapShared_hasNext_none, sharedLoop_pull k none h1 h2 h3, hout]
        rfl
      | nil =>
        simp only [List.isEmpty_nil, Bool.not_true] at h3
        have hr' : r' = [] := by simpa using hout
        obtain ⟨so', ss', cur', lg', h4, hRo4, hRs4, hc4⟩ :=
          sharedLoop_drain hO hSh r k so2 ss3 (dO ++ [a]) dS (some a) lg3 (by simpa using hf) hR2 hR3
        have hsome : ∃ v, cur' = some v := by
          cases cur' with
          | none => exact absurd (hc4 rfl).1 (by simp)
          | some v => exact ⟨v, rfl⟩
        obtain ⟨v, rfl⟩ := hsome
        refine ⟨so', ss', some v, lg', ?_, dO ++ [a] ++ r, [], dS, [], hRo4, hRs4, by simp, by simp [sharedOut, hr'],
          fun hne => absurd hr' hne, fun _ => ⟨rfl, fun _ => rfl⟩⟩
        rw [flatMapShared_hasNext_none, sharedLoop_pull k none h1 h2 h3, hr']
        exact h4

theorem flatMapShared_next_eq (fuel : Nat) (h : φ → α → GoM β) (outer : Machine σ φ)
    (shared : Machine σ₂ α) (sc sc1 : (σ × σ₂) × Option φ) (lg lg1 : Log) (b : Bool)
    (e : (flatMapShared fuel h outer shared).hasNext sc lg = (.ok b, sc1, lg1)) :
    (flatMapShared fuel h outer shared).next sc lg =
      if b then
        (match sc1.2 with
          | some v => ((IM.onFst (IM.onSnd shared.next) : IM ((σ × σ₂) × Option φ) α) >>= fun x =>
              IM.liftG (h v x)) sc1 lg1
          | none => (.error "Option.empty", sc1, lg1))
      else (.error nextOnEmpty, sc1, lg1) := by
  unfold flatMapShared at e ⊢
  simp only [] at e ⊢
  rw [bind_ok e]
  obtain ⟨s1, c1⟩ := sc1
  cases b
  · simp
  · cases c1 <;> simp [bind_apply]

/-- `flatMapShared` maps simulations of `outer` and `shared` to a simulation. -/
theorem flatMapShared_sim {h : φ → α → GoM β} {g : φ → α → β} (hh : Total2 h g) (fuel : Nat)
    {outer : Machine σ φ} {Ro : σ → List φ → List φ → Prop} (hO : Sim outer Ro)
    {shared : Machine σ₂ α} {Rs : σ₂ → List α → List α → Prop} (hSh : Sim shared Rs) :
    Sim (flatMapShared fuel h outer shared) (SharedRel fuel g Ro Rs) := by
  constructor
  · rintro ⟨⟨so, ss⟩, cur⟩ d' r' lg hrel
    obtain ⟨so', ss', cur', lg', h1, dO, rO, dS, rS, hRo, hRs, hf, hout, _, _⟩ :=
      flatMapShared_hasNext (h := h) fuel hO hSh so ss cur d' r' lg hrel
    exact ⟨((so', ss'), cur'), lg', h1, dO, rO, dS, rS, hRo, hRs, hf, hout⟩
  · rintro ⟨⟨so, ss⟩, cur⟩ d' b r' lg hrel
    obtain ⟨so', ss', cur', lg', h1, dO, rO, dS, rS, hRo, hRs, hf, hout, hsome, _⟩ :=
      flatMapShared_hasNext (h := h) fuel hO hSh so ss cur d' (b :: r') lg hrel
    obtain ⟨v, rfl⟩ := hsome (by simp)
    simp only [sharedOut] at hout
    cases rS with
    | nil => simp at hout
    | cons x xs =>
      simp only [List.map_cons, List.cons.injEq] at hout
      obtain ⟨rfl, rfl⟩ := hout
      obtain ⟨ss2, lg2, h2, hRs2⟩ := hSh.next_cons ss' dS x xs lg' hRs
      obtain ⟨lg3, h3⟩ := liftG_total2 hh v x ((so', ss2), some v) lg2
      refine ⟨((so', ss2), some v), lg3, ?_, dO, rO, dS ++ [x], xs, hRo, hRs2, hf, rfl⟩
      rw [flatMapShared_next_eq fuel h outer shared _ _ _ _ _ h1]
      simp [bind_apply, onFst_eq (some v) (onSnd_eq so' h2), h3]
  · rintro ⟨⟨so, ss⟩, cur⟩ d' lg hrel
    obtain ⟨so', ss', cur', lg', h1, dO, rO, dS, rS, hRo, hRs, hf, hout, _, _⟩ :=
      flatMapShared_hasNext (h := h) fuel hO hSh so ss cur d' [] lg hrel
    refine ⟨nextOnEmpty, ((so', ss'), cur'), lg', ?_, dO, rO, dS, rS, hRo, hRs, hf, hout⟩
    rw [flatMapShared_next_eq fuel h outer shared _ _ _ _ _ h1]; simp

theorem flatMapShared_represents {h : φ → α → GoM β} {g : φ → α → β} {outer : Machine σ φ}
    {shared : Machine σ₂ α} {so : σ} {ss : σ₂} {lo : List φ} {ls : List α} {fuel : Nat} :
    Represents outer so [] lo → Represents shared ss [] ls → lo.length < fuel → Total2 h g →
    Represents (flatMapShared fuel h outer shared) ((so, ss), none) []
      (match lo with | [] => [] | v :: _ => ls.map (g v)) := fun hO hSh hfuel hh =>
  ⟨_, flatMapShared_sim hh fuel (Represents.sim outer) (Represents.sim shared),
    [], lo, [], ls, hO, hSh, hfuel, rfl, rfl⟩

/-- Running the result to the end drains `outer` completely (all of `lo` has been pulled from
    it by the `hasNext` that follows the last delivered element), and — unless `outer` was empty —
    `shared` too. -/
theorem flatMapShared_drains {h : φ → α → GoM β} {g : φ → α → β} {outer : Machine σ φ}
    {shared : Machine σ₂ α} {so : σ} {ss : σ₂} {lo : List φ} {ls : List α} {fuel : Nat} :
    Represents outer so [] lo → Represents shared ss [] ls → lo.length < fuel → Total2 h g →
    ∀ (lg : Log) (fuel2 : Nat),
    (match lo with | [] => [] | v :: _ => ls.map (g v)).length < fuel2 →
    ∃ s' lg', toSeq (flatMapShared fuel h outer shared) fuel2 [] ((so, ss), none) lg =
        (.ok (match lo with | [] => [] | v :: _ => ls.map (g v)), s', lg') ∧
      Represents outer s'.1.1 lo [] ∧ (lo ≠ [] → Represents shared s'.1.2 ls []) := by
  intro hO hSh hfuel hh lg fuel2 hfuel2
  have hO' := (Represents.sim outer).withTotal lo
  have hSh' := (Represents.sim shared).withTotal ls
  have hS := flatMapShared_sim hh fuel hO' hSh'
  have hP : ∀ (s : (σ × σ₂) × Option φ) (d : List β) (lg : Log),
      SharedRel fuel g (fun s d r => Represents outer s d r ∧ d ++ r = lo)
        (fun s d r => Represents shared s d r ∧ d ++ r = ls) s d [] →
      ∃ s' lg', (flatMapShared fuel h outer shared).hasNext s lg = (.ok false, s', lg') ∧
        SharedRel fuel g (fun s d r => Represents outer s d r ∧ d ++ r = lo)
          (fun s d r => Represents shared s d r ∧ d ++ r = ls) s' d [] ∧
        (Represents outer s'.1.1 lo [] ∧ (lo ≠ [] → Represents shared s'.1.2 ls [])) := by
    rintro ⟨⟨so, ss⟩, cur⟩ d lg hrel
    obtain ⟨so', ss', cur', lg', h1, dO, rO, dS, rS, hRo, hRs, hf, hout, _, hnil⟩ :=
      flatMapShared_hasNext (h := h) fuel hO' hSh' so ss cur d [] lg hrel
    obtain ⟨rfl, hrS⟩ := hnil rfl
    refine ⟨((so', ss'), cur'), lg', by simpa using h1, ⟨dO, [], dS, rS, hRo, hRs, hf, hout⟩, ?_, ?_⟩
    · obtain ⟨hr, hl⟩ := hRo
      simp only [List.append_nil] at hl
      subst hl; exact hr
    · intro hne
      obtain ⟨hr, hl⟩ := hRo
      simp only [List.append_nil] at hl
      subst hl
      obtain rfl := hrS hne
      obtain ⟨hr2, hl2⟩ := hRs
      simp only [List.append_nil] at hl2
      subst hl2; exact hr2
  obtain ⟨s', lg', e, _, hPs⟩ := toSeq_spec_post hS hP _ fuel2 ((so, ss), none) [] [] lg hfuel2
    ⟨[], lo, [], ls, ⟨hO, by simp⟩, ⟨hSh, by simp⟩, hfuel, rfl, rfl⟩
  exact ⟨s', lg', by simpa using e, hPs⟩

/-! ## restated one-liners (from the `*_sim` lemmas) -/

theorem ofSeq_represents (tag : Option (α → Event)) (xs : List α) :
    Represents (ofSeq tag xs) 0 [] xs :=
  ⟨_, ofSeq_sim tag xs, by simp [ofSeqRel]⟩

theorem map_represents {f : α → GoM β} {g : α → β} (hf : Total f g) {m : Machine σ α} {s : σ}
    {l : List α} (h : Represents m s [] l) : Represents (It.map f m) s [] (l.map g) :=
  ⟨_, map_sim hf (Represents.sim m), [], l, h, rfl, rfl⟩

theorem flatMap_represents {mf : α → GoM τ} {gf : α → τ} (hmf : Total mf gf) {inner : Machine τ β}
    {hl : α → List β} (hinner : ∀ a, Represents inner (gf a) [] (hl a))
    {m : Machine σ α} {s : σ} {l : List α} (h : Represents m s [] l) {fuel : Nat}
    (hfuel : l.length < fuel) :
    Represents (It.flatMap fuel mf inner m) (s, none) [] (l.flatMap hl) :=
  ⟨_, flatMap_sim (Represents.sim inner) hl fuel (Represents.sim m), [], l, h, hfuel,
    fun a _ lg => let ⟨lg', e⟩ := hmf a lg; ⟨gf a, lg', e, hinner a⟩, [], rfl, by simp, fun h => absurd rfl h⟩

/-! ## `Of` (`srcS`) -/

/-- relation of `srcS`: `idx` elements of `xs` delivered. -/
def srcRel (s : SrcSt α) (d r : List α) : Prop :=
  s.idx ≤ s.xs.length ∧ d = s.xs.take s.idx ∧ r = s.xs.drop s.idx

theorem srcS_hasNext (ev : Nat → α → Event) (s : SrcSt α) (lg : Log) :
    (srcS ev).hasNext s lg = (.ok (decide (s.idx < s.xs.length)), s, lg) := rfl

theorem srcS_next_some (ev : Nat → α → Event) (s : SrcSt α) (lg : Log) {a : α} (h : s.xs[s.idx]? = some a) :
    (srcS ev).next s lg = (.ok a, { s with idx := s.idx + 1 },
      match s.tag with | some t => lg ++ [ev t a] | none => lg) := by
  show (match s.xs[s.idx]? with
    | some ret => _
    | none => IM.panic nextOnEmpty : IM (SrcSt α) α) s lg = _
  rw [h]
  cases s.tag <;> rfl

theorem srcS_next_none (ev : Nat → α → Event) (s : SrcSt α) (lg : Log) (h : s.xs[s.idx]? = none) :
    (srcS ev).next s lg = (.error nextOnEmpty, s, lg) := by
  show (match s.xs[s.idx]? with
    | some ret => _
    | none => IM.panic nextOnEmpty : IM (SrcSt α) α) s lg = _
  rw [h]
  rfl
theorem srcS_sim (ev : Nat → α → Event) : Sim (srcS ev) (srcRel (α := α)) where
  hasNext := by
    rintro ⟨tag, xs, idx⟩ d r lg ⟨hle, rfl, rfl⟩
    refine ⟨⟨tag, xs, idx⟩, lg, ?_, hle, rfl, rfl⟩
    rw [srcS_hasNext]
    congr 2
    simp only at hle
    by_cases h : idx < xs.length <;> simp [h]
    · omega
  next_cons := by
    rintro ⟨tag, xs, idx⟩ d a r lg ⟨hle, rfl, hr⟩
    simp only at hr
    have hget : xs[idx]? = some a := by rw [← List.head?_drop, ← hr]; rfl
    have hd : xs.drop (idx + 1) = r := by rw [← List.tail_drop, ← hr]; rfl
    exact ⟨⟨tag, xs, idx + 1⟩, _, srcS_next_some ev ⟨tag, xs, idx⟩ lg hget, (List.getElem?_eq_some_iff.mp hget).1,
      by rw [List.take_add_one, hget]; rfl, hd.symm⟩
  next_nil := by
    rintro ⟨tag, xs, idx⟩ d lg ⟨hle, rfl, hr⟩
    exact ⟨nextOnEmpty, ⟨tag, xs, idx⟩, lg,
      srcS_next_none ev ⟨tag, xs, idx⟩ lg (List.getElem?_eq_none (List.drop_eq_nil_iff.mp hr.symm)), hle, rfl, hr⟩

/-- `iterator.Of(xs...)` (instrumented or not) yields `xs`. -/
theorem srcS_represents (ev : Nat → α → Event) (t : Option Nat) (xs : List α) :
    Represents (srcS ev) { tag := t, xs := xs, idx := 0 } [] xs :=
  ⟨_, srcS_sim ev, by simp [srcRel]⟩

/-! ## towards the monad laws of `It.flatMap` with unit `Of` -/

/-- left identity with `Of(a)` as a `srcS` iterator. -/
theorem it_left_identity_src {mf : α → GoM τ} {gf : α → τ} (hmf : Total mf gf) {inner : Machine τ β}
    {hl : α → List β} (hinner : ∀ a, Represents inner (gf a) [] (hl a)) (ev : Nat → α → Event) (a : α)
    {fuel : Nat} (hfuel : 1 < fuel) :
    Represents (It.flatMap fuel mf inner (srcS ev)) ({ tag := none, xs := [a], idx := 0 }, none) []
      (hl a) := by
  have := flatMap_represents hmf hinner (srcS_represents ev none [a]) (fuel := fuel) (by simpa using hfuel)
  simpa using this

/-! ## the hypotheses are satisfiable -/

example : Represents (ofSeq none [1, 2, 3]) 0 [] [1, 2, 3] := ofSeq_represents none [1, 2, 3]

example : Total2 (fun (a b : Nat) => (do emit s!"add {a} {b}"; pure (a + b) : GoM Nat))
    (fun a b => a + b) := by
  intro a b lg; exact ⟨lg ++ [s!"add {a} {b}"], rfl⟩

/-- `Map2([1,2,3], [10,20], +)` yields `[11, 21]`: only the first element of `a` is used. -/
example : Represents
    (itMap2 4 (ofSeq none [1, 2, 3]) (ofSeq none [10, 20])
      (fun a b => (do emit s!"add {a} {b}"; pure (a + b) : GoM Nat)))
    ((0, 0), none) [] [11, 21] :=
  flatMapShared_represents (g := fun a b => a + b) (ofSeq_represents none [1, 2, 3])
    (ofSeq_represents none [10, 20]) (by decide)
    (by intro a b lg; exact ⟨lg ++ [s!"add {a} {b}"], rfl⟩)

/-- … and running it to the end has pulled all of `[1,2,3]` and all of `[10,20]`. -/
example (lg : Log) : ∃ s' lg', toSeq
    (flatMapShared 4 (fun a b => (do emit s!"add {a} {b}"; pure (a + b) : GoM Nat))
      (ofSeq none [1, 2, 3]) (ofSeq none [10, 20])) 3 [] ((0, 0), none) lg = (.ok [11, 21], s', lg') ∧
    Represents (ofSeq none [1, 2, 3]) s'.1.1 [1, 2, 3] [] ∧
    Represents (ofSeq none [10, 20]) s'.1.2 [10, 20] [] := by
  obtain ⟨s', lg', e, h1, h2⟩ := flatMapShared_drains (g := fun a b => a + b)
    (ofSeq_represents none [1, 2, 3]) (ofSeq_represents none [10, 20]) (by decide : [1, 2, 3].length < 4)
    (by intro a b lg; exact ⟨lg ++ [s!"add {a} {b}"], rfl⟩) lg 3 (by decide)
  exact ⟨s', lg', e, h1, h2 (by simp)⟩

/-- the monad-law hypotheses: a Kleisli function into `srcS` iterators. -/
example (ev : Nat → Nat → Event) : ∀ a : Nat,
    Represents (srcS ev) ((fun a => ({ tag := none, xs := [a, a + 1], idx := 0 } : SrcSt Nat)) a) []
      ((fun a => [a, a + 1]) a) :=
  fun a => srcS_represents ev none [a, a + 1]

end FpVerif.Coll
