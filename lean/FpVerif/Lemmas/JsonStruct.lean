import FpVerif.Model.Json
import FpVerif.Lemmas.Record
/-!
# `encoding/json` on the generated Mutable twin, composed from FIELD codecs (C15, audit finding 22).

`Model/Json.lean` treats `json.Marshal` / `json.Unmarshal` on the Mutable twin as ONE abstract
`Codec E Rec`.  This file (its definitions stand beside `Model/`, no oracle runs them) builds that codec from
one codec per field, the way `encoding/json` handles a struct:

* `encPairs`: one `"key": value` pair per *present* field in declaration order; a field with
  `omitempty` whose value `isEmpty` (Go `isEmptyValue`: false, 0, nil pointer / interface, empty
  slice / map / string — NEVER a struct value, so never an `fp.Option`, whose Go type is a struct)
  is left out;
* `decPairs`: the pairs of the input object are processed in input order; a pair whose key matches
  a present field is decoded INTO THE CURRENT VALUE of that field (`json.Unmarshal` decodes into the
  existing struct: absent keys keep the old field value); unknown keys are skipped; the first
  failing field decoder aborts with its error;
* the object SYNTAX (`{`, `"key":`, `,`, `}`, splitting an input back into its pairs) stays
  abstract: `ObjSyntax`.

Not modelled: the case-insensitive fallback of key matching (an exact match has priority in Go and
every key `encPairs` emits matches exactly, so the fallback is not reached on emitted bytes);
ambiguous duplicate keys (excluded by the `DistinctKeys` hypothesis of the theorems; Go drops such
fields silently); the pair `"Name":{}` of an embedded field-less struct (a non-applicable field:
`AsMutable` does not set it, it carries no data, decoding `{}` into it is a no-op).

Main result: `objCodec_faithful`: whole-struct `Faithful` from field-level `Faithful`
(`fieldsOK_mask`: for the Mutable twin, from hypotheses on the applicable fields).
-/
namespace FpVerif.Json
open FpVerif.Rec

/-- what `encoding/json` knows about one field of a struct type -/
structure FieldCodec (E : Type) where
  /-- the object key (json tag name, or the Go field name) -/
  key : String
  /-- the `omitempty` option of the json tag -/
  omitempty : Bool
  /-- the field takes part in the object at all -/
  present : Bool
  /-- Go `isEmptyValue` for the field's type -/
  isEmpty : RV → Bool
  /-- `encoding/json` for the field's type -/
  codec : Codec E RV

/-- the field is written by `json.Marshal` when the struct holds `v` there -/
def FieldCodec.emits {E : Type} (fc : FieldCodec E) (v : RV) : Bool :=
  fc.present && !(fc.omitempty && fc.isEmpty v)

/-- object syntax of `encoding/json` (abstract): writing the pairs, splitting an input into its pairs -/
structure ObjSyntax (E : Type) where
  render : List (String × Bytes) → Bytes
  parse : Bytes → Except E (List (String × Bytes))

/-- the syntax layer gives back the pairs it was handed -/
def ObjSyntax.Splits {E : Type} (syn : ObjSyntax E) (kvs : List (String × Bytes)) : Prop :=
  syn.parse (syn.render kvs) = .ok kvs

/-- `json.Marshal` of a struct: the pairs, in declaration order -/
def encPairs {E : Type} : List (FieldCodec E) → Rec → List (String × Bytes)
  | fc :: fcs, v :: vs =>
    if fc.emits v then (fc.key, fc.codec.enc v) :: encPairs fcs vs else encPairs fcs vs
  | _, _ => []

/-- one `"k": b` pair of the input decoded into the struct value `m`: the first present field whose
    key is `k` is decoded into its current value; no such field ⇒ the pair is skipped -/
def decPair {E : Type} (k : String) (b : Bytes) : List (FieldCodec E) → Rec → Except E Rec
  | fc :: fcs, v :: vs =>
    if fc.present && fc.key == k then
      match fc.codec.dec b v with
      | .ok v' => .ok (v' :: vs)
      | .error e => .error e
    else
      match decPair k b fcs vs with
      | .ok vs' => .ok (v :: vs')
      | .error e => .error e
  | _, m => .ok m

/-- all pairs of the input, in input order (a later duplicate key overwrites) -/
def decPairs {E : Type} (fcs : List (FieldCodec E)) : List (String × Bytes) → Rec → Except E Rec
  | [], m => .ok m
  | (k, b) :: rest, m =>
    match decPair k b fcs m with
    | .ok m' => decPairs fcs rest m'
    | .error e => .error e

/-- `encoding/json` for a struct type, from its fields' codecs -/
def objCodec {E : Type} (syn : ObjSyntax E) (fcs : List (FieldCodec E)) : Codec E Rec where
  enc m := syn.render (encPairs fcs m)
  dec b m :=
    match syn.parse b with
    | .ok kvs => decPairs fcs kvs m
    | .error e => .error e

/-- no two present fields share a key -/
def DistinctKeys {E : Type} (fcs : List (FieldCodec E)) : Prop :=
  fcs.Pairwise fun g h => g.present = true → h.present = true → g.key ≠ h.key

/-- Field-level hypothesis of the composition theorem, field by field (`fcs`, target `mt`, value `mx`
    in parallel): an emitted field's codec is `Faithful` from what the target holds there; a field
    that is NOT emitted (not present, or omitted by `omitempty`) must already be equal in the target
    (nothing in the input will touch it). -/
def FieldsOK {E : Type} : List (FieldCodec E) → Rec → Rec → Prop
  | fc :: fcs, w :: ws, v :: vs =>
    (if fc.emits v then Faithful fc.codec w v else w = v) ∧ FieldsOK fcs ws vs
  | [], [], [] => True
  | _, _, _ => False

/-! ## decoding the pairs of the later fields -/

/-- a field that is absent or has another key passes the pair on to the fields after it -/
theorem decPair_cons_ne {E : Type} {k : String} {fc : FieldCodec E} (h : fc.present = true → fc.key ≠ k)
    (b : Bytes) (fcs : List (FieldCodec E)) (v : RV) (vs : Rec) :
    decPair k b (fc :: fcs) (v :: vs) = (decPair k b fcs vs).map (v :: ·) := by
  have hg : (fc.present && fc.key == k) = false := by
    cases hp : fc.present with
    | false => rfl
    | true => simpa using h hp
  rw [decPair, hg]
  cases decPair k b fcs vs <;> rfl

/-- … and so do all pairs of an input none of whose keys is the field's -/
theorem decPairs_cons_ne {E : Type} {fc : FieldCodec E} (fcs : List (FieldCodec E)) (v : RV) :
    ∀ (kvs : List (String × Bytes)) (vs : Rec), (∀ kv ∈ kvs, fc.present = true → fc.key ≠ kv.1) →
      decPairs (fc :: fcs) kvs (v :: vs) = (decPairs fcs kvs vs).map (v :: ·)
  | [], _, _ => rfl
  | (k, b) :: rest, vs, h => by
    rw [decPairs, decPairs, decPair_cons_ne (h _ List.mem_cons_self)]
    cases decPair k b fcs vs with
    | error e => rfl
    | ok vs' => exact decPairs_cons_ne fcs v rest vs' fun kv hkv => h kv (List.mem_cons_of_mem _ hkv)

/-- every pair `json.Marshal` writes carries the key of a present field -/
theorem mem_encPairs {E : Type} : ∀ {fcs : List (FieldCodec E)} {vs : Rec} {kv : String × Bytes},
    kv ∈ encPairs fcs vs → ∃ g ∈ fcs, g.present = true ∧ g.key = kv.1
  | fc :: fcs, v :: vs, kv, h => by
    rw [encPairs] at h
    have tail : kv ∈ encPairs fcs vs → ∃ g ∈ fc :: fcs, g.present = true ∧ g.key = kv.1 := fun h' =>
      let ⟨g, hg, hp⟩ := mem_encPairs h'
      ⟨g, List.mem_cons_of_mem _ hg, hp⟩
    cases hem : fc.emits v with
    | false => exact tail (by simpa [hem] using h)
    | true =>
      rw [hem, if_pos rfl, List.mem_cons] at h
      rcases h with rfl | h
      · exact ⟨fc, List.mem_cons_self, (Bool.and_eq_true_iff.1 hem).1, rfl⟩
      · exact tail h
  | [], _, _, h => nomatch h
  | _ :: _, [], _, h => nomatch h

/-! ## the composition theorem -/

/-- decoding the pairs `json.Marshal` wrote for `mx` into `mt` gives `mx` -/
theorem decPairs_encPairs {E : Type} (fcs : List (FieldCodec E)) (mt mx : Rec)
    (hd : DistinctKeys fcs) (hok : FieldsOK fcs mt mx) :
    decPairs fcs (encPairs fcs mx) mt = .ok mx := by
  fun_induction FieldsOK fcs mt mx with
  | case1 fc fcs w ws v vs ih =>
    obtain ⟨hfc, hrest⟩ := hok
    obtain ⟨hhead, htail⟩ := List.pairwise_cons.1 hd
    -- the keys being distinct, the pairs of the later fields pass the first field by and decode into the rest
    have hne : ∀ kv ∈ encPairs fcs vs, fc.present = true → fc.key ≠ kv.1 := by
      intro kv hkv hp
      obtain ⟨g, hg, hgp, hk⟩ := mem_encPairs hkv
      rw [← hk]
      exact hhead g hg hp hgp
    have later : ∀ u, decPairs (fc :: fcs) (encPairs fcs vs) (u :: ws) = .ok (u :: vs) := by
      intro u
      rw [decPairs_cons_ne fcs u _ ws hne, ih htail hrest]
      rfl
    rw [encPairs]
    cases hem : fc.emits v with
    | false =>
      rw [hem] at hfc
      subst hfc
      exact later w
    | true =>
      rw [hem, if_pos rfl] at hfc
      have hp : (fc.present && fc.key == fc.key) = true := by
        rw [(Bool.and_eq_true_iff.1 hem).1, beq_self_eq_true]
        rfl
      rw [if_pos rfl, decPairs, decPair, hp, if_pos rfl, show fc.codec.dec _ w = .ok v from hfc]
      exact later v
  | case2 => rfl
  | case3 => exact hok.elim

/-- **Composition**: the struct's codec is `Faithful` (decoding into `mt`, value `mx`) when every
    emitted field's codec is `Faithful` from the target's field value, the fields not emitted are
    already equal, the keys are distinct and the object syntax splits what it rendered. -/
theorem objCodec_faithful {E : Type} (syn : ObjSyntax E) (fcs : List (FieldCodec E)) (mt mx : Rec)
    (hsyn : syn.Splits (encPairs fcs mx))
    (hd : DistinctKeys fcs) (hok : FieldsOK fcs mt mx) :
    Faithful (objCodec syn fcs) mt mx := by
  simp only [ObjSyntax.Splits] at hsyn
  simp [Faithful, objCodec, hsyn, decPairs_encPairs fcs mt mx hd hok]

/-- `FieldsOK` from a pointwise (index based) statement -/
theorem fieldsOK_of_forall {E : Type} (fcs : List (FieldCodec E)) (mt mx : Rec)
    (ht : mt.length = fcs.length) (hx : mx.length = fcs.length)
    (h : ∀ i fc, fcs[i]? = some fc →
      (fc.emits (getF i mx) = true → Faithful fc.codec (getF i mt) (getF i mx)) ∧
      (fc.emits (getF i mx) = false → getF i mt = getF i mx)) :
    FieldsOK fcs mt mx := by
  induction fcs, mt, mx, ht, hx using Derive.tuple_induction with
  | nil => trivial
  | cons fc fcs w ws v vs ht hx ih =>
    refine ⟨?_, ih fun i fc' hi => h (i + 1) fc' hi⟩
    have h0 := h 0 fc rfl
    cases hem : fc.emits v
    · exact h0.2 hem
    · exact h0.1 hem

/-! ## the Mutable twin of an `@fp.Json` struct -/

/-- what `encoding/json` reads off the struct tag of one Mutable field -/
structure JsonOpts where
  key : String
  omitempty : Bool
  deriving DecidableEq, Repr

/-- `encoding/json`'s view of the field TYPES of a struct: codec and `isEmptyValue` per field -/
structure TypeCodecs (E : Type) where
  codec : Field → Codec E RV
  isEmpty : Field → RV → Bool

/-- the fields of the Mutable twin as `encoding/json` sees them: key / omitempty from the tag
    (`js`), one pair per applicable field -/
def mutableFieldCodecs {E : Type} (s : StructSpec) (js : Field → JsonOpts) (tc : TypeCodecs E) :
    List (FieldCodec E) :=
  s.fields.map fun f =>
    { key := (js f).key, omitempty := (js f).omitempty, present := f.applicable,
      isEmpty := tc.isEmpty f, codec := tc.codec f }

/-- `encoding/json` for the Mutable twin, from the field codecs -/
def mutableCodec {E : Type} (syn : ObjSyntax E) (s : StructSpec) (js : Field → JsonOpts)
    (tc : TypeCodecs E) : Codec E Rec :=
  objCodec syn (mutableFieldCodecs s js tc)

/-- the applicable field `f` is written when the struct holds `v` there -/
def fieldEmitted {E : Type} (js : Field → JsonOpts) (tc : TypeCodecs E) (f : Field) (v : RV) : Bool :=
  !((js f).omitempty && tc.isEmpty f v)

/-- the json keys of the applicable fields are pairwise distinct -/
def DistinctJsonKeys (s : StructSpec) (js : Field → JsonOpts) : Prop :=
  s.fields.Pairwise fun g h => g.applicable = true → h.applicable = true → (js g).key ≠ (js h).key

theorem distinctKeys_mutable {E : Type} (s : StructSpec) (js : Field → JsonOpts) (tc : TypeCodecs E)
    (h : DistinctJsonKeys s js) : DistinctKeys (mutableFieldCodecs s js tc) := by
  simp only [DistinctKeys, mutableFieldCodecs, List.pairwise_map]
  exact h

/-- `FieldsOK` for two masked records (`AsMutable` of target and value) from hypotheses on the
    applicable fields only: the non-applicable ones are the zero value on both sides. -/
theorem fieldsOK_mask {E : Type} (s : StructSpec) (js : Field → JsonOpts) (tc : TypeCodecs E)
    (t x : Rec) (ht : t.length = s.fields.length) (hx : x.length = s.fields.length)
    (h : ∀ i f, s.fields[i]? = some f → f.applicable = true →
      (fieldEmitted js tc f (getF i x) = true → Faithful (tc.codec f) (getF i t) (getF i x)) ∧
      (fieldEmitted js tc f (getF i x) = false → getF i t = getF i x)) :
    FieldsOK (mutableFieldCodecs s js tc) (mask s.fields t) (mask s.fields x) := by
  refine fieldsOK_of_forall _ _ _ ((mask_length s.fields t ht).trans (List.length_map _).symm)
    ((mask_length s.fields x hx).trans (List.length_map _).symm) fun i fc hi => ?_
  rw [mutableFieldCodecs, List.getElem?_map] at hi
  cases hf : s.fields[i]? with
  | none => rw [hf] at hi; cases hi
  | some f =>
    rw [hf] at hi
    obtain rfl := Option.some.inj hi
    cases ha : f.applicable
    · -- not written; both masked records hold the zero value there
      have hi' : i < s.fields.length := (List.getElem?_eq_some_iff.1 hf).1
      rw [getF_mask_not_applicable s.fields t i f hf ha (ht ▸ hi'),
        getF_mask_not_applicable s.fields x i f hf ha (hx ▸ hi')]
      exact ⟨fun hem => by simp [FieldCodec.emits, ha] at hem, fun _ => rfl⟩
    · rw [getF_mask_applicable s.fields t i f hf ha, getF_mask_applicable s.fields x i f hf ha]
      simp only [FieldCodec.emits, ha, Bool.true_and]
      exact h i f hf ha

/-! ## `fp.Option[T]`-typed fields: where `NotNull` enters -/

/-- the field value as an `fp.Option` -/
def RV.toOpt : RV → Option RV
  | .some v => some v
  | _ => none

def RV.ofOpt : Option RV → RV
  | some v => .some v
  | none => .none

/-- `encoding/json` on a field of type `fp.Option[T]`: the `optionCodec` of `Model/Json.lean`
    (i.e. `Option[T].MarshalJSON` / `UnmarshalJSON`) on the field value -/
def optFieldCodec {E : Type} (c : Codec E RV) (zero : RV) : Codec (UErr E) RV where
  enc v := (optionCodec c zero).enc (RV.toOpt v)
  dec b cur :=
    match (optionCodec c zero).dec b (RV.toOpt cur) with
    | .ok o => .ok (RV.ofOpt o)
    | .error e => .error e

theorem RV.toOpt_ofOpt (o : Option RV) : RV.toOpt (RV.ofOpt o) = o := by
  cases o <;> rfl

/-- the field codec decodes what it wrote as the `Option` codec does, read through `RV.toOpt` /
    `RV.ofOpt`: faithfulness and the collapse of a null element carry over from `optionCodec` -/
theorem optFieldCodec_dec_enc {E : Type} (c : Codec E RV) (zero start : RV) (o r : Option RV)
    (h : (optionCodec c zero).dec ((optionCodec c zero).enc o) (RV.toOpt start) = .ok r) :
    (optFieldCodec c zero).dec ((optFieldCodec c zero).enc (RV.ofOpt o)) start = .ok (RV.ofOpt r) := by
  simp only [optFieldCodec, RV.toOpt_ofOpt, h]

/-! ## the json tag `genMutable` writes on a Mutable field -/

/-- `genMutable` appends a json tag of its own: the field is not `_`-prefixed, the struct is
    `@fp.Json`, and the user's tag does not contain the substring `json` -/
def generatesJsonTag (s : StructSpec) (f : Field) : Bool :=
  !f.name.startsWith "_" && s.ann.json && (f.tag.splitOn "json").length == 1

/-- the text `json:"<key>"` / `json:"<key>,omitempty"` -/
def jsonTagText (o : JsonOpts) : String :=
  "json:\"" ++ o.key ++ (if o.omitempty then ",omitempty" else "") ++ "\""

/-- key and `omitempty` of the tag `genMutable` generates: the (unexported, original) field name;
    `omitempty` iff the field type is nilable or an `fp.Option` -/
def generatedJsonOpts (f : Field) : JsonOpts := ⟨f.name, f.nilable || f.ty.isOpt⟩

/-- the user's tag followed by a blank, when there is one -/
def tagPrefix (f : Field) : String := if f.tag != "" then f.tag ++ " " else ""

/-- the empty tag does not contain `json` (the test `genMutable` makes, as the model spells it) -/
theorem splitOn_empty_json : ("".splitOn "json").length = 1 := by
  simp [String.splitOn]
  rw [String.splitOnAux]
  have : String.Pos.Raw.atEnd "" 0 = true := by decide
  simp [this]

/-- the two generated shapes are different strings, whatever precedes them -/
theorem jsonTagText_omitempty_ne (pre key : String) :
    pre ++ jsonTagText ⟨key, true⟩ ≠ pre ++ jsonTagText ⟨key, false⟩ := by
  intro h
  have h' := congrArg String.length h
  have h1 : ",omitempty".length = 10 := by decide
  simp [jsonTagText, String.length_append, h1] at h'

/-- the generated text determines its `omitempty` flag -/
theorem jsonTagText_inj (pre key : String) (b b' : Bool) :
    pre ++ jsonTagText ⟨key, b⟩ = pre ++ jsonTagText ⟨key, b'⟩ ↔ b = b' := by
  refine ⟨fun h => ?_, fun h => h ▸ rfl⟩
  cases b <;> cases b'
  · rfl
  · exact absurd h.symm (jsonTagText_omitempty_ne pre key)
  · exact absurd h (jsonTagText_omitempty_ne pre key)
  · rfl

/-! ## field codecs of a struct with `fp.Option[T]` fields -/

/-- `encoding/json`'s view of the field types when the `fp.Option[T]`-typed fields go through
    `Option[T].MarshalJSON` / `UnmarshalJSON` with element codec `ec f` (fresh `var t T` = `ez f`) and
    every other field has the codec `plain f`.  An `fp.Option` value is a Go struct, so it is never
    "empty" for `omitempty`. -/
def optionTypeCodecs {E : Type} (ec : Field → Codec E RV) (ez : Field → RV)
    (plain : Field → Codec (UErr E) RV) (plainEmpty : Field → RV → Bool) : TypeCodecs (UErr E) where
  codec f := if f.ty.isOpt then optFieldCodec (ec f) (ez f) else plain f
  isEmpty f v := if f.ty.isOpt then false else plainEmpty f v

end FpVerif.Json
