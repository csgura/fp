import FpVerif.Model.Arity
/-!
# Unfolding lemmas for `Model/Arity.lean`; the eliminators `arityRec`, `stepsRec`; `VMonad.Sum`

The recursive definitions there have overlapping patterns (a catch-all "arity" branch) and types that
mention the type-level recursion `Cur`; letting `simp` generate their equation lemmas is slow, so the
equations are stated here (`_zero` / `_succ`; `_nil` / `_zero_many` for the "arity" branch) for `Spec/C14.lean`.
-/
namespace FpVerif.Arity
open MonadFamily

variable {A R : Type}

/-- `pure_bind` across the definitional unfolding `Cur A R (n+1) = CurF A R n` -/
@[simp] theorem pure_bind_cur {β : Type} (n : Nat) (x : CurF A R n) (k : Cur A R (n + 1) → GoM β) :
    ((pure x : GoM (Cur A R (n + 1))) >>= k) = k x := pure_bind _ _

@[simp] theorem arityPanic_bind {α β : Type} (k : α → GoM β) : (arityPanic >>= k) = arityPanic := rfl

@[simp] theorem applyCur_zero (f : CurF A R 0) (a : A) : applyCur 0 f [a] = f a := rfl
@[simp] theorem applyCur_succ (n : Nat) (f : CurF A R (n + 1)) (a : A) (as : List A) :
    applyCur (n + 1) f (a :: as) = (f a >>= fun g => applyCur n g as) := rfl
@[simp] theorem applyCur_nil (n : Nat) (f : CurF A R n) : applyCur n f [] = arityPanic := by
  cases n <;> rfl
@[simp] theorem applyCur_zero_many (f : CurF A R 0) (a b : A) (as : List A) :
    applyCur 0 f (a :: b :: as) = arityPanic := rfl

@[simp] theorem curry_zero (f : NFun A R) (a : A) : curry 0 f a = f [a] := rfl
@[simp] theorem curry_succ (n : Nat) (f : NFun A R) (a : A) :
    curry (n + 1) f a = (pure (curry n (fun rest => f (a :: rest))) : GoM (Cur A R (n + 1))) := rfl

@[simp] theorem asCurried_zero (f : NFun A R) (a1 : A) :
    asCurried 0 f a1 = (pure (fun a2 => f [a1, a2]) : GoM (Cur A R 1)) := rfl
@[simp] theorem asCurried_succ (n : Nat) (f : NFun A R) (a1 : A) :
    asCurried (n + 1) f a1 = (pure (asCurried n (fun rest => f (a1 :: rest))) : GoM (Cur A R (n + 2))) := rfl

@[simp] theorem composeCur_zero {GA GR : Type} (f : CurF A GA 1) (g : GA → GoM GR) (a : A) :
    composeCur 0 f g a = (pure (fun b => do
      let h ← f a
      let r ← (h : A → GoM GA) b
      g r) : GoM (Cur A GR 1)) := rfl
@[simp] theorem composeCur_succ {GA GR : Type} (n : Nat) (f : CurF A GA (n + 2)) (g : GA → GoM GR) (a1 : A) :
    composeCur (n + 1) f g a1 = (do
      let f1 ← f a1
      (pure (composeCur n f1 g) : GoM (Cur A GR (n + 2)))) := rfl

@[simp] theorem hlistOf_zero (a : A) : hlistOf 0 [a] = some [a] := rfl
@[simp] theorem hlistOf_succ (n : Nat) (a : A) (rest : List A) :
    hlistOf (n + 1) (a :: rest) = (hlistOf n rest).map (a :: ·) := rfl
@[simp] theorem hlistOf_nil (n : Nat) : hlistOf n ([] : List A) = none := by cases n <;> rfl
@[simp] theorem hlistOf_zero_many (a b : A) (as : List A) : hlistOf 0 (a :: b :: as) = none := rfl

@[simp] theorem hcase_zero (h : A) (t : List A) (f : NFun A R) : hcase 0 (h :: t) f = f [h] := rfl
@[simp] theorem hcase_succ (n : Nat) (h : A) (t : List A) (f : NFun A R) :
    hcase (n + 1) (h :: t) f = hcase n t (fun rest => f (h :: rest)) := rfl
@[simp] theorem hcase_nil (n : Nat) (f : NFun A R) : hcase n [] f = arityPanic := by cases n <;> rfl

@[simp] theorem hlift_zero (f : NFun A R) (a : A) : hlift 0 f [a] = f [a] := rfl
@[simp] theorem hlift_succ (n : Nat) (f : NFun A R) (a : A) (t : List A) :
    hlift (n + 1) f (a :: t) = hlift n (fun rest => f (a :: rest)) t := rfl
@[simp] theorem hlift_nil (n : Nat) (f : NFun A R) : hlift n f [] = arityPanic := by cases n <;> rfl
@[simp] theorem hlift_zero_many (f : NFun A R) (a b : A) (as : List A) :
    hlift 0 f (a :: b :: as) = arityPanic := rfl

@[simp] theorem hrift_zero (f : NFun A R) (a : A) : hrift 0 f [a] = f [a] := rfl
@[simp] theorem hrift_succ (n : Nat) (f : NFun A R) (a : A) (t : List A) :
    hrift (n + 1) f (a :: t) = hrift n (fun init => f (init ++ [a])) t := rfl
@[simp] theorem hrift_nil (n : Nat) (f : NFun A R) : hrift n f [] = arityPanic := by cases n <;> rfl
@[simp] theorem hrift_zero_many (f : NFun A R) (a b : A) (as : List A) :
    hrift 0 f (a :: b :: as) = arityPanic := rfl

@[simp] theorem asHList_zero (a : A) : asHList 0 [a] = some [a] := rfl
@[simp] theorem asHList_succ (n : Nat) (a : A) (rest : List A) :
    asHList (n + 1) (a :: rest) = (hlistOf n rest).map (a :: ·) := rfl

@[simp] theorem tupleFromHList_zero (a : A) : tupleFromHList 0 [a] = some [a] := rfl
@[simp] theorem tupleFromHList_succ (n : Nat) (a : A) (t : List A) :
    tupleFromHList (n + 1) (a :: t) = (tupleFromHList n t).map (a :: ·) := rfl
@[simp] theorem tupleFromHList_nil (n : Nat) : tupleFromHList n ([] : List A) = none := by cases n <;> rfl
@[simp] theorem tupleFromHList_zero_many (a b : A) (as : List A) : tupleFromHList 0 (a :: b :: as) = none := rfl

@[simp] theorem flatten_zero (a b c : A) : flatten 0 (.cons a (.pair b c)) = some [a, b, c] := rfl
@[simp] theorem flatten_succ (n : Nat) (a : A) (t : Nest A) :
    flatten (n + 1) (.cons a t) = (flatten n t).map (a :: ·) := rfl

@[simp] theorem nest_ofList_two (a b : A) : Nest.ofList [a, b] = some (.pair a b) := rfl
@[simp] theorem nest_ofList_cons (a b c : A) (rest : List A) :
    Nest.ofList (a :: b :: c :: rest) = (Nest.ofList (b :: c :: rest)).map (.cons a) := rfl

@[simp] theorem composeN_two (f g : A → GoM A) : composeN [f, g] = compose2 f g := rfl
@[simp] theorem composeN_cons (f g h : A → GoM A) (fs : List (A → GoM A)) :
    composeN (f :: g :: h :: fs) = compose2 f (composeN (g :: h :: fs)) := rfl

/-- the recursion of the templates seen from the argument list: an arity index meets no argument, the last
    argument, too many arguments, or one more argument -/
theorem arityRec {P : Nat → List A → Prop} (nil : ∀ n, P n []) (one : ∀ a, P 0 [a])
    (many : ∀ a b as, P 0 (a :: b :: as)) (step : ∀ n a as, P n as → P (n + 1) (a :: as)) :
    ∀ n args, P n args
  | _, [] => nil _
  | 0, [a] => one a
  | 0, a :: b :: as => many a b as
  | n + 1, a :: as => step n a as (arityRec nil one many step n as)

/-- the same recursion on a list known to have `n + 1` elements (the steps of a builder chain): the last step, or
    one more step -/
theorem stepsRec {S : Type} {motive : (n : Nat) → (l : List S) → l.length = n + 1 → Prop}
    (one : ∀ s, motive 0 [s] rfl)
    (step : ∀ n s ss (h : ss.length = n + 1), motive n ss h → motive (n + 1) (s :: ss) (congrArg (· + 1) h)) :
    ∀ n l h, motive n l h
  | 0, [s], _ => one s
  | n + 1, s :: ss, h => step n s ss (Nat.succ.inj h) (stepsRec one step n ss _)

section builders
variable {M : Type → Type} (V : VMonad M)

@[simp] theorem runApplicativeFrom_zero (fn : ApSt M A R 0) (s : Step M A) :
    runApplicativeFrom V 0 fn [s] = apStep V fn s := rfl
@[simp] theorem runApplicativeFrom_succ (n : Nat) (fn : ApSt M A R (n + 1)) (s : Step M A) (ss : List (Step M A)) :
    runApplicativeFrom V (n + 1) fn (s :: ss) = (do
      let fn' ← apStep V fn s
      runApplicativeFrom V n fn' ss) := rfl
@[simp] theorem runChainFrom_zero (r : ChainSt M A R 0) (s : Step M A) :
    runChainFrom V 0 r [s] = chainLast V r s := rfl
@[simp] theorem runChainFrom_succ (n : Nat) (r : ChainSt M A R (n + 1)) (s : Step M A) (ss : List (Step M A)) :
    runChainFrom V (n + 1) r (s :: ss) = (do
      let r' ← chainStep V r s
      runChainFrom V n r' ss) := rfl
end builders

-- ------------------------------------------------------------------------------------------------
-- value-level facts about Option and Try used by the builder theorems

/-- `M` is a sum of values and errors; binding an error either returns it unchanged or panics
    (`Try{}` / `Failure(nil)`: "Try not initialized correctly") -/
structure VMonad.Sum {M : Type → Type} (V : VMonad M) where
  E : Type
  err : {α : Type} → E → M α
  abort : E → Option PanicVal
  cases : ∀ {α : Type} (m : M α), (∃ a, m = V.vpure a) ∨ (∃ e, m = err e)
  bind_pure : ∀ {α β : Type} (a : α) (k : α → GoM (M β)), V.vbind (V.vpure a) k = k a
  bind_err : ∀ {α β : Type} (e : E) (k : α → GoM (M β)),
    V.vbind (err e : M α) k = match abort e with
      | none => pure (err e)
      | some p => throw p
  fromOption_ok : ∀ {α : Type} (o : Option α),
    (∃ a, V.fromOption o = V.vpure a) ∨ (∃ e, abort e = none ∧ V.fromOption o = err e)

/-- a value that can be bound without a panic: a success or a non-zero failure -/
def VMonad.Sum.Ok {M : Type → Type} {V : VMonad M} (S : V.Sum) {α : Type} (a : M α) : Prop :=
  (∃ x, a = V.vpure x) ∨ (∃ e, S.abort e = none ∧ a = S.err e)

def optSum : optV.Sum where
  E := Unit
  err _ := none
  abort _ := none
  cases m := by cases m <;> simp [optV]
  bind_pure a k := rfl
  bind_err e k := rfl
  fromOption_ok o := by cases o <;> simp [optV]

def trySum : tryV.Sum where
  E := Err
  err e := .failure e
  abort e := if e = .nil then some "ErrNotInit" else none
  cases m := by cases m <;> simp [tryV]
  bind_pure a k := rfl
  bind_err e k := by cases e <;> simp [tryV, TryM.flatMap, Try.failedGet]
  fromOption_ok o := by
    cases o with
    | none => exact Or.inr ⟨.optionEmpty, by simp, rfl⟩
    | some a => exact Or.inl ⟨a, rfl⟩

end FpVerif.Arity
