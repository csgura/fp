import FpVerif.Lemmas.HamtSet
import FpVerif.Lemmas.HamtFrame
/-! `get` returns the association-list lookup of the node's entries; the keys of a well-formed node are pairwise
not `Eqv` (the slots of a branch node are pairwise different), and it has at least one entry. -/
namespace FpVerif.Hamt
variable {K V : Type} {h : Hasher K}

theorem lookup_of_indexOf {es : List (K × V)} {k : K} :
    lookup h k es = match indexOf h es k with
      | none => none
      | some i => (es[i]?).map (·.2) := by
  cases hi : indexOf h es k with
  | none => exact lookup_eq_none_iff.mpr (indexOf_none.mp hi)
  | some i =>
    obtain ⟨e, hei, hek, hsplit, hbefore⟩ := indexOf_some hi
    simp only [hei, Option.map_some]
    rw [hsplit, lookup_append, lookup_eq_none_iff.mpr hbefore, lookup_cons, hek]
    simp

theorem Node.get_eq_lookup (hl : LawfulHash h) {s : Nat} {n : Node K V} (hwf : WF h s n) (k : K) :
    n.get h k s (h.hash k) = .ok (lookup h k n.toList) := by
  refine WF.path_induction (h.hash k) (fun {s n} hwf hb => ?_) (fun {s n o A B} hv ih => ?_) hwf
  · cases hwf with
    | bitmap | hashArray => exact absurd trivial hb
    | @array s es h0 hne hlen hd =>
      unfold Node.get
      rw [toList_array, lookup_of_indexOf]
      cases hi : indexOf h es k with
      | none => rfl
      | some i =>
        obtain ⟨e, hei, _⟩ := indexOf_some hi
        simp [hei, pure, Except.pure]
    | @value s kh nk nv hkh =>
      unfold Node.get
      rw [toList_value, lookup_cons, lookup_nil]
      cases h.eqv nk k <;> rfl
    | @collision s kh es h2 hh hd =>
      unfold Node.get
      rw [toList_collision]
      rfl
  · rw [get_branch hv.branch, hv.read, ok_bind, hv.toList, lookup_frame hl hv.left hv.right]
    cases o with
    | none => rfl
    | some c => exact ih c rfl

theorem pairwise_zip_fst {α β : Type} {R : α → α → Prop} {l₁ : List α} (l₂ : List β) (hp : l₁.Pairwise R) :
    (List.zip l₁ l₂).Pairwise (fun a b => R a.1 b.1) := by
  induction hp generalizing l₂ with
  | nil => exact .nil
  | cons hx _ ih =>
    cases l₂ with
    | nil => exact .nil
    | cons y l₂ => exact .cons (fun p hp' => hx _ (mem_zip_fst hp')) (ih l₂)

theorem pairwise_fmH {R : Nat → Nat → Prop} {zs : List (Nat × Option (Node K V))}
    (hp : zs.Pairwise (fun a b => R a.1 b.1)) : (fmH zs).Pairwise (fun a b => R a.1 b.1) := by
  refine List.pairwise_filterMap.mpr (hp.imp fun {a b} hab c hc d hd => ?_)
  obtain ⟨_, _, rfl⟩ := Option.map_eq_some_iff.mp hc
  obtain ⟨_, _, rfl⟩ := Option.map_eq_some_iff.mp hd
  exact hab

theorem kidsB_pairwise (bm : Nat) (ns : List (Node K V)) : (kidsB bm ns).Pairwise (fun a b => a.1 ≠ b.1) :=
  pairwise_zip_fst ns (List.Pairwise.filter _ List.nodup_range)

theorem kidsH_pairwise (ns : List (Option (Node K V))) : (kidsH ns).Pairwise (fun a b => a.1 ≠ b.1) :=
  pairwise_fmH (pairwise_zip_fst ns List.nodup_range)

theorem distinct_flat (hl : LawfulHash h) {s : Nat} {ks : List (Nat × Node K V)}
    (hpw : ks.Pairwise (fun a b => a.1 ≠ b.1))
    (hd : ∀ p ∈ ks, DistinctKeys h p.2.toList)
    (hks : ∀ p ∈ ks, ∀ e ∈ p.2.toList, frag (h.hash e.1) s = p.1) : DistinctKeys h (flat ks) := by
  unfold DistinctKeys flat
  rw [List.pairwise_flatMap]
  refine ⟨hd, ?_⟩
  apply List.Pairwise.imp_of_mem _ hpw
  intro a b ha hb hab x hx y hy
  apply hl.ne_of_frag_ne
  rw [hks a ha x hx, hks b hb y hy]; exact hab

theorem WF.distinct (hl : LawfulHash h) {s : Nat} {n : Node K V} (hwf : WF h s n) :
    DistinctKeys h n.toList := by
  induction hwf with
  | array h0 hne hlen hd => simpa using hd
  | value hkh => unfold DistinctKeys; simp
  | collision h2 hh hd => simpa using hd
  | @bitmap s bm ns hs hb hlen h1 h17 hkw hks ihw =>
    rw [toList_bitmap_flat hlen]
    exact distinct_flat hl (kidsB_pairwise bm ns) ihw hks
  | @hashArray s cnt ns hs hlen hcnt h16 hkw hks ihw =>
    rw [toList_hashArray_flat hlen]
    exact distinct_flat hl (kidsH_pairwise ns) ihw hks

theorem flat_ne_nil {ks : List (Nat × Node K V)} (hpos : 0 < ks.length)
    (hne : ∀ p ∈ ks, p.2.toList ≠ []) : flat ks ≠ [] := by
  obtain ⟨p, ps, rfl⟩ := List.exists_cons_of_length_pos hpos
  rw [flat_cons]
  exact fun h0 => hne p List.mem_cons_self (List.append_eq_nil_iff.mp h0).1

theorem WF.toList_ne_nil {s : Nat} {n : Node K V} (hwf : WF h s n) : n.toList ≠ [] := by
  induction hwf with
  | array h0 hne hlen hd => simpa using hne
  | value hkh => simp
  | collision h2 hh hd => intro h0; simp at h0; subst h0; simp at h2
  | @bitmap s bm ns hs hb hlen h1 h17 hkw hks ihw =>
    rw [toList_bitmap_flat hlen]
    exact flat_ne_nil (by rw [length_kidsB hlen]; exact h1) ihw
  | @hashArray s cnt ns hs hlen hcnt h16 hkw hks ihw =>
    rw [toList_hashArray_flat hlen]
    exact flat_ne_nil (by rw [length_kidsH hlen, ← hcnt]; exact Nat.lt_of_lt_of_le (by decide) h16) ihw

end FpVerif.Hamt
