import FpVerif.Lemmas.HeapBasic
/-!
`mapOpt` against `List.map` (`mapOpt_eq_some_iff`, through which most of its lemmas go), what a slice
view `viewWith` needs of the heap, and the abstraction function `absF` of `Model/HamtHeap.lean`: unfolding per
cell kind (`AbsAt`: the five ways a pointer represents a node; `absF_succ` / `AbsAt.absF` go back and forth),
monotonicity in the fuel, validity of the footprint, and the FRAME RULE — the abstraction only depends on
the cells of the footprint.
-/
namespace FpVerif.HamtHeap
open FpVerif.Hamt
variable {K V : Type} {α β : Type}

-- mapOpt -------------------------------------------------------------------------------------------

theorem mapOpt_eq_some_iff {g : α → Option β} {l : List α} {r : List β} :
    mapOpt g l = some r ↔ l.map g = r.map some := by
  induction l generalizing r with
  | nil => cases r <;> simp [mapOpt]
  | cons x xs ih =>
    unfold mapOpt
    cases hx : g x with
    | none => cases r <;> simp [hx]
    | some y =>
      cases hxs : mapOpt g xs with
      | none =>
        cases r with
        | nil => simp
        | cons y' r' =>
          simp only [List.map_cons, hx, List.cons.injEq, Option.some.injEq, reduceCtorEq, false_iff, not_and]
          intro _ h2
          rw [← ih] at h2; rw [hxs] at h2; cases h2
      | some ys =>
        cases r with
        | nil => simp
        | cons y' r' =>
          simp only [List.map_cons, hx, List.cons.injEq, Option.some.injEq]
          rw [← ih, hxs]; simp

theorem mapOpt_length {g : α → Option β} {l : List α} {r : List β} (h : mapOpt g l = some r) :
    r.length = l.length := by
  have := congrArg List.length (mapOpt_eq_some_iff.mp h)
  simpa using this.symm

theorem mapOpt_getElem? {g : α → Option β} {l : List α} {r : List β} (h : mapOpt g l = some r)
    {i : Nat} {x : α} (hx : l[i]? = some x) : ∃ y, r[i]? = some y ∧ g x = some y := by
  have := congrArg (fun l => l[i]?) (mapOpt_eq_some_iff.mp h)
  simp only [List.getElem?_map, hx, Option.map_some] at this
  cases hr : r[i]? with
  | none => rw [hr] at this; cases this
  | some y => rw [hr] at this; exact ⟨y, rfl, by simpa using this⟩

theorem mapOpt_getElem?' {g : α → Option β} {l : List α} {r : List β} (h : mapOpt g l = some r)
    {i : Nat} {y : β} (hy : r[i]? = some y) : ∃ x, l[i]? = some x ∧ g x = some y := by
  have := congrArg (fun l => l[i]?) (mapOpt_eq_some_iff.mp h)
  simp only [List.getElem?_map, hy, Option.map_some] at this
  cases hl : l[i]? with
  | none => rw [hl] at this; cases this
  | some x => rw [hl] at this; exact ⟨x, rfl, by simpa using this⟩

theorem mapOpt_mem {g : α → Option β} {l : List α} {r : List β} (h : mapOpt g l = some r)
    {x : α} (hx : x ∈ l) : ∃ y ∈ r, g x = some y := by
  obtain ⟨i, hi⟩ := List.getElem?_of_mem hx
  obtain ⟨y, hy, hg⟩ := mapOpt_getElem? h hi
  exact ⟨y, List.mem_of_getElem? hy, hg⟩

theorem mapOpt_congr {g g' : α → Option β} {l : List α} (h : ∀ x ∈ l, g x = g' x) :
    mapOpt g l = mapOpt g' l := by
  induction l with
  | nil => rfl
  | cons x xs ih =>
    unfold mapOpt
    rw [h x (by simp), ih (fun y hy => h y (by simp [hy]))]

theorem mapOpt_some (f : α → β) (l : List α) : mapOpt (fun x => some (f x)) l = some (l.map f) := by
  rw [mapOpt_eq_some_iff]; simp

theorem mapOpt_map {γ : Type} (g : β → Option γ) (f : α → β) (l : List α) :
    mapOpt g (l.map f) = mapOpt (fun x => g (f x)) l := by
  induction l with
  | nil => rfl
  | cons x xs ih => simp only [List.map_cons, mapOpt, ih]

theorem mapOpt_set {g : α → Option β} {l : List α} {r : List β} (h : mapOpt g l = some r)
    {i : Nat} {x : α} {y : β} (hx : g x = some y) : mapOpt g (l.set i x) = some (r.set i y) := by
  rw [mapOpt_eq_some_iff] at h ⊢
  rw [List.map_set, List.map_set, h, hx]

theorem mapOpt_append {g : α → Option β} {a b : List α} {ra rb : List β} (ha : mapOpt g a = some ra)
    (hb : mapOpt g b = some rb) : mapOpt g (a ++ b) = some (ra ++ rb) := by
  rw [mapOpt_eq_some_iff] at ha hb ⊢
  rw [List.map_append, List.map_append, ha, hb]

theorem mapOpt_take {g : α → Option β} {l : List α} {r : List β} (h : mapOpt g l = some r) (n : Nat) :
    mapOpt g (l.take n) = some (r.take n) := by
  rw [mapOpt_eq_some_iff] at h ⊢
  rw [List.map_take, List.map_take, h]

theorem mapOpt_drop {g : α → Option β} {l : List α} {r : List β} (h : mapOpt g l = some r) (n : Nat) :
    mapOpt g (l.drop n) = some (r.drop n) := by
  rw [mapOpt_eq_some_iff] at h ⊢
  rw [List.map_drop, List.map_drop, h]

theorem mapOpt_cons {g : α → Option β} {x : α} {y : β} {l : List α} {r : List β} (hx : g x = some y)
    (h : mapOpt g l = some r) : mapOpt g (x :: l) = some (y :: r) := by
  simp [mapOpt, hx, h]

theorem mapOpt_insert {g : α → Option β} {l : List α} {r : List β} (h : mapOpt g l = some r)
    {x : α} {y : β} (hx : g x = some y) (idx : Nat) :
    mapOpt g (l.take idx ++ x :: l.drop idx) = some (r.take idx ++ y :: r.drop idx) :=
  mapOpt_append (mapOpt_take h idx) (mapOpt_cons hx (mapOpt_drop h idx))

-- slices -------------------------------------------------------------------------------------------

theorem viewWith_eq_some {g : Slot K V → Option β} {H : Heap K V} {s : Slice} {xs : List β}
    (h : viewWith g H s = some xs) : ∃ slots, H[s.arr]? = some (.arr slots) ∧ s.len ≤ slots.length ∧
      mapOpt (fun o => o.bind g) (slots.take s.len) = some xs := by
  unfold viewWith at h
  split at h
  · rename_i slots hc
    split at h
    · rename_i hle; exact ⟨slots, hc, hle, h⟩
    · cases h
  · cases h

theorem viewWith_intro {g : Slot K V → Option β} {H : Heap K V} {s : Slice} {xs : List β}
    {slots : List (Option (Slot K V))} (hc : H[s.arr]? = some (.arr slots)) (hle : s.len ≤ slots.length)
    (hm : mapOpt (fun o => o.bind g) (slots.take s.len) = some xs) : viewWith g H s = some xs := by
  unfold viewWith
  simp [hc, hle, hm]

theorem viewWith_length {g : Slot K V → Option β} {H : Heap K V} {s : Slice} {xs : List β}
    (h : viewWith g H s = some xs) : xs.length = s.len := by
  obtain ⟨slots, _, hle, hm⟩ := viewWith_eq_some h
  rw [mapOpt_length hm, List.length_take]; omega

/-- a slice view only depends on its backing array cell -/
theorem viewWith_agree {g : Slot K V → Option β} {H H' : Heap K V} {s : Slice}
    (h : H'[s.arr]? = H[s.arr]?) : viewWith g H' s = viewWith g H s := by
  unfold viewWith; rw [h]

theorem viewWith_arr_lt {g : Slot K V → Option β} {H : Heap K V} {s : Slice} {xs : List β}
    (h : viewWith g H s = some xs) : s.arr < H.size := by
  obtain ⟨slots, hc, _, _⟩ := viewWith_eq_some h
  exact lt_size_of_get hc

-- absF: unfolding per cell kind ------------------------------------------------------------------

theorem absF_array {f s : Nat} {H : Heap K V} {p : Addr} {sl : Slice} (h : H[p]? = some (.array sl)) :
    absF (f + 1) s H p =
      if s = 0 then (viewEnts H sl).map (fun es => (Node.array es, [p, sl.arr])) else none := by
  simp [absF, h]

theorem absF_bitmap {f s : Nat} {H : Heap K V} {p : Addr} {bm : Nat} {sl : Slice}
    (h : H[p]? = some (.bitmap bm sl)) :
    absF (f + 1) s H p = if s < 32 then (viewPtrs H sl).bind fun ps =>
      (mapOpt (absF f (s + mapNodeBits) H) ps).map fun rs =>
        (Node.bitmap bm (rs.map (·.1)), p :: sl.arr :: (rs.map (·.2)).flatten) else none := by
  simp [absF, h]

/-- abstraction of one slot of a hash-array node -/
def absSlot (f s : Nat) (H : Heap K V) : Option Addr → Option (Option (Node K V) × List Addr)
  | none => some (none, [])
  | some c => (absF f s H c).map (fun r => (some r.1, r.2))

theorem absF_hashArray {f s : Nat} {H : Heap K V} {p : Addr} {cnt : Nat} {slots : List (Option Addr)}
    (h : H[p]? = some (.hashArray cnt slots)) :
    absF (f + 1) s H p = if s < 32 then (mapOpt (absSlot f (s + mapNodeBits) H) slots).map fun rs =>
        (Node.hashArray cnt (rs.map (·.1)), p :: (rs.map (·.2)).flatten) else none := by
  simp only [absF, h]
  congr 2

theorem absF_value {f s : Nat} {H : Heap K V} {p : Addr} {kh : UInt32} {k : K} {v : V}
    (h : H[p]? = some (.value kh k v)) : absF (f + 1) s H p = some (Node.value kh k v, [p]) := by
  simp [absF, h]

theorem absF_collision {f s : Nat} {H : Heap K V} {p : Addr} {kh : UInt32} {sl : Slice}
    (h : H[p]? = some (.collision kh sl)) :
    absF (f + 1) s H p = (viewEnts H sl).map (fun es => (Node.collision kh es, [p, sl.arr])) := by
  simp [absF, h]

theorem absF_zero (s : Nat) (H : Heap K V) (p : Addr) : absF 0 s H p = none := rfl

/-- The five ways in which pointer `p` represents a node (at shift `s`, children with fuel `f`): one per
    node struct, each with what it needs of the heap and with the node and footprint that result. -/
inductive AbsAt (f s : Nat) (H : Heap K V) (p : Addr) : Node K V → List Addr → Prop
  | value {kh : UInt32} {k : K} {v : V} (hc : H[p]? = some (.value kh k v)) :
      AbsAt f s H p (.value kh k v) [p]
  | array {sl : Slice} {es : List (K × V)} (hc : H[p]? = some (.array sl)) (hs : s = 0)
      (hv : viewEnts H sl = some es) : AbsAt f s H p (.array es) [p, sl.arr]
  | collision {kh : UInt32} {sl : Slice} {es : List (K × V)} (hc : H[p]? = some (.collision kh sl))
      (hv : viewEnts H sl = some es) : AbsAt f s H p (.collision kh es) [p, sl.arr]
  | bitmap {bm : Nat} {sl : Slice} {ps : List Addr} {rs : List (Node K V × List Addr)}
      (hc : H[p]? = some (.bitmap bm sl)) (hs : s < 32) (hv : viewPtrs H sl = some ps)
      (hk : mapOpt (absF f (s + mapNodeBits) H) ps = some rs) :
      AbsAt f s H p (.bitmap bm (rs.map (·.1))) (p :: sl.arr :: (rs.map (·.2)).flatten)
  | hashArray {cnt : Nat} {slots : List (Option Addr)} {rs : List (Option (Node K V) × List Addr)}
      (hc : H[p]? = some (.hashArray cnt slots)) (hs : s < 32)
      (hk : mapOpt (absSlot f (s + mapNodeBits) H) slots = some rs) :
      AbsAt f s H p (.hashArray cnt (rs.map (·.1))) (p :: (rs.map (·.2)).flatten)

theorem AbsAt.absF {f s : Nat} {H : Heap K V} {p : Addr} {n : Node K V} {fp : List Addr}
    (h : AbsAt f s H p n fp) : absF (f + 1) s H p = some (n, fp) := by
  cases h with
  | value hc => exact absF_value hc
  | array hc hs hv => rw [absF_array hc, if_pos hs, hv]; rfl
  | collision hc hv => rw [absF_collision hc, hv]; rfl
  | bitmap hc hs hv hk => rw [absF_bitmap hc, if_pos hs, hv, Option.bind_some, hk]; rfl
  | hashArray hc hs hk => rw [absF_hashArray hc, if_pos hs, hk]; rfl

theorem absF_succ {f s : Nat} {H : Heap K V} {p : Addr} {n : Node K V} {fp : List Addr}
    (h : absF (f + 1) s H p = some (n, fp)) : AbsAt f s H p n fp := by
  cases hc : H[p]? with
  | none => simp [absF, hc] at h
  | some c =>
    cases c with
    | hamt sz r => simp [absF, hc] at h
    | arr sl => simp [absF, hc] at h
    | value kh k v => rw [absF_value hc] at h; cases h; exact .value hc
    | array sl =>
      rw [absF_array hc] at h
      split at h
      · rename_i hs
        obtain ⟨es, hv, he⟩ := Option.map_eq_some_iff.mp h
        cases he; exact .array hc hs hv
      · cases h
    | collision kh sl =>
      rw [absF_collision hc] at h
      obtain ⟨es, hv, he⟩ := Option.map_eq_some_iff.mp h
      cases he; exact .collision hc hv
    | bitmap bm sl =>
      rw [absF_bitmap hc] at h
      split at h
      · rename_i hs
        simp only [Option.bind_eq_some_iff, Option.map_eq_some_iff] at h
        obtain ⟨ps, hv, rs, hk, he⟩ := h
        cases he; exact .bitmap hc hs hv hk
      · cases h
    | hashArray cnt slots =>
      rw [absF_hashArray hc] at h
      split at h
      · rename_i hs
        obtain ⟨rs, hk, he⟩ := Option.map_eq_some_iff.mp h
        cases he; exact .hashArray hc hs hk
      · cases h

-- children ------------------------------------------------------------------------------------------

/-- the children of a bitmap node keep their abstractions under any change of heap and fuel that
    each of them survives -/
theorem kids_transport {f f' s : Nat} {H H' : Heap K V} {ps : List Addr} {rs : List (Node K V × List Addr)}
    (hk : mapOpt (absF f s H) ps = some rs)
    (ht : ∀ c r, r ∈ rs → absF f s H c = some r → absF f' s H' c = some r) :
    mapOpt (absF f' s H') ps = some rs := by
  rw [← hk]
  apply mapOpt_congr
  intro c hcm
  obtain ⟨r, hr, hcabs⟩ := mapOpt_mem hk hcm
  rw [hcabs]
  exact ht c r hr hcabs

theorem mem_flatten_snd {γ : Type} {rs : List (γ × List Addr)} {r : γ × List Addr} (hr : r ∈ rs) {a : Addr}
    (ha : a ∈ r.2) : a ∈ (rs.map (·.2)).flatten :=
  List.mem_flatten.mpr ⟨r.2, List.mem_map.mpr ⟨r, hr, rfl⟩, ha⟩

/-- same for the slots of a hash-array node -/
theorem slots_transport {f f' s : Nat} {H H' : Heap K V} {slots : List (Option Addr)}
    {rs : List (Option (Node K V) × List Addr)} (hk : mapOpt (absSlot f s H) slots = some rs)
    (ht : ∀ c (r : Node K V × List Addr), (∀ a ∈ r.2, a ∈ (rs.map (·.2)).flatten) →
      absF f s H c = some r → absF f' s H' c = some r) :
    mapOpt (absSlot f' s H') slots = some rs := by
  rw [← hk]
  apply mapOpt_congr
  intro o hom
  obtain ⟨r, hr, hoabs⟩ := mapOpt_mem hk hom
  cases o with
  | none => rfl
  | some c =>
    obtain ⟨rc, hcabs, hrc⟩ := Option.map_eq_some_iff.mp hoabs
    show (absF f' s H' c).map _ = (absF f s H c).map _
    rw [hcabs, ht c rc (fun a ha => mem_flatten_snd hr (by rw [← hrc]; exact ha)) hcabs]

-- absF: footprint ----------------------------------------------------------------------------------

theorem absF_valid : ∀ {f s : Nat} {H : Heap K V} {p : Addr} {n : Node K V} {fp : List Addr},
    absF f s H p = some (n, fp) → (∀ a ∈ fp, a < H.size) ∧ ∃ t, fp = p :: t := by
  intro f
  induction f with
  | zero => intro s H p n fp h; cases h
  | succ f ih =>
    intro s H p n fp h
    refine ⟨?_, by cases absF_succ h <;> exact ⟨_, rfl⟩⟩
    cases absF_succ h with
    | value hc => simp [lt_size_of_get hc]
    | array hc _ hv => simp [lt_size_of_get hc, viewWith_arr_lt hv]
    | collision hc hv => simp [lt_size_of_get hc, viewWith_arr_lt hv]
    | bitmap hc _ hv hk =>
      intro a hmem
      simp only [List.mem_cons, List.mem_flatten, List.mem_map] at hmem
      rcases hmem with rfl | rfl | ⟨l, ⟨r, hr, rfl⟩, hal⟩
      · exact lt_size_of_get hc
      · exact viewWith_arr_lt hv
      · obtain ⟨i, hi⟩ := List.getElem?_of_mem hr
        obtain ⟨c, _, hcabs⟩ := mapOpt_getElem?' hk hi
        exact (ih (n := r.1) (fp := r.2) hcabs).1 a hal
    | hashArray hc _ hk =>
      intro a hmem
      simp only [List.mem_cons, List.mem_flatten, List.mem_map] at hmem
      rcases hmem with rfl | ⟨l, ⟨r, hr, rfl⟩, hal⟩
      · exact lt_size_of_get hc
      · obtain ⟨i, hi⟩ := List.getElem?_of_mem hr
        obtain ⟨o, _, hoabs⟩ := mapOpt_getElem?' hk hi
        cases o with
        | none => cases hoabs; cases hal
        | some c =>
          obtain ⟨rc, hcabs, hrc⟩ := Option.map_eq_some_iff.mp hoabs
          rw [← hrc] at hal
          exact (ih (n := rc.1) (fp := rc.2) hcabs).1 a hal

theorem absF_lt {f s : Nat} {H : Heap K V} {p : Addr} {n : Node K V} {fp : List Addr}
    (h : absF f s H p = some (n, fp)) {a : Addr} (ha : a ∈ fp) : a < H.size := (absF_valid h).1 a ha

theorem absF_self_mem {f s : Nat} {H : Heap K V} {p : Addr} {n : Node K V} {fp : List Addr}
    (h : absF f s H p = some (n, fp)) : p ∈ fp := by
  obtain ⟨t, ht⟩ := (absF_valid h).2; simp [ht]

/-- **frame rule**: the abstraction depends only on the cells of its footprint -/
theorem absF_agree : ∀ {f s : Nat} {H H' : Heap K V} {p : Addr} {n : Node K V} {fp : List Addr},
    absF f s H p = some (n, fp) → (∀ a ∈ fp, H'[a]? = H[a]?) → absF f s H' p = some (n, fp) := by
  intro f
  induction f with
  | zero => intro s H H' p n fp h; cases h
  | succ f ih =>
    intro s H H' p n fp h hag
    have hpp := hag p (absF_self_mem h)
    cases absF_succ h with
    | value hc => exact absF_value (hpp.trans hc)
    | array hc hs hv =>
      exact (AbsAt.array (hpp.trans hc) hs ((viewWith_agree (hag _ (by simp))).trans hv)).absF
    | collision hc hv =>
      exact (AbsAt.collision (hpp.trans hc) ((viewWith_agree (hag _ (by simp))).trans hv)).absF
    | bitmap hc hs hv hk =>
      refine (AbsAt.bitmap (hpp.trans hc) hs ((viewWith_agree (hag _ (by simp))).trans hv) ?_).absF
      exact kids_transport hk fun c r hr hcabs =>
        ih (n := r.1) (fp := r.2) hcabs fun a ha => hag a (by simp [mem_flatten_snd hr ha])
    | hashArray hc hs hk =>
      refine (AbsAt.hashArray (hpp.trans hc) hs ?_).absF
      exact slots_transport hk fun c r hr hcabs =>
        ih (n := r.1) (fp := r.2) hcabs fun a ha => hag a (by simp [hr a ha])

theorem absF_le {f s : Nat} {H H' : Heap K V} {p : Addr} {n : Node K V} {fp : List Addr}
    (h : absF f s H p = some (n, fp)) (hle : Heap.le H H') : absF f s H' p = some (n, fp) :=
  absF_agree h (fun a ha => hle.2 a (absF_lt h ha))

theorem absF_mono_succ : ∀ {f s : Nat} {H : Heap K V} {p : Addr} {r : Node K V × List Addr},
    absF f s H p = some r → absF (f + 1) s H p = some r := by
  intro f
  induction f with
  | zero => intro s H p r h; cases h
  | succ f ih =>
    intro s H p r h
    obtain ⟨n, fp⟩ := r
    cases absF_succ h with
    | value hc => exact absF_value hc
    | array hc hs hv => exact (AbsAt.array hc hs hv).absF
    | collision hc hv => exact (AbsAt.collision hc hv).absF
    | bitmap hc hs hv hk => exact (AbsAt.bitmap hc hs hv (kids_transport hk fun _ _ _ => ih)).absF
    | hashArray hc hs hk => exact (AbsAt.hashArray hc hs (slots_transport hk fun _ _ _ => ih)).absF

theorem absF_mono {f f' s : Nat} {H : Heap K V} {p : Addr} {r : Node K V × List Addr}
    (h : absF f s H p = some r) (hle : f ≤ f') : absF f' s H p = some r := by
  induction hle with
  | refl => exact h
  | step _ ih => exact absF_mono_succ ih

end FpVerif.HamtHeap
