import FpVerif.Lemmas.FutNet
import FpVerif.Lemmas.ListBasics
/-!
# Well-formed `fp.Try` results in the future network (C06, audit finding 1)

The executable task-atomic model (`Model/Future.lean`) is *total* on the ill-formed Try value
`failure .nil` (Go: the zero value `fp.Try[T]{}` and `fp.Failure[T](nil)`): `runTask` passes it on with
`complete np (.failure .nil)`.  The Go code does not: every task that takes the failure branch evaluates
`t.Failed().Get()` (future.go:152,216,262,286,302,307,322,338; future/future_op.go:99,228), and
`Try.Failed()` of a failure whose `err` is nil is `Failure("Try not initialized correctly")` (try.go:85-87),
so `.Get()` panics inside the task: the task dies (with the default executor the process dies) and the
derived promise is never completed.

This module defines the side condition under which the model and the code agree — no Try value that ever
enters the network is `failure .nil` (`WFTry`, `WFE`, `EvWF`, `WFNet`) — and proves that it is an invariant of the
network for EVERY schedule (`wf_runEvs`), independently of the soundness invariant (so it holds for first-order and
for higher-order programs alike); then the panic-aware reading of the tasks (`runTaskGo` / `stepGo` / `runEvsGo`:
`none` = a task panicked in `t.Failed().Get()`), which from a well-formed network, along `EvWF` events, coincides
with the executable (total) model (`runEvsGo_eq`).
-/
namespace FpVerif.Fut

/-- a well-formed `fp.Try`: not the zero value `Try{}` / `Failure(nil)` -/
def WFTry (t : Try Val) : Prop := t ≠ .failure .nil

instance (t : Try Val) : Decidable (WFTry t) :=
  match t with
  | .success _ => isTrue (by simp [WFTry])
  | .failure e => if h : e = .nil then isFalse (by simp [WFTry, h]) else isTrue (by simp [WFTry, h])

@[simp] theorem wfTry_success (v : Val) : WFTry (.success v) := by simp [WFTry]
@[simp] theorem wfTry_failure (e : Err) : WFTry (.failure e) ↔ e ≠ .nil := by simp [WFTry]

/-- hereditarily, every Try value the construction program can put into the network is well formed: `Failed(err)` has
    `err ≠ nil`, a `Transform` function maps well-formed inputs to well-formed results, an `Apply` body returns a
    well-formed Try, and every future a user function builds (for a well-formed argument) is again `WFE` -/
inductive WFE : FExpr → Prop where
  | ref (p : Nat) : WFE (.ref p)
  | successful (v : Val) : WFE (.successful v)
  | failed (e : Err) : e ≠ .nil → WFE (.failed e)
  | successfulOf (e : FExpr) : WFE e → WFE (.successfulOf e)
  | logged (evs : List Event) (e : FExpr) : WFE e → WFE (.logged evs e)
  | flatMap (e : FExpr) (k : Val → FExpr) : WFE e → (∀ v, WFE (k v)) → WFE (.flatMap e k)
  | transform (e : FExpr) (f : Try Val → W (Try Val)) : WFE e → (∀ t, WFTry t → WFTry (f t).1) →
      WFE (.transform e f)
  | transformWith (e : FExpr) (k : Try Val → FExpr) : WFE e → (∀ t, WFTry t → WFE (k t)) →
      WFE (.transformWith e k)
  | recoverWith (e : FExpr) (d : Err → Bool) (k : Err → FExpr) : WFE e → (∀ x, x ≠ .nil → WFE (k x)) →
      WFE (.recoverWith e d k)
  | orFuture (e alt : FExpr) : WFE e → WFE alt → WFE (.orFuture e alt)
  | apply (f : Unit → W (Try Val)) : WFTry (f ()).1 → WFE (.apply f)

/-- the closures the library registers only ever produce well-formed Try values from well-formed ones -/
def CbWF : CB → Prop
  | .flatMapA k _ => ∀ v, WFE (k v)
  | .completeWith _ => True
  | .transformA f _ => ∀ t, WFTry t → WFTry (f t).1
  | .transformWithA k _ => ∀ t, WFTry t → WFE (k t)
  | .recoverWithA _ k _ => ∀ x, x ≠ .nil → WFE (k x)
  | .orFutureA _ _ => True
  | .observe _ => True

def TaskWF : Task → Prop
  | .cb c t => WFTry t ∧ CbWF c
  | .applyT f _ => WFTry (f ()).1

/-- no ill-formed Try anywhere in the network: not in a completed promise, not carried by a pooled task,
    and no registered callback can produce one -/
structure WFNet (n : Net) : Prop where
  status : ∀ p t, n.status p = some t → WFTry t
  tasks : ∀ tk ∈ n.pool, TaskWF tk
  cbs : ∀ q c, c ∈ n.cbs q → CbWF c

theorem wfNet_empty (nsrc : Nat) : WFNet (Net.empty nsrc) :=
  ⟨by intro p t h; simp [Net.empty] at h, by intro tk h; simp [Net.empty] at h,
   by intro q c h; simp [Net.empty] at h⟩

theorem wfNet_congr {n n' : Net} (h : WFNet n) (h1 : n'.status = n.status) (h2 : n'.pool = n.pool)
    (h3 : n'.cbs = n.cbs) : WFNet n' :=
  ⟨by rw [h1]; exact h.status, by rw [h2]; exact h.tasks, by rw [h3]; exact h.cbs⟩

theorem wf_complete {n : Net} (h : WFNet n) {p : Nat} {t : Try Val} (ht : WFTry t) : WFNet (complete p t n) := by
  refine ⟨?_, ?_, fun q c hc => h.cbs q c (mem_complete_cbs.1 hc).1⟩
  · intro q v hq
    rcases complete_status_inv hq with hold | ⟨_, _, rfl⟩
    · exact h.status q v hold
    · exact ht
  · intro tk htk
    rcases mem_complete_pool.1 htk with hold | ⟨_, c, hc, rfl⟩
    · exact h.tasks tk hold
    · exact ⟨ht, h.cbs p c hc⟩

theorem wf_onComplete {n : Net} (h : WFNet n) {p : Nat} {c : CB} (hc : CbWF c) : WFNet (onComplete p c n) := by
  refine ⟨by rw [onComplete_status]; exact h.status, ?_, ?_⟩
  · intro tk htk
    rcases mem_onComplete_pool.1 htk with hold | ⟨t, hst, rfl⟩
    · exact h.tasks tk hold
    · exact ⟨h.status p t hst, hc⟩
  · intro q c' hc'
    rcases mem_onComplete_cbs.1 hc' with hold | ⟨_, _, rfl⟩
    · exact h.cbs q c' hold
    · exact hc

theorem wf_fresh {n : Net} (h : WFNet n) (sp : FExpr) : WFNet (fresh sp n).2 := wfNet_congr h rfl rfl rfl

theorem wf_log {n : Net} (h : WFNet n) (evs : List Event) : WFNet { n with log := n.log ++ evs } :=
  wfNet_congr h rfl rfl rfl

theorem wf_build (e : FExpr) (he : WFE e) : ∀ n : Net, WFNet n → WFNet (build e n).2 := by
  induction he with
  | ref p => intro n h; exact h
  | successful v => intro n h; exact wf_complete (wf_fresh h _) (wfTry_success v)
  | failed x hx => intro n h; exact wf_complete (wf_fresh h _) ((wfTry_failure x).2 hx)
  | successfulOf e _ ih => intro n h; exact wf_complete (wf_fresh (ih n h) _) (wfTry_success _)
  | logged evs e _ ih => intro n h; exact ih _ (wf_log h evs)
  | flatMap e k _ hk ihe _ => intro n h; exact wf_onComplete (wf_fresh (ihe n h) _) hk
  | transform e f _ hf ih => intro n h; exact wf_onComplete (wf_fresh (ih n h) _) hf
  | transformWith e k _ hk ihe _ => intro n h; exact wf_onComplete (wf_fresh (ihe n h) _) hk
  | recoverWith e d k _ hk ihe _ => intro n h; exact wf_onComplete (wf_fresh (ihe n h) _) hk
  | orFuture e alt _ _ ihe iha => intro n h; exact wf_onComplete (wf_fresh (iha _ (ihe n h)) _) trivial
  | apply f hf =>
    intro n h
    refine ⟨h.status, ?_, h.cbs⟩
    intro tk htk
    simp only [build, fresh, List.mem_append, List.mem_singleton] at htk
    rcases htk with hold | rfl
    · exact h.tasks tk hold
    · exact hf

/-- running a well-formed task keeps the network well formed: in particular the failure branches of
    FlatMap / RecoverWith only ever see `failure e` with `e ≠ nil`, where `t.Failed().Get()` is `e` -/
theorem wf_runTask {n : Net} (h : WFNet n) (tk : Task) (htk : TaskWF tk) : WFNet (runTask tk n) := by
  cases tk with
  | applyT f np => exact wf_complete (wf_log h _) htk
  | cb c t =>
    obtain ⟨ht, hc⟩ := htk
    cases c with
    | flatMapA k np =>
      cases t with
      | success v => exact wf_onComplete (wf_build (k v) (hc v) n h) trivial
      | failure e => exact wf_complete h ht
    | completeWith np => exact wf_complete h ht
    | transformA f np => exact wf_complete (wf_log h _) (hc t ht)
    | transformWithA k np => exact wf_onComplete (wf_build (k t) (hc t ht) n h) trivial
    | recoverWithA d k np =>
      cases t with
      | success v => exact wf_complete h (wfTry_success v)
      | failure e =>
        simp only [runTask]
        split
        · exact wf_onComplete (wf_build (k e) (hc e ((wfTry_failure e).1 ht)) n h) trivial
        · exact wf_complete h ht
    | orFutureA q np =>
      cases t with
      | success v => exact wf_complete h (wfTry_success v)
      | failure e => exact wf_onComplete h trivial
    | observe id => exact wf_log h _

/-- the well-formedness obligations of an event: sources are never completed with `Try{}` / `Failure(nil)`,
    and the program constructs only `WFE` expressions -/
def EvWF : Ev → Prop
  | .run _ => True
  | .src _ t => WFTry t
  | .mk e => WFE e
  | .obs _ _ => True

theorem wf_step {n : Net} (h : WFNet n) (ev : Ev) (hev : EvWF ev) : WFNet (step n ev) := by
  cases ev with
  | run i =>
    simp only [step]
    cases hi : n.pool[i]? with
    | none => exact h
    | some tk =>
      have hmem : tk ∈ n.pool := List.mem_of_getElem? hi
      have h0 : WFNet { n with pool := n.pool.eraseIdx i } :=
        ⟨h.status, fun tk' htk' => h.tasks tk' (List.mem_of_mem_eraseIdx htk'), h.cbs⟩
      exact wf_runTask h0 tk (h.tasks tk hmem)
  | src p t => exact wf_complete h hev
  | mk e => exact wf_build e hev n h
  | obs p id => exact wf_onComplete h trivial

theorem wf_runEvs (evs : List Ev) : ∀ n : Net, WFNet n → (∀ ev ∈ evs, EvWF ev) → WFNet (runEvs n evs) :=
  fun _ h hv => Fold.inv_of_mem (P := WFNet) (fun _ ev hev h => wf_step h ev hev) h hv

-- the panic-aware reading of the task bodies ---------------------------------------------------------------------------------

/-- The pooled tasks whose Go body evaluates `t.Failed().Get()` on a failure and therefore PANICS on the ill-formed
    `failure .nil` before it calls `np.Complete` / `np.Failure`:
    * `flatMapA` — `future.FlatMap` (future_op.go:228), `Future.FlatMap` (future.go:338): `np.Failure(t.Failed().Get())`;
    * `recoverWithA` — `Future.RecoverWith` (future.go:286: `f(t.Failed().Get())`), `Future.RecoverCaseWith`
      (future.go:302: `isDefinedAt(t.Failed().Get())`).  (`Future.Or`, which the model also expresses by `recoverWith`,
      does not inspect the error — future.go:230 — so for it this reading is conservative.)
    `completeWith`, `transformWithA`, `orFutureA` pass the Try on (`np.Complete(t)`, `fn(t)`, `v.OnComplete`) and never
    panic; for `transformA f` the function `f` is the caller's (`future.Transform`) — the library methods that go through
    it (`Map`, `Recover`, `RecoverCase`, `Failed`) are treated in `Spec/C06Methods.lean` (`method_tasks_panic_on_nil`). -/
def panicsInGo : Task → Bool
  | .cb (.flatMapA _ _) (.failure .nil) => true
  | .cb (.recoverWithA _ _ _) (.failure .nil) => true
  | _ => false

/-- the task body with that panic explicit: `none` = the task panicked, nothing was completed (the derived promise stays
    pending; with the default `go runnable.Run()` executor the process terminates) -/
def runTaskGo (tk : Task) (n : Net) : Option Net := if panicsInGo tk then none else some (runTask tk n)

def stepGo (n : Net) : Ev → Option Net
  | .run i =>
    match n.pool[i]? with
    | some tk => runTaskGo tk { n with pool := n.pool.eraseIdx i }
    | none => some n
  | ev => some (step n ev)

def runEvsGo : Net → List Ev → Option Net
  | n, [] => some n
  | n, ev :: evs => (stepGo n ev).bind (fun n' => runEvsGo n' evs)

theorem taskWF_not_panics {tk : Task} (h : TaskWF tk) : panicsInGo tk = false := by
  cases tk with
  | applyT f np => rfl
  | cb c t =>
    obtain ⟨ht, _⟩ := h
    cases t with
    | success v => cases c <;> rfl
    | failure e =>
      have he : e ≠ .nil := (wfTry_failure e).1 ht
      cases c <;> first | rfl | (cases e <;> first | rfl | exact absurd rfl he)

theorem stepGo_eq {n : Net} (h : WFNet n) (ev : Ev) : stepGo n ev = some (step n ev) := by
  cases ev with
  | run i =>
    simp only [stepGo, step]
    cases hi : n.pool[i]? with
    | none => rfl
    | some tk =>
      have hmem : tk ∈ n.pool := List.mem_of_getElem? hi
      simp [runTaskGo, taskWF_not_panics (h.tasks tk hmem)]
  | src p t => rfl
  | mk e => rfl
  | obs p id => rfl

theorem runEvsGo_eq (evs : List Ev) : ∀ n : Net, WFNet n → (∀ ev ∈ evs, EvWF ev) →
    runEvsGo n evs = some (runEvs n evs) := by
  induction evs with
  | nil => intro n _ _; rfl
  | cons ev evs ih =>
    intro n h hv
    simp only [runEvsGo, stepGo_eq h ev, Option.bind_some]
    exact ih _ (wf_step h ev (hv ev (by simp))) (fun ev' hm => hv ev' (by simp [hm]))

end FpVerif.Fut
