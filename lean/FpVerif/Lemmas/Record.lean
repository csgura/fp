import FpVerif.Lemmas.RecordG
/-!
# Helper lemmas for C07 (record model).  Core Lean only.

The record model is the instance `α = RV` of the records of `Lemmas/RecordG.lean`: `project`,
`inject` are `projectG`, `injectG`; `pick fs x b` is `maskG fs b x`; `mask fs` takes the field zeros
for `b`.
-/
namespace FpVerif.Rec

/-- `x` on the applicable fields, `b` on the others -/
def pick : List Field → Rec → Rec → Rec
  | f :: fs, v :: vs, w :: ws => (if f.applicable then v else w) :: pick fs vs ws
  | _, _, _ => []

theorem Ty.isOpt_iff (t : Ty) : t.isOpt = true ↔ ∃ e, t = .opt e := by
  cases t <;> simp [Ty.isOpt]

theorem getF_eq (i : Nat) (x : Rec) : getF i x = x[i]?.getD .none := List.getD_eq_getElem?_getD

theorem getF_set_same (x : Rec) (i : Nat) (v : RV) (h : i < x.length) : getF i (x.set i v) = v := by
  simp [getF_eq, h]

theorem getF_set_other (x : Rec) (i j : Nat) (v : RV) (h : i ≠ j) : getF j (x.set i v) = getF j x := by
  simp [getF_eq, List.getElem?_set_ne h]

theorem ext_getF (a b : Rec) (hl : a.length = b.length) (h : ∀ j, j < a.length → getF j a = getF j b) : a = b := by
  apply List.ext_getElem hl
  intro j h1 h2
  have := h j h1
  simpa [getF_eq, h1, h2] using this

end FpVerif.Rec

namespace FpVerif.Derive
open FpVerif.Rec

theorem projectG_eq_project (fs : List Field) (x : Rec) : projectG fs x = project fs x := by
  induction fs generalizing x with
  | nil => cases x <;> rfl
  | cons f fs ih =>
    cases x with
    | nil => rfl
    | cons v vs =>
      rw [projectG_cons, ih vs]
      rfl

theorem injectG_eq_inject (fs : List Field) (b : Rec) (t : List RV) :
    injectG fs b t = inject fs b t := by
  induction fs generalizing b t with
  | nil => cases b <;> rfl
  | cons f fs ih =>
    cases b with
    | nil => rfl
    | cons bv bs =>
      rw [injectG_cons, ih, ih]
      cases t <;> rfl

theorem maskG_eq_pick (fs : List Field) (x b : Rec) : maskG fs b x = pick fs x b := by
  induction fs generalizing x b with
  | nil => rfl
  | cons f fs ih =>
    cases b with
    | nil => cases x <;> rfl
    | cons w ws =>
      cases x with
      | nil => rfl
      | cons v vs =>
        rw [maskG_cons, ih vs ws]
        rfl

theorem maskG_eq_mask (fs : List Field) (x : Rec) : maskG fs (fs.map Field.zero) x = mask fs x := by
  induction fs generalizing x with
  | nil => cases x <;> rfl
  | cons f fs ih =>
    cases x with
    | nil => rfl
    | cons v vs =>
      rw [List.map_cons, maskG_cons, ih vs]
      rfl

end FpVerif.Derive

namespace FpVerif.Rec
open FpVerif.Derive

theorem project_length (fs : List Field) (x : Rec) (h : x.length = fs.length) :
    (project fs x).length = (fs.filter Field.applicable).length := by
  rw [← projectG_eq_project]
  exact projectG_length fs x h

theorem inject_length (fs : List Field) (b t : Rec) : (inject fs b t).length = b.length := by
  rw [← injectG_eq_inject]
  exact injectG_length fs b t

theorem pick_length (fs : List Field) (x b : Rec) (hx : x.length = fs.length) (hb : b.length = fs.length) :
    (pick fs x b).length = fs.length := by
  rw [← maskG_eq_pick]
  exact maskG_length fs b x hb hx

theorem pick_self (fs : List Field) (x : Rec) (h : x.length = fs.length) : pick fs x x = x := by
  rw [← maskG_eq_pick]
  exact maskG_self fs x h

/-- `FromTuple(AsTuple(x))`, `Apply(Unapply(x))`: the applicable fields come from `x`, the rest stays -/
theorem inject_project (fs : List Field) (x b : Rec) (hx : x.length = fs.length) (hb : b.length = fs.length) :
    inject fs b (project fs x) = pick fs x b := by
  rw [← injectG_eq_inject, ← projectG_eq_project, ← maskG_eq_pick]
  exact injectG_projectG fs b x hb hx

/-- `AsTuple(FromTuple(t))` gives `t` back -/
theorem project_inject (fs : List Field) (b t : Rec) (hb : b.length = fs.length)
    (ht : t.length = (fs.filter Field.applicable).length) : project fs (inject fs b t) = t := by
  rw [← injectG_eq_inject, ← projectG_eq_project]
  exact projectG_injectG fs b t hb ht

theorem getF_pick (fs : List Field) (x b : Rec) (i : Nat) (f : Field) (hx : x.length = fs.length)
    (hb : b.length = fs.length) (hf : fs[i]? = some f) :
    getF i (pick fs x b) = if f.applicable then getF i x else getF i b := by
  rw [← maskG_eq_pick, getF_eq, getF_eq, getF_eq]
  cases happ : f.applicable
  · rw [getElem?_maskG_not_applicable fs b x i f hf happ
      (hx ▸ (List.getElem?_eq_some_iff.1 hf).1)]
    rfl
  · rw [getElem?_maskG_applicable fs b x i f hb hf happ]
    rfl

theorem project_eq_filter (fs : List Field) (x : Rec) (h : x.length = fs.length) :
    project fs x = ((fs.zip x).filter (fun p => p.1.applicable)).map (·.2) := by
  induction fs, x, h using tuple_induction₁ with
  | nil => rfl
  | cons f fs v vs h ih =>
    rw [List.zip_cons_cons, List.filter_cons, ← projectG_eq_project, projectG_cons,
      projectG_eq_project, ih]
    cases f.applicable <;> rfl

theorem labels_cons (f : Field) (fs : List Field) (v : RV) (vs : Rec) :
    labels (f :: fs) (v :: vs) =
      if f.applicable then ⟨f.name, v, f.tag⟩ :: labels fs vs else labels fs vs := rfl

theorem labels_values (fs : List Field) (x : Rec) : (labels fs x).map Lab.value = project fs x := by
  induction fs generalizing x with
  | nil => cases x <;> rfl
  | cons f fs ih =>
    cases x with
    | nil => rfl
    | cons v vs =>
      rw [labels_cons, ← projectG_eq_project, projectG_cons, projectG_eq_project, ← ih vs]
      cases f.applicable <;> rfl

theorem labels_map (g : Lab → String) (g' : Field → String)
    (hg : ∀ (f : Field) (v : RV), g ⟨f.name, v, f.tag⟩ = g' f) (fs : List Field) (x : Rec)
    (h : x.length = fs.length) :
    (labels fs x).map g = (fs.filter Field.applicable).map g' := by
  induction fs, x, h using tuple_induction₁ with
  | nil => rfl
  | cons f fs v vs h ih =>
    rw [labels_cons, List.filter_cons]
    cases f.applicable
    · exact ih
    · rw [if_pos rfl, if_pos rfl, List.map_cons, List.map_cons, hg, ih]

theorem labels_names (fs : List Field) (x : Rec) (h : x.length = fs.length) :
    (labels fs x).map Lab.name = (fs.filter Field.applicable).map Field.name :=
  labels_map _ _ (fun _ _ => rfl) fs x h

theorem labels_tags (fs : List Field) (x : Rec) (h : x.length = fs.length) :
    (labels fs x).map Lab.tag = (fs.filter Field.applicable).map Field.tag :=
  labels_map _ _ (fun _ _ => rfl) fs x h

theorem labels_length (fs : List Field) (x : Rec) (h : x.length = fs.length) :
    (labels fs x).length = (fs.filter Field.applicable).length := by
  rw [← project_length fs x h, ← labels_values, List.length_map]

/-- a Labelled tuple is its names, its values and its tags -/
theorem lab_ext (a b : List Lab) (hn : a.map Lab.name = b.map Lab.name)
    (hv : a.map Lab.value = b.map Lab.value) (ht : a.map Lab.tag = b.map Lab.tag) : a = b := by
  induction a generalizing b with
  | nil => cases b <;> simp_all
  | cons x xs ih =>
    cases b with
    | nil => simp at hn
    | cons y ys =>
      simp only [List.map_cons, List.cons.injEq] at hn hv ht
      rw [ih ys hn.2 hv.2 ht.2]
      cases x; cases y
      simp_all

/-! ## the tuple limit -/

theorem arity_of_hasTuple (s : StructSpec) (ht : s.hasTuple = true) : s.arity = s.nApp := by
  have h : s.nApp < 22 := of_decide_eq_true ht
  simp only [StructSpec.arity, maxProduct]
  omega

/-- below the tuple limit nothing is cut off: `AsTuple` is `Unapply`, `FromTuple` is `Apply`, and the same for
    the Labelled pair -/
theorem take_arity (s : StructSpec) (ht : s.hasTuple = true) {β : Type} (l : List β)
    (hl : l.length = s.nApp) : l.take s.arity = l := by
  rw [arity_of_hasTuple s ht, ← hl, List.take_length]

/-! ## `mask` (`AsMutable` / `AsImmutable`) -/

theorem mask_eq_pick_zero (fs : List Field) (x : Rec) :
    mask fs x = pick fs x (fs.map Field.zero) := by
  rw [← maskG_eq_mask, maskG_eq_pick]

theorem mask_length (fs : List Field) (x : Rec) (h : x.length = fs.length) :
    (mask fs x).length = fs.length := by
  rw [← maskG_eq_mask]
  exact maskG_length fs _ x (List.length_map _) h

/-- `mask` is idempotent: `AsMutable ∘ AsImmutable ∘ AsMutable = AsMutable`. -/
theorem mask_idem (fs : List Field) (x : Rec) : mask fs (mask fs x) = mask fs x := by
  rw [← maskG_eq_mask, ← maskG_eq_mask]
  exact maskG_idem fs _ x

/-- with every field applicable (no `_` field, no embedded empty struct) `mask` is the identity -/
theorem mask_eq_self (fs : List Field) (x : Rec) (hlen : x.length = fs.length)
    (happ : ∀ f ∈ fs, f.applicable = true) : mask fs x = x := by
  rw [← maskG_eq_mask]
  exact maskG_all_applicable fs _ x (List.length_map _) hlen happ

theorem getF_mask_applicable (fs : List Field) (x : Rec) (i : Nat) (f : Field)
    (hf : fs[i]? = some f) (happ : f.applicable = true) : getF i (mask fs x) = getF i x := by
  rw [← maskG_eq_mask, getF_eq, getF_eq,
    getElem?_maskG_applicable fs _ x i f (List.length_map _) hf happ]

theorem getF_mask_not_applicable (fs : List Field) (x : Rec) (i : Nat) (f : Field)
    (hf : fs[i]? = some f) (happ : f.applicable = false) (hi : i < x.length) :
    getF i (mask fs x) = f.zero := by
  rw [← maskG_eq_mask, getF_eq, getElem?_maskG_not_applicable fs _ x i f hf happ hi,
    List.getElem?_map, hf]
  rfl

end FpVerif.Rec
