import FpVerif.Base
/-!
# Reference computations for the terminal operations

Pure functions on lists: what a fold-like operation returns on the elements `l`, and the elements it does NOT
consume.  `…L`: the step is a function, the computation stops at the first failure / `none` / error.  `…E`: the step is
`Except`-valued (a callback that may panic, by its outcome, `Outcome` in `Lemmas/IterSim.lean`): it also stops at the first
panic, which propagates with its value; the element whose step panicked was consumed, nothing after it.  They are the
`E` of `pullLoop_spec` (`Lemmas/IterLoop.lean`) and of `CursorLoop.lspec` (`Lemmas/ListLoops.lean`): iterators and
lazy lists are specified against the same functions.
-/
namespace FpVerif.It
variable {α β : Type}

/-- reference for `FoldTry`: result and the elements that are NOT consumed -/
def foldTryL (g : β → α → Try β) : β → List α → Try β × List α
  | z, [] => (.success z, [])
  | z, a :: as => match g z a with
    | .success z' => foldTryL g z' as
    | .failure e => (.failure e, as)

def foldOptionL (g : β → α → Option β) : β → List α → Option β × List α
  | z, [] => (some z, [])
  | z, a :: as => match g z a with
    | some z' => foldOptionL g z' as
    | none => (none, as)

def foldErrorL (g : α → Option Err) : List α → Option Err × List α
  | [] => (none, [])
  | a :: as => match g a with
    | some e => (some e, as)
    | none => foldErrorL g as

theorem foldTryL_suffix (g : β → α → Try β) (z : β) (r : List α) :
    ∃ pre, pre ++ (foldTryL g z r).2 = r := by
  induction r generalizing z with
  | nil => exact ⟨[], rfl⟩
  | cons a r ih =>
    simp only [foldTryL]
    cases g z a with
    | success z' => obtain ⟨pre, h⟩ := ih z'; exact ⟨a :: pre, by simp [h]⟩
    | failure e => exact ⟨[a], rfl⟩

def foldE (g : β → α → Except PanicVal β) : β → List α → Except PanicVal β × List α
  | z, [] => (.ok z, [])
  | z, a :: as => match g z a with
    | .ok z' => foldE g z' as
    | .error p => (.error p, as)

def foldTryE (g : β → α → Except PanicVal (Try β)) : β → List α → Except PanicVal (Try β) × List α
  | z, [] => (.ok (.success z), [])
  | z, a :: as => match g z a with
    | .ok (.success z') => foldTryE g z' as
    | .ok (.failure e) => (.ok (.failure e), as)
    | .error p => (.error p, as)

def foldOptionE (g : β → α → Except PanicVal (Option β)) : β → List α → Except PanicVal (Option β) × List α
  | z, [] => (.ok (some z), [])
  | z, a :: as => match g z a with
    | .ok (some z') => foldOptionE g z' as
    | .ok none => (.ok none, as)
    | .error p => (.error p, as)

def foldErrorE (g : α → Except PanicVal (Option Err)) : List α → Except PanicVal (Option Err) × List α
  | [] => (.ok none, [])
  | a :: as => match g a with
    | .ok none => foldErrorE g as
    | .ok (some e) => (.ok (some e), as)
    | .error p => (.error p, as)

def foreachE (g : α → Except PanicVal Unit) : List α → Except PanicVal Unit × List α
  | [] => (.ok (), [])
  | a :: as => match g a with
    | .ok () => foreachE g as
    | .error p => (.error p, as)

def existsE (g : α → Except PanicVal Bool) : List α → Except PanicVal Bool × List α
  | [] => (.ok false, [])
  | a :: as => match g a with
    | .ok true => (.ok true, as)
    | .ok false => existsE g as
    | .error p => (.error p, as)

def forAllE (g : α → Except PanicVal Bool) : List α → Except PanicVal Bool × List α
  | [] => (.ok true, [])
  | a :: as => match g a with
    | .ok true => forAllE g as
    | .ok false => (.ok false, as)
    | .error p => (.error p, as)

/-- the part of `r` that `Find` leaves: everything after the first hit. -/
def afterHit (g : α → Bool) (r : List α) : List α := (r.dropWhile (fun x => !g x)).tail

/-- `r` split at the first hit: what `Find` returns, what it has pulled (`pre` and the hit), what it leaves -/
theorem find?_split (g : α → Bool) (r : List α) :
    match r.find? g with
    | none => afterHit g r = [] ∧ r.filter g = []
    | some v => ∃ pre, pre ++ v :: afterHit g r = r ∧ pre.filter g = [] ∧ g v = true := by
  induction r with
  | nil => exact ⟨rfl, rfl⟩
  | cons a r ih =>
    cases hg : g a
    · simp only [List.find?_cons, hg, afterHit, List.dropWhile_cons, Bool.not_false, if_true, List.filter_cons,
        Bool.false_eq_true, if_false]
      cases hfd : r.find? g with
      | none => rw [hfd] at ih; exact ih
      | some v =>
        rw [hfd] at ih
        obtain ⟨pre, h1, h2, h3⟩ := ih
        exact ⟨a :: pre, by rw [List.cons_append]; exact congrArg _ h1, by simp [hg, h2], h3⟩
    · rw [List.find?_cons_of_pos (l := r) hg]
      exact ⟨[], by simp [afterHit, hg], rfl, hg⟩

/-- reference for the `Find` loop with a predicate that may panic: the outcome, and the elements
    that have NOT been pulled when the loop ends (by a hit, by exhaustion, or by the panic). -/
def findE (g : α → Except PanicVal Bool) : List α → Except PanicVal (Option α) × List α
  | [] => (.ok none, [])
  | a :: r =>
    match g a with
    | .error p => (.error p, r)
    | .ok true => (.ok (some a), r)
    | .ok false => findE g r

theorem findE_suffix (g : α → Except PanicVal Bool) (r : List α) : ∃ d1, d1 ++ (findE g r).2 = r := by
  induction r with
  | nil => exact ⟨[], rfl⟩
  | cons a r ih =>
    unfold findE
    rcases hg : g a with p | b
    · exact ⟨[a], rfl⟩
    · cases b
      · obtain ⟨d1, h⟩ := ih; exact ⟨a :: d1, by simp [h]⟩
      · exact ⟨[a], rfl⟩

/-- without panics the references are the usual ones -/
theorem foldE_ok (g : β → α → β) (z : β) (l : List α) :
    foldE (fun b a => .ok (g b a)) z l = (.ok (l.foldl g z), []) := by
  induction l generalizing z with
  | nil => rfl
  | cons a l ih => simp [foldE, ih]

theorem foldTryE_ok (g : β → α → Try β) (z : β) (l : List α) :
    foldTryE (fun b a => .ok (g b a)) z l = (.ok (foldTryL g z l).1, (foldTryL g z l).2) := by
  induction l generalizing z with
  | nil => rfl
  | cons a l ih => cases hg : g z a <;> simp [foldTryE, foldTryL, hg, ih]

theorem foldOptionE_ok (g : β → α → Option β) (z : β) (l : List α) :
    foldOptionE (fun b a => .ok (g b a)) z l = (.ok (foldOptionL g z l).1, (foldOptionL g z l).2) := by
  induction l generalizing z with
  | nil => rfl
  | cons a l ih => cases hg : g z a <;> simp [foldOptionE, foldOptionL, hg, ih]

theorem foldErrorE_ok (g : α → Option Err) (l : List α) :
    foldErrorE (fun a => .ok (g a)) l = (.ok (foldErrorL g l).1, (foldErrorL g l).2) := by
  induction l with
  | nil => rfl
  | cons a l ih => cases hg : g a <;> simp [foldErrorE, foldErrorL, hg, ih]

theorem foreachE_ok (l : List α) : foreachE (fun _ => .ok ()) l = (.ok (), []) := by
  induction l with
  | nil => rfl
  | cons a l ih => simp [foreachE, ih]

theorem existsE_ok (g : α → Bool) (l : List α) :
    existsE (fun a => .ok (g a)) l = (.ok (l.any g), afterHit g l) := by
  induction l with
  | nil => rfl
  | cons a l ih => cases hg : g a <;> simp [existsE, afterHit, hg, ih]

theorem forAllE_ok (g : α → Bool) (l : List α) :
    forAllE (fun a => .ok (g a)) l = (.ok (l.all g), afterHit (fun x => !g x) l) := by
  induction l with
  | nil => rfl
  | cons a l ih => cases hg : g a <;> simp [forAllE, afterHit, hg, ih]

/-- without panics `findE` is `find?`, and leaves what follows the hit -/
theorem findE_ok (g : α → Bool) (r : List α) :
    findE (fun a => .ok (g a)) r = (.ok (r.find? g), afterHit g r) := by
  induction r with
  | nil => rfl
  | cons a r ih => cases hg : g a <;> simp [findE, afterHit, hg, ih]

end FpVerif.It
