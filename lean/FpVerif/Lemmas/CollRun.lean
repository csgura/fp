import FpVerif.Base
/-!
# Running a `GoM` computation step by step: the outcome of `m >>= f` and of `tryCatch m h` from the outcome of `m`

The one place where the transformer stack of `GoM` is unfolded.
-/
namespace FpVerif.Coll

variable {X Y : Type}

theorem run_pure (x : X) (lg : List Event) : (pure x : GoM X).run.run lg = (.ok x, lg) := rfl

theorem emit_run (e : Event) (lg : List Event) : (emit e).run.run lg = (.ok (), lg ++ [e]) := rfl

theorem run_bind_ok {m : GoM X} {f : X → GoM Y} {lg lg1 : List Event} {x : X}
    (h : m.run.run lg = (.ok x, lg1)) : (m >>= f).run.run lg = (f x).run.run lg1 := by
  simp only [ExceptT.run_bind]
  simp only [bind, StateT.bind, StateT.run] at h ⊢
  have h'' : ExceptT.run m lg = (Except.ok x, lg1) := h
  rw [h'']

theorem run_bind_err {m : GoM X} {f : X → GoM Y} {lg lg1 : List Event} {p : PanicVal}
    (h : m.run.run lg = (.error p, lg1)) : (m >>= f).run.run lg = (.error p, lg1) := by
  simp only [ExceptT.run_bind]
  simp only [bind, StateT.bind, StateT.run] at h ⊢
  have h'' : ExceptT.run m lg = (Except.error p, lg1) := h
  rw [h'']
  rfl

theorem run_bind (m : GoM X) (f : X → GoM Y) (lg : List Event) :
    (m >>= f).run.run lg = match m.run.run lg with
      | (.ok x, lg1) => (f x).run.run lg1
      | (.error p, lg1) => (.error p, lg1) := by
  rcases h : m.run.run lg with ⟨p | x, lg1⟩
  · exact run_bind_err h
  · exact run_bind_ok h

/-- `recover()`: a panic of `m` is handed to `h`, with the log `m` left -/
theorem run_tryCatch (m : GoM X) (h : PanicVal → GoM X) (lg : List Event) :
    (tryCatch m h).run.run lg = match m.run.run lg with
      | (.ok x, lg1) => (.ok x, lg1)
      | (.error p, lg1) => (h p).run.run lg1 := by
  simp only [tryCatch, tryCatchThe, MonadExceptOf.tryCatch, ExceptT.tryCatch, ExceptT.mk,
    ExceptT.run, bind, StateT.bind, StateT.run, pure]
  rcases m lg with ⟨r, lg1⟩
  cases r <;> rfl

end FpVerif.Coll
