import FpVerif.Model.Hamt
/-!
Bit-level facts behind the bitmap-indexed node: `rank` (= popcount of the bits below a position)
is the index of a set bit in the ascending list `bitsOf` of set bits; setting / clearing one bit
inserts / removes exactly that position; hash prefixes and fragments.
-/
namespace FpVerif.Hamt

/-- `bits.OnesCount32(bitmap & (bit-1))` for `bit = 1 << i` -/
def rank (bm i : Nat) : Nat := popCount (bm &&& (1 <<< i - 1))

/-- the set bits below `j` -/
def lo (bm j : Nat) : List Nat := (List.range j).filter (fun i => bm.testBit i)
/-- the set bits above `j` (below 32) -/
def hi (bm j : Nat) : List Nat := (List.range' (j + 1) (31 - j)).filter (fun i => bm.testBit i)

theorem testBit_bit (j i : Nat) : (1 <<< j).testBit i = decide (j = i) := by
  rw [Nat.one_shiftLeft, Nat.testBit_two_pow]

theorem and_bit_eq_zero (bm j : Nat) : (bm &&& (1 <<< j) == 0) = !bm.testBit j := by
  cases ht : bm.testBit j with
  | false =>
    have : bm &&& (1 <<< j) = 0 := by
      apply Nat.eq_of_testBit_eq
      intro i
      rw [Nat.testBit_and, testBit_bit]
      by_cases h : j = i
      · subst h; simp [ht]
      · simp [h]
    simp [this]
  | true =>
    have : (bm &&& (1 <<< j)) ≠ 0 := by
      intro h0
      have := congrArg (fun x => Nat.testBit x j) h0
      simp [Nat.testBit_and, ht] at this
    simp [this]

theorem and_bit_ne_zero (bm j : Nat) : (bm &&& (1 <<< j) != 0) = bm.testBit j := by
  have := and_bit_eq_zero bm j
  cases ht : bm.testBit j <;> simp_all [bne]

theorem range32_split {j : Nat} (hj : j < 32) :
    List.range 32 = List.range j ++ j :: List.range' (j + 1) (31 - j) := by
  rw [List.range_eq_range', List.range_eq_range']
  have h1 : List.range' 0 32 = List.range' 0 j ++ List.range' (0 + 1 * j) (32 - j) := by
    rw [List.range'_append]
    have : j + (32 - j) = 32 := by omega
    rw [this]
  rw [h1]
  congr 1
  have : 32 - j = (31 - j) + 1 := by omega
  rw [this, List.range'_succ]
  simp

theorem mem_lo {bm j x : Nat} (h : x ∈ lo bm j) : x < j ∧ bm.testBit x = true := by
  simpa [lo] using h

theorem mem_hi {bm j x : Nat} (h : x ∈ hi bm j) : j < x ∧ x < 32 ∧ bm.testBit x = true := by
  simp [hi, List.mem_range'_1] at h
  exact ⟨by omega, by omega, h.2⟩

theorem bitsOf_of_testBit {bm j : Nat} (hj : j < 32) (ht : bm.testBit j = true) :
    bitsOf bm = lo bm j ++ j :: hi bm j := by
  simp [bitsOf, lo, hi, range32_split hj, ht]

theorem bitsOf_of_not_testBit {bm j : Nat} (hj : j < 32) (ht : bm.testBit j = false) :
    bitsOf bm = lo bm j ++ hi bm j := by
  simp [bitsOf, lo, hi, range32_split hj, ht]

theorem lo_congr {bm bm' j : Nat} (h : ∀ x, x ≠ j → bm'.testBit x = bm.testBit x) : lo bm' j = lo bm j := by
  unfold lo
  apply List.filter_congr
  intro x hx
  have : x < j := by simpa using hx
  exact h x (by omega)

theorem hi_congr {bm bm' j : Nat} (h : ∀ x, x ≠ j → bm'.testBit x = bm.testBit x) : hi bm' j = hi bm j := by
  unfold hi
  apply List.filter_congr
  intro x hx
  have : j + 1 ≤ x := by
    simp [List.mem_range'_1] at hx; omega
  exact h x (by omega)

theorem testBit_or_bit (bm j x : Nat) : (bm ||| (1 <<< j)).testBit x = (bm.testBit x || decide (j = x)) := by
  rw [Nat.testBit_or, testBit_bit]

theorem testBit_xor_bit (bm j x : Nat) : (bm ^^^ (1 <<< j)).testBit x = (bm.testBit x ^^ decide (j = x)) := by
  rw [Nat.testBit_xor, testBit_bit]

theorem bitsOf_or_bit {bm j : Nat} (hj : j < 32) : bitsOf (bm ||| (1 <<< j)) = lo bm j ++ j :: hi bm j := by
  have hc : ∀ x, x ≠ j → (bm ||| (1 <<< j)).testBit x = bm.testBit x := fun x hx => by
    rw [testBit_or_bit, decide_eq_false (Ne.symm hx), Bool.or_false]
  rw [bitsOf_of_testBit hj (by rw [testBit_or_bit, decide_eq_true rfl, Bool.or_true]), lo_congr hc, hi_congr hc]

theorem bitsOf_xor_bit {bm j : Nat} (hj : j < 32) (ht : bm.testBit j = true) :
    bitsOf (bm ^^^ (1 <<< j)) = lo bm j ++ hi bm j := by
  have hc : ∀ x, x ≠ j → (bm ^^^ (1 <<< j)).testBit x = bm.testBit x := fun x hx => by
    rw [testBit_xor_bit, decide_eq_false (Ne.symm hx), Bool.xor_false]
  rw [bitsOf_of_not_testBit hj (by rw [testBit_xor_bit, ht, decide_eq_true rfl]; rfl), lo_congr hc, hi_congr hc]

theorem or_bit_of_testBit {bm j : Nat} (ht : bm.testBit j = true) : bm ||| (1 <<< j) = bm := by
  apply Nat.eq_of_testBit_eq
  intro i
  rw [testBit_or_bit]
  by_cases h : j = i
  · subst h; simp [ht]
  · simp [h]

theorem rank_eq_lo {bm j : Nat} (hj : j < 32) : rank bm j = (lo bm j).length := by
  unfold rank popCount bitsOf lo
  congr 1
  rw [range32_split hj, List.filter_append, List.filter_cons]
  have h1 : List.filter (fun i => (bm &&& (1 <<< j - 1)).testBit i) (List.range j) =
      List.filter (fun i => bm.testBit i) (List.range j) := by
    apply List.filter_congr
    intro x hx
    have : x < j := by simpa using hx
    simp [Nat.one_shiftLeft, this]
  have h2 : List.filter (fun i => (bm &&& (1 <<< j - 1)).testBit i) (List.range' (j + 1) (31 - j)) = [] := by
    rw [List.filter_eq_nil_iff]
    intro x hx
    have : ¬ x < j := by simp [List.mem_range'_1] at hx; omega
    simp [Nat.one_shiftLeft, this]
  have h3 : (bm &&& (1 <<< j - 1)).testBit j = false := by
    simp [Nat.one_shiftLeft]
  rw [h1, h2, h3]
  simp

/-- in a well-formed bitmap node the slot of a new child is within `len(n.nodes)` -/
theorem rank_le_popCount (bm : Nat) {j : Nat} (hj : j < 32) : rank bm j ≤ popCount bm := by
  rw [rank_eq_lo hj]
  unfold popCount
  cases ht : bm.testBit j with
  | true => rw [bitsOf_of_testBit hj ht]; simp
  | false => rw [bitsOf_of_not_testBit hj ht]; simp

theorem mem_bitsOf {bm i : Nat} : i ∈ bitsOf bm ↔ i < 32 ∧ bm.testBit i = true := by
  simp [bitsOf]

theorem bit_lt {j n : Nat} (hj : j < n) : 1 <<< j < 2 ^ n := by
  rw [Nat.one_shiftLeft]
  exact Nat.pow_lt_pow_right (by decide) hj

theorem or_bit_lt {bm j n : Nat} (hb : bm < 2 ^ n) (hj : j < n) : bm ||| (1 <<< j) < 2 ^ n :=
  Nat.or_lt_two_pow hb (bit_lt hj)

theorem xor_bit_lt {bm j n : Nat} (hb : bm < 2 ^ n) (hj : j < n) : bm ^^^ (1 <<< j) < 2 ^ n :=
  Nat.xor_lt_two_pow hb (bit_lt hj)

-- fragments and prefixes -----------------------------------------------------------------------

theorem frag_eq (kh : UInt32) (s : Nat) : frag kh s = kh.toNat / 2 ^ s % 32 := by
  unfold frag mapNodeMask
  rw [Nat.shiftRight_eq_div_pow]
  exact Nat.and_two_pow_sub_one_eq_mod _ 5

theorem frag_lt (kh : UInt32) (s : Nat) : frag kh s < 32 := by
  rw [frag_eq]; exact Nat.mod_lt _ (by decide)

theorem frag_ge32 (kh : UInt32) {s : Nat} (hs : 32 ≤ s) : frag kh s = 0 := by
  rw [frag_eq]
  have h1 : kh.toNat < 2 ^ 32 := kh.toNat_lt
  have h2 : 2 ^ 32 ≤ 2 ^ s := Nat.pow_le_pow_right (by decide) hs
  rw [Nat.div_eq_of_lt (by omega)]

/-- the two hashes agree on their low `s` bits -/
def pfxEq (s : Nat) (a b : UInt32) : Prop := a.toNat % 2 ^ s = b.toNat % 2 ^ s

theorem pfxEq_zero (a b : UInt32) : pfxEq 0 a b := by simp [pfxEq, Nat.mod_one]

theorem pfxEq_refl (s : Nat) (a : UInt32) : pfxEq s a a := rfl

theorem pfxEq_symm {s : Nat} {a b : UInt32} (h : pfxEq s a b) : pfxEq s b a := Eq.symm h

theorem pfxEq_trans {s : Nat} {a b c : UInt32} (h : pfxEq s a b) (h' : pfxEq s b c) : pfxEq s a c :=
  Eq.trans h h'

theorem pfxEq_succ {s : Nat} {a b : UInt32} :
    pfxEq (s + 5) a b ↔ pfxEq s a b ∧ frag a s = frag b s := by
  unfold pfxEq
  rw [frag_eq, frag_eq]
  have hp : (2:Nat) ^ (s + 5) = 2 ^ s * 32 := by rw [Nat.pow_add]
  have hm : 0 < 2 ^ s := Nat.pow_pos (by decide)
  rw [hp, Nat.mod_mul, Nat.mod_mul]
  constructor
  · intro h
    have h1 := congrArg (· % 2 ^ s) h
    simp only [Nat.add_mul_mod_self_left, Nat.mod_mod] at h1
    refine ⟨h1, ?_⟩
    rw [h1] at h
    exact Nat.eq_of_mul_eq_mul_left hm (Nat.add_left_cancel h)
  · rintro ⟨h1, h2⟩
    rw [h1, h2]

theorem pfxEq_eq {s : Nat} {a b : UInt32} (hs : 32 ≤ s) (h : pfxEq s a b) : a = b := by
  unfold pfxEq at h
  have ha : a.toNat < 2 ^ s := Nat.lt_of_lt_of_le a.toNat_lt (Nat.pow_le_pow_right (by decide) hs)
  have hb : b.toNat < 2 ^ s := Nat.lt_of_lt_of_le b.toNat_lt (Nat.pow_le_pow_right (by decide) hs)
  rw [Nat.mod_eq_of_lt ha, Nat.mod_eq_of_lt hb] at h
  exact UInt32.toNat_inj.mp h

theorem pfxEq_mono {s t : Nat} {a b : UInt32} (hst : s ≤ t) (h : pfxEq t a b) : pfxEq s a b := by
  unfold pfxEq at *
  obtain ⟨d, rfl⟩ := Nat.exists_eq_add_of_le hst
  have := congrArg (· % 2 ^ s) h
  simp only [Nat.pow_add] at this
  rwa [Nat.mod_mul_right_mod, Nat.mod_mul_right_mod] at this

end FpVerif.Hamt
