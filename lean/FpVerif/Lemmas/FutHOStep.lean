import FpVerif.Lemmas.FutHOSound
/-!
# Every task and every scheduler event preserves the higher-order invariant; goodness of every promise

(helper lemmas for `Spec/C06HO.lean`, continuation of `Lemmas/FutHOSound.lean`)
-/
namespace FpVerif.Spec.C06.HO
open FpVerif.Fut

/-- build the future a user function returned, then let it complete `np` -/
theorem inv_chain {nsrc : Nat} {T : TSpec} {n : Net} (h : Inv nsrc T n) {τ : Ty} (e sp : TExpr τ) (np : Nat)
    (hnp : np < n.next) (hsp : T np = ⟨τ, sp⟩)
    (hj : ∀ σ', Ext n.status σ' → den (absE σ') sp = den (absE σ') e) :
    ∃ T', Inv nsrc T' (onComplete (build (erase e) n).1 (.completeWith np) (build (erase e) n).2) ∧
      Le T T' n (onComplete (build (erase e) n).1 (.completeWith np) (build (erase e) n).2) := by
  obtain ⟨T1, hi, hle, hr⟩ := inv_build (nsrc := nsrc) e T n h
  obtain ⟨hi2, hle2⟩ := inv_onComplete hi (build (erase e) n).1 (.completeWith np)
    ⟨Nat.lt_of_lt_of_le hnp hle.next, τ, sp, n.next, by rw [hle.spec np hnp]; exact hsp, hnp,
      fun d σ' hx hG => hj σ' (fun p v hp => hx p v (hle.status p v hp)) ▸ hr d σ' hx hG⟩
  exact ⟨_, hi2, hle.trans hle2⟩

theorem inv_log {nsrc : Nat} {T : TSpec} {n : Net} (h : Inv nsrc T n) (evs : List Event) :
    Inv nsrc T { n with log := n.log ++ evs } ∧ Le T T n { n with log := n.log ++ evs } :=
  inv_congr h rfl rfl h.tasks rfl rfl

/-- completing `np` with a result `t` that its spec denotes in every later state -/
theorem inv_completeEq {nsrc : Nat} {T : TSpec} {n : Net} (h : Inv nsrc T n) (np : Nat) (t : Try Val) (hnp : np < n.next)
    {τ : Ty} {sp : TExpr τ} (hsp : T np = ⟨τ, sp⟩)
    (heq : n.status np = none → ∀ σ' : Nat → Option (Try Val), Ext n.status σ' → σ' np = some t →
      den (absE σ') sp = some (absT σ' τ t)) :
    Inv nsrc T (complete np t n) ∧ Le T T n (complete np t n) := by
  refine inv_complete h np t hnp ?_
  intro hn d σ' hx _
  rw [good_iff hsp]
  have h1 : σ' np = some t := hx np t (by simp)
  have h2 : Ext n.status σ' := fun q v hq => hx q v (upd_keep n np q t v hq hn)
  rw [absS_some τ h1]
  exact rel_of_eq d (heq hn σ' h2 h1).symm

theorem inv_runTask {nsrc : Nat} {T : TSpec} {n : Net} (h : Inv nsrc T n) (tk : Task) (htk : TaskOK T n tk) :
    ∃ T', Inv nsrc T' (runTask tk n) ∧ Le T T' n (runTask tk n) := by
  cases tk with
  | applyT f np =>
    obtain ⟨hnp, hsp⟩ := htk
    obtain ⟨hi0, hle0⟩ := inv_log h (f ()).2
    obtain ⟨hi1, hle1⟩ := inv_completeEq hi0 np (f ()).1 hnp hsp (by intro _ σ' _ _; rfl)
    exact ⟨T, hi1, hle0.trans hle1⟩
  | cb c t =>
    obtain ⟨q, hq, hc⟩ := htk
    cases c with
    | flatMapA k np =>
      obtain ⟨hnp, hk⟩ := hc
      rcases hk with ⟨τ, k', hsp, rfl⟩ | ⟨τ, hsp, rfl⟩
      · cases t with
        | success v =>
          exact inv_chain h (k' v) _ np hnp hsp (by
            intro σ' hx
            simp [den, absS_val, hx q _ hq, bindOkS])
        | failure e =>
          refine ⟨T, inv_completeEq h np (.failure e) hnp hsp ?_⟩
          intro _ σ' hx _
          simp [den, absS_val, hx q _ hq, bindOkS, absT_failure]
      · cases t with
        | success v =>
          exact inv_chain h (.ref τ (unhandle v)) _ np hnp hsp (by
            intro σ' hx
            simp [den, absS_fut_success τ (hx q _ hq), joinS, bindOkS])
        | failure e =>
          refine ⟨T, inv_completeEq h np (.failure e) hnp hsp ?_⟩
          intro _ σ' hx _
          simp [den, absS_some _ (hx q _ hq), joinS, bindOkS, absT_failure]
    | completeWith np =>
      obtain ⟨hnp, τ, sp, lo, hsp, hlo, hr⟩ := hc
      obtain ⟨hi, hle⟩ := inv_complete h np t hnp (by
        intro hn d σ' hx hy
        rw [good_iff hsp]
        have h1 : σ' np = some t := hx np t (by simp)
        have h2 : Ext n.status σ' := fun q v hq => hx q v (upd_keep n np q t v hq hn)
        rw [absS_some τ h1, ← absS_some τ (h2 q t hq)]
        exact hr d σ' h2 (fun p' h3 h4 => hy p' (Nat.lt_of_lt_of_le hlo h3) h4))
      exact ⟨T, hi, hle⟩
    | transformA f np =>
      obtain ⟨hnp, hsp⟩ := hc
      obtain ⟨hi0, hle0⟩ := inv_log h (f t).2
      obtain ⟨hi1, hle1⟩ := inv_completeEq hi0 np (f t).1 hnp hsp (by
        intro _ σ' hx _
        have hq' : σ' q = some t := hx q t hq
        simp [den, absS_val, hq', absT_val] <;> rfl)
      exact ⟨T, hi1, hle0.trans hle1⟩
    | transformWithA k np =>
      obtain ⟨hnp, τ, k', hsp, rfl⟩ := hc
      exact inv_chain h (k' t) _ np hnp hsp (by
        intro σ' hx
        simp [den, absS_val, hx q _ hq, bindTryS])
    | recoverWithA d k np =>
      obtain ⟨hnp, τ, k', hsp, rfl⟩ := hc
      cases t with
      | success v =>
        refine ⟨T, inv_completeEq h np (.success v) hnp hsp ?_⟩
        intro _ σ' hx _
        obtain ⟨x, hx'⟩ := absT_success σ' τ v
        simp [den, absS_some τ (hx q _ hq), bindTryS, hx', recS]
      | failure e =>
        simp only [runTask]
        by_cases hd : d e = true
        · simp only [hd, if_true]
          exact inv_chain h (k' e) _ np hnp hsp (by
            intro σ' hx
            simp [den, absS_some τ (hx q _ hq), bindTryS, absT_failure, recS, hd])
        · simp only [hd]
          refine ⟨T, inv_completeEq h np (.failure e) hnp hsp ?_⟩
          intro _ σ' hx _
          simp [den, absS_some τ (hx q _ hq), bindTryS, absT_failure, recS, hd]
    | orFutureA alt np =>
      obtain ⟨hnp, τ, hsp⟩ := hc
      cases t with
      | success v =>
        refine ⟨T, inv_completeEq h np (.success v) hnp hsp ?_⟩
        intro _ σ' hx _
        obtain ⟨x, hx'⟩ := absT_success σ' τ v
        simp [den, absS_some τ (hx q _ hq), bindTryS, hx', recS]
      | failure e =>
        obtain ⟨hi, hle⟩ := inv_onComplete h alt (.completeWith np)
          ⟨hnp, τ, _, np + 1, hsp, Nat.lt_succ_self _, fun d σ' hx _ => rel_of_eq d (by
            simp [den, absS_some τ (hx q _ hq), bindTryS, absT_failure, recS])⟩
        exact ⟨T, hi, hle⟩
    | observe id =>
      obtain ⟨hi, hle⟩ := inv_log h [s!"obs{id}:{Val.ofTry t}"]
      exact ⟨T, hi, hle⟩

-- events ---------------------------------------------------------------------------------------------------------------

theorem inv_step {nsrc : Nat} {T : TSpec} {n : Net} (h : Inv nsrc T n) (ev : Ev) (hev : EvOK nsrc ev) :
    ∃ T', Inv nsrc T' (step n ev) ∧ Le T T' n (step n ev) := by
  cases ev with
  | run i =>
    simp only [step]
    cases hi : n.pool[i]? with
    | none => exact ⟨T, h, Le.refl T n⟩
    | some tk =>
      simp only
      obtain ⟨h0, hle⟩ := inv_congr (n' := { n with pool := n.pool.eraseIdx i }) h rfl rfl
        (fun tk' htk' => h.tasks tk' (List.mem_of_mem_eraseIdx htk')) rfl rfl
      obtain ⟨T', hi', hle'⟩ := inv_runTask h0 tk (taskOK_le hle tk (h.tasks tk (List.mem_of_getElem? hi)))
      exact ⟨T', hi', hle.trans hle'⟩
  | src p t =>
    have hp : p < nsrc := hev.1
    refine ⟨T, inv_completeEq h p t (Nat.lt_of_lt_of_le hp h.srcs.1) (h.srcs.2 p hp) ?_⟩
    intro _ σ' _ h1
    simp [den, absS_val, h1, absT_val] <;> rfl
  | mk e =>
    obtain ⟨⟨τ, t, rfl⟩, _⟩ := hev
    obtain ⟨T1, hi, hle, _⟩ := inv_build (nsrc := nsrc) t T n h
    exact ⟨_, hi, hle⟩
  | obs p id =>
    obtain ⟨hi, hle⟩ := inv_onComplete h p (.observe id) trivial
    exact ⟨T, hi, hle⟩

def T0 : TSpec := fun p => ⟨.val, .ref .val p⟩

theorem inv_init (nsrc : Nat) : Inv nsrc T0 (Net.empty nsrc) where
  just := by intro p v hp; simp [Net.empty] at hp
  tasks := by intro tk htk; simp [Net.empty] at htk
  cbs := by intro q c hc; simp [Net.empty] at hc
  fresh := by intro p _; rfl
  srcs := ⟨Nat.le_refl _, fun _ _ => rfl⟩
  spec := fun _ _ => rfl

theorem inv_run {nsrc : Nat} (evs : List Ev) : ∀ (T : TSpec) (n : Net), Inv nsrc T n → Valid nsrc evs →
    ∃ T', Inv nsrc T' (runEvs n evs) ∧ Le T T' n (runEvs n evs) :=
  fun T n h hv => Fold.inv_of_mem (P := fun n' => ∃ T', Inv nsrc T' n' ∧ Le T T' n n')
    (fun _ ev hev ⟨_, h1, hle1⟩ => let ⟨T2, h2, hle2⟩ := inv_step h1 ev hev; ⟨T2, h2, hle1.trans hle2⟩)
    ⟨T, h, Le.refl T n⟩ hv

-- goodness of every promise, in one state -------------------------------------------------------------------------------

theorem all_good {nsrc : Nat} {T : TSpec} {n : Net} (h : Inv nsrc T n) (d : Dir)
    (hpend : ∀ p, p < n.next → n.status p = none →
      (∀ p', p < p' → p' < n.next → Good d T n.status p') → Good d T n.status p) :
    ∀ p, p < n.next → Good d T n.status p :=
  young_first fun p hlt hy => by
    cases hst : n.status p with
    | none => exact hpend p hlt hst hy
    | some v => exact h.just p v hst d n.status (fun _ _ hq => hq) hy

/-- **Soundness, one state**: the `Sem`-level reading of every promise is below the denotation of its typed spec -/
theorem all_good_le {nsrc : Nat} {T : TSpec} {n : Net} (h : Inv nsrc T n) : ∀ p, p < n.next → Good .le T n.status p :=
  all_good h .le (fun p _ hp _ => by unfold Good; rw [absS_none _ hp]; exact leS_none _ _)

/-- the root of a value-typed program, once completed, holds what the program denotes -/
theorem root_sound {nsrc : Nat} {T : TSpec} {n : Net} (h : Inv nsrc T n) (lo : Nat) (e : TExpr .val) (q : Nat) (r : Try Val)
    (hr : Denotes T n lo q e) (hq : n.status q = some r) : den (absE n.status) e = some r := by
  have := hr .le n.status (fun _ _ h => h) (fun p' _ hlt => all_good_le h p' hlt)
  rw [absS_val, hq] at this
  exact leS_val.1 this

end FpVerif.Spec.C06.HO
