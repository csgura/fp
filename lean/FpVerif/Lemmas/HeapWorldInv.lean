import FpVerif.Lemmas.HeapPersist
/-!
The invariant of a `World` and the moves every step of a history is made of (the steps: `Lemmas/HeapWorldStep.lean`).

* every collection ever handed out is represented in the current heap, as a tree, by a well-formed
  value-level trie;
* OWNERSHIP: while a builder updates in place, the cells reachable from its trie are cells the builder
  allocated itself (`mbOwned` / `sbOwned`) and none of them is reachable from any collection handed
  out (or from the other builder).
-/
namespace FpVerif.HamtHeap
open FpVerif.Hamt
variable {K V : Type}

/-- the cells reachable from a `*hamt` -/
def fpOf (H : Heap K V) (m : Addr) : List Addr :=
  match absHamt H m with
  | some x => x.2
  | none => []

/-- `m` is a `*hamt` that represents a well-formed trie, as a tree -/
def Good (h : Hasher K) (H : Heap K V) (m : Addr) : Prop :=
  ∃ a fp, absHamt H m = some (a, fp) ∧ fp.Nodup ∧ Hamt.Inv h a

theorem fpOf_eq {H : Heap K V} {m : Addr} {a : Hamt K V} {fp : List Addr} (h : absHamt H m = some (a, fp)) :
    fpOf H m = fp := by
  unfold fpOf; rw [h]

theorem fpOf_lt {H : Heap K V} {m : Addr} {x : Addr} (hx : x ∈ fpOf H m) : x < H.size := by
  unfold fpOf at hx
  cases h : absHamt H m with
  | none => rw [h] at hx; cases hx
  | some r => rw [h] at hx; exact absHamt_lt (a := r.1) (fp := r.2) h hx

theorem Good.transport {h : Hasher K} {H H' : Heap K V} {m : Addr} {W : List Addr} (hg : Good h H m)
    (he : Eff H H' W) (hd : ∀ x ∈ fpOf H m, x ∉ W) : Good h H' m ∧ absHamt H' m = absHamt H m := by
  obtain ⟨a, fp, habs, hnd, hinv⟩ := hg
  have := he.absHamt habs (by rw [fpOf_eq habs] at hd; exact hd)
  exact ⟨⟨a, fp, this, hnd, hinv⟩, by rw [this, habs]⟩

theorem fpOf_congr {H H' : Heap K V} {m : Addr} (h : absHamt H' m = absHamt H m) : fpOf H' m = fpOf H m := by
  unfold fpOf; rw [h]

structure WInv (h : Hasher K) (W : World K V) : Prop where
  vers : ∀ m ∈ W.vers, Good h W.heap m
  mb : ∀ m, W.mb = some ⟨some m⟩ → Good h W.heap m ∧ (∀ x ∈ fpOf W.heap m, x ∈ W.mbOwned) ∧
    (∀ m' ∈ W.vers, ∀ x ∈ fpOf W.heap m, x ∉ fpOf W.heap m') ∧
    (∀ b, W.sb = some b → ∀ x ∈ fpOf W.heap m, x ∉ fpOf W.heap b.m)
  sb : ∀ b, W.sb = some b → Good h W.heap b.m ∧
    (b.shared = false → (∀ x ∈ fpOf W.heap b.m, x ∈ W.sbOwned) ∧
      ∀ m' ∈ W.vers, ∀ x ∈ fpOf W.heap b.m, x ∉ fpOf W.heap m')

/-- what a step may do to the collections handed out so far: nothing -/
def Intact (W W' : World K V) : Prop :=
  (∃ l, W'.vers = W.vers ++ l) ∧ ∀ m ∈ W.vers, absHamt W'.heap m = absHamt W.heap m

theorem WInv.init (h : Hasher K) : WInv h ({} : World K V) :=
  ⟨(by intro m hm; cases hm), (by intro m hm; cases hm), (by intro b hb; cases hb)⟩

theorem mem_freshOf {H H' : Heap K V} {x : Addr} (h1 : H.size ≤ x) (h2 : x < H'.size) : x ∈ freshOf H H' := by
  unfold freshOf
  rw [List.mem_range']
  exact ⟨x - H.size, by omega, by omega⟩

theorem mem_freshOf_ge {H H' : Heap K V} {x : Addr} (h : x ∈ freshOf H H') : H.size ≤ x := by
  unfold freshOf at h
  rw [List.mem_range'] at h
  obtain ⟨i, _, rfl⟩ := h
  omega

-- The invariant speaks of three kinds of roots (collections handed out, the trie of each builder) and
-- reads the heap only through their abstractions.  Every step of a history is: drop the root that is
-- about to be replaced, change the heap without touching the footprints of the others
-- (`WInv.transport`), put the new root in (`WInv.set_mb` / `WInv.set_sb` / `WInv.add_ver`).

theorem WInv.transport {h : Hasher K} {W : World K V} (hW : WInv h W) {H' : Heap K V} {Wr : List Addr}
    (he : Eff W.heap H' Wr) (hv : ∀ m ∈ W.vers, ∀ x ∈ fpOf W.heap m, x ∉ Wr)
    (hmb : ∀ m, W.mb = some ⟨some m⟩ → ∀ x ∈ fpOf W.heap m, x ∉ Wr)
    (hsb : ∀ b, W.sb = some b → ∀ x ∈ fpOf W.heap b.m, x ∉ Wr) :
    WInv h { W with heap := H' } ∧ (∀ m ∈ W.vers, absHamt H' m = absHamt W.heap m) ∧
      (∀ m, W.mb = some ⟨some m⟩ → absHamt H' m = absHamt W.heap m) ∧
      (∀ b, W.sb = some b → absHamt H' b.m = absHamt W.heap b.m) := by
  have ev := fun m hm => (hW.vers m hm).transport he (hv m hm)
  have emb := fun m hm => (hW.mb m hm).1.transport he (hmb m hm)
  have esb := fun b hb => (hW.sb b hb).1.transport he (hsb b hb)
  refine ⟨⟨fun m hm => (ev m hm).1, fun m hm => ?_, fun b hb => ?_⟩, fun m hm => (ev m hm).2,
    fun m hm => (emb m hm).2, fun b hb => (esb b hb).2⟩
  · obtain ⟨_, hown, hsepv, hsepb⟩ := hW.mb m hm
    have e : fpOf H' m = fpOf W.heap m := fpOf_congr (emb m hm).2
    refine ⟨(emb m hm).1, fun x hx => hown x (e ▸ hx), fun m' hm' x hx => ?_, fun b hb x hx => ?_⟩
    · show x ∉ fpOf H' m'
      rw [fpOf_congr (ev m' hm').2]; exact hsepv m' hm' x (e ▸ hx)
    · show x ∉ fpOf H' b.m
      rw [fpOf_congr (esb b hb).2]; exact hsepb b hb x (e ▸ hx)
  · obtain ⟨_, hunsh⟩ := hW.sb b hb
    have e : fpOf H' b.m = fpOf W.heap b.m := fpOf_congr (esb b hb).2
    refine ⟨(esb b hb).1, fun hs => ⟨fun x hx => (hunsh hs).1 x (e ▸ hx), fun m' hm' x hx => ?_⟩⟩
    show x ∉ fpOf H' m'
    rw [fpOf_congr (ev m' hm').2]; exact (hunsh hs).2 m' hm' x (e ▸ hx)

theorem WInv.le {h : Hasher K} {W : World K V} (hW : WInv h W) {H' : Heap K V} (hle : Heap.le W.heap H') :
    WInv h { W with heap := H' } ∧ (∀ m ∈ W.vers, absHamt H' m = absHamt W.heap m) ∧
      (∀ m, W.mb = some ⟨some m⟩ → absHamt H' m = absHamt W.heap m) ∧
      (∀ b, W.sb = some b → absHamt H' b.m = absHamt W.heap b.m) :=
  hW.transport (Eff.of_le hle []) (fun _ _ _ _ => by simp) (fun _ _ _ _ => by simp) (fun _ _ _ _ => by simp)

theorem WInv.set_mb {h : Hasher K} {W : World K V} (hW : WInv h W) (b' : Option HMapBuilder) (own : List Addr)
    (hnew : ∀ m, b' = some ⟨some m⟩ → Good h W.heap m ∧ (∀ x ∈ fpOf W.heap m, x ∈ own) ∧
      (∀ m' ∈ W.vers, ∀ x ∈ fpOf W.heap m, x ∉ fpOf W.heap m') ∧
      (∀ b, W.sb = some b → ∀ x ∈ fpOf W.heap m, x ∉ fpOf W.heap b.m)) :
    WInv h { W with mb := b', mbOwned := own } :=
  ⟨hW.vers, hnew, hW.sb⟩

theorem WInv.set_sb {h : Hasher K} {W : World K V} (hW : WInv h W) (b' : Option HSetBuilder) (own : List Addr)
    (hnew : ∀ b, b' = some b → Good h W.heap b.m ∧ (b.shared = false →
      (∀ x ∈ fpOf W.heap b.m, x ∈ own) ∧ ∀ m' ∈ W.vers, ∀ x ∈ fpOf W.heap b.m, x ∉ fpOf W.heap m'))
    (hmb : ∀ m, W.mb = some ⟨some m⟩ → ∀ b, b' = some b → ∀ x ∈ fpOf W.heap m, x ∉ fpOf W.heap b.m) :
    WInv h { W with sb := b', sbOwned := own } :=
  ⟨hW.vers, fun m hm => ⟨(hW.mb m hm).1, (hW.mb m hm).2.1, (hW.mb m hm).2.2.1, hmb m hm⟩, hnew⟩

theorem WInv.add_ver {h : Hasher K} {W : World K V} (hW : WInv h W) {m : Addr} (hg : Good h W.heap m)
    (hmb : ∀ mb, W.mb = some ⟨some mb⟩ → ∀ x ∈ fpOf W.heap mb, x ∉ fpOf W.heap m)
    (hsb : ∀ b, W.sb = some b → b.shared = false → ∀ x ∈ fpOf W.heap b.m, x ∉ fpOf W.heap m) :
    WInv h { W with vers := W.vers ++ [m] } := by
  have hmem : ∀ {P : Addr → Prop}, (∀ m' ∈ W.vers, P m') → P m → ∀ m' ∈ W.vers ++ [m], P m' := by
    intro P h1 h2 m' hm'
    rcases List.mem_append.mp hm' with hm' | hm'
    · exact h1 m' hm'
    · rw [List.mem_singleton.mp hm']; exact h2
  refine ⟨hmem hW.vers hg, fun mb hm => ?_, fun b hb => ?_⟩
  · obtain ⟨hg', hown, hsepv, hsepb⟩ := hW.mb mb hm
    exact ⟨hg', hown, hmem hsepv (hmb mb hm), hsepb⟩
  · obtain ⟨hg', hunsh⟩ := hW.sb b hb
    exact ⟨hg', fun hs => ⟨(hunsh hs).1, hmem (hunsh hs).2 (hsb b hb hs)⟩⟩

/-- a library call that returns a new collection built persistently from collections handed out -/
theorem WInv.call {h : Hasher K} {W : World K V} (hW : WInv h W) {comp : HM K V Addr} {fps : List Addr}
    {a' : Hamt K V} (hp : PRes W.heap fps comp a') (hinv : Hamt.Inv h a')
    (hfps : ∀ y ∈ fps, ∃ m ∈ W.vers, y ∈ fpOf W.heap m) :
    ∃ W', W.call comp = .ok W' ∧ WInv h W' ∧ Intact W W' ∧
      ∃ m', W'.vers = W.vers ++ [m'] ∧ (absHamt W'.heap m').map (·.1) = some a' := by
  obtain ⟨m', H', hcomp, fp', habs', hnd', heff, hsub⟩ := hp
  obtain ⟨hW1, ev, emb, esb⟩ := hW.le heff.to_le
  refine ⟨{ W with heap := H', vers := W.vers ++ [m'] }, by simp [World.call, hcomp], ?_,
    ⟨⟨[m'], rfl⟩, ev⟩, m', rfl, by simp [habs']⟩
  -- an old cell of the new footprint lies in a collection handed out: no builder reaches it
  have hnew : ∀ x ∈ fp', x < W.heap.size → ∃ m ∈ W.vers, x ∈ fpOf W.heap m := fun x hx hlt =>
    (hsub x hx).elim (hfps x) (fun hge => by omega)
  refine hW1.add_ver ⟨a', fp', habs', hnd', hinv⟩ (fun mb hm x hx => ?_) (fun b hb hs x hx => ?_)
  · show x ∉ fpOf H' m'
    rw [fpOf_eq habs']
    have hx0 : x ∈ fpOf W.heap mb := fpOf_congr (emb mb hm) ▸ hx
    intro hx'
    obtain ⟨m0, hm0, hx1⟩ := hnew x hx' (fpOf_lt hx0)
    exact (hW.mb mb hm).2.2.1 m0 hm0 x hx0 hx1
  · show x ∉ fpOf H' m'
    rw [fpOf_eq habs']
    have hx0 : x ∈ fpOf W.heap b.m := fpOf_congr (esb b hb) ▸ hx
    intro hx'
    obtain ⟨m0, hm0, hx1⟩ := hnew x hx' (fpOf_lt hx0)
    exact ((hW.sb b hb).2 hs).2 m0 hm0 x hx0 hx1

end FpVerif.HamtHeap
