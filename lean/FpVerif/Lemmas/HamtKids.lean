import FpVerif.Lemmas.HamtWF
/-!
The "(slot, child)" view of the two branch node kinds and its decomposition at one slot.
-/
namespace FpVerif.Hamt
variable {K V : Type}

@[simp] theorem flat_nil : flat ([] : List (Nat × Node K V)) = [] := rfl
@[simp] theorem flat_cons (p : Nat × Node K V) (ks : List (Nat × Node K V)) :
    flat (p :: ks) = p.2.toList ++ flat ks := by simp [flat]
@[simp] theorem flat_append (a b : List (Nat × Node K V)) : flat (a ++ b) = flat a ++ flat b := by
  simp [flat]

theorem mem_flat {ks : List (Nat × Node K V)} {e : K × V} :
    e ∈ flat ks ↔ ∃ p ∈ ks, e ∈ p.2.toList := by
  simp [flat]

theorem toList_bitmap_flat {bm : Nat} {ns : List (Node K V)} (hlen : ns.length = popCount bm) :
    (Node.bitmap bm ns).toList = flat (kidsB bm ns) := by
  rw [toList_bitmap]
  unfold flat kidsB
  have : ns = (List.zip (bitsOf bm) ns).map Prod.snd := by
    rw [List.map_snd_zip]; unfold popCount at hlen; omega
  conv => lhs; rw [this]
  rw [List.flatMap_map]

theorem flat_filterMap (zs : List (Nat × Option (Node K V))) :
    flat (zs.filterMap (fun p => p.2.map (fun c => (p.1, c)))) = zs.flatMap (fun p => optList p.2) := by
  induction zs with
  | nil => rfl
  | cons z zs ih =>
    obtain ⟨i, o⟩ := z
    cases o with
    | none => simp [ih]
    | some c => simp [ih]

theorem toList_hashArray_flat {cnt : Nat} {ns : List (Option (Node K V))} (hlen : ns.length = 32) :
    (Node.hashArray cnt ns).toList = flat (kidsH ns) := by
  rw [toList_hashArray]
  unfold kidsH
  rw [flat_filterMap]
  have : ns = (List.zip (List.range 32) ns).map Prod.snd := by
    rw [List.map_snd_zip]; simp [hlen]
  conv => lhs; rw [this]
  rw [List.flatMap_map]

-- bitmap node --------------------------------------------------------------------------------------

theorem popCount_of_testBit {bm j : Nat} (hj : j < 32) (ht : bm.testBit j = true) :
    popCount bm = (lo bm j).length + 1 + (hi bm j).length := by
  unfold popCount; rw [bitsOf_of_testBit hj ht]; simp; omega

theorem popCount_of_not_testBit {bm j : Nat} (hj : j < 32) (ht : bm.testBit j = false) :
    popCount bm = (lo bm j).length + (hi bm j).length := by
  unfold popCount; rw [bitsOf_of_not_testBit hj ht]; simp

theorem popCount_or_bit {bm j : Nat} (hj : j < 32) (ht : bm.testBit j = false) :
    popCount (bm ||| (1 <<< j)) = popCount bm + 1 := by
  rw [popCount_of_not_testBit hj ht]
  unfold popCount; rw [bitsOf_or_bit hj]; simp; omega

theorem popCount_xor_bit {bm j : Nat} (hj : j < 32) (ht : bm.testBit j = true) :
    popCount (bm ^^^ (1 <<< j)) + 1 = popCount bm := by
  rw [popCount_of_testBit hj ht]
  unfold popCount; rw [bitsOf_xor_bit hj ht]; simp; omega

theorem zip_lo_slot {bm j : Nat} {NL : List (Node K V)} {p : Nat × Node K V}
    (hp : p ∈ List.zip (lo bm j) NL) : p.1 < j := (mem_lo (mem_zip_fst hp)).1

theorem zip_hi_slot {bm j : Nat} {NR : List (Node K V)} {p : Nat × Node K V}
    (hp : p ∈ List.zip (hi bm j) NR) : j < p.1 ∧ p.1 < 32 :=
  let h := mem_hi (mem_zip_fst hp); ⟨h.1, h.2.1⟩

/-- Split the children of a bitmap node at a set bit. -/
theorem bitmap_split {bm j : Nat} (hj : j < 32) (ht : bm.testBit j = true) {ns : List (Node K V)}
    (hlen : ns.length = popCount bm) :
    ∃ NL c NR, ns = NL ++ c :: NR ∧ NL.length = (lo bm j).length ∧ NR.length = (hi bm j).length ∧
      ns[rank bm j]? = some c ∧ NL.length = rank bm j := by
  rw [popCount_of_testBit hj ht] at hlen
  obtain ⟨NL, c, NR, h1, h2, h3, h4⟩ := split_aligned hlen
  exact ⟨NL, c, NR, h1, h2, h3, by rw [rank_eq_lo hj]; exact h4, by rw [rank_eq_lo hj]; exact h2⟩

/-- Split the children of a bitmap node at an unset bit. -/
theorem bitmap_split0 {bm j : Nat} (hj : j < 32) (ht : bm.testBit j = false) {ns : List (Node K V)}
    (hlen : ns.length = popCount bm) :
    ∃ NL NR, ns = NL ++ NR ∧ NL.length = (lo bm j).length ∧ NR.length = (hi bm j).length ∧
      ns.take (rank bm j) = NL ∧ ns.drop (rank bm j) = NR := by
  rw [popCount_of_not_testBit hj ht] at hlen
  obtain ⟨NL, NR, h1, h2, h3, h4, h5⟩ := split_aligned0 hlen
  exact ⟨NL, NR, h1, h2, h3, by rw [rank_eq_lo hj]; exact h4, by rw [rank_eq_lo hj]; exact h5⟩

-- hash-array node ----------------------------------------------------------------------------------

/-- the (slot, child) pairs of a zipped segment -/
def fmH (zs : List (Nat × Option (Node K V))) : List (Nat × Node K V) :=
  zs.filterMap (fun p => p.2.map (fun c => (p.1, c)))

theorem mem_fmH {zs : List (Nat × Option (Node K V))} {p : Nat × Node K V} :
    p ∈ fmH zs ↔ (p.1, some p.2) ∈ zs := by
  unfold fmH
  simp only [List.mem_filterMap, Option.map_eq_some_iff, Prod.exists]
  constructor
  · rintro ⟨i, o, hz, c, rfl, rfl⟩
    exact hz
  · exact fun h => ⟨p.1, some p.2, h, p.2, rfl, rfl⟩

theorem kidsH_cons {j : Nat} (hj : j < 32) {SL SR : List (Option (Node K V))} (o : Option (Node K V))
    (hSL : SL.length = j) :
    kidsH (SL ++ o :: SR) = fmH (List.zip (List.range j) SL) ++ (o.map (fun c => (j, c))).toList ++
      fmH (List.zip (List.range' (j + 1) (31 - j)) SR) := by
  unfold kidsH fmH
  rw [range32_split hj, List.zip_append (by simp [hSL]), List.zip_cons_cons, List.filterMap_append,
    List.filterMap_cons]
  cases o <;> simp

theorem fmH_lo_slot {j : Nat} {SL : List (Option (Node K V))} {p : Nat × Node K V}
    (hp : p ∈ fmH (List.zip (List.range j) SL)) : p.1 < j := by
  rw [mem_fmH] at hp
  have := mem_zip_fst hp
  simpa using this

theorem fmH_hi_slot {j : Nat} {SR : List (Option (Node K V))} {p : Nat × Node K V}
    (hp : p ∈ fmH (List.zip (List.range' (j + 1) (31 - j)) SR)) : j < p.1 ∧ p.1 < 32 := by
  rw [mem_fmH] at hp
  have := mem_zip_fst hp
  simp [List.mem_range'_1] at this
  omega

theorem hashArray_split {j : Nat} (hj : j < 32) {ns : List (Option (Node K V))} (hlen : ns.length = 32) :
    ∃ SL o SR, ns = SL ++ o :: SR ∧ SL.length = j ∧ ns[j]? = some o := by
  have hlen' : ns.length = j + 1 + (31 - j) := by omega
  obtain ⟨SL, o, SR, h1, h2, _, h4⟩ := split_aligned hlen'
  exact ⟨SL, o, SR, h1, h2, h4⟩

theorem set_split {α : Type} {SL SR : List α} {o o' : α} {j : Nat} (hSL : SL.length = j) :
    (SL ++ o :: SR).set j o' = SL ++ o' :: SR := by
  subst hSL; simp

theorem countSome_split (SL SR : List (Option (Node K V))) (o : Option (Node K V)) :
    countSome (SL ++ o :: SR) = countSome SL + (if o.isSome then 1 else 0) + countSome SR := by
  unfold countSome
  rw [List.filter_append, List.filter_cons]
  cases o <;> simp <;> omega

-- a child is one of the (slot, child) pairs -----------------------------------------------------------

theorem kidsB_of_mem {bm : Nat} {ns : List (Node K V)} (hlen : ns.length = popCount bm) {c : Node K V}
    (hc : c ∈ ns) : ∃ b, (b, c) ∈ kidsB bm ns :=
  exists_zip_left (l₁ := bitsOf bm) hc hlen.symm

theorem mem_of_getElem?_kidsB {bm : Nat} {ns : List (Node K V)} (hlen : ns.length = popCount bm)
    {i : Nat} {c : Node K V} (hc : ns[i]? = some c) : ∃ b, (b, c) ∈ kidsB bm ns :=
  kidsB_of_mem hlen (List.mem_of_getElem? hc)

theorem mem_of_getElem?_kidsH {ns : List (Option (Node K V))} (hlen : ns.length = 32)
    {i : Nat} {c : Node K V} (hc : ns[i]? = some (some c)) : (i, c) ∈ kidsH ns := by
  have hi : i < 32 := by
    rw [← hlen]
    exact (List.getElem?_eq_some_iff.mp hc).1
  obtain ⟨SL, o, SR, hsl, hSL, hsget⟩ := hashArray_split hi hlen
  rw [hsget] at hc
  cases hc
  rw [hsl, kidsH_cons hi (some c) hSL]
  simp

end FpVerif.Hamt
