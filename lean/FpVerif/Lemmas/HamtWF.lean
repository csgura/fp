import FpVerif.Lemmas.HamtBits
/-!
Well-formedness of a trie node (`WF`), lawful hashers, association-list view (`lookup`,
`DistinctKeys`), the "(slot, child)" lists of the branch nodes (`kidsB`, `kidsH`, `flat`) and lemmas on `indexOf`,
zipped lists and splitting a list at a position.
-/
namespace FpVerif.Hamt
variable {K V : Type}

/-- `Hash` agrees with `Eqv`, and `Eqv` is an equivalence relation (the contract of `fp.Hashable`). -/
structure LawfulHash (h : Hasher K) : Prop where
  refl : ∀ a, h.eqv a a = true
  symm : ∀ a b, h.eqv a b = true → h.eqv b a = true
  trans : ∀ a b c, h.eqv a b = true → h.eqv b c = true → h.eqv a c = true
  hash_eq : ∀ a b, h.eqv a b = true → h.hash a = h.hash b

/-- association-list lookup: value of the first entry whose key is `Eqv` to `k` -/
def lookup (h : Hasher K) (k : K) (l : List (K × V)) : Option V :=
  (l.find? (fun e => h.eqv e.1 k)).map (·.2)

/-- keys pairwise not `Eqv` -/
def DistinctKeys (h : Hasher K) (l : List (K × V)) : Prop :=
  l.Pairwise (fun a b => h.eqv a.1 b.1 = false)

/-- entries of an optional child -/
def optList : Option (Node K V) → List (K × V)
  | some c => c.toList
  | none => []

@[simp] theorem optList_some (c : Node K V) : optList (some c) = c.toList := rfl
@[simp] theorem optList_none : optList (none : Option (Node K V)) = [] := rfl

@[simp] theorem toList_array (es : List (K × V)) : (Node.array es).toList = es := by rw [Node.toList]
@[simp] theorem toList_value (kh : UInt32) (k : K) (v : V) : (Node.value kh k v).toList = [(k, v)] := by
  rw [Node.toList]
@[simp] theorem toList_collision (kh : UInt32) (es : List (K × V)) : (Node.collision kh es).toList = es := by
  rw [Node.toList]
theorem toList_bitmap (bm : Nat) (ns : List (Node K V)) :
    (Node.bitmap bm ns).toList = ns.flatMap Node.toList := by
  rw [Node.toList]
theorem toList_hashArray (c : Nat) (ns : List (Option (Node K V))) :
    (Node.hashArray c ns).toList = ns.flatMap optList := by
  rw [Node.toList]
  have h2 : ns.flatMap optList = ns.attach.flatMap (fun x => optList x.1) := by
    conv => lhs; rw [← List.attach_map_subtype_val ns]
    rw [List.flatMap_map]
  rw [h2]
  congr 1
  funext ⟨o, ho⟩
  cases o <;> rfl

/-- number of non-nil slots -/
def countSome (ns : List (Option (Node K V))) : Nat := (ns.filter Option.isSome).length

/-- children of a bitmap node with their slot (bit position) -/
def kidsB (bm : Nat) (ns : List (Node K V)) : List (Nat × Node K V) := List.zip (bitsOf bm) ns

/-- non-nil children of a hash-array node with their slot (array index) -/
def kidsH (ns : List (Option (Node K V))) : List (Nat × Node K V) :=
  (List.zip (List.range 32) ns).filterMap (fun p => p.2.map (fun c => (p.1, c)))

/-- entries below a list of (slot, child) -/
def flat (ks : List (Nat × Node K V)) : List (K × V) := ks.flatMap (fun p => p.2.toList)

/-- Well-formedness of a node that sits at `shift` `s` (depth `s/5`). -/
inductive WF (h : Hasher K) : Nat → Node K V → Prop
  | array {s : Nat} {es : List (K × V)} :
      s = 0 → es ≠ [] → es.length ≤ maxArrayMapSize → DistinctKeys h es → WF h s (.array es)
  | value {s : Nat} {kh : UInt32} {k : K} {v : V} : kh = h.hash k → WF h s (.value kh k v)
  | collision {s : Nat} {kh : UInt32} {es : List (K × V)} :
      2 ≤ es.length → (∀ e ∈ es, h.hash e.1 = kh) → DistinctKeys h es → WF h s (.collision kh es)
  | bitmap {s bm : Nat} {ns : List (Node K V)} :
      s < 32 → bm < 2 ^ 32 → ns.length = popCount bm → 1 ≤ ns.length →
      ns.length ≤ maxBitmapIndexedSize + 1 →
      (∀ p ∈ kidsB bm ns, WF h (s + 5) p.2) →
      (∀ p ∈ kidsB bm ns, ∀ e ∈ p.2.toList, frag (h.hash e.1) s = p.1) →
      WF h s (.bitmap bm ns)
  | hashArray {s cnt : Nat} {ns : List (Option (Node K V))} :
      s < 32 → ns.length = 32 → cnt = countSome ns → maxBitmapIndexedSize ≤ cnt →
      (∀ p ∈ kidsH ns, WF h (s + 5) p.2) →
      (∀ p ∈ kidsH ns, ∀ e ∈ p.2.toList, frag (h.hash e.1) s = p.1) →
      WF h s (.hashArray cnt ns)

-- association lists ------------------------------------------------------------------------------

theorem lookup_nil (h : Hasher K) (k : K) : lookup h k ([] : List (K × V)) = none := rfl

theorem lookup_append (h : Hasher K) (k : K) (a b : List (K × V)) :
    lookup h k (a ++ b) = (lookup h k a).or (lookup h k b) := by
  unfold lookup
  rw [List.find?_append]
  cases List.find? (fun e => h.eqv e.1 k) a <;> simp

theorem lookup_eq_none_iff {h : Hasher K} {k : K} {l : List (K × V)} :
    lookup h k l = none ↔ ∀ e ∈ l, h.eqv e.1 k = false := by
  unfold lookup
  simp only [Option.map_eq_none_iff, List.find?_eq_none, Bool.not_eq_true]

theorem lookup_cons (h : Hasher K) (k : K) (e : K × V) (l : List (K × V)) :
    lookup h k (e :: l) = if h.eqv e.1 k then some e.2 else lookup h k l := by
  unfold lookup
  rw [List.find?_cons]
  cases h.eqv e.1 k <;> simp

theorem lookup_mid {h : Hasher K} {k : K} {a c b : List (K × V)}
    (ha : ∀ e ∈ a, h.eqv e.1 k = false) (hb : ∀ e ∈ b, h.eqv e.1 k = false) :
    lookup h k (a ++ c ++ b) = lookup h k c := by
  rw [lookup_append, lookup_append, lookup_eq_none_iff.mpr ha, lookup_eq_none_iff.mpr hb]
  cases lookup h k c <;> simp

theorem lookup_isSome_iff {h : Hasher K} {k : K} {l : List (K × V)} :
    (lookup h k l).isSome = true ↔ ∃ e ∈ l, h.eqv e.1 k = true := by
  unfold lookup
  rw [Option.isSome_map, List.find?_isSome]

theorem lookup_eq_some {h : Hasher K} {k : K} {l : List (K × V)} {v : V} (hl : lookup h k l = some v) :
    ∃ e ∈ l, h.eqv e.1 k = true ∧ e.2 = v := by
  obtain ⟨e, he, hv⟩ := Option.map_eq_some_iff.mp hl
  have hk := List.find?_some he
  exact ⟨e, List.mem_of_find?_eq_some he, hk, hv⟩

theorem lookup_of_mem {h : Hasher K} (hl : LawfulHash h) {l : List (K × V)} (hd : DistinctKeys h l)
    {e : K × V} (he : e ∈ l) {k : K} (hk : h.eqv e.1 k = true) : lookup h k l = some e.2 := by
  induction l with
  | nil => cases he
  | cons a l ih =>
    rw [lookup_cons]
    unfold DistinctKeys at hd
    rw [List.pairwise_cons] at hd
    rcases List.mem_cons.mp he with rfl | he'
    · simp [hk]
    · have hne : h.eqv a.1 k = false := by
        cases hak : h.eqv a.1 k with
        | false => rfl
        | true =>
          have h1 := hd.1 e he'
          have h2 := hl.trans _ _ _ hak (hl.symm _ _ hk)
          rw [h1] at h2; cases h2
      simp [hne]
      exact ih hd.2 he'

-- positions of the first `Eqv` key -------------------------------------------------------------

theorem indexOf_none {h : Hasher K} {es : List (K × V)} {k : K} :
    indexOf h es k = none ↔ ∀ e ∈ es, h.eqv e.1 k = false := by
  unfold indexOf; exact List.findIdx?_eq_none_iff

theorem indexOf_some {h : Hasher K} {es : List (K × V)} {k : K} {i : Nat} (hi : indexOf h es k = some i) :
    ∃ e, es[i]? = some e ∧ h.eqv e.1 k = true ∧ es = es.take i ++ e :: es.drop (i + 1) ∧
      ∀ x ∈ es.take i, h.eqv x.1 k = false := by
  unfold indexOf at hi
  rw [List.findIdx?_eq_some_iff_getElem] at hi
  obtain ⟨hlt, hp, hbefore⟩ := hi
  refine ⟨es[i], by simp [hlt], hp, ?_, ?_⟩
  · have := List.take_append_drop i es
    conv => lhs; rw [← this]
    rw [List.drop_eq_getElem_cons hlt]
  · intro x hx
    obtain ⟨j, hj, rfl⟩ := List.getElem_of_mem hx
    simp only [List.length_take] at hj
    have hji : j < i := by omega
    have := hbefore j hji
    simp only [List.getElem_take]
    simpa using this

theorem indexOf_lt {h : Hasher K} {es : List (K × V)} {k : K} {i : Nat} (hidx : indexOf h es k = some i) :
    i < es.length := by
  obtain ⟨e, hei, _⟩ := indexOf_some hidx
  exact (List.getElem?_eq_some_iff.mp hei).1

-- zipped lists ------------------------------------------------------------------------------------

theorem exists_zip_left {α β : Type} {b : β} {l₂ : List β} (hb : b ∈ l₂) {l₁ : List α}
    (hl : l₁.length = l₂.length) : ∃ a, (a, b) ∈ List.zip l₁ l₂ := by
  obtain ⟨i, hi, rfl⟩ := List.getElem_of_mem hb
  exact ⟨l₁[i], List.mem_iff_getElem.mpr
    ⟨i, by rw [List.length_zip, hl, Nat.min_self]; exact hi, List.getElem_zip⟩⟩

theorem mem_zip_fst {α β : Type} {p : α × β} {l₁ : List α} {l₂ : List β} (hp : p ∈ List.zip l₁ l₂) :
    p.1 ∈ l₁ := (List.of_mem_zip (a := p.1) (b := p.2) hp).1

theorem mem_zip_snd {α β : Type} {p : α × β} {l₁ : List α} {l₂ : List β} (hp : p ∈ List.zip l₁ l₂) :
    p.2 ∈ l₂ := (List.of_mem_zip (a := p.1) (b := p.2) hp).2

/-- Split a list that is aligned with `L ++ j :: R` at the position of `j`. -/
theorem split_aligned {α : Type} {ns : List α} {a b : Nat} (hlen : ns.length = a + 1 + b) :
    ∃ NL c NR, ns = NL ++ c :: NR ∧ NL.length = a ∧ NR.length = b ∧ ns[a]? = some c := by
  have ha : a < ns.length := by omega
  refine ⟨ns.take a, ns[a], ns.drop (a + 1), ?_, ?_, ?_, by simp [ha]⟩
  · conv => lhs; rw [← List.take_append_drop a ns]
    rw [List.drop_eq_getElem_cons ha]
  · simp; omega
  · simp; omega

theorem split_aligned0 {α : Type} {ns : List α} {a b : Nat} (hlen : ns.length = a + b) :
    ∃ NL NR, ns = NL ++ NR ∧ NL.length = a ∧ NR.length = b ∧ ns.take a = NL ∧ ns.drop a = NR := by
  refine ⟨ns.take a, ns.drop a, (List.take_append_drop a ns).symm, ?_, ?_, rfl, rfl⟩
  · simp; omega
  · simp; omega

end FpVerif.Hamt
