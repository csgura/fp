import FpVerif.Lemmas.TCLaws
import FpVerif.Lemmas.TCMap
/-! Helper lemmas for C09/C10: the element-wise relation on lists and the one on optional values (both carry an
    equivalence to an equivalence), the `eq.Seq` loop, map equality; `eq.Option`, `eq.Seq`, `eq.GoMap` keep `LawfulEq`.
    `Spec/C09` and `Spec/C10` state theorems under the same short names (`seq_eqv_iff`, `option_lawful`, …): there, write `FpVerif.TC.…`. -/
namespace FpVerif.TC

variable {α β κ ν : Type}

/-- same length and related element by element -/
inductive Pointwise (R : α → β → Prop) : List α → List β → Prop where
  | nil : Pointwise R [] []
  | cons {a b as bs} : R a b → Pointwise R as bs → Pointwise R (a :: as) (b :: bs)

theorem pointwise_cons_iff {R : α → β → Prop} {a : α} {b : β} {as : List α} {bs : List β} :
    Pointwise R (a :: as) (b :: bs) ↔ R a b ∧ Pointwise R as bs :=
  ⟨fun | .cons h t => ⟨h, t⟩, fun h => .cons h.1 h.2⟩

theorem Pointwise.length_eq {R : α → β → Prop} {a : List α} {b : List β} (h : Pointwise R a b) :
    a.length = b.length := by
  induction h with
  | nil => rfl
  | cons _ _ ih => simp [ih]

theorem Pointwise.refl {R : α → α → Prop} (hr : ∀ a, R a a) : ∀ l, Pointwise R l l
  | [] => .nil
  | a :: as => .cons (hr a) (Pointwise.refl hr as)

theorem Pointwise.symm {R : α → α → Prop} (hs : ∀ a b, R a b → R b a) {a b : List α}
    (h : Pointwise R a b) : Pointwise R b a := by
  induction h with
  | nil => exact .nil
  | cons h1 _ ih => exact .cons (hs _ _ h1) ih

theorem Pointwise.trans {R : α → α → Prop} (ht : ∀ a b c, R a b → R b c → R a c) {a b c : List α}
    (h1 : Pointwise R a b) (h2 : Pointwise R b c) : Pointwise R a c := by
  induction h1 generalizing c with
  | nil => cases h2; exact .nil
  | cons hab _ ih =>
    cases h2 with
    | cons hbc h2' => exact .cons (ht _ _ _ hab hbc) (ih h2')

theorem Pointwise.imp {R S : α → β → Prop} (h : ∀ a b, R a b → S a b) {a : List α} {b : List β}
    (hp : Pointwise R a b) : Pointwise S a b := by
  induction hp with
  | nil => exact .nil
  | cons h1 _ ih => exact .cons (h _ _ h1) ih

theorem pointwise_congr {R S : α → β → Prop} (h : ∀ a b, R a b ↔ S a b) {a : List α} {b : List β} :
    Pointwise R a b ↔ Pointwise S a b :=
  ⟨.imp fun a b => (h a b).mp, .imp fun a b => (h a b).mpr⟩

/-- folds whose steps agree on related elements agree on related lists -/
theorem Pointwise.foldl_congr {γ : Type} {R : α → β → Prop} {f : γ → α → γ} {g : γ → β → γ}
    (h : ∀ c a b, R a b → f c a = g c b) {a : List α} {b : List β} (p : Pointwise R a b) :
    ∀ c, a.foldl f c = b.foldl g c := by
  induction p with
  | nil => exact fun _ => rfl
  | cons hab _ ih => exact fun c => (congrArg (List.foldl f · _) (h c _ _ hab)).trans (ih _)

theorem pointwise_iff_getElem {R : α → β → Prop} {a : List α} {b : List β} :
    Pointwise R a b ↔ ∃ h : a.length = b.length, ∀ (i : Nat) (hi : i < a.length), R (a[i]) (b[i]'(h ▸ hi)) := by
  induction a generalizing b with
  | nil =>
    cases b with
    | nil => exact ⟨fun _ => ⟨rfl, nofun⟩, fun _ => .nil⟩
    | cons _ _ => exact ⟨nofun, fun ⟨hl, _⟩ => nomatch hl⟩
  | cons x xs ih =>
    cases b with
    | nil => exact ⟨nofun, fun ⟨hl, _⟩ => nomatch hl⟩
    | cons y ys =>
      rw [pointwise_cons_iff, ih]
      constructor
      · rintro ⟨h0, hl, hall⟩
        refine ⟨congrArg Nat.succ hl, fun i hi => ?_⟩
        cases i with
        | zero => exact h0
        | succ j => exact hall j (Nat.lt_of_succ_lt_succ hi)
      · rintro ⟨hl, hall⟩
        exact ⟨hall 0 (Nat.zero_lt_succ _), Nat.succ.inj hl, fun i hi => hall (i + 1) (Nat.succ_lt_succ hi)⟩

theorem seqLoop_iff (e : EqD α) {a b : List α} (hl : a.length = b.length) :
    EqD.seqLoop e a b = true ↔ Pointwise (fun x y => e.eqv x y = true) a b := by
  induction a generalizing b with
  | nil =>
    cases b with
    | nil => exact ⟨fun _ => .nil, fun _ => rfl⟩
    | cons _ _ => cases hl
  | cons x xs ih =>
    cases b with
    | nil => cases hl
    | cons y ys =>
      rw [pointwise_cons_iff, ← ih (Nat.succ.inj hl), EqD.seqLoop]
      cases e.eqv x y <;> simp

theorem seq_eqv_iff (e : EqD α) (a b : List α) :
    (EqD.seq e).eqv a b = true ↔ Pointwise (fun x y => e.eqv x y = true) a b := by
  simp only [EqD.seq, EqD.new]
  by_cases hl : a.length = b.length
  · simp [hl, seqLoop_iff e hl]
  · simp only [bne_iff_ne, ne_eq, hl, not_false_eq_true, ↓reduceIte, Bool.false_eq_true, false_iff]
    exact fun h => hl h.length_eq

-- ---------------------------------------------------------------------------- pigeonhole

/-- a duplicate-free list inside a list that is no longer takes up all of it -/
theorem subset_of_length_le {l1 l2 : List α} (hnd : l1.Nodup) (hsub : l1 ⊆ l2) (hlen : l2.length ≤ l1.length) :
    l2 ⊆ l1 := fun z hz => Classical.byContradiction fun hn => by
  have := (List.nodup_cons.mpr ⟨hn, hnd⟩).length_le_of_subset (List.cons_subset.mpr ⟨hz, hsub⟩)
  rw [List.length_cons] at this
  omega

-- ---------------------------------------------- optional values, `LawfulEq.of_iff`, map equality

/-- two optional values are both absent, or both present and related -/
def OptRel (R : ν → ν → Prop) : Option ν → Option ν → Prop
  | none, none => True
  | some x, some y => R x y
  | _, _ => False

theorem OptRel.refl {R : ν → ν → Prop} (hr : ∀ x, R x x) : ∀ o, OptRel R o o
  | none => trivial
  | some x => hr x

theorem OptRel.symm {R : ν → ν → Prop} (hs : ∀ x y, R x y → R y x) : ∀ a b, OptRel R a b → OptRel R b a
  | none, none, _ => trivial
  | some x, some y, h => hs x y h
  | none, some _, h => h.elim
  | some _, none, h => h.elim

theorem OptRel.trans {R : ν → ν → Prop} (ht : ∀ x y z, R x y → R y z → R x z) :
    ∀ a b c, OptRel R a b → OptRel R b c → OptRel R a c
  | none, none, _, _, h => h
  | some x, some y, some z, h1, h2 => ht x y z h1 h2
  | none, some _, _, h, _ => h.elim
  | some _, none, _, h, _ => h.elim
  | some _, some _, none, _, h => h.elim

theorem OptRel.congr {R S : ν → ν → Prop} (h : ∀ x y, R x y ↔ S x y) : ∀ a b, OptRel R a b ↔ OptRel S a b
  | none, none => Iff.rfl
  | some x, some y => h x y
  | none, some _ => Iff.rfl
  | some _, none => Iff.rfl

theorem optRel_map {R : ν → ν → Prop} (f : α → ν) :
    ∀ a b : Option α, OptRel R (a.map f) (b.map f) ↔ OptRel (fun x y => R (f x) (f y)) a b
  | none, none => Iff.rfl
  | some _, some _ => Iff.rfl
  | none, some _ => Iff.rfl
  | some _, none => Iff.rfl

/-- an `Eqv` that decides an equivalence relation is lawful -/
theorem LawfulEq.of_iff {e : EqD α} {S : α → α → Prop} (h : ∀ a b, e.eqv a b = true ↔ S a b)
    (refl : ∀ a, S a a) (symm : ∀ a b, S a b → S b a) (trans : ∀ a b c, S a b → S b c → S a c) : LawfulEq e where
  refl a := (h a a).mpr (refl a)
  symm a b hab := (h b a).mpr (symm a b ((h a b).mp hab))
  trans a b c hab hbc := (h a c).mpr (trans a b c ((h a b).mp hab) ((h b c).mp hbc))

theorem option_eqv_iff (e : EqD α) : ∀ a b : Option α,
    (EqD.option e).eqv a b = true ↔ OptRel (fun x y => e.eqv x y = true) a b
  | none, none => ⟨fun _ => trivial, fun _ => rfl⟩
  | some _, some _ => Iff.rfl
  | none, some _ => ⟨fun h => (nomatch h), False.elim⟩
  | some _, none => ⟨fun h => (nomatch h), False.elim⟩

theorem option_lawful {e : EqD α} (h : LawfulEq e) : LawfulEq (EqD.option e) :=
  .of_iff (option_eqv_iff e) (OptRel.refl h.refl) (OptRel.symm h.symm) (OptRel.trans h.trans)

theorem seq_lawful {e : EqD α} (h : LawfulEq e) : LawfulEq (EqD.seq e) :=
  .of_iff (seq_eqv_iff e) (Pointwise.refl h.refl) (fun _ _ p => p.symm h.symm) (fun _ _ _ p q => p.trans h.trans q)

theorem OptRel.isSome_eq {R : ν → ν → Prop} : ∀ {x y : Option ν}, OptRel R x y → x.isSome = y.isSome
  | none, none, _ => rfl
  | some _, some _, _ => rfl
  | none, some _, h => h.elim
  | some _, none, h => h.elim

variable [DecidableEq κ]

theorem lookup_eq_some_iff {k : κ} {v : ν} {l : List (κ × ν)} (hnd : (l.map Prod.fst).Nodup) :
    lookup k l = some v ↔ (k, v) ∈ l := by
  induction l with
  | nil => exact ⟨nofun, nofun⟩
  | cons p rest ih =>
    obtain ⟨k', v'⟩ := p
    rw [List.map_cons, List.nodup_cons] at hnd
    rw [lookup, List.mem_cons, Prod.mk.injEq]
    by_cases hk : k = k'
    · subst hk
      rw [if_pos rfl, Option.some.injEq]
      exact ⟨fun hv => .inl ⟨rfl, hv.symm⟩, fun
        | .inl h => h.2.symm
        | .inr h => absurd (List.mem_map_of_mem (f := Prod.fst) h) hnd.1⟩
    · rw [if_neg hk, ih hnd.2]
      exact ⟨.inr, fun
        | .inl h => absurd h.1 hk
        | .inr h => h⟩

theorem GoMap.mem_entries_iff (m : GoMap κ ν) (k : κ) (v : ν) : (k, v) ∈ m.entries ↔ m.get k = some v :=
  (lookup_eq_some_iff m.nodup).symm

theorem GoMap.mem_keys_iff (m : GoMap κ ν) (k : κ) : k ∈ m.entries.map Prod.fst ↔ (m.get k).isSome = true :=
  lookup_isSome_iff_mem.symm

/-- maps related key by key have the same keys, hence the same size -/
theorem size_eq_of_optRel {R : ν → ν → Prop} {a b : GoMap κ ν} (h : ∀ k, OptRel R (a.get k) (b.get k)) :
    a.size = b.size := by
  have keys : ∀ k, k ∈ a.entries.map Prod.fst ↔ k ∈ b.entries.map Prod.fst := fun k => by
    rw [a.mem_keys_iff, b.mem_keys_iff, (h k).isSome_eq]
  have h1 := a.nodup.length_le_of_subset fun k => (keys k).mp
  have h2 := b.nodup.length_le_of_subset fun k => (keys k).mpr
  rw [List.length_map, List.length_map] at h1 h2
  exact Nat.le_antisymm h1 h2

theorem goMap_eqv_iff (e : EqD ν) (a b : GoMap κ ν) :
    (EqD.goMap e).eqv a b = true ↔ ∀ k, OptRel (fun x y => e.eqv x y = true) (a.get k) (b.get k) := by
  -- the loop: every entry of `a` has an equivalent partner in `b`
  have loop : (a.entries.all fun kv => match b.get kv.1 with | none => false | some bv => e.eqv kv.2 bv) = true ↔
      ∀ k av, a.get k = some av → OptRel (fun x y => e.eqv x y = true) (some av) (b.get k) := by
    have step : ∀ (av : ν) (o : Option ν), (match o with | none => false | some bv => e.eqv av bv) = true ↔
        OptRel (fun x y => e.eqv x y = true) (some av) o
      | _, none => ⟨nofun, False.elim⟩
      | _, some _ => Iff.rfl
    rw [List.all_eq_true]
    exact ⟨fun h k av hk => (step av _).mp (h (k, av) ((a.mem_entries_iff k av).mpr hk)),
      fun h kv hm => (step kv.2 _).mpr (h kv.1 kv.2 ((a.mem_entries_iff kv.1 kv.2).mp hm))⟩
  show (if a.size != b.size then false else _) = true ↔ _
  constructor
  · intro h k
    cases hsz : a.size != b.size with
    | true => rw [hsz, if_pos rfl] at h; cases h
    | false =>
      rw [hsz, if_neg Bool.false_ne_true] at h
      replace h := loop.mp h
      cases ha : a.get k with
      | some av => exact ha ▸ h k av ha
      | none =>
        -- all keys of `a` are keys of `b`, there are as many: `b` has no further key
        have sub : a.entries.map Prod.fst ⊆ b.entries.map Prod.fst := fun k' hk' => by
          obtain ⟨av, hav⟩ := Option.isSome_iff_exists.mp ((a.mem_keys_iff k').mp hk')
          exact (b.mem_keys_iff k').mpr (h k' av hav).isSome_eq.symm
        have back := subset_of_length_le a.nodup sub (by
          rw [List.length_map, List.length_map]; exact Nat.le_of_eq (bne_eq_false_iff_eq.mp hsz).symm)
        cases hb : b.get k with
        | none => trivial
        | some bv =>
          have := (a.mem_keys_iff k).mp (back ((b.mem_keys_iff k).mpr (congrArg Option.isSome hb)))
          rw [ha] at this
          cases this
  · intro h
    rw [bne_eq_false_iff_eq.mpr (size_eq_of_optRel h), if_neg Bool.false_ne_true]
    exact loop.mpr fun k av hk => hk ▸ h k

theorem goMap_lawful {e : EqD ν} (h : LawfulEq e) : LawfulEq (EqD.goMap e : EqD (GoMap κ ν)) :=
  .of_iff (goMap_eqv_iff e) (fun _ _ => OptRel.refl h.refl _) (fun _ _ x k => OptRel.symm h.symm _ _ (x k))
    (fun _ _ _ x y k => OptRel.trans h.trans _ _ _ (x k) (y k))

end FpVerif.TC
