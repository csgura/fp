import FpVerif.Lemmas.DeriveInst
/-!
# Fuel adequacy of the derived instances of (recursive) declarations (C08, audit finding 10)

`Decl.eqInst / ordInst / hashInst` tie the knot of a recursive type (`Inst.self`) by unfolding
`fuel` times; the fuel-0 instance is the all-equal one.  This file defines the nesting depth of a
VALUE relative to a declaration (`Decl.depthLE d k x`: every chain of recursive references inside
`x` is shorter than `k` — the counterpart of `selfShape` of `Spec/C08Inst.lean` for clone) and proves that two unfoldings
agree on all values with `depthLE k` as soon as both have at least `k` levels.

The definitions of this file serve the statements only: no oracle runs them.
-/
namespace FpVerif.Derive
open FpVerif.Rec

/-! ## Where an instance expression applies `self` / a parameter dictionary inside a value -/

mutual
  /-- `i.within penv self v`: every sub-value of `v` to which the denotation of `i` applies the
      recursive reference satisfies `self`, every one handed to the dictionary of type parameter `n`
      satisfies `penv n` (type-directed, following exactly the projections `Inst.eq/ord/hash` use) -/
  def Inst.within (penv : String → DV → Prop) (self : DV → Prop) : Inst → DV → Prop
    | .prim _ => fun _ => True
    | .option i => fun v => ∀ w, v.asOpt = some w → i.within penv self w
    | .seq i => fun v => ∀ w, w ∈ v.asList → i.within penv self w
    | .slice i => fun v => ∀ w, w ∈ v.asList → i.within penv self w
    | .ptr i => fun v => ∀ w, v.asPtr = some w → i.within penv self w
    | .gomap i => fun v => ∀ p, p ∈ v.goMap.entries → i.within penv self p.2
    | .tuple2 a b => fun v => InCarriers [a.within penv self, b.within penv self] (v.asN 2)
    | .struct s is => fun v =>
        InCarriers (Inst.withins penv self is) (unapplyG s (v.asN s.fields.length))
    | .self => self
    | .tparam n => penv n
  def Inst.withins (penv : String → DV → Prop) (self : DV → Prop) : List Inst → List (DV → Prop)
    | [] => []
    | i :: is => i.within penv self :: Inst.withins penv self is
end

/-- the per-field predicates of a declaration: field `f` is looked at by the component
    `resolve …` of `f`, so its value has to be `within` that component's expression -/
def Decl.withinFields (d : Decl) (S : DV → Prop) : List (DV → Prop) :=
  let penv : String → DV → Prop := fun n => (d.paramInst n).within (fun _ _ => True) S
  components d.spec d.params (fun t => (d.givenInst t).within penv S) penv

/-- `d.depthLE k x`: the recursive references inside the struct value `x` nest at most `k - 1` deep
    (`depthLE 0` is empty; `depthLE 1 x`: no recursive reference of `x` is followed at all — nil
    pointers, empty sequences, `None`; `depthLE (k+1) x`: what they lead to is `depthLE k`) -/
def Decl.depthLE (d : Decl) : Nat → List DV → Prop
  | 0 => fun _ => False
  | k + 1 => fun x =>
      InCarriers (d.withinFields fun v => d.depthLE k (v.asN d.spec.fields.length)) (unapplyG d.spec x)

/-! ## Pointwise relations on three lists -/

inductive Forall3 {A B C : Type} (R : A → B → C → Prop) : List A → List B → List C → Prop where
  | nil : Forall3 R [] [] []
  | cons {a b c as bs cs} : R a b c → Forall3 R as bs cs → Forall3 R (a :: as) (b :: bs) (c :: cs)

theorem components_forall3 {D E F : Type} (R : D → E → F → Prop) (s : StructSpec)
    (params : List String) (g1 : Ty → D) (p1 : String → D) (g2 : Ty → E) (p2 : String → E)
    (g3 : Ty → F) (p3 : String → F) (hg : ∀ t, R (g1 t) (g2 t) (g3 t))
    (hp : ∀ n, R (p1 n) (p2 n) (p3 n)) :
    Forall3 R (components s params g1 p1) (components s params g2 p2)
      (components s params g3 p3) := by
  unfold components
  induction s.applicableFields with
  | nil => exact .nil
  | cons f fs ih =>
    refine .cons ?_ ih
    rcases resolve_choice params f with ⟨n, h⟩ | h
    · rw [h, h, h]; exact hp n
    · rw [h, h, h]; exact hg _

/-! ## Eq -/

/-- two `Eq` dictionaries agree on the values satisfying `P` -/
def AgreeEq {α : Type} (d1 d2 : EqD α) (P : α → Prop) : Prop :=
  ∀ a b, P a → P b → d1.eqv a b = d2.eqv a b

theorem tupleEq_agree {α : Type} {ds1 ds2 : List (EqD α)} {Ps : List (α → Prop)}
    (h : Forall3 AgreeEq ds1 ds2 Ps) :
    ∀ {as bs : List α}, InCarriers Ps as → InCarriers Ps bs →
      tupleEq ds1 as bs = tupleEq ds2 as bs := by
  induction h with
  | nil => intro as bs _ _; rfl
  | cons hd _ ih =>
    intro as bs ha hb
    cases ha with
    | cons pa ha' =>
      cases hb with
      | cons pb hb' => rw [tupleEq_cons, tupleEq_cons, hd _ _ pa pb, ih ha' hb']

theorem optEqv_agree {e1 e2 : EqD DV} {oa ob : Option DV}
    (h : ∀ x y, oa = some x → ob = some y → e1.eqv x y = e2.eqv x y) :
    optEqv e1 oa ob = optEqv e2 oa ob := by
  cases oa <;> cases ob <;> simp [optEqv]
  exact h _ _ rfl rfl

theorem seqLoop_agree {e1 e2 : EqD DV} :
    ∀ {a b : List DV}, (∀ x y, x ∈ a → y ∈ b → e1.eqv x y = e2.eqv x y) →
      TC.EqD.seqLoop ⟨e1.eqv⟩ a b = TC.EqD.seqLoop ⟨e2.eqv⟩ a b
  | [], _, _ => by simp [TC.EqD.seqLoop]
  | _ :: _, [], _ => by simp [TC.EqD.seqLoop]
  | x :: a, y :: b, h => by
    simp only [TC.EqD.seqLoop, h x y (by simp) (by simp),
      seqLoop_agree (a := a) (b := b) fun x y hx hy => h x y (by simp [hx]) (by simp [hy])]

theorem seqEqv_agree {e1 e2 : EqD DV} {a b : List DV}
    (h : ∀ x y, x ∈ a → y ∈ b → e1.eqv x y = e2.eqv x y) : seqEqv e1 a b = seqEqv e2 a b := by
  simp only [seqEqv, TC.EqD.seq, TC.EqD.new]
  rw [seqLoop_agree h]

theorem all_congr_mem {α : Type} {p q : α → Bool} :
    ∀ {l : List α}, (∀ x, x ∈ l → p x = q x) → l.all p = l.all q
  | [], _ => rfl
  | x :: l, h => by
    simp only [List.all_cons, h x (by simp),
      all_congr_mem (l := l) fun y hy => h y (List.mem_cons_of_mem _ hy)]

theorem goMapEqv_agree {e1 e2 : EqD DV} {a b : TC.GoMap (List UInt8) DV}
    (h : ∀ p q, p ∈ a.entries → q ∈ b.entries → e1.eqv p.2 q.2 = e2.eqv p.2 q.2) :
    (TC.EqD.goMap (κ := List UInt8) ⟨e1.eqv⟩).eqv a b =
      (TC.EqD.goMap (κ := List UInt8) ⟨e2.eqv⟩).eqv a b := by
  simp only [TC.EqD.goMap, TC.EqD.new]
  split
  · rfl
  · apply all_congr_mem
    intro kv hkv
    cases hg : b.get kv.1 with
    | none => rfl
    | some bv => exact h kv (kv.1, bv) hkv ((TC.lookup_eq_some_iff b.nodup).1 hg)

mutual
  /-- Two environments that agree on `self` / `penv` give denotations that agree on the values
      `within` the expression. -/
  theorem eq_agree (env1 env2 : Env (EqD DV)) (penv : String → DV → Prop) (self : DV → Prop)
      (hs : AgreeEq env1.self env2.self self)
      (hp : ∀ n, AgreeEq (env1.param n) (env2.param n) (penv n)) :
      (i : Inst) → AgreeEq (i.eq env1) (i.eq env2) (i.within penv self)
    | .prim n => fun _ _ _ _ => rfl
    | .option i => fun a b ha hb => by
      simp only [Inst.eq, eqOption]
      exact optEqv_agree fun x y hx hy =>
        eq_agree env1 env2 penv self hs hp i x y (ha x hx) (hb y hy)
    | .seq i => fun a b ha hb => by
      simp only [Inst.eq, eqSeq]
      exact seqEqv_agree fun x y hx hy =>
        eq_agree env1 env2 penv self hs hp i x y (ha x hx) (hb y hy)
    | .slice i => fun a b ha hb => by
      simp only [Inst.eq, eqSlice, EqD.contraMap, eqSeq, id]
      exact seqEqv_agree fun x y hx hy =>
        eq_agree env1 env2 penv self hs hp i x y (ha x hx) (hb y hy)
    | .ptr i => fun a b ha hb => by
      simp only [Inst.eq, eqPtr]
      exact optEqv_agree fun x y hx hy =>
        eq_agree env1 env2 penv self hs hp i x y (ha x hx) (hb y hy)
    | .gomap i => fun a b ha hb => by
      simp only [Inst.eq, eqGoMap]
      exact goMapEqv_agree fun p q hp' hq =>
        eq_agree env1 env2 penv self hs hp i p.2 q.2 (ha p hp') (hb q hq)
    | .tuple2 x y => fun a b ha hb => by
      simp only [Inst.eq, eqTuple2, EqD.comap]
      exact tupleEq_agree
        (.cons (eq_agree env1 env2 penv self hs hp x)
          (.cons (eq_agree env1 env2 penv self hs hp y) .nil)) ha hb
    | .struct s is => fun a b ha hb => by
      simp only [Inst.eq, eqRec, EqD.comap, derivedEq, EqD.contraMap]
      exact tupleEq_agree (eqs_agree env1 env2 penv self hs hp is) ha hb
    | .self => hs
    | .tparam n => hp n
  theorem eqs_agree (env1 env2 : Env (EqD DV)) (penv : String → DV → Prop) (self : DV → Prop)
      (hs : AgreeEq env1.self env2.self self)
      (hp : ∀ n, AgreeEq (env1.param n) (env2.param n) (penv n)) :
      (is : List Inst) →
        Forall3 AgreeEq (Inst.eqs env1 is) (Inst.eqs env2 is) (Inst.withins penv self is)
    | [] => .nil
    | i :: is =>
      .cons (eq_agree env1 env2 penv self hs hp i) (eqs_agree env1 env2 penv self hs hp is)
end

/-- Fuel adequacy, `Eq`: on values whose recursive references nest less than `k` deep every
    unfolding with at least `k` levels computes the same `Eqv` as the one with exactly `k`. -/
theorem eqInst_agree (d : Decl) :
    ∀ k j, AgreeEq (d.eqInst (k + j)) (d.eqInst k) (d.depthLE k)
  | 0, _ => fun _ _ h => h.elim
  | k + 1, j => by
    intro x y hx hy
    have e : k + 1 + j = (k + j) + 1 := by omega
    rw [e]
    have hs : AgreeEq ((d.eqInst (k + j)).comap (DV.asN d.spec.fields.length))
        ((d.eqInst k).comap (DV.asN d.spec.fields.length))
        (fun v => d.depthLE k (v.asN d.spec.fields.length)) :=
      fun a b ha hb => eqInst_agree d k j _ _ ha hb
    have hpd := fun n => eq_agree ⟨_, fun _ => EqD.trivial⟩ ⟨_, fun _ => EqD.trivial⟩
      (fun _ _ => True) _ hs (fun _ _ _ _ _ => rfl) (d.paramInst n)
    simp only [Decl.eqInst, derivedEqG, derivedEq, EqD.contraMap]
    exact tupleEq_agree
      (components_forall3 AgreeEq _ _ _ _ _ _ _ _
        (fun t => eq_agree ⟨_, _⟩ ⟨_, _⟩ _ _ hs hpd (d.givenInst t)) hpd) hx hy

/-! ## Hashable -/

/-- two `Hashable` dictionaries agree on the values satisfying `P` -/
def AgreeHash {α : Type} (d1 d2 : HashD α) (P : α → Prop) : Prop :=
  (∀ a b, P a → P b → d1.eqv a b = d2.eqv a b) ∧ ∀ a, P a → d1.hash a = d2.hash a

theorem AgreeHash.toEq {α : Type} {ds1 ds2 : List (HashD α)} {Ps : List (α → Prop)}
    (h : Forall3 AgreeHash ds1 ds2 Ps) :
    Forall3 AgreeEq (ds1.map HashD.toEq) (ds2.map HashD.toEq) Ps := by
  induction h with
  | nil => exact .nil
  | cons hd _ ih => exact .cons hd.1 ih

theorem tupleHash_agree {α : Type} {ds1 ds2 : List (HashD α)} {Ps : List (α → Prop)}
    (h : Forall3 AgreeHash ds1 ds2 Ps) :
    ∀ {as : List α}, InCarriers Ps as → tupleHash ds1 as = tupleHash ds2 as := by
  induction h with
  | nil => intro as _; simp [tupleHash]
  | @cons d1 d2 P ds1 ds2 Ps hd hrest ih =>
    intro as ha
    cases ha with
    | @cons _ a _ as' pa ha' =>
      have e1 := hd.2 a pa
      have e2 := ih ha'
      cases hrest with
      | nil => simp [tupleHash, e1]
      | cons _ _ => simp only [tupleHash, e1, e2]

theorem foldl_congr_mem {α β : Type} {f g : β → α → β} :
    ∀ {l : List α} {z : β}, (∀ acc x, x ∈ l → f acc x = g acc x) → l.foldl f z = l.foldl g z
  | [], _, _ => rfl
  | x :: l, z, h => by
    simp only [List.foldl_cons, h z x (by simp)]
    exact foldl_congr_mem fun acc y hy => h acc y (List.mem_cons_of_mem _ hy)

mutual
  theorem hash_agree (env1 env2 : Env (HashD DV)) (penv : String → DV → Prop) (self : DV → Prop)
      (hs : AgreeHash env1.self env2.self self)
      (hp : ∀ n, AgreeHash (env1.param n) (env2.param n) (penv n)) :
      (i : Inst) → AgreeHash (i.hash env1) (i.hash env2) (i.within penv self)
    | .prim n => ⟨fun _ _ _ _ => rfl, fun _ _ => rfl⟩
    | .option i => by
      have ih := hash_agree env1 env2 penv self hs hp i
      refine ⟨fun a b ha hb => ?_, fun a ha => ?_⟩
      · simp only [Inst.hash, hashOption, eqOption, HashD.toEq]
        exact optEqv_agree fun x y hx hy => ih.1 x y (ha x hx) (hb y hy)
      · simp only [Inst.hash, hashOption]
        cases h : a.asOpt with
        | none => rfl
        | some w => exact ih.2 w (ha w h)
    | .seq i => by
      have ih := hash_agree env1 env2 penv self hs hp i
      refine ⟨fun a b ha hb => ?_, fun a ha => ?_⟩
      · simp only [Inst.hash, hashSeq, eqSeq, HashD.toEq]
        exact seqEqv_agree fun x y hx hy => ih.1 x y (ha x hx) (hb y hy)
      · simp only [Inst.hash, hashSeq]
        exact foldl_congr_mem fun acc x hx => by rw [ih.2 x (ha x hx)]
    | .slice i => by
      have ih := hash_agree env1 env2 penv self hs hp i
      refine ⟨fun a b ha hb => ?_, fun a ha => ?_⟩
      · simp only [Inst.hash, hashSlice, HashD.contraMap, hashSeq, eqSeq, HashD.toEq, id]
        exact seqEqv_agree fun x y hx hy => ih.1 x y (ha x hx) (hb y hy)
      · simp only [Inst.hash, hashSlice, HashD.contraMap, hashSeq, id]
        exact foldl_congr_mem fun acc x hx => by rw [ih.2 x (ha x hx)]
    | .ptr i => by
      have ih := hash_agree env1 env2 penv self hs hp i
      refine ⟨fun a b ha hb => ?_, fun a ha => ?_⟩
      · simp only [Inst.hash, hashPtr, eqPtr, HashD.toEq]
        exact optEqv_agree fun x y hx hy => ih.1 x y (ha x hx) (hb y hy)
      · simp only [Inst.hash, hashPtr]
        cases h : a.asPtr with
        | none => rfl
        | some w => exact ih.2 w (ha w h)
    | .gomap _ => ⟨fun _ _ _ _ => rfl, fun _ _ => rfl⟩
    | .tuple2 x y => by
      have H : Forall3 AgreeHash [x.hash env1, y.hash env1] [x.hash env2, y.hash env2]
          [x.within penv self, y.within penv self] :=
        .cons (hash_agree env1 env2 penv self hs hp x)
          (.cons (hash_agree env1 env2 penv self hs hp y) .nil)
      refine ⟨fun a b ha hb => ?_, fun a ha => ?_⟩
      · simp only [Inst.hash, hashTuple2, HashD.comap]
        exact tupleEq_agree (AgreeHash.toEq H) ha hb
      · simp only [Inst.hash, hashTuple2, HashD.comap]
        exact tupleHash_agree H ha
    | .struct s is => by
      have H := hashes_agree env1 env2 penv self hs hp is
      refine ⟨fun a b ha hb => ?_, fun a ha => ?_⟩
      · simp only [Inst.hash, hashRec, HashD.comap, derivedHash, HashD.contraMap]
        exact tupleEq_agree (AgreeHash.toEq H) ha hb
      · simp only [Inst.hash, hashRec, HashD.comap, derivedHash, HashD.contraMap]
        exact tupleHash_agree H ha
    | .self => hs
    | .tparam n => hp n
  theorem hashes_agree (env1 env2 : Env (HashD DV)) (penv : String → DV → Prop) (self : DV → Prop)
      (hs : AgreeHash env1.self env2.self self)
      (hp : ∀ n, AgreeHash (env1.param n) (env2.param n) (penv n)) :
      (is : List Inst) →
        Forall3 AgreeHash (Inst.hashes env1 is) (Inst.hashes env2 is) (Inst.withins penv self is)
    | [] => .nil
    | i :: is =>
      .cons (hash_agree env1 env2 penv self hs hp i) (hashes_agree env1 env2 penv self hs hp is)
end

/-- Fuel adequacy, `Hashable` (both `Eqv` and `Hash`). -/
theorem hashInst_agree (d : Decl) :
    ∀ k j, AgreeHash (d.hashInst (k + j)) (d.hashInst k) (d.depthLE k)
  | 0, _ => ⟨fun _ _ h => h.elim, fun _ h => h.elim⟩
  | k + 1, j => by
    have e : k + 1 + j = (k + j) + 1 := by omega
    rw [e]
    have ih := hashInst_agree d k j
    have hs : AgreeHash ((d.hashInst (k + j)).comap (DV.asN d.spec.fields.length))
        ((d.hashInst k).comap (DV.asN d.spec.fields.length))
        (fun v => d.depthLE k (v.asN d.spec.fields.length)) :=
      ⟨fun a b ha hb => ih.1 _ _ ha hb, fun a ha => ih.2 _ ha⟩
    have hpd := fun n => hash_agree ⟨_, fun _ => HashD.trivial⟩ ⟨_, fun _ => HashD.trivial⟩
      (fun _ _ => True) _ hs (fun _ => ⟨fun _ _ _ _ => rfl, fun _ _ => rfl⟩) (d.paramInst n)
    have H := components_forall3 AgreeHash d.spec d.params _ _ _ _ _ _
        (fun t => hash_agree ⟨_, _⟩ ⟨_, _⟩ _ _ hs hpd (d.givenInst t)) hpd
    refine ⟨fun x y hx hy => ?_, fun x hx => ?_⟩
    · simp only [Decl.hashInst, derivedHashG, derivedHash, HashD.contraMap]
      exact tupleEq_agree (AgreeHash.toEq H) hx hy
    · simp only [Decl.hashInst, derivedHashG, derivedHash, HashD.contraMap]
      exact tupleHash_agree H hx

/-! ## Ord -/

/-- two `Ord` dictionaries agree on the values satisfying `P` -/
def AgreeOrd {α : Type} (d1 d2 : OrdD α) (P : α → Prop) : Prop :=
  ∀ a b, P a → P b → d1.eqv a b = d2.eqv a b ∧ d1.less a b = d2.less a b

theorem OrdD.new_agree {α : Type} {e1 l1 e2 l2 : α → α → Bool} {a b : α} (he : e1 a b = e2 a b)
    (hl : l1 a b = l2 a b) (hl' : l1 b a = l2 b a) :
    (OrdD.new e1 l1).eqv a b = (OrdD.new e2 l2).eqv a b ∧
      (OrdD.new e1 l1).less a b = (OrdD.new e2 l2).less a b := by
  simp only [OrdD.new, he, hl, hl', and_self]

theorem tupleOrd_agree {α : Type} {ds1 ds2 : List (OrdD α)} {Ps : List (α → Prop)}
    (h : Forall3 AgreeOrd ds1 ds2 Ps) :
    ∀ {as bs : List α}, InCarriers Ps as → InCarriers Ps bs →
      (tupleOrd ds1).eqv as bs = (tupleOrd ds2).eqv as bs ∧
        (tupleOrd ds1).less as bs = (tupleOrd ds2).less as bs := by
  induction h with
  | nil => intro as bs _ _; simp [tupleOrd]
  | @cons d1 d2 P ds1 ds2 Ps hd hrest ih =>
    intro as bs ha hb
    cases ha with
    | @cons _ a _ as' pa ha' =>
      cases hb with
      | @cons _ b _ bs' pb hb' =>
        have e1 := hd a b pa pb
        have e1' := hd b a pb pa
        have e2 := ih ha' hb'
        have e2' := ih hb' ha'
        simp only [tupleOrd]
        apply OrdD.new_agree
        · simp only [e1.1, e2.1]
        · simp only [e1.2, e1'.2, e2.2]
        · simp only [e1.2, e1'.2, e2'.2]

theorem optLess_agree {m1 m2 : OrdD DV} {oa ob : Option DV}
    (h : ∀ x y, oa = some x → ob = some y → m1.less x y = m2.less x y) :
    optLess m1 oa ob = optLess m2 oa ob := by
  cases oa <;> cases ob <;> simp [optLess]
  exact h _ _ rfl rfl

theorem ptrLess_agree {m1 m2 : OrdD DV} {oa ob : Option DV}
    (h : ∀ x y, oa = some x → ob = some y → m1.less x y = m2.less x y) :
    ptrLess m1 oa ob = ptrLess m2 oa ob := by
  cases oa <;> cases ob <;> simp [ptrLess]
  exact h _ _ rfl rfl

theorem tcSeqLess_agree {l1 l2 : DV → DV → Bool} :
    ∀ {a b : List DV}, (∀ x y, x ∈ a → y ∈ b → l1 x y = l2 x y ∧ l1 y x = l2 y x) →
      TC.OrdD.seqLess (TC.OrdD.lessFunc l1) a b = TC.OrdD.seqLess (TC.OrdD.lessFunc l2) a b
  | [], _, _ => by simp [TC.OrdD.seqLess]
  | _ :: _, [], _ => by simp [TC.OrdD.seqLess]
  | x :: a, y :: b, h => by
    have e := h x y (by simp) (by simp)
    have ih := tcSeqLess_agree (a := a) (b := b) fun x y hx hy =>
      h x y (by simp [hx]) (by simp [hy])
    have k1 : (TC.OrdD.lessFunc l1).less x y = (TC.OrdD.lessFunc l2).less x y := e.1
    have k2 : (TC.OrdD.lessFunc l1).less y x = (TC.OrdD.lessFunc l2).less y x := e.2
    simp only [TC.OrdD.seqLess, k1, k2, ih]

/-- `ord.Seq` of two orders that agree on the elements -/
theorem ordSeq_agree {o1 o2 : OrdD DV} {P : DV → Prop} (ih : AgreeOrd o1 o2 P) (a b : DV)
    (ha : ∀ w, w ∈ a.asList → P w) (hb : ∀ w, w ∈ b.asList → P w) :
    (ordSeq o1).eqv a b = (ordSeq o2).eqv a b ∧ (ordSeq o1).less a b = (ordSeq o2).less a b := by
  simp only [ordSeq]
  apply OrdD.new_agree
  · simp only [eqSeq, OrdD.toEq]
    exact seqEqv_agree fun x y hx hy => (ih x y (ha x hx) (hb y hy)).1
  · exact tcSeqLess_agree fun x y hx hy =>
      ⟨(ih x y (ha x hx) (hb y hy)).2, (ih y x (hb y hy) (ha x hx)).2⟩
  · exact tcSeqLess_agree fun x y hx hy =>
      ⟨(ih x y (hb x hx) (ha y hy)).2, (ih y x (ha y hy) (hb x hx)).2⟩

mutual
  theorem ord_agree (env1 env2 : Env (OrdD DV)) (penv : String → DV → Prop) (self : DV → Prop)
      (hs : AgreeOrd env1.self env2.self self)
      (hp : ∀ n, AgreeOrd (env1.param n) (env2.param n) (penv n)) :
      (i : Inst) → AgreeOrd (i.ord env1) (i.ord env2) (i.within penv self)
    | .prim n => fun _ _ _ _ => ⟨rfl, rfl⟩
    | .option i => fun a b ha hb => by
      have ih := ord_agree env1 env2 penv self hs hp i
      have e1 : optLess (i.ord env1) a.asOpt b.asOpt = optLess (i.ord env2) a.asOpt b.asOpt :=
        optLess_agree fun x y hx hy => (ih x y (ha x hx) (hb y hy)).2
      have e2 : optLess (i.ord env1) b.asOpt a.asOpt = optLess (i.ord env2) b.asOpt a.asOpt :=
        optLess_agree fun x y hx hy => (ih x y (hb x hx) (ha y hy)).2
      simp only [Inst.ord, ordOption, OrdD.ofLess, e1, e2, and_self]
    | .seq i => fun a b ha hb => by
      simp only [Inst.ord]
      exact ordSeq_agree (ord_agree env1 env2 penv self hs hp i) a b ha hb
    | .slice i => fun a b ha hb => by
      have K := ordSeq_agree (ord_agree env1 env2 penv self hs hp i)
      simp only [Inst.ord, ordSlice, OrdD.contraMap, id]
      exact OrdD.new_agree (K a b ha hb).1 (K a b ha hb).2 (K b a hb ha).2
    | .ptr i => fun a b ha hb => by
      have ih := ord_agree env1 env2 penv self hs hp i
      simp only [Inst.ord, ordPtr]
      apply OrdD.new_agree
      · simp only [eqPtr, OrdD.toEq]
        exact optEqv_agree fun x y hx hy => (ih x y (ha x hx) (hb y hy)).1
      · exact ptrLess_agree fun x y hx hy => (ih x y (ha x hx) (hb y hy)).2
      · exact ptrLess_agree fun x y hx hy => (ih x y (hb x hx) (ha y hy)).2
    | .gomap _ => fun _ _ _ _ => ⟨rfl, rfl⟩
    | .tuple2 x y => fun a b ha hb => by
      simp only [Inst.ord, ordTuple2, OrdD.comap]
      exact tupleOrd_agree
        (.cons (ord_agree env1 env2 penv self hs hp x)
          (.cons (ord_agree env1 env2 penv self hs hp y) .nil)) ha hb
    | .struct s is => fun a b ha hb => by
      have H := ords_agree env1 env2 penv self hs hp is
      simp only [Inst.ord, ordRec, OrdD.comap, derivedOrd, OrdD.contraMap]
      exact OrdD.new_agree (tupleOrd_agree H ha hb).1 (tupleOrd_agree H ha hb).2
        (tupleOrd_agree H hb ha).2
    | .self => hs
    | .tparam n => hp n
  theorem ords_agree (env1 env2 : Env (OrdD DV)) (penv : String → DV → Prop) (self : DV → Prop)
      (hs : AgreeOrd env1.self env2.self self)
      (hp : ∀ n, AgreeOrd (env1.param n) (env2.param n) (penv n)) :
      (is : List Inst) →
        Forall3 AgreeOrd (Inst.ords env1 is) (Inst.ords env2 is) (Inst.withins penv self is)
    | [] => .nil
    | i :: is =>
      .cons (ord_agree env1 env2 penv self hs hp i) (ords_agree env1 env2 penv self hs hp is)
end

/-- Fuel adequacy, `Ord` (both `Eqv` and `Less`). -/
theorem ordInst_agree (d : Decl) :
    ∀ k j, AgreeOrd (d.ordInst (k + j)) (d.ordInst k) (d.depthLE k)
  | 0, _ => fun _ _ h => h.elim
  | k + 1, j => by
    intro x y hx hy
    have e : k + 1 + j = (k + j) + 1 := by omega
    rw [e]
    have hs : AgreeOrd ((d.ordInst (k + j)).comap (DV.asN d.spec.fields.length))
        ((d.ordInst k).comap (DV.asN d.spec.fields.length))
        (fun v => d.depthLE k (v.asN d.spec.fields.length)) :=
      fun a b ha hb => ordInst_agree d k j _ _ ha hb
    have hpd := fun n => ord_agree ⟨_, fun _ => OrdD.trivial⟩ ⟨_, fun _ => OrdD.trivial⟩
      (fun _ _ => True) _ hs (fun _ _ _ _ _ => ⟨rfl, rfl⟩) (d.paramInst n)
    have H := components_forall3 AgreeOrd d.spec d.params _ _ _ _ _ _
        (fun t => ord_agree ⟨_, _⟩ ⟨_, _⟩ _ _ hs hpd (d.givenInst t)) hpd
    simp only [Decl.ordInst, derivedOrdG, derivedOrd, OrdD.contraMap]
    exact OrdD.new_agree (tupleOrd_agree H hx hy).1 (tupleOrd_agree H hx hy).2
      (tupleOrd_agree H hy hx).2

/-! ## Monotonicity of the depth bound -/

theorem inCarriers2_mono {P P' Q Q' : DV → Prop} (hP : ∀ v, P v → P' v) (hQ : ∀ v, Q v → Q' v)
    {vs : List DV} (h : InCarriers [P, Q] vs) : InCarriers [P', Q'] vs := by
  cases h with
  | cons p h2 =>
    cases h2 with
    | cons q h3 => cases h3; exact .cons (hP _ p) (.cons (hQ _ q) .nil)

mutual
  theorem within_mono {penv penv' : String → DV → Prop} {self self' : DV → Prop}
      (hp : ∀ n v, penv n v → penv' n v) (hs : ∀ v, self v → self' v) :
      (i : Inst) → ∀ v, i.within penv self v → i.within penv' self' v
    | .prim _, _, _ => trivial
    | .option i, _, h => fun w hw => within_mono hp hs i w (h w hw)
    | .seq i, _, h => fun w hw => within_mono hp hs i w (h w hw)
    | .slice i, _, h => fun w hw => within_mono hp hs i w (h w hw)
    | .ptr i, _, h => fun w hw => within_mono hp hs i w (h w hw)
    | .gomap i, _, h => fun p hp' => within_mono hp hs i p.2 (h p hp')
    | .tuple2 a b, _, h => inCarriers2_mono (within_mono hp hs a) (within_mono hp hs b) h
    | .struct _ is, _, h => withins_mono hp hs is _ h
    | .self, v, h => hs v h
    | .tparam n, v, h => hp n v h
  theorem withins_mono {penv penv' : String → DV → Prop} {self self' : DV → Prop}
      (hp : ∀ n v, penv n v → penv' n v) (hs : ∀ v, self v → self' v) :
      (is : List Inst) → ∀ vs, InCarriers (Inst.withins penv self is) vs →
        InCarriers (Inst.withins penv' self' is) vs
    | [], _, h => h
    | i :: is, _, h => by
      cases h with
      | cons p hrest => exact .cons (within_mono hp hs i _ p) (withins_mono hp hs is _ hrest)
end

theorem components_inCarriers_mono (s : StructSpec) (params : List String)
    (g1 g2 : Ty → DV → Prop) (p1 p2 : String → DV → Prop) (hg : ∀ t v, g1 t v → g2 t v)
    (hp : ∀ n v, p1 n v → p2 n v) (vs : List DV) (h : InCarriers (components s params g1 p1) vs) :
    InCarriers (components s params g2 p2) vs :=
  Forall2.of_carriers (components_forall2 _ s params g2 p2 g1 p1 hg hp) h

theorem Decl.withinFields_mono (d : Decl) {S S' : DV → Prop} (h : ∀ v, S v → S' v) :
    ∀ vs, InCarriers (d.withinFields S) vs → InCarriers (d.withinFields S') vs := by
  have hp : ∀ n v, (d.paramInst n).within (fun _ _ => True) S v →
      (d.paramInst n).within (fun _ _ => True) S' v :=
    fun n v => within_mono (fun _ _ t => t) h _ v
  exact components_inCarriers_mono _ _ _ _ _ _ (fun t v => within_mono hp h _ v) hp

theorem Decl.depthLE_succ (d : Decl) : ∀ k x, d.depthLE k x → d.depthLE (k + 1) x
  | 0, _, h => h.elim
  | k + 1, x, h => by
    simp only [Decl.depthLE] at h ⊢
    exact d.withinFields_mono (fun v hv => Decl.depthLE_succ d k _ hv) _ h

theorem Decl.depthLE_mono (d : Decl) {k k' : Nat} (hk : k ≤ k') {x : List DV}
    (h : d.depthLE k x) : d.depthLE k' x := by
  induction hk with
  | refl => exact h
  | step _ ih => exact d.depthLE_succ _ _ ih

end FpVerif.Derive
