import FpVerif.Model.Promise
/-!
Inversion of `Promise.stepT`: every executed atomic block is one of 16 transitions.  All
preservation proofs go by cases on `Trans`.
-/
namespace FpVerif.Promise
open FpVerif.Sched

variable {R : Type}

/-- result of a successful CAS -/
def bump (sh : Shared R) (c : Cell R) : Shared R := { sh with cell := c, ver := sh.ver + 1 }
def pushLog (sh : Shared R) (cb : Cb) (r : R) : Shared R := { sh with log := sh.log ++ [(cb, r)] }
def setHeap (sh : Shared R) (h : Heap) : Shared R := { sh with heap := h }

@[simp] theorem bump_cell (sh : Shared R) (c : Cell R) : (bump sh c).cell = c := rfl
@[simp] theorem bump_ver (sh : Shared R) (c : Cell R) : (bump sh c).ver = sh.ver + 1 := rfl
@[simp] theorem bump_heap (sh : Shared R) (c : Cell R) : (bump sh c).heap = sh.heap := rfl
@[simp] theorem bump_log (sh : Shared R) (c : Cell R) : (bump sh c).log = sh.log := rfl
@[simp] theorem pushLog_cell (sh : Shared R) (cb : Cb) (r : R) : (pushLog sh cb r).cell = sh.cell := rfl
@[simp] theorem pushLog_ver (sh : Shared R) (cb : Cb) (r : R) : (pushLog sh cb r).ver = sh.ver := rfl
@[simp] theorem pushLog_heap (sh : Shared R) (cb : Cb) (r : R) : (pushLog sh cb r).heap = sh.heap := rfl
@[simp] theorem pushLog_log (sh : Shared R) (cb : Cb) (r : R) :
    (pushLog sh cb r).log = sh.log ++ [(cb, r)] := rfl
@[simp] theorem setHeap_cell (sh : Shared R) (h : Heap) : (setHeap sh h).cell = sh.cell := rfl
@[simp] theorem setHeap_ver (sh : Shared R) (h : Heap) : (setHeap sh h).ver = sh.ver := rfl
@[simp] theorem setHeap_heap (sh : Shared R) (h : Heap) : (setHeap sh h).heap = h := rfl
@[simp] theorem setHeap_log (sh : Shared R) (h : Heap) : (setHeap sh h).log = sh.log := rfl

def captOf : Cell R → Capt
  | .cbs s => .cbs s
  | _ => .nil

def afterWin (h : Heap) (r : R) : Capt → Local R
  | .nil => .cRet r true
  | .cbs s => enterRun h r s 0

/-- where the thread whose `Complete(r)` won the CAS is from then on: inside its callback loop, dead
    on a nil slot, or returned -/
inductive Won (r : R) : Local R → Prop
  | run (s : Slice) (i : Nat) (cb : Cb) : Won r (.cRun r s i cb)
  | panicked : Won r (.panicked (.complete r))
  | ret : Won r (.cRet r true)

theorem enterRun_won (h : Heap) (r : R) (s : Slice) (i : Nat) : Won r (enterRun h r s i) := by
  unfold enterRun
  split
  · split
    · exact .run s i _
    · exact .panicked
  · exact .ret

theorem afterWin_won (h : Heap) (r : R) (c : Capt) : Won r (afterWin h r c) := by
  cases c with
  | nil => exact .ret
  | cbs s => exact enterRun_won h r s 0

theorem Won.canCas {r : R} {l : Local R} (h : Won r l) : l.canCas = false := by
  cases h <;> rfl

theorem Won.isPendingReg {r : R} {l : Local R} (h : Won r l) : l.isPendingReg = false := by
  cases h <;> rfl

theorem Won.prog {r : R} {l : Local R} (h : Won r l) : l.prog = .complete r := by
  cases h <;> rfl

inductive Trans (v : Variant) : Shared R → Local R → Shared R → Local R → Prop
  | cGetPend {sh : Shared R} {r : R} : sh.cell.isDone = false →
      Trans v sh (.cGet r) sh (.cCas r sh.ver (captOf sh.cell))
  | cGetDone {sh : Shared R} {r r' : R} : sh.cell = .done r' →
      Trans v sh (.cGet r) sh (.cRet r false)
  | cCasOk {sh : Shared R} {r : R} {ap : Nat} {c : Capt} : ap = sh.ver →
      Trans v sh (.cCas r ap c) (bump sh (.done r)) (afterWin sh.heap r c)
  | cCasFail {sh : Shared R} {r : R} {ap : Nat} {c : Capt} : ap ≠ sh.ver →
      Trans v sh (.cCas r ap c) sh (.cGet r)
  | cRun {sh : Shared R} {r : R} {s : Slice} {i : Nat} {cb : Cb} :
      Trans v sh (.cRun r s i cb) (pushLog sh cb r) (enterRun sh.heap r s (i + 1))
  | rGetNil {sh : Shared R} {cb : Cb} : sh.cell = .nil →
      Trans v sh (.rGet cb) (setHeap sh (allocCopy sh.heap [] cb).1)
        (.rCas cb sh.ver (allocCopy sh.heap [] cb).2)
  | rGetCbs {sh : Shared R} {cb : Cb} {s : Slice} : sh.cell = .cbs s →
      Trans v sh (.rGet cb) sh (.rAppend cb sh.ver s)
  | rGetDone {sh : Shared R} {cb : Cb} {r : R} : sh.cell = .done r →
      Trans v sh (.rGet cb) sh (.rCall cb r)
  | rAppend {sh : Shared R} {cb : Cb} {ap : Nat} {s : Slice} :
      Trans v sh (.rAppend cb ap s) (setHeap sh (goAppend v sh.heap s cb).1)
        (.rCas cb ap (goAppend v sh.heap s cb).2)
  | rCasOk {sh : Shared R} {cb : Cb} {ap : Nat} {new : Slice} : ap = sh.ver →
      Trans v sh (.rCas cb ap new) (bump sh (.cbs new)) (.rRet cb)
  | rCasFail {sh : Shared R} {cb : Cb} {ap : Nat} {new : Slice} : ap ≠ sh.ver →
      Trans v sh (.rCas cb ap new) sh (.rGet cb)
  | rCall {sh : Shared R} {cb : Cb} {r : R} :
      Trans v sh (.rCall cb r) (pushLog sh cb r) (.rRet cb)
  | oLoad1Done {sh : Shared R} : sh.cell.isDone = true → Trans v sh .oLoad1 sh .oLoad2
  | oLoad1Pend {sh : Shared R} : sh.cell.isDone = false → Trans v sh .oLoad1 sh (.oRet none)
  | oLoad2Done {sh : Shared R} {r : R} : sh.cell = .done r → Trans v sh .oLoad2 sh (.oRet (some r))
  | oLoad2Pend {sh : Shared R} : sh.cell.isDone = false → Trans v sh .oLoad2 sh (.panicked .observe)

theorem stepT_trans {v : Variant} {sh sh' : Shared R} {l l' : Local R}
    (h : stepT v sh l = some (sh', l')) : Trans v sh l sh' l' := by
  cases l with
  | cGet r =>
    cases hc : sh.cell with
    | done r' =>
      simp only [stepT, hc] at h
      cases h
      exact Trans.cGetDone hc
    | _ =>
      have key := Trans.cGetPend (v := v) (sh := sh) (r := r) (by rw [hc]; rfl)
      simp only [stepT, hc] at h
      cases h
      rw [hc] at key
      exact key
  | cCas r ap c =>
    by_cases hap : ap = sh.ver
    · have key := Trans.cCasOk (v := v) (r := r) (c := c) hap
      simp only [stepT, hap, if_true] at h
      cases c <;> cases h <;> exact key
    · simp only [stepT, hap, if_false] at h
      cases h
      exact Trans.cCasFail hap
  | cRun r s i cb =>
    cases h
    exact Trans.cRun
  | rGet cb =>
    cases hc : sh.cell with
    | nil =>
      have key := Trans.rGetNil (v := v) (cb := cb) hc
      simp only [stepT, hc] at h
      cases h
      unfold setHeap at key
      rw [hc] at key
      exact key
    | cbs s =>
      simp only [stepT, hc] at h
      cases h
      exact Trans.rGetCbs hc
    | done r =>
      simp only [stepT, hc] at h
      cases h
      exact Trans.rGetDone hc
  | rAppend cb ap s =>
    cases h
    exact Trans.rAppend
  | rCas cb ap new =>
    by_cases hap : ap = sh.ver
    · simp only [stepT, hap, if_true] at h
      cases h
      exact Trans.rCasOk hap
    · simp only [stepT, hap, if_false] at h
      cases h
      exact Trans.rCasFail hap
  | rCall cb r =>
    cases h
    exact Trans.rCall
  | oLoad1 =>
    cases hc : sh.cell with
    | done r =>
      simp only [stepT, hc] at h
      cases h
      exact Trans.oLoad1Done (by rw [hc]; rfl)
    | _ =>
      simp only [stepT, hc] at h
      cases h
      exact Trans.oLoad1Pend (by rw [hc]; rfl)
  | oLoad2 =>
    cases hc : sh.cell with
    | done r =>
      simp only [stepT, hc] at h
      cases h
      exact Trans.oLoad2Done hc
    | _ =>
      simp only [stepT, hc] at h
      cases h
      exact Trans.oLoad2Pend (by rw [hc]; rfl)
  | _ => cases h

theorem step_trans {v : Variant} {s s' : PSys R} {t : Tid} (h : step (stepT v) s t = some s') :
    ∃ l sh' l', s.threads[t]? = some l ∧ Trans v s.shared l sh' l' ∧
      s' = ⟨sh', s.threads.set t l'⟩ := by
  obtain ⟨l, sh', l', hl, hs, rfl⟩ := step_eq_some h
  exact ⟨l, sh', l', hl, stepT_trans hs, rfl⟩

/-- an unfinished thread can always move (nothing ever blocks) -/
theorem stepT_isSome_of_not_finished (v : Variant) (sh : Shared R) (l : Local R)
    (h : l.finished = false) : (stepT v sh l).isSome = true := by
  cases l with
  | cRet | rRet | oRet | panicked => cases h
  | _ =>
    simp only [stepT]
    (repeat' split) <;> rfl

theorem stepT_none_of_finished (v : Variant) (sh : Shared R) (l : Local R)
    (h : l.finished = true) : stepT v sh l = none := by
  cases l with
  | cRet | rRet | oRet | panicked => rfl
  | _ => cases h

end FpVerif.Promise
