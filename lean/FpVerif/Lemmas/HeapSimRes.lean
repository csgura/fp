import FpVerif.Lemmas.HeapSlice
/-!
What a simulated operation must deliver (`SimRes`), and what every branch of the simulation draws on: footprint
bookkeeping, the children of a branch node after one of them changed, the node constructors, new nodes over
children that are already represented.
-/
namespace FpVerif.HamtHeap
open FpVerif.Hamt
variable {K V : Type} {α β : Type}

/-- What a heap-level operation on the trie with footprint `fp` must deliver: `p'` represents `n'`
    in `H'` as a TREE (`fp'` without repetition), only cells of the old footprint were written (and
    only on the in-place path), and the new footprint consists of old footprint cells and cells
    allocated by the operation. -/
def SimRes (mu : Bool) (F s : Nat) (H : Heap K V) (fp : List Addr) (H' : Heap K V) (p' : Addr)
    (n' : Node K V) : Prop :=
  ∃ fp', absF F s H' p' = some (n', fp') ∧ fp'.Nodup ∧ Eff H H' (if mu then fp else []) ∧
    ∀ a ∈ fp', a ∈ fp ∨ H.size ≤ a

-- footprint bookkeeping --------------------------------------------------------------------------------

theorem nodup_fresh2 {L : List Nat} {b : Nat} (hnd : L.Nodup) (hlt : ∀ x ∈ L, x < b) :
    ((b + 1) :: b :: L).Nodup := by
  rw [List.nodup_cons, List.nodup_cons]
  refine ⟨?_, ?_, hnd⟩
  · simp only [List.mem_cons, not_or]
    exact ⟨by omega, fun h => by have := hlt _ h; omega⟩
  · intro h; have := hlt _ h; omega

theorem nodup_fresh1 {L : List Nat} {b : Nat} (hnd : L.Nodup) (hlt : ∀ x ∈ L, x < b) : (b :: L).Nodup := by
  rw [List.nodup_cons]
  exact ⟨fun h => by have := hlt _ h; omega, hnd⟩

theorem flatten_set_eq {L : List (List Nat)} {idx : Nat} {old new : List Nat} (hold : L[idx]? = some old) :
    L.flatten = (L.take idx).flatten ++ old ++ (L.drop (idx + 1)).flatten ∧
    (L.set idx new).flatten = (L.take idx).flatten ++ new ++ (L.drop (idx + 1)).flatten := by
  have hlt : idx < L.length := by
    rcases Nat.lt_or_ge idx L.length with h | h
    · exact h
    · rw [List.getElem?_eq_none h] at hold; cases hold
  have hget : L[idx] = old := by
    rw [List.getElem?_eq_getElem hlt] at hold; injection hold
  constructor
  · conv => lhs; rw [← List.take_append_drop idx L, List.drop_eq_getElem_cons hlt, hget]
    simp
  · rw [List.set_eq_take_append_cons_drop, if_pos hlt]
    simp

theorem mem_flatten_set {L : List (List Nat)} {idx : Nat} {new : List Nat} {a : Nat}
    (h : a ∈ (L.set idx new).flatten) : a ∈ new ∨ a ∈ L.flatten := by
  rw [List.mem_flatten] at h
  obtain ⟨l, hl, hal⟩ := h
  rcases List.mem_or_eq_of_mem_set hl with h1 | h1
  · exact Or.inr (List.mem_flatten.mpr ⟨l, h1, hal⟩)
  · exact Or.inl (h1 ▸ hal)

theorem mem_flatten_of_getElem? {L : List (List Nat)} {j : Nat} {l : List Nat} (h : L[j]? = some l)
    {a : Nat} (ha : a ∈ l) : a ∈ L.flatten :=
  List.mem_flatten.mpr ⟨l, List.mem_of_getElem? h, ha⟩

/-- replacing one child's footprint by one that consists of its old cells and fresh cells keeps the
    whole footprint free of repetitions -/
theorem nodup_flatten_set {L : List (List Nat)} {idx : Nat} {old new : List Nat} {B : Nat}
    (hnd : L.flatten.Nodup) (hold : L[idx]? = some old) (hnew : new.Nodup)
    (hsub : ∀ a ∈ new, a ∈ old ∨ B ≤ a) (hB : ∀ a ∈ L.flatten, a < B) : (L.set idx new).flatten.Nodup := by
  obtain ⟨h1, h2⟩ := flatten_set_eq (new := new) hold
  rw [h2]
  rw [h1] at hnd hB
  simp only [List.nodup_append, List.mem_append] at hnd ⊢
  obtain ⟨⟨hA, hO, hAO⟩, hC, hAOC⟩ := hnd
  refine ⟨⟨hA, hnew, ?_⟩, hC, ?_⟩
  · intro a ha b hb hab
    subst hab
    rcases hsub _ hb with h | h
    · exact hAO a ha a h rfl
    · have := hB a (by simp [ha]); omega
  · intro a ha b hb hab
    subst hab
    rcases ha with ha | ha
    · exact hAOC a (Or.inl ha) a hb rfl
    · rcases hsub _ ha with h | h
      · exact hAOC a (Or.inr h) a hb rfl
      · have := hB a (by simp [hb]); omega

/-- siblings of the child at `idx` are disjoint from it in a footprint without repetition -/
theorem disjoint_of_nodup_flatten {L : List (List Nat)} (hnd : L.flatten.Nodup) {i j : Nat} {li lj : List Nat}
    (hi : L[i]? = some li) (hj : L[j]? = some lj) (hij : i ≠ j) {a : Nat} (hai : a ∈ li) : a ∉ lj := by
  have hp := (List.pairwise_flatten.mp hnd).2
  rw [List.pairwise_iff_getElem] at hp
  have hil := (List.getElem?_eq_some_iff.mp hi)
  have hjl := (List.getElem?_eq_some_iff.mp hj)
  obtain ⟨hi1, hi2⟩ := hil
  obtain ⟨hj1, hj2⟩ := hjl
  intro haj
  rcases Nat.lt_or_gt_of_ne hij with h | h
  · exact hp i j hi1 hj1 h a (hi2 ▸ hai) a (hj2 ▸ haj) rfl
  · exact hp j i hj1 hi1 h a (hj2 ▸ haj) a (hi2 ▸ hai) rfl

/-- inserting a child whose footprint is fresh -/
theorem nodup_flatten_insert {L : List (List Nat)} {idx : Nat} {new : List Nat} {B : Nat}
    (hnd : L.flatten.Nodup) (hnew : new.Nodup) (hfresh : ∀ a ∈ new, B ≤ a) (hB : ∀ a ∈ L.flatten, a < B) :
    (L.take idx ++ new :: L.drop idx).flatten.Nodup := by
  have h1 : L.flatten = (L.take idx).flatten ++ (L.drop idx).flatten := by
    rw [← List.flatten_append, List.take_append_drop]
  rw [h1] at hnd hB
  simp only [List.flatten_append, List.flatten_cons, List.nodup_append, List.mem_append] at hnd ⊢
  obtain ⟨hA, hC, hAC⟩ := hnd
  refine ⟨hA, ⟨hnew, hC, ?_⟩, ?_⟩
  · intro a ha b hb hab; subst hab
    have := hfresh a ha; have := hB a (by simp [hb]); omega
  · intro a ha b hb hab; subst hab
    rcases hb with hb | hb
    · have := hfresh a hb; have := hB a (by simp [ha]); omega
    · exact hAC a ha a hb rfl

theorem mem_flatten_insert {L : List (List Nat)} {idx : Nat} {new : List Nat} {a : Nat}
    (h : a ∈ (L.take idx ++ new :: L.drop idx).flatten) : a ∈ new ∨ a ∈ L.flatten := by
  simp only [List.flatten_append, List.flatten_cons, List.mem_append] at h
  rcases h with h | h | h
  · exact Or.inr (by
      rw [List.mem_flatten] at h ⊢
      obtain ⟨l, hl, hal⟩ := h
      exact ⟨l, List.mem_of_mem_take hl, hal⟩)
  · exact Or.inl h
  · exact Or.inr (by
      rw [List.mem_flatten] at h ⊢
      obtain ⟨l, hl, hal⟩ := h
      exact ⟨l, List.mem_of_mem_drop hl, hal⟩)

-- children ------------------------------------------------------------------------------------------

/-- one element replaced, the others read through another function that agrees on them -/
theorem mapOpt_set_congr {g g' : α → Option β} {l : List α} {r : List β} (hk : mapOpt g l = some r)
    {idx : Nat} {x : α} {y : β} (hx : g' x = some y)
    (hst : ∀ j a b, j ≠ idx → l[j]? = some a → r[j]? = some b → g a = some b → g' a = some b) :
    mapOpt g' (l.set idx x) = some (r.set idx y) := by
  rw [mapOpt_eq_some_iff]
  have hlen := mapOpt_length hk
  apply List.ext_getElem?
  intro j
  simp only [List.getElem?_map, List.getElem?_set]
  by_cases hj : idx = j
  · subst hj
    simp only [if_true, hlen]
    split <;> simp [hx]
  · simp only [hj, if_false]
    cases hp : l[j]? with
    | none =>
      have : r[j]? = none := by
        rw [List.getElem?_eq_none_iff] at hp ⊢; omega
      simp [this]
    | some a =>
      obtain ⟨b, hb, hab⟩ := mapOpt_getElem? hk hp
      simp [hb, hst j a b (Ne.symm hj) hp hb hab]

/-- the children of a bitmap node after the child at `idx` was replaced: the siblings are untouched
    because their footprints avoid the write set -/
theorem kids_set {f s : Nat} {H H' : Heap K V} {W : List Addr} (heff : Eff H H' W)
    {ps : List Addr} {rs : List (Node K V × List Addr)} (hk : mapOpt (absF f s H) ps = some rs)
    {idx : Nat} {c' : Addr} {r' : Node K V × List Addr} (hc' : absF f s H' c' = some r')
    (hdisj : ∀ j r, j ≠ idx → rs[j]? = some r → ∀ a ∈ r.2, a ∉ W) :
    mapOpt (absF f s H') (ps.set idx c') = some (rs.set idx r') :=
  mapOpt_set_congr hk hc' fun j _ r hj _ hr hcabs => heff.absF (n := r.1) (fp := r.2) hcabs (hdisj j r hj hr)

theorem Eff.absSlot {H H' : Heap K V} {W : List Addr} (h : Eff H H' W) {f s : Nat} {o : Option Addr}
    {r : Option (Node K V) × List Addr} (ho : absSlot f s H o = some r) (hd : ∀ a ∈ r.2, a ∉ W) :
    HamtHeap.absSlot f s H' o = some r := by
  cases o with
  | none => exact ho
  | some c =>
    obtain ⟨rc, hcabs, hrc⟩ := Option.map_eq_some_iff.mp ho
    exact Option.map_eq_some_iff.mpr
      ⟨rc, h.absF (n := rc.1) (fp := rc.2) hcabs (fun a ha => hd a (by rw [← hrc]; exact ha)), hrc⟩

/-- `kids_set` for the slots of a hash-array node -/
theorem slots_set {f s : Nat} {H H' : Heap K V} {W : List Addr} (heff : Eff H H' W)
    {slots : List (Option Addr)} {rs : List (Option (Node K V) × List Addr)}
    (hk : mapOpt (absSlot f s H) slots = some rs)
    {idx : Nat} {c' : Option Addr} {r' : Option (Node K V) × List Addr} (hc' : absSlot f s H' c' = some r')
    (hdisj : ∀ j r, j ≠ idx → rs[j]? = some r → ∀ a ∈ r.2, a ∉ W) :
    mapOpt (absSlot f s H') (slots.set idx c') = some (rs.set idx r') :=
  mapOpt_set_congr hk hc' fun j _ r hj _ hr hoabs => heff.absSlot hoabs (hdisj j r hj hr)

-- constructors ----------------------------------------------------------------------------------------

theorem mkValue_abs (H : Heap K V) (kh : UInt32) (k : K) (v : V) (f s : Nat) :
    absF (f + 1) s (H.push (.value kh k v)) H.size = some (Node.value kh k v, [H.size]) :=
  absF_value (get_push_size _ _)

/-- `&mapArrayNode{entries: …}` / `&mapHashCollisionNode{…}` with a new backing array -/
theorem mkEnts_heap (H : Heap K V) (es : List (K × V)) (cap : Nat) (c : Slice → Cell K V) :
    (allocSlots (entSlots es) cap >>= fun sl => alloc (c sl)) H =
      .ok (H.size + 1, (H.push (.arr ((entSlots es).map some ++ List.replicate (cap - (entSlots es).length) none))).push
        (c ⟨H.size, (entSlots es).length⟩)) := by
  rw [bind_ok (allocSlots_apply _ _ _)]
  simp [alloc_apply]

theorem get_push_succ (H : Heap K V) (c1 c2 : Cell K V) : ((H.push c1).push c2)[H.size + 1]? = some c2 := by
  simpa using get_push_size (H.push c1) c2

theorem viewEnts_push2 (H : Heap K V) (es : List (K × V)) (t : List (Option (Slot K V))) (c : Cell K V) :
    viewEnts ((H.push (.arr ((entSlots es).map some ++ t))).push c) ⟨H.size, (entSlots es).length⟩ = some es :=
  (viewWith_agree ((Heap.le_push _ c).2 H.size (by simp))).trans (viewEnts_push H es t)

theorem viewPtrs_push2 (H : Heap K V) (ps : List Addr) (t : List (Option (Slot K V))) (c : Cell K V) :
    viewPtrs ((H.push (.arr ((ptrSlots ps : List (Slot K V)).map some ++ t))).push c)
      ⟨H.size, (ptrSlots ps : List (Slot K V)).length⟩ = some ps :=
  (viewWith_agree ((Heap.le_push _ c).2 H.size (by simp))).trans (viewPtrs_push H ps t)

/-- An ENTRIES NODE: a node struct `c` (array node at shift 0, collision node with its hash) that holds
    one `[]mapEntry` and represents `mk` of the entries. -/
def EntsNode (F s : Nat) (c : Slice → Cell K V) (mk : List (K × V) → Node K V) : Prop :=
  ∀ {H : Heap K V} {p : Addr} {sl : Slice} {es : List (K × V)}, H[p]? = some (c sl) → viewEnts H sl = some es →
    absF (F + 1) s H p = some (mk es, [p, sl.arr])

theorem EntsNode.array (F : Nat) : EntsNode (K := K) (V := V) F 0 .array .array :=
  fun hc hv => (AbsAt.array hc rfl hv).absF

theorem EntsNode.collision (F s : Nat) (kh : UInt32) : EntsNode (K := K) (V := V) F s (.collision kh) (.collision kh) :=
  fun hc hv => (AbsAt.collision hc hv).absF

/-- `&mapBitmapIndexedNode{bitmap, nodes}` with a new backing array over existing children -/
theorem mkBitmap_heap (H : Heap K V) (ps : List Addr) (cap bm : Nat) :
    (allocSlots (ptrSlots ps) cap >>= fun sl => alloc (.bitmap bm sl)) H =
      .ok (H.size + 1, (H.push (.arr ((ptrSlots ps : List (Slot K V)).map some ++
        List.replicate (cap - (ptrSlots ps : List (Slot K V)).length) none))).push
        (.bitmap bm ⟨H.size, (ptrSlots ps : List (Slot K V)).length⟩)) := by
  rw [bind_ok (allocSlots_apply _ _ _)]
  simp [alloc_apply]

theorem mkBitmap_abs {H : Heap K V} {ps : List Addr} {rs : List (Node K V × List Addr)} {f s : Nat}
    (hk : mapOpt (absF f (s + mapNodeBits) H) ps = some rs) (hs : s < 32) (t : List (Option (Slot K V))) (bm : Nat) :
    absF (f + 1) s ((H.push (.arr ((ptrSlots ps : List (Slot K V)).map some ++ t))).push
        (.bitmap bm ⟨H.size, (ptrSlots ps : List (Slot K V)).length⟩)) (H.size + 1) =
      some (Node.bitmap bm (rs.map (·.1)), (H.size + 1) :: H.size :: (rs.map (·.2)).flatten) :=
  (AbsAt.bitmap (get_push_succ _ _ _) hs (viewPtrs_push2 H ps t _)
    (kids_transport hk fun _ r _ hc =>
      absF_le (n := r.1) (fp := r.2) hc (Heap.le_trans (Heap.le_push _ _) (Heap.le_push _ _)))).absF

theorem mkHashArray_abs {H : Heap K V} {slots : List (Option Addr)}
    {rs : List (Option (Node K V) × List Addr)} {f s : Nat}
    (hk : mapOpt (absSlot f (s + mapNodeBits) H) slots = some rs) (hs : s < 32) (cnt : Nat) :
    absF (f + 1) s (H.push (.hashArray cnt slots)) H.size =
      some (Node.hashArray cnt (rs.map (·.1)), H.size :: (rs.map (·.2)).flatten) :=
  (AbsAt.hashArray (get_push_size _ _) hs
    (slots_transport hk fun _ r _ hc => absF_le (n := r.1) (fp := r.2) hc (Heap.le_push _ _))).absF

theorem SimRes.of_fresh {F s : Nat} {H H' : Heap K V} {fp : List Addr} {p' : Addr} {n' : Node K V}
    {fp' : List Addr} (habs : absF F s H' p' = some (n', fp')) (hnd : fp'.Nodup) (hle : Heap.le H H')
    (hsub : ∀ a ∈ fp', a ∈ fp ∨ H.size ≤ a) (mu : Bool) : SimRes mu F s H fp H' p' n' :=
  ⟨fp', habs, hnd, Eff.of_le hle _, hsub⟩

theorem SimRes.weaken {F s : Nat} {H H' : Heap K V} {fp : List Addr} {p' : Addr} {n' : Node K V}
    (h : SimRes false F s H fp H' p' n') (mu : Bool) : SimRes mu F s H fp H' p' n' := by
  obtain ⟨fp', h1, h2, h3, h4⟩ := h
  exact ⟨fp', h1, h2, Eff.of_le h3.to_le _, h4⟩

/-- copying path of an entries node: `make` + `copy` a new `entries` array, then the node struct
    around it -/
theorem ents_copy {c : Slice → Cell K V} {mk : List (K × V) → Node K V} {F s : Nat} (hn : EntsNode F s c mk)
    (H : Heap K V) (es' : List (K × V)) (cap : Nat) {γ : Type} (g : Addr → γ) :
    ∃ H', (allocSlots (entSlots es') cap >>= fun sl' => alloc (c sl') >>= fun a => pure (g a)) H
        = .ok (g (H.size + 1), H') ∧ Heap.le H H' ∧
      absF (F + 1) s H' (H.size + 1) = some (mk es', [H.size + 1, H.size]) := by
  rw [bind_ok (allocSlots_apply _ _ _), bind_ok (alloc_apply _ _), Array.size_push]
  exact ⟨_, rfl, Heap.le_trans (Heap.le_push _ _) (Heap.le_push _ _),
    hn (get_push_succ _ _ _) (viewEnts_push2 _ _ _ _)⟩

theorem SimRes.fresh2 {F s : Nat} {H H' : Heap K V} {fp : List Addr} {n' : Node K V} (hle : Heap.le H H')
    (habs : absF F s H' (H.size + 1) = some (n', [H.size + 1, H.size])) (mu : Bool) :
    SimRes mu F s H fp H' (H.size + 1) n' :=
  SimRes.of_fresh habs (by simp) hle (fun a ha => by simp at ha; right; omega) mu

theorem SimRes.le {F s : Nat} {H H' : Heap K V} {fp : List Addr} {p' : Addr} {n' : Node K V}
    (h : SimRes false F s H fp H' p' n') : Heap.le H H' := by
  obtain ⟨_, _, _, heff, _⟩ := h
  exact heff.to_le

/-- `&mapBitmapIndexedNode{bitmap, nodes}` over a new pointer array; the children `ps` are represented in an extension `H1` of `H` -/
theorem SimRes.newBitmap {F s : Nat} {H H1 : Heap K V} {fp : List Addr} {ps : List Addr}
    {rs : List (Node K V × List Addr)} (hle : Heap.le H H1)
    (hk : mapOpt (absF F (s + mapNodeBits) H1) ps = some rs) (hs : s < 32)
    (hnd : (rs.map (·.2)).flatten.Nodup) (hlt : ∀ a ∈ (rs.map (·.2)).flatten, a < H1.size)
    (hsub : ∀ a ∈ (rs.map (·.2)).flatten, a ∈ fp ∨ H.size ≤ a) (cap bm : Nat) (mu : Bool) :
    ∃ H', (allocSlots (ptrSlots ps) cap >>= fun sl => alloc (.bitmap bm sl)) H1 = .ok (H1.size + 1, H') ∧
      SimRes mu (F + 1) s H fp H' (H1.size + 1) (.bitmap bm (rs.map (·.1))) := by
  refine ⟨_, mkBitmap_heap _ _ _ _, ?_⟩
  apply SimRes.of_fresh (mkBitmap_abs hk hs _ bm) (nodup_fresh2 hnd hlt)
    (Heap.le_trans hle (Heap.le_trans (Heap.le_push _ _) (Heap.le_push _ _)))
  intro a ha
  have := hle.1
  simp only [List.mem_cons] at ha
  rcases ha with rfl | rfl | ha
  · right; omega
  · right; omega
  · exact hsub a ha

/-- `&mapHashArrayNode{count, nodes}` (a clone, or the conversion of a bitmap node); cf. `SimRes.newBitmap` -/
theorem SimRes.newHashArray {F s : Nat} {H H1 : Heap K V} {fp : List Addr} {slots : List (Option Addr)}
    {rs : List (Option (Node K V) × List Addr)} (hle : Heap.le H H1)
    (hk : mapOpt (absSlot F (s + mapNodeBits) H1) slots = some rs) (hs : s < 32)
    (hnd : (rs.map (·.2)).flatten.Nodup) (hlt : ∀ a ∈ (rs.map (·.2)).flatten, a < H1.size)
    (hsub : ∀ a ∈ (rs.map (·.2)).flatten, a ∈ fp ∨ H.size ≤ a) (cnt : Nat) (mu : Bool) :
    SimRes mu (F + 1) s H fp (H1.push (.hashArray cnt slots)) H1.size (.hashArray cnt (rs.map (·.1))) := by
  apply SimRes.of_fresh (mkHashArray_abs hk hs cnt) (nodup_fresh1 hnd hlt) (Heap.le_trans hle (Heap.le_push _ _))
  intro a ha
  rcases List.mem_cons.mp ha with rfl | ha
  · right; exact hle.1
  · exact hsub a ha

end FpVerif.HamtHeap
