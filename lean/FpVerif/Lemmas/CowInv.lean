import FpVerif.Lemmas.CowProgress
/-!
The global invariant of the repaired CopyOnWriteMap and its preservation: the forward simulation
to the atomic map, with the linearization points recorded in the ghost history.
-/
namespace FpVerif.Cow
open FpVerif.Sched

structure Inv (progs : List (List Op)) (s : CSys) : Prop where
  tids : ∀ (i : Nat) (l : Local), s.threads[i]? = some l → l.tid = i
  tinv : ∀ l ∈ s.threads, TInv s.shared l
  lock : storers s.threads = if s.shared.lock then 1 else 0
  lins : seqRun [] ((linsOf s.shared.hist).map (·.1)) =
    (s.shared.map, (linsOf s.shared.hist).map (·.2))
  views : ∀ l ∈ s.threads, proj l.tid s.shared.hist = expected l
  noPanic : ∀ l ∈ s.threads, Ret.panic ∉ l.rets
  ops : s.threads.map Local.ops = progs
  evtid : ∀ e ∈ s.shared.hist, e.tid < s.threads.length
  fin : ∀ l ∈ s.threads, l.phase = .finished → l.todo = []

theorem TInv_of_map {sh sh' : Shared} {x : Local} (hm : sh'.map = sh.map) (h : TInv sh x) :
    TInv sh' x := by
  unfold TInv at *
  split <;> simp_all

theorem TInv_of_not_store {sh sh' : Shared} {x : Local} (hs : x.isStore = false) (h : TInv sh x) :
    TInv sh' x := by
  unfold TInv at *
  unfold Local.isStore at hs
  split <;> simp_all

theorem Inv_step {progs : List (List Op)} (s : CSys) (t : Tid) (s' : CSys) (hinv : Inv progs s)
    (hstep : step (stepT .recheck) s t = some s') : Inv progs s' := by
  obtain ⟨l, sh', l', hl, hs, rfl⟩ := step_eq_some hstep
  have hlm := List.mem_of_getElem? hl
  have sum := stepT_sum (hinv.tinv l hlm) hs
  have htid : l.tid = t := hinv.tids t l hl
  obtain ⟨evs, hhist, hevs, hexp, hlin⟩ := sum.hist
  refine ⟨?_, ?_, storers_step hl (stepT_progress hs).2.2 hinv.lock, ?_, ?_, ?_, ?_, ?_, ?_⟩
  · -- tids
    exact forall_getElem?_set (sum.tid.trans htid) (fun i x _ hx => hinv.tids i x hx)
  · -- per-thread invariant
    refine forall_mem_set_of_ne sum.tinv ?_
    intro i x hit hx
    have hTx := hinv.tinv x (List.mem_of_getElem? hx)
    cases hls : l.isStore with
    | false => exact TInv_of_map (sum.map hls) hTx
    | true =>
      -- the mover holds the lock, so nobody else is about to publish
      cases hxs : x.isStore with
      | false => exact TInv_of_not_store hxs hTx
      | true =>
        have h1 : storers s.threads ≤ 1 := by rw [hinv.lock]; split <;> omega
        exact absurd (eq_of_sumBy_ind_le_one (p := Local.isStore) h1 hx hl hxs hls) hit
  · -- linearization order is a legal run of the atomic map
    show seqRun [] ((linsOf sh'.hist).map (·.1)) = (sh'.map, (linsOf sh'.hist).map (·.2))
    rw [hhist, linsOf_append]
    rcases hlin with ⟨h0, hm⟩ | ⟨op, r, h1, hap⟩
    · rw [h0, hm]; simpa using hinv.lins
    · rw [h1]
      simp only [List.map_append, List.map_cons, List.map_nil]
      rw [seqRun_snoc, hinv.lins]
      simp [hap]
  · -- every thread's view of the history
    refine forall_mem_set_of_ne ?_ ?_
    · rw [sum.tid, hhist, proj_append, hinv.views l hlm, proj_all hevs, hexp]
    · intro i x hit hx
      have hxt : x.tid = i := hinv.tids i x hx
      rw [hhist, proj_append, proj_none hevs (by rw [htid, hxt]; exact Ne.symm hit), List.append_nil]
      exact hinv.views x (List.mem_of_getElem? hx)
  · -- nobody panics
    refine forall_mem_set_of_ne (sum.noPanic (hinv.noPanic l hlm)) ?_
    intro i x _ hx
    exact hinv.noPanic x (List.mem_of_getElem? hx)
  · -- programs
    show (s.threads.set t l').map Local.ops = progs
    rw [← hinv.ops]
    exact map_set_of_eq hl sum.ops
  · -- events belong to existing threads
    intro e he
    simp only [List.length_set]
    rw [hhist] at he
    rcases List.mem_append.mp he with he | he
    · exact hinv.evtid e he
    · rw [hevs e he, htid]
      rcases Nat.lt_or_ge t s.threads.length with h | h
      · exact h
      · simp [List.getElem?_eq_none h] at hl
  · refine forall_mem_set_of_ne sum.fin ?_
    intro i x _ hx
    exact hinv.fin x (List.mem_of_getElem? hx)


theorem Inv_init (progs : List (List Op)) : Inv progs (init progs) := by
  obtain ⟨h1, _, h3, evs, h4, h5, h6, h7⟩ := initFrom_spec progs emptyShared 0
  have hmem : ∀ l ∈ (init progs).threads, ∃ j : Nat, (initFrom emptyShared 0 progs).2[j]? = some l := by
    intro l hl; exact List.mem_iff_getElem?.mp hl
  refine ⟨?_, ?_, (WF_init progs).lock, ?_, ?_, ?_, h3, ?_, ?_⟩
  · intro i l hl; have := (h7 i l hl).1; omega
  · exact fun l hl => (hmem l hl).elim fun j hj => (h7 j l hj).2.2.1.tinv _
  · show seqRun [] ((linsOf (initFrom emptyShared 0 progs).1.hist).map (·.1)) = _
    have hl0 : linsOf (initFrom emptyShared 0 progs).1.hist = [] := by
      rw [h4, linsOf_append, h5]; rfl
    have hm0 : (init progs).shared.map = [] := by
      show (initFrom emptyShared 0 progs).1.snap.getD [] = []
      rw [h1]; rfl
    have hl1 : linsOf (init progs).shared.hist = [] := hl0
    rw [hl0, hm0, hl1]; rfl
  · intro l hl
    obtain ⟨j, hj⟩ := hmem l hl
    obtain ⟨_, b, _, e⟩ := h7 j l hj
    show proj l.tid (initFrom emptyShared 0 progs).1.hist = expected l
    rw [h4]
    simp [emptyShared, expected, b, doneEvents, e]
  · intro l hl
    obtain ⟨j, hj⟩ := hmem l hl
    simp [Local.rets, (h7 j l hj).2.1]
  · intro e he
    have hlen : (init progs).threads.length = progs.length := by
      have := congrArg List.length h3
      simp only [List.length_map] at this
      exact this
    have he' : e ∈ (initFrom emptyShared 0 progs).1.hist := he
    rw [h4] at he'
    simp only [emptyShared, List.nil_append] at he'
    have := (h6 e he').2
    omega
  · exact fun l hl => (hmem l hl).elim fun j hj => (h7 j l hj).2.2.1.fin

theorem Inv_run {progs : List (List Op)} {s : CSys} (h : Inv progs s) (sched : List Tid) :
    Inv progs (crun .recheck s sched) :=
  inv_run (stepT := stepT .recheck) Inv_step h sched

end FpVerif.Cow
