/-!
# Names compared as numbers

A string literal is, to the kernel, a list of characters that it first encodes into UTF-8 bytes, and `==` on two strings
walks the two byte lists through `UInt8`, `BitVec`, `Fin` down to `Nat`: some thousand steps per byte of common prefix,
and the names of a Go package share ten to twenty bytes ("fp.Promise.", "mutable.CopyOnWriteMap.").  Two numbers the
kernel compares in one step.  `code` reads the bytes of a string as one number, injectively, so `==` on strings is
`Nat.beq` on codes (`beq_byCode`).  Computing a code costs about as much as two comparisons of the string; a fact that
compares every name of a table with every other name (reachability, distinctness of the keys) is decided on codes, a
fact that walks the table once is not.
-/
namespace FpVerif.FactsCode

/-- little-endian value of a byte string under a final digit 1 (so that trailing zero bytes count) -/
def codeL : List UInt8 → Nat
  | [] => 1
  | b :: l => codeL l * 256 + b.toNat

theorem codeL_pos : ∀ l, 0 < codeL l
  | [] => Nat.one_pos
  | _ :: l => Nat.add_pos_left (Nat.mul_pos (codeL_pos l) (by decide)) _

theorem codeL_inj : ∀ {l₁ l₂ : List UInt8}, codeL l₁ = codeL l₂ → l₁ = l₂
  | [], [], _ => rfl
  | [], _ :: l, h => by
    have := codeL_pos l
    simp only [codeL] at h
    omega
  | _ :: l, [], h => by
    have := codeL_pos l
    simp only [codeL] at h
    omega
  | b₁ :: l₁, b₂ :: l₂, h => by
    have h₁ := b₁.toNat_lt
    have h₂ := b₂.toNat_lt
    simp only [codeL] at h
    rw [@codeL_inj l₁ l₂ (by omega), UInt8.toNat_inj.1 (show b₁.toNat = b₂.toNat by omega)]

def code (s : String) : Nat := codeL s.toByteArray.data.toList

theorem code_inj {a b : String} (h : code a = code b) : a = b :=
  String.toByteArray_inj.1 (ByteArray.ext (Array.ext' (codeL_inj h)))

@[instance_reducible] def byCode : BEq String := ⟨fun a b => Nat.beq (code a) (code b)⟩

theorem beq_byCode : (instBEqOfDecidableEq : BEq String) = byCode := by
  refine congrArg BEq.mk (funext fun a => funext fun b => ?_)
  rw [Bool.eq_iff_iff, decide_eq_true_iff, Nat.beq_eq]
  exact ⟨congrArg code, code_inj⟩

/-- keys with distinct codes are distinct (no injectivity needed) -/
theorem nodup_of_codes {l : List String} (h : (l.map code).Nodup) : l.Nodup :=
  List.Pairwise.of_map code (fun _ _ hne e => hne (congrArg code e)) h

end FpVerif.FactsCode
