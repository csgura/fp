import FpVerif.Lemmas.HeapRef
import FpVerif.Lemmas.HeapEnts
import FpVerif.Lemmas.HeapBranch
import FpVerif.Lemmas.HeapHeader
import FpVerif.Lemmas.HeapConv
import FpVerif.Lemmas.HamtOps
import FpVerif.Lemmas.HamtKids
/-!
Simulation of `set`: `mergeIntoNode`, `mapNode.set` on all node kinds and for both values of `mutable` (one walk along
`hsetCoreN` per node kind, the value-level side read off its equations), the array-node expansion, `(*hamt).set`.
-/
namespace FpVerif.HamtHeap
open FpVerif.Hamt
variable {K V : Type}

/-- what `set` must deliver: the value-level `resized`, and a pointer that represents the value-level
    node as `SimRes` says -/
def SetQ (mu : Bool) (F s : Nat) (H : Heap K V) (fp : List Addr) (a : Addr × Bool) (b : Node K V × Bool)
    (H' : Heap K V) : Prop :=
  a.2 = b.2 ∧ SimRes mu F s H fp H' a.1 b.1

/-- the statement of the simulation for `set` at recursion budget `F`.  The in-place path needs the
    trie to be well-formed (`len(n.nodes) = popcount(n.bitmap)`, otherwise Go's `copy` in the insert
    branch panics where the value model does not); the copying path needs nothing.
    `16 ≤ s / 5 + F`: the budget left is `trieFuel` less the depth `s / 5`; a recursive call (`s + 5`,
    `F - 1`) keeps it, and where `hmergeN` runs out of it `32 ≤ s`, where `mergeIntoNode` has failed. -/
def SetSim (h : Hasher K) (ex : List (K × V) → K → V → Bool → GoE (Node K V × Bool))
    (hex : List (K × V) → K → V → Bool → HM K V (Addr × Bool)) (F : Nat) : Prop :=
  ∀ (p : Addr) (s : Nat) (H : Heap K V) (n : Node K V) (fp : List Addr) (k : K) (v : V) (kh : UInt32)
    (mu r : Bool),
    absF F s H p = some (n, fp) → fp.Nodup → 16 ≤ s / 5 + F → (mu = true → WF h s n) →
    Ref H (hsetCoreN h hex F p k v s kh mu r) (n.setCore h ex k v s kh mu r) (SetQ mu F s H fp)

/-- the heap-level expansion function refines the value-level one and only allocates -/
def ExpandSim (ex : List (K × V) → K → V → Bool → GoE (Node K V × Bool))
    (hex : List (K × V) → K → V → Bool → HM K V (Addr × Bool)) : Prop :=
  ∀ (es : List (K × V)) (k : K) (v : V) (r : Bool) (H : Heap K V) (F : Nat), 16 ≤ F →
    Ref H (hex es k v r) (ex es k v r) (SetQ false F 0 H [])

theorem keyHashValueAt_value {H : Heap K V} {p : Addr} {kh : UInt32} {k : K} {v : V}
    (hc : H[p]? = some (.value kh k v)) : keyHashValueAt p H = .ok (kh, H) := by
  unfold keyHashValueAt; rw [bind_ok (load_apply hc)]; rfl

theorem keyHashValueAt_collision {H : Heap K V} {p : Addr} {kh : UInt32} {sl : Slice}
    (hc : H[p]? = some (.collision kh sl)) : keyHashValueAt p H = .ok (kh, H) := by
  unfold keyHashValueAt; rw [bind_ok (load_apply hc)]; rfl

/-- `mergeIntoNode` allocates a chain of bitmap nodes above the (shared, unmodified) leaf.  That `node` is a
    leaf is the first hypothesis: it represents `nv` whatever the fuel and the shift. -/
theorem hmergeN_sim {nv : Node K V} {fpn : List Addr} {node : Addr} (kh : UInt32) (k : K) (v : V) :
    ∀ (F s : Nat) (H : Heap K V),
    (∀ f s', absF (f + 1) s' H node = some (nv, fpn)) → fpn.Nodup →
    keyHashValueAt node H = .ok (nv.keyHashValue, H) →
    16 ≤ s / 5 + (F + 1) →
    Ref H (hmergeN F node s kh k v) (mergeIntoNode nv s kh k v)
      fun p' n' H' => SimRes false (F + 1) s H fpn H' p' n' := by
  intro F
  induction F with
  | zero =>
    intro s H hleaf hnd hkv hfuel n' hm
    exfalso
    have hs : 32 ≤ s := by omega
    rw [mergeIntoNode] at hm
    simp [frag_ge32 _ hs, hs] at hm
  | succ F ih =>
    intro s H hleaf hnd hkv hfuel
    have hnsz : ∀ a ∈ fpn, a < H.size := fun a ha => absF_lt (hleaf 0 0) ha
    rw [mergeIntoNode]
    refine Ref.step hkv (Ref.ite (fun _ => Ref.ite (fun _ => Ref.error) fun hs => ?_) fun heq => ?_)
    · refine Ref.bind (ih (s + mapNodeBits) H hleaf hnd hkv (by simp [mapNodeBits]; omega)) fun p1 c H1 hR => ?_
      obtain ⟨fp1, habs1, hnd1, heff1, hsub1⟩ := hR
      obtain ⟨H', h2, hres⟩ := SimRes.newBitmap (fp := fpn) (ps := [p1]) heff1.to_le (mapOpt_cons habs1 rfl)
        (by omega) (by simpa using hnd1) (fun a ha => absF_lt habs1 (by simpa using ha))
        (fun a ha => hsub1 a (by simpa using ha)) 1 (1 <<< frag nv.keyHashValue s ||| 1 <<< frag kh s) false
      exact Ref.run h2 hres
    · refine Ref.step (alloc_apply _ _) ?_
      have hle1 : Heap.le H (H.push (.value kh k v)) := Heap.le_push _ _
      have habsN := absF_le (hleaf F (s + mapNodeBits)) hle1
      have habsV := mkValue_abs H kh k v F (s + mapNodeBits)
      have hs32 : s < 32 := by
        rcases Nat.lt_or_ge s 32 with h' | h'
        · exact h'
        · exact absurd (by rw [frag_ge32 _ h', frag_ge32 _ h']; rfl) heq
      -- the old leaf and the new one under a new bitmap node, in either order
      have hpair : ∀ (ps : List Addr) (rs : List (Node K V × List Addr)),
          mapOpt (absF (F + 1) (s + mapNodeBits) (H.push (.value kh k v))) ps = some rs →
          (rs.map (·.2)).flatten.Perm (H.size :: fpn) →
          Ref (H.push (.value kh k v)) (allocSlots (ptrSlots ps) 2 >>= fun sl =>
              alloc (.bitmap (1 <<< frag nv.keyHashValue s ||| 1 <<< frag kh s) sl))
            (.ok (.bitmap (1 <<< frag nv.keyHashValue s ||| 1 <<< frag kh s) (rs.map (·.1))))
            fun p' n' H' => SimRes false (F + 1 + 1) s H fpn H' p' n' := by
        intro ps rs hk hperm
        have hmem : ∀ a ∈ (rs.map (·.2)).flatten, a = H.size ∨ a ∈ fpn := fun a ha => by
          simpa using hperm.mem_iff.mp ha
        obtain ⟨H', h2, hres⟩ := SimRes.newBitmap (fp := fpn) hle1 hk hs32
          (hperm.nodup_iff.mpr (nodup_fresh1 hnd hnsz))
          (fun a ha => (hmem a ha).elim (fun h' => by simp [h']) (fun h' => by have := hnsz a h'; simp; omega))
          (fun a ha => (hmem a ha).elim (fun h' => Or.inr (by omega)) Or.inl) 2
          (1 <<< frag nv.keyHashValue s ||| 1 <<< frag kh s) false
        exact Ref.run h2 hres
      by_cases hlt : frag nv.keyHashValue s < frag kh s
      · rw [if_pos hlt, if_pos hlt]
        exact hpair [node, H.size] [(nv, fpn), (.value kh k v, [H.size])]
          (mapOpt_cons habsN (mapOpt_cons habsV rfl)) (by simp)
      · rw [if_neg hlt, if_neg hlt]
        exact hpair [H.size, node] [(.value kh k v, [H.size]), (nv, fpn)]
          (mapOpt_cons habsV (mapOpt_cons habsN rfl)) (by simp)

/-- **Simulation of `set`** (all node kinds, both values of `mutable`), relative to the expansion function -/
theorem setSim (h : Hasher K) {ex : List (K × V) → K → V → Bool → GoE (Node K V × Bool)}
    {hex : List (K × V) → K → V → Bool → HM K V (Addr × Bool)} (hexp : ExpandSim ex hex) :
    ∀ F, SetSim h ex hex F := by
  intro F
  induction F with
  | zero => intro p s H n fp k v kh mu r habs; cases habs
  | succ F ih =>
    intro p s H n fp k v kh mu r habs hnd hfuel hwf
    cases absF_succ habs with
    | @value nkh nk nv hc =>
      have hp := lt_size_of_get hc
      rw [Node.setCore]
      refine Ref.step (load_apply hc) (Ref.ite (fun _ => Ref.ite (fun hmu => ?_) fun hmu => ?_)
        fun _ => Ref.ite (fun _ => ?_) fun _ => ?_)
      · -- the key of the leaf, in place
        subst hmu
        exact Ref.run (bind_ok (store_apply _ hp)) ⟨rfl, [p], absF_value (get_set_eq _ hp), by simp,
          Eff.set _ _ _ (by simp), by simp⟩
      · -- the key of the leaf, copying
        exact Ref.run (bind_ok (alloc_apply _ _)) ⟨rfl, SimRes.of_fresh (mkValue_abs H nkh k v F s) (by simp)
          (Heap.le_push _ _) (fun a ha => by simp at ha; right; omega) mu⟩
      · -- another hash: the leaf and the new one are merged
        exact Ref.bind (hmergeN_sim kh k v F s H (fun f s' => absF_value hc) (by simp) (keyHashValueAt_value hc) hfuel)
          fun a b H1 hR => Ref.pure ⟨rfl, hR.weaken mu⟩
      · -- the same hash, another key: a collision node of the two
        obtain ⟨H', h1, hle, habs'⟩ := ents_copy (EntsNode.collision F s kh) H [(nk, nv), (k, v)] 2 (fun a => (a, true))
        exact Ref.run h1 ⟨rfl, SimRes.fresh2 hle habs' _⟩
    | @array sl es hc hs hview =>
      subst hs
      have hne : p ≠ sl.arr := by simpa using hnd
      rw [Node.setCore]
      refine Ref.step (load_apply hc) (Ref.step (loadEnts_apply hview) ?_)
      cases hidx : indexOf h es k with
      | none =>
        refine Ref.ite (fun _ => hexp es k v _ H (F + 1) (by omega) |>.mono fun a b H' hQ => ?_) fun _ => ?_
        · -- a new key in a full node: expansion
          obtain ⟨hr, fp', h2, h3, h4, h5⟩ := hQ
          exact ⟨hr, fp', h2, h3, Eff.of_le h4.to_le _, fun a ha => (h5 a ha).imp (fun h => nomatch h) id⟩
        · obtain ⟨p', H', h1, h2⟩ := ents_set_none (EntsNode.array F) hc hview hne k v mu true
          exact Ref.run h1 ⟨rfl, h2⟩
      | some i =>
        obtain ⟨p', H', h1, h2⟩ := ents_set_some (EntsNode.array F) hc hview hne (indexOf_lt hidx) k v mu r
        exact Ref.run h1 ⟨rfl, h2⟩
    | @collision nkh sl es hc hview =>
      have hne : p ≠ sl.arr := by simpa using hnd
      have hn : ∀ f s', EntsNode (K := K) (V := V) f s' (.collision nkh) (.collision nkh) :=
        fun f s' => EntsNode.collision f s' nkh
      rw [Node.setCore]
      refine Ref.step (load_apply hc) (Ref.ite (fun _ => ?_) fun _ => Ref.step (loadEnts_apply hview) ?_)
      · -- another hash: the node and the new leaf are merged
        exact Ref.bind (hmergeN_sim kh k v F s H (fun f s' => hn f s' hc hview) hnd (keyHashValueAt_collision hc) hfuel)
          fun a b H1 hR => Ref.pure ⟨rfl, hR.weaken mu⟩
      · cases hidx : indexOf h es k with
        | none =>
          obtain ⟨p', H', h1, h2⟩ := ents_set_none (hn F s) hc hview hne k v mu true
          exact Ref.run h1 ⟨rfl, h2⟩
        | some i =>
          obtain ⟨p', H', h1, h2⟩ := ents_set_some (hn F s) hc hview hne (indexOf_lt hidx) k v mu r
          exact Ref.run h1 ⟨rfl, h2⟩
    | @bitmap bm sl ps rs hc hs hview hk =>
      -- `s < 32` and the budget: the children have fuel left, which a new value leaf among them needs
      obtain ⟨F0, rfl⟩ : ∃ F0, F = F0 + 1 := ⟨F - 1, by omega⟩
      have hlen := mapOpt_length hk
      have hndL : (rs.map (·.2)).flatten.Nodup := (List.nodup_cons.mp (List.nodup_cons.mp hnd).2).2
      refine Ref.step (load_apply hc) (Ref.step (loadPtrs_apply hview) ?_)
      rw [setCore_branch (n := .bitmap _ _) trivial]
      cases ht : bm.testBit (frag kh s) with
      | true =>
        cases hnode : (rs.map (·.1))[rank bm (frag kh s)]? with
        | none =>
          conv => arg 3; simp only [Node.slot, ht, hnode, if_true]
          exact Ref.error
        | some child =>
          obtain ⟨fpo, hri⟩ := getElem?_map_fst hnode
          obtain ⟨c, hpc, hcabs⟩ := mapOpt_getElem?' hk hri
          simp only [Node.slot, Node.putChild, hnode, pure_bind, and_bit_ne_zero, ht, if_true, Bool.not_true,
            Bool.false_eq_true, if_false, Bool.false_and,
            show ps[popCount (bm &&& (1 <<< frag kh s - 1))]? = some c from hpc]
          refine Ref.bind (ih c (s + mapNodeBits) H child fpo k v kh mu r hcabs (nodup_child hndL hri)
            (by simp [mapNodeBits]; omega) fun hmu => ?_) fun a b H1 hR => ?_
          · cases hwf hmu with
            | bitmap _ _ hl _ _ hkw _ => exact hkw _ (mem_of_getElem?_kidsB hl hnode).choose_spec
          · obtain ⟨hr, fpn, hc', hndn, heff, hsub⟩ := hR
            obtain ⟨p', H', h1, h2⟩ := bitmap_finish hc hs hview hk hnd hri hc' hndn heff hsub (bm ||| 1 <<< frag kh s)
              (fun x => (x, a.2))
            have hbm : (if mu = true then bm else bm ||| 1 <<< frag kh s) = bm := by
              cases mu
              · exact or_bit_of_testBit ht
              · rfl
            rw [hbm] at h2
            exact Ref.run h1 ⟨hr, h2⟩
      | false =>
        simp only [Node.slot, Node.putChild, pure_bind, and_bit_ne_zero, ht, Bool.false_eq_true, if_false,
          Bool.not_false, if_true, Bool.true_and, List.length_map, hlen]
        refine Ref.step (alloc_apply _ _) (Ref.step (pure_apply _ _) ?_)
        by_cases hbig : ps.length > maxBitmapIndexedSize
        · rw [if_pos (by simpa using hbig), if_pos hbig]
          intro b hb
          cases hb2h : bitmapToHashArray bm (rs.map (·.1)) with
          | error e => rw [hb2h] at hb; cases hb
          | ok res =>
            obtain ⟨slotsV, cnt⟩ := res
            rw [hb2h] at hb
            cases hb
            obtain ⟨slotsH, rsS, hG, hkS, hfst, hsubl⟩ := b2h_sim hk hb2h
            refine ⟨_, _, by rw [bind_ok (liftE_ok _ hG), bind_ok (alloc_apply _ _)]; rfl, rfl, ?_⟩
            have hparent := (AbsAt.bitmap hc hs hview hk).absF
            have hB : ∀ a ∈ (rs.map (·.2)).flatten, a < H.size := fun a ha => absF_lt hparent (by simp [ha])
            have hndS : (rsS.map (·.2)).flatten.Nodup :=
              (List.nodup_cons.mp (List.nodup_cons.mp hnd).2).2.sublist hsubl
            have hBS : ∀ a ∈ (rsS.map (·.2)).flatten, a < H.size := fun a ha => hB a (hsubl.subset ha)
            have hk1 := slots_set (Eff.push H (.value kh k v) []) hkS (idx := frag kh s) (c' := some H.size)
              (r' := (some (.value kh k v), [H.size])) (by simp [absSlot, mkValue_abs]) (fun _ _ _ _ _ _ => by simp)
            have hmem : ∀ a ∈ ((rsS.map (·.2)).set (frag kh s) [H.size]).flatten,
                a = H.size ∨ a ∈ (rsS.map (·.2)).flatten := fun a ha =>
              (mem_flatten_set ha).imp_left (by simp)
            have hnd1 : ((rsS.map (·.2)).set (frag kh s) [H.size]).flatten.Nodup := by
              by_cases hlt : frag kh s < (rsS.map (·.2)).length
              · exact nodup_flatten_set (B := H.size) hndS (List.getElem?_eq_getElem hlt) (by simp)
                  (by intro a ha; simp at ha; right; omega) hBS
              · rw [List.set_eq_of_length_le (by omega)]
                exact hndS
            have hlt1 : ∀ a ∈ ((rsS.map (·.2)).set (frag kh s) [H.size]).flatten,
                a < (H.push (Cell.value kh k v)).size := by
              intro a ha
              rw [Array.size_push]
              rcases hmem a ha with h' | h'
              · rw [h']
                exact Nat.lt_succ_self _
              · exact Nat.lt_succ_of_lt (hBS a h')
            have hsub1 : ∀ a ∈ ((rsS.map (·.2)).set (frag kh s) [H.size]).flatten,
                a ∈ p :: sl.arr :: (rs.map (·.2)).flatten ∨ H.size ≤ a := by
              intro a ha
              rcases hmem a ha with h' | h'
              · exact Or.inr (Nat.le_of_eq h'.symm)
              · exact Or.inl (List.mem_cons_of_mem _ (List.mem_cons_of_mem _ (hsubl.subset h')))
            have hres := SimRes.newHashArray (fp := p :: sl.arr :: (rs.map (·.2)).flatten) (Heap.le_push H _) hk1 hs
              (by rwa [List.map_set]) (by rwa [List.map_set]) (by rwa [List.map_set]) (cnt + 1) mu
            simpa [List.map_set, hfst] using hres
        · rw [if_neg (by simpa using hbig), if_neg hbig]
          have hidx : mu = true → rank bm (frag kh s) ≤ ps.length := fun hmu => by
            cases hwf hmu with
            | bitmap _ _ hl _ _ _ _ =>
              rw [List.length_map, hlen] at hl
              exact hl ▸ rank_le_popCount bm (frag_lt kh s)
          obtain ⟨p', H', h1, h2⟩ := bitmap_insert (mu := mu) hidx hc hs hview hk hnd kh k v (bm ||| 1 <<< frag kh s)
            (fun a => (a, true))
          exact Ref.run h1 ⟨rfl, h2⟩
    | @hashArray cnt slots rs hc hs hk =>
      obtain ⟨F0, rfl⟩ : ∃ F0, F = F0 + 1 := ⟨F - 1, by omega⟩
      refine Ref.step (load_apply hc) ?_
      rw [setCore_branch (n := .hashArray _ _) trivial]
      conv => arg 3; simp only [Node.slot, Node.putChild]
      rcases slots_at hk (frag kh s) with ⟨_, hos⟩ | ⟨hsl, hri, hos⟩ | ⟨c, child, fpc, hsl, hri, hos, hcabs⟩
      · rw [hos]; exact Ref.error
      · simp only [hos, hsl, pure_bind]
        refine Ref.step (alloc_apply _ _) (Ref.step (pure_apply _ _) ?_)
        obtain ⟨p', H', h1, h2⟩ := hashArray_finish (mu := mu) (H1 := H.push (.value kh k v)) (o' := some H.size)
          (on := some (.value kh k v)) (fpn := [H.size]) hc hs hk hnd hri (by simp [absSlot, mkValue_abs])
          (fun a ha => by simp at ha; simp [ha]) (by simp) (Eff.push _ _ _)
          (fun a ha => by simp at ha; right; omega) (cnt + 1) (fun a => (a, true))
        exact Ref.run h1 ⟨rfl, h2⟩
      · simp only [hos, hsl, pure_bind]
        refine Ref.bind (ih c (s + mapNodeBits) H child fpc k v kh mu r hcabs
          (nodup_child (List.nodup_cons.mp hnd).2 hri) (by simp [mapNodeBits]; omega) fun hmu => ?_) fun a b H1 hR => ?_
        · cases hwf hmu with
          | hashArray _ hl32 _ _ hkw _ => exact hkw _ (mem_of_getElem?_kidsH hl32 hos)
        · obtain ⟨hr, fpn, hc', hndn, heff, hsub⟩ := hR
          obtain ⟨p', H', h1, h2⟩ := hashArray_finish (o' := some a.1) (on := some b.1) hc hs hk hnd hri
            (by simp [absSlot, hc']) (fun a => absF_lt hc') hndn heff hsub cnt (fun x => (x, a.2))
          exact Ref.run h1 ⟨hr, h2⟩

theorem expandSim_fail :
    ExpandSim (K := K) (V := V) (fun _ _ _ _ => throw "model: array node below the root")
      (fun _ _ _ _ => fail "model: array node below the root") :=
  fun _ _ _ _ _ _ _ => Ref.error

/-- `set` on the nodes built during an expansion -/
theorem hsetTrieN_sim (h : Hasher K) (F : Nat) :
    SetSim (V := V) h (fun _ _ _ _ => throw "model: array node below the root")
      (fun _ _ _ _ => fail "model: array node below the root") F :=
  setSim h expandSim_fail F

/-- the expansion loop, from any state of the loop: the trie under construction stays made of cells
    allocated since `H0` -/
theorem expandLoop_sim (h : Hasher K) (H0 : Heap K V) : ∀ (es : List (K × V)) (Hc : Heap K V) (pa : Addr) (ra : Bool)
    (na : Node K V) (fpa : List Addr),
    Heap.le H0 Hc → absF trieFuel 0 Hc pa = some (na, fpa) → fpa.Nodup → (∀ a ∈ fpa, H0.size ≤ a) →
    Ref Hc (es.foldlM (fun (acc : Addr × Bool) entry =>
        hsetTrieN h trieFuel acc.1 entry.1 entry.2 0 (h.hash entry.1) false acc.2) (pa, ra))
      (es.foldlM (fun (acc : Node K V × Bool) entry =>
        acc.1.setTrie h entry.1 entry.2 0 (h.hash entry.1) false acc.2) (na, ra))
      fun a b H' => a.2 = b.2 ∧ Heap.le H0 H' ∧
        ∃ fp', absF trieFuel 0 H' a.1 = some (b.1, fp') ∧ fp'.Nodup ∧ ∀ x ∈ fp', H0.size ≤ x := by
  intro es
  induction es with
  | nil =>
    intro Hc pa ra na fpa hle habs hnd hfresh
    exact Ref.pure ⟨rfl, hle, fpa, habs, hnd, hfresh⟩
  | cons e es ih =>
    intro Hc pa ra na fpa hle habs hnd hfresh
    rw [List.foldlM_cons, List.foldlM_cons]
    refine Ref.bind (hsetTrieN_sim h trieFuel pa 0 Hc na fpa e.1 e.2 (h.hash e.1) false ra habs hnd
      (by simp [trieFuel]) (by intro hm; cases hm)) fun a b H1 hR => ?_
    obtain ⟨p1, r1⟩ := a
    obtain ⟨n1, r1'⟩ := b
    obtain ⟨hr, fp1, habs1, hnd1, heff1, hsub1⟩ := hR
    cases (hr : r1 = r1')
    refine ih H1 p1 r1 n1 fp1 (Heap.le_trans hle heff1.to_le) habs1 hnd1 fun a ha => ?_
    rcases hsub1 a ha with h' | h'
    · exact hfresh a h'
    · have := hle.1; omega

theorem expandSim_array (h : Hasher K) : ExpandSim (V := V) (expandArray h) (hexpandArray h) := by
  intro es k v r H F hF
  refine Ref.step (alloc_apply _ _) ((expandLoop_sim h H es (H.push (.value (h.hash k) k v)) H.size r
    (Node.value (h.hash k) k v) [H.size] (Heap.le_push _ _) (mkValue_abs H _ k v _ 0) (by simp) (by simp)).mono
    fun a b H' hQ => ?_)
  obtain ⟨hr, hle, fp', habs, hnd, hfresh⟩ := hQ
  exact ⟨hr, fp', absF_mono habs hF, hnd, Eff.of_le hle _, fun a ha => Or.inr (hfresh a ha)⟩

/-- **Simulation of `mapNode.set`** -/
theorem hsetN_sim (h : Hasher K) (F : Nat) : SetSim (V := V) h (expandArray h) (hexpandArray h) F :=
  setSim h (expandSim_array h) F

/-- **Simulation of `(*hamt).set`**: the header is cloned on the copying path and written in place
    on the mutable path. -/
theorem hamtSet_sim (h : Hasher K) {H : Heap K V} {m : Addr} {a : Hamt K V} {fp : List Addr}
    (habs : absHamt H m = some (a, fp)) (hnd : fp.Nodup) (k : K) (v : V) (mu : Bool)
    (hwf : mu = true → ∀ n, a.root = some n → WF h 0 n) :
    Ref H (hamtSet h m k v mu) (a.set h k v mu) (HQ mu H fp) := by
  rcases absHamt_cell habs with ⟨sz, hc, rfl, rfl⟩ | ⟨sz, r, n, fpr, hc, habsr, rfl, rfl⟩
  · -- empty map: a new array node
    refine Ref.step (load_apply hc) (Ref.step (allocSlots_apply _ _ _) (Ref.step (alloc_apply _ _)
      (Ref.step (pure_apply _ _) ?_)))
    rw [Array.size_push]
    obtain ⟨m', H', h1, h2⟩ := hamtSet_finish (mu := mu) (fpr := []) (lt_size_of_get hc) (by simp)
      (EntsNode.array (trieFuel - 1) (get_push_succ _ _ _) (viewEnts_push2 H [(k, v)] (List.replicate (1 - 1) none) _))
      (by simp)
      (Eff.of_le (Heap.le_trans (Heap.le_push _ _) (Heap.le_push _ _)) _)
      (fun a ha => by simp at ha; right; omega) 1
    exact Ref.run h1 h2
  · -- non-empty map: delegate to the root
    obtain ⟨hmr, hndr⟩ := List.nodup_cons.mp hnd
    refine Ref.step (load_apply hc) (Ref.bind (hsetN_sim h trieFuel r 0 H n fpr k v (h.hash k) mu false
      habsr hndr (by simp [trieFuel]) (fun hmu => hwf hmu n rfl)) fun x y H1 hR => ?_)
    obtain ⟨p1, r1⟩ := x
    obtain ⟨n1, r1'⟩ := y
    obtain ⟨hr, fp1, habs1, hnd1, heff1, hsub1⟩ := hR
    cases (hr : r1 = r1')
    obtain ⟨m', H', h1, h2⟩ := hamtSet_finish (lt_size_of_get hc) hmr habs1 hnd1 heff1 hsub1 (if r1 then sz + 1 else sz)
    exact Ref.step (pure_apply _ _) (Ref.run h1 h2)

end FpVerif.HamtHeap
