import FpVerif.Model.AtomShape
/-!
# Lemmas about the analyses of `Model/AtomShape`

The strict hook discipline implies the mover discipline: `Mode.strict` and `Mode.mover` differ only in which states
`nonMover` and `lock` accept; where strict accepts, mover accepts with the same successor state.  So a flow that
succeeds in strict mode succeeds in mover mode with the same set of states, and a table without strict violations has
no mover violations (`violations_mover`).

For evaluation: `reach` with the test on names as a parameter (`reach_eq_by`, see `Lemmas/FactsCode`), and `bodyOf`
read from a part of the table (`bodyOf_via`).
-/
namespace FpVerif.AtomShape

theorem nonMover_mover (b : Bool) (what : String) (s : St) :
    (∃ w, nonMover ⟨.strict, b⟩ what s = .bad w) ∨ nonMover ⟨.mover, b⟩ what s = nonMover ⟨.strict, b⟩ what s := by
  rcases s with ⟨ph, held, df⟩
  cases ph <;> cases held <;> simp [nonMover]

theorem stepEv_mover (b : Bool) (e : Ev) (s : St) :
    (∃ w, stepEv ⟨.strict, b⟩ e s = .bad w) ∨ stepEv ⟨.mover, b⟩ e s = stepEv ⟨.strict, b⟩ e s := by
  cases e
  case lock =>
    rcases s with ⟨ph, held, df⟩
    cases ph <;> cases held <;> simp [stepEv]
  case load =>
    simp only [stepEv]
    split
    · exact .inr rfl
    · exact nonMover_mover b _ s
  case store =>
    simp only [stepEv]
    split
    · exact .inl ⟨_, rfl⟩
    · exact nonMover_mover b _ s
  case cas | rmw | append | onceDo | fload | fstore => exact nonMover_mover b _ s
  all_goals exact .inr rfl

theorem stepAll_mover (b : Bool) (e : Ev) {ss r : List St} (H : stepAll ⟨.strict, b⟩ e ss = .ok r) :
    stepAll ⟨.mover, b⟩ e ss = .ok r := by
  induction ss generalizing r with
  | nil => exact H
  | cons s rest ih =>
    rw [stepAll] at H ⊢
    rcases stepEv_mover b e s with ⟨w, hw⟩ | heq
    · rw [hw] at H
      cases H
    · rw [heq]
      split at H
      · cases H
      · exact ih H
      · split at H
        · cases H
        · rename_i l hl
          rw [ih hl]
          exact H

mutual
theorem flowSh_mover (b : Bool) : ∀ (x : Sh) (ss r : List St),
    flowSh ⟨.strict, b⟩ x ss = .ok r → flowSh ⟨.mover, b⟩ x ss = .ok r
  | .ev e, ss, r, H => by
    rw [flowSh] at H ⊢
    exact stepAll_mover b e H
  | .br as, ss, r, H => by
    rw [flowSh] at H ⊢
    exact flowAlts_mover b as ss r H
  | .loop body, ss, r, H => by
    rw [flowSh] at H ⊢
    split at H
    · cases H
    · rename_i s1 h1
      rw [flowSq_mover b body _ _ h1]
      dsimp only at H ⊢
      split at H
      · cases H
      · rename_i s2 h2
        rw [flowSq_mover b body _ _ h2]
        dsimp only at H ⊢
        split at H
        · cases H
        · rename_i s3 h3
          rw [flowSq_mover b body _ _ h3]
          dsimp only at H ⊢
          split at H
          · cases H
          · rename_i s4 h4
            rw [flowSq_mover b body _ _ h4]
            exact H
theorem flowSq_mover (b : Bool) : ∀ (x : Sq) (ss r : List St),
    flowSq ⟨.strict, b⟩ x ss = .ok r → flowSq ⟨.mover, b⟩ x ss = .ok r
  | .nil, ss, r, H => by
    rw [flowSq] at H ⊢
    exact H
  | .cons h t, ss, r, H => by
    rw [flowSq] at H ⊢
    split at H
    · cases H
    · rename_i ss' h1
      rw [flowSh_mover b h _ _ h1]
      exact flowSq_mover b t _ _ H
theorem flowAlts_mover (b : Bool) : ∀ (x : Alts) (ss r : List St),
    flowAlts ⟨.strict, b⟩ x ss = .ok r → flowAlts ⟨.mover, b⟩ x ss = .ok r
  | .nil, ss, r, H => by
    rw [flowAlts] at H ⊢
    exact H
  | .cons h t, ss, r, H => by
    rw [flowAlts] at H ⊢
    split at H
    · cases H
    · rename_i l h1
      rw [flowSq_mover b h _ _ h1]
      split at H
      · cases H
      · rename_i r' h2
        rw [flowAlts_mover b t _ _ h2]
        exact H
end

theorem check_mover (b : Bool) {body : Sq} (H : check ⟨.strict, b⟩ body = none) : check ⟨.mover, b⟩ body = none := by
  rw [check] at H ⊢
  split at H
  · cases H
  · rename_i ends h1
    rw [flowSq_mover b body _ _ h1]
    exact H

/-- a list of functions without violation of the strict discipline has none of the mover discipline -/
theorem violations_mover (b : Bool) {w : Wrappers} {fs : List AFunc} (H : violations ⟨.strict, b⟩ w fs = []) :
    violations ⟨.mover, b⟩ w fs = [] := by
  rw [violations, List.filterMap_eq_nil_iff] at H ⊢
  intro f hf
  rw [Option.map_eq_none_iff]
  exact check_mover b (Option.map_eq_none_iff.1 (H f hf))

/-- `callersOf` with the test on names as a parameter -/
def callersOfBy (B : BEq String) (tbl : List AFunc) (aliases : List (String × String)) (set : List String) : List String :=
  (tbl.filter (fun f => @List.contains _ B set f.name ||
      f.callees.any (fun c => @List.contains _ B set c || (match @List.lookup _ _ B c aliases with
                                                | some c' => @List.contains _ B set c'
                                                | none => false)))).map (·.name)

def reachBy (B : BEq String) (tbl : List AFunc) (aliases : List (String × String)) : Nat → List String → List String
  | 0, s => s
  | n + 1, s => reachBy B tbl aliases n (callersOfBy B tbl aliases s)

/-- `reach` is `reachBy` at `==`; with `FactsCode.beq_byCode` the rounds compare codes -/
theorem reach_eq_by (tbl : List AFunc) (al : List (String × String)) :
    ∀ n s, reach tbl al n s = reachBy instBEqOfDecidableEq tbl al n s
  | 0, _ => rfl
  | n + 1, _ => reach_eq_by tbl al n _

/-- `bodyOf tbl`, asking a part `sub` of the table first -/
def bodyVia (tbl sub : List AFunc) (n : String) : Sq :=
  match lookup sub n with
  | some f => f.body
  | none => bodyOf tbl n

/-- when each function of `sub` is the one that `tbl` holds under its name, a body may be looked up in `sub` first -/
theorem bodyOf_via {tbl sub : List AFunc} (hs : sub.map (fun f => lookup tbl f.name) = sub.map some) :
    bodyOf tbl = bodyVia tbl sub := by
  funext n
  rw [bodyVia]
  cases h : lookup sub n with
  | none => rfl
  | some f =>
    have ht : lookup tbl f.name = some f := List.map_inj_left.mp hs f (List.mem_of_find?_eq_some h)
    have hn : (f.name == n) = true := List.find?_some (p := fun g : AFunc => g.name == n) h
    rw [eq_of_beq hn] at ht
    rw [bodyOf, ht]

end FpVerif.AtomShape
