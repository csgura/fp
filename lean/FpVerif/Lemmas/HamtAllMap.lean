import FpVerif.Lemmas.HamtWrap
/-!
`fp.Map` over EVERY base (`Base == nil` of the zero value, `*hamt`, the `UnsafeGoMap` fallback):
one invariant (`FMap.Inv`), one abstract view (`FMap.entries`) and one specification per wrapper
operation.  Each specification also says that the kind of base is kept (`FMap.isHamt`), which turns it
into the statement about a hamt-backed map of `Spec/C03.lean` §6; `Spec/C03All.lean` runs histories.

The Go-map fallback compares keys with Go's `==` (`[BEq K]` of the model), not with the `Hashable`.
`Agree h` ("`==` is `Eqv`") is exactly what the refinement needs there; it is part of `FMap.Inv` for
the two bases that can reach the fallback (`none`, `.goMap`) and is NOT needed for a hamt base.
-/
namespace FpVerif.Hamt
variable {K V : Type} {h : Hasher K}

-- the Go-map fallback ----------------------------------------------------------------------------------

variable [BEq K]

/-- Go's `==` on the dynamic key values IS the `Eqv` of the hasher.  (This presupposes that `==` is
    defined: for a non-comparable dynamic key type such as `fp.Seq[int]` the Go-map operations panic
    with "hash of unhashable type".) -/
def Agree (h : Hasher K) : Prop := ∀ a b : K, (a == b) = h.eqv a b

theorem GoMap.get_eq (hag : Agree h) (g : GoMap K V) (k : K) : GoMap.get g k = lookup h k g := by
  unfold GoMap.get lookup
  congr 2
  funext e
  exact hag e.1 k

omit [BEq K] in
theorem fst_replace (a : K × V) (k : K) (v : V) : (if h.eqv a.1 k = true then (a.1, v) else a).1 = a.1 := by
  cases h.eqv a.1 k <;> rfl

omit [BEq K] in
theorem lookup_map_replace (hl : LawfulHash h) (g : List (K × V)) (k : K) (v : V) (k' : K) :
    lookup h k' (g.map (fun e => if h.eqv e.1 k then (e.1, v) else e)) =
      (lookup h k' g).map (fun x => if h.eqv k k' then v else x) := by
  induction g with
  | nil => rfl
  | cons a g ih =>
    rw [List.map_cons, lookup_cons, lookup_cons, fst_replace]
    cases hak : h.eqv a.1 k' with
    | false => exact ih
    | true =>
      have : h.eqv a.1 k = h.eqv k k' := by
        rw [hl.eqv_congr_left hak, hl.eqv_comm]
      rw [this]
      cases h.eqv k k' <;> rfl

theorem GoMap.updated_spec (hl : LawfulHash h) (hag : Agree h) {g : GoMap K V} (hd : DistinctKeys h g)
    (k : K) (v : V) :
    DistinctKeys h (GoMap.updated g k v) ∧
      ∀ k', lookup h k' (GoMap.updated g k v) = if h.eqv k k' then some v else lookup h k' g := by
  unfold GoMap.updated
  have hfun : (fun (e : K × V) => e.1 == k) = (fun e => h.eqv e.1 k) := by funext e; exact hag e.1 k
  have hfun2 : (fun (e : K × V) => if (e.1 == k) = true then (e.1, v) else e) =
      (fun e => if h.eqv e.1 k = true then (e.1, v) else e) := by funext e; rw [hag e.1 k]
  rw [hfun, hfun2]
  cases hany : g.any (fun e => h.eqv e.1 k) with
  | false =>
    have hno : ∀ e ∈ g, h.eqv e.1 k = false := fun e he =>
      Bool.eq_false_iff.mpr (List.any_eq_false.mp hany e he)
    rw [if_neg Bool.false_ne_true]
    exact ⟨distinct_insert hl v (List.append_nil _).symm hd hno, lookup_insert hl v (List.append_nil _).symm hno⟩
  | true =>
    rw [if_pos (rfl : true = true)]
    obtain ⟨e, he, hek⟩ := List.any_eq_true.mp hany
    constructor
    · unfold DistinctKeys
      rw [List.pairwise_map]
      apply List.Pairwise.imp _ hd
      intro a b hab
      rw [fst_replace, fst_replace]; exact hab
    · intro k'
      rw [lookup_map_replace hl]
      cases hkk : h.eqv k k' with
      | false => cases lookup h k' g <;> rfl
      | true =>
        have hs : (lookup h k' g).isSome = true :=
          lookup_isSome_iff.mpr ⟨e, he, hl.trans _ _ _ hek hkk⟩
        cases hlk : lookup h k' g with
        | none => rw [hlk] at hs; cases hs
        | some x => rfl

theorem GoMap.removed_spec (hl : LawfulHash h) (hag : Agree h) (ks : List K) : ∀ {g : GoMap K V},
    DistinctKeys h g →
    DistinctKeys h (GoMap.removed g ks) ∧
      ∀ k', lookup h k' (GoMap.removed g ks) = lookupRemoved h ks k' (lookup h k' g) := by
  induction ks with
  | nil => intro g hd; exact ⟨hd, fun k' => by simp [GoMap.removed, lookupRemoved]⟩
  | cons k ks ih =>
    intro g hd
    have hfun : (fun (e : K × V) => !(e.1 == k)) = (fun e => !h.eqv e.1 k) := by
      funext e; rw [hag e.1 k]
    have hstep : GoMap.removed g (k :: ks) = GoMap.removed (g.filter (fun e => !h.eqv e.1 k)) ks := by
      unfold GoMap.removed
      rw [List.foldl_cons, hfun]
    rw [hstep]
    obtain ⟨h1, h2⟩ := ih (distinct_filter hd (fun e => !h.eqv e.1 k))
    refine ⟨h1, fun k' => ?_⟩
    rw [h2, lookup_filter_ne hl]
    unfold lookupRemoved
    rw [List.any_cons]
    cases h.eqv k k' <;> cases ks.any (fun k => h.eqv k k') <;> rfl

-- fp.Map over every base --------------------------------------------------------------------------------

/-- what the map contains, as an association list (`Iterator()` order; unspecified for a Go map) -/
def FMap.entries (m : FMap K V) : List (K × V) :=
  match m.base with
  | none => []
  | some (.hamt m) => m.toList
  | some (.goMap g) => g

/-- invariant of an `fp.Map` value: the trie invariant for a hamt base; for the Go-map fallback
    (and for the zero value, whose `Updated` creates one) "`==` is `Eqv`", plus what a Go map
    guarantees by construction (keys pairwise not `==`). -/
def FMap.Inv (h : Hasher K) (m : FMap K V) : Prop :=
  match m.base with
  | none => Agree h
  | some (.hamt m) => Hamt.Inv h m
  | some (.goMap g) => Agree h ∧ DistinctKeys h g

omit [BEq K] in
/-- the three shapes of an `fp.Map` value: zero value, trie, Go map -/
theorem FMap.cases_base {motive : FMap K V → Prop} (zero : motive ⟨none⟩) (hamt : ∀ m, motive (hmap m))
    (goMap : ∀ g, motive ⟨some (.goMap g)⟩) : ∀ m, motive m
  | ⟨none⟩ => zero
  | ⟨some (.hamt m)⟩ => hamt m
  | ⟨some (.goMap g)⟩ => goMap g

theorem FMap.Inv.distinct (hl : LawfulHash h) {m : FMap K V} (hi : FMap.Inv h m) :
    DistinctKeys h m.entries := by
  induction m using FMap.cases_base with
  | zero => exact List.Pairwise.nil
  | hamt m => exact Hamt.Inv.distinct hl hi
  | goMap g => exact hi.2

theorem FMap.get_spec (hl : LawfulHash h) {m : FMap K V} (hi : FMap.Inv h m) (k : K) :
    m.get h k = .ok (lookup h k m.entries) := by
  induction m using FMap.cases_base with
  | zero => rfl
  | hamt m => exact Hamt.get_spec hl hi k
  | goMap g => exact congrArg Except.ok (GoMap.get_eq hi.1 g k)

theorem FMap.size_spec {m : FMap K V} (hi : FMap.Inv h m) : m.size = m.entries.length := by
  induction m using FMap.cases_base with
  | zero => rfl
  | hamt m => exact Hamt.Inv.size_eq hi
  | goMap g => rfl

theorem FMap.iterList_spec {m : FMap K V} (hi : FMap.Inv h m) : m.iterList = .ok m.entries := by
  induction m using FMap.cases_base with
  | zero => rfl
  | hamt m => exact Hamt.iterList_spec hi
  | goMap g => rfl

/-- is the base the immutable package's trie? -/
def FMap.isHamt (m : FMap K V) : Bool :=
  match m.base with
  | some (.hamt _) => true
  | _ => false

omit [BEq K] in
theorem FMap.isHamt_iff {m : FMap K V} : m.isHamt = true ↔ ∃ x, m.base = some (.hamt x) := by
  induction m using FMap.cases_base with
  | zero => exact ⟨fun hk => (nomatch hk), fun ⟨_, hx⟩ => (nomatch hx)⟩
  | hamt x => exact ⟨fun _ => ⟨x, rfl⟩, fun _ => rfl⟩
  | goMap g => exact ⟨fun hk => (nomatch hk), fun ⟨_, hx⟩ => (nomatch hx)⟩

theorem FMap.Inv.eq_hmap {m : FMap K V} (hi : FMap.Inv h m) (hk : m.isHamt = true) :
    ∃ x, m = hmap x ∧ Hamt.Inv h x := by
  induction m using FMap.cases_base with
  | zero => exact nomatch hk
  | hamt x => exact ⟨x, rfl, hi⟩
  | goMap g => exact nomatch hk

/-- a specification over every base that keeps the kind of base, read off for a map on the trie -/
theorem FMap.spec_hmap (hl : LawfulHash h) {x : GoE (FMap K V)} {m : Hamt K V} {F : K → Option V}
    (hx : ∃ m', x = .ok m' ∧ FMap.Inv h m' ∧ m'.isHamt = (hmap m).isHamt ∧ ∀ k, lookup h k m'.entries = F k) :
    ∃ m', x = .ok (hmap m') ∧ Hamt.Inv h m' ∧ ∀ k, (hmap m').get h k = .ok (F k) := by
  obtain ⟨M, h1, h2, hk, h3⟩ := hx
  obtain ⟨m', rfl, hwf'⟩ := h2.eq_hmap hk
  exact ⟨m', h1, hwf', fun k => (Hamt.get_spec hl hwf' k).trans (congrArg Except.ok (h3 k))⟩

theorem FMap.updated_spec (hl : LawfulHash h) {m : FMap K V} (hi : FMap.Inv h m) (k : K) (v : V) :
    ∃ m', m.updated h k v = .ok m' ∧ FMap.Inv h m' ∧ m'.isHamt = m.isHamt ∧
      ∀ k', lookup h k' m'.entries = if h.eqv k k' then some v else lookup h k' m.entries := by
  induction m using FMap.cases_base with
  | zero =>
    exact ⟨⟨some (.goMap [(k, v)])⟩, rfl, ⟨hi, List.pairwise_singleton _ _⟩, rfl,
      fun k' => lookup_cons h k' (k, v) []⟩
  | hamt m =>
    obtain ⟨m', h1, h2, h3, _⟩ := Hamt.set_spec hl hi k v false
    exact ⟨hmap m', bind_ok h1 rfl, h2, rfl, h3⟩
  | goMap g =>
    obtain ⟨h1, h2⟩ := GoMap.updated_spec hl hi.1 hi.2 k v
    exact ⟨⟨some (.goMap (GoMap.updated g k v))⟩, rfl, ⟨hi.1, h1⟩, rfl, h2⟩

theorem FMap.removed_spec (hl : LawfulHash h) {m : FMap K V} (hi : FMap.Inv h m) (ks : List K) :
    ∃ m', m.removed h ks = .ok m' ∧ FMap.Inv h m' ∧ m'.isHamt = m.isHamt ∧
      ∀ k', lookup h k' m'.entries = lookupRemoved h ks k' (lookup h k' m.entries) := by
  induction m using FMap.cases_base with
  | zero =>
    exact ⟨⟨none⟩, rfl, hi, rfl, fun k' => (ite_self _).symm⟩
  | hamt m =>
    obtain ⟨m', h1, h2, h3, _⟩ := Hamt.removed_spec hl ks hi
    exact ⟨hmap m', bind_ok h1 rfl, h2, rfl, h3⟩
  | goMap g =>
    obtain ⟨h1, h2⟩ := GoMap.removed_spec hl hi.1 ks hi.2
    exact ⟨⟨some (.goMap (GoMap.removed g ks))⟩, rfl, ⟨hi.1, h1⟩, rfl, h2⟩

theorem FMap.updatedWith_spec (hl : LawfulHash h) {m : FMap K V} (hi : FMap.Inv h m) (k : K)
    (f : Option V → Option V) :
    ∃ m', m.updatedWith h k f = .ok m' ∧ FMap.Inv h m' ∧ m'.isHamt = m.isHamt ∧
      ∀ k', lookup h k' m'.entries =
        if h.eqv k k' then f (lookup h k m.entries) else lookup h k' m.entries := by
  unfold FMap.updatedWith
  rw [FMap.get_spec hl hi]
  simp only [bind, Except.bind]
  cases hf : f (lookup h k m.entries) with
  | some x => exact FMap.updated_spec hl hi k x
  | none =>
    cases hlk : lookup h k m.entries with
    | none => exact ⟨m, rfl, hi, rfl, lookup_absent hl hlk⟩
    | some v0 =>
      obtain ⟨m', h1, h2, hk, h3⟩ := FMap.removed_spec hl hi [k]
      refine ⟨m', h1, h2, hk, fun k' => ?_⟩
      rw [h3]; simp [lookupRemoved]

theorem FMap.concat_spec (hl : LawfulHash h) (l : List (K × V)) : ∀ {m : FMap K V}, FMap.Inv h m →
    ∃ m', m.concat h l = .ok m' ∧ FMap.Inv h m' ∧ m'.isHamt = m.isHamt ∧
      ∀ k', lookup h k' m'.entries = concatLookup h l k' (lookup h k' m.entries) := by
  induction l with
  | nil => intro m hi; exact ⟨m, rfl, hi, rfl, fun _ => rfl⟩
  | cons e l ih =>
    intro m hi
    obtain ⟨m1, h1, hi1, hk1, hl1⟩ := FMap.updated_spec hl hi e.1 e.2
    obtain ⟨m2, h2, hi2, hk2, hl2⟩ := ih hi1
    exact ⟨m2, bind_ok h1 h2, hi2, hk2.trans hk1, fun k' => by rw [hl2, hl1]; rfl⟩

end FpVerif.Hamt
