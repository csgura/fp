import FpVerif.Lemmas.ListMemo
import FpVerif.Lemmas.Callbacks
import FpVerif.Lemmas.RefFolds
/-!
# Lazy list: the `fp.List` interface as a simulation and the cursor loops of package `list`
-/
namespace FpVerif.LL
open FpVerif.It
open FpVerif.MemoPanic (Good)

/-- `R hp l xs`: in heap `hp` the list value `l` denotes `xs`; closed under the three operations
    of `fp.List` (which may fill memo cells), for every fuel `≥ k`. -/
structure LSim (k : Nat) (R : Heap → LV → List Val → Prop) : Prop where
  isEmpty : ∀ fuel hp l xs lg, k ≤ fuel → R hp l xs →
    ∃ hp' lg', LL.isEmpty fuel l hp lg = (.ok xs.isEmpty, hp', lg') ∧ R hp' l xs
  head : ∀ fuel hp l x xs lg, k ≤ fuel → R hp l (x :: xs) →
    ∃ hp' lg', LL.head fuel l hp lg = (.ok x, hp', lg') ∧ R hp' l (x :: xs)
  tail : ∀ fuel hp l x xs lg, k ≤ fuel → R hp l (x :: xs) →
    ∃ t hp' lg', LL.tail fuel l hp lg = (.ok t, hp', lg') ∧ R hp' t xs

/-- lists that live outside the heap: `Nil`, `Cons`, `Seq` -/
def plainDen : LV → Option (List Val)
  | .nil => some []
  | .cons h t => (plainDen t).map (h :: ·)
  | .seq xs => some xs
  | .adaptor _ _ => none
  | .nilIface => none

theorem plainDen_ops {l : LV} {xs : List Val} (h : plainDen l = some xs) {fuel : Nat} (hk : 1 ≤ fuel) (hp : Heap)
    (lg : Log) :
    LL.isEmpty fuel l hp lg = (.ok xs.isEmpty, hp, lg) ∧
      ∀ x ys, xs = x :: ys → LL.head fuel l hp lg = (.ok x, hp, lg) ∧
        ∃ t, LL.tail fuel l hp lg = (.ok t, hp, lg) ∧ plainDen t = some ys := by
  obtain ⟨f, rfl⟩ := Nat.exists_eq_succ_of_ne_zero (Nat.ne_zero_of_lt hk)
  cases l with
  | nil =>
    cases h
    exact ⟨rfl, nofun⟩
  | cons a t =>
    simp only [plainDen, Option.map_eq_some_iff] at h
    obtain ⟨ys, hy, rfl⟩ := h
    exact ⟨rfl, fun _ _ e => by cases e; exact ⟨rfl, t, rfl, hy⟩⟩
  | seq ys =>
    cases h
    exact ⟨rfl, fun _ _ e => by subst e; exact ⟨rfl, _, rfl, rfl⟩⟩
  | adaptor a b => cases h
  | nilIface => cases h

variable {k : Nat} {R : Heap → LV → List Val → Prop}

/-! `ToSeq`, `Fold*` and the loops of `ListX` are the same Go loop
`for !cursor.IsEmpty() { v := cursor.Head(); …; cursor = cursor.Tail() }` with different bodies. -/

variable {A B : Type}

/-- `L` is the loop with body `K acc v k`; the body goes on with `k acc'` (which takes the tail) or
    ends the loop by not calling `k`. -/
structure CursorLoop (K : A → Val → (A → HM B) → HM B) (fin : A → B) (L : Nat → LV → A → HM B) : Prop where
  zero : ∀ l z, L 0 l z = IM.panic outOfFuel
  succ : ∀ fuel l z, L (fuel + 1) l z = do
    if !(← isEmpty fuel l) then
      let v ← head fuel l
      K z v fun z' => do
        let t ← tail fuel l
        L fuel t z'
    else pure (fin z)

variable {K : A → Val → (A → HM B) → HM B} {fin : A → B} {L : Nat → LV → A → HM B}

theorem StepRel.cursorLoop {Q : Heap → Heap → Prop} (hR : StepRel Q) (hL : CursorLoop K fin L)
    (hK : ∀ z v k, (∀ z', Good Q (k z')) → Good Q (K z v k)) : ∀ fuel l z, Good Q (L fuel l z)
  | 0, l, z => hL.zero l z ▸ hR.panic _
  | n + 1, l, z =>
    have hA := stepsAll hR n
    hL.succ n l z ▸ hR.bind (hA.isEmpty l) fun _ => .ite
      (hR.bind (hA.head l) fun v => hK z v _ fun z' => hR.bind (hA.tail l) fun t => cursorLoop hR hL hK n t z')
      (hR.pure _)

/-- `E acc xs`: outcome of the loop over `xs` and the elements after the one on which the body ends;
    unless the loop reached the end the cursor still rests on that element: its tail is not forced.
    In either case some cursor satisfies the contract in the heap the loop leaves. -/
theorem CursorLoop.lspec (hL : CursorLoop K fin L) {E : A → List Val → Except PanicVal B × List Val}
    (hnil : ∀ z, E z [] = (.ok (fin z), []))
    (hstep : ∀ z a as k hp lg, ∃ lg',
      (∃ z', K z a k hp lg = k z' hp lg' ∧ E z (a :: as) = E z' as) ∨
      (K z a k hp lg = ((E z (a :: as)).1, hp, lg') ∧ (E z (a :: as)).2 = as))
    (hS : LSim k R) :
    ∀ (xs : List Val) fuel hp l z lg, k + xs.length < fuel → R hp l xs →
      ∃ hp' lg', L fuel l z hp lg = ((E z xs).1, hp', lg') ∧ (∃ l' ys, R hp' l' ys) ∧
        ((∀ z', (E z xs).1 ≠ .ok (fin z')) → ∃ l' a, R hp' l' (a :: (E z xs).2)) := by
  intro xs
  induction xs with
  | nil =>
    intro fuel hp l z lg hfu hR
    obtain ⟨n, rfl⟩ := Nat.exists_eq_succ_of_ne_zero (Nat.ne_zero_of_lt hfu)
    obtain ⟨hp1, lg1, h1, hR1⟩ := hS.isEmpty n hp l [] lg (Nat.le_of_lt_succ hfu) hR
    rw [hnil]
    exact ⟨hp1, lg1, by rw [hL.succ, bind_ok h1]; rfl, ⟨l, [], hR1⟩, fun h => absurd rfl (h z)⟩
  | cons x xs ih =>
    intro fuel hp l z lg hfu hR
    obtain ⟨n, rfl⟩ := Nat.exists_eq_succ_of_ne_zero (Nat.ne_zero_of_lt hfu)
    have hk : k ≤ n := Nat.le_of_add_right_le (Nat.le_of_lt_succ hfu)
    obtain ⟨hp1, lg1, h1, hR1⟩ := hS.isEmpty n hp l (x :: xs) lg hk hR
    obtain ⟨hp2, lg2, h2, hR2⟩ := hS.head n hp1 l x xs lg1 hk hR1
    have e : L (n + 1) l z hp lg = K z x (fun z' => do let t ← tail n l; L n t z') hp2 lg2 := by
      rw [hL.succ, bind_ok h1]
      exact bind_ok h2
    obtain ⟨lg3, ⟨z', h3, hE⟩ | ⟨h3, hE⟩⟩ := hstep z x xs _ hp2 lg2
    · obtain ⟨t, hp4, lg4, h4, hR4⟩ := hS.tail n hp2 l x xs lg3 hk hR2
      rw [e, h3, hE, bind_ok h4]
      exact ih n hp4 t z' lg4 (Nat.lt_of_succ_lt_succ hfu) hR4
    · rw [e, h3, hE]
      exact ⟨hp2, lg3, rfl, ⟨l, x :: xs, hR2⟩, fun _ => ⟨l, x, hR2⟩⟩

theorem toSeq_cursorLoop : CursorLoop (fun ret v k => k (ret ++ [v])) id LL.toSeq :=
  ⟨fun _ _ => rfl, fun _ _ _ => rfl⟩

theorem fold_cursorLoop (f : Val → Val → GoM Val) :
    CursorLoop (fun z v k => do let z' ← IM.liftG (f z v); k z') id (LL.fold f) :=
  ⟨fun _ _ => rfl, fun _ _ _ => rfl⟩

theorem foldTry_cursorLoop (f : Val → Val → GoM (Try Val)) :
    CursorLoop (fun z v k => do
      match ← IM.liftG (f z v) with
      | .success z' => k z'
      | .failure e => pure (.failure e)) Try.success (LL.foldTry f) :=
  ⟨fun _ _ => rfl, fun _ _ _ => rfl⟩

theorem foldOption_cursorLoop (f : Val → Val → GoM (Option Val)) :
    CursorLoop (fun z v k => do
      match ← IM.liftG (f z v) with
      | some z' => k z'
      | none => pure none) some (LL.foldOption f) :=
  ⟨fun _ _ => rfl, fun _ _ _ => rfl⟩

theorem foldError_cursorLoop (f : Val → GoM (Option Err)) :
    CursorLoop (fun u v k => do
      match ← IM.liftG (f v) with
      | some e => pure (some e)
      | none => k u) (fun _ => none) (fun fuel l (_ : Unit) => LL.foldError f fuel l) :=
  ⟨fun _ _ => rfl, fun _ _ _ => rfl⟩

theorem toSeq_lspec (hS : LSim k R) :
    ∀ (xs : List Val) (fuel : Nat) (hp : Heap) (l : LV) (acc : List Val) (lg : Log),
      k + xs.length < fuel → R hp l xs →
      ∃ hp' lg', LL.toSeq fuel l acc hp lg = (.ok (acc ++ xs), hp', lg') ∧ ∃ l' ys, R hp' l' ys := by
  intro xs fuel hp l acc lg hfu hR
  obtain ⟨hp', lg', e, hcursor, _⟩ := toSeq_cursorLoop.lspec (E := fun acc xs => (.ok (acc ++ xs), []))
    (fun acc => by rw [List.append_nil]; rfl)
    (fun acc a as k hp lg => ⟨lg, .inl ⟨acc ++ [a], rfl, by rw [List.append_cons]⟩⟩)
    hS xs fuel hp l acc lg hfu hR
  exact ⟨hp', lg', e, hcursor⟩

/-- `list.Fold` with a step that may panic: the panic propagates; the cursor rests on the element
    whose step panicked — its tail has not been forced. -/
theorem fold_lspec_panic {f : Val → Val → GoM Val} {g : Val → Val → Except PanicVal Val} (hf : Outcome2 f g)
    (hS : LSim k R) :
    ∀ (xs : List Val) (fuel : Nat) (hp : Heap) (l : LV) (z : Val) (lg : Log), k + xs.length < fuel → R hp l xs →
      ∃ hp' lg', LL.fold f fuel l z hp lg = ((foldE g z xs).1, hp', lg') ∧
        (∀ p, (foldE g z xs).1 = .error p → ∃ l' a, R hp' l' (a :: (foldE g z xs).2)) := by
  intro xs fuel hp l z lg hfu hR
  have h := (fold_cursorLoop f).lspec (E := foldE g) (fun _ => rfl) ?step hS xs fuel hp l z lg hfu hR
  · obtain ⟨hp', lg', e, _, hcursor⟩ := h
    refine ⟨hp', lg', e, fun p he => hcursor fun z' e' => ?_⟩
    rw [he] at e'
    cases e'
  · intro z a as k hp lg
    refine (liftG_outcome2 hf z a hp lg).imp fun lg' => ?_
    simp only [foldE]
    cases g z a with
    | ok z' => exact fun e => .inl ⟨z', bind_ok e, rfl⟩
    | error p => exact fun e => .inr ⟨bind_err e, rfl⟩

theorem foldTry_lspec_panic {f : Val → Val → GoM (Try Val)} {g : Val → Val → Except PanicVal (Try Val)}
    (hf : Outcome2 f g) (hS : LSim k R) :
    ∀ (xs : List Val) (fuel : Nat) (hp : Heap) (l : LV) (z : Val) (lg : Log), k + xs.length < fuel → R hp l xs →
      ∃ hp' lg', LL.foldTry f fuel l z hp lg = ((foldTryE g z xs).1, hp', lg') ∧
        ((∀ z', (foldTryE g z xs).1 ≠ .ok (.success z')) → ∃ l' a, R hp' l' (a :: (foldTryE g z xs).2)) := by
  intro xs fuel hp l z lg hfu hR
  have h := (foldTry_cursorLoop f).lspec (E := foldTryE g) (fun _ => rfl) ?step hS xs fuel hp l z lg hfu hR
  · obtain ⟨hp', lg', e, _, hcursor⟩ := h
    exact ⟨hp', lg', e, hcursor⟩
  intro z a as k hp lg
  refine (liftG_outcome2 hf z a hp lg).imp fun lg' => ?_
  simp only [foldTryE]
  cases g z a with
  | ok t => cases t with
    | success z' => exact fun e => .inl ⟨z', bind_ok e, rfl⟩
    | failure err => exact fun e => .inr ⟨bind_ok e, rfl⟩
  | error p => exact fun e => .inr ⟨bind_err e, rfl⟩

/-- a step that returns is the case `g = .ok ∘ g'` -/
theorem fold_lspec {f : Val → Val → GoM Val} {g : Val → Val → Val} (hf : Total2 f g) (hS : LSim k R) :
    ∀ (xs : List Val) (fuel : Nat) (hp : Heap) (l : LV) (z : Val) (lg : Log),
      k + xs.length < fuel → R hp l xs →
      ∃ hp' lg', LL.fold f fuel l z hp lg = (.ok (xs.foldl g z), hp', lg') := by
  intro xs fuel hp l z lg hfu hR
  obtain ⟨hp', lg', e, _⟩ := fold_lspec_panic hf.outcome hS xs fuel hp l z lg hfu hR
  exact ⟨hp', lg', by rw [e, foldE_ok]⟩

/-- `FoldTry`: at a failure the cursor still rests on the failing element — its tail is not forced. -/
theorem foldTry_lspec {f : Val → Val → GoM (Try Val)} {g : Val → Val → Try Val} (hf : Total2 f g)
    (hS : LSim k R) :
    ∀ (xs : List Val) (fuel : Nat) (hp : Heap) (l : LV) (z : Val) (lg : Log),
      k + xs.length < fuel → R hp l xs →
      ∃ hp' lg', LL.foldTry f fuel l z hp lg = (.ok (foldTryL g z xs).1, hp', lg') ∧
        ((foldTryL g z xs).1.isSuccess = false →
          ∃ l' a, R hp' l' (a :: (foldTryL g z xs).2)) := by
  intro xs fuel hp l z lg hfu hR
  have h := (foldTry_cursorLoop f).lspec (E := fun z xs => (foldTryL g z xs).map .ok id) (fun _ => rfl) ?step
    hS xs fuel hp l z lg hfu hR
  · obtain ⟨hp', lg', e, _, hcursor⟩ := h
    refine ⟨hp', lg', e, fun hfail => hcursor fun z' e' => ?_⟩
    rw [Except.ok.inj e'] at hfail
    cases hfail
  · intro z a as k hp lg
    refine (liftG_total2 hf z a hp lg).imp fun lg' => ?_
    simp only [foldTryL]
    cases g z a with
    | success z' => exact fun e => .inl ⟨z', bind_ok e, rfl⟩
    | failure err => exact fun e => .inr ⟨bind_ok e, rfl⟩

theorem foldOption_lspec {f : Val → Val → GoM (Option Val)} {g : Val → Val → Option Val} (hf : Total2 f g)
    (hS : LSim k R) :
    ∀ (xs : List Val) (fuel : Nat) (hp : Heap) (l : LV) (z : Val) (lg : Log),
      k + xs.length < fuel → R hp l xs →
      ∃ hp' lg', LL.foldOption f fuel l z hp lg = (.ok (foldOptionL g z xs).1, hp', lg') ∧
        ((foldOptionL g z xs).1 = none → ∃ l' a, R hp' l' (a :: (foldOptionL g z xs).2)) := by
  intro xs fuel hp l z lg hfu hR
  have h := (foldOption_cursorLoop f).lspec (E := fun z xs => (foldOptionL g z xs).map .ok id) (fun _ => rfl) ?step
    hS xs fuel hp l z lg hfu hR
  · obtain ⟨hp', lg', e, _, hcursor⟩ := h
    refine ⟨hp', lg', e, fun hnone => hcursor fun z' e' => ?_⟩
    rw [Except.ok.inj e'] at hnone
    cases hnone
  · intro z a as k hp lg
    refine (liftG_total2 hf z a hp lg).imp fun lg' => ?_
    simp only [foldOptionL]
    cases g z a with
    | some z' => exact fun e => .inl ⟨z', bind_ok e, rfl⟩
    | none => exact fun e => .inr ⟨bind_ok e, rfl⟩

theorem foldError_lspec {f : Val → GoM (Option Err)} {g : Val → Option Err} (hf : Total f g)
    (hS : LSim k R) :
    ∀ (xs : List Val) (fuel : Nat) (hp : Heap) (l : LV) (lg : Log),
      k + xs.length < fuel → R hp l xs →
      ∃ hp' lg', LL.foldError f fuel l hp lg = (.ok (foldErrorL g xs).1, hp', lg') ∧
        ((foldErrorL g xs).1.isSome = true → ∃ l' a, R hp' l' (a :: (foldErrorL g xs).2)) := by
  intro xs fuel hp l lg hfu hR
  have h := (foldError_cursorLoop f).lspec (E := fun _ xs => (foldErrorL g xs).map .ok id) (fun _ => rfl) ?step
    hS xs fuel hp l () lg hfu hR
  · obtain ⟨hp', lg', e, _, hcursor⟩ := h
    refine ⟨hp', lg', e, fun herr => hcursor fun z' e' => ?_⟩
    rw [Except.ok.inj e'] at herr
    cases herr
  · intro z a as k hp lg
    refine (liftG_total hf a hp lg).imp fun lg' => ?_
    simp only [foldErrorL]
    cases g a with
    | none => exact fun e => .inl ⟨(), bind_ok e, rfl⟩
    | some err => exact fun e => .inr ⟨bind_ok e, rfl⟩

namespace StepRel
variable {Q : Heap → Heap → Prop} (hR : StepRel Q)
include hR

theorem toSeq : ∀ fuel l acc, Good Q (LL.toSeq fuel l acc) :=
  hR.cursorLoop toSeq_cursorLoop fun _ _ _ hk => hk _

theorem fold (f : Val → Val → GoM Val) : ∀ fuel l z, Good Q (LL.fold f fuel l z) :=
  hR.cursorLoop (fold_cursorLoop f) fun _ _ _ hk => hR.bind (hR.liftG _) hk

theorem foldTry (f : Val → Val → GoM (Try Val)) : ∀ fuel l z, Good Q (LL.foldTry f fuel l z) :=
  hR.cursorLoop (foldTry_cursorLoop f) fun _ _ _ hk => hR.bind (hR.liftG _) fun
    | .success s => hk s
    | .failure _ => hR.pure _

theorem foldOption (f : Val → Val → GoM (Option Val)) : ∀ fuel l z, Good Q (LL.foldOption f fuel l z) :=
  hR.cursorLoop (foldOption_cursorLoop f) fun _ _ _ hk => hR.bind (hR.liftG _) fun
    | some s => hk s
    | none => hR.pure _

theorem foldError (f : Val → GoM (Option Err)) (fuel : Nat) (l : LV) : Good Q (LL.foldError f fuel l) :=
  hR.cursorLoop (foldError_cursorLoop f) (fun _ _ _ hk => hR.bind (hR.liftG _) fun
    | some _ => hR.pure _
    | none => hk _) fuel l ()

/-- `f` may run its lazy argument or not -/
theorem foldRight (zero : Val) {f : Val → HM Val → HM Val} (hf : ∀ a th, Good Q th → Good Q (f a th)) :
    ∀ fuel l, Good Q (LL.foldRight zero f fuel l)
  | 0, _ => hR.panic _
  | n + 1, l =>
    have hA := stepsAll hR n
    hR.bind (hA.isEmpty l) fun _ => .ite (hR.pure _)
      (hR.bind (hA.head l) fun h => hf h _ (hR.bind (hA.tail l) fun t => foldRight zero hf n t))

end StepRel

end FpVerif.LL
