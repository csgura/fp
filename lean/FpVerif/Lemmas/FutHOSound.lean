import FpVerif.Lemmas.FutHOOrd
/-!
# The invariant of the future network for futures of futures (helper lemmas for `Spec/C06HO.lean`)

Ghost state: a *typed* spec `T p : Σ τ, TExpr τ` for every promise (what it was created for, children replaced by
the handles they were built as) — the typed counterpart of `Net.spec`.

`Good d T σ p`: the `Sem`-level reading of promise `p`'s status is below (`d = le`: soundness) / above (`d = ge`:
completeness) the denotation of its spec, both over the statuses `σ`.  A future of futures completes *before* its
inner future does, so in a non-quiescent state only `le` holds, and `le`-goodness of a completed promise is not
stable by itself (both sides still grow).  What IS stable is `Denotes T n lo q e`: in every later state `q` reads as
`e` denotes as soon as the promises allocated from `lo` on are good.  It is what the invariant records of a completed
promise `p` (`lo = p + 1`, `e` its own spec: good as soon as all YOUNGER promises are — the promises a user function's
future allocates are younger than the promise waiting for it), of the root `build` returns and of the future a
`completeWith` callback waits on.  Goodness of everything then follows in every single state by induction on the
creation order, downwards (`all_good_le`).
-/
namespace FpVerif.Spec.C06.HO
open FpVerif.Fut

abbrev TSpec : Type := Nat → (Σ τ : Ty, TExpr τ)

def upd (T : TSpec) (i : Nat) (x : Σ τ : Ty, TExpr τ) : TSpec := fun q => if q = i then x else T q

theorem upd_self (T : TSpec) (i : Nat) (x : Σ τ : Ty, TExpr τ) : upd T i x i = x := by simp [upd]

theorem upd_ne (T : TSpec) {i q : Nat} (x : Σ τ : Ty, TExpr τ) (h : q ≠ i) : upd T i x q = T q := by simp [upd, h]

def Good (d : Dir) (T : TSpec) (σ : Nat → Option (Try Val)) (p : Nat) : Prop :=
  rel d (T p).1 (absS σ (T p).1 p) (den (absE σ) (T p).2)

theorem good_iff {d : Dir} {T : TSpec} {σ : Nat → Option (Try Val)} {p : Nat} {τ : Ty} {X : TExpr τ}
    (h : T p = ⟨τ, X⟩) : Good d T σ p ↔ rel d τ (absS σ τ p) (den (absE σ) X) := by
  unfold Good; rw [h]

theorem good_congr {d : Dir} {T T' : TSpec} {σ : Nat → Option (Try Val)} {p : Nat} (h : T' p = T p) :
    Good d T' σ p ↔ Good d T σ p := by
  unfold Good; rw [h]

/-- in every later state, `q` reads as `e` denotes (in either direction) as soon as the promises allocated from `lo` on do -/
def Denotes (T : TSpec) (n : Net) (lo : Nat) {τ : Ty} (q : Nat) (e : TExpr τ) : Prop :=
  ∀ d σ', Ext n.status σ' → (∀ p', lo ≤ p' → p' < n.next → Good d T σ' p') → rel d τ (absS σ' τ q) (den (absE σ') e)

theorem Denotes.ref (T : TSpec) (n : Net) (lo : Nat) (τ : Ty) (p : Nat) : Denotes T n lo p (.ref τ p) :=
  fun d _ _ _ => rel_refl d _ _

/-- a promise allocated for `X` reads as `e` denotes if `X` does -/
theorem Denotes.node {T : TSpec} {n : Net} {lo q : Nat} {τ : Ty} {X e : TExpr τ} (hn : lo ≤ q ∧ q < n.next ∧ T q = ⟨τ, X⟩)
    (h : ∀ d σ', Ext n.status σ' → (∀ p', lo ≤ p' → p' < n.next → Good d T σ' p') →
      rel d τ (den (absE σ') X) (den (absE σ') e)) : Denotes T n lo q e :=
  fun d σ' hx hG => rel_trans d ((good_iff hn.2.2).1 (hG q hn.1 hn.2.1)) (h d σ' hx hG)

-- the invariant -------------------------------------------------------------------------------------------

/-- `(T', n')` is a later state of `(T, n)` -/
structure Le (T T' : TSpec) (n n' : Net) : Prop where
  next : n.next ≤ n'.next
  spec : ∀ p, p < n.next → T' p = T p
  status : Ext n.status n'.status

theorem Le.refl (T : TSpec) (n : Net) : Le T T n n := ⟨Nat.le_refl _, fun _ _ => rfl, fun _ _ h => h⟩

theorem Le.trans {T1 T2 T3 : TSpec} {a b c : Net} (h1 : Le T1 T2 a b) (h2 : Le T2 T3 b c) : Le T1 T3 a c :=
  ⟨Nat.le_trans h1.next h2.next,
   fun p hp => by rw [h2.spec p (Nat.lt_of_lt_of_le hp h1.next), h1.spec p hp],
   fun p v h => h2.status p v (h1.status p v h)⟩

/-- what a callback registered on (or a task carrying the result of) promise `q` is entitled to do -/
def CbOK (T : TSpec) (n : Net) (q : Nat) : CB → Prop
  | .flatMapA k np => np < n.next ∧
      ((∃ (τ : Ty) (k' : Val → TExpr τ), T np = ⟨τ, .flatMap (.ref .val q) k'⟩ ∧ k = fun v => erase (k' v)) ∨
       (∃ τ : Ty, T np = ⟨τ, .flatten (.ref (.fut τ) q)⟩ ∧ k = fun v => .ref (unhandle v)))
  | .completeWith np => np < n.next ∧ ∃ (τ : Ty) (sp : TExpr τ) (lo : Nat), T np = ⟨τ, sp⟩ ∧ np < lo ∧ Denotes T n lo q sp
  | .transformA f np => np < n.next ∧ T np = ⟨.val, .transform (.ref .val q) f⟩
  | .transformWithA k np => np < n.next ∧
      ∃ (τ : Ty) (k' : Try Val → TExpr τ), T np = ⟨τ, .transformWith (.ref .val q) k'⟩ ∧ k = fun t => erase (k' t)
  | .recoverWithA d k np => np < n.next ∧
      ∃ (τ : Ty) (k' : Err → TExpr τ), T np = ⟨τ, .recoverWith (.ref τ q) d k'⟩ ∧ k = fun x => erase (k' x)
  | .orFutureA alt np => np < n.next ∧ ∃ τ : Ty, T np = ⟨τ, .orFuture (.ref τ q) (.ref τ alt)⟩
  | .observe _ => True

def TaskOK (T : TSpec) (n : Net) : Task → Prop
  | .cb c t => ∃ q, n.status q = some t ∧ CbOK T n q c
  | .applyT f np => np < n.next ∧ T np = ⟨.val, .apply f⟩

structure Inv (nsrc : Nat) (T : TSpec) (n : Net) : Prop where
  just : ∀ p v, n.status p = some v → Denotes T n (p + 1) p (T p).2
  tasks : ∀ tk ∈ n.pool, TaskOK T n tk
  cbs : ∀ q c, c ∈ n.cbs q → CbOK T n q c
  fresh : ∀ p, n.next ≤ p → n.status p = none
  srcs : nsrc ≤ n.next ∧ ∀ p, p < nsrc → T p = ⟨.val, .ref .val p⟩
  /-- the typed specs are typed readings of the model's own ghost specs -/
  spec : ∀ p, p < n.next → n.spec p = erase (T p).2

theorem Inv.lt {nsrc : Nat} {T : TSpec} {n : Net} (h : Inv nsrc T n) {p : Nat} {v : Try Val}
    (hp : n.status p = some v) : p < n.next := by
  rcases Nat.lt_or_ge p n.next with h1 | h1
  · exact h1
  · rw [h.fresh p h1] at hp; cases hp

theorem Denotes.mono {T T' : TSpec} {n n' : Net} (h : Le T T' n n') {lo lo' : Nat} (hl : lo' ≤ lo) {τ : Ty} {e : TExpr τ}
    {q : Nat} (hq : Denotes T n lo q e) : Denotes T' n' lo' q e :=
  fun d σ' hx hG => hq d σ' (fun p v hp => hx p v (h.status p v hp))
    (fun p' h1 h2 => (good_congr (h.spec p' h2)).1 (hG p' (Nat.le_trans hl h1) (Nat.lt_of_lt_of_le h2 h.next)))

theorem just_le {T T' : TSpec} {n n' : Net} (h : Le T T' n n') {p : Nat} (hp : p < n.next)
    (hj : Denotes T n (p + 1) p (T p).2) : Denotes T' n' (p + 1) p (T' p).2 := by
  rw [h.spec p hp]; exact hj.mono h (Nat.le_refl _)

theorem cbOK_le {T T' : TSpec} {n n' : Net} (h : Le T T' n n') (q : Nat) (c : CB) (hc : CbOK T n q c) :
    CbOK T' n' q c := by
  cases c with
  | flatMapA k np =>
    obtain ⟨h1, h2⟩ := hc
    refine ⟨Nat.lt_of_lt_of_le h1 h.next, ?_⟩
    rw [h.spec np h1]; exact h2
  | completeWith np =>
    obtain ⟨h1, τ, sp, lo, hsp, hlo, hr⟩ := hc
    exact ⟨Nat.lt_of_lt_of_le h1 h.next, τ, sp, lo, by rw [h.spec np h1]; exact hsp, hlo, hr.mono h (Nat.le_refl _)⟩
  | transformA f np =>
    obtain ⟨h1, h2⟩ := hc
    exact ⟨Nat.lt_of_lt_of_le h1 h.next, by rw [h.spec np h1]; exact h2⟩
  | transformWithA k np =>
    obtain ⟨h1, h2⟩ := hc
    exact ⟨Nat.lt_of_lt_of_le h1 h.next, by rw [h.spec np h1]; exact h2⟩
  | recoverWithA d k np =>
    obtain ⟨h1, h2⟩ := hc
    exact ⟨Nat.lt_of_lt_of_le h1 h.next, by rw [h.spec np h1]; exact h2⟩
  | orFutureA alt np =>
    obtain ⟨h1, h2⟩ := hc
    exact ⟨Nat.lt_of_lt_of_le h1 h.next, by rw [h.spec np h1]; exact h2⟩
  | observe id => trivial

theorem taskOK_le {T T' : TSpec} {n n' : Net} (h : Le T T' n n') (tk : Task) (ht : TaskOK T n tk) : TaskOK T' n' tk := by
  cases tk with
  | cb c t =>
    obtain ⟨q, hq, hc⟩ := ht
    exact ⟨q, h.status q t hq, cbOK_le h q c hc⟩
  | applyT f np =>
    exact ⟨Nat.lt_of_lt_of_le ht.1 h.next, by rw [h.spec np ht.1]; exact ht.2⟩

-- preservation ----------------------------------------------------------------------------------------------

theorem le_of_eq (T : TSpec) {n n' : Net} (h1 : n'.status = n.status) (h5 : n'.next = n.next) : Le T T n n' :=
  ⟨by rw [h5]; exact Nat.le_refl _, fun p _ => rfl, fun p v hq => by rw [h1]; exact hq⟩

/-- the invariant only looks at status, spec, cbs and next, and at the pool task by task -/
theorem inv_congr {nsrc : Nat} {T : TSpec} {n n' : Net} (h : Inv nsrc T n)
    (h1 : n'.status = n.status) (h2 : n'.spec = n.spec) (h3 : ∀ tk ∈ n'.pool, TaskOK T n tk) (h4 : n'.cbs = n.cbs)
    (h5 : n'.next = n.next) : Inv nsrc T n' ∧ Le T T n n' := by
  have hle : Le T T n n' := le_of_eq T h1 h5
  refine ⟨⟨?_, ?_, ?_, ?_, ?_, by rw [h5, h2]; exact h.spec⟩, hle⟩
  · intro p v hp
    rw [h1] at hp
    exact just_le hle (h.lt hp) (h.just p v hp)
  · intro tk htk; exact taskOK_le hle tk (h3 tk htk)
  · intro q c hc; rw [h4] at hc; exact cbOK_le hle q c (h.cbs q c hc)
  · intro p hp; rw [h5] at hp; rw [h1]; exact h.fresh p hp
  · rw [h5]; exact h.srcs

theorem le_complete (T : TSpec) (p : Nat) (t : Try Val) (n : Net) : Le T T n (complete p t n) :=
  ⟨Nat.le_of_eq (complete_frame p t n).1.symm, fun _ _ => rfl, fun _ _ h => complete_status_mono p t h⟩

theorem le_onComplete (T : TSpec) (p : Nat) (c : CB) (n : Net) : Le T T n (onComplete p c n) :=
  le_of_eq T (onComplete_status p c n) (onComplete_frame p c n).1

/-- `hdet`: if `p` is still pending then, in every later state in which `p` holds `t`, `p` is good as soon as all younger
    promises are -/
theorem inv_complete {nsrc : Nat} {T : TSpec} {n : Net} (h : Inv nsrc T n) (p : Nat) (t : Try Val) (hp : p < n.next)
    (hdet : n.status p = none → ∀ d σ', Ext (fun q => if q = p then some t else n.status q) σ' →
      (∀ p', p < p' → p' < n.next → Good d T σ' p') → Good d T σ' p) :
    Inv nsrc T (complete p t n) ∧ Le T T n (complete p t n) := by
  have hle := le_complete T p t n
  obtain ⟨hnx, hsp, _⟩ := complete_frame p t n
  refine ⟨⟨?_, ?_, ?_, ?_, ?_, ?_⟩, hle⟩
  · intro q v hq
    rcases complete_status_inv hq with hold | ⟨rfl, hst, rfl⟩
    · exact just_le hle (h.lt hold) (h.just q v hold)
    · intro d σ' hx hy
      rw [complete_status_pending v hst] at hx
      rw [hnx] at hy
      exact hdet hst d σ' hx hy
  · intro tk htk
    rcases mem_complete_pool.1 htk with hold | ⟨hst, c, hc, rfl⟩
    · exact taskOK_le hle tk (h.tasks tk hold)
    · exact ⟨p, complete_status_self hst, cbOK_le hle p c (h.cbs p c hc)⟩
  · intro q c hc
    exact cbOK_le hle q c (h.cbs q c (mem_complete_cbs.1 hc).1)
  · intro q hq
    rw [hnx] at hq
    rw [complete_status_ne p t n (Nat.ne_of_gt (Nat.lt_of_lt_of_le hp hq))]
    exact h.fresh q hq
  · rw [hnx]; exact h.srcs
  · rw [hnx, hsp]; exact h.spec

theorem inv_onComplete {nsrc : Nat} {T : TSpec} {n : Net} (h : Inv nsrc T n) (p : Nat) (c : CB) (hc : CbOK T n p c) :
    Inv nsrc T (onComplete p c n) ∧ Le T T n (onComplete p c n) := by
  have hle := le_onComplete T p c n
  obtain ⟨hnx, hsp, _, _⟩ := onComplete_frame p c n
  refine ⟨⟨?_, ?_, ?_, ?_, ?_, ?_⟩, hle⟩
  · intro q v hq
    rw [onComplete_status] at hq
    exact just_le hle (h.lt hq) (h.just q v hq)
  · intro tk htk
    rcases mem_onComplete_pool.1 htk with hold | ⟨t, hst, rfl⟩
    · exact taskOK_le hle tk (h.tasks tk hold)
    · exact ⟨p, by rw [onComplete_status]; exact hst, cbOK_le hle p c hc⟩
  · intro q c' hc'
    rcases mem_onComplete_cbs.1 hc' with hold | ⟨_, rfl, rfl⟩
    · exact cbOK_le hle q c' (h.cbs q c' hold)
    · exact cbOK_le hle _ _ hc
  · intro q hq
    rw [hnx] at hq
    rw [onComplete_status]
    exact h.fresh q hq
  · rw [hnx]; exact h.srcs
  · rw [hnx, hsp]; exact h.spec

theorem inv_fresh {nsrc : Nat} {T : TSpec} {n : Net} (h : Inv nsrc T n) (sp : FExpr) (x : Σ τ : Ty, TExpr τ)
    (hsp : sp = erase x.2) :
    Inv nsrc (upd T n.next x) (fresh sp n).2 ∧ Le T (upd T n.next x) n (fresh sp n).2 ∧
    n.next < (fresh sp n).2.next := by
  have hle : Le T (upd T n.next x) n (fresh sp n).2 :=
    ⟨Nat.le_succ _, fun p hp => upd_ne T x (Nat.ne_of_lt hp), fun _ _ hq => hq⟩
  refine ⟨⟨?_, ?_, ?_, ?_, ?_, ?_⟩, hle, Nat.lt_succ_self _⟩
  · intro q v hq
    have hq' : n.status q = some v := hq
    exact just_le hle (h.lt hq') (h.just q v hq')
  · intro tk htk; exact taskOK_le hle tk (h.tasks tk htk)
  · intro q c hc; exact cbOK_le hle q c (h.cbs q c hc)
  · intro q hq
    have hq' : n.next + 1 ≤ q := hq
    exact h.fresh q (Nat.le_of_succ_le hq')
  · refine ⟨Nat.le_succ_of_le h.srcs.1, fun p hp => ?_⟩
    have : p ≠ n.next := by have := h.srcs.1; omega
    rw [upd_ne T x this]; exact h.srcs.2 p hp
  · intro q hq
    have hq' : q < n.next + 1 := hq
    by_cases hqn : q = n.next
    · subst hqn; rw [upd_self]; simp only [fresh, if_true]; exact hsp
    · rw [upd_ne T x hqn]; simp only [fresh, hqn, if_false]
      exact h.spec q (by omega)

/-- what `build` guarantees; `T'` has one more entry than `T` per promise `build` allocates -/
structure BuildOK (nsrc : Nat) (T : TSpec) (n : Net) {τ : Ty} (e : TExpr τ) (q : Nat) (n' : Net) (T' : TSpec) : Prop where
  inv : Inv nsrc T' n'
  le : Le T T' n n'
  root : Denotes T' n' n.next q e

/-- one new promise whose completion callback `c` is registered on `p` -/
theorem node_ok {nsrc : Nat} {T : TSpec} {n : Net} (h : Inv nsrc T n) (sp : FExpr) (x : Σ τ : Ty, TExpr τ) (p : Nat) (c : CB)
    (hsp : sp = erase x.2)
    (hc : ∀ (T2 : TSpec) (n2 : Net), n.next < n2.next → T2 n.next = x → CbOK T2 n2 p c) :
    let n3 := onComplete p c (fresh sp n).2
    Inv nsrc (upd T n.next x) n3 ∧ Le T (upd T n.next x) n n3 ∧ n.next < n3.next := by
  obtain ⟨hi, hle, hlt⟩ := inv_fresh h sp x hsp
  have hc2 := hc _ (fresh sp n).2 hlt (upd_self T _ x)
  obtain ⟨hi3, hle3⟩ := inv_onComplete hi p c hc2
  exact ⟨hi3, hle.trans hle3, Nat.lt_of_lt_of_le hlt hle3.next⟩

/-- one new promise completed at once with a result that its spec denotes whatever else happens -/
theorem const_ok {nsrc : Nat} {T : TSpec} {n : Net} (h : Inv nsrc T n) (sp : FExpr) (τ : Ty) (X : TExpr τ) (t : Try Val)
    (hsp : sp = erase X)
    (hX : ∀ σ' : Nat → Option (Try Val), σ' n.next = some t → den (absE σ') X = absS σ' τ n.next) :
    let n3 := complete n.next t (fresh sp n).2
    Inv nsrc (upd T n.next ⟨τ, X⟩) n3 ∧ Le T (upd T n.next ⟨τ, X⟩) n n3 ∧ n.next < n3.next := by
  obtain ⟨hi, hle, hlt⟩ := inv_fresh h sp ⟨τ, X⟩ hsp
  obtain ⟨hi2, hle2⟩ := inv_complete hi n.next t hlt (by
    intro _ d σ' hx _
    rw [good_iff (upd_self T _ _)]
    exact rel_of_eq d (hX σ' (hx n.next t (by simp))).symm)
  exact ⟨hi2, hle.trans hle2, Nat.lt_of_lt_of_le hlt hle2.next⟩

/-- a node over the child `e`, built as `p`: its promise `n1.next` is allocated for `x` and its callback `c`
    registered on `p`; `hroot` says that `n1.next` then reads as the whole program `e'` denotes -/
theorem unary_ok {nsrc : Nat} {T T1 : TSpec} {n n1 : Net} {τ τ' : Ty} {e : TExpr τ} {e' : TExpr τ'} {p : Nat}
    (hb : BuildOK nsrc T n e p n1 T1) (sp : FExpr) (x : Σ τ : Ty, TExpr τ) (c : CB) (hsp : sp = erase x.2)
    (hc : ∀ (T2 : TSpec) (n2 : Net), n1.next < n2.next → T2 n1.next = x → CbOK T2 n2 p c)
    (hroot : ∀ {T3 : TSpec} {n3 : Net}, Denotes T3 n3 n.next p e →
      n.next ≤ n1.next ∧ n1.next < n3.next ∧ T3 n1.next = x → Denotes T3 n3 n.next n1.next e') :
    ∃ T', BuildOK nsrc T n e' n1.next (onComplete p c (fresh sp n1).2) T' := by
  obtain ⟨hi3, hle3, hlt⟩ := node_ok hb.inv sp x p c hsp hc
  exact ⟨_, hi3, hb.le.trans hle3, hroot (hb.root.mono hle3 (Nat.le_refl _)) ⟨hb.le.next, hlt, upd_self T1 _ _⟩⟩

/-- `build` keeps the invariant, for typed specs that record each allocated promise with its children replaced by
    their handles — the typed reading of what `fresh` records in `Net.spec` -/
theorem inv_build {nsrc : Nat} {τ : Ty} (e : TExpr τ) : ∀ (T : TSpec) (n : Net), Inv nsrc T n →
    ∃ T', BuildOK nsrc T n e (build (erase e) n).1 (build (erase e) n).2 T' := by
  induction e with
  | ref τ p => intro T n h; exact ⟨T, h, Le.refl T n, .ref T n _ τ p⟩
  | successful v =>
    intro T n h
    obtain ⟨hi, hle, hlt⟩ := const_ok h (.successful v) .val (.successful v) (.success v) rfl
      (fun σ' hs => by rw [absS_val, hs]; rfl)
    exact ⟨_, hi, hle, .node ⟨Nat.le_refl _, hlt, upd_self T _ _⟩ (fun d _ _ _ => rel_refl d _ _)⟩
  | failed τ x =>
    intro T n h
    obtain ⟨hi, hle, hlt⟩ := const_ok h (.failed x) τ (.failed τ x) (.failure x) rfl
      (fun σ' hs => by simp [den, absS_some τ hs, absT_failure])
    exact ⟨_, hi, hle, .node ⟨Nat.le_refl _, hlt, upd_self T _ _⟩ (fun d _ _ _ => rel_refl d _ _)⟩
  | @successfulOf τ e ih =>
    intro T n h
    obtain ⟨T1, hb⟩ := ih T n h
    obtain ⟨hi, hle, hlt⟩ := const_ok hb.inv (.successfulOf (.ref (build (erase e) n).1)) (.fut τ)
      (.successfulOf (.ref τ (build (erase e) n).1)) (.success (handle (build (erase e) n).1)) rfl
      (fun σ' hs => by simp [den, absS_some _ hs, absT_handle])
    exact ⟨_, hi, hb.le.trans hle, .node ⟨hb.le.next, hlt, upd_self _ _ _⟩
      (fun d σ' hx hG => rel_successOf d (hb.root.mono hle (Nat.le_refl _) d σ' hx hG))⟩
  | logged evs e ih =>
    intro T n h
    obtain ⟨h', hle'⟩ := inv_congr (n' := { n with log := n.log ++ evs }) h rfl rfl h.tasks rfl rfl
    obtain ⟨T1, hi, hle, hr⟩ := ih T _ h'
    exact ⟨T1, hi, hle'.trans hle, hr⟩
  | @flatMap τ e k ihe _ =>
    intro T n h
    obtain ⟨T1, hb⟩ := ihe T n h
    exact unary_ok hb _ ⟨τ, .flatMap (.ref .val (build (erase e) n).1) k⟩
      (.flatMapA (fun v => erase (k v)) (build (erase e) n).2.next) rfl
      (fun T2 n2 hlt hs => ⟨hlt, .inl ⟨τ, k, hs, rfl⟩⟩)
      (fun hr hn => .node hn (fun d σ' hx hG => rel_bindOkS d _ (hr d σ' hx hG)))
  | @flatten τ e ih =>
    intro T n h
    obtain ⟨T1, hb⟩ := ih T n h
    exact unary_ok hb _ ⟨τ, .flatten (.ref (.fut τ) (build (erase e) n).1)⟩
      (.flatMapA (fun v => .ref (unhandle v)) (build (erase e) n).2.next) rfl
      (fun T2 n2 hlt hs => ⟨hlt, .inr ⟨τ, hs, rfl⟩⟩)
      (fun hr hn => .node hn (fun d σ' hx hG => rel_joinS d (hr d σ' hx hG)))
  | transform e f ih =>
    intro T n h
    obtain ⟨T1, hb⟩ := ih T n h
    exact unary_ok hb _ ⟨.val, .transform (.ref .val (build (erase e) n).1) f⟩
      (.transformA f (build (erase e) n).2.next) rfl
      (fun T2 n2 hlt hs => ⟨hlt, hs⟩)
      (fun hr hn => .node hn (fun d σ' hx hG => rel_map d _ (hr d σ' hx hG)))
  | @transformWith τ e k ihe _ =>
    intro T n h
    obtain ⟨T1, hb⟩ := ihe T n h
    exact unary_ok hb _ ⟨τ, .transformWith (.ref .val (build (erase e) n).1) k⟩
      (.transformWithA (fun t => erase (k t)) (build (erase e) n).2.next) rfl
      (fun T2 n2 hlt hs => ⟨hlt, τ, k, hs, rfl⟩)
      (fun hr hn => .node hn (fun d σ' hx hG => rel_bindTryS d _ (hr d σ' hx hG)))
  | @recoverWith τ e d k ihe _ =>
    intro T n h
    obtain ⟨T1, hb⟩ := ihe T n h
    exact unary_ok hb _ ⟨τ, .recoverWith (.ref τ (build (erase e) n).1) d k⟩
      (.recoverWithA d (fun x => erase (k x)) (build (erase e) n).2.next) rfl
      (fun T2 n2 hlt hs => ⟨hlt, τ, k, hs, rfl⟩)
      (fun hr hn => .node hn (fun dd σ' hx hG => rel_recS dd (hr dd σ' hx hG) (fun _ => rel_refl dd _ _)))
  | @orFuture τ e alt ihe iha =>
    intro T n h
    obtain ⟨T1, hb1⟩ := ihe T n h
    obtain ⟨T2, hb2⟩ := iha T1 _ hb1.inv
    obtain ⟨hi3, hle3, hlt⟩ := node_ok hb2.inv
      (.orFuture (.ref (build (erase e) n).1) (.ref (build (erase alt) (build (erase e) n).2).1))
      ⟨τ, .orFuture (.ref τ (build (erase e) n).1) (.ref τ (build (erase alt) (build (erase e) n).2).1)⟩
      (build (erase e) n).1
      (.orFutureA (build (erase alt) (build (erase e) n).2).1 (build (erase alt) (build (erase e) n).2).2.next) rfl
      (fun T3 n3 hlt hs => ⟨hlt, τ, hs⟩)
    exact ⟨_, hi3, (hb1.le.trans hb2.le).trans hle3,
      .node ⟨Nat.le_trans hb1.le.next hb2.le.next, hlt, upd_self _ _ _⟩ (fun d σ' hx hG =>
        rel_recS d (hb1.root.mono (hb2.le.trans hle3) (Nat.le_refl _) d σ' hx hG)
          (fun _ => hb2.root.mono hle3 hb1.le.next d σ' hx hG))⟩
  | apply f =>
    intro T n h
    obtain ⟨hi, hle, hlt⟩ := inv_fresh h (.apply f) ⟨.val, .apply f⟩ rfl
    obtain ⟨hi2, hle2⟩ := inv_congr (n' := (build (.apply f) n).2) hi rfl rfl
      (fun tk htk => (List.mem_append.1 htk).elim (hi.tasks tk)
        (fun e => by rw [List.mem_singleton.1 e]; exact ⟨hlt, upd_self T _ _⟩))
      rfl rfl
    exact ⟨_, hi2, hle.trans hle2, .node ⟨Nat.le_refl _, hlt, upd_self T _ _⟩ (fun d _ _ _ => rel_refl d _ _)⟩

end FpVerif.Spec.C06.HO
