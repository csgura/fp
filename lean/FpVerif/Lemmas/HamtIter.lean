import FpVerif.Lemmas.HamtMap
/-! The explicit-stack iterator yields exactly `toList`, in that order, each entry once. -/
namespace FpVerif.Hamt
variable {K V : Type} {h : Hasher K}

theorem nextNonNil_of_lt {ns : List (Option (Node K V))} {i : Nat} (hi : i < ns.length) :
    nextNonNil ns i = (ns[i].map fun c => (i, c)).or (nextNonNil ns (i + 1)) := by
  unfold nextNonNil
  rw [List.drop_eq_getElem_cons (by simpa using hi), List.findSome?_cons, List.getElem_zipIdx]
  cases ns[i] with
  | none => simp
  | some c => simp

theorem nextNonNil_of_ge {ns : List (Option (Node K V))} {i : Nat} (hi : ns.length ≤ i) :
    nextNonNil ns i = none := by
  unfold nextNonNil
  rw [List.drop_eq_nil_of_le (by simpa using hi)]
  rfl

/-- The slots from `i` up to the one `nextNonNil` finds are empty. -/
theorem flatMap_drop_optList (ns : List (Option (Node K V))) (i : Nat) :
    (ns.drop i).flatMap optList = match nextNonNil ns i with
      | none => []
      | some (j, c) => c.toList ++ (ns.drop (j + 1)).flatMap optList := by
  induction hn : ns.length - i generalizing i with
  | zero =>
    have hi : ns.length ≤ i := Nat.le_of_sub_eq_zero hn
    rw [nextNonNil_of_ge hi, List.drop_eq_nil_of_le hi]
    rfl
  | succ n ih =>
    have hlt : i < ns.length := by omega
    rw [List.drop_eq_getElem_cons hlt, List.flatMap_cons, nextNonNil_of_lt hlt]
    cases ns[i] with
    | some c => rfl
    | none => exact ih (i + 1) (by omega)

variable {n : Node K V} {below : List (IterElem K V)}

theorem iterFirst_leaf (hl : ¬ n.isBranch) :
    iterFirst n below = .ok (⟨n, 0⟩ :: below) := by
  rw [iterFirst]
  · rfl
  · intro bm ns hn
    rw [hn] at hl
    exact hl trivial
  · intro c ns hn
    rw [hn] at hl
    exact hl trivial

theorem iterFirst_bitmap (bm : Nat) (c : Node K V) (rest : List (Node K V)) (hd : below.length + 2 ≤ 32) :
    iterFirst (.bitmap bm (c :: rest)) below = iterFirst c (⟨.bitmap bm (c :: rest), 0⟩ :: below) := by
  rw [iterFirst]
  exact if_neg (Nat.not_lt.mpr hd)

theorem iterFirst_hashArray {ns : List (Option (Node K V))} {i : Nat} {c : Node K V}
    (hf : nextNonNil ns 0 = some (i, c)) (cnt : Nat) (hd : below.length + 2 ≤ 32) :
    iterFirst (.hashArray cnt ns) below = iterFirst c (⟨.hashArray cnt ns, i⟩ :: below) := by
  rw [iterFirst]
  split
  · rename_i hn
    rw [hf] at hn
    cases hn
  · rename_i i' c' hf'
    rw [hf] at hf'
    cases hf'
    exact if_neg (Nat.not_lt.mpr hd)

theorem iterMoveStack_leaf (hl : ¬ n.isBranch) (i : Nat) :
    iterMoveStack (⟨n, i⟩ :: below) =
      if i + 1 < n.toList.length then .ok (⟨n, i + 1⟩ :: below) else iterMoveStack below := by
  cases n with
  | bitmap _ _ | hashArray _ _ => exact absurd trivial hl
  | array _ | collision _ _ | value _ _ _ =>
    simp only [toList_array, toList_collision, toList_value]
    rfl

theorem iterMoveStack_bitmap (bm : Nat) (ns : List (Node K V)) (i : Nat) (hd : below.length + 2 ≤ 32) :
    iterMoveStack (⟨.bitmap bm ns, i⟩ :: below) =
      if hi : i + 1 < ns.length then iterFirst ns[i + 1] (⟨.bitmap bm ns, i + 1⟩ :: below)
      else iterMoveStack below := by
  by_cases hi : i + 1 < ns.length
  · rw [dif_pos hi]
    refine (if_pos hi).trans ?_
    rw [List.getElem?_eq_getElem hi]
    exact if_neg (Nat.not_lt.mpr hd)
  · rw [dif_neg hi]
    exact if_neg hi

theorem iterMoveStack_hashArray (cnt : Nat) (ns : List (Option (Node K V))) (i : Nat)
    (hd : below.length + 2 ≤ 32) :
    iterMoveStack (⟨.hashArray cnt ns, i⟩ :: below) =
      match nextNonNil ns (i + 1) with
      | some (j, c) => iterFirst c (⟨.hashArray cnt ns, j⟩ :: below)
      | none => iterMoveStack below := by
  rw [iterMoveStack]
  cases nextNonNil ns (i + 1) with
  | none => rfl
  | some jc => exact if_neg (Nat.not_lt.mpr hd)

theorem next_leaf (hl : ¬ n.isBranch) {i : Nat} {e : K × V} (he : n.toList[i]? = some e) :
    (MapIter.mk (⟨n, i⟩ :: below)).next =
      (do let st ← iterMoveStack (⟨n, i⟩ :: below); pure (e, ⟨st⟩)) := by
  cases n with
  | bitmap _ _ | hashArray _ _ => exact absurd trivial hl
  | array es | collision _ es =>
    simp only [toList_array, toList_collision] at he
    simp only [MapIter.next, he]
    rfl
  | value kh k v =>
    rw [toList_value] at he
    cases i with
    | zero =>
      cases he
      rfl
    | succ i => cases he

/-- `stack[depth+1]` never overflows the 32 slots: a branch node sits at shift `5 * depth < 32`. -/
theorem WF.depth_ok {d : Nat} (hwf : WF h (5 * d) n) (hb : n.isBranch) : d + 2 ≤ 32 := by
  have hs : 5 * d < 32 := by
    cases hwf with
    | array | value | collision => exact hb.elim
    | bitmap hs => exact hs
    | hashArray hs => exact hs
  omega

theorem WF.bitmap_child {s bm : Nat} {ns : List (Node K V)} (hwf : WF h s (.bitmap bm ns))
    {c : Node K V} (hc : c ∈ ns) : WF h (s + 5) c := by
  cases hwf with
  | bitmap hs hb hlen h1 h17 hkw hks =>
    obtain ⟨b, hb⟩ := kidsB_of_mem hlen hc
    exact hkw _ hb

theorem WF.hashArray_child {s cnt : Nat} {ns : List (Option (Node K V))}
    (hwf : WF h s (.hashArray cnt ns)) {i : Nat} {c : Node K V} (hc : ns[i]? = some (some c)) :
    WF h (s + 5) c := by
  cases hwf with
  | hashArray hs hlen hcnt h16 hkw hks => exact hkw _ (mem_of_getElem?_kidsH hlen hc)

/-- what an element has to yield after its current position -/
def rest1 (f : IterElem K V) : List (K × V) :=
  match f.node with
  | .bitmap _ ns => (ns.drop (f.index + 1)).flatMap Node.toList
  | .hashArray _ ns => (ns.drop (f.index + 1)).flatMap optList
  | n => n.toList.drop (f.index + 1)

theorem rest1_bitmap (bm : Nat) (ns : List (Node K V)) (i : Nat) :
    rest1 ⟨.bitmap bm ns, i⟩ = (ns.drop (i + 1)).flatMap Node.toList := rfl

theorem rest1_hashArray (cnt : Nat) (ns : List (Option (Node K V))) (i : Nat) :
    rest1 ⟨.hashArray cnt ns, i⟩ = (ns.drop (i + 1)).flatMap optList := rfl

theorem rest1_leaf (hl : ¬ n.isBranch) (i : Nat) : rest1 ⟨n, i⟩ = n.toList.drop (i + 1) := by
  cases n with
  | bitmap _ _ | hashArray _ _ => exact absurd trivial hl
  | array _ | value _ _ _ | collision _ _ => rfl

/-- the entries an iterator in this state will still yield, in order (the top element is a leaf) -/
def remaining : List (IterElem K V) → List (K × V)
  | [] => []
  | top :: below => top.node.toList.drop top.index ++ below.flatMap rest1

/-- the element at depth `d` holds a node that is well-formed at depth `d` -/
def FramesOK (h : Hasher K) : List (IterElem K V) → Prop
  | [] => True
  | f :: below => WF h (5 * below.length) f.node ∧ FramesOK h below

/-- additionally, the top element stands on an entry of a leaf -/
def StackOK (h : Hasher K) : List (IterElem K V) → Prop
  | [] => True
  | top :: below => FramesOK h (top :: below) ∧ ¬ top.node.isBranch ∧ top.index < top.node.toList.length

/-- the stack operation `r` does not panic and leaves a stack that will yield `l` -/
def Yields (h : Hasher K) (r : GoE (List (IterElem K V))) (l : List (K × V)) : Prop :=
  ∃ st, r = .ok st ∧ StackOK h st ∧ remaining st = l

theorem iterFirst_spec_leaf {s : Nat} (hwf : WF h s n) (hl : ¬ n.isBranch) (below : List (IterElem K V))
    (hs : s = 5 * below.length) (hb : FramesOK h below) :
    Yields h (iterFirst n below) (n.toList ++ below.flatMap rest1) :=
  ⟨_, iterFirst_leaf hl, ⟨⟨hs ▸ hwf, hb⟩, hl, List.length_pos_iff.mpr hwf.toList_ne_nil⟩, rfl⟩

/-- `first()` descends to the left-most leaf below `n` -/
theorem iterFirst_spec {s : Nat} (hwf : WF h s n) :
    ∀ (below : List (IterElem K V)), s = 5 * below.length → FramesOK h below →
      Yields h (iterFirst n below) (n.toList ++ below.flatMap rest1) := by
  induction hwf with
  | array h0 hne hlen hd => exact iterFirst_spec_leaf (.array h0 hne hlen hd) id
  | value hkh => exact iterFirst_spec_leaf (.value hkh) id
  | collision h2 hh hd => exact iterFirst_spec_leaf (.collision h2 hh hd) id
  | @bitmap s bm ns hs' hbm hlen h1 h17 hkw hks ihw =>
    intro below hs hb
    subst hs
    have hwfn : WF h _ (.bitmap bm ns) := .bitmap hs' hbm hlen h1 h17 hkw hks
    obtain ⟨c, rest, rfl⟩ := List.exists_cons_of_length_pos h1
    obtain ⟨b, hmem⟩ := kidsB_of_mem hlen List.mem_cons_self
    rw [iterFirst_bitmap bm c rest (hwfn.depth_ok trivial), toList_bitmap, List.flatMap_cons, List.append_assoc]
    exact ihw (b, c) hmem (⟨.bitmap bm (c :: rest), 0⟩ :: below) rfl ⟨hwfn, hb⟩
  | @hashArray s cnt ns hs' hlen hcnt h16 hkw hks ihw =>
    intro below hs hb
    subst hs
    have hwfn : WF h _ (.hashArray cnt ns) := .hashArray hs' hlen hcnt h16 hkw hks
    have hfl : ns.flatMap optList = _ := flatMap_drop_optList ns 0
    cases hf : nextNonNil ns 0 with
    | none =>
      rw [hf] at hfl
      exact absurd ((toList_hashArray cnt ns).trans hfl) hwfn.toList_ne_nil
    | some ic =>
      obtain ⟨i, c⟩ := ic
      rw [hf] at hfl
      rw [iterFirst_hashArray hf cnt (hwfn.depth_ok trivial), toList_hashArray, hfl, List.append_assoc]
      exact ihw (i, c) (mem_of_getElem?_kidsH hlen (nextNonNil_getElem? hf)) (⟨.hashArray cnt ns, i⟩ :: below) rfl
        ⟨hwfn, hb⟩

/-- `moveStack()` advances to the next entry (or empties the stack) -/
theorem iterMoveStack_spec : ∀ (st : List (IterElem K V)), FramesOK h st →
    Yields h (iterMoveStack st) (st.flatMap rest1) := by
  intro st
  induction st with
  | nil => exact fun _ => ⟨[], rfl, trivial, rfl⟩
  | cons f below ih =>
    intro ⟨hwf, hb⟩
    obtain ⟨node, i⟩ := f
    rw [List.flatMap_cons]
    by_cases hbr : node.isBranch
    · have hd := hwf.depth_ok hbr
      cases node with
      | array _ | value _ _ _ | collision _ _ => exact hbr.elim
      | bitmap bm ns =>
        rw [iterMoveStack_bitmap bm ns i hd, rest1_bitmap]
        by_cases hlt : i + 1 < ns.length
        · rw [dif_pos hlt, List.drop_eq_getElem_cons hlt, List.flatMap_cons, List.append_assoc]
          exact iterFirst_spec (hwf.bitmap_child (List.getElem_mem hlt)) (⟨.bitmap bm ns, i + 1⟩ :: below) rfl
            ⟨hwf, hb⟩
        · rw [dif_neg hlt, List.drop_eq_nil_of_le (Nat.le_of_not_lt hlt)]
          exact ih hb
      | hashArray cnt ns =>
        rw [iterMoveStack_hashArray cnt ns i hd, rest1_hashArray, flatMap_drop_optList]
        cases hf : nextNonNil ns (i + 1) with
        | none => exact ih hb
        | some jc =>
          obtain ⟨j, c⟩ := jc
          dsimp only
          rw [List.append_assoc]
          exact iterFirst_spec (hwf.hashArray_child (nextNonNil_getElem? hf)) (⟨.hashArray cnt ns, j⟩ :: below) rfl
            ⟨hwf, hb⟩
    · rw [iterMoveStack_leaf hbr, rest1_leaf hbr]
      by_cases hlt : i + 1 < node.toList.length
      · rw [if_pos hlt]
        exact ⟨_, rfl, ⟨⟨hwf, hb⟩, hbr, hlt⟩, rfl⟩
      · rw [if_neg hlt, List.drop_eq_nil_of_le (Nat.le_of_not_lt hlt)]
        exact ih hb

/-- `next` yields the head of what remains -/
theorem MapIter.next_spec {f : IterElem K V} (hok : StackOK h (f :: below)) :
    ∃ e st', (MapIter.mk (f :: below)).next = .ok (e, ⟨st'⟩) ∧ StackOK h st' ∧
      remaining (f :: below) = e :: remaining st' := by
  obtain ⟨hfr, hl, hi⟩ := hok
  obtain ⟨st', hmv, hok', hrem'⟩ := iterMoveStack_spec (f :: below) hfr
  obtain ⟨n, i⟩ := f
  refine ⟨n.toList[i], st', ?_, hok', ?_⟩
  · rw [next_leaf hl (List.getElem?_eq_getElem hi), hmv]
    rfl
  · rw [hrem', List.flatMap_cons, rest1_leaf hl, remaining, List.drop_eq_getElem_cons hi]
    rfl

/-- draining an iterator yields exactly what remains -/
theorem MapIter.collect_spec : ∀ (fuel : Nat) {st : List (IterElem K V)}, StackOK h st →
    (remaining st).length ≤ fuel → (MapIter.mk st).collect fuel = .ok (remaining st) := by
  intro fuel
  induction fuel with
  | zero =>
    intro st hok hlen
    cases st with
    | nil => rfl
    | cons f below =>
      obtain ⟨e, st', _, _, hrem⟩ := MapIter.next_spec hok
      rw [hrem] at hlen
      exact absurd hlen (Nat.not_succ_le_zero _)
  | succ fuel ih =>
    intro st hok hlen
    cases st with
    | nil => rfl
    | cons f below =>
      obtain ⟨e, st', hnext, hok', hrem⟩ := MapIter.next_spec hok
      rw [hrem] at hlen ⊢
      have := ih hok' (Nat.le_of_succ_le_succ hlen)
      simp [MapIter.collect, MapIter.hasNext, hnext, this, bind, Except.bind, pure, Except.pure]

/-- `Iterator()` of a well-formed map yields its entries, each once, in trie order, without panic -/
theorem Hamt.iterList_spec {m : Hamt K V} (hwf : Hamt.Inv h m) : m.iterList = .ok m.toList := by
  rw [Hamt.toList_eq_optList]
  unfold Hamt.iterList Hamt.iterator
  cases hr : m.root with
  | none => rfl
  | some root =>
    obtain ⟨hw, hsize⟩ := hwf.root hr
    obtain ⟨st, hst, hok, hrem⟩ := iterFirst_spec hw [] rfl trivial
    rw [List.flatMap_nil, List.append_nil] at hrem
    have := MapIter.collect_spec (m.size + 1) hok (by rw [hrem, hsize]; exact Nat.le_succ _)
    rw [hrem] at this
    simp only [hst, bind, Except.bind, pure, Except.pure]
    exact this

end FpVerif.Hamt
