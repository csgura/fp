import FpVerif.Model.MemoPanic
import FpVerif.Lemmas.ConcProgress
/-!
# Invariant of the concurrent `sync.Once` cell with a thunk that returns or panics (`Model/MemoPanic.lean`)

The property statements are in `Spec/C16Panic.lean`; here: weights summed over the goroutines; `step` as a relation
(`Move`, `step_spec`: a step stutters or performs one of eight moves); the invariant (the goroutine that is past
`Lock()` is alone there and its position determines the shared variables; the panic of `f` is in flight or has been
delivered to exactly one call) and its preservation by every move.
-/
namespace FpVerif.MemoPanic
open FpVerif.Sched

variable {T : Type}

def sumW (w : Thread T → Nat) (ts : List (Thread T)) : Nat := (ts.map w).sum

@[simp] theorem sumW_nil (w : Thread T → Nat) : sumW w [] = 0 := rfl
@[simp] theorem sumW_cons (w : Thread T → Nat) (t : Thread T) (ts : List (Thread T)) :
    sumW w (t :: ts) = w t + sumW w ts := by simp [sumW]

/-- `sumW` is what the statements of `Spec/C16Panic` speak of; the invariant and the measure are sums `Sched.sumBy`,
    so that the counting lemmas of the other interleaving machines (`Lemmas/ConcProgress`) apply -/
theorem sumW_eq (w : Thread T → Nat) (ts : List (Thread T)) : sumW w ts = sumBy w ts :=
  (sumBy_eq_sum_map w ts).symm

theorem sumW_eq_zero_mem (w : Thread T → Nat) (ts : List (Thread T)) (h : sumW w ts = 0)
    (t : Thread T) (ht : t ∈ ts) : w t = 0 :=
  Nat.le_zero.mp (h ▸ le_sum_map_of_mem w ht)

theorem sumW_pos_of_mem (w : Thread T → Nat) (ts : List (Thread T)) (t : Thread T) (ht : t ∈ ts)
    (h : 0 < w t) : 0 < sumW w ts :=
  Nat.lt_of_lt_of_le h (le_sum_map_of_mem w ht)

theorem exists_pos_of_sumW_pos (w : Thread T → Nat) (ts : List (Thread T)) (h : 0 < sumW w ts) :
    ∃ (i : Nat) (t : Thread T), ts[i]? = some t ∧ 0 < w t :=
  exists_pos_of_sum_map_pos w h

theorem sumBy_init (w : Thread T → Nat) (progs : List Nat)
    (hw : ∀ n, w { todo := n, pc := .idle, results := [] } = 0) :
    sumBy w (progs.map (fun n => ({ todo := n, pc := .idle, results := [] } : Thread T))) = 0 :=
  sumBy_eq_zero fun _ hx => by
    obtain ⟨n, _, rfl⟩ := List.mem_map.mp hx
    exact hw n

theorem forall_mem_set {P : Thread T → Prop} {ts : List (Thread T)} {i : Nat} {new : Thread T}
    (h : ∀ t ∈ ts, P t) (hn : P new) : ∀ t ∈ ts.set i new, P t :=
  FpVerif.forall_mem_set h hn

theorem forall_idx_set {P : Nat → Thread T → Prop} {ts : List (Thread T)} {i : Nat} {new : Thread T}
    (h : ∀ j t, ts[j]? = some t → P j t) (hn : P i new) : ∀ j t, (ts.set i new)[j]? = some t → P j t :=
  forall_getElem?_set hn fun j t _ => h j t

/-- An atomic step that changes something: goroutine `i` goes from `t` to `t'`, the shared variables from those of
    `s` to those of `g` (the `threads` of `g` are not looked at). -/
inductive Move (out : Nat → Out T) (i : Nat) (s : Sys T) : Thread T → Sys T → Thread T → Prop
  | fast {k rs} (hd : s.done = true) : Move out i s ⟨k + 1, .idle, rs⟩ s ⟨k, .idle, rs ++ [.returned s.ret]⟩
  | slow {k rs} (hd : s.done = false) : Move out i s ⟨k + 1, .idle, rs⟩ s ⟨k, .locking, rs⟩
  | lock {n rs} (hm : s.mutex = false) : Move out i s ⟨n, .locking, rs⟩ { s with mutex := true } ⟨n, .locked, rs⟩
  | lost {n rs} (hd : s.done = true) :
      Move out i s ⟨n, .locked, rs⟩ { s with mutex := false } ⟨n, .idle, rs ++ [.returned s.ret]⟩
  | start {n rs} (hd : s.done = false) :
      Move out i s ⟨n, .locked, rs⟩ { s with runs := s.runs + 1, runner := some i } ⟨n, .running s.runs, rs⟩
  | finish {n k rs} :
      Move out i s ⟨n, .running k, rs⟩
        { s with ret := match out k with
                        | .value v => v
                        | .panic _ => s.ret,
                 finished := s.finished + 1 }
        ⟨n, .stored (out k), rs⟩
  | store {n o rs} : Move out i s ⟨n, .stored o, rs⟩ { s with done := true } ⟨n, .unlocking o, rs⟩
  | unlock {n o rs} :
      Move out i s ⟨n, .unlocking o, rs⟩ { s with mutex := false }
        ⟨n, .idle, rs ++ [match o with
                          | .value _ => .returned s.ret
                          | .panic p => .panicked p]⟩

theorem step_none (out : Nat → Out T) {s : Sys T} {i : Nat} (h : s.threads[i]? = none) : step out s i = s := by
  simp only [step, h]

theorem step_spec (out : Nat → Out T) {s : Sys T} {i : Nat} {t : Thread T} (hti : s.threads[i]? = some t) :
    (step out s i = s ∧ (t.quiet = true ∨ t.pc = .locking ∧ s.mutex = true))
    ∨ ∃ g t', Move out i s t g t' ∧ step out s i = { g with threads := s.threads.set i t' } := by
  obtain ⟨todo, pc, rs⟩ := t
  cases pc <;> simp only [step, hti]
  case idle =>
    cases todo with
    | zero => exact .inl ⟨rfl, .inl rfl⟩
    | succ k =>
      by_cases hd : s.done = true
      · exact .inr ⟨_, _, .fast hd, if_pos hd⟩
      · exact .inr ⟨_, _, .slow (Bool.eq_false_iff.mpr hd), if_neg hd⟩
  case locking =>
    by_cases hm : s.mutex = true
    · exact .inl ⟨if_pos hm, .inr ⟨trivial, hm⟩⟩
    · exact .inr ⟨_, _, .lock (Bool.eq_false_iff.mpr hm), if_neg hm⟩
  case locked =>
    by_cases hd : s.done = true
    · exact .inr ⟨_, _, .lost hd, if_pos hd⟩
    · exact .inr ⟨_, _, .start (Bool.eq_false_iff.mpr hd), if_neg hd⟩
  case running k =>
    refine .inr ⟨_, _, .finish, ?_⟩
    cases out k <;> rfl
  case stored o => exact .inr ⟨_, _, .store, rfl⟩
  case unlocking o => exact .inr ⟨_, _, .unlock, rfl⟩

theorem Move.not_quiet {out : Nat → Out T} {i : Nat} {s g : Sys T} {t t' : Thread T} (h : Move out i s t g t') :
    t.quiet = false := by
  cases h <;> rfl

/-- holds the mutex -/
def Thread.holds (t : Thread T) : Bool :=
  match t.pc with
  | .locked | .running _ | .stored _ | .unlocking _ => true
  | _ => false

def Out.isPanic : Out T → Bool
  | .panic _ => true
  | .value _ => false

/-- between `done.Store(1)` and `Unlock()`, unwinding a panic -/
def wUnlP (t : Thread T) : Nat :=
  match t.pc with
  | .unlocking (.panic _) => 1
  | _ => 0

/-- number of calls of this goroutine that ended in a panic -/
def wPan (t : Thread T) : Nat := (t.results.filter Res.isPanic).length

/-- inside a call -/
def wBusy (t : Thread T) : Nat :=
  match t.pc with
  | .idle => 0
  | _ => 1

theorem wPan_snoc (n n' : Nat) (pc pc' : PC T) (rs : List (Res T)) (r : Res T) :
    wPan ⟨n, pc, rs ++ [r]⟩ = wPan ⟨n', pc', rs⟩ + if r.isPanic then 1 else 0 := by
  simp only [wPan, List.filter_append, List.length_append]
  cases h : r.isPanic <;> simp [List.filter, h]

/-- calls of this goroutine that have ended, or are about to end, in a panic -/
def wPanic (t : Thread T) : Nat := wPan t + wUnlP t

theorem wPanic_answer (n n' : Nat) (pc : PC T) (rs : List (Res T)) (r : Res T)
    (h : wUnlP ⟨n', pc, rs⟩ = if r.isPanic then 1 else 0) :
    wPanic ⟨n, .idle, rs ++ [r]⟩ = wPanic ⟨n', pc, rs⟩ := by
  simp only [wPanic, wPan_snoc n n' .idle pc, h]
  rfl

/-- what the position of goroutine `j` inside `once.Do` says about the shared variables -/
def Phase (out : Nat → Out T) (done : Bool) (runs finished : Nat) (runner : Option Nat) (j : Nat) : PC T → Prop
  | .idle | .locking => True
  | .locked => done = false → runs = 0 ∧ finished = 0
  | .running k => k = 0 ∧ done = false ∧ runs = 1 ∧ finished = 0 ∧ runner = some j
  | .stored o => o = out 0 ∧ done = false ∧ runs = 1 ∧ finished = 1 ∧ runner = some j
  | .unlocking o => o = out 0 ∧ done = true ∧ runner = some j

/-- the answers goroutine `j` has got so far: none before `done` is set; every value is the memo; a panic only
    for the goroutine that ran `f`, and it is `f`'s panic -/
def Answers (zero : T) (out : Nat → Out T) (done : Bool) (runner : Option Nat) (j : Nat) (rs : List (Res T)) : Prop :=
  (rs ≠ [] → done = true) ∧ (∀ v, Res.returned v ∈ rs → v = memoVal zero out)
  ∧ ∀ p, Res.panicked p ∈ rs → runner = some j ∧ out 0 = .panic p

structure Inv (zero : T) (out : Nat → Out T) (s : Sys T) : Prop where
  hold : sumBy (fun t => if t.holds then 1 else 0) s.threads = if s.mutex then 1 else 0
  free : s.mutex = false → s.done = false → s.runs = 0 ∧ s.finished = 0
  fin : s.done = true → s.runs = 1 ∧ s.finished = 1
  runs_le : s.runs ≤ 1
  ret : s.ret = if 0 < s.finished then memoVal zero out else zero
  /-- the panic of `f` is in flight or has been delivered, to exactly one call -/
  pan : sumBy wPanic s.threads = if s.done && (out 0).isPanic then 1 else 0
  thr : ∀ j t, s.threads[j]? = some t →
          Phase out s.done s.runs s.finished s.runner j t.pc ∧ Answers zero out s.done s.runner j t.results

theorem inv_init (zero : T) (out : Nat → Out T) (progs : List Nat) : Inv zero out (init zero progs) where
  hold := sumBy_init _ _ (fun _ => rfl)
  free := fun _ _ => ⟨rfl, rfl⟩
  fin := fun h => by simp [init] at h
  runs_le := Nat.zero_le 1
  ret := rfl
  pan := by
    simp only [init, Bool.false_and, Bool.false_eq_true, if_false]
    exact sumBy_init _ _ (fun _ => rfl)
  thr := by
    intro j t ht
    have hm := List.mem_of_getElem? ht
    simp only [init, List.mem_map] at hm
    obtain ⟨n, _, rfl⟩ := hm
    exact ⟨trivial, fun h => absurd rfl h, fun _ h => absurd h List.not_mem_nil, fun _ h => absurd h List.not_mem_nil⟩

theorem Inv.ret_of_done {zero : T} {out : Nat → Out T} {s : Sys T} (h : Inv zero out s) (hd : s.done = true) :
    s.ret = memoVal zero out := by
  rw [h.ret, (h.fin hd).2]; rfl

/-- who holds the mutex holds it alone -/
theorem Inv.others_free {zero : T} {out : Nat → Out T} {s : Sys T} (h : Inv zero out s) {i : Nat} {t : Thread T}
    (hti : s.threads[i]? = some t) (ht : t.holds = true) :
    s.mutex = true ∧ ∀ j t', j ≠ i → s.threads[j]? = some t' → t'.holds = false := by
  have h1 := sumBy_ind_pos (p := Thread.holds) hti ht
  have h2 := h.hold
  refine ⟨?_, fun j t' hji hj => ?_⟩
  · cases hm : s.mutex with
    | true => rfl
    | false => rw [hm] at h2; exact absurd (h2 ▸ h1) (by decide)
  · cases hh : t'.holds with
    | false => rfl
    | true => exact absurd (eq_of_sumBy_ind_le_one (by rw [h2]; split <;> decide) hj hti hh ht) hji

theorem phase_of_free {out : Nat → Out T} {d : Bool} {r f : Nat} {rn : Option Nat} {j : Nat} {t : Thread T}
    (h : t.holds = false) : Phase out d r f rn j t.pc := by
  unfold Thread.holds at h
  cases hp : t.pc <;> simp [hp] at h <;> trivial

/-- one more answer, once `done` is set -/
theorem Answers.snoc {zero : T} {out : Nat → Out T} {d : Bool} {rn : Option Nat} {j : Nat} {rs : List (Res T)}
    (h : Answers zero out d rn j rs) (hd : d = true) (r : Res T)
    (hr : match r with
      | .returned v => v = memoVal zero out
      | .panicked p => rn = some j ∧ out 0 = .panic p) : Answers zero out d rn j (rs ++ [r]) := by
  refine ⟨fun _ => hd, fun v hv => ?_, fun p hp => ?_⟩
  · rcases List.mem_append.mp hv with hv | hv
    · exact h.2.1 v hv
    · cases List.mem_singleton.mp hv
      exact hr
  · rcases List.mem_append.mp hp with hp | hp
    · exact h.2.2 p hp
    · cases List.mem_singleton.mp hp
      exact hr

theorem Answers.done_true {zero : T} {out : Nat → Out T} {d : Bool} {rn : Option Nat} {j : Nat} {rs : List (Res T)}
    (h : Answers zero out d rn j rs) : Answers zero out true rn j rs :=
  ⟨fun _ => rfl, h.2⟩

/-- before `done` is set nobody has an answer, so it does not matter who the runner is -/
theorem Answers.runner_irrel {zero : T} {out : Nat → Out T} {d : Bool} {rn rn' : Option Nat} {j : Nat}
    {rs : List (Res T)} (h : Answers zero out d rn j rs) (hd : d = false) : Answers zero out d rn' j rs := by
  cases rs with
  | nil => exact ⟨fun h => absurd rfl h, fun _ h => absurd h List.not_mem_nil, fun _ h => absurd h List.not_mem_nil⟩
  | cons r rs => exact absurd ((h.1 (List.cons_ne_nil r rs)).symm.trans hd) (by decide)

theorem inv_step {zero : T} {out : Nat → Out T} {s : Sys T} (h : Inv zero out s) (i : Nat) :
    Inv zero out (step out s i) := by
  cases hti : s.threads[i]? with
  | none => rw [step_none out hti]; exact h
  | some t =>
    rcases step_spec out hti with ⟨he, _⟩ | ⟨g, t', hm, he⟩
    · rw [he]; exact h
    rw [he]
    obtain ⟨hph, hans⟩ := h.thr i t hti
    have hfree := h.others_free hti
    cases hm with
    | fast hd =>
      exact { h with
        hold := sumBy_set_of_eq hti (by rfl) h.hold
        pan := sumBy_set_of_eq hti (by exact wPanic_answer _ _ _ _ _ rfl) h.pan
        thr := forall_idx_set h.thr ⟨trivial, hans.snoc hd _ (h.ret_of_done hd)⟩ }
    | slow hd =>
      exact { h with
        hold := sumBy_set_of_eq hti (by rfl) h.hold
        pan := sumBy_set_of_eq hti (by rfl) h.pan
        thr := forall_idx_set h.thr ⟨trivial, hans⟩ }
    | lock hmx =>
      exact { h with
        hold := sumBy_set_eq hti (by rw [h.hold, hmx]; rfl)
        free := fun hf => nomatch hf
        pan := sumBy_set_of_eq hti (by rfl) h.pan
        thr := forall_idx_set h.thr ⟨h.free hmx, hans⟩ }
    | lost hd =>
      exact { h with
        hold := sumBy_set_eq hti (by rw [h.hold, (hfree rfl).1]; rfl)
        free := fun _ hf => absurd (hd.symm.trans hf) (by decide)
        pan := sumBy_set_of_eq hti (by exact wPanic_answer _ _ _ _ _ rfl) h.pan
        thr := forall_idx_set h.thr ⟨trivial, hans.snoc hd _ (h.ret_of_done hd)⟩ }
    | start hd =>
      obtain ⟨hr, hf⟩ := hph hd
      exact { h with
        hold := sumBy_set_of_eq hti (by rfl) h.hold
        free := fun hf => absurd ((hfree rfl).1.symm.trans hf) (by decide)
        fin := fun hf => absurd (hd.symm.trans hf) (by decide)
        runs_le := by rw [hr]; exact Nat.le_refl 1
        pan := sumBy_set_of_eq hti (by rfl) h.pan
        thr := forall_getElem?_set ⟨⟨hr, hd, by rw [hr], hf, rfl⟩, hans.runner_irrel hd⟩
          (fun j t' hji hj => ⟨phase_of_free ((hfree rfl).2 j t' hji hj), (h.thr j t' hj).2.runner_irrel hd⟩) }
    | finish =>
      obtain ⟨rfl, hd, hr, hf, hrn⟩ := hph
      exact { h with
        hold := sumBy_set_of_eq hti (by rfl) h.hold
        free := fun hf => absurd ((hfree rfl).1.symm.trans hf) (by decide)
        fin := fun hf => absurd (hd.symm.trans hf) (by decide)
        ret := by
          have hz := h.ret
          rw [hf] at hz
          show _ = if 0 < s.finished + 1 then _ else _
          rw [if_pos (Nat.succ_pos _), memoVal]
          cases out 0 with
          | value v => rfl
          | panic p => exact hz
        pan := sumBy_set_of_eq hti (by rfl) h.pan
        thr := forall_getElem?_set ⟨⟨rfl, hd, hr, by rw [hf], hrn⟩, hans⟩
          (fun j t' hji hj => ⟨phase_of_free ((hfree rfl).2 j t' hji hj), (h.thr j t' hj).2⟩) }
    | @store n o rs =>
      obtain ⟨ho, hd, hr, hf, hrn⟩ := hph
      exact { h with
        hold := sumBy_set_of_eq hti (by rfl) h.hold
        free := fun _ hf => nomatch hf
        fin := fun _ => ⟨hr, hf⟩
        pan := sumBy_set_eq hti (by
          rw [h.pan, hd, ← ho]
          cases o <;> simp [wPanic, wPan, wUnlP, Out.isPanic, Nat.add_comm])
        thr := forall_getElem?_set ⟨⟨ho, rfl, hrn⟩, hans.done_true⟩
          (fun j t' hji hj => ⟨phase_of_free ((hfree rfl).2 j t' hji hj), (h.thr j t' hj).2.done_true⟩) }
    | @unlock n o rs =>
      obtain ⟨ho, hd, hrn⟩ := hph
      exact { h with
        hold := sumBy_set_eq hti (by rw [h.hold, (hfree rfl).1]; rfl)
        free := fun _ hf => absurd (hd.symm.trans hf) (by decide)
        pan := sumBy_set_of_eq hti (by exact wPanic_answer _ _ _ _ _ (by cases o <;> rfl)) h.pan
        thr := forall_idx_set h.thr ⟨trivial, by
          cases o with
          | value v => exact hans.snoc hd _ (h.ret_of_done hd)
          | panic p => exact hans.snoc hd _ ⟨hrn, ho.symm⟩⟩ }

end FpVerif.MemoPanic
