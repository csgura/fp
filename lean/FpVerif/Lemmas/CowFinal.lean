import FpVerif.Lemmas.CowInv
import FpVerif.Lemmas.CowMap
/-!
Consequences of the CopyOnWriteMap invariant used by Spec/C19.
-/
namespace FpVerif.Cow
open FpVerif.Sched

/-! ### ComputeIfAbsent on the atomic map -/

/-- `ComputeIfAbsent k f` as an operation: no user predicate, the constant-false one -/
def Op.isCiaOn (k : K) : Op → Prop
  | .computeIf k' none pred _ _ => k' = k ∧ ∀ x, pred x = false
  | _ => False

theorem cia_apply {op : Op} {k : K} (h : op.isCiaOn k) (m : AMap) :
    ∃ v, (op.apply m).2 = .val v ∧ AMap.get (op.apply m).1 k = some v ∧
      (∀ v0, AMap.get m k = some v0 → v = v0 ∧ (op.apply m).1 = m) := by
  cases op with
  | computeIf k' pid pred fid nv =>
    cases pid with
    | some p => exact h.elim
    | none =>
      obtain ⟨rfl, hp⟩ := h
      simp only [Op.apply, computeIfMap]
      cases hg : AMap.get m k' with
      | none => exact ⟨nv, rfl, AMap.get_put_self m k' nv, by simp⟩
      | some x => simp [hp x, hg]
  | _ => exact h.elim

theorem cia_writes {op : Op} {k : K} (h : op.isCiaOn k) : op.writes k := by
  cases op with
  | computeIf k' pid pred fid nv =>
    cases pid with
    | some p => exact h.elim
    | none => exact h.1
  | _ => exact h.elim

/-- On the atomic map: if the only operations that write `k` are `ComputeIfAbsent k`, every one
    of them returns the value bound to `k` at the end, and a binding present at the start stays. -/
theorem seq_cia_agree (k : K) : ∀ (ops : List Op) (m : AMap),
    (∀ op ∈ ops, op.writes k → op.isCiaOn k) →
    (∀ v0, AMap.get m k = some v0 → AMap.get (seqRun m ops).1 k = some v0) ∧
    (∀ (i : Nat) (op : Op) (r : Ret), ops[i]? = some op → (seqRun m ops).2[i]? = some r → op.isCiaOn k →
      ∃ v, r = .val v ∧ AMap.get (seqRun m ops).1 k = some v)
  | [], m, _ => by simp [seqRun]
  | o :: os, m, h => by
    have ih := seq_cia_agree k os (o.apply m).1 (fun op hop => h op (by simp [hop]))
    by_cases hw : o.writes k
    · have hc := h o (by simp) hw
      obtain ⟨v, hv1, hv2, hv3⟩ := cia_apply hc m
      refine ⟨fun v0 h0 => ?_, fun i op r hi hr hcia => ?_⟩
      · obtain ⟨rfl, hm⟩ := hv3 v0 h0
        simp only [seqRun]
        exact ih.1 v hv2
      · cases i with
        | zero =>
          simp at hi; subst hi
          simp [seqRun] at hr; subst hr
          exact ⟨v, hv1, by simpa [seqRun] using ih.1 v hv2⟩
        | succ n =>
          simp at hi
          simp [seqRun] at hr
          simpa [seqRun] using ih.2 n op r hi hr hcia
    · have hf := apply_frame hw m
      refine ⟨fun v0 h0 => ?_, fun i op r hi hr hcia => ?_⟩
      · simp only [seqRun]; exact ih.1 v0 (by rw [hf]; exact h0)
      · cases i with
        | zero =>
          simp at hi; subst hi
          exact absurd (cia_writes hcia) hw
        | succ n =>
          simp at hi
          simp [seqRun] at hr
          simpa [seqRun] using ih.2 n op r hi hr hcia

/-! ### linearized operations come from the programs -/

theorem mem_linsOf {h : List HEv} {op : Op} {r : Ret} (hm : (op, r) ∈ linsOf h) :
    ∃ t i, HEv.lin t i op r ∈ h := by
  induction h with
  | nil => simp [linsOf] at hm
  | cons e es ih =>
    cases e with
    | lin t i o x =>
      simp only [linsOf, List.mem_cons, Prod.mk.injEq] at hm
      rcases hm with ⟨rfl, rfl⟩ | hm
      · exact ⟨t, i, by simp⟩
      · obtain ⟨t', i', h'⟩ := ih hm; exact ⟨t', i', by simp [h']⟩
    | call t i o => obtain ⟨t', i', h'⟩ := ih (by simpa [linsOf] using hm); exact ⟨t', i', by simp [h']⟩
    | ret t i x => obtain ⟨t', i', h'⟩ := ih (by simpa [linsOf] using hm); exact ⟨t', i', by simp [h']⟩

theorem lin_mem_doneEvents {t i n : Nat} {op : Op} {r : Ret} {ds : List (Op × Ret)}
    (h : HEv.lin t i op r ∈ doneEvents t n ds) : op ∈ ds.map (·.1) := by
  induction ds generalizing n with
  | nil => simp [doneEvents] at h
  | cons d rest ih =>
    obtain ⟨o, x⟩ := d
    simp only [doneEvents, List.mem_cons] at h
    rcases h with h | h | h | h
    · cases h
    · injection h with _ _ h3 _; simp [h3]
    · cases h
    · have := ih h; simp [this]

theorem lin_op_in_prog {progs : List (List Op)} {s : CSys} (hinv : Inv progs s) {op : Op} {r : Ret}
    (hm : (op, r) ∈ linsOf s.shared.hist) : ∃ p ∈ progs, op ∈ p := by
  obtain ⟨t, i, he⟩ := mem_linsOf hm
  have hlt := hinv.evtid _ he
  simp only [HEv.tid] at hlt
  obtain ⟨l, hl⟩ : ∃ l, s.threads[t]? = some l := ⟨s.threads[t], by simp [hlt]⟩
  have htid := hinv.tids t l hl
  have hlm := List.mem_of_getElem? hl
  have hview := hinv.views l hlm
  have hin : HEv.lin t i op r ∈ proj l.tid s.shared.hist := by
    simp only [proj, List.mem_filter]
    exact ⟨he, by simp [HEv.tid, htid]⟩
  rw [hview, expected, List.mem_append] at hin
  refine ⟨l.ops, by rw [← hinv.ops]; exact List.mem_map.mpr ⟨l, hlm, rfl⟩, ?_⟩
  rcases hin with hin | hin
  · rw [htid] at hin
    have := lin_mem_doneEvents hin
    simp [Local.ops, this]
  · unfold curEvents at hin
    cases hp : l.phase with
    | finished => simp [hp] at hin
    | running o pc =>
      simp only [hp, List.mem_cons] at hin
      rcases hin with hin | hin
      · exact absurd hin (by simp)
      · cases pc <;> simp at hin
        obtain ⟨_, _, rfl, _⟩ := hin
        simp [Local.ops, hp]

/-! ### order of events -/

/-- `a` occurs before `b` -/
def Before (a b : HEv) (h : List HEv) : Prop := ∃ h1 h2 h3, h = h1 ++ a :: h2 ++ b :: h3

theorem before_of_filter {p : HEv → Bool} {a b : HEv} {h : List HEv}
    (hb : ∃ x y z, h.filter p = x ++ a :: y ++ b :: z) : ∃ h1 h2 h3, h = h1 ++ a :: h2 ++ b :: h3 := by
  obtain ⟨x, y, z, hf⟩ := hb
  simp only [List.append_assoc, List.cons_append] at hf
  obtain ⟨l1, l2, rfl, h1, h2⟩ := List.filter_eq_append_iff.mp hf
  obtain ⟨m1, m2, rfl, _, _, h3⟩ := List.filter_eq_cons_iff.mp h2
  obtain ⟨n1, n2, rfl, _, h4⟩ := List.filter_eq_append_iff.mp h3
  obtain ⟨o1, o2, rfl, _, _, _⟩ := List.filter_eq_cons_iff.mp h4
  exact ⟨l1 ++ m1, n1 ++ o1, o2, by simp⟩

/-- the events of a completed operation occur in the order call, lin, ret -/
theorem doneEvents_order {t n : Nat} {ds : List (Op × Ret)} {j : Nat} {op : Op} {r : Ret}
    (hj : ds[j]? = some (op, r)) :
    ∃ x z, doneEvents t n ds = x ++ HEv.call t (n + j) op :: HEv.lin t (n + j) op r :: HEv.ret t (n + j) r :: z := by
  induction ds generalizing n j with
  | nil => simp at hj
  | cons d rest ih =>
    obtain ⟨o, x⟩ := d
    cases j with
    | zero =>
      simp at hj
      obtain ⟨rfl, rfl⟩ := hj
      exact ⟨[], doneEvents t (n + 1) rest, by simp [doneEvents]⟩
    | succ j' =>
      simp at hj
      obtain ⟨x', z', h'⟩ := ih (n := n + 1) hj
      refine ⟨HEv.call t n o :: HEv.lin t n o x :: HEv.ret t n x :: x', z', ?_⟩
      simp only [doneEvents, h']
      have : n + 1 + j' = n + (j' + 1) := by omega
      simp [this]


/-! ### the defect is confined to ComputeIf -/

theorem stepT_asIs_eq (sh : Shared) (l : Local) (h : ∀ op ∈ l.ops, op.isCif = false) :
    stepT .asIs sh l = stepT .recheck sh l := by
  unfold stepT
  cases hp : l.phase with
  | finished => rfl
  | running op pc =>
    have hop : op.isCif = false := h op (by simp [Local.ops, hp])
    cases pc with
    | enter =>
      have : writeBody .asIs op sh.map = writeBody .recheck op sh.map := by
        cases op <;> simp [Op.isCif] at hop <;> rfl
      simp only [this]
    | store nm out =>
      have h1 : isAsIsComputeIf .asIs op = false := by cases op <;> simp [Op.isCif] at hop <;> rfl
      have h2 : isAsIsComputeIf .recheck op = false := isAsIs_recheck op
      simp only [h1, h2]
    | _ => rfl

theorem run_asIs_eq {progs : List (List Op)} (hno : ∀ p ∈ progs, ∀ op ∈ p, op.isCif = false)
    (sched : List Tid) : ∀ (s : CSys), Inv progs s → crun .asIs s sched = crun .recheck s sched := by
  induction sched with
  | nil => intro s _; rfl
  | cons t ts ih =>
    intro s hinv
    have hstep : step (stepT .asIs) s t = step (stepT .recheck) s t := by
      unfold step
      cases hl : s.threads[t]? with
      | none => rfl
      | some l =>
        have hlm := List.mem_of_getElem? hl
        have : l.ops ∈ progs := by rw [← hinv.ops]; exact List.mem_map.mpr ⟨l, hlm, rfl⟩
        simp only [stepT_asIs_eq s.shared l (hno l.ops this)]
    show run (stepT .asIs) (stepOr (stepT .asIs) s t) ts = run (stepT .recheck) (stepOr (stepT .recheck) s t) ts
    unfold stepOr
    rw [hstep]
    cases hs : step (stepT .recheck) s t with
    | none => exact ih s hinv
    | some s' => exact ih s' (Inv_step s t s' hinv hs)

end FpVerif.Cow
