import FpVerif.Model.HamtHeap
/-!
Basic facts about the heap monad of `Model/HamtHeap.lean`: evaluation lemmas, heap extension
(`Heap.le`: every old address keeps its cell), and `Pres` — "this heap transformer only allocates".
-/
namespace FpVerif.HamtHeap
open FpVerif.Hamt
variable {K V : Type} {α β : Type}

-- evaluation ---------------------------------------------------------------------------------------

theorem bind_apply (x : HM K V α) (f : α → HM K V β) (H : Heap K V) :
    (x >>= f) H = match x H with
      | .ok (a, H1) => f a H1
      | .error e => .error e := rfl

theorem pure_apply (a : α) (H : Heap K V) : (pure a : HM K V α) H = .ok (a, H) := rfl

theorem bind_ok {x : HM K V α} {f : α → HM K V β} {H H1 : Heap K V} {a : α}
    (hx : x H = .ok (a, H1)) : (x >>= f) H = f a H1 := by
  rw [bind_apply, hx]

theorem bind_eq_ok {x : HM K V α} {f : α → HM K V β} {H H2 : Heap K V} {b : β}
    (hb : (x >>= f) H = .ok (b, H2)) : ∃ a H1, x H = .ok (a, H1) ∧ f a H1 = .ok (b, H2) := by
  rw [bind_apply] at hb
  split at hb
  · rename_i a H1 hx; exact ⟨a, H1, hx, hb⟩
  · cases hb

theorem fail_apply (msg : String) (H : Heap K V) : (fail msg : HM K V α) H = .error msg := rfl

theorem alloc_apply (c : Cell K V) (H : Heap K V) : alloc c H = .ok (H.size, H.push c) := rfl

theorem load_apply {a : Addr} {c : Cell K V} {H : Heap K V} (h : H[a]? = some c) :
    load a H = .ok (c, H) := by
  simp [load, h]

theorem load_eq_ok {a : Addr} {c : Cell K V} {H H' : Heap K V} (h : load a H = .ok (c, H')) :
    H' = H ∧ H[a]? = some c := by
  unfold load at h
  split at h
  · rename_i c' hc; cases h; exact ⟨rfl, hc⟩
  · cases h

theorem store_apply {a : Addr} (c : Cell K V) {H : Heap K V} (h : a < H.size) :
    store a c H = .ok ((), H.setIfInBounds a c) := by
  simp [store, h]

theorem store_eq_ok {a : Addr} {c : Cell K V} {H H' : Heap K V} {u : Unit}
    (h : store a c H = .ok (u, H')) : a < H.size ∧ H' = H.setIfInBounds a c := by
  unfold store at h
  split at h
  · rename_i hlt; cases h; exact ⟨hlt, rfl⟩
  · cases h

theorem liftE_ok {x : GoE α} {a : α} (H : Heap K V) (h : x = .ok a) : (liftE x : HM K V α) H = .ok (a, H) := by
  subst h; rfl

theorem liftE_eq_ok {x : GoE α} {a : α} {H H' : Heap K V} (h : (liftE x : HM K V α) H = .ok (a, H')) :
    x = .ok a ∧ H' = H := by
  unfold liftE at h
  split at h
  · cases h; exact ⟨rfl, rfl⟩
  · cases h

-- heap extension -------------------------------------------------------------------------------------

/-- `H'` extends `H`: every address of `H` holds the same cell in `H'` -/
def Heap.le (H H' : Heap K V) : Prop := H.size ≤ H'.size ∧ ∀ a, a < H.size → H'[a]? = H[a]?

theorem Heap.le_refl (H : Heap K V) : Heap.le H H := ⟨Nat.le_refl _, fun _ _ => rfl⟩

theorem Heap.le_trans {H1 H2 H3 : Heap K V} (h12 : Heap.le H1 H2) (h23 : Heap.le H2 H3) : Heap.le H1 H3 :=
  ⟨Nat.le_trans h12.1 h23.1, fun a ha => by rw [h23.2 a (Nat.lt_of_lt_of_le ha h12.1), h12.2 a ha]⟩

theorem Heap.le_push (H : Heap K V) (c : Cell K V) : Heap.le H (H.push c) :=
  ⟨by simp, fun a ha => by rw [Array.getElem?_push]; simp [Nat.ne_of_lt ha]⟩

theorem lt_size_of_get {H : Heap K V} {a : Addr} {c : Cell K V} (h : H[a]? = some c) : a < H.size := by
  rcases Nat.lt_or_ge a H.size with h' | h'
  · exact h'
  · rw [Array.getElem?_eq_none h'] at h; cases h

theorem Heap.le.get {H H' : Heap K V} (hle : Heap.le H H') {a : Addr} {c : Cell K V}
    (h : H[a]? = some c) : H'[a]? = some c := by
  rw [hle.2 a (lt_size_of_get h), h]

theorem get_push_size (H : Heap K V) (c : Cell K V) : (H.push c)[H.size]? = some c := by
  simp

theorem get_set_eq {H : Heap K V} {a : Addr} (c : Cell K V) (h : a < H.size) :
    (H.setIfInBounds a c)[a]? = some c := by
  simp [h]

theorem get_set_ne {H : Heap K V} {a b : Addr} (c : Cell K V) (h : a ≠ b) :
    (H.setIfInBounds a c)[b]? = H[b]? := by
  simp [h]

-- allocate-only transformers -----------------------------------------------------------------------

/-- `m` never writes an existing cell: whatever heap it leaves extends the heap it started from -/
def Pres (m : HM K V α) : Prop := ∀ H a H', m H = .ok (a, H') → Heap.le H H'

theorem Pres.pure (a : α) : Pres (pure a : HM K V α) := by
  intro H a' H' h; cases h; exact Heap.le_refl _

theorem Pres.fail (msg : String) : Pres (fail msg : HM K V α) := by
  intro H a' H' h; cases h

theorem Pres.bind {x : HM K V α} {f : α → HM K V β} (hx : Pres x) (hf : ∀ a, Pres (f a)) :
    Pres (x >>= f) := by
  intro H b H2 h
  obtain ⟨a, H1, h1, h2⟩ := bind_eq_ok h
  exact Heap.le_trans (hx _ _ _ h1) (hf a _ _ _ h2)

theorem Pres.alloc (c : Cell K V) : Pres (alloc c) := by
  intro H a H' h; cases h; exact Heap.le_push _ _

theorem Pres.load (a : Addr) : Pres (load a : HM K V _) := by
  intro H c H' h; rw [(load_eq_ok h).1]; exact Heap.le_refl _

theorem Pres.liftE (x : GoE α) : Pres (liftE x : HM K V α) := by
  intro H a H' h; rw [(liftE_eq_ok h).2]; exact Heap.le_refl _

theorem Pres.loadEnts (s : Slice) : Pres (loadEnts s : HM K V _) := by
  intro H a H' h
  unfold HamtHeap.loadEnts at h
  split at h
  · cases h; exact Heap.le_refl _
  · cases h

theorem Pres.loadPtrs (s : Slice) : Pres (loadPtrs s : HM K V _) := by
  intro H a H' h
  unfold HamtHeap.loadPtrs at h
  split at h
  · cases h; exact Heap.le_refl _
  · cases h

theorem Pres.readHamt (m : Addr) : Pres (readHamt m : HM K V _) := by
  intro H a H' h
  unfold HamtHeap.readHamt at h
  split at h
  · cases h; exact Heap.le_refl _
  · cases h

theorem Pres.allocSlots (xs : List (Slot K V)) (cap : Nat) : Pres (allocSlots xs cap) :=
  Pres.bind (Pres.alloc _) (fun _ => Pres.pure _)

theorem Pres.keyHashValueAt (n : Addr) : Pres (keyHashValueAt n : HM K V _) := by
  unfold HamtHeap.keyHashValueAt
  apply Pres.bind (Pres.load _)
  intro c
  split <;> exact Pres.pure _

theorem Pres.foldlM {f : β → α → HM K V β} (hf : ∀ b a, Pres (f b a)) :
    ∀ (l : List α) (b : β), Pres (l.foldlM f b) := by
  intro l
  induction l with
  | nil => intro b; exact Pres.pure _
  | cons a l ih =>
    intro b
    rw [List.foldlM_cons]
    exact Pres.bind (hf b a) (fun b' => ih b')

theorem Pres.ite {c : Prop} [Decidable c] {x y : HM K V α} (hx : Pres x) (hy : Pres y) :
    Pres (if c then x else y) := by
  split <;> assumption

/-- the `mutable` test of a copying call: only the `else` branch runs -/
theorem Pres.copying {x y : HM K V α} (hy : Pres y) : Pres (if false = true then x else y) := hy

theorem Pres.bind_pure {x : HM K V α} (hx : Pres x) (g : α → β) :
    Pres (x >>= fun a => Pure.pure (g a)) :=
  Pres.bind hx fun _ => Pres.pure _

/-- a new node over a new backing array (`&T{…, entries: make(…)}`) -/
theorem Pres.newNode (xs : List (Slot K V)) (cap : Nat) (c : Slice → Cell K V) (g : Addr → β) :
    Pres (HamtHeap.allocSlots xs cap >>= fun sl => HamtHeap.alloc (c sl) >>= fun a => Pure.pure (g a)) :=
  Pres.bind (Pres.allocSlots _ _) fun _ => Pres.bind_pure (Pres.alloc _) g

end FpVerif.HamtHeap
