import FpVerif.Lemmas.HeapRef
import FpVerif.Lemmas.HeapBranch
import FpVerif.Lemmas.HeapHeader
import FpVerif.Lemmas.HeapConv
import FpVerif.Lemmas.HamtOps
/-!
Simulation of `delete` on the copying path (`mutable = false`; `delete(…, true)` has no caller in the
library — `mapBuilder.Delete` is commented out): what it must deliver (`DRes`), `mapNode.delete` on all node kinds,
`(*hamt).delete`.
-/
namespace FpVerif.HamtHeap
open FpVerif.Hamt
variable {K V : Type}

/-- result of a copying `delete`: the heap only grew; a nil result is a nil pointer; a node result is
    delivered as `SimRes` says for the copying path -/
def DRes (F s : Nat) (H : Heap K V) (fp : List Addr) (H' : Heap K V) (p' : Option Addr)
    (n' : Option (Node K V)) : Prop :=
  Heap.le H H' ∧
  match p', n' with
  | none, none => True
  | some pp, some nn => SimRes false F s H fp H' pp nn
  | _, _ => False

/-- what a copying `delete` must deliver: the value-level `resized`, and `DRes` -/
def DelQ (F s : Nat) (H : Heap K V) (fp : List Addr) (a : Option Addr × Bool) (b : Option (Node K V) × Bool)
    (H' : Heap K V) : Prop :=
  a.2 = b.2 ∧ DRes F s H fp H' a.1 b.1

/-- the statement of the simulation for the copying `delete` at recursion budget `F`: no well-formedness is
    needed; `16 ≤ s / 5 + F` as in `SetSim`. -/
def DelSim (h : Hasher K) (V : Type) (F : Nat) : Prop :=
  ∀ (p : Addr) (s : Nat) (H : Heap K V) (n : Node K V) (fp : List Addr) (k : K) (kh : UInt32) (r : Bool),
    absF F s H p = some (n, fp) → fp.Nodup → 16 ≤ s / 5 + F →
    Ref H (hdeleteN h F p k s kh false r) (n.delete h k s kh false r) (DelQ F s H fp)

theorem SimRes.toDRes {F s : Nat} {H H' : Heap K V} {fp : List Addr} {p' : Addr} {n' : Node K V}
    (h : SimRes false F s H fp H' p' n') : DRes F s H fp H' (some p') (some n') :=
  ⟨h.le, h⟩

theorem DRes.same {F s : Nat} {H H' : Heap K V} {p : Addr} {n : Node K V} {fp : List Addr}
    (habs : absF F s H p = some (n, fp)) (hnd : fp.Nodup) (hle : Heap.le H H') :
    DRes F s H fp H' (some p) (some n) :=
  (SimRes.of_fresh (absF_le habs hle) hnd hle (fun _ ha => Or.inl ha) false).toDRes

/-- the copying path of `delete` on a branch node ends in a new bitmap node over some of the old
    children (cf. `SimRes.newBitmap`) -/
theorem DRes.newBitmap {F s : Nat} {H H1 : Heap K V} {fp : List Addr} {ps : List Addr}
    {rs : List (Node K V × List Addr)} (hle : Heap.le H H1)
    (hk : mapOpt (absF F (s + mapNodeBits) H1) ps = some rs) (hs : s < 32)
    (hnd : (rs.map (·.2)).flatten.Nodup) (hlt : ∀ a ∈ (rs.map (·.2)).flatten, a < H1.size)
    (hsub : ∀ a ∈ (rs.map (·.2)).flatten, a ∈ fp ∨ H.size ≤ a) (cap bm : Nat) (r : Bool) :
    ∃ H', (allocSlots (ptrSlots ps) cap >>= fun sl => alloc (.bitmap bm sl) >>= fun a => pure (some a, r)) H1
        = .ok ((some (H1.size + 1), r), H') ∧
      DRes (F + 1) s H fp H' (some (H1.size + 1)) (some (.bitmap bm (rs.map (·.1)))) := by
  obtain ⟨H', h2, hres⟩ := SimRes.newBitmap (fp := fp) hle hk hs hnd hlt hsub cap bm false
  obtain ⟨sl, H0, ha, hb⟩ := bind_eq_ok h2
  refine ⟨H', ?_, hres.toDRes⟩
  rw [bind_ok ha, bind_ok hb]; rfl

theorem delSim_ents_copy {H : Heap K V} (es : List (K × V)) (cap : Nat) :
    Heap.le H ((H.push (.arr ((entSlots es : List (Slot K V)).map some ++
      List.replicate (cap - (entSlots es : List (Slot K V)).length) none))).push
        (.array ⟨H.size, (entSlots es : List (Slot K V)).length⟩)) :=
  Heap.le_trans (Heap.le_push _ _) (Heap.le_push _ _)

/-- **Simulation of `delete`** on the copying path, all node kinds -/
theorem delSim (h : Hasher K) : ∀ F, DelSim h V F := by
  intro F
  induction F with
  | zero => intro p s H n fp k kh r habs; cases habs
  | succ F ih =>
    intro p s H n fp k kh r habs hnd hfuel
    cases absF_succ habs with
    | value hc =>
      rw [Node.delete]
      exact Ref.step (load_apply hc) (Ref.ite
        (fun _ => Ref.pure ⟨rfl, DRes.same (absF_value hc) (by simp) (Heap.le_refl _)⟩)
        fun _ => Ref.pure ⟨rfl, Heap.le_refl _, trivial⟩)
    | @array sl es hc hs hview =>
      subst hs
      rw [Node.delete]
      refine Ref.step (load_apply hc) (Ref.step (loadEnts_apply hview) ?_)
      cases hidx : indexOf h es k with
      | none => exact Ref.pure ⟨rfl, DRes.same habs hnd (Heap.le_refl _)⟩
      | some idx =>
        refine Ref.ite (fun _ => Ref.pure ⟨rfl, Heap.le_refl _, trivial⟩) fun _ => ?_
        obtain ⟨H', h1, hle, habs'⟩ := ents_copy (EntsNode.array F) H (es.take idx ++ es.drop (idx + 1)) (es.length - 1)
          (fun a => (some a, true))
        exact Ref.run h1 ⟨rfl, (SimRes.fresh2 hle habs' false).toDRes⟩
    | @collision nkh sl es hc hview =>
      rw [Node.delete]
      refine Ref.step (load_apply hc) (Ref.step (loadEnts_apply hview) ?_)
      cases hidx : indexOf h es k with
      | none => exact Ref.pure ⟨rfl, DRes.same habs hnd (Heap.le_refl _)⟩
      | some idx =>
        refine Ref.ite (fun _ => ?_) fun _ => ?_
        · -- two entries: the other one becomes a value leaf
          cases he : es[idx ^^^ 1]? with
          | none => exact Ref.error
          | some e =>
            exact Ref.run (bind_ok (alloc_apply _ _)) ⟨rfl, (SimRes.of_fresh (fp' := [H.size])
              (mkValue_abs H nkh e.1 e.2 F s) (by simp) (Heap.le_push _ _) (fun a ha => by simp at ha; right; omega)
              false).toDRes⟩
        · obtain ⟨H', h1, hle, habs'⟩ := ents_copy (EntsNode.collision F s nkh) H (es.take idx ++ es.drop (idx + 1))
            (es.length - 1) (fun a => (some a, true))
          exact Ref.run h1 ⟨rfl, (SimRes.fresh2 hle habs' false).toDRes⟩
    | @bitmap bm sl ps rs hc hs hview hk =>
      have habs0 := (AbsAt.bitmap hc hs hview hk).absF
      have hlen := mapOpt_length hk
      refine Ref.step (load_apply hc) (Ref.step (loadPtrs_apply hview) ?_)
      rw [delete_branch (n := .bitmap _ _) trivial]
      cases ht : bm.testBit (frag kh s) with
      | false =>
        simp only [Node.slot, and_bit_eq_zero, ht, Bool.not_false, if_true, Bool.false_eq_true, if_false, pure_bind]
        exact Ref.pure ⟨rfl, DRes.same habs0 hnd (Heap.le_refl _)⟩
      | true =>
        cases hnode : (rs.map (·.1))[rank bm (frag kh s)]? with
        | none =>
          conv => arg 3; simp only [Node.slot, ht, hnode, if_true]
          exact Ref.error
        | some child =>
          obtain ⟨fpo, hri⟩ := getElem?_map_fst hnode
          obtain ⟨c, hpc, hcabs⟩ := mapOpt_getElem?' hk hri
          have hndL : (rs.map (·.2)).flatten.Nodup := (List.nodup_cons.mp (List.nodup_cons.mp hnd).2).2
          have hB : ∀ a ∈ (rs.map (·.2)).flatten, a < H.size := fun a ha => absF_lt habs0 (by simp [ha])
          simp only [Node.slot, Node.putChild, Node.dropChild, hnode, if_true, pure_bind, and_bit_eq_zero, ht,
            Bool.not_true, Bool.false_eq_true, if_false,
            show ps[popCount (bm &&& (1 <<< frag kh s - 1))]? = some c from hpc]
          refine Ref.bind (ih c (s + mapNodeBits) H child fpo k kh r hcabs (nodup_child hndL hri)
            (by simp [mapNodeBits]; omega)) fun a b H1 hR => ?_
          obtain ⟨c', r1'⟩ := a
          obtain ⟨nc, r1⟩ := b
          obtain ⟨hr, hle1, hres1⟩ := hR
          cases (hr : r1' = r1)
          refine Ref.ite (fun _ => Ref.pure ⟨rfl, DRes.same habs0 hnd hle1⟩) fun hnr => ?_
          obtain rfl : r1' = true := by
            cases r1'
            · exact absurd rfl hnr
            · rfl
          cases nc with
          | none =>
            cases c' with
            | some _ => exact absurd hres1 (by simp)
            | none =>
              simp only [List.length_map, hlen]
              by_cases hone : (ps.length == 1) = true
              · rw [if_pos hone, if_pos hone]
                exact Ref.pure ⟨rfl, hle1, trivial⟩
              rw [if_neg hone, if_neg hone]
              have hk1 : mapOpt (absF F (s + mapNodeBits) H1) ps = some rs :=
                kids_stable (Eff.of_le hle1 []) hk (fun _ _ _ _ => by simp)
              have hk1' := mapOpt_append (mapOpt_take hk1 (popCount (bm &&& 1 <<< frag kh s - 1)))
                (mapOpt_drop hk1 (popCount (bm &&& 1 <<< frag kh s - 1) + 1))
              have hsubl : List.Sublist
                  (((rs.take (popCount (bm &&& 1 <<< frag kh s - 1)) ++
                    rs.drop (popCount (bm &&& 1 <<< frag kh s - 1) + 1)).map (·.2)).flatten)
                  (rs.map (·.2)).flatten := by
                apply sublist_flatten
                apply List.Sublist.map
                conv => rhs; rw [← List.take_append_drop (popCount (bm &&& 1 <<< frag kh s - 1)) rs]
                apply List.Sublist.append (List.Sublist.refl _)
                rw [← List.drop_drop]
                exact List.drop_sublist _ _
              rw [← List.map_take, ← List.map_drop, ← List.map_append]
              obtain ⟨H', h2, hres⟩ := DRes.newBitmap (fp := p :: sl.arr :: (rs.map (·.2)).flatten) hle1 hk1' hs
                (hndL.sublist hsubl) (fun a ha => Nat.lt_of_lt_of_le (hB a (hsubl.subset ha)) hle1.1)
                (fun a ha => Or.inl (by simp [hsubl.subset ha])) (ps.length - 1) (bm ^^^ 1 <<< frag kh s) true
              exact Ref.run h2 ⟨rfl, hres⟩
          | some nn =>
            cases c' with
            | none => exact absurd hres1 (by simp)
            | some cp =>
              obtain ⟨fpn, hc', hndn, heff, hsub⟩ := hres1
              obtain ⟨p', H', hrun, hres⟩ := bitmap_finish (mu := false) hc hs hview hk hnd hri hc' hndn
                heff hsub bm (fun a => (some a, true))
              exact Ref.run hrun ⟨rfl, hres.toDRes⟩

    | @hashArray cnt slots rs hc hs hk =>
      have hndL : (rs.map (·.2)).flatten.Nodup := (List.nodup_cons.mp hnd).2
      have hB : ∀ a ∈ (rs.map (·.2)).flatten, a < H.size := fun a ha => absF_lt habs (by simp [ha])
      refine Ref.step (load_apply hc) ?_
      rw [delete_branch (n := .hashArray _ _) trivial]
      conv => arg 3; simp only [Node.slot, Node.putChild, Node.dropChild]
      rcases slots_at hk (frag kh s) with ⟨_, hos⟩ | ⟨hsl, hri, hos⟩ | ⟨c, child, fpc, hsl, hri, hos, hcabs⟩
      · rw [hos]; exact Ref.error
      · simp only [hos, hsl, pure_bind]
        exact Ref.pure ⟨rfl, DRes.same habs hnd (Heap.le_refl _)⟩
      · simp only [hos, hsl, pure_bind]
        refine Ref.bind (ih c (s + mapNodeBits) H child fpc k kh r hcabs (nodup_child hndL hri)
          (by simp [mapNodeBits]; omega)) fun a b H1 hR => ?_
        obtain ⟨c', r1'⟩ := a
        obtain ⟨nc, r1⟩ := b
        obtain ⟨hr, hle1, hres1⟩ := hR
        cases (hr : r1' = r1)
        refine Ref.ite (fun _ => Ref.pure ⟨rfl, DRes.same habs hnd hle1⟩) fun hnr => ?_
        obtain rfl : r1' = true := by
          cases r1'
          · exact absurd rfl hnr
          · rfl
        cases nc with
        | none =>
          cases c' with
          | some _ => exact absurd hres1 (by simp)
          | none =>
            simp only [Option.isNone_none, Bool.true_and, decide_eq_true_eq]
            by_cases hsm : cnt ≤ maxBitmapIndexedSize
            · rw [if_pos hsm, if_pos hsm]
              obtain ⟨hbm, rsN, hkN, hfstN, hsublN⟩ := h2b_sim hk (frag kh s)
              have hkN1 : mapOpt (absF F (s + mapNodeBits) H1) (hashArrayToBitmapG slots (frag kh s)).2 = some rsN :=
                kids_stable (Eff.of_le hle1 []) hkN (fun _ _ _ _ => by simp)
              rw [← hbm, ← hfstN]
              obtain ⟨H', h2, hres⟩ := DRes.newBitmap (fp := p :: (rs.map (·.2)).flatten) hle1 hkN1 hs
                (hndL.sublist hsublN) (fun a ha => Nat.lt_of_lt_of_le (hB a (hsublN.subset ha)) hle1.1)
                (fun a ha => Or.inl (by simp [hsublN.subset ha])) (cnt - 1)
                (hashArrayToBitmapG slots (frag kh s)).1 true
              exact Ref.run h2 ⟨rfl, hres⟩
            · rw [if_neg hsm, if_neg hsm]
              obtain ⟨p', H', hrun, hres⟩ := hashArray_finish (mu := false) (o' := none) (on := none) (fpn := []) hc hs
                hk hnd hri rfl (by simp) (by simp) (Eff.of_le hle1 []) (by simp) (cnt - 1) (fun a => (some a, true))
              exact Ref.run hrun ⟨rfl, hres.toDRes⟩
        | some nn =>
          cases c' with
          | none => exact absurd hres1 (by simp)
          | some cp =>
            obtain ⟨fpn, hc', hndn, heff, hsub⟩ := hres1
            obtain ⟨p', H', hrun, hres⟩ := hashArray_finish (mu := false) (o' := some cp) (on := some nn) hc hs hk hnd
              hri (by simp [absSlot, hc']) (fun a => absF_lt hc') hndn heff hsub cnt
              (fun a => (some a, true))
            exact Ref.run hrun ⟨rfl, hres.toDRes⟩


/-- **Simulation of `(*hamt).delete(key, false)`**: the same header when nothing was removed, a new
    header otherwise -/
theorem hamtDelete_sim (h : Hasher K) {H : Heap K V} {m : Addr} {a : Hamt K V} {fp : List Addr}
    (habs : absHamt H m = some (a, fp)) (hnd : fp.Nodup) (k : K) :
    Ref H (hamtDelete h m k false) (a.delete h k false) (HQ false H fp) := by
  rcases absHamt_cell habs with ⟨sz, hc, rfl, rfl⟩ | ⟨sz, r, n, fpr, hc, habsr, rfl, rfl⟩
  · exact Ref.step (load_apply hc) (Ref.pure ⟨[m], habs, hnd, Eff.refl _ _, fun x hx => Or.inl hx⟩)
  · have hm := lt_size_of_get hc
    obtain ⟨hmr, hndr⟩ := List.nodup_cons.mp hnd
    refine Ref.step (load_apply hc) (Ref.bind (delSim h trieFuel r 0 H n fpr k (h.hash k) false habsr hndr
      (by simp [trieFuel])) fun x y H1 hR => ?_)
    obtain ⟨p1, r1⟩ := x
    obtain ⟨n1, r1'⟩ := y
    obtain ⟨hr, hle1, hres1⟩ := hR
    cases (hr : r1 = r1')
    refine Ref.ite (fun _ => Ref.pure ⟨m :: fpr, absHamt_le habs hle1, hnd, Eff.of_le hle1 _, fun x hx => Or.inl hx⟩)
      fun _ => ?_
    cases n1 with
    | none =>
      cases p1 with
      | some _ => exact absurd hres1 (by simp)
      | none =>
        refine Ref.run (alloc_apply _ _) ⟨[H1.size], absHamt_nil (get_push_size _ _), by simp,
          Eff.of_le (Heap.le_trans hle1 (Heap.le_push _ _)) _, fun x hx => ?_⟩
        simp at hx; right; have := hle1.1; omega
    | some nn =>
      cases p1 with
      | none => exact absurd hres1 (by simp)
      | some pp =>
        obtain ⟨fp1, habs1, hnd1, heff1, hsub1⟩ := hres1
        obtain ⟨m', H', h1, h2⟩ := hamtSet_finish (mu := false) hm hmr habs1 hnd1 heff1 hsub1 (sz - 1)
        exact Ref.run h1 h2

end FpVerif.HamtHeap
