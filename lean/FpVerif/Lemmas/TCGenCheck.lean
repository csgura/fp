import Lean
import FpVerif.Gen.TCGen
/-!
# `#tc_ties` — every translated declaration has its tie theorem

`#tc_ties NS "p1." "p2." …` (used at the end of `Spec/C09Gen`, `C09GenPred`, `C09GenHash`, `C10Gen`, `C11Gen`, `C18Gen`) fails the build unless for
every entry `pkg.Name` / `pkg.Type.Method` of `FpVerif.Gen.TC.translated` that equals one of the strings, or starts with one that ends in a dot, there is
a THEOREM in namespace `NS` whose name starts with `pkg_Name` (resp. `pkg_Type_Method`) and ends in `is_model` (equality with / correspondence to the model definition) or `_def`
(a direct characterisation, for declarations the model has no definition for).
(This file is build infrastructure, not a model: it may import `Lean`; nothing an oracle links imports it.)
-/
open Lean Elab Command

syntax (name := tcTies) "#tc_ties " ident (ppSpace str)+ : command

@[command_elab tcTies] def elabTcTies : CommandElab := fun stx => do
  let ns := stx[1].getId
  let prefixes := stx[2].getArgs.toList.filterMap fun s => s.isStrLit?
  let env ← getEnv
  -- the theorems of the namespace
  let names : List String := env.constants.fold (init := []) fun acc n ci =>
    match ci with
    | .thmInfo _ =>
      if ns.isPrefixOf n && n.getPrefix == ns then
        match n with
        | .str _ s => s :: acc
        | _ => acc
      else acc
    | _ => acc
  let mut missing : List String := []
  let mut count : Nat := 0
  for key in FpVerif.Gen.TC.translated do
    if prefixes.any (fun p => key == p || (p.endsWith "." && key.startsWith p)) then
      count := count + 1
      let base := key.replace "." "_"
      unless names.any (fun s => s.startsWith (base ++ "_") && (s.endsWith "is_model" || s.endsWith "_def")) do
        missing := key :: missing
  if count == 0 then
    throwError "#tc_ties: no translated declaration matches {prefixes}"
  unless missing.isEmpty do
    throwError "#tc_ties: translated declarations without a tie theorem `…_is_model` in {ns}: {missing.reverse}"
  logInfo m!"#tc_ties {ns}: {count} translated declarations, each with its tie theorem"
