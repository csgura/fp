import FpVerif.Lemmas.HeapSimRes
/-!
The end of `set` on the nodes that hold entries (array node, collision node): the entry is overwritten or
appended, in place or in a copy.
-/
namespace FpVerif.HamtHeap
open FpVerif.Hamt
variable {K V : Type}

/-- in place: `n.entries[i] = mapEntry{key, value}` -/
theorem ents_store {H : Heap K V} {p : Addr} {sl : Slice} {es : List (K × V)} {c : Cell K V}
    (hc : H[p]? = some c) (hv : viewEnts H sl = some es) (hne : p ≠ sl.arr) {i : Nat} (hi : i < es.length)
    (k : K) (v : V) :
    ∃ H', storeSlot sl i (.ent k v) H = .ok ((), H') ∧ H'[p]? = some c ∧
      viewEnts H' sl = some (es.set i (k, v)) ∧ Eff H H' [p, sl.arr] ∧ H'.size = H.size := by
  obtain ⟨H', h1, h2, h3, h4⟩ := storeSlot_spec (g := Slot.ent?) hv hi (x := .ent k v) (y := (k, v)) rfl
  refine ⟨H', h1, h4.get hc (by simpa using hne), h2, h4.mono (by simp), h3⟩

/-- in place: `n.entries = append(n.entries, mapEntry{key, value})` -/
theorem ents_append {H : Heap K V} {p : Addr} {sl : Slice} {es : List (K × V)} {c0 : Cell K V}
    (hc : H[p]? = some c0) (hv : viewEnts H sl = some es) (hne : p ≠ sl.arr) (c : Slice → Cell K V)
    (k : K) (v : V) {γ : Type} (ret : γ) :
    ∃ sl' H', (appendSlot sl (some (.ent k v)) >>= fun sl' => store p (c sl') >>= fun _ => pure ret) H
        = .ok (ret, H') ∧
      H'[p]? = some (c sl') ∧ viewEnts H' sl' = some (es ++ [(k, v)]) ∧ Eff H H' [p, sl.arr] ∧
      p ≠ sl'.arr ∧ (sl'.arr = sl.arr ∨ H.size ≤ sl'.arr) := by
  have hp := lt_size_of_get hc
  obtain ⟨sl', H1, h1, h2, h3, h4, h5, h6⟩ :=
    appendSlot_spec (g := Slot.ent?) hv (x := .ent k v) (y := (k, v)) rfl
  have hp1 : p < H1.size := Nat.lt_of_lt_of_le hp h3.1
  have hne' : p ≠ sl'.arr := by
    rcases h4 with h4 | ⟨h4, _⟩
    · rw [h4]; exact hne
    · rw [h4]; omega
  refine ⟨sl', H1.setIfInBounds p (c sl'), ?_, get_set_eq _ hp1, ?_, ?_, hne', ?_⟩
  · rw [bind_ok h1, bind_ok (store_apply _ hp1)]; rfl
  · unfold viewEnts
    rw [viewWith_agree (get_set_ne _ hne')]; exact h2
  · exact Eff.trans (h3.mono (by simp)) (Eff.set _ _ _ (by simp))
  · rcases h4 with h4 | ⟨h4, _⟩
    · exact Or.inl h4
    · right; omega

/-- `set` of a key that an entries node holds at `i`: the entry is overwritten, in place or in a copy -/
theorem ents_set_some {c : Slice → Cell K V} {mk : List (K × V) → Node K V} {F s : Nat} (hn : EntsNode F s c mk)
    {H : Heap K V} {p : Addr} {sl : Slice} {es : List (K × V)} (hc : H[p]? = some (c sl))
    (hview : viewEnts H sl = some es) (hne : p ≠ sl.arr) {i : Nat} (hi : i < es.length) (k : K) (v : V)
    (mu r : Bool) :
    ∃ p' H', (if mu = true then storeSlot sl i (.ent k v) >>= fun _ => pure (p, r)
        else allocSlots (entSlots (es.set i (k, v))) es.length >>= fun sl' =>
          alloc (c sl') >>= fun a => pure (a, r)) H = .ok ((p', r), H') ∧
      SimRes mu (F + 1) s H [p, sl.arr] H' p' (mk (es.set i (k, v))) := by
  cases mu with
  | true =>
    obtain ⟨H', h1, h2, h3, h4, h5⟩ := ents_store hc hview hne hi k v
    rw [if_pos rfl, bind_ok h1]
    exact ⟨p, H', rfl, [p, sl.arr], hn h2 h3, by simpa using hne, by simpa using h4, by simp⟩
  | false =>
    rw [if_neg Bool.false_ne_true]
    obtain ⟨H', h1, hle, habs⟩ := ents_copy hn H (es.set i (k, v)) es.length (fun a => (a, r))
    exact ⟨_, H', h1, SimRes.fresh2 hle habs _⟩

/-- `set` of a key that an entries node does not hold: the entry is appended, in place (the backing
    array may be regrown) or in a copy -/
theorem ents_set_none {c : Slice → Cell K V} {mk : List (K × V) → Node K V} {F s : Nat} (hn : EntsNode F s c mk)
    {H : Heap K V} {p : Addr} {sl : Slice} {es : List (K × V)} (hc : H[p]? = some (c sl))
    (hview : viewEnts H sl = some es) (hne : p ≠ sl.arr) (k : K) (v : V) (mu r : Bool) :
    ∃ p' H', (if mu = true then appendSlot sl (some (.ent k v)) >>= fun sl' => store p (c sl') >>= fun _ => pure (p, r)
        else allocSlots (entSlots (es ++ [(k, v)])) (es.length + 1) >>= fun sl' =>
          alloc (c sl') >>= fun a => pure (a, r)) H = .ok ((p', r), H') ∧
      SimRes mu (F + 1) s H [p, sl.arr] H' p' (mk (es ++ [(k, v)])) := by
  cases mu with
  | true =>
    rw [if_pos rfl]
    obtain ⟨sl', H', h1, h2, h3, h4, h5, h6⟩ := ents_append hc hview hne c k v (p, r)
    refine ⟨p, H', h1, [p, sl'.arr], hn h2 h3, by simpa using h5, by simpa using h4, ?_⟩
    intro a ha
    simp only [List.mem_cons, List.not_mem_nil, or_false] at ha
    rcases ha with rfl | rfl
    · simp
    · exact h6.imp (fun h => by simp [h]) id
  | false =>
    rw [if_neg Bool.false_ne_true]
    obtain ⟨H', h1, hle, habs⟩ := ents_copy hn H (es ++ [(k, v)]) (es.length + 1) (fun a => (a, r))
    exact ⟨_, H', h1, SimRes.fresh2 hle habs _⟩

end FpVerif.HamtHeap
