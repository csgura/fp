import FpVerif.Model.LazyList
import FpVerif.Lemmas.IM
import FpVerif.Lemmas.CellArray
/-!
# Lazy list: memo cells

* `force`: the memo cell; a `done` cell is returned without running anything (`force_done`), forcing a
  pending cell runs its closure and leaves the cell done, whether the closure returns or panics
  (`force_ok`, `force_panic`); `forceH`, `forceT`, `forceL` are its three instances (`forceH_eq` …);
* `stepsAll`: the one induction over the thirteen mutually recursive functions, for any heap
  relation closed under allocation and the life of a cell;
* heap well-formedness `Heap.WF` — a pending cell's closure has been started 0 times, a running or
  done cell's exactly once — is such a relation (`presAll`), hence no closure is ever started twice.
-/
namespace FpVerif.LL
open FpVerif.It
open FpVerif.MemoPanic (Good)

theorem onPanic_ok {X : Type} {m : HM X} {f : Heap → Heap} {hp hp' : Heap} {lg lg' : Log} {x : X}
    (h : m hp lg = (.ok x, hp', lg')) : LL.onPanic m f hp lg = (.ok x, hp', lg') := by
  simp [LL.onPanic, h]

theorem onPanic_err {X : Type} {m : HM X} {f : Heap → Heap} {hp hp' : Heap} {lg lg' : Log} {p : PanicVal}
    (h : m hp lg = (.error p, hp', lg')) : LL.onPanic m f hp lg = (.error p, f hp', lg') := by
  simp [LL.onPanic, h]

/-! ## the memo cell

`forceH`, `forceT`, `forceL` are the same function, Go's `fp.Memoize` / `lazy.Call` over a `sync.Once`, on the three
arrays of cells of the heap: `force`, over a lens onto one array.  What it does is said once, by the cell's state. -/

/-- one of the arrays of memo cells of the heap -/
structure CellArr (T V : Type) where
  get : Heap → Array (Cell T V × Nat)
  put : Array (Cell T V × Nat) → Heap → Heap
  get_put : ∀ a hp, get (put a hp) = a

def hsA : CellArr HThunk (Option Val) := ⟨Heap.hs, fun a hp => { hp with hs := a }, fun _ _ => rfl⟩
def tsA : CellArr TThunk LV := ⟨Heap.ts, fun a hp => { hp with ts := a }, fun _ _ => rfl⟩
def lsA : CellArr (LV × FnK) LV := ⟨Heap.ls, fun a hp => { hp with ls := a }, fun _ _ => rfl⟩

variable {T V : Type}

def CellArr.set (A : CellArr T V) (c : Nat) (x : Cell T V × Nat) (hp : Heap) : Heap := A.put ((A.get hp).set! c x) hp

@[simp] theorem tsA_set (c : Nat) (x : Cell TThunk LV × Nat) (hp : Heap) :
    tsA.set c x hp = { hp with ts := hp.ts.set! c x } := rfl

/-- the memoised call of the closure of cell `c` of `A`: `run` is the closure body, `zero` the zero value of the
    result type, which the cell holds after a panic -/
def force (A : CellArr T V) (run : T → HM V) (zero : V) (c : Nat) : HM V := do
  let hp ← IM.get
  match (A.get hp)[c]? with
  | some (.done v, _) => pure v
  | some (.running, _) => IM.panic deadlock
  | some (.pending t, n) =>
    IM.modify (A.set c (.running, n + 1))
    let v ← onPanic (run t) (A.set c (.done zero, n + 1))
    IM.modify (A.set c (.done v, n + 1))
    pure v
  | none => IM.panic "bad-cell"

theorem forceH_eq (fuel c : Nat) (hp : Heap) (lg : Log) :
    forceH (fuel + 1) c hp lg = force hsA (runH fuel) none c hp lg := by
  rw [forceH]
  simp only [force, bind_apply, get_apply, hsA]
  rcases hp.hs[c]? with _ | ⟨_ | _ | _, _⟩ <;> rfl

theorem forceT_eq (fuel c : Nat) (hp : Heap) (lg : Log) :
    forceT (fuel + 1) c hp lg = force tsA (runT fuel) .nilIface c hp lg := by
  rw [forceT]
  simp only [force, bind_apply, get_apply, tsA]
  rcases hp.ts[c]? with _ | ⟨_ | _ | _, _⟩ <;> rfl

theorem forceL_eq (fuel c : Nat) (hp : Heap) (lg : Log) :
    forceL (fuel + 1) c hp lg =
      force lsA (fun t => do let x ← head fuel t.1; applyK fuel t.2 x) .nilIface c hp lg := by
  rw [forceL]
  simp only [force, bind_apply, get_apply, lsA]
  rcases hp.ls[c]? with _ | ⟨_ | _ | _, _⟩ <;> rfl

section force
variable (A : CellArr T V) (run : T → HM V) (zero : V) (c : Nat) {hp hp1 : Heap} {lg lg1 : Log} {t : T} {n : Nat}

theorem force_done {v : V} (h : (A.get hp)[c]? = some (.done v, n)) : force A run zero c hp lg = (.ok v, hp, lg) := by
  simp [force, bind_apply, h]

theorem force_running (h : (A.get hp)[c]? = some (.running, n)) :
    force A run zero c hp lg = (.error deadlock, hp, lg) := by
  simp [force, bind_apply, h]

theorem force_none (h : (A.get hp)[c]? = none) : force A run zero c hp lg = (.error "bad-cell", hp, lg) := by
  simp [force, bind_apply, h]

theorem force_ok {v : V} (h : (A.get hp)[c]? = some (.pending t, n))
    (hrun : run t (A.set c (.running, n + 1) hp) lg = (.ok v, hp1, lg1)) :
    force A run zero c hp lg = (.ok v, A.set c (.done v, n + 1) hp1, lg1) := by
  simp [force, bind_apply, h, onPanic, hrun]

theorem force_panic {p : PanicVal} (h : (A.get hp)[c]? = some (.pending t, n))
    (hrun : run t (A.set c (.running, n + 1) hp) lg = (.error p, hp1, lg1)) :
    force A run zero c hp lg = (.error p, A.set c (.done zero, n + 1) hp1, lg1) := by
  simp [force, bind_apply, h, onPanic, hrun]

variable {hp' : Heap} {lg' : Log} {v : V}

theorem force_ok_lt (h : force A run zero c hp lg = (.ok v, hp', lg')) : c < (A.get hp).size := by
  rcases hcell : (A.get hp)[c]? with _ | x
  · rw [force_none A run zero c hcell] at h; cases h
  · exact get_lt hcell

theorem force_stores (h : force A run zero c hp lg = (.ok v, hp', lg')) (hc : c < (A.get hp').size) :
    ∃ n, (A.get hp')[c]? = some (.done v, n) := by
  rcases hcell : (A.get hp)[c]? with _ | ⟨t | _ | w, n⟩
  · rw [force_none A run zero c hcell] at h; cases h
  · rcases hr : run t (A.set c (.running, n + 1) hp) lg with ⟨p | x, hpB, lgB⟩
    · rw [force_panic A run zero c hcell hr] at h; cases h
    · rw [force_ok A run zero c hcell hr] at h
      cases h
      rw [CellArr.set, A.get_put] at hc ⊢
      exact ⟨n + 1, set_get_same _ _ _ (size_set! _ _ _ ▸ hc)⟩
  · rw [force_running A run zero c hcell] at h; cases h
  · rw [force_done A run zero c hcell] at h
    cases h
    exact ⟨n, hcell⟩

end force

/-! ## heap relations that every operation respects

All such facts have the same proof, an induction on the fuel over the thirteen mutually recursive functions;
`stepsAll` does it once, for any relation `R` with the closure properties `StepRel R`. -/

/-- a preorder on heaps that holds across an allocation, a change of the iterator table and the life of a memo cell
    (pending; set running; the closure runs; set done with its value or, after a panic, the zero value) -/
structure StepRel (R : Heap → Heap → Prop) : Prop extends Pre R where
  pushHT : ∀ hp h t, R hp { hp with hs := hp.hs.push (.pending h, 0), ts := hp.ts.push (.pending t, 0) }
  pushL : ∀ hp x, R hp { hp with ls := hp.ls.push (.pending x, 0) }
  its : ∀ hp its, R hp { hp with its := its }
  cellH : ∀ {hp hpB c t n} w, hp.hs[c]? = some (.pending t, n) →
    R { hp with hs := hp.hs.set! c (.running, n + 1) } hpB → R hp { hpB with hs := hpB.hs.set! c (.done w, n + 1) }
  cellT : ∀ {hp hpB c t n} w, hp.ts[c]? = some (.pending t, n) →
    R { hp with ts := hp.ts.set! c (.running, n + 1) } hpB → R hp { hpB with ts := hpB.ts.set! c (.done w, n + 1) }
  cellL : ∀ {hp hpB c t n} w, hp.ls[c]? = some (.pending t, n) →
    R { hp with ls := hp.ls.set! c (.running, n + 1) } hpB → R hp { hpB with ls := hpB.ls.set! c (.done w, n + 1) }

/-- `R` holds across the life of a cell of `A`: pending; set running; the closure runs (`hpB`); set done -/
def Cycle (R : Heap → Heap → Prop) {T V : Type} (A : CellArr T V) : Prop :=
  ∀ {hp hpB c t n} w, (A.get hp)[c]? = some (.pending t, n) →
    R (A.set c (.running, n + 1) hp) hpB → R hp (A.set c (.done w, n + 1) hpB)

theorem good_force {R : Heap → Heap → Prop} {T V : Type} (A : CellArr T V) (run : T → HM V) (zero : V) (c : Nat)
    (hrefl : ∀ hp, R hp hp) (hA : Cycle R A) (ih : ∀ t, Good R (run t)) : Good R (force A run zero c) := by
  intro hp lg
  rcases hcell : (A.get hp)[c]? with _ | ⟨t | _ | w, n⟩
  · rw [force_none A run zero c hcell]; exact hrefl hp
  · have hB := ih t (A.set c (.running, n + 1) hp) lg
    rcases hr : run t (A.set c (.running, n + 1) hp) lg with ⟨p | v, hpB, lgB⟩
    · rw [force_panic A run zero c hcell hr]
      rw [hr] at hB
      exact hA zero hcell hB
    · rw [force_ok A run zero c hcell hr]
      rw [hr] at hB
      exact hA v hcell hB
  · rw [force_running A run zero c hcell]; exact hrefl hp
  · rw [force_done A run zero c hcell]; exact hrefl hp

namespace StepRel
variable {R : Heap → Heap → Prop} (hR : StepRel R)
include hR

theorem makeList (h : HThunk) (t : TThunk) : Good R (makeList h t) := fun hp _ => hR.pushHT hp h t
theorem allocLazy (opt : LV) (k : FnK) : Good R (allocLazy opt k) := fun hp _ => hR.pushL hp (opt, k)
theorem allocIter (id : Int) (xs : List Val) : Good R (allocIter id xs) := fun hp _ => hR.its hp _

theorem iterNextOption (it : Nat) : Good R (iterNextOption it) := by
  intro hp lg
  unfold LL.iterNextOption
  split
  · split
    · exact hR.its hp _
    · exact hR.refl hp
  · exact hR.refl hp

theorem forceH {fuel : Nat} (ih : ∀ t, Good R (runH fuel t)) (c : Nat) : Good R (forceH (fuel + 1) c) :=
  fun hp lg => forceH_eq fuel c hp lg ▸ good_force hsA _ _ c hR.refl hR.cellH ih hp lg

theorem forceT {fuel : Nat} (ih : ∀ t, Good R (runT fuel t)) (c : Nat) : Good R (forceT (fuel + 1) c) :=
  fun hp lg => forceT_eq fuel c hp lg ▸ good_force tsA _ _ c hR.refl hR.cellT ih hp lg

theorem forceL {fuel : Nat} (ihh : ∀ l, Good R (head fuel l)) (ihk : ∀ k x, Good R (applyK fuel k x)) (c : Nat) :
    Good R (forceL (fuel + 1) c) :=
  fun hp lg => forceL_eq fuel c hp lg ▸
    good_force lsA _ _ c hR.refl hR.cellL (fun t => hR.bind (ihh t.1) fun x => ihk t.2 x) hp lg

end StepRel

structure StepsAll (R : Heap → Heap → Prop) (fuel : Nat) : Prop where
  isEmpty : ∀ l, Good R (LL.isEmpty fuel l)
  head : ∀ l, Good R (LL.head fuel l)
  tail : ∀ l, Good R (LL.tail fuel l)
  headOpt : ∀ l, Good R (LL.headOpt fuel l)
  forceH : ∀ c, Good R (LL.forceH fuel c)
  forceT : ∀ c, Good R (LL.forceT fuel c)
  forceL : ∀ c, Good R (LL.forceL fuel c)
  applyK : ∀ k x, Good R (LL.applyK fuel k x)
  runH : ∀ t, Good R (LL.runH fuel t)
  runT : ∀ t, Good R (LL.runT fuel t)
  flatMap : ∀ l k, Good R (LL.flatMap fuel l k)
  combine : ∀ a b, Good R (LL.combine fuel a b)
  eval : ∀ e x, Good R (LL.eval fuel e x)

/-- Each function at fuel `n + 1` unfolds to its Go body over the functions at fuel `n`; the term given
    for a case follows that body: one `bind` per call, `ite` per `if`, a case split per `match`. -/
theorem stepsAll {R : Heap → Heap → Prop} (hR : StepRel R) : ∀ fuel, StepsAll R fuel := by
  intro fuel
  induction fuel with
  | zero =>
    exact ⟨fun _ => hR.panic _, fun _ => hR.panic _, fun _ => hR.panic _, fun _ => hR.panic _, fun _ => hR.panic _,
      fun _ => hR.panic _, fun _ => hR.panic _, fun _ _ => hR.panic _, fun _ => hR.panic _, fun _ => hR.panic _,
      fun _ _ => hR.panic _, fun _ _ => hR.panic _, fun _ _ => hR.panic _⟩
  | succ n ih =>
    constructor
    case isEmpty =>
      intro l
      cases l with
      | adaptor hc tc => exact hR.bind (ih.forceH hc) fun _ => hR.pure _
      | nilIface => exact hR.panic _
      | _ => exact hR.pure _
    case head =>
      intro l
      cases l with
      | nil => exact hR.panic _
      | cons h t => exact hR.pure _
      | seq xs => cases xs with
        | nil => exact hR.panic _
        | cons x xs => exact hR.pure _
      | adaptor hc tc => exact hR.bind (ih.forceH hc) fun
        | some _ => hR.pure _
        | none => hR.panic _
      | nilIface => exact hR.panic _
    case tail =>
      intro l
      cases l with
      | nil => exact hR.pure _
      | cons h t => exact hR.pure _
      | seq xs => cases xs with
        | nil => exact hR.pure _
        | cons x xs => exact hR.pure _
      | adaptor hc tc => exact ih.forceT tc
      | nilIface => exact hR.panic _
    case headOpt =>
      intro l
      exact hR.bind (ih.isEmpty l) fun _ => .ite (hR.pure _) (hR.bind (ih.head l) fun _ => hR.pure _)
    case forceH => exact hR.forceH ih.runH
    case forceT => exact hR.forceT ih.runT
    case forceL => exact hR.forceL ih.head ih.applyK
    case applyK =>
      intro k x
      cases k with
      | expr id k => exact hR.bind (hR.liftG _) fun _ => ih.eval k x
      | fromOption f => exact hR.bind (hR.liftG _) fun
        | some _ => hR.pure _
        | none => hR.pure _
    case runH =>
      intro t
      cases t with
      | const o => exact hR.pure _
      | gen i g => exact hR.liftG _
      | map opt fn => exact hR.bind (ih.headOpt opt) fun
        | some _ => hR.bind (hR.liftG _) fun _ => hR.pure _
        | none => hR.pure _
      | flatMap lz tl k =>
        exact hR.bind (ih.forceL lz) fun hl => hR.bind (ih.isEmpty hl) fun _ =>
          .ite (hR.bind (ih.flatMap tl k) fun rest => ih.headOpt rest) (hR.bind (ih.head hl) fun _ => hR.pure _)
      | zip a b =>
        refine hR.bind (ih.headOpt a) fun x => hR.bind (ih.headOpt b) fun y => ?_
        cases x <;> cases y <;> exact hR.pure _
      | reverse xs => exact hR.pure _
      | combine l1 => exact hR.bind (ih.head l1) fun _ => hR.pure _
    case runT =>
      intro t
      cases t with
      | gen i g => exact hR.makeList _ _
      | map opt fn => exact hR.bind (ih.tail opt) fun _ => hR.makeList _ _
      | flatMap lz tl k =>
        exact hR.bind (ih.forceL lz) fun hl => hR.bind (ih.isEmpty hl) fun _ =>
          .ite (hR.bind (ih.flatMap tl k) fun rest => ih.tail rest)
            (hR.bind (ih.tail hl) fun ht => hR.bind (ih.flatMap tl k) fun rest => ih.combine ht rest)
      | zip a b => exact hR.bind (ih.tail a) fun _ => hR.bind (ih.tail b) fun _ => hR.makeList _ _
      | scan s zero f => exact hR.bind (ih.headOpt s) fun
        | some _ => hR.bind (hR.liftG _) fun _ => hR.bind (ih.tail s) fun _ => hR.makeList _ _
        | none => hR.pure _
      | collect it => exact hR.bind (hR.iterNextOption it) fun _ => hR.makeList _ _
      | combine l1 l2 =>
        exact hR.bind (ih.tail l1) fun t => hR.bind (ih.isEmpty t) fun _ => .ite (ih.combine t l2) (hR.pure _)
      | reverse xs => exact hR.makeList _ _
    case flatMap =>
      intro l k
      exact hR.bind (ih.isEmpty l) fun _ => .ite (hR.pure _)
        (hR.bind (hR.allocLazy l k) fun _ => hR.bind (ih.tail l) fun _ => hR.makeList _ _)
    case combine =>
      intro a b
      exact hR.bind (ih.isEmpty a) fun _ => .ite (hR.pure _) (hR.makeList _ _)
    case eval =>
      intro e x
      cases e with
      | empty => exact hR.pure _
      | of xs => exact hR.pure _
      | argOf m => exact hR.pure _
      | apply h t => exact hR.bind (ih.eval t x) fun _ => hR.pure _
      | generate id m => exact hR.makeList _ _
      | range closed a b => exact hR.makeList _ _
      | reverse xs => exact hR.makeList _ _
      | collect id xs =>
        exact hR.bind (hR.allocIter id xs) fun it => hR.bind (hR.iterNextOption it) fun _ => hR.makeList _ _
      | fromOption o => cases o with
        | some v => exact hR.pure _
        | none => exact hR.pure _
      | map e f => exact hR.bind (ih.eval e x) fun _ => hR.makeList _ _
      | flatMap e id k => exact hR.bind (ih.eval e x) fun l => ih.flatMap l _
      | filterMap e f => exact hR.bind (ih.eval e x) fun l => ih.flatMap l _
      | combine e1 e2 => exact hR.bind (ih.eval e1 x) fun a => hR.bind (ih.eval e2 x) fun b => ih.combine a b
      | zip e1 e2 => exact hR.bind (ih.eval e1 x) fun _ => hR.bind (ih.eval e2 x) fun _ => hR.makeList _ _
      | zipidx e => exact hR.bind (ih.eval e x) fun _ => hR.bind (hR.makeList _ _) fun _ => hR.makeList _ _
      | scan e z f => exact hR.bind (ih.eval e x) fun _ => hR.makeList _ _

/-- a pending cell has never been started, a running or done cell exactly once -/
def cellOk {T V : Type} : Cell T V × Nat → Prop
  | (.pending _, n) => n = 0
  | (_, n) => n = 1

structure Heap.WF (hp : Heap) : Prop where
  hs : ∀ (i : Nat) c, hp.hs[i]? = some c → cellOk c
  ts : ∀ (i : Nat) c, hp.ts[i]? = some c → cellOk c
  ls : ∀ (i : Nat) c, hp.ls[i]? = some c → cellOk c

theorem Heap.WF.empty : ({} : Heap).WF := ⟨by simp, by simp, by simp⟩

def Pres {X : Type} (m : HM X) : Prop := ∀ hp lg, hp.WF → (m hp lg).2.1.WF

theorem Pres.onPanic {X : Type} {m : HM X} {f : Heap → Heap} (hm : Pres m) (hf : ∀ hp, hp.WF → (f hp).WF) :
    Pres (LL.onPanic m f) := by
  intro hp lg wf
  have h1 := hm hp lg wf
  unfold LL.onPanic
  rcases hr : m hp lg with ⟨_ | x, hp1, lg1⟩
  · simp only [hr] at h1 ⊢
    exact hf hp1 h1
  · simpa [hr] using h1

/-- Well-formedness is kept across the life of a cell because the cell was pending, so never started
    (`n = 0`), and is started exactly once when it is set running. -/
theorem wfStep : StepRel fun hp hp' => hp.WF → hp'.WF where
  refl _ := id
  trans h1 h2 := h2 ∘ h1
  pushHT _ _ _ wf := ⟨arr_push_ok wf.hs rfl, arr_push_ok wf.ts rfl, wf.ls⟩
  pushL _ _ wf := ⟨wf.hs, wf.ts, arr_push_ok wf.ls rfl⟩
  its _ _ wf := ⟨wf.hs, wf.ts, wf.ls⟩
  cellH {hp hpB c t n} w hcell hB wf := by
    cases (wf.hs c _ hcell : n = 0)
    have wfB := hB ⟨arr_set_ok c wf.hs rfl, wf.ts, wf.ls⟩
    exact ⟨arr_set_ok c wfB.hs rfl, wfB.ts, wfB.ls⟩
  cellT {hp hpB c t n} w hcell hB wf := by
    cases (wf.ts c _ hcell : n = 0)
    have wfB := hB ⟨wf.hs, arr_set_ok c wf.ts rfl, wf.ls⟩
    exact ⟨wfB.hs, arr_set_ok c wfB.ts rfl, wfB.ls⟩
  cellL {hp hpB c t n} w hcell hB wf := by
    cases (wf.ls c _ hcell : n = 0)
    have wfB := hB ⟨wf.hs, wf.ts, arr_set_ok c wf.ls rfl⟩
    exact ⟨wfB.hs, wfB.ts, arr_set_ok c wfB.ls rfl⟩

/-- `StepsAll` at `hp.WF → hp'.WF`, its fields stated with `Pres` (`Spec/C12List` reads them) -/
structure PresAll (fuel : Nat) : Prop where
  isEmpty : ∀ l, Pres (LL.isEmpty fuel l)
  head : ∀ l, Pres (LL.head fuel l)
  tail : ∀ l, Pres (LL.tail fuel l)
  headOpt : ∀ l, Pres (LL.headOpt fuel l)
  forceH : ∀ c, Pres (LL.forceH fuel c)
  forceT : ∀ c, Pres (LL.forceT fuel c)
  forceL : ∀ c, Pres (LL.forceL fuel c)
  applyK : ∀ k x, Pres (LL.applyK fuel k x)
  runH : ∀ t, Pres (LL.runH fuel t)
  runT : ∀ t, Pres (LL.runT fuel t)
  flatMap : ∀ l k, Pres (LL.flatMap fuel l k)
  combine : ∀ a b, Pres (LL.combine fuel a b)
  eval : ∀ e x, Pres (LL.eval fuel e x)

theorem presAll (fuel : Nat) : PresAll fuel :=
  have h := stepsAll wfStep fuel
  ⟨h.isEmpty, h.head, h.tail, h.headOpt, h.forceH, h.forceT, h.forceL, h.applyK, h.runH, h.runT, h.flatMap,
    h.combine, h.eval⟩

theorem cellOk_le {T V : Type} (c : Cell T V × Nat) (h : cellOk c) : c.2 ≤ 1 := by
  rcases c with ⟨_ | _ | _, n⟩ <;> simp [cellOk] at h <;> omega

theorem WF.maxEvals_le (hp : Heap) (wf : hp.WF) : hp.maxEvals ≤ 1 := by
  unfold Heap.maxEvals
  apply foldl_max_le _ _ _ (fun i c hc => cellOk_le c (wf.ls i c hc))
  apply foldl_max_le _ _ _ (fun i c hc => cellOk_le c (wf.ts i c hc))
  apply foldl_max_le _ _ _ (fun i c hc => cellOk_le c (wf.hs i c hc))
  omega

theorem Pres.wf_run {X : Type} {m : HM X} (hm : Pres m) {hp hp' : Heap} {lg lg' : Log} {r : Except PanicVal X}
    (wf : hp.WF) (h : m hp lg = (r, hp', lg')) : hp'.WF := by
  have := hm hp lg wf
  rwa [h] at this

/-- along a run from a well-formed heap no closure is started twice -/
theorem Pres.maxEvals_le {X : Type} {m : HM X} (hm : Pres m) {hp hp' : Heap} {lg lg' : Log} {r : Except PanicVal X}
    (wf : hp.WF) (h : m hp lg = (r, hp', lg')) : hp'.maxEvals ≤ 1 :=
  WF.maxEvals_le hp' (hm.wf_run wf h)

end FpVerif.LL
