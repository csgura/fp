import FpVerif.Lemmas.CollListDenMemo
import FpVerif.Lemmas.CollListDenTy
import FpVerif.Lemmas.CollListDenTot
import FpVerif.Lemmas.Callbacks
/-!
# Lazy list over `El`: the library calls of an `LX` program evaluate to a heap value that
  traverses to the program's denotation

`LX.OK e`: the callbacks of `e` do not panic and `e` is well-typed (`Ap`'s / `Flap`'s first list
holds function values, `Flatten`'s list holds collections).  `LX.bnd e`: the fuel that `e` needs.

* `evalF_spec`: on a well-typed heap, `e.evalF fuel` returns a value typed with `e.den`;
* `lx_evalF_den` / `lx_eval_den`: from the empty heap, `toSeq` of the value returns `e.den`, no
  closure was started twice.

ALL fourteen constructors of `LX` are covered.
-/
namespace FpVerif.Coll
open FpVerif.It

/-! ## callbacks -/

theorem tot_pureG {X : Type} [Inhabited X] {m : GoM X} {v : X} (h : ∀ lg, ∃ lg', m.run.run lg = (.ok v, lg')) :
    ∀ lg, ∃ lg', m.run.run lg = (.ok (pureG m), lg') := by
  obtain ⟨lg0, h0⟩ := h []
  rw [pureG_of_run h0]; exact h

/-- `do let y ← m; pure (.v y)` is total when `m` is, and computes `.v (pureG m)` -/
theorem tot_bind_v {m : GoM Val} (h : ∀ lg, ∃ lg', m.run.run lg = (.ok (pureG m), lg')) :
    ∀ lg, ∃ lg', (do let y ← m; pure (El.v y) : GoM El).run.run lg = (.ok (El.v (pureG m)), lg') := by
  have hT : Total (fun (_ : Unit) => m) (fun _ => pureG m) := fun _ lg => h lg
  exact fun lg => total_bind_pure hT El.v () lg

theorem pureG_bind_v {m : GoM Val} (h : ∀ lg, ∃ lg', m.run.run lg = (.ok (pureG m), lg')) :
    pureG (do let y ← m; pure (El.v y) : GoM El) = El.v (pureG m) := by
  obtain ⟨lg', h'⟩ := tot_bind_v h []
  exact pureG_of_run h'

theorem Fn.Tot.c2 (g : Val → Val → GoM Val) : (Fn.c2 g).Tot := fun _ lg => ⟨lg, rfl⟩
theorem Fn.Tot.c3 (h : Val → Val → Val → GoM Val) : (Fn.c3 h).Tot := fun _ lg => ⟨lg, rfl⟩
theorem Fn.Tot.c3a (h : Val → Val → Val → GoM Val) (a : Val) : (Fn.c3a h a).Tot := fun _ lg => ⟨lg, rfl⟩
theorem Fn.Tot.rep (id : Int) (n : Nat) : (Fn.rep id n).Tot := fun x lg => ⟨lg ++ [s!"f{id}:{x.val}"], rfl⟩

theorem Fn.Tot.c2a {g : Val → Val → GoM Val} (hg : G2Tot g) (a : Val) : (Fn.c2a g a).Tot := by
  intro x
  exact tot_pureG (tot_bind_v (hg a x.val))

theorem Fn.Tot.c3ab {h : Val → Val → Val → GoM Val} (hh : G3Tot h) (a b : Val) : (Fn.c3ab h a b).Tot := by
  intro x
  exact tot_pureG (tot_bind_v (hh a b x.val))

theorem Fn.Tot.u1 {f : Val → GoM Val} {g : Val → Val} (hf : Total f g) : (Fn.u1 f).Tot := by
  intro x
  exact tot_pureG (tot_bind_v (tot_pureG (hf x.val)))

/-! ## well-typed, non-panicking programs and their fuel -/

/-- every element is a function value whose application never panics -/
def AllFn (xs : List El) : Prop := ∀ y, y ∈ xs → ∃ f, y = .fn f ∧ f.Tot

def LX.OK : LX → Prop
  | .of _ => True
  | .map e f => e.OK ∧ f.Tot
  | .lift f e => e.OK ∧ f.Tot
  | .flatMap e k => e.OK ∧ KTot k
  | .compose k1 k2 _ => KTot k1 ∧ KTot k2
  | .composePure f _ => f.Tot
  | .flatten e => e.OK ∧ ∀ y, y ∈ e.den → ∃ tag xs, y = .coll tag xs
  | .ap t a => t.OK ∧ a.OK ∧ AllFn t.den
  | .map2 a b g => a.OK ∧ b.OK ∧ G2Tot g
  | .flap t _ => t.OK ∧ AllFn t.den
  | .flap2 t a _ => t.OK ∧ ∀ y, y ∈ t.den → ∃ f, y = .fn f ∧ f.Tot ∧ ∃ f', fnP f a = .fn f' ∧ f'.Tot
  | .flapMap g a _ => a.OK ∧ G2Tot g
  | .method1 ta g _ => ta.OK ∧ G2Tot g
  | .method2 ta h _ _ => ta.OK ∧ G3Tot h

/-- fuel that evaluating the program needs = bound of the resulting list value -/
def LX.bnd : LX → Nat
  | .of _ => 1
  | .map e _ => e.bnd + 4
  | .lift _ e => e.bnd + 4
  | .flatMap e _ => FMB e.bnd 1 e.den.length
  | .compose k1 _ a => FMB 1 1 (pureG (k1 a.val)).length
  | .composePure _ _ => 1
  | .flatten e => FMB e.bnd 1 e.den.length
  | .ap t a => FMB t.bnd (a.bnd + 4) t.den.length
  | .map2 a b _ => FMB a.bnd (b.bnd + 4) a.den.length
  | .flap t _ => FMB t.bnd 5 t.den.length
  | .flap2 t _ _ => FMB (FMB t.bnd 5 t.den.length) 5 t.den.length
  | .flapMap _ a _ => FMB (a.bnd + 4) 5 a.den.length
  | .method1 ta _ _ => FMB (ta.bnd + 4) 5 ta.den.length
  | .method2 ta _ _ _ => FMB (FMB (ta.bnd + 4) 5 ta.den.length) 5 ta.den.length

/-! ## the derived combinators, typed -/

/-- `Ap(t, Of(a))` (the body of `Flap`) over a typed list of `n` function values -/
theorem spec_flap (fuel : Nat) {S : Sty} {hp : Heap} (hC : Cons S hp) {lt : LV} {ys : List El} {Ks n : Nat}
    (hV : VDen S lt ys Ks) (hlen : ys.length = n) (a : El) (hfn : AllFn ys)
    (hn : FMB Ks 5 n ≤ fuel) (hQ : Quiet (FMB Ks 5 n) S hp) :
    Spec (lAp fuel lt (lOf [a])) S hp (fun S' v => VDen S' v (ys.map (fun f => appElP f a)) (FMB Ks 5 n)) := by
  subst hlen
  have h := (totAll fuel).flatMap S hp lt (.apInner (lOf [a])) (fun f => [appElP f a]) ys Ks 5 hC hV
    (fun y hy => by
      obtain ⟨f, rfl, hf⟩ := hfn y hy
      exact ⟨[a], 1, f, ⟨rfl, Nat.le_refl _⟩, rfl, hf, rfl, Nat.le_refl _⟩)
    (by omega) hn hQ
  rw [← List.map_eq_flatMap] at h
  exact h

/-- `Flap2(t)(a)(b) = Flap(Ap(t, Of(a)))(b)`: the elements of `t` are curried functions of two arguments -/
theorem spec_flap2 (fuel : Nat) {S : Sty} {hp : Heap} (hC : Cons S hp) {lt : LV} {ys : List El} {Ks n : Nat}
    (hV : VDen S lt ys Ks) (hlen : ys.length = n) (a b : El)
    (hfn : ∀ y, y ∈ ys → ∃ f, y = .fn f ∧ f.Tot ∧ ∃ f', fnP f a = .fn f' ∧ f'.Tot)
    (hn : FMB (FMB Ks 5 n) 5 n ≤ fuel) (hQ : Quiet (FMB (FMB Ks 5 n) 5 n) S hp) :
    Spec (lFlap2 fuel lt a b) S hp
      (fun S' v => VDen S' v (ys.map (fun f => appElP (appElP f a) b)) (FMB (FMB Ks 5 n) 5 n)) := by
  have hK := le_FMB (FMB Ks 5 n) 5 n
  refine Spec.bind (spec_flap fuel hC hV hlen a (fun y hy => by
    obtain ⟨f, rfl, hf, _⟩ := hfn y hy; exact ⟨f, rfl, hf⟩) (Nat.le_trans hK hn) (hQ.mono hK)) (fun t1 S1 hp1 hP1 hV1 => ?_)
  have h := spec_flap fuel hP1.cons hV1 ((List.length_map _).trans hlen) b (fun y' hy' => by
    obtain ⟨y, hy, rfl⟩ := List.mem_map.mp hy'
    obtain ⟨f, rfl, _, f', hf', hT'⟩ := hfn y hy
    exact ⟨f', hf', hT'⟩) hn (hQ.post hC hP1)
  rw [List.map_map] at h
  exact h

/-- `FlapMap(g, a)(b) = Flap(Map(a, Curried2(g)))(b)` -/
theorem spec_flapMap (fuel : Nat) {S : Sty} {hp : Heap} (hC : Cons S hp) {la : LV} {xs : List El} {Ka : Nat}
    (hV : VDen S la xs Ka) {g : Val → Val → GoM Val} (hg : G2Tot g) (b : El)
    (hn : FMB (Ka + 4) 5 xs.length ≤ fuel) (hQ : Quiet (FMB (Ka + 4) 5 xs.length) S hp) :
    Spec (lFlapMap fuel g la b) S hp
      (fun S' v => VDen S' v (xs.map (fun x => pureG (elF2 g x b))) (FMB (Ka + 4) 5 xs.length)) := by
  refine Spec.bind (spec_mkMap hC hV (Fn.Tot.c2 g)) (fun m S1 hp1 hP1 hVm => ?_)
  have h := spec_flap fuel hP1.cons hVm (List.length_map _) b (fun y' hy' => by
    obtain ⟨y, _, rfl⟩ := List.mem_map.mp hy'
    exact ⟨.c2a g y.val, rfl, Fn.Tot.c2a hg y.val⟩) hn (hQ.post hC hP1)
  rw [List.map_map] at h
  exact h

/-- `Method2(ta, h)(b)(c) = Flap2(Map(ta, Curried3(h)))(b)(c)` -/
theorem spec_method2 (fuel : Nat) {S : Sty} {hp : Heap} (hC : Cons S hp) {la : LV} {xs : List El} {Ka : Nat}
    (hV : VDen S la xs Ka) {h : Val → Val → Val → GoM Val} (hh : G3Tot h) (b c : El)
    (hn : FMB (FMB (Ka + 4) 5 xs.length) 5 xs.length ≤ fuel)
    (hQ : Quiet (FMB (FMB (Ka + 4) 5 xs.length) 5 xs.length) S hp) :
    Spec (lMethod2 fuel la h b c) S hp
      (fun S' v => VDen S' v (xs.map (fun x => El.v (pureG (h x.val b.val c.val))))
        (FMB (FMB (Ka + 4) 5 xs.length) 5 xs.length)) := by
  refine Spec.bind (spec_mkMap hC hV (Fn.Tot.c3 h)) (fun m S1 hp1 hP1 hVm => ?_)
  have h2 := spec_flap2 fuel hP1.cons hVm (List.length_map _) b c (fun y' hy' => by
    obtain ⟨y, _, rfl⟩ := List.mem_map.mp hy'
    exact ⟨.c3a h y.val, rfl, Fn.Tot.c3a h y.val, .c3ab h y.val b.val, rfl, Fn.Tot.c3ab hh y.val b.val⟩)
    hn (hQ.post hC hP1)
  rw [List.map_map] at h2
  refine h2.weaken (fun S' v _ hv => ?_)
  have heq : xs.map ((fun f => appElP (appElP f b) c) ∘ fnP (.c3 h)) =
      xs.map (fun x => El.v (pureG (h x.val b.val c.val))) :=
    List.map_congr_left fun x _ => pureG_bind_v (hh x.val b.val c.val)
  rw [← heq]; exact hv

/-! ## evaluation of a program on a well-typed heap -/

theorem evalF_spec (fuel : Nat) : ∀ e : LX, e.OK → ∀ S hp, Cons S hp → e.bnd ≤ fuel → Quiet e.bnd S hp →
    Spec (e.evalF fuel) S hp (fun S' v => VDen S' v e.den e.bnd) := by
  intro e
  induction e with
  | of xs => exact fun _ S hp hC _ _ => Spec.pure hC _ ⟨rfl, Nat.le_refl _⟩
  | map e f ih | lift f e ih =>
    intro hOK S hp hC hn hQ
    have hK : e.bnd ≤ e.bnd + 4 := Nat.le_add_right _ _
    exact Spec.bind_sub hC hQ hK (ih hOK.1 S hp hC (Nat.le_trans hK hn)) fun l S1 hp1 hP1 _ hV =>
      spec_mkMap hP1.cons hV hOK.2
  | flatMap e k ih =>
    intro hOK S hp hC hn hQ
    have hK := le_FMB e.bnd 1 e.den.length
    exact Spec.bind_sub hC hQ hK (ih hOK.1 S hp hC (Nat.le_trans hK hn)) fun l S1 hp1 hP1 hQ1 hV =>
      (totAll fuel).flatMap S1 hp1 l (.user k) (fun x => pureG (k x.val)) e.den e.bnd 1 hP1.cons hV
        (fun y _ => ⟨hOK.2 y.val, Nat.le_refl _⟩) (Nat.le_refl _) hn hQ1
  | compose k1 k2 a =>
    intro hOK S hp hC hn hQ
    refine Spec.bind (Spec.liftG (Q := fun _ o => o = pureG (k1 a.val)) hC (hOK.1 a.val) rfl)
      (fun xs S1 hp1 hP1 hxs => ?_)
    subst hxs
    exact (totAll fuel).flatMap S1 hp1 (.seq (pureG (k1 a.val))) (.user k2) (fun x => pureG (k2 x.val)) _ 1 1
      hP1.cons ⟨rfl, Nat.le_refl _⟩ (fun y _ => ⟨hOK.2 y.val, Nat.le_refl _⟩) (Nat.le_refl _) hn (hQ.post hC hP1)
  | composePure f a =>
    intro hOK S hp hC hn hQ
    refine Spec.bind (Spec.liftG (Q := fun _ o => o = fnP f a) hC (hOK a) rfl) (fun b S1 hp1 hP1 hb => ?_)
    subst hb
    exact Spec.pure hP1.cons _ ⟨rfl, Nat.le_refl _⟩
  | flatten e ih =>
    intro hOK S hp hC hn hQ
    have hK := le_FMB e.bnd 1 e.den.length
    exact Spec.bind_sub hC hQ hK (ih hOK.1 S hp hC (Nat.le_trans hK hn)) fun l S1 hp1 hP1 hQ1 hV =>
      (totAll fuel).flatMap S1 hp1 l .ident collOfP e.den e.bnd 1 hP1.cons hV
        (fun y hy => by
          obtain ⟨tag, xs, rfl⟩ := hOK.2 y hy
          exact ⟨⟨tag, xs, rfl, rfl⟩, Nat.le_refl _⟩)
        (Nat.le_refl _) hn hQ1
  | ap t a iht iha =>
    intro hOK S hp hC hn hQ
    obtain ⟨hOKt, hOKa, hfn⟩ := hOK
    have hKt := le_FMB t.bnd (a.bnd + 4) t.den.length
    have hKa : a.bnd ≤ FMB t.bnd (a.bnd + 4) t.den.length :=
      Nat.le_trans (Nat.le_add_right _ 4) (le_FMB_inner _ _ _)
    refine Spec.bind_sub hC hQ hKt (iht hOKt S hp hC (Nat.le_trans hKt hn)) fun lt S1 hp1 hP1 hQ1 hVt => ?_
    refine Spec.bind_sub hP1.cons hQ1 hKa (iha hOKa S1 hp1 hP1.cons (Nat.le_trans hKa hn)) fun la S2 hp2 hP2 hQ2 hVa => ?_
    exact (totAll fuel).flatMap S2 hp2 lt (.apInner la) (fun f => a.den.map (fun x => appElP f x)) t.den t.bnd
      (a.bnd + 4) hP2.cons (hVt.ext hP2.ext)
      (fun y hy => by
        obtain ⟨f, rfl, hf⟩ := hfn y hy
        exact ⟨a.den, a.bnd, f, hVa, rfl, hf, rfl, Nat.le_refl _⟩)
      (Nat.le_add_left 1 _) hn hQ2
  | map2 a b g iha ihb =>
    intro hOK S hp hC hn hQ
    obtain ⟨hOKa, hOKb, hg⟩ := hOK
    have hKa := le_FMB a.bnd (b.bnd + 4) a.den.length
    have hKb : b.bnd ≤ FMB a.bnd (b.bnd + 4) a.den.length :=
      Nat.le_trans (Nat.le_add_right _ 4) (le_FMB_inner _ _ _)
    refine Spec.bind_sub hC hQ hKa (iha hOKa S hp hC (Nat.le_trans hKa hn)) fun la S1 hp1 hP1 hQ1 hVa => ?_
    refine Spec.bind_sub hP1.cons hQ1 hKb (ihb hOKb S1 hp1 hP1.cons (Nat.le_trans hKb hn)) fun lb S2 hp2 hP2 hQ2 hVb => ?_
    exact (totAll fuel).flatMap S2 hp2 la (.map2Inner lb g) (fun x => b.den.map (fun y => pureG (elF2 g x y))) a.den a.bnd
      (b.bnd + 4) hP2.cons (hVa.ext hP2.ext)
      (fun y _ => ⟨b.den, b.bnd, hVb, Fn.Tot.c2a hg y.val, rfl, Nat.le_refl _⟩)
      (Nat.le_add_left 1 _) hn hQ2
  | flap t a ih =>
    intro hOK S hp hC hn hQ
    have hK := le_FMB t.bnd 5 t.den.length
    exact Spec.bind_sub hC hQ hK (ih hOK.1 S hp hC (Nat.le_trans hK hn)) fun lt S1 hp1 hP1 hQ1 hVt =>
      spec_flap fuel hP1.cons hVt rfl a hOK.2 hn hQ1
  | flap2 t a b ih =>
    intro hOK S hp hC hn hQ
    have hK := Nat.le_trans (le_FMB t.bnd 5 t.den.length) (le_FMB _ 5 t.den.length)
    exact Spec.bind_sub hC hQ hK (ih hOK.1 S hp hC (Nat.le_trans hK hn)) fun lt S1 hp1 hP1 hQ1 hVt =>
      spec_flap2 fuel hP1.cons hVt rfl a b hOK.2 hn hQ1
  | flapMap g a b ih | method1 a g b ih =>
    intro hOK S hp hC hn hQ
    have hK := Nat.le_trans (Nat.le_add_right a.bnd 4) (le_FMB _ 5 a.den.length)
    exact Spec.bind_sub hC hQ hK (ih hOK.1 S hp hC (Nat.le_trans hK hn)) fun la S1 hp1 hP1 hQ1 hVa =>
      spec_flapMap fuel hP1.cons hVa hOK.2 b hn hQ1
  | method2 ta h b c ih =>
    intro hOK S hp hC hn hQ
    have hK := Nat.le_trans (Nat.le_add_right ta.bnd 4)
      (Nat.le_trans (le_FMB _ 5 ta.den.length) (le_FMB _ 5 ta.den.length))
    exact Spec.bind_sub hC hQ hK (ih hOK.1 S hp hC (Nat.le_trans hK hn)) fun la S1 hp1 hP1 hQ1 hVa =>
      spec_method2 fuel hP1.cons hVa hOK.2 b c hn hQ1

/-! ## from the typing to the traversal -/

/-- the heap is consistent with the typing `S` and no `sync.Once` is currently executing -/
structure WellTyped (S : Sty) (hp : Heap) : Prop where
  cons : Cons S hp
  idle : RunSub hp {}

theorem WellTyped.empty : WellTyped Sty.empty {} := ⟨Cons.empty, RunSub.refl _⟩

theorem WellTyped.quiet {S : Sty} {hp : Heap} (h : WellTyped S hp) (K : Nat) : Quiet K S hp := by
  refine ⟨fun c n hc => ?_, fun c n hc => ?_, fun c n hc => ?_⟩
  · obtain ⟨_, h'⟩ := h.idle.hs c n hc; simp at h'
  · obtain ⟨_, h'⟩ := h.idle.ts c n hc; simp at h'
  · obtain ⟨_, h'⟩ := h.idle.ls c n hc; simp at h'

theorem WellTyped.post {S S' : Sty} {hp hp' : Heap} (h : WellTyped S hp) (hP : Post S hp S' hp') :
    WellTyped S' hp' := ⟨hP.cons, hP.run.trans h.idle⟩

/-- the cursor loop over a typed value returns the denotation -/
theorem toSeq_typed : ∀ (xs : List El) (fuel : Nat) (S : Sty) (hp : Heap) (l : LV) (acc : List El) (K : Nat) (lg : Log),
    WellTyped S hp → VDen S l xs K → K + xs.length < fuel →
    ∃ hp' lg', Coll.toSeq fuel l acc hp lg = (.ok (acc ++ xs), hp', lg') := by
  intro xs
  induction xs with
  | nil =>
    intro fuel S hp l acc K lg hW hV hf
    obtain ⟨f, rfl⟩ := Nat.exists_eq_succ_of_ne_zero (by omega : fuel ≠ 0)
    obtain ⟨b, S1, hp1, lg1, h1, _, hb⟩ := (totAll f).isEmpty S hp l [] K hW.cons hV (by simp at hf; omega) (hW.quiet K) lg
    subst hb
    exact ⟨hp1, lg1, by rw [Coll.toSeq, bind_ok h1, List.append_nil]; rfl⟩
  | cons x xs ih =>
    intro fuel S hp l acc K lg hW hV hf
    obtain ⟨f, rfl⟩ := Nat.exists_eq_succ_of_ne_zero (by omega : fuel ≠ 0)
    have hk : K ≤ f := by simp at hf; omega
    obtain ⟨b, S1, hp1, lg1, h1, hP1, hb⟩ := (totAll f).isEmpty S hp l (x :: xs) K hW.cons hV hk (hW.quiet K) lg
    subst hb
    have hW1 := hW.post hP1
    obtain ⟨v, S2, hp2, lg2, h2, hP2, hv⟩ :=
      (totAll f).head S1 hp1 l (x :: xs) K x hW1.cons (hV.ext hP1.ext) rfl hk (hW1.quiet K) lg1
    rw [hv] at h2
    have hW2 := hW1.post hP2
    obtain ⟨t, S3, hp3, lg3, h3, hP3, hVt⟩ :=
      (totAll f).tail S2 hp2 l (x :: xs) K hW2.cons (hV.ext (hP1.ext.trans hP2.ext)) rfl hk (hW2.quiet K) lg2
    obtain ⟨hp', lg', h4⟩ := ih f S3 hp3 t (acc ++ [x]) K lg3 (hW2.post hP3) hVt (by simp at hf ⊢; omega)
    refine ⟨hp', lg', ?_⟩
    rw [Coll.toSeq, bind_ok h1]
    show (Coll.head f l >>= fun v => Coll.tail f l >>= fun t => Coll.toSeq f t (acc ++ [v])) hp1 lg1 = _
    rw [bind_ok h2, bind_ok h3, h4, List.append_assoc]
    rfl

/-- evaluating a program in a well-typed heap: a well-typed heap and a value typed with the
    program's denotation (the typing only grows: values typed before stay typed, `VDen.ext`) -/
theorem evalF_typed (e : LX) (hOK : e.OK) (S : Sty) (hp : Heap) (hW : WellTyped S hp)
    (fuel : Nat) (hfuel : e.bnd ≤ fuel) (lg : Log) :
    ∃ l S' hp' lg', e.evalF fuel hp lg = (.ok l, hp', lg') ∧ WellTyped S' hp' ∧ Ext S S' ∧
      VDen S' l e.den e.bnd := by
  obtain ⟨l, S', hp', lg', he, hP, hV⟩ := evalF_spec fuel e hOK S hp hW.cons hfuel (hW.quiet _) lg
  exact ⟨l, S', hp', lg', he, hW.post hP, hP.ext, hV⟩

/-- THE theorem (arbitrary fuel): a well-typed program whose callbacks do not panic evaluates,
    from the empty heap, to a list value whose traversal returns the program's denotation; no
    closure is started twice. -/
theorem lx_evalF_den (e : LX) (hOK : e.OK) (fuel : Nat) (hfuel : e.bnd + e.den.length < fuel) (lg : Log) :
    ∃ l hp lg1 hp' lg', e.evalF fuel {} lg = (.ok l, hp, lg1) ∧
      Coll.toSeq fuel l [] hp lg1 = (.ok e.den, hp', lg') ∧ hp'.maxEvals ≤ 1 := by
  obtain ⟨l, S', hp, lg1, he, hW, _, hV⟩ := evalF_typed e hOK _ _ WellTyped.empty fuel (by omega) lg
  obtain ⟨hp', lg', ht⟩ := toSeq_typed e.den fuel S' hp l [] e.bnd lg1 hW hV hfuel
  refine ⟨l, hp, lg1, hp', lg', he, by simpa using ht, ?_⟩
  have h1 := pres_evalF fuel e {} lg Heap.WF.empty
  rw [he] at h1
  have h2 := pres_toSeq fuel l [] hp lg1 h1
  rw [ht] at h2
  exact WF.maxEvals_le hp' h2

/-- THE theorem for the oracle's `LX.eval` (fuel `FUEL`) -/
theorem lx_eval_den (e : LX) (hOK : e.OK) (hfuel : e.bnd + e.den.length < FUEL) (lg : Log) :
    ∃ l hp lg1 hp' lg', e.eval {} lg = (.ok l, hp, lg1) ∧
      Coll.toSeq FUEL l [] hp lg1 = (.ok e.den, hp', lg') ∧ hp'.maxEvals ≤ 1 := by
  rw [LX.eval_eq_evalF]
  exact lx_evalF_den e hOK FUEL hfuel lg

end FpVerif.Coll
