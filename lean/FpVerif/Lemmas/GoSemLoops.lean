import FpVerif.Model.GoSem
/-!
# Index loops of the Go fragment (`GoSem.forRange`, `GoSem.forAcc`) as structural recursions over lists

Used by `Spec/C09Gen`, `C09GenHash`, `C10Gen`: the translated `eq.Seq`, `ord.Seq`, `hash.String`, `seq.Fold` are index loops
(`a[i]`), the models are structural recursions / folds over `List`.
-/
namespace FpVerif.GoSem
open FpVerif.TC

variable {α β ρ : Type}

@[simp] theorem idx_cons_zero [GoZero α] (x : α) (xs : List α) : idx (x :: xs) 0 = x := rfl
@[simp] theorem idx_cons_succ [GoZero α] (x : α) (xs : List α) (j : Nat) : idx (x :: xs) (j + 1) = idx xs j := rfl

theorem idx_lt [GoZero α] (a : List α) (i : Nat) (h : i < a.length) : idx a i = a[i] := by
  simp [idx, h]

theorem loopFrom_shift (body : Nat → Option ρ) (rest : ρ) (fuel i : Nat) :
    loopFrom body rest fuel (i + 1) = loopFrom (fun j => body (j + 1)) rest fuel i := by
  induction fuel generalizing i with
  | zero => rfl
  | succ n ih => simp only [loopFrom]; rw [ih]

theorem forRange_succ (n : Nat) (body : Nat → Option ρ) (rest : ρ) :
    forRange (n + 1) body rest =
      match body 0 with
      | some r => r
      | none => forRange n (fun j => body (j + 1)) rest := by
  unfold forRange
  rw [loopFrom]
  cases body 0 with
  | some r => rfl
  | none => simp only []; rw [loopFrom_shift]

@[simp] theorem forRange_zero (body : Nat → Option ρ) (rest : ρ) : forRange 0 body rest = rest := rfl

theorem accFrom_shift (step : β → Nat → β) (fuel i : Nat) (acc : β) :
    accFrom step fuel (i + 1) acc = accFrom (fun a j => step a (j + 1)) fuel i acc := by
  induction fuel generalizing i acc with
  | zero => rfl
  | succ n ih => simp only [accFrom]; rw [ih]

theorem forAcc_succ (n : Nat) (init : β) (step : β → Nat → β) :
    forAcc (n + 1) init step = forAcc n (step init 0) (fun a j => step a (j + 1)) := by
  simp only [forAcc, accFrom]; rw [accFrom_shift]

@[simp] theorem forAcc_zero (init : β) (step : β → Nat → β) : forAcc 0 init step = init := rfl

/-- schema L3 over a slice: `for i := 0; i < len(l); i++ { acc = f(acc, l[i]) }` is `foldl` -/
theorem forAcc_idx_eq_foldl [GoZero α] (f : β → α → β) (l : List α) (init : β) :
    forAcc l.length init (fun acc i => f acc (idx l i)) = l.foldl f init := by
  induction l generalizing init with
  | nil => rfl
  | cons x xs ih =>
    simp only [List.length_cons, forAcc_succ, idx_cons_zero, idx_cons_succ, List.foldl_cons]
    exact ih _

/-- the loop of `eq.Seq` (sizes known to be equal) is the model's `seqLoop` -/
theorem forRange_eq_seqLoop [GoZero α] (eq : EqD α) (a b : List α) (h : a.length = b.length) :
    forRange a.length (fun i => if (!(eq.eqv (idx a i) (idx b i))) = true then some false else none) true
      = EqD.seqLoop eq a b := by
  induction a generalizing b with
  | nil => cases b <;> simp [EqD.seqLoop]
  | cons x xs ih =>
    cases b with
    | nil => simp at h
    | cons y ys =>
      simp only [List.length_cons, forRange_succ, idx_cons_zero, idx_cons_succ, EqD.seqLoop]
      by_cases hxy : eq.eqv x y = true
      · simp only [hxy, Bool.not_true, Bool.false_eq_true, ↓reduceIte]
        exact ih ys (by simpa using h)
      · simp [hxy]

/-- the loop of `ord.Seq` followed by the size comparison is the model's `seqLess` -/
theorem forRange_eq_seqLess [GoZero α] (ord : OrdD α) (a b : List α) :
    forRange (min a.length b.length)
        (fun i => if ord.less (idx a i) (idx b i) = true then some true
                  else if ord.less (idx b i) (idx a i) = true then some false else none)
        (decide (a.length < b.length))
      = OrdD.seqLess ord a b := by
  induction a generalizing b with
  | nil => cases b <;> simp [OrdD.seqLess]
  | cons x xs ih =>
    cases b with
    | nil => simp [OrdD.seqLess]
    | cons y ys =>
      simp only [List.length_cons, Nat.succ_min_succ, forRange_succ, idx_cons_zero, idx_cons_succ, OrdD.seqLess,
        Nat.add_lt_add_iff_right]
      by_cases hxy : ord.less x y = true
      · simp [hxy]
      · by_cases hyx : ord.less y x = true
        · simp [hxy, hyx]
        · simp only [hxy, hyx]; exact ih ys

end FpVerif.GoSem
