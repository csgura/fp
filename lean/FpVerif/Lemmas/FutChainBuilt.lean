import FpVerif.Lemmas.FutChain
/-!
# The nodes a builder consists of, and what they denote (helpers for Spec/C14Fut.lean, Spec/C06Chain.lean)

`Built`: the net contains the futures of a `MonadChainN` builder after some method calls — a relation on the recorded
construction expressions, stable under every later event; `*_built`: the model's chain functions establish it, keep the
existing specs and log nothing; `chain_rel`: what the final future then denotes, generically in a relation `R` of `ERel`
(soundness / completeness / fixpoint).  The other builders have no relation of their own: their walks
(`runApplicative_means`, `flapRun_means`, `apFuncRun_means`, `withRun_means`) say at once what the returned future `Means`.
-/
namespace FpVerif.Spec.C14Fut
open FpVerif.Fut FpVerif.Spec.C06

theorem evalS_apFunc (σ : Nat → TV) (app : Ex → Val → Val → W Val) (t : Nat) (a : Ex → FExpr) (c : Ex) :
    evalS σ (Fut.apFunc app t a c)
      = bindOk (σ t) (fun f => bindOk (evalS σ (a c)) (fun x => some (.success (app c f x).1))) := by
  simp only [Fut.apFunc, evalS, Fut.map]

/-- `Ap(t, a)` is `ApFunc(t, () => a)` -/
theorem evalS_ap (σ : Nat → TV) (app : Ex → Val → Val → W Val) (t a : Nat) (c : Ex) :
    evalS σ (Fut.ap app t a c)
      = bindOk (σ t) (fun f => bindOk (σ a) (fun x => some (.success (app c f x).1))) :=
  evalS_apFunc σ app t (fun _ => .ref a) c

theorem evalS_fromTry (σ : Nat → TV) (t : Try Val) : evalS σ (fromTry t) = some t := by
  cases t <;> rfl

theorem evalS_fromOption (σ : Nat → TV) (o : Option Val) : evalS σ (fromOption o) = some (tryOfOption o) := by
  cases o <;> rfl

/-- the curried function: a partial application while arguments are missing (`applyC_partial`), `fn` on the last
    one (`applyC_last`) -/
theorem applyC_partial (n : Nat) (fn : NFn) (c : Ex) (vs : List Val) (x : Val) (h : vs.length + 1 < n) :
    applyC n fn c (pa vs) x = (pa (vs ++ [x]), []) :=
  if_pos (by rw [List.length_append]; exact h)

theorem paArgs_pa (vs : List Val) : paArgs (pa vs) = vs := rfl

theorem applyC_last (n : Nat) (fn : NFn) (c : Ex) (vs : List Val) (x : Val) (h : n ≤ vs.length + 1) :
    applyC n fn c (pa vs) x = fn c (vs ++ [x]) :=
  if_neg (by rw [List.length_append]; exact Nat.not_lt.mpr h)

/-- the net contains the futures of a `MonadChain` builder on which the methods `done` have been called:
    `st` is the builder's `{h, fn}`.  (A relation on the recorded construction expressions only: it survives every
    later event — `Built.mono` — so builders may be held and continued at any later time.) -/
inductive Built (app : Ex → Val → Val → W Val) (n : Net) : List (Ex × Step) → ChainSt → Prop where
  | new (st : ChainSt) : st.h < n.next → st.fn < n.next →
      n.spec st.h = .successful (hl []) → n.spec st.fn = .successful (pa []) → Built app n [] st
  | step (done : List (Ex × Step)) (st st' : ChainSt) (c : Ex) (s : Step) (av : Nat) :
      Built app n done st → av < n.next → ShallowRoot n av (chainOperand st.h c s) →
      st'.h < n.next → st'.fn < n.next →
      n.spec st'.h = map2 av st.h hconsW → n.spec st'.fn = Fut.ap app st.fn av .d →
      Built app n (done ++ [(c, s)]) st'

/-- `q` is the future the last method call (on `MonadChain1`) returned -/
def BuiltLast (app : Ex → Val → Val → W Val) (n : Net) (steps : List (Ex × Step)) (q : Nat) : Prop :=
  ∃ done st c s av, steps = done ++ [(c, s)] ∧ Built app n done st ∧ av < n.next ∧
    ShallowRoot n av (chainOperand st.h c s) ∧ q < n.next ∧ n.spec q = Fut.ap app st.fn av .d

theorem Built.mono {app : Ex → Val → Val → W Val} {n n' : Net} (hle : SpecLe n n') {done : List (Ex × Step)}
    {st : ChainSt} (h : Built app n done st) : Built app n' done st := by
  induction h with
  | new st h1 h2 h3 h4 =>
    exact .new st (hle.lt h1) (hle.lt h2) (hle.spec_eq h1 h3) (hle.spec_eq h2 h4)
  | step done st st' c s av _ hav hroot h1 h2 h3 h4 ih =>
    exact .step done st st' c s av ih (hle.lt hav) (hroot.mono hle hav) (hle.lt h1) (hle.lt h2)
      (hle.spec_eq h1 h3) (hle.spec_eq h2 h4)

theorem BuiltLast.mono {app : Ex → Val → Val → W Val} {n n' : Net} (hle : SpecLe n n') {steps : List (Ex × Step)}
    {q : Nat} (h : BuiltLast app n steps q) : BuiltLast app n' steps q := by
  obtain ⟨done, st, c, s, av, hs, hb, hav, hroot, hq, hsp⟩ := h
  exact ⟨done, st, c, s, av, hs, hb.mono hle, hle.lt hav, hroot.mono hle hav, hle.lt hq, hle.spec_eq hq hsp⟩

/-- the future of the operand a method computes denotes `operandS`, once the hlist future holds the values so far -/
theorem operand_rel {R : TV → TV → Prop} (hR : ERel R) {σ : Nat → TV} {n : Net} (hc : Consistent R σ n) {av h : Nat}
    {c : Ex} {s : Step} (hroot : ShallowRoot n av (chainOperand h c s)) {vs : List Val}
    (hh : R (σ h) (some (.success (hl vs)))) : R (σ av) (operandS σ c vs s) := by
  refine hR.trans (shallowRoot_consistent hR hc hroot) ?_
  have key : ∀ (K : Val → FExpr) (o : TV), evalS σ (K (hl vs)) = o → R (evalS σ (.flatMap (.ref h) K)) o := by
    intro K o ho
    subst ho
    exact hR.bind (f := fun hv => evalS σ (K hv)) (f' := fun hv => evalS σ (K hv)) hh (fun _ => hR.refl _)
  cases s with
  | a s =>
    cases s with
    | apFuture a => exact hR.refl _
    | ap v => exact hR.refl _
    | apTry t => exact hR.of_eq (evalS_fromTry σ t)
    | apOption o => exact hR.of_eq (evalS_fromOption σ o)
    | apFutureFunc s => exact key _ _ rfl
    | apTryFunc s => exact key _ _ (evalS_fromTry σ (s c).1)
    | apOptionFunc s => exact key _ _ (evalS_fromOption σ (s c).1)
    | apFunc s => exact key _ _ rfl
  | flatMap k => exact key _ _ rfl
  | map k => exact key _ _ rfl
  | hlistFlatMap k => exact key _ _ rfl
  | hlistMap k => exact key _ _ rfl

/-- what a curried `fn` of arity `N` has produced after the arguments `ws` -/
def appRes (N : Nat) (fn : NFn) (cx : Ex) (ws : List Val) : Val := if ws.length < N then pa ws else (fn cx ws).1

theorem applyC_appRes (N : Nat) (fn : NFn) (c : Ex) (vs : List Val) (x : Val) :
    (applyC N fn c (pa vs) x).1 = appRes N fn c (vs ++ [x]) :=
  apply_ite Prod.fst _ _ _

/-- after all `N` positions the curried function has been called -/
theorem appRes_full (σ : Nat → TV) (fn : NFn) (cx : Ex) (steps : List (Ex × Step)) :
    bindP (argsSpec σ steps) (fun ws => some (.success (appRes steps.length fn cx ws)))
      = bindP (argsSpec σ steps) (fun ws => some (.success (fn cx ws).1)) :=
  bindP_congr _ _ _ (fun ws hws => by simp [appRes, argsSpec_length σ steps ws hws])

theorem hcons_hl (y : Val) (vs : List Val) : hcons y (hl vs) = hl (vs ++ [y]) := by
  simp [hcons, hl]

/-- **One more `Ap` / `ApFunc` on the function future.**  `f` holds the curried function applied to the values `D` computed
    so far; `f'` binds `f`, then the operand `o` of the next position, and applies (on `cx`). -/
theorem fn_ap {R : TV → TV → Prop} (hR : ERel R) {σ : Nat → TV} (N : Nat) (fn : NFn) {cx : Ex}
    {D : Option (Try (List Val))} {O : List Val → TV} {f f' : Nat} {o : TV}
    (hf : R (σ f) (bindP D (fun ws => some (.success (pa ws)))))
    (hf' : R (σ f') (bindOk (σ f) (fun g => bindOk o (fun x => some (.success (applyC N fn cx g x).1)))))
    (ho : ∀ vs, D = some (.success vs) → R o (O vs)) :
    R (σ f') (bindP D (fun vs => bindOk (O vs) (fun y => some (.success (appRes N fn cx (vs ++ [y])))))) := by
  refine hR.trans hf' (hR.trans (hR.bind hf (fun _ => hR.refl _)) ?_)
  rcases D with _ | (vs | e)
  · exact hR.refl _
  · show R (bindOk o (fun x => some (.success (applyC N fn cx (pa vs) x).1))) (bindOk (O vs) _)
    exact hR.bind (ho vs rfl) (fun y => hR.of_eq (congrArg (fun v => some (Try.success v)) (applyC_appRes N fn cx vs y)))
  · exact hR.refl _

/-- the chain's form: the values so far are those of the calls `done` -/
theorem fn_snoc {R : TV → TV → Prop} (hR : ERel R) {σ : Nat → TV} (N : Nat) (fn : NFn) {cx0 cx : Ex}
    {done : List (Ex × Step)} {cs : Ex × Step} {f f' : Nat} {o : TV} (hlen : done.length < N)
    (hf : R (σ f) (bindP (argsSpec σ done) (fun ws => some (.success (appRes N fn cx0 ws)))))
    (hf' : R (σ f') (bindOk (σ f) (fun g => bindOk o (fun x => some (.success (applyC N fn cx g x).1)))))
    (ho : ∀ vs, argsSpec σ done = some (.success vs) → R o (operandS σ cs.1 vs cs.2)) :
    R (σ f') (bindP (argsSpec σ (done ++ [cs])) (fun ws => some (.success (appRes N fn cx ws)))) := by
  rw [argsSpec_snoc, bindP_argsStep]
  refine fn_ap hR N fn ?_ hf' ho
  rwa [bindP_congr _ _ (fun ws => some (.success (pa ws)))
    (fun ws hws => by simp [appRes, argsSpec_length σ done ws hws, hlen])] at hf

/-- what the two futures of a builder denote: `fn` the curried function applied to the values so far, `h` their hlist -/
theorem built_rel {R : TV → TV → Prop} (hR : ERel R) {σ : Nat → TV} {n : Net} (hc : Consistent R σ n)
    (N : Nat) (fn : NFn) {done : List (Ex × Step)} {st : ChainSt}
    (hb : Built (applyC N fn) n done st) (hlen : done.length < N) :
    R (σ st.fn) (bindP (argsSpec σ done) (fun ws => some (.success (appRes N fn .d ws)))) ∧
    ∀ vs, argsSpec σ done = some (.success vs) → R (σ st.h) (some (.success (hl vs))) := by
  induction hb with
  | new st _ _ h3 h4 =>
    have h1 := hc st.fn; rw [h4] at h1
    have h2 := hc st.h; rw [h3] at h2
    refine ⟨?_, fun vs hvs => ?_⟩
    · simpa [argsSpec, bindP, appRes, evalS, Nat.zero_lt_of_lt hlen] using h1
    · cases hvs; exact h2
  | step done st st' c s av _ hav hroot _ _ h3 h4 ih =>
    have hlen' : done.length < N := by simp at hlen; omega
    obtain ⟨ihfn, ihh⟩ := ih hlen'
    have hav' : ∀ vs, argsSpec σ done = some (.success vs) → R (σ av) (operandS σ c vs s) := fun vs hD =>
      operand_rel hR hc hroot (ihh vs hD)
    have hcfn := hc st'.fn; rw [h4, evalS_ap] at hcfn
    refine ⟨fn_snoc hR N fn hlen' ihfn hcfn hav', fun ws hws => ?_⟩
    rw [argsSpec_snoc] at hws
    obtain ⟨vs, y, hD, ho, rfl⟩ := argsStep_success hws
    have hch := hc st'.h; rw [h3, evalS_map2] at hch
    have hy := hav' vs hD; rw [ho] at hy
    have := hR.trans hch (hR.bind hy (fun _ => hR.bind (ihh vs hD) (fun _ => hR.refl _)))
    simpa only [bindOk_success, hconsW, hcons_hl] using this

/-- **Denotation of a chain, generic in the relation.**  Whenever `σ` is `R`-consistent with the net (sound, complete or
    a fixpoint), the future the last method call returned is `R`-related to the do-notation reading. -/
theorem chain_rel {R : TV → TV → Prop} (hR : ERel R) {σ : Nat → TV} {n : Net} (hc : Consistent R σ n)
    (fn : NFn) {steps : List (Ex × Step)} {q : Nat} (hb : BuiltLast (applyC steps.length fn) n steps q) :
    R (σ q) (chainSpec σ fn steps []) := by
  obtain ⟨done, st, c, s, av, rfl, hbd, _, hroot, _, hsp⟩ := hb
  have hlen : done.length < (done ++ [(c, s)]).length := by simp
  obtain ⟨ihfn, ihh⟩ := built_rel hR hc _ fn hbd hlen
  have hcq := hc q; rw [hsp, evalS_ap] at hcq
  rw [chainSpec_eq_args, ← appRes_full]
  exact fn_snoc hR _ fn hlen ihfn hcq (fun vs hD => operand_rel hR hc hroot (ihh vs hD))

/-- the only handles a step mentions directly are those of `ApFuture` -/
def StepWF (b : Nat) : Step → Prop
  | .a (.apFuture a) => a < b
  | _ => True

theorem chainOperand_ros {b : Nat} (h : Nat) (c : Ex) {s : Step} (hs : StepWF b s) :
    RefOrShallow b (chainOperand h c s) := by
  cases s with
  | a s =>
    cases s with
    | apFuture a => exact .inl ⟨a, rfl, hs⟩
    | ap v => exact .inr (.successful v)
    | apTry t => cases t <;> exact .inr (by constructor)
    | apOption o => cases o <;> exact .inr (by constructor)
    | apFutureFunc s => exact .inr (.flatMap _ _)
    | apTryFunc s => exact .inr (.flatMap _ _)
    | apOptionFunc s => exact .inr (.flatMap _ _)
    | apFunc s => exact .inr (.flatMap _ _)
  | flatMap k => exact .inr (.flatMap _ _)
  | map k => exact .inr (.flatMap _ _)
  | hlistFlatMap k => exact .inr (.flatMap _ _)
  | hlistMap k => exact .inr (.flatMap _ _)

/-- on the methods shared with `ApplicativeFunctorN` the operand is the value handed over (`chainOperand_value`), or
    the supplier run after the hlist future (`chainOperand_supplier`) -/
theorem chainOperand_value (h : Nat) (c : Ex) {s : AStep} (hs : s.supplier = none) :
    chainOperand h c (.a s) = s.valueExpr := by
  cases s with
  | apFuture | ap | apTry | apOption => rfl
  | _ => cases hs

theorem chainOperand_supplier (h : Nat) (c : Ex) {s : AStep} {sup : Ex → FExpr} (hs : s.supplier = some sup) :
    chainOperand h c (.a s) = .flatMap (.ref h) (fun _ => sup c) := by
  cases s with
  | apFutureFunc | apTryFunc | apOptionFunc | apFunc =>
    cases hs
    rfl
  | _ => cases hs

theorem chainNew_built (app : Ex → Val → Val → W Val) (n : Net) :
    Built app (chainNew n).2 [] (chainNew n).1 ∧ SpecLe n (chainNew n).2 ∧ (chainNew n).2.log = n.log := by
  rcases h1 : build (.successful (hl [])) n with ⟨h, n1⟩
  rcases h2 : build (.successful (pa [])) n1 with ⟨f, n2⟩
  simp only [chainNew, h1, h2]
  have b1 := build_shallow (.successful _) h1
  have b2 := build_shallow (.successful _) h2
  exact ⟨.new _ (b2.specLe.lt b1.lt) b2.lt (b2.specLe.spec_eq b1.lt b1.spec_root) b2.spec_root,
    b1.specLe.trans b2.specLe, b2.log.trans b1.log⟩

/-- one method call of the generated `MonadChainN` (N ≥ 2) -/
theorem chainStep_built {app : Ex → Val → Val → W Val} {n : Net} {done : List (Ex × Step)} {st : ChainSt}
    (hb : Built app n done st) (c : Ex) {s : Step} (hs : StepWF n.next s) :
    Built app (chainStep app st c s n).2 (done ++ [(c, s)]) (chainStep app st c s n).1 ∧
    SpecLe n (chainStep app st c s n).2 ∧ (chainStep app st c s n).2.log = n.log := by
  rcases h1 : build (chainOperand st.h c s) n with ⟨av, n1⟩
  rcases h2 : build (map2 av st.h hconsW) n1 with ⟨nh, n2⟩
  rcases h3 : build (Fut.ap app st.fn av .d) n2 with ⟨nf, n3⟩
  simp only [chainStep, h1, h2, h3]
  obtain ⟨le1, root1, lt1, log1⟩ := build_refOrShallow (chainOperand_ros st.h c hs) h1
  have b2 := build_shallow (.flatMap av _) h2
  have b3 := build_shallow (.flatMap st.fn _) h3
  have le13 : SpecLe n1 n3 := b2.specLe.trans b3.specLe
  exact ⟨.step done st _ c s av (hb.mono (le1.trans le13)) (le13.lt lt1) (root1.mono le13 lt1) (b3.specLe.lt b2.lt)
    b3.lt (b3.specLe.spec_eq b2.lt b2.spec_root) b3.spec_root, le1.trans le13, b3.log.trans (b2.log.trans log1)⟩

/-- one method call of the hand-written `MonadChain1` -/
theorem chainLast_built {app : Ex → Val → Val → W Val} {n : Net} {done : List (Ex × Step)} {st : ChainSt}
    (hb : Built app n done st) (c : Ex) {s : Step} (hs : StepWF n.next s) :
    BuiltLast app (chainLast app st c s n).2 (done ++ [(c, s)]) (chainLast app st c s n).1 ∧
    SpecLe n (chainLast app st c s n).2 ∧ (chainLast app st c s n).2.log = n.log := by
  rcases h1 : build (chainOperand st.h c s) n with ⟨av, n1⟩
  rcases h3 : build (Fut.ap app st.fn av .d) n1 with ⟨q, n3⟩
  simp only [chainLast, h1, h3]
  obtain ⟨le1, root1, lt1, log1⟩ := build_refOrShallow (chainOperand_ros st.h c hs) h1
  have b3 := build_shallow (.flatMap st.fn _) h3
  exact ⟨⟨done, st, c, s, av, rfl, hb.mono (le1.trans b3.specLe), b3.specLe.lt lt1,
    root1.mono b3.specLe lt1, b3.lt, b3.spec_root⟩, le1.trans b3.specLe, b3.log.trans log1⟩

theorem StepWF.mono {b b' : Nat} (h : b ≤ b') {s : Step} (hs : StepWF b s) : StepWF b' s := by
  cases s with
  | a s => cases s <;> first | exact Nat.lt_of_lt_of_le hs h | trivial
  | _ => trivial

theorem chainRun_built {app : Ex → Val → Val → W Val} (steps : List (Ex × Step)) :
    ∀ {n : Net} {done : List (Ex × Step)} {st : ChainSt}, Built app n done st → steps ≠ [] →
    (∀ cs ∈ steps, StepWF n.next cs.2) →
    BuiltLast app (chainRun app st steps n).2 (done ++ steps) (chainRun app st steps n).1 ∧
    SpecLe n (chainRun app st steps n).2 ∧ (chainRun app st steps n).2.log = n.log := by
  induction steps with
  | nil => intro _ _ _ _ h; exact absurd rfl h
  | cons cs rest ih =>
    intro n done st hb _ hwf
    obtain ⟨c, s⟩ := cs
    cases rest with
    | nil => exact chainLast_built hb c (hwf (c, s) (by simp))
    | cons cs2 rest2 =>
      simp only [chainRun]
      obtain ⟨hb1, le1, log1⟩ := chainStep_built hb c (hwf (c, s) (by simp))
      generalize chainStep app st c s n = r1 at hb1 le1 log1
      obtain ⟨hb2, le2, log2⟩ := ih hb1 (by simp)
        (fun x hx => (hwf x (by simp [hx])).mono le1.next)
      refine ⟨?_, le1.trans le2, log2.trans log1⟩
      simpa [List.append_assoc] using hb2

/-- **`ChainN(fn).m1(…)…mN(…)` on any net**: the returned handle is the last future of a chain with exactly these
    method calls; existing futures keep their meaning; nothing is logged. -/
theorem runChain_built (fn : NFn) (steps : List (Ex × Step)) (n : Net) (hne : steps ≠ [])
    (hwf : ∀ cs ∈ steps, StepWF n.next cs.2) :
    BuiltLast (applyC steps.length fn) (runChain fn steps n).2 steps (runChain fn steps n).1 ∧
    SpecLe n (runChain fn steps n).2 ∧ (runChain fn steps n).2.log = n.log := by
  simp only [runChain]
  obtain ⟨hb0, le0, log0⟩ := chainNew_built (applyC steps.length fn) n
  generalize chainNew n = r0 at hb0 le0 log0
  obtain ⟨hb1, le1, log1⟩ := chainRun_built steps hb0 hne (fun x hx => (hwf x hx).mono le0.next)
  exact ⟨by simpa using hb1, le0.trans le1, log1.trans log0⟩

theorem supplier_evalS (σ : Nat → TV) (c : Ex) {s : AStep} {sup : Ex → FExpr} (h : s.supplier = some sup) :
    evalS σ (sup c) = aOperandS σ c s := by
  cases s with
  | apFutureFunc s => cases h; rfl
  | apTryFunc s => cases h; exact evalS_fromTry σ _
  | apOptionFunc s => cases h; exact evalS_fromOption σ _
  | apFunc s => cases h; rfl
  | _ => cases h

theorem value_evalS (σ : Nat → TV) (c : Ex) {s : AStep} (h : s.supplier = none) :
    evalS σ s.valueExpr = aOperandS σ c s := by
  cases s with
  | apFuture a => rfl
  | ap v => rfl
  | apTry t => exact evalS_fromTry σ t
  | apOption o => exact evalS_fromOption σ o
  | _ => cases h

def AStepWF (b : Nat) : AStep → Prop
  | .apFuture a => a < b
  | _ => True

theorem AStepWF.mono {b b' : Nat} (h : b ≤ b') {s : AStep} (hs : AStepWF b s) : AStepWF b' s := by
  cases s <;> first | exact Nat.lt_of_lt_of_le hs h | trivial

theorem valueExpr_ros {b : Nat} {s : AStep} (hs : AStepWF b s) (hn : s.supplier = none) :
    RefOrShallow b s.valueExpr := by
  cases s with
  | apFuture a => exact .inl ⟨a, rfl, hs⟩
  | ap v => exact .inr (.successful v)
  | apTry t => cases t <;> exact .inr (by constructor)
  | apOption o => cases o <;> exact .inr (by constructor)
  | _ => cases hn

/-- the executor the curried function is applied on by the call `(c, s)`: the generated receivers (every call but the last)
    drop `ctx`, the hand-written `ApplicativeFunctor1` passes it to `ApFunc(r.fn, a, ctx...)`; a value call is `Ap(r.fn, a)` -/
def appEx (last : Bool) (c : Ex) (s : AStep) : Ex := if s.supplier.isSome then (if last then c else .d) else .d

/-- one method call of `ApplicativeFunctorN`, after the calls that computed the values `D`: the existing futures keep their
    meaning, nothing is logged, and the new function future means one more `Ap` / `ApFunc` -/
theorem applicativeStep_means {N : Nat} {fn : NFn} {n : Net} {f : Nat} (D : (Nat → TV) → Option (Try (List Val)))
    (last : Bool) (c : Ex) {s : AStep} (hs : AStepWF n.next s) :
    (Means n f (fun σ => bindP (D σ) (fun ws => some (.success (pa ws)))) →
      Means (applicativeStep (applyC N fn) f last c s n).2 (applicativeStep (applyC N fn) f last c s n).1
        (fun σ => bindP (D σ) (fun ws => bindOk (aOperandS σ (if last then c else .d) s)
          (fun a => some (.success (appRes N fn (appEx last c s) (ws ++ [a]))))))) ∧
    SpecLe n (applicativeStep (applyC N fn) f last c s n).2 ∧ (applicativeStep (applyC N fn) f last c s n).2.log = n.log := by
  unfold applicativeStep appEx
  cases hsup : s.supplier with
  | some sup =>
    have b := build_shallow (e := Fut.apFunc (applyC N fn) f sup (if last then c else .d)) (.flatMap f _) (n := n) rfl
    refine ⟨fun hf R hR σ n' hle hc => ?_, b.specLe, b.log⟩
    have hcf := b.rel hle hc
    rw [evalS_apFunc, supplier_evalS σ _ hsup] at hcf
    exact fn_ap hR N fn (hf R hR σ n' (b.specLe.trans hle) hc) hcf (fun _ _ => hR.refl _)
  | none =>
    rcases h1 : build s.valueExpr n with ⟨a, n1⟩
    rcases h3 : build (Fut.ap (applyC N fn) f a .d) n1 with ⟨f', n3⟩
    simp only [h3]
    obtain ⟨le1, root1, lt1, log1⟩ := build_refOrShallow (valueExpr_ros hs hsup) h1
    have b3 := build_shallow (.flatMap f _) h3
    refine ⟨fun hf R hR σ n' hle hc => ?_, le1.trans b3.specLe, b3.log.trans log1⟩
    have hcf : R (σ f') (evalS σ (Fut.ap (applyC N fn) f a .d)) := b3.rel hle hc
    rw [evalS_ap] at hcf
    exact fn_ap hR N fn (hf R hR σ n' ((le1.trans b3.specLe).trans hle) hc) hcf
      (fun _ _ => hR.trans (shallowRoot_consistent hR hc (root1.mono (b3.specLe.trans hle) lt1))
        (hR.of_eq (value_evalS σ _ hsup)))

/-- the remaining method calls of an applicative builder of arity `N`, after `k` calls that computed the values `D` -/
theorem applicativeRun_means {N : Nat} {fn : NFn} (steps : List (Ex × AStep)) :
    ∀ {n : Net} {f : Nat} (D : (Nat → TV) → Option (Try (List Val))) (k : Nat), (∀ cs ∈ steps, AStepWF n.next cs.2) →
    (Means n f (fun σ => bindP (D σ) (fun ws => some (.success (pa ws)))) →
      (∀ σ ws, D σ = some (.success ws) → ws.length = k) → k + steps.length = N → steps ≠ [] →
      Means (applicativeRun (applyC N fn) f steps n).2 (applicativeRun (applyC N fn) f steps n).1
        (fun σ => bindP (D σ) (fun ws => applicativeSpec σ fn steps ws))) ∧
    SpecLe n (applicativeRun (applyC N fn) f steps n).2 ∧ (applicativeRun (applyC N fn) f steps n).2.log = n.log := by
  induction steps with
  | nil => intro n f D k _; exact ⟨fun _ _ _ h => absurd rfl h, SpecLe.refl n, rfl⟩
  | cons cs rest ih =>
    intro n f D k hwf
    obtain ⟨c, s⟩ := cs
    cases rest with
    | nil =>
      obtain ⟨hm, le1, log1⟩ := applicativeStep_means (N := N) (fn := fn) (f := f) D true c (hwf (c, s) (by simp))
      refine ⟨fun hf hD hk _ => (hm hf).congr fun σ => bindP_congr _ _ _ fun ws hws => ?_, le1, log1⟩
      simp [applicativeSpec, appRes, appEx, hD σ ws hws, ← hk]
    | cons cs2 rest2 =>
      simp only [applicativeRun]
      obtain ⟨hm1, le1, log1⟩ := applicativeStep_means (N := N) (fn := fn) (f := f) D false c (hwf (c, s) (by simp))
      generalize applicativeStep (applyC N fn) f false c s n = r1 at hm1 le1 log1
      obtain ⟨hm2, le2, log2⟩ := ih (n := r1.2) (f := r1.1)
        (fun σ => bindP (D σ) (fun ws => bindP (aOperandS σ .d s) (fun a => some (.success (ws ++ [a]))))) (k + 1)
        (fun x hx => (hwf x (by simp [hx])).mono le1.next)
      refine ⟨fun hf hD hk _ => ?_, le1.trans le2, log2.trans log1⟩
      have hlt : k + 1 < N := by simp at hk; omega
      refine (hm2 ((hm1 hf).congr fun σ => ?_) ?_ (by simp at hk ⊢; omega) (by simp)).congr fun σ => ?_
      · simp only [bindP_assoc, bindP_success, bindP_eq_bindOk, Bool.false_eq_true, if_false]
        exact bindP_congr _ _ _ fun ws hws => by simp [appRes, hD σ ws hws, hlt]
      · intro σ ws' h
        obtain ⟨ws, hws, h2⟩ := bindP_success_inv h
        obtain ⟨a, _, h3⟩ := bindP_success_inv h2
        cases h3
        simp [hD σ ws hws]
      · simp only [bindP_assoc, bindP_success, bindP_eq_bindOk]
        rfl

/-- **`ApplicativeN(fn).m1(…)…mN(…)` on any net**: the returned handle means the do-notation reading (for at least one
    method call); existing futures keep their meaning; nothing is logged. -/
theorem runApplicative_means (fn : NFn) (steps : List (Ex × AStep)) (n : Net)
    (hwf : ∀ cs ∈ steps, AStepWF n.next cs.2) :
    (steps ≠ [] → Means (runApplicative fn steps n).2 (runApplicative fn steps n).1 (fun σ => applicativeSpec σ fn steps [])) ∧
    SpecLe n (runApplicative fn steps n).2 ∧ (runApplicative fn steps n).2.log = n.log := by
  simp only [runApplicative]
  have b := build_shallow (.successful (pa [])) (n := n) rfl
  obtain ⟨hm1, le1, log1⟩ := applicativeRun_means (N := steps.length) (fn := fn) steps (n := (applicativeNew n).2)
    (f := (applicativeNew n).1) (fun _ => some (.success [])) 0 (fun x hx => (hwf x hx).mono b.specLe.next)
  exact ⟨fun hne => hm1 (fun R hR σ n' hle hc => b.rel hle hc) (fun _ _ h => by cases h; rfl) (Nat.zero_add _) hne,
    b.specLe.trans le1, log1.trans b.log⟩

/-- the function value `FlapN(tf)(x1)…(xN)` ends with: every application but the last on the default executor -/
def flapVal (app : Ex → Val → Val → W Val) (c : Ex) : Val → List Val → Val
  | f, [] => f
  | f, [x] => (app c f x).1
  | f, x :: xs => flapVal app c (app .d f x).1 xs

/-- **FlapN at every arity**: the result means the function future's value applied to the arguments one after the
    other (a failed or undetermined function future stays so); existing futures are kept, nothing is logged -/
theorem flapRun_means (app : Ex → Val → Val → W Val) (c : Ex) (xs : List Val) : ∀ (tf : Nat) (n : Net),
    Means (flapRun app c tf xs n).2 (flapRun app c tf xs n).1
      (fun σ => bindOk (σ tf) (fun f => some (.success (flapVal app c f xs)))) ∧
    SpecLe n (flapRun app c tf xs n).2 ∧ (flapRun app c tf xs n).2.log = n.log := by
  induction xs with
  | nil =>
    refine fun tf n => ⟨fun R hR σ n' _ _ => ?_, SpecLe.refl n, rfl⟩
    show R (σ tf) (bindOk (σ tf) _)
    simp only [flapVal, bindOk_pure]
    exact hR.refl _
  | cons x xs ih =>
    intro tf n
    rcases h1 : build (.successful x) n with ⟨a, n1⟩
    have b1 := build_shallow (.successful x) h1
    cases xs with
    | nil =>
      rcases h2 : build (Fut.ap app tf a c) n1 with ⟨q, n2⟩
      simp only [flapRun, h1, h2]
      have b2 := build_shallow (.flatMap tf _) h2
      refine ⟨fun R hR σ n' hle hc => ?_, b1.specLe.trans b2.specLe, b2.log.trans b1.log⟩
      have := hR.trans (b2.rel hle hc)
        (hR.bind (hR.refl (σ tf)) (fun f => hR.bind (b1.rel (b2.specLe.trans hle) hc) (fun _ => hR.refl _)))
      simpa only [evalS_ap, evalS, bindOk_success, flapVal] using this
    | cons y ys =>
      rcases h2 : build (Fut.ap app tf a .d) n1 with ⟨t', n2⟩
      simp only [flapRun, h1, h2]
      have b2 := build_shallow (.flatMap tf _) h2
      obtain ⟨ihm, ih2, ih3⟩ := ih t' n2
      refine ⟨fun R hR σ n' hle hc => ?_, (b1.specLe.trans b2.specLe).trans ih2, ih3.trans (b2.log.trans b1.log)⟩
      have hle2 : SpecLe n2 n' := ih2.trans hle
      have h3 := hR.trans (b2.rel hle2 hc)
        (hR.bind (hR.refl (σ tf)) (fun f => hR.bind (b1.rel (b2.specLe.trans hle2) hc) (fun _ => hR.refl _)))
      have h4 := hR.trans (ihm R hR σ n' hle hc) (hR.bind h3 (fun _ => hR.refl _))
      simpa only [evalS_ap, evalS, bindOk_assoc, bindOk_success, flapVal] using h4

theorem applyC_two (fn : NFn) (c : Ex) (x y : Val) : applyC 2 fn c (pa [x]) y = fn c [x, y] := rfl

theorem apFuncRun_means (fn : NFn) (c : Ex) (h1 : Nat) (a : Ex → FExpr) (n : Net) :
    Means (apFuncRun fn c h1 a n).2 (apFuncRun fn c h1 a n).1
      (fun σ => bindOk (σ h1) (fun x => bindOk (evalS σ (a c)) (fun y => some (.success (fn c [x, y]).1)))) ∧
    (apFuncRun fn c h1 a n).2.log = n.log := by
  rcases e1 : build (map (.ref h1) (fun x => (pa [x], []))) n with ⟨t, n1⟩
  rcases e2 : build (Fut.apFunc (applyC 2 fn) t a c) n1 with ⟨q, n2⟩
  simp only [apFuncRun, e1, e2]
  have b1 := build_shallow (.flatMap h1 _) e1
  have b2 := build_shallow (.flatMap t _) e2
  refine ⟨fun R hR σ n' hle hc => ?_, b2.log.trans b1.log⟩
  have := hR.trans (b2.rel hle hc) (hR.bind (b1.rel (b2.specLe.trans hle) hc) (fun _ => hR.refl _))
  simpa only [evalS_apFunc, evalS, evalS_map, bindOk_assoc, bindOk_success, applyC_two] using this

/-- `Ap(t, a)` is `ApFunc(t, () => a)` -/
theorem apRun_means (fn : NFn) (c : Ex) (h1 a : Nat) (n : Net) :
    Means (apRun fn c h1 a n).2 (apRun fn c h1 a n).1
      (fun σ => bindOk (σ h1) (fun x => bindOk (σ a) (fun y => some (.success (fn c [x, y]).1)))) ∧
    (apRun fn c h1 a n).2.log = n.log :=
  apFuncRun_means fn c h1 (fun _ => .ref a) n

theorem withRun_means (fn : NFn) (c : Ex) (v : Nat) (a : Val) (n : Net) :
    Means (withRun fn c v a n).2 (withRun fn c v a n).1 (fun σ => bindOk (σ v) (fun b => some (.success (fn c [a, b]).1))) ∧
    (withRun fn c v a n).2.log = n.log := by
  rcases e1 : build (map (.ref v) (fun b => (pa [b], []))) n with ⟨t, n1⟩
  rcases e2 : build (.successful a) n1 with ⟨x, n2⟩
  rcases e3 : build (Fut.ap (fun c f x => fn c (x :: paArgs f)) t x c) n2 with ⟨q, n3⟩
  simp only [withRun, e1, e2, e3]
  have b1 := build_shallow (.flatMap v _) e1
  have b2 := build_shallow (.successful a) e2
  have b3 := build_shallow (.flatMap t _) e3
  refine ⟨fun R hR σ n' hle hc => ?_, b3.log.trans (b2.log.trans b1.log)⟩
  have le2 := b3.specLe.trans hle
  have := hR.trans (b3.rel hle hc) (hR.bind (b1.rel (b2.specLe.trans le2) hc)
    (fun _ => hR.bind (b2.rel le2 hc) (fun _ => hR.refl _)))
  simpa only [evalS_ap, evalS, evalS_map, bindOk_assoc, bindOk_success, paArgs_pa] using this

end FpVerif.Spec.C14Fut
