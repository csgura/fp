import FpVerif.Lemmas.FutHO
/-!
# The information order on three-valued statuses of futures of futures

`leS τ x y`: `y` knows at least what `x` knows — pending is below everything, a failure / a plain value is only
below itself, a success holding an inner future is below a success holding a more determined inner future.
Every operator of the denotation (`den`) is monotone; so is reading the statuses of a network (`absS`).
-/
namespace FpVerif.Spec.C06.HO
open FpVerif.Fut

def leS : (τ : Ty) → St τ → St τ → Prop
  | .val, none, _ => True
  | .val, some (.failure e), y => y = some (.failure e)
  | .val, some (.success v), y => y = some (.success v)
  | .fut _, none, _ => True
  | .fut _, some (.failure e), y => y = some (.failure e)
  | .fut τ, some (.success i), y => ∃ j, y = some (.success j) ∧ leS τ i j

theorem leS_none (τ : Ty) (y : St τ) : leS τ none y := by cases τ <;> trivial

theorem leS_failure {τ : Ty} {e : Err} {y : St τ} : leS τ (some (.failure e)) y ↔ y = some (.failure e) := by
  cases τ <;> exact Iff.rfl

theorem leS_val {t : Try Val} {y : St .val} : leS .val (some t) y ↔ y = some t := by
  cases t <;> exact Iff.rfl

theorem leS_success_fut {τ : Ty} {i j : St τ} :
    leS (.fut τ) (some (.success i)) (some (.success j)) ↔ leS τ i j := by
  constructor
  · rintro ⟨j', hj, h⟩
    cases hj; exact h
  · intro h; exact ⟨j, rfl, h⟩

theorem leS_refl : ∀ (τ : Ty) (x : St τ), leS τ x x := by
  intro τ
  induction τ with
  | val =>
    intro x
    match x with
    | none => trivial
    | some (.failure e) => rfl
    | some (.success v) => rfl
  | fut τ ih =>
    intro x
    match x with
    | none => trivial
    | some (.failure e) => rfl
    | some (.success i) => exact ⟨i, rfl, ih i⟩

theorem leS_of_eq {τ : Ty} {x y : St τ} (h : x = y) : leS τ x y := h ▸ leS_refl τ x

theorem leS_trans : ∀ (τ : Ty) (x y z : St τ), leS τ x y → leS τ y z → leS τ x z := by
  intro τ
  induction τ with
  | val =>
    intro x y z h1 h2
    match x with
    | none => trivial
    | some t => have h1 := leS_val.1 h1; subst h1; exact h2
  | fut τ ih =>
    intro x y z h1 h2
    match x with
    | none => trivial
    | some (.failure e) => rw [leS_failure] at h1; subst h1; exact h2
    | some (.success i) =>
      obtain ⟨j, hj, hij⟩ := h1
      subst hj
      obtain ⟨k, hk, hjk⟩ := h2
      exact ⟨k, hk, ih i j k hij hjk⟩

theorem leS_some_inv {τ : Ty} {a : Try (Sem τ)} {y : St τ} (h : leS τ (some a) y) : ∃ b, y = some b := by
  cases τ with
  | val => exact ⟨a, leS_val.1 h⟩
  | fut τ =>
    match a with
    | .failure e => exact ⟨_, h⟩
    | .success i => obtain ⟨j, hj, _⟩ := h; exact ⟨_, hj⟩

theorem leS_to_none {τ : Ty} {x : St τ} (h : leS τ x none) : x = none := by
  cases x with
  | none => rfl
  | some a => obtain ⟨b, hb⟩ := leS_some_inv h; cases hb

theorem leS_antisymm : ∀ (τ : Ty) (x y : St τ), leS τ x y → leS τ y x → x = y := by
  intro τ
  induction τ with
  | val =>
    intro x y h1 h2
    match x with
    | none => exact (leS_to_none h2).symm
    | some t => exact (leS_val.1 h1).symm
  | fut τ ih =>
    intro x y h1 h2
    match x with
    | none => exact (leS_to_none h2).symm
    | some (.failure e) => exact (leS_failure.1 h1).symm
    | some (.success i) =>
      obtain ⟨j, hj, hij⟩ := h1
      subst hj
      have hji := leS_success_fut.1 h2
      rw [ih i j hij hji]

/-- a success is only below a success -/
theorem leS_success_inv {τ : Ty} {i : Sem τ} {y : St τ} (h : leS τ (some (.success i)) y) :
    ∃ j, y = some (.success j) ∧ leS τ (some (.success i)) (some (.success j)) := by
  cases τ with
  | val => have h := leS_val.1 h; subst h; exact ⟨i, rfl, leS_refl _ _⟩
  | fut τ => obtain ⟨j, hj, hij⟩ := h; subst hj; exact ⟨j, rfl, ⟨j, rfl, hij⟩⟩

-- the operators of `den` are monotone ------------------------------------------------------------------------------

theorem leS_successOf {τ : Ty} {a a' : St τ} (h : leS τ a a') :
    leS (.fut τ) (some (.success a)) (some (.success a')) := leS_success_fut.2 h

theorem leS_map {a a' : St .val} (f : Try Val → Try Val) (h : leS .val a a') :
    leS .val (a.map f) (a'.map f) := by
  cases a with
  | none => exact leS_none _ _
  | some t => have h := leS_val.1 h; subst h; exact leS_refl _ _

theorem leS_joinS {τ : Ty} {a a' : St (.fut τ)} (h : leS (.fut τ) a a') : leS τ (joinS a) (joinS a') := by
  match a with
  | none => exact leS_none _ _
  | some (.failure e) => rw [leS_failure] at h; subst h; exact leS_refl _ _
  | some (.success i) =>
    obtain ⟨j, hj, hij⟩ := h
    subst hj
    exact hij

theorem leS_recS {τ : Ty} {a a' : St τ} {F F' : Err → St τ} (h : leS τ a a') (hF : ∀ err, leS τ (F err) (F' err)) :
    leS τ (bindTryS a (recS F)) (bindTryS a' (recS F')) := by
  match a with
  | none => exact leS_none _ _
  | some (.failure e) => rw [leS_failure] at h; subst h; exact hF e
  | some (.success i) =>
    obtain ⟨j, hj, hij⟩ := leS_success_inv h
    subst hj
    exact hij

theorem leS_bindOkS {τ : Ty} {a a' : St .val} {K K' : Val → St τ} (h : leS .val a a') (hK : ∀ v, leS τ (K v) (K' v)) :
    leS τ (bindOkS a K) (bindOkS a' K') := by
  match a with
  | none => exact leS_none _ _
  | some (.failure e) => have h := leS_val.1 h; subst h; exact leS_refl _ _
  | some (.success v) => have h := leS_val.1 h; subst h; exact hK v

theorem leS_bindTryS {τ : Ty} {a a' : St .val} {K K' : Try Val → St τ} (h : leS .val a a') (hK : ∀ t, leS τ (K t) (K' t)) :
    leS τ (bindTryS a K) (bindTryS a' K') := by
  match a with
  | none => exact leS_none _ _
  | some t => have h := leS_val.1 h; subst h; exact hK t

-- the denotation is monotone: once determined, always determined ---------------------------------------------------------

/-- reading the statuses of a network is monotone: what has completed stays, inner futures only get more determined -/
theorem absS_mono {σ σ' : Nat → Option (Try Val)} (hx : Ext σ σ') : ∀ (τ : Ty) (p : Nat), leS τ (absS σ τ p) (absS σ' τ p) := by
  intro τ
  induction τ with
  | val =>
    intro p
    rw [absS_val, absS_val]
    cases hp : σ p with
    | none => exact leS_none _ _
    | some t => rw [hx p t hp]; exact leS_refl _ _
  | fut τ ih =>
    intro p
    cases hp : σ p with
    | none => rw [absS_none _ hp]; exact leS_none _ _
    | some t =>
      rw [absS_some _ hp, absS_some _ (hx p t hp)]
      cases t with
      | failure e => exact leS_refl _ _
      | success v => exact leS_successOf (ih (unhandle v))

/-- **Monotonicity of the denotation**: in a more determined environment a program denotes a more determined status; at
    value type: once it denotes a result it denotes that result forever. -/
theorem den_mono {ρ ρ' : Env} (h : ∀ τ p, leS τ (ρ τ p) (ρ' τ p)) {τ : Ty} (t : TExpr τ) : leS τ (den ρ t) (den ρ' t) := by
  induction t with
  | ref τ p => exact h τ p
  | successful v => exact leS_refl _ _
  | failed τ x => exact leS_refl _ _
  | successfulOf e ih => exact leS_successOf ih
  | logged evs e ih => exact ih
  | flatMap e k ihe ihk => exact leS_bindOkS ihe ihk
  | flatten e ih => exact leS_joinS ih
  | transform e f ih => exact leS_map _ ih
  | transformWith e k ihe ihk => exact leS_bindTryS ihe ihk
  | recoverWith e d k ihe ihk =>
    refine leS_recS ihe (fun err => ?_)
    cases d err
    · exact leS_refl _ _
    · exact ihk err
  | orFuture e alt ihe iha => exact leS_recS ihe (fun _ => iha)
  | apply f => exact leS_refl _ _

theorem den_absE_mono {σ σ' : Nat → Option (Try Val)} (hx : Ext σ σ') {τ : Ty} (t : TExpr τ) :
    leS τ (den (absE σ) t) (den (absE σ') t) :=
  den_mono (fun τ p => absS_mono hx τ p) t

-- both directions at once ------------------------------------------------------------------------------------------

/-- `le`: the statuses know at most what the denotation says (soundness); `ge`: at least (completeness) -/
inductive Dir where
  | le
  | ge

def rel (d : Dir) (τ : Ty) (x y : St τ) : Prop :=
  match d with
  | .le => leS τ x y
  | .ge => leS τ y x

theorem rel_refl (d : Dir) (τ : Ty) (x : St τ) : rel d τ x x := by cases d <;> exact leS_refl τ x

theorem rel_of_eq (d : Dir) {τ : Ty} {x y : St τ} (h : x = y) : rel d τ x y := h ▸ rel_refl d τ x

theorem rel_trans (d : Dir) {τ : Ty} {x y z : St τ} (h1 : rel d τ x y) (h2 : rel d τ y z) : rel d τ x z := by
  cases d
  · exact leS_trans τ x y z h1 h2
  · exact leS_trans τ z y x h2 h1

theorem rel_successOf (d : Dir) {τ : Ty} {a a' : St τ} (h : rel d τ a a') :
    rel d (.fut τ) (some (.success a)) (some (.success a')) := by
  cases d <;> exact leS_successOf h

theorem rel_bindOkS (d : Dir) {τ : Ty} {a a' : St .val} (K : Val → St τ) (h : rel d .val a a') :
    rel d τ (bindOkS a K) (bindOkS a' K) := by
  cases d <;> exact leS_bindOkS h (fun _ => leS_refl _ _)

theorem rel_bindTryS (d : Dir) {τ : Ty} {a a' : St .val} (K : Try Val → St τ) (h : rel d .val a a') :
    rel d τ (bindTryS a K) (bindTryS a' K) := by
  cases d <;> exact leS_bindTryS h (fun _ => leS_refl _ _)

theorem rel_map (d : Dir) {a a' : St .val} (f : Try Val → Try Val) (h : rel d .val a a') :
    rel d .val (a.map f) (a'.map f) := by
  cases d <;> exact leS_map f h

theorem rel_joinS (d : Dir) {τ : Ty} {a a' : St (.fut τ)} (h : rel d (.fut τ) a a') : rel d τ (joinS a) (joinS a') := by
  cases d <;> exact leS_joinS h

theorem rel_recS (d : Dir) {τ : Ty} {a a' : St τ} {F F' : Err → St τ} (h : rel d τ a a')
    (hF : ∀ err, rel d τ (F err) (F' err)) : rel d τ (bindTryS a (recS F)) (bindTryS a' (recS F')) := by
  cases d
  · exact leS_recS h hF
  · exact leS_recS h hF

end FpVerif.Spec.C06.HO
