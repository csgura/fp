import FpVerif.Lemmas.HamtAllMap
/-!
`fp.Set` over EVERY representation (`set == nil` with a nil / hamt / Go-set `getEmpty`,
`immutable.set{*hamt}`, the `UnsafeGoSet` fallback): invariant `FSet.Inv`, abstract view
`FSet.elems`, one specification per operation (`Spec/C03.lean` §6 reads off the hamt-backed case,
`Spec/C03All.lean` runs histories).
-/
namespace FpVerif.Hamt
variable {K : Type} {h : Hasher K}

-- SetMinimal: both implementations ------------------------------------------------------------------------------

variable [BEq K]

def SetMin.elems : SetMin K → List K
  | .hamt m => m.toList.map (·.1)
  | .goSet g => g

def SetMin.Inv (h : Hasher K) : SetMin K → Prop
  | .hamt m => Hamt.Inv h m
  | .goSet g => Agree h ∧ DistinctL h g

/-- is this the immutable package's set? -/
def SetMin.isHamt : SetMin K → Bool
  | .hamt _ => true
  | .goSet _ => false

theorem SetMin.Inv.eq_hamt {s : SetMin K} (hi : SetMin.Inv h s) (hk : s.isHamt = true) :
    ∃ m, s = .hamt m ∧ Hamt.Inv h m := by
  cases s with
  | hamt m => exact ⟨m, rfl, hi⟩
  | goSet g => exact nomatch hk

omit [BEq K] in
theorem memL_hamt (m : Hamt K Bool) (k : K) : memL h (m.toList.map (·.1)) k = mem h m k :=
  memL_map_fst m.toList k

theorem SetMin.Inv.distinct (hl : LawfulHash h) {s : SetMin K} (hi : SetMin.Inv h s) : DistinctL h s.elems := by
  cases s with
  | hamt m =>
    have := Hamt.Inv.distinct hl hi
    unfold SetMin.elems DistinctL
    rw [List.pairwise_map]
    exact this
  | goSet g => exact hi.2

/-- a Go set's own membership test (`==`) is `memL` -/
theorem Agree.any_beq (hag : Agree h) (g : List K) (k : K) : g.any (· == k) = memL h g k :=
  congrArg g.any (funext fun e => hag e k)

theorem SetMin.contains_spec (hl : LawfulHash h) {s : SetMin K} (hi : SetMin.Inv h s) (k : K) :
    s.contains h k = .ok (memL h s.elems k) := by
  cases s with
  | hamt m => rw [SetMin.elems, memL_hamt]; exact bind_ok (Hamt.get_spec hl hi k) rfl
  | goSet g => exact congrArg Except.ok (hi.1.any_beq g k)

theorem SetMin.size_spec {s : SetMin K} (hi : SetMin.Inv h s) : s.size = s.elems.length := by
  cases s with
  | hamt m => rw [SetMin.elems, List.length_map]; exact Hamt.Inv.size_eq hi
  | goSet g => rfl

theorem SetMin.iterList_spec {s : SetMin K} (hi : SetMin.Inv h s) : s.iterList = .ok s.elems := by
  cases s with
  | hamt m => exact bind_ok (Hamt.iterList_spec hi) rfl
  | goSet g => rfl

theorem SetMin.incl_spec (hl : LawfulHash h) {s : SetMin K} (hi : SetMin.Inv h s) (k : K) :
    ∃ s', s.incl h k = .ok s' ∧ SetMin.Inv h s' ∧ s'.isHamt = s.isHamt ∧
      ∀ k', memL h s'.elems k' = (h.eqv k k' || memL h s.elems k') := by
  cases s with
  | hamt m =>
    obtain ⟨m', h1, h2, h3⟩ := SetMin.incl_hamt hl hi k
    refine ⟨.hamt m', h1, h2, rfl, fun k' => ?_⟩
    rw [SetMin.elems, SetMin.elems, memL_hamt, memL_hamt, h3]
  | goSet g =>
    refine ⟨.goSet (inclL h g k), ?_, ⟨hi.1, distinct_inclL hi.2 k⟩, rfl, memL_inclL hl g k⟩
    show Except.ok (SetMin.goSet (if g.any (· == k) then g else g ++ [k])) = _
    rw [hi.1.any_beq]; rfl

theorem SetMin.excl_spec (hl : LawfulHash h) {s : SetMin K} (hi : SetMin.Inv h s) (k : K) :
    ∃ s', s.excl h k = .ok s' ∧ SetMin.Inv h s' ∧
      ∀ k', memL h s'.elems k' = (!h.eqv k k' && memL h s.elems k') := by
  cases s with
  | hamt m =>
    obtain ⟨m', h1, h2, h3⟩ := SetMin.excl_hamt hl hi k
    refine ⟨.hamt m', h1, h2, fun k' => ?_⟩
    rw [SetMin.elems, SetMin.elems, memL_hamt, memL_hamt, h3]
  | goSet g =>
    have hfun : (fun x : K => !(x == k)) = (fun e => !h.eqv e k) := by funext e; rw [hi.1 e k]
    refine ⟨.goSet (exclL h g k), ?_, ⟨hi.1, distinct_filterL hi.2 _⟩, memL_exclL hl g k⟩
    show Except.ok (SetMin.goSet (g.filter (fun x => !(x == k)))) = _
    rw [hfun]; rfl

omit [BEq K] in
theorem any_selL (l : List K) (q : K → Bool)
    (hq : ∀ k k', h.eqv k k' = true → q k = q k') (k' : K) :
    l.any (fun e => q e && h.eqv e k') = (memL h l k' && q k') := by
  rw [← memL_filter l q hq]
  unfold memL
  rw [List.any_filter]

/-- the loop shared by `Diff` and `Intersect`, for either implementation of the accumulator -/
theorem filterFold_all (hl : LawfulHash h) (p : K → Bool) (es : List K) : ∀ {acc : SetMin K}, SetMin.Inv h acc →
    ∃ acc', es.foldlM (fun (ret : SetMin K) e => if p e then ret.incl h e else pure ret) acc = .ok acc' ∧
      SetMin.Inv h acc' ∧ acc'.isHamt = acc.isHamt ∧
      ∀ k', memL h acc'.elems k' = (memL h acc.elems k' || es.any (fun e => p e && h.eqv e k')) := by
  induction es with
  | nil => intro acc hi; exact ⟨acc, rfl, hi, rfl, by simp⟩
  | cons e es ih =>
    intro acc hi
    rw [List.foldlM_cons]
    cases hp : p e with
    | false =>
      obtain ⟨acc', h1, h2, hk, h3⟩ := ih hi
      refine ⟨acc', h1, h2, hk, fun k' => ?_⟩
      rw [h3, List.any_cons, hp, Bool.false_and, Bool.false_or]
    | true =>
      obtain ⟨acc1, hi1, hinv1, hk1, hm1⟩ := SetMin.incl_spec hl hi e
      obtain ⟨acc', h1, h2, hk, h3⟩ := ih hinv1
      refine ⟨acc', bind_ok hi1 h1, h2, hk.trans hk1, fun k' => ?_⟩
      rw [h3, hm1, List.any_cons, hp, Bool.true_and, Bool.or_assoc, Bool.or_left_comm]

-- fp.Set over every representation ---------------------------------------------------------------------------

def FSet.elems (s : FSet K) : List K :=
  match s.set with
  | none => []
  | some x => x.elems

/-- invariant of an `fp.Set` value: the representation's invariant, and "`==` is `Eqv`" whenever the
    value can fall back to an `UnsafeGoSet` (its `getEmpty` is not the immutable package's). -/
def FSet.Inv (h : Hasher K) (s : FSet K) : Prop :=
  (s.getEmpty ≠ .hamt → Agree h) ∧
  match s.set with
  | none => True
  | some x => SetMin.Inv h x

omit [BEq K] in
theorem memL_hset (m : Hamt K Bool) (k : K) : memL h (hset m).elems k = mem h m k := memL_hamt m k

theorem FSet.inv_hset {m : Hamt K Bool} (hwf : Hamt.Inv h m) : FSet.Inv h (hset m) :=
  ⟨fun hne => absurd rfl hne, hwf⟩

theorem FSet.Inv.distinct (hl : LawfulHash h) {s : FSet K} (hi : FSet.Inv h s) : DistinctL h s.elems := by
  obtain ⟨ge, st⟩ := s
  cases st with
  | none => exact List.Pairwise.nil
  | some x => exact SetMin.Inv.distinct hl hi.2

theorem FSet.contains_spec (hl : LawfulHash h) {s : FSet K} (hi : FSet.Inv h s) (k : K) :
    s.contains h k = .ok (memL h s.elems k) := by
  obtain ⟨ge, st⟩ := s
  cases st with
  | none => rfl
  | some x => exact SetMin.contains_spec hl hi.2 k

theorem FSet.size_spec {s : FSet K} (hi : FSet.Inv h s) : s.size = s.elems.length := by
  obtain ⟨ge, st⟩ := s
  cases st with
  | none => rfl
  | some x => exact SetMin.size_spec hi.2

theorem FSet.iterList_spec {s : FSet K} (hi : FSet.Inv h s) : s.iterList = .ok s.elems := by
  obtain ⟨ge, st⟩ := s
  cases st with
  | none => rfl
  | some x => exact SetMin.iterList_spec hi.2

theorem FSet.callGetEmpty_inv {s : FSet K} (hi : FSet.Inv h s) :
    SetMin.Inv h s.callGetEmpty ∧ s.callGetEmpty.elems = [] := by
  obtain ⟨ge, st⟩ := s
  cases ge with
  | hamt => exact ⟨Hamt.Inv_empty (h := h) (V := Bool), rfl⟩
  | goSet | nil => exact ⟨⟨hi.1 (fun hne => nomatch hne), List.Pairwise.nil⟩, rfl⟩

theorem FSet.incl_spec (hl : LawfulHash h) {s : FSet K} (hi : FSet.Inv h s) (k : K) :
    ∃ s', s.incl h k = .ok s' ∧ FSet.Inv h s' ∧
      ∀ k', memL h s'.elems k' = (h.eqv k k' || memL h s.elems k') := by
  obtain ⟨ge, st⟩ := s
  cases st with
  | some x =>
    obtain ⟨x', h1, h2, _, h3⟩ := SetMin.incl_spec hl hi.2 k
    exact ⟨⟨ge, some x'⟩, bind_ok h1 rfl, ⟨hi.1, h2⟩, h3⟩
  | none =>
    cases ge with
    | nil =>
      have hag : Agree h := hi.1 (fun hne => nomatch hne)
      exact ⟨⟨.goSet, some (.goSet [k])⟩, rfl, ⟨fun _ => hag, hag, List.pairwise_singleton _ _⟩,
        fun k' => (Bool.or_false _).trans (Bool.or_false _).symm⟩
    | hamt | goSet =>
      obtain ⟨hce, hcel⟩ := FSet.callGetEmpty_inv hi
      obtain ⟨x', h1, h2, _, h3⟩ := SetMin.incl_spec hl hce k
      refine ⟨⟨_, some x'⟩, bind_ok h1 rfl, ⟨hi.1, h2⟩, fun k' => (h3 k').trans ?_⟩
      rw [hcel]; rfl

theorem FSet.excl_spec (hl : LawfulHash h) {s : FSet K} (hi : FSet.Inv h s) (k : K) :
    ∃ s', s.excl h k = .ok s' ∧ FSet.Inv h s' ∧
      ∀ k', memL h s'.elems k' = (!h.eqv k k' && memL h s.elems k') := by
  obtain ⟨ge, st⟩ := s
  cases st with
  | none => exact ⟨⟨ge, none⟩, rfl, hi, fun k' => (Bool.and_false _).symm⟩
  | some x =>
    obtain ⟨x', h1, h2, h3⟩ := SetMin.excl_spec hl hi.2 k
    exact ⟨⟨ge, some x'⟩, bind_ok h1 rfl, ⟨hi.1, h2⟩, h3⟩

theorem FSet.concat_spec (hl : LawfulHash h) (ks : List K) : ∀ {s : FSet K}, FSet.Inv h s →
    ∃ s', s.concat h ks = .ok s' ∧ FSet.Inv h s' ∧
      ∀ k', memL h s'.elems k' = (memL h s.elems k' || memL h ks k') := by
  induction ks with
  | nil => intro s hi; exact ⟨s, rfl, hi, fun k' => by simp [memL_nil]⟩
  | cons k ks ih =>
    intro s hi
    obtain ⟨s1, h1, hi1, hm1⟩ := FSet.incl_spec hl hi k
    obtain ⟨s2, h2, hi2, hm2⟩ := ih hi1
    refine ⟨s2, bind_ok h1 h2, hi2, fun k' => ?_⟩
    rw [hm2, hm1, Bool.or_assoc, Bool.or_left_comm]; rfl

/-- what `Diff` (`q` = "not in `b`") and `Intersect` (`q` = "in `b`") do once `b.Contains` is known to
    compute `q`: a fresh set of the kind `getEmpty` makes, holding the members of `a` that satisfy `q` -/
theorem FSet.select_spec (hl : LawfulHash h) {a : FSet K} (ha : FSet.Inv h a) (q : K → Bool)
    (hq : ∀ k k', h.eqv k k' = true → q k = q k') :
    ∃ r, (do
        let ret ← (← a.iterList).foldlM (fun (ret : SetMin K) e => if q e then ret.incl h e else pure ret)
          a.callGetEmpty
        pure (⟨a.getEmpty, some ret⟩ : FSet K)) = .ok ⟨a.getEmpty, some r⟩ ∧
      SetMin.Inv h r ∧ r.isHamt = a.callGetEmpty.isHamt ∧
      ∀ k, memL h r.elems k = (memL h a.elems k && q k) := by
  obtain ⟨hce, hcel⟩ := FSet.callGetEmpty_inv ha
  obtain ⟨r, h1, h2, hk, h3⟩ := filterFold_all hl q a.elems hce
  refine ⟨r, bind_ok (FSet.iterList_spec ha) (bind_ok h1 rfl), h2, hk, fun k => ?_⟩
  rw [h3, hcel, any_selL a.elems q hq, memL_nil, Bool.false_or]

theorem FSet.diff_spec (hl : LawfulHash h) {a b : FSet K} (ha : FSet.Inv h a) (hb : FSet.Inv h b) :
    ∃ r, a.diff h b = .ok ⟨a.getEmpty, some r⟩ ∧ SetMin.Inv h r ∧ r.isHamt = a.callGetEmpty.isHamt ∧
      ∀ k, memL h r.elems k = (memL h a.elems k && !memL h b.elems k) := by
  have hfun : (fun (ret : SetMin K) e => do
        if (!(← b.contains h e)) = true then ret.incl h e else pure ret) =
      (fun (ret : SetMin K) e => if (!memL h b.elems e) = true then ret.incl h e else pure ret) := by
    funext ret e
    rw [FSet.contains_spec hl hb]; rfl
  unfold FSet.diff
  rw [hfun]
  exact FSet.select_spec hl ha (fun e => !memL h b.elems e) (fun k k' hkk => by rw [memL_congr hl hkk])

theorem FSet.intersect_spec (hl : LawfulHash h) {a b : FSet K} (ha : FSet.Inv h a) (hb : FSet.Inv h b) :
    ∃ r, a.intersect h b = .ok ⟨a.getEmpty, some r⟩ ∧ SetMin.Inv h r ∧ r.isHamt = a.callGetEmpty.isHamt ∧
      ∀ k, memL h r.elems k = (memL h a.elems k && memL h b.elems k) := by
  have hfun : (fun (ret : SetMin K) e => do
        if (← b.contains h e) = true then ret.incl h e else pure ret) =
      (fun (ret : SetMin K) e => if memL h b.elems e = true then ret.incl h e else pure ret) := by
    funext ret e
    rw [FSet.contains_spec hl hb]; rfl
  unfold FSet.intersect
  rw [hfun]
  exact FSet.select_spec hl ha (fun e => memL h b.elems e) (fun k k' hkk => memL_congr hl hkk _)

theorem subsetGo_all (hl : LawfulHash h) {b : FSet K} (hb : FSet.Inv h b) (es : List K) :
    FSet.subsetOf.go h b es = .ok (es.all (fun e => memL h b.elems e)) := by
  induction es with
  | nil => rfl
  | cons e es ih =>
    rw [FSet.subsetOf.go, FSet.contains_spec hl hb]
    simp only [bind, Except.bind]
    cases hm : memL h b.elems e with
    | true => simp [ih, hm]
    | false => simp [hm, pure, Except.pure]

theorem FSet.subsetOf_spec (hl : LawfulHash h) {a b : FSet K} (ha : FSet.Inv h a) (hb : FSet.Inv h b) :
    ∃ r, a.subsetOf h b = .ok r ∧
      (r = true ↔ ∀ k, memL h a.elems k = true → memL h b.elems k = true) := by
  refine ⟨a.elems.all (fun e => memL h b.elems e), bind_ok (FSet.iterList_spec ha) (subsetGo_all hl hb _), ?_⟩
  · simp only [List.all_eq_true]
    constructor
    · intro hall k hk
      obtain ⟨x, hx, hek⟩ := List.any_eq_true.mp hk
      rw [← memL_congr hl hek]
      exact hall x hx
    · intro hall e he
      apply hall
      exact List.any_eq_true.mpr ⟨e, he, hl.refl _⟩

end FpVerif.Hamt
