import FpVerif.Lemmas.HeapAbs
/-!
Effects (`Eff`: which old cells an operation may have written) and the specifications of the slice
primitives of `Model/HamtHeap.lean` (`allocSlots`, `storeSlot`, `appendSlot`, `insertSlot`).
-/
namespace FpVerif.HamtHeap
open FpVerif.Hamt
variable {K V : Type} {β : Type}

/-- `H'` is `H` with some new cells, and of the old cells only those in `W` may differ -/
structure Eff (H H' : Heap K V) (W : List Addr) : Prop where
  size_le : H.size ≤ H'.size
  frame : ∀ a, a < H.size → a ∉ W → H'[a]? = H[a]?

theorem Eff.refl (H : Heap K V) (W : List Addr) : Eff H H W := ⟨Nat.le_refl _, fun _ _ _ => rfl⟩

theorem Eff.of_le {H H' : Heap K V} (h : Heap.le H H') (W : List Addr) : Eff H H' W :=
  ⟨h.1, fun a ha _ => h.2 a ha⟩

theorem Eff.to_le {H H' : Heap K V} (h : Eff H H' []) : Heap.le H H' :=
  ⟨h.1, fun a ha => h.2 a ha (by simp)⟩

/-- an old cell that differs afterwards is one of the cells the effect allows to be written -/
theorem Eff.mem_of_ne {H H' : Heap K V} {W : List Addr} (h : Eff H H' W) {p : Addr} (hp : p < H.size)
    (hne : H'[p]? ≠ H[p]?) : p ∈ W :=
  Decidable.byContradiction fun hn => hne (h.2 p hp hn)

theorem Eff.mono {H H' : Heap K V} {W W' : List Addr} (h : Eff H H' W) (hs : ∀ a ∈ W, a < H.size → a ∈ W') :
    Eff H H' W' :=
  ⟨h.1, fun a ha hn => h.2 a ha (fun hw => hn (hs a hw ha))⟩

theorem Eff.trans {H1 H2 H3 : Heap K V} {W : List Addr} (h12 : Eff H1 H2 W) (h23 : Eff H2 H3 W) : Eff H1 H3 W :=
  ⟨Nat.le_trans h12.1 h23.1, fun a ha hn => by
    rw [h23.2 a (Nat.lt_of_lt_of_le ha h12.1) hn, h12.2 a ha hn]⟩

theorem Eff.push (H : Heap K V) (c : Cell K V) (W : List Addr) : Eff H (H.push c) W :=
  Eff.of_le (Heap.le_push H c) W

theorem Eff.set (H : Heap K V) (a : Addr) (c : Cell K V) {W : List Addr} (ha : a ∈ W) :
    Eff H (H.setIfInBounds a c) W :=
  ⟨by simp, fun b hb hn => get_set_ne c (fun h => hn (h ▸ ha))⟩

theorem Eff.get {H H' : Heap K V} {W : List Addr} (h : Eff H H' W) {a : Addr} {c : Cell K V}
    (hc : H[a]? = some c) (hn : a ∉ W) : H'[a]? = some c := by
  rw [h.2 a (lt_size_of_get hc) hn, hc]

theorem Eff.absF {H H' : Heap K V} {W : List Addr} (h : Eff H H' W) {f s : Nat} {p : Addr} {n : Node K V}
    {fp : List Addr} (habs : absF f s H p = some (n, fp)) (hd : ∀ a ∈ fp, a ∉ W) :
    HamtHeap.absF f s H' p = some (n, fp) :=
  absF_agree habs (fun a ha => h.2 a (absF_lt habs ha) (hd a ha))

-- allocSlots ---------------------------------------------------------------------------------------

theorem allocSlots_apply (xs : List (Slot K V)) (cap : Nat) (H : Heap K V) :
    allocSlots xs cap H = .ok (⟨H.size, xs.length⟩,
      H.push (.arr (xs.map some ++ List.replicate (cap - xs.length) none))) := rfl

theorem take_map_some_append {γ : Type} (xs : List γ) (t : List (Option γ)) :
    (xs.map some ++ t).take xs.length = xs.map some := by
  rw [List.take_append_of_le_length (by simp)]
  rw [List.take_of_length_le (by simp)]

theorem viewEnts_push (H : Heap K V) (es : List (K × V)) (t : List (Option (Slot K V))) :
    viewEnts (H.push (.arr ((entSlots es).map some ++ t))) ⟨H.size, (entSlots es).length⟩ = some es := by
  apply viewWith_intro (slots := (entSlots es).map some ++ t) (by simp) (by simp)
  rw [take_map_some_append, mapOpt_map, mapOpt_eq_some_iff]
  simp [entSlots, Slot.ent?]

theorem viewPtrs_push (H : Heap K V) (ps : List Addr) (t : List (Option (Slot K V))) :
    viewPtrs (H.push (.arr ((ptrSlots ps : List (Slot K V)).map some ++ t)))
      ⟨H.size, (ptrSlots ps : List (Slot K V)).length⟩ = some ps := by
  apply viewWith_intro (slots := (ptrSlots ps).map some ++ t) (by simp) (by simp)
  rw [take_map_some_append, mapOpt_map, mapOpt_eq_some_iff]
  simp [ptrSlots, Slot.ptr?]

@[simp] theorem entSlots_length (es : List (K × V)) : (entSlots es).length = es.length := by simp [entSlots]
@[simp] theorem ptrSlots_length (ps : List Addr) : (ptrSlots ps : List (Slot K V)).length = ps.length := by
  simp [ptrSlots]

theorem loadEnts_apply {H : Heap K V} {sl : Slice} {es : List (K × V)} (hv : viewEnts H sl = some es) :
    loadEnts sl H = .ok (es, H) := by
  unfold loadEnts; rw [hv]

theorem loadPtrs_apply {H : Heap K V} {sl : Slice} {ps : List Addr} (hv : viewPtrs H sl = some ps) :
    loadPtrs sl H = .ok (ps, H) := by
  unfold loadPtrs; rw [hv]

-- in-place slice primitives ------------------------------------------------------------------------

/-- a store into a cell of the write set, or into a cell allocated since, stays within the effect -/
theorem Eff.store {H H1 : Heap K V} {W : List Addr} (h : Eff H H1 W) {a : Addr} (ha : a ∈ W ∨ H.size ≤ a)
    (c : Cell K V) : Eff H (H1.setIfInBounds a c) W :=
  ⟨by simpa using h.1, fun b hb hn => by
    have hab : a ≠ b := fun hab => ha.elim (fun hw => hn (hab ▸ hw)) (fun hge => by omega)
    rw [get_set_ne c hab]
    exact h.2 b hb hn⟩

theorem storeSlot_spec {g : Slot K V → Option β} {H : Heap K V} {sl : Slice} {xs : List β}
    (hv : viewWith g H sl = some xs) {i : Nat} (hi : i < xs.length) {x : Slot K V} {y : β} (hg : g x = some y) :
    ∃ H', storeSlot sl i x H = .ok ((), H') ∧ viewWith g H' sl = some (xs.set i y) ∧
      H'.size = H.size ∧ Eff H H' [sl.arr] := by
  obtain ⟨slots, hc, hle, hm⟩ := viewWith_eq_some hv
  have hlen := viewWith_length hv
  have harr := lt_size_of_get hc
  refine ⟨H.setIfInBounds sl.arr (.arr (slots.set i (some x))), ?_, ?_, by simp, Eff.set _ _ _ (by simp)⟩
  · unfold storeSlot
    rw [bind_ok (load_apply hc)]
    dsimp only
    rw [if_pos ⟨by omega, hle⟩]
    exact store_apply _ harr
  · apply viewWith_intro (slots := slots.set i (some x)) (get_set_eq _ harr) (by simpa using hle)
    rw [List.take_set]
    exact mapOpt_set hm (by simp [hg])

/-- `append(s, x)` on the backing array: the slice is one longer, ends in `x` and starts as before;
    it lives in the old array (written in place) or in a new one (the old one untouched). -/
theorem appendSlot_arr {H : Heap K V} {sl : Slice} {slots : List (Option (Slot K V))}
    (hc : H[sl.arr]? = some (.arr slots)) (hle : sl.len ≤ slots.length) (x : Option (Slot K V)) :
    ∃ a slots1 H1, appendSlot sl x H = .ok (⟨a, sl.len + 1⟩, H1) ∧ H1[a]? = some (.arr slots1) ∧
      slots1.take sl.len = slots.take sl.len ∧ slots1[sl.len]? = some x ∧ Eff H H1 [sl.arr] ∧
      (a = sl.arr ∨ (a = H.size ∧ H1[sl.arr]? = H[sl.arr]?)) ∧ H1.size ≤ H.size + 1 := by
  have harr := lt_size_of_get hc
  unfold appendSlot
  rw [bind_ok (load_apply hc)]
  dsimp only
  by_cases hlt : sl.len < slots.length
  · refine ⟨sl.arr, slots.set sl.len x, H.setIfInBounds sl.arr (.arr (slots.set sl.len x)), ?_,
      get_set_eq _ harr, List.take_set_of_le (Nat.le_refl _), List.getElem?_set_self hlt,
      Eff.set _ _ _ (by simp), Or.inl rfl, by simp⟩
    rw [if_pos hlt, bind_ok (store_apply _ harr)]; rfl
  · have heq : sl.len = slots.length := by omega
    refine ⟨H.size, slots ++ x :: List.replicate (growCap slots.length - slots.length - 1) none, _, ?_,
      get_push_size _ _, by rw [heq, List.take_left, List.take_length], by rw [heq]; simp,
      Eff.push _ _ _, Or.inr ⟨rfl, (Heap.le_push H _).2 _ harr⟩, by simp⟩
    rw [if_neg hlt, if_pos heq]; rfl

theorem appendSlot_spec {g : Slot K V → Option β} {H : Heap K V} {sl : Slice} {xs : List β}
    (hv : viewWith g H sl = some xs) {x : Slot K V} {y : β} (hg : g x = some y) :
    ∃ sl' H', appendSlot sl (some x) H = .ok (sl', H') ∧ viewWith g H' sl' = some (xs ++ [y]) ∧
      Eff H H' [sl.arr] ∧ (sl'.arr = sl.arr ∨ (sl'.arr = H.size ∧ H'[sl.arr]? = H[sl.arr]?)) ∧
      sl'.arr < H'.size ∧ H'.size ≤ H.size + 1 := by
  obtain ⟨slots, hc, hle, hm⟩ := viewWith_eq_some hv
  obtain ⟨a, slots1, H1, hrun, h1, htake, hlast, heff, hor, hsz⟩ := appendSlot_arr hc hle (some x)
  refine ⟨_, H1, hrun, ?_, heff, hor, lt_size_of_get h1, hsz⟩
  apply viewWith_intro (s := ⟨a, sl.len + 1⟩) h1 (List.getElem?_eq_some_iff.mp hlast).1
  show mapOpt _ (slots1.take (sl.len + 1)) = _
  rw [List.take_add_one, hlast, htake]
  exact mapOpt_append hm (by simp [mapOpt, hg])

/-- what `copy(s[idx+1:], s[idx:]); s[idx] = a` leaves in the first `n + 1` places: `a` inserted at
    `idx` into the first `n` elements -/
theorem take_insertAt {γ : Type} (l t : List γ) (a : γ) {idx n : Nat} (hidx : idx ≤ n) (hn : n ≤ l.length) :
    (l.take idx ++ a :: (l.take n).drop idx ++ t).take (n + 1)
      = (l.take n).take idx ++ a :: (l.take n).drop idx := by
  rw [List.take_take, Nat.min_eq_left hidx]
  exact List.take_left' (by simp; omega)

theorem insertSlot_spec {g : Slot K V → Option β} {H : Heap K V} {sl : Slice} {xs : List β}
    (hv : viewWith g H sl = some xs) {idx : Nat} (hidx : idx ≤ xs.length) {x : Slot K V} {y : β}
    (hg : g x = some y) :
    ∃ sl' H', insertSlot sl idx x H = .ok (sl', H') ∧
      viewWith g H' sl' = some (xs.take idx ++ y :: xs.drop idx) ∧
      Eff H H' [sl.arr] ∧ (sl'.arr = sl.arr ∨ sl'.arr = H.size) ∧ sl'.arr < H'.size ∧ H'.size ≤ H.size + 1 := by
  obtain ⟨slots, hc, hle, hm⟩ := viewWith_eq_some hv
  have hlen := viewWith_length hv
  obtain ⟨a, slots1, H1, hrun, h1, htake, hlast, heff, hor, hsz⟩ := appendSlot_arr hc hle none
  have ha1 := lt_size_of_get h1
  have hlen1 : sl.len < slots1.length := (List.getElem?_eq_some_iff.mp hlast).1
  refine ⟨⟨a, sl.len + 1⟩, H1.setIfInBounds a (.arr
      (slots1.take idx ++ some x :: (slots1.take sl.len).drop idx ++ slots1.drop (sl.len + 1))), ?_, ?_,
    heff.store (hor.imp (by simp +contextual) (fun h => by omega)) _, hor.imp_right And.left,
    by simpa using ha1, by simpa using hsz⟩
  · unfold insertSlot
    rw [bind_ok hrun, bind_ok (load_apply h1)]
    dsimp only
    rw [if_pos ⟨by omega, hlen1⟩, bind_ok (store_apply _ ha1)]
    rfl
  · apply viewWith_intro (s := ⟨a, sl.len + 1⟩) (get_set_eq _ ha1) (by simp; omega)
    show mapOpt _ (List.take (sl.len + 1) _) = _
    rw [take_insertAt _ _ _ (by omega) (by omega), htake]
    exact mapOpt_insert hm (by simp [hg]) idx

end FpVerif.HamtHeap
