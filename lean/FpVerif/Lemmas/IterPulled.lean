import FpVerif.Lemmas.IterTerm
/-!
# How many elements the shared source of `Duplicate` / `Span` / `Partition` has handed out.

(Audit finding 19.)  From `SideInv`: the source has delivered exactly what the side
that is further ahead has consumed.
-/
namespace FpVerif.It

variable {σ α : Type}

/-- the source has delivered exactly `max |dL| |dR|` elements: the ones the side that is further
    ahead has consumed; both sides' consumed lists are prefixes of the same sequence -/
theorem dupRel_max {R : σ → List α → List α → Prop} {sc : σ × DupSt α} {dL rL dR rR : List α}
    (h : dupRel R sc dL rL dR rR) :
    ∃ d r, R sc.1 d r ∧ d.length = Nat.max dL.length dR.length ∧
      d ++ r = dL ++ rL ∧ d ++ r = dR ++ rR := by
  obtain ⟨d, r, hR, hI⟩ := h
  refine ⟨d, r, hR, ?_⟩
  simp only [SideInv] at hI
  by_cases hla : sc.2.leftAhead = true
  · rw [if_pos hla] at hI
    obtain ⟨h1, h2, h3, h4⟩ := hI
    have hle : dR.length ≤ dL.length := by rw [h3]; simp
    refine ⟨?_, by rw [h1, h2], ?_⟩
    · rw [← h1]; exact (Nat.max_eq_left hle).symm
    · rw [h4, ← List.append_assoc, ← h3, h1]
  · rw [if_neg hla] at hI
    obtain ⟨h1, h2, h3, h4⟩ := hI
    have hle : dL.length ≤ dR.length := by rw [h3]; simp
    refine ⟨?_, ?_, by rw [h1, h2]⟩
    · rw [← h1]; exact (Nat.max_eq_right hle).symm
    · rw [h4, ← List.append_assoc, ← h3, h1]

/-- how many source elements a `TakeWhile` holds beyond those it has delivered: the element parked
    in `fv` by `HasNext`, or the first failing element (which had to be pulled to be tested) -/
def TakeWhileSt.look (c : TakeWhileSt α) : Nat := if c.breaking || c.fv.isSome then 1 else 0

theorem TakeWhileInv.consumed {g : α → Bool} {c : TakeWhileSt α} {d r d' r' : List α}
    (h : TakeWhileInv g c d r d' r') : d.length = d'.length + c.look := by
  unfold TakeWhileInv at h
  unfold TakeWhileSt.look
  cases hb : c.breaking <;> cases hf : c.fv <;> simp [hb, hf] at h ⊢
  · rw [h.1]
  · rw [h.1]; simp
  · obtain ⟨⟨v, hv, _⟩, _⟩ := h; rw [hv]; simp

/-- what a `DropWhile` has consumed (`n` elements of the sequence `l` its source delivers), in
    terms of its captured variables and of what it will still deliver (`r'`) -/
def DropWhilePulled (g : α → Bool) (l : List α) (c : DropWhileSt α) (n : Nat) (r' : List α) : Prop :=
  n ≤ l.length ∧
  match c.found, c.first with
  | true, none => n + r'.length = l.length
  | true, some _ => n + r'.length = l.length + 1
  | false, _ => r' = (l.drop n).dropWhile g

theorem DropWhileInv.pulled {fuel : Nat} {g : α → Bool} {c : DropWhileSt α} {d r d' r' l : List α}
    (h : DropWhileInv fuel g c d r d' r') (hl : d ++ r = l) : DropWhilePulled g l c d.length r' := by
  unfold DropWhileInv at h
  obtain ⟨_, h⟩ := h
  subst hl
  refine ⟨by simp, ?_⟩
  cases hb : c.found <;> cases hf : c.first <;> simp [hb, hf] at h ⊢
  · exact h
  · rw [h]
  · rw [h]; simp; omega

/-- what a `Filter` has consumed: nothing before its first `HasNext`; afterwards it sits on the
    next matching element `v` (having consumed the shortest prefix that contains one match more
    than it has delivered), or has run to the end of the source -/
def FilterPulled (g : α → Bool) (l : List α) (c : FilterSt α) (n : Nat) (d' : List α) : Prop :=
  n ≤ l.length ∧
  match c.first, c.fv with
  | true, _ => n = 0
  | false, none => n = l.length
  | false, some v => (l.take n).filter g = d' ++ [v] ∧ (l.take n).getLast? = some v

theorem FilterInv.pulled {g : α → Bool} {c : FilterSt α} {d r d' r' l : List α}
    (h : FilterInv g c d r d' r') (hl : d ++ r = l) : FilterPulled g l c d.length d' := by
  unfold FilterInv at h
  subst hl
  refine ⟨by simp, ?_⟩
  cases hb : c.first <;> cases hf : c.fv <;> simp [hb, hf] at h ⊢
  · obtain ⟨rfl, _, _⟩ := h; simp
  · obtain ⟨⟨d0, rfl⟩, _, h3, _⟩ := h
    simp at h3 ⊢
    exact h3
  · exact h.1

theorem take_drop_of_append {d r l : List α} (h : d ++ r = l) {n : Nat} (hn : d.length = n) :
    d = l.take n ∧ r = l.drop n := by
  subst h hn; simp

/-! ## the runs: any source with a simulation `R` (`Represents`, or the slice source's own relation,
which knows the pull counter), any interleaving -/

/-- `Duplicate`: the source has delivered exactly what the side that is further ahead has obtained -/
theorem duplicate_run {m : Machine σ α} {R : σ → List α → List α → Prop} (hS : Sim m R) (s : σ) (l : List α)
    (h : R s [] l) (cs : List Call2) (lg : Log) :
    ∃ d r, R (runScript2 (dupLeft m) (dupRight m) cs (s, {}) lg).2.1.1 d r ∧ d ++ r = l ∧
      d.length = Nat.max (l.length - (specRest (Call2.leftPart cs) l).length)
        (l.length - (specRest (Call2.rightPart cs) l).length) := by
  obtain ⟨dL', dR', _, _, hdup, hdL, hdR⟩ := runScript2_sim (dup_sim2 (hS.withTotal l)) cs (s, {}) [] l [] l lg
    ⟨[], l, ⟨h, rfl⟩, by simp [SideInv]⟩
  obtain ⟨d, r, ⟨hR, hdr⟩, hmax, _, _⟩ := dupRel_max hdup
  refine ⟨d, r, hR, hdr, ?_⟩
  rw [hmax, length_eq_sub_of_append (c := l) hdL, length_eq_sub_of_append (c := l) hdR]

/-- `Span`: each side observes its list; the source has delivered `max cL cR` elements, `cL` = delivered on the left + the element the
    left `TakeWhile` holds, `cR` as `DropWhilePulled` says -/
theorem span_run {p : α → GoM Bool} {g : α → Bool} (hp : Total p g) {m : Machine σ α}
    {R : σ → List α → List α → Prop} (hS : Sim m R) (s : σ) (l : List α) (h : R s [] l) (fuel : Nat)
    (hfuel : l.length < fuel) (cs : List Call2) (lg : Log)
    (fin : List (Obs α ⊕ Obs α) × ((σ × DupSt α) × TakeWhileSt α × DropWhileSt α) × Log)
    (hfin : fin = runScript2 (spanLeft p m) (spanRight fuel p m) cs ((s, {}), {}, {}) lg) :
    (obsLeft fin.1).map Obs.erase = specScript (Call2.leftPart cs) (l.takeWhile g) ∧
    (obsRight fin.1).map Obs.erase = specScript (Call2.rightPart cs) (l.dropWhile g) ∧
    ∃ d r cR, R fin.2.1.1.1 d r ∧ d ++ r = l ∧
      DropWhilePulled g l fin.2.1.2.2 cR (specRest (Call2.rightPart cs) (l.dropWhile g)) ∧
      d.length = Nat.max ((l.takeWhile g).length - (specRest (Call2.leftPart cs) (l.takeWhile g)).length
        + fin.2.1.2.1.look) cR := by
  subst hfin
  have h2 := sides_sim2 (dup_sim2 (hS.withTotal l))
    (cL := takeWhile p (dupLeft m)) (IL := TakeWhileInv g) (fun R hR => takeWhile_sim hp hR)
    (cR := dropWhile fuel p (dupRight m)) (IR := DropWhileInv fuel g) (fun R hR => dropWhile_sim hp fuel hR)
  obtain ⟨dL', dR', hoL, hoR, ⟨dL, rL, dR, rR, hdup, hIL, hIR⟩, hdL', _⟩ :=
    runScript2_sim h2 cs ((s, {}), {}, {}) [] (l.takeWhile g) [] (l.dropWhile g) lg
    ⟨[], l, [], l, ⟨[], l, ⟨h, rfl⟩, by simp [SideInv]⟩, by simp [TakeWhileInv], by simp [DropWhileInv, hfuel]⟩
  obtain ⟨d, r, ⟨hR, hdr⟩, hmax, _, hl2⟩ := dupRel_max hdup
  refine ⟨hoL, hoR, d, r, dR.length, hR, hdr, hIR.pulled (hl2.symm.trans hdr), ?_⟩
  rw [hmax, hIL.consumed, length_eq_sub_of_append (c := l.takeWhile g) hdL']
  rfl

/-- `Partition`: each side observes its list; the source has delivered `max cL cR` elements, `cL` / `cR` as `FilterPulled` says -/
theorem partition_run {p : α → GoM Bool} {g : α → Bool} (hp : Total p g) {m : Machine σ α}
    {R : σ → List α → List α → Prop} (hS : Sim m R) (s : σ) (l : List α) (h : R s [] l) (fuel : Nat)
    (hfuel : l.length < fuel) (cs : List Call2) (lg : Log)
    (fin : List (Obs α ⊕ Obs α) × ((σ × DupSt α) × FilterSt α × FilterSt α) × Log)
    (hfin : fin = runScript2 (partitionLeft fuel p m) (partitionRight fuel p m) cs ((s, {}), {}, {}) lg) :
    (obsLeft fin.1).map Obs.erase = specScript (Call2.leftPart cs) (l.filter g) ∧
    (obsRight fin.1).map Obs.erase = specScript (Call2.rightPart cs) (l.filter (fun x => !g x)) ∧
    ∃ d r cL cR dL' dR', R fin.2.1.1.1 d r ∧ d ++ r = l ∧
      dL' ++ specRest (Call2.leftPart cs) (l.filter g) = l.filter g ∧
      dR' ++ specRest (Call2.rightPart cs) (l.filter (fun x => !g x)) = l.filter (fun x => !g x) ∧
      FilterPulled g l fin.2.1.2.1 cL dL' ∧ FilterPulled (fun x => !g x) l fin.2.1.2.2 cR dR' ∧
      d.length = Nat.max cL cR := by
  subst hfin
  have hnp : Total (fun t => do let b ← p t; pure (!b)) (fun x => !g x) := total_bind_pure hp (fun b => !b)
  have h2 := sides_sim2 (dup_sim2 (hS.withTotal l))
    (cL := filter fuel p (dupLeft m)) (IL := FilterInvF fuel g) (fun R hR => filter_sim hp fuel hR)
    (cR := filterNot fuel p (dupRight m)) (IR := FilterInvF fuel (fun x => !g x))
    (fun R hR => filter_sim hnp fuel hR)
  obtain ⟨dL', dR', hoL, hoR, ⟨dL, rL, dR, rR, hdup, hIL, hIR⟩, hdL', hdR'⟩ :=
    runScript2_sim h2 cs ((s, {}), {}, {}) [] (l.filter g) [] (l.filter (fun x => !g x)) lg
    ⟨[], l, [], l, ⟨[], l, ⟨h, rfl⟩, by simp [SideInv]⟩, by simp [FilterInvF, FilterInv, hfuel],
      by simp [FilterInvF, FilterInv, hfuel]⟩
  obtain ⟨d, r, ⟨hR, hdr⟩, hmax, hl1, hl2⟩ := dupRel_max hdup
  exact ⟨hoL, hoR, d, r, dL.length, dR.length, dL', dR', hR, hdr, hdL', hdR', hIL.2.pulled (hl1.symm.trans hdr),
    hIR.2.pulled (hl2.symm.trans hdr), hmax⟩

end FpVerif.It
