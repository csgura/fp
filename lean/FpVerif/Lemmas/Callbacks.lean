import FpVerif.Lemmas.IM
import FpVerif.Lemmas.CollRun
/-!
# What is assumed of a user callback

`Total f g`: `f` does not panic and returns `g a`; `Outcome f g`: `f a` returns or panics as `g a : Except PanicVal _`
says.  Either way it may log whatever it likes.  `liftG_*`: what `IM.liftG (f a)` does under these assumptions.
-/
namespace FpVerif.It
variable {σ γ α β : Type}

/-- The callback `f` does not panic and returns `g a` (it may log whatever it likes). -/
def Total (f : α → GoM β) (g : α → β) : Prop :=
  ∀ a lg, ∃ lg', (f a).run.run lg = (.ok (g a), lg')

def Total2 (f : α → β → GoM γ) (g : α → β → γ) : Prop :=
  ∀ a b lg, ∃ lg', (f a b).run.run lg = (.ok (g a b), lg')

theorem liftG_bind (g : GoM α) (k : α → GoM β) :
    (IM.liftG (g >>= k) : IM σ β) = IM.liftG g >>= fun a => IM.liftG (k a) := by
  funext s lg
  simp only [IM.liftG, bind_apply, Coll.run_bind]
  rcases g.run.run lg with ⟨p | x, lg1⟩ <;> rfl

theorem liftG_total {f : α → GoM β} {g : α → β} (h : Total f g) (a : α) (s : σ) (lg : Log) :
    ∃ lg', (IM.liftG (f a) : IM σ β) s lg = (.ok (g a), s, lg') := by
  obtain ⟨lg', h'⟩ := h a lg
  exact ⟨lg', by simp [IM.liftG, h']⟩

theorem liftG_total2 {f : α → β → GoM γ} {g : α → β → γ} (h : Total2 f g) (a : α) (b : β) (s : σ) (lg : Log) :
    ∃ lg', (IM.liftG (f a b) : IM σ γ) s lg = (.ok (g a b), s, lg') := by
  obtain ⟨lg', h'⟩ := h a b lg
  exact ⟨lg', by simp [IM.liftG, h']⟩

theorem total_pure (g : α → β) : Total (fun a => (pure (g a) : GoM β)) g := by
  intro a lg; exact ⟨lg, rfl⟩

theorem total_emit (e : α → Event) (g : α → β) : Total (fun a => (do emit (e a); pure (g a) : GoM β)) g := by
  intro a lg; exact ⟨lg ++ [e a], rfl⟩

theorem total_bind_pure {p : α → GoM β} {g : α → β} (hp : Total p g) (h : β → γ) :
    Total (fun t => do let b ← p t; pure (h b)) (fun x => h (g x)) :=
  fun a lg =>
  let ⟨lg', h'⟩ := hp a lg
  ⟨lg', Coll.run_bind_ok h'⟩

section Outcome
variable {σ α β γ : Type}

/-- Whatever the log, the callback `f a` ends as `g a` says: it returns a value or panics with a
    value (it may log whatever it likes). -/
def Outcome (f : α → GoM β) (g : α → Except PanicVal β) : Prop :=
  ∀ a lg, ∃ lg', (f a).run.run lg = (g a, lg')

def Outcome2 (f : α → β → GoM γ) (g : α → β → Except PanicVal γ) : Prop :=
  ∀ a b lg, ∃ lg', (f a b).run.run lg = (g a b, lg')

theorem Total.outcome {f : α → GoM β} {g : α → β} (h : Total f g) : Outcome f (fun a => .ok (g a)) := h
theorem Total2.outcome {f : α → β → GoM γ} {g : α → β → γ} (h : Total2 f g) : Outcome2 f (fun a b => .ok (g a b)) := h

theorem liftG_outcome {f : α → GoM β} {g : α → Except PanicVal β} (h : Outcome f g) (a : α) (s : σ) (lg : Log) :
    ∃ lg', (IM.liftG (f a) : IM σ β) s lg = (g a, s, lg') := by
  obtain ⟨lg', h'⟩ := h a lg
  exact ⟨lg', by simp [IM.liftG, h']⟩

theorem liftG_outcome2 {f : α → β → GoM γ} {g : α → β → Except PanicVal γ} (h : Outcome2 f g) (a : α) (b : β)
    (s : σ) (lg : Log) : ∃ lg', (IM.liftG (f a b) : IM σ γ) s lg = (g a b, s, lg') := by
  obtain ⟨lg', h'⟩ := h a b lg
  exact ⟨lg', by simp [IM.liftG, h']⟩

/-- a callback that panics on some inputs: `Outcome` is satisfiable with panics -/
theorem outcome_panic_example (bad : α → Bool) (p : PanicVal) (g : α → β) :
    Outcome (fun a => if bad a then (throw p : GoM β) else pure (g a))
      (fun a => if bad a then .error p else .ok (g a)) := by
  intro a lg
  refine ⟨lg, ?_⟩
  by_cases h : bad a = true
  · simp only [h, if_true]; rfl
  · simp only [h]; rfl

end Outcome

end FpVerif.It
