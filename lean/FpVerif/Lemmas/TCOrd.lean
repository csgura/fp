import FpVerif.Lemmas.TCEq
/-!
Helper lemmas for C10: strict weak orders on `Bool`-valued less functions, lexicographic
combination, the sequence order, and the bridge to `StrictTotal` on the `fp.Ord` interface.

Each of the orders of pairs (`lexLess`), options (`optLess`) and sequences (`seqLess`) has its `*_incomp_iff`: two values
are incomparable exactly when they are so component by component, which is what `ord.New(eqv, less)` asks of its `eqv`.
When `a` is less than `b` is `lexLess_iff` for pairs; a sequence compares as the pair of its head and tail (`seqLess_cons`).
-/
namespace FpVerif.TC

variable {α β τ : Type}

structure StrictWeak (less : α → α → Bool) : Prop where
  irrefl : ∀ a, less a a = false
  trans : ∀ a b c, less a b = true → less b c = true → less a c = true
  incomp_trans : ∀ a b c, less a b = false → less b a = false → less b c = false → less c b = false →
    less a c = false ∧ less c a = false

theorem StrictWeak.asymm {less : α → α → Bool} (h : StrictWeak less) (a b : α) (hab : less a b = true) :
    less b a = false := by
  cases hba : less b a with
  | false => rfl
  | true => have := h.trans a b a hab hba; simp [h.irrefl a] at this

/-- less is preserved when an argument is replaced by an incomparable one -/
theorem StrictWeak.less_of_incomp_left {less : α → α → Bool} (h : StrictWeak less) (a b c : α)
    (h1 : less a b = false) (h2 : less b a = false) (hbc : less b c = true) : less a c = true := by
  cases hac : less a c with
  | true => rfl
  | false =>
    cases hca : less c a with
    | true => have := h.trans b c a hbc hca; simp [h2] at this
    | false =>
      have := h.incomp_trans b a c h2 h1 hac hca
      simp [hbc] at this

theorem StrictWeak.less_of_incomp_right {less : α → α → Bool} (h : StrictWeak less) (a b c : α)
    (hab : less a b = true) (h1 : less b c = false) (h2 : less c b = false) : less a c = true := by
  cases hac : less a c with
  | true => rfl
  | false =>
    cases hca : less c a with
    | true => have := h.trans c a b hca hab; simp [h2] at this
    | false =>
      have := h.incomp_trans a c b hac hca h2 h1
      simp [hab] at this

theorem StrictWeak.neg_trans {less : α → α → Bool} (h : StrictWeak less) (a b c : α)
    (h1 : less a b = false) (h2 : less b c = false) : less a c = false := by
  cases hac : less a c with
  | false => rfl
  | true =>
    cases hba : less b a with
    | true => have := h.trans b a c hba hac; simp [h2] at this
    | false => have := h.less_of_incomp_left b a c hba h1 hac; simp [h2] at this

theorem StrictWeak.comap {less : β → β → Bool} (h : StrictWeak less) (f : α → β) :
    StrictWeak fun a b => less (f a) (f b) :=
  ⟨fun _ => h.irrefl _, fun _ _ _ => h.trans _ _ _, fun _ _ _ => h.incomp_trans _ _ _⟩

theorem StrictWeak.flip {less : α → α → Bool} (h : StrictWeak less) : StrictWeak fun a b => less b a where
  irrefl a := h.irrefl a
  trans a b c h1 h2 := h.trans c b a h2 h1
  incomp_trans a b c h1 h2 h3 h4 := h.incomp_trans c b a h3 h4 h1 h2

/-- the built-in `<` of a linear order, decided -/
theorem strictWeak_of_linear [LT α] [DecidableRel (α := α) (· < ·)] (irrefl : ∀ a : α, ¬ a < a)
    (trans : ∀ a b c : α, a < b → b < c → a < c) (total : ∀ a b : α, a < b ∨ a = b ∨ b < a) :
    StrictWeak fun a b : α => decide (a < b) where
  irrefl a := decide_eq_false (irrefl a)
  trans a b c h1 h2 := decide_eq_true (trans a b c (of_decide_eq_true h1) (of_decide_eq_true h2))
  incomp_trans a b c h1 h2 h3 h4 := by
    -- incomparable means equal
    have eq_of : ∀ x y : α, decide (x < y) = false → decide (y < x) = false → x = y := fun x y n1 n2 =>
      (total x y).resolve_left (of_decide_eq_false n1) |>.resolve_right (of_decide_eq_false n2)
    rw [eq_of a b h1 h2, eq_of b c h3 h4]
    exact ⟨decide_eq_false (irrefl c), decide_eq_false (irrefl c)⟩

def lexLess (l1 : α → α → Bool) (l2 : τ → τ → Bool) (a b : α × τ) : Bool :=
  if l1 a.1 b.1 then true else if l1 b.1 a.1 then false else l2 a.2 b.2

theorem lexLess_iff (l1 : α → α → Bool) (l2 : τ → τ → Bool) (a b : α × τ) :
    lexLess l1 l2 a b = true ↔
      (l1 a.1 b.1 = true ∨ ((l1 a.1 b.1 = false ∧ l1 b.1 a.1 = false) ∧ l2 a.2 b.2 = true)) := by
  unfold lexLess
  cases l1 a.1 b.1 <;> cases l1 b.1 a.1 <;> simp

theorem lexLess_incomp_iff (l1 : α → α → Bool) (l2 : τ → τ → Bool) (a b : α × τ) :
    (lexLess l1 l2 a b = false ∧ lexLess l1 l2 b a = false) ↔
      ((l1 a.1 b.1 = false ∧ l1 b.1 a.1 = false) ∧ (l2 a.2 b.2 = false ∧ l2 b.2 a.2 = false)) := by
  unfold lexLess
  cases l1 a.1 b.1 <;> cases l1 b.1 a.1 <;> simp

theorem lexLess_self {l1 : α → α → Bool} (l2 : τ → τ → Bool) {a : α × τ} (h : l1 a.1 a.1 = false) :
    lexLess l1 l2 a a = l2 a.2 a.2 := by
  simp [lexLess, h]

/-- Transitivity at three given points asks of the second function only transitivity at their second
    components: this is what lets the order of sequences recurse through it. -/
theorem lexLess_trans {l1 : α → α → Bool} {l2 : τ → τ → Bool} (h1 : StrictWeak l1) {a b c : α × τ}
    (h2 : l2 a.2 b.2 = true → l2 b.2 c.2 = true → l2 a.2 c.2 = true)
    (hab : lexLess l1 l2 a b = true) (hbc : lexLess l1 l2 b c = true) : lexLess l1 l2 a c = true := by
  rw [lexLess_iff] at hab hbc ⊢
  rcases hab with hab | ⟨iab, tab⟩
  · rcases hbc with hbc | ⟨ibc, _⟩
    · exact .inl (h1.trans _ _ _ hab hbc)
    · exact .inl (h1.less_of_incomp_right _ _ _ hab ibc.1 ibc.2)
  · rcases hbc with hbc | ⟨ibc, tbc⟩
    · exact .inl (h1.less_of_incomp_left _ _ _ iab.1 iab.2 hbc)
    · exact .inr ⟨h1.incomp_trans _ _ _ iab.1 iab.2 ibc.1 ibc.2, h2 tab tbc⟩

theorem StrictWeak.lex {l1 : α → α → Bool} {l2 : τ → τ → Bool} (h1 : StrictWeak l1) (h2 : StrictWeak l2) :
    StrictWeak (lexLess l1 l2) where
  irrefl a := (lexLess_self l2 (h1.irrefl a.1)).trans (h2.irrefl a.2)
  trans a b c := lexLess_trans h1 (h2.trans a.2 b.2 c.2)
  incomp_trans a b c hab hba hbc hcb := by
    have x := (lexLess_incomp_iff l1 l2 a b).mp ⟨hab, hba⟩
    have y := (lexLess_incomp_iff l1 l2 b c).mp ⟨hbc, hcb⟩
    exact (lexLess_incomp_iff l1 l2 a c).mpr
      ⟨h1.incomp_trans _ _ _ x.1.1 x.1.2 y.1.1 y.1.2, h2.incomp_trans _ _ _ x.2.1 x.2.2 y.2.1 y.2.2⟩

/-- the order of `Option`/pointers: absent first, then by content -/
def optLess (l : α → α → Bool) : Option α → Option α → Bool
  | some a, some b => l a b
  | none, some _ => true
  | _, _ => false

theorem optLess_none_right (l : α → α → Bool) (a : Option α) : optLess l a none = false := by
  cases a <;> rfl

theorem optLess_incomp_iff (l : α → α → Bool) :
    ∀ a b : Option α, (optLess l a b = false ∧ optLess l b a = false) ↔
      OptRel (fun x y => l x y = false ∧ l y x = false) a b
  | none, none => ⟨fun _ => trivial, fun _ => ⟨rfl, rfl⟩⟩
  | some _, some _ => Iff.rfl
  | none, some _ => ⟨fun h => (nomatch h.1), False.elim⟩
  | some _, none => ⟨fun h => (nomatch h.2), False.elim⟩

theorem StrictWeak.opt {l : α → α → Bool} (h : StrictWeak l) : StrictWeak (optLess l) where
  irrefl
    | none => rfl
    | some a => h.irrefl a
  trans
    | _, b, none, _, hbc => absurd ((optLess_none_right l b).symm.trans hbc) Bool.false_ne_true
    | none, _, some _, _, _ => rfl
    | some _, none, some _, hab, _ => nomatch hab
    | some a, some b, some c, hab, hbc => h.trans a b c hab hbc
  incomp_trans a b c hab hba hbc hcb :=
    (optLess_incomp_iff l a c).mpr <|
      OptRel.trans (fun x y z hxy hyz => h.incomp_trans x y z hxy.1 hxy.2 hyz.1 hyz.2) a b c
        ((optLess_incomp_iff l a b).mp ⟨hab, hba⟩) ((optLess_incomp_iff l b c).mp ⟨hbc, hcb⟩)

theorem seqLess_nil_left (ord : OrdD α) (bs : List α) : OrdD.seqLess ord [] bs = decide (0 < bs.length) := by
  cases bs <;> rfl

theorem seqLess_nil_right (ord : OrdD α) (as : List α) : OrdD.seqLess ord as [] = false := by
  cases as <;> rfl

/-- the order of sequences is the lexicographic combination of the element order with itself on the tails -/
theorem seqLess_cons (ord : OrdD α) (a b : α) (as bs : List α) :
    OrdD.seqLess ord (a :: as) (b :: bs) = lexLess ord.less (OrdD.seqLess ord) (a, as) (b, bs) := rfl

theorem seqLess_incomp_iff (ord : OrdD α) (a b : List α) :
    (OrdD.seqLess ord a b = false ∧ OrdD.seqLess ord b a = false) ↔
      Pointwise (fun x y => ord.less x y = false ∧ ord.less y x = false) a b := by
  induction a generalizing b with
  | nil =>
    cases b with
    | nil => exact ⟨fun _ => .nil, fun _ => ⟨rfl, rfl⟩⟩
    | cons y ys => exact ⟨fun hf => absurd hf.1 (by simp [seqLess_nil_left]), fun hp => nomatch hp⟩
  | cons x xs ih =>
    cases b with
    | nil => exact ⟨fun hf => absurd hf.2 (by simp [seqLess_nil_left]), fun hp => nomatch hp⟩
    | cons y ys => rw [seqLess_cons, seqLess_cons, lexLess_incomp_iff, ih ys, pointwise_cons_iff]

theorem StrictWeak.seq {ord : OrdD α} (h : StrictWeak ord.less) : StrictWeak (OrdD.seqLess ord) where
  irrefl a := by
    induction a with
    | nil => rfl
    | cons x xs ih => exact (lexLess_self (OrdD.seqLess ord) (a := (x, xs)) (h.irrefl x)).trans ih
  trans a := by
    induction a with
    | nil =>
      intro b c _ hbc
      cases c with
      | nil => rw [seqLess_nil_right] at hbc; cases hbc
      | cons _ _ => rfl
    | cons x xs ih =>
      intro b c hab hbc
      cases b with
      | nil => cases hab
      | cons y ys =>
        cases c with
        | nil => cases hbc
        | cons z zs => exact lexLess_trans h (a := (x, xs)) (b := (y, ys)) (c := (z, zs)) (ih ys zs) hab hbc
  incomp_trans a b c hab hba hbc hcb :=
    (seqLess_incomp_iff ord a c).mpr <|
      ((seqLess_incomp_iff ord a b).mp ⟨hab, hba⟩).trans
        (fun x y z hxy hyz => h.incomp_trans x y z hxy.1 hxy.2 hyz.1 hyz.2)
        ((seqLess_incomp_iff ord b c).mp ⟨hbc, hcb⟩)

theorem OrdD.min_eq (o : OrdD α) (a b : α) : o.min a b = if o.less a b then a else b := by
  cases o with
  | compareFunc r => simp [OrdD.min, OrdD.less]
  | lessFunc r => rfl

theorem OrdD.max_eq (o : OrdD α) (a b : α) : o.max a b = if o.less a b then b else a := by
  cases o with
  | compareFunc r => simp [OrdD.max, OrdD.less]
  | lessFunc r => rfl

theorem lessFunc_compare (r : α → α → Bool) (a b : α) :
    (OrdD.lessFunc r).compare a b = if r a b = true then -1 else if r b a = true then 1 else 0 := rfl

theorem lessFunc_compare_neg (r : α → α → Bool) (a b : α) : (OrdD.lessFunc r).compare a b < 0 ↔ r a b = true := by
  rw [lessFunc_compare]
  cases r a b <;> cases r b a <;> decide

theorem lessFunc_compare_zero (r : α → α → Bool) (a b : α) :
    (OrdD.lessFunc r).compare a b = 0 ↔ (r a b = false ∧ r b a = false) := by
  rw [lessFunc_compare]
  cases r a b <;> cases r b a <;> decide

theorem lessFunc_compare_pos {r : α → α → Bool} {a b : α} (h : r a b = true → r b a = false) :
    0 < (OrdD.lessFunc r).compare a b ↔ r b a = true := by
  rw [lessFunc_compare]
  cases hab : r a b <;> cases hba : r b a
  · decide
  · decide
  · decide
  · rw [h hab] at hba; cases hba

theorem OrdD.compare_neg_iff (o : OrdD α) (a b : α) : o.compare a b < 0 ↔ o.less a b = true := by
  cases o with
  | compareFunc r => exact decide_eq_true_iff.symm
  | lessFunc r => exact lessFunc_compare_neg r a b

/-- `StrictTotal` on the whole interface follows from: `Less` is a strict weak order, and `Compare`
    is positive exactly when the arguments are in the other order. -/
theorem strictTotal_of {o : OrdD α} (hsw : StrictWeak o.less)
    (hcp : ∀ a b, 0 < o.compare a b ↔ o.less b a = true) : StrictTotal o := by
  have hcn := o.compare_neg_iff
  -- with `hcn` and `hcp` every clause about `Less` and `Eqv` is one about the sign of `Compare`
  have heq : ∀ a b, o.eqv a b = true ↔ (o.less a b = false ∧ o.less b a = false) := by
    intro a b
    rw [OrdD.eqv, beq_iff_eq, ← Bool.not_eq_true, ← Bool.not_eq_true, ← hcn, ← hcp]
    omega
  refine
    { tri := ?_, trans := hsw.trans, eqv_trans := ?_, compare_neg := hcn, compare_zero := fun _ _ => beq_iff_eq.symm,
      compare_pos := hcp, lessEq_iff := ?_, min_spec := ?_, max_spec := ?_ }
  · intro a b
    rw [ExactlyOne, ← hcn, ← hcp, OrdD.eqv, beq_iff_eq]
    omega
  · intro a b c h1 h2
    have x := (heq a b).mp h1
    have y := (heq b c).mp h2
    exact (heq a c).mpr (hsw.incomp_trans a b c x.1 x.2 y.1 y.2)
  · intro a b
    rw [OrdD.lessEq, decide_eq_true_iff, ← hcn, OrdD.eqv, beq_iff_eq]
    omega
  · intro a b
    rw [o.min_eq]
    cases hab : o.less a b with
    | true =>
      rw [if_pos rfl]
      exact ⟨.inl rfl, hsw.irrefl a, hsw.asymm a b hab⟩
    | false =>
      rw [if_neg Bool.false_ne_true]
      exact ⟨.inr rfl, hab, hsw.irrefl b⟩
  · intro a b
    rw [o.max_eq]
    cases hab : o.less a b with
    | true =>
      rw [if_pos rfl]
      exact ⟨.inr rfl, hsw.asymm a b hab, hsw.irrefl b⟩
    | false =>
      rw [if_neg Bool.false_ne_true]
      exact ⟨.inl rfl, hsw.irrefl a, hab⟩

theorem StrictTotal.irrefl {o : OrdD α} (h : StrictTotal o) (a : α) : o.less a a = false := by
  have := h.tri a a
  unfold ExactlyOne at this
  cases hl : o.less a a with
  | false => rfl
  | true => simp [hl] at this

theorem StrictTotal.eqv_iff {o : OrdD α} (h : StrictTotal o) (a b : α) :
    o.eqv a b = true ↔ (o.less a b = false ∧ o.less b a = false) := by
  rw [← h.compare_zero, ← Bool.not_eq_true, ← Bool.not_eq_true, ← h.compare_neg, ← h.compare_pos a b]
  omega

theorem StrictTotal.strictWeak {o : OrdD α} (h : StrictTotal o) : StrictWeak o.less where
  irrefl := h.irrefl
  trans := h.trans
  incomp_trans a b c h1 h2 h3 h4 :=
    (h.eqv_iff a c).mp (h.eqv_trans a b c ((h.eqv_iff a b).mpr ⟨h1, h2⟩) ((h.eqv_iff b c).mpr ⟨h3, h4⟩))

theorem StrictTotal.eqv_refl {o : OrdD α} (h : StrictTotal o) (a : α) : o.eqv a a = true :=
  (h.eqv_iff a a).mpr ⟨h.irrefl a, h.irrefl a⟩

theorem StrictTotal.eqv_symm {o : OrdD α} (h : StrictTotal o) (a b : α) (hab : o.eqv a b = true) :
    o.eqv b a = true :=
  (h.eqv_iff b a).mpr ((h.eqv_iff a b).mp hab).symm

theorem new_compare (eqv : EqD α) (less : α → α → Bool) (a b : α) :
    (OrdD.new eqv less).compare a b = if eqv.eqv a b = true then 0 else (OrdD.lessFunc less).compare a b := rfl

/-- `ord.New(eqv, less)` compares as `less` does when `eqv` is the incomparability of `less` -/
theorem new_less {eqv : EqD α} {less : α → α → Bool}
    (heq : ∀ a b, eqv.eqv a b = true ↔ (less a b = false ∧ less b a = false)) (a b : α) :
    (OrdD.new eqv less).less a b = less a b := by
  refine Bool.eq_iff_iff.mpr ((OrdD.compare_neg_iff _ a b).symm.trans ?_)
  rw [new_compare]
  by_cases he : eqv.eqv a b = true
  · rw [if_pos he, ((heq a b).mp he).1]
    decide
  · rw [if_neg he]
    exact lessFunc_compare_neg less a b

/-- `ord.New(eqv, less)` when `eqv` is the incomparability of the strict weak order `less` -/
theorem new_strictTotal {eqv : EqD α} {less : α → α → Bool} (hsw : StrictWeak less)
    (heq : ∀ a b, eqv.eqv a b = true ↔ (less a b = false ∧ less b a = false)) :
    StrictTotal (OrdD.new eqv less) := by
  have hl : (OrdD.new eqv less).less = less := funext fun a => funext (new_less heq a)
  apply strictTotal_of
  · rw [hl]; exact hsw
  · intro a b
    rw [hl, new_compare]
    by_cases he : eqv.eqv a b = true
    · rw [if_pos he, ((heq a b).mp he).2]
      decide
    · rw [if_neg he]
      exact lessFunc_compare_pos (hsw.asymm a b)

theorem new_eqv {eqv : EqD α} {less : α → α → Bool}
    (heq : ∀ a b, eqv.eqv a b = true ↔ (less a b = false ∧ less b a = false)) (a b : α) :
    (OrdD.new eqv less).eqv a b = eqv.eqv a b := by
  rw [OrdD.eqv, new_compare]
  by_cases he : eqv.eqv a b = true
  · rw [if_pos he, he]
    rfl
  · rw [if_neg he, (Bool.not_eq_true _).mp he]
    exact beq_eq_false_iff_ne.mpr fun h0 => he ((heq a b).mpr ((lessFunc_compare_zero less a b).mp h0))

theorem lessFunc_strictTotal {less : α → α → Bool} (hsw : StrictWeak less) : StrictTotal (OrdD.lessFunc less) :=
  strictTotal_of hsw fun a b => lessFunc_compare_pos (hsw.asymm a b)

end FpVerif.TC
