import FpVerif.Model.FnMonad
import FpVerif.Lemmas.MemoOnceInv
/-!
# Helper lemmas for `fn1.Memoize` (`Model/FnMonad.lean`): run-level semantics of the `GoS` primitives (`runS` of bind,
`tryCatch`, `attempt` and of each cell operation), the invariant of the concurrent (`sync.Once`) model with per-caller
arguments as an instance of `Memo.OnceInv`, and `liftG` on `throw` / `emit`.  The property statements — the behaviour
of the memo cell included — are in `Spec/C01Fn.lean`.
-/
namespace FpVerif.FnM
variable {V α β : Type}

/-- run a `GoS` computation from a given log and heap -/
def runS (c : GoS V α) (s : List Event × List (Cell V)) : Except PanicVal α × (List Event × List (Cell V)) :=
  c.run.run s

theorem runS_bind (c : GoS V α) (k : α → GoS V β) (s) :
    runS (c >>= k) s = match runS c s with
      | (.ok a, s') => runS (k a) s'
      | (.error p, s') => (.error p, s') := by
  unfold runS
  rw [ExceptT.run_bind, StateT.run_bind]
  rcases h : (ExceptT.run c).run s with ⟨r, s'⟩
  cases r <;> rfl

@[simp] theorem runS_pure (a : α) (s) : runS (Pure.pure a : GoS V α) s = (.ok a, s) := rfl
@[simp] theorem runS_throw (p : PanicVal) (s) : runS (throw p : GoS V α) s = (.error p, s) := rfl

theorem runS_tryCatch (c : GoS V α) (h : PanicVal → GoS V α) (s) :
    runS (tryCatch c h) s = match runS c s with
      | (.ok a, s') => (.ok a, s')
      | (.error p, s') => runS (h p) s' := by
  unfold runS
  simp only [tryCatch, tryCatchThe, MonadExceptOf.tryCatch, ExceptT.tryCatch, ExceptT.mk, ExceptT.run]
  show (StateT.run (bind _ _) s) = _
  rw [StateT.run_bind]
  rcases h : StateT.run c s with ⟨r, s'⟩
  cases r <;> rfl

@[simp] theorem runS_cellDone (i : Nat) (s) :
    runS (cellDone i : GoS V Bool) s = (.ok (match s.2[i]? with | some c => c.done | none => true), s) := rfl
@[simp] theorem runS_setDone (i : Nat) (s) :
    runS (setDone i : GoS V Unit) s = (.ok (), (s.1, s.2.modify i (fun c => { c with done := true }))) := rfl
@[simp] theorem runS_setRet (i : Nat) (v : V) (s) :
    runS (setRet i v : GoS V Unit) s = (.ok (), (s.1, s.2.modify i (fun c => { c with ret := v }))) := rfl
@[simp] theorem runS_getRet (zero : V) (i : Nat) (s) :
    runS (getRet zero i : GoS V V) s = (.ok (match s.2[i]? with | some c => c.ret | none => zero), s) := rfl
@[simp] theorem runS_allocCell (zero : V) (s) :
    runS (allocCell zero : GoS V Nat) s = (.ok s.2.length, (s.1, s.2 ++ [⟨false, zero⟩])) := rfl
@[simp] theorem runS_liftG (g : GoM α) (s) :
    runS (liftG g : GoS V α) s = ((g.run.run s.1).1, ((g.run.run s.1).2, s.2)) := rfl

theorem modify_eq_set_of_getElem? {α : Type} (l : List α) (i : Nat) (f : α → α) (c : α) (h : l[i]? = some c) :
    l.modify i f = l.set i (f c) := by
  rw [@List.modify_eq_set _ ⟨c⟩, h]
  rfl

theorem runS_attempt (c : GoS V α) (s) :
    runS (attempt c) s = match runS c s with
      | (.ok a, s') => (.ok (.ok a), s')
      | (.error p, s') => (.ok (.error p), s') := by
  simp only [attempt, runS_tryCatch, runS_bind]
  rcases runS c s with ⟨r, s'⟩
  cases r <;> rfl

theorem set_append_length {α : Type} (l : List α) (x y : α) : (l ++ [x]).set l.length y = l ++ [y] := by
  induction l with
  | nil => rfl
  | cons a l ih => simp [ih]

variable {T : Type}

/-- invariant of the Once-guarded cell when every caller brings its own argument: that of `Model/Memo.lean`'s cell,
    the stored value being that of one of the `n` callers -/
structure InvArg (vals : Nat → T) (n : Nat) (s : Memo.Sys T) : Prop
    extends Memo.OnceInv (fun r => ∃ w, w < n ∧ r = vals w) s where
  len : s.threads.length = n

theorem invArg_init (vals : Nat → T) (n : Nat) : InvArg vals n (Memo.init n : Memo.Sys T) :=
  ⟨Memo.onceInv_init _ n, by simp [Memo.init]⟩

theorem invArg_step (vals : Nat → T) (n : Nat) (s : Memo.Sys T) (i : Nat) (h : InvArg vals n s) :
    InvArg vals n (stepArg vals s i) :=
  -- `stepArg vals s i` unfolds to `Memo.step (vals i) s i`: the lemmas about `Memo.step` apply as they are
  ⟨Memo.onceInv_step h.toOnceInv fun hti => ⟨i, h.len ▸ (List.getElem?_eq_some_iff.mp hti).1, rfl⟩,
   (Memo.length_step (vals i) s i).trans h.len⟩

-- extensionality of `GoS`; `liftG` on the two effects (that it commutes with `pure` / `bind`: `Spec/C01Fn` §8) ---------

theorem goS_ext (c d : GoS V α) (h : ∀ s, runS c s = runS d s) : c = d := by
  apply ExceptT.ext
  apply StateT.ext
  intro s
  exact h s

theorem liftG_throw (p : PanicVal) : (liftG (throw p) : GoS V α) = throw p := by
  apply goS_ext; intro s; rfl

theorem liftG_emit (e : Event) : (liftG (emit e) : GoS V Unit) = emitS e := by
  apply goS_ext; intro s; rfl

end FpVerif.FnM
