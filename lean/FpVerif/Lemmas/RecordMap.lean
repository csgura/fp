import FpVerif.Model.Record
import FpVerif.Lemmas.RecordG
/-!
# `AsMap` / `FromMap` and the method table: helper lemmas for C07.  Core Lean only.

Defined here and used in the statements of `Spec/C07`: `mapEntry` / `fromEntry` (what `AsMap` writes for one
field, what `FromMap` makes of one entry), `appNames`, `entryOK` (the entries the two give back unchanged).
-/
namespace FpVerif.Rec

/-! ## Go maps as association lists -/

theorem GoMap.get_put_same (m : GoMap) (k : String) (d : Dyn) : (m.put k d).get k = d := by
  unfold GoMap.put GoMap.get
  have h : (m.filter (·.1 != k)).find? (·.1 == k) = none := by
    rw [List.find?_eq_none]
    intro p hp
    have := (List.mem_filter.mp hp).2
    simpa using this
  simp [List.find?_append, h]

theorem GoMap.get_put_other (m : GoMap) (k k' : String) (d : Dyn) (h : k' ≠ k) :
    (m.put k d).get k' = m.get k' := by
  unfold GoMap.put GoMap.get
  have h1 : (m.filter (·.1 != k)).find? (·.1 == k') = m.find? (·.1 == k') := by
    rw [List.find?_filter]
    congr 1
    funext p
    by_cases hp : p.1 = k' <;> simp [hp, h]
  have h2 : (k == k') = false := by simp [Ne.symm h]
  cases hm : m.find? (·.1 == k') <;> simp [List.find?_append, h1, hm, h2]

/-- the entry `AsMap` writes for one field (`none`: it writes nothing) -/
def mapEntry (f : Field) (v : RV) : Option Dyn :=
  if f.applicable then
    match f.ty, v with
    | .opt e, .some w => some (toAny e w)
    | .opt _, _ => none
    | t, v => some (toAny t v)
  else none

theorem asMapAux_cons (f : Field) (fs : List Field) (v : RV) (vs : Rec) (m : GoMap) :
    asMapAux (f :: fs) (v :: vs) m =
      asMapAux fs vs (match mapEntry f v with | some d => m.put f.name d | none => m) := by
  conv => lhs; unfold asMapAux
  unfold mapEntry
  cases f.applicable
  · rfl
  · generalize f.ty = ty
    cases ty <;> cases v <;> rfl

theorem mapEntry_applicable {f : Field} {v : RV} {d : Dyn} (h : mapEntry f v = some d) :
    f.applicable = true := by
  unfold mapEntry at h
  cases hf : f.applicable
  · rw [hf] at h; cases h
  · rfl

/-- a key that no remaining applicable field owns is not touched -/
theorem asMapAux_get_other (fs : List Field) (x : Rec) (m : GoMap) (k : String)
    (h : ∀ f ∈ fs, f.applicable = true → f.name ≠ k) : (asMapAux fs x m).get k = m.get k := by
  induction fs generalizing x m with
  | nil => cases x <;> rfl
  | cons f fs ih =>
    cases x with
    | nil => rfl
    | cons v vs =>
      rw [asMapAux_cons, ih vs _ (fun g hg => h g (List.mem_cons_of_mem f hg))]
      cases he : mapEntry f v with
      | none => rfl
      | some d =>
        exact GoMap.get_put_other m f.name k d
          (Ne.symm (h f List.mem_cons_self (mapEntry_applicable he)))

/-- `FromMap` of one field when the map holds `entry` under the field's name -/
def fromEntry (f : Field) (bv : RV) (entry : Dyn) : RV :=
  match assertTy f.ty entry with
  | some v => v
  | none =>
    match f.ty with
    | .opt e =>
      match assertTy e entry with
      | some v => .some v
      | none => bv
    | _ => bv

theorem fromMapField_eq (f : Field) (bv : RV) (m : GoMap) :
    fromMapField f bv m = fromEntry f bv (m.get f.name) := rfl

def appNames (fs : List Field) : List String := (fs.filter Field.applicable).map Field.name

/-- distinct names: the tail's are distinct, and none of them is the head's -/
theorem appNames_nodup_cons {g : Field} {fs : List Field} (h : (appNames (g :: fs)).Nodup) :
    (appNames fs).Nodup ∧
      (g.applicable = true → ∀ f ∈ fs, f.applicable = true → f.name ≠ g.name) := by
  unfold appNames at h ⊢
  rw [List.filter_cons] at h
  cases hg : g.applicable
  · rw [hg] at h
    exact ⟨h, fun h' => nomatch h'⟩
  · rw [hg, if_pos rfl, List.map_cons, List.nodup_cons] at h
    refine ⟨h.2, fun _ f hf hfa hne => h.1 ?_⟩
    rw [← hne]
    exact List.mem_map_of_mem (List.mem_filter.2 ⟨hf, hfa⟩)

/-- `AsMap`, key by key: under the name of an applicable field the map holds exactly the entry
    written for it -/
theorem asMapAux_get_own (fs : List Field) (x : Rec) (m : GoMap) (i : Nat) (f : Field)
    (hx : x.length = fs.length) (hnd : (appNames fs).Nodup) (hf : fs[i]? = some f)
    (happ : f.applicable = true) :
    (asMapAux fs x m).get f.name = (mapEntry f (getF i x)).getD (m.get f.name) := by
  induction fs, x, hx using Derive.tuple_induction₁ generalizing m i with
  | nil => cases hf
  | cons g fs v vs hx ih =>
    obtain ⟨hnd', hfresh⟩ := appNames_nodup_cons hnd
    rw [asMapAux_cons]
    cases i with
    | zero =>
      obtain rfl : g = f := Option.some.inj hf
      rw [asMapAux_get_other fs vs _ g.name (hfresh happ)]
      show _ = (mapEntry g v).getD _
      cases mapEntry g v with
      | none => rfl
      | some d => exact GoMap.get_put_same m g.name d
    | succ i =>
      have hf' : fs[i]? = some f := hf
      rw [ih _ i hnd' hf']
      show (mapEntry f (getF i vs)).getD _ = (mapEntry f (getF i vs)).getD _
      congr 1
      cases he : mapEntry g v with
      | none => rfl
      | some d =>
        exact GoMap.get_put_other m g.name f.name d
          (hfresh (mapEntry_applicable he) f (List.mem_of_getElem? hf') happ)

/-- `FromMap`, field by field -/
theorem getF_fromMap (fs : List Field) (b : Rec) (m : GoMap) (i : Nat) (f : Field)
    (hb : b.length = fs.length) (hf : fs[i]? = some f) :
    getF i (fromMap fs b m) =
      if f.applicable then fromEntry f (getF i b) (m.get f.name) else getF i b := by
  induction fs, b, hb using Derive.tuple_induction₁ generalizing i with
  | nil => cases hf
  | cons g fs w ws hb ih =>
    cases i with
    | zero =>
      obtain rfl : g = f := Option.some.inj hf
      rfl
    | succ i => exact ih i hf

theorem fromMap_length (fs : List Field) (b : Rec) (m : GoMap) : (fromMap fs b m).length = b.length := by
  induction fs generalizing b with
  | nil => cases b <;> rfl
  | cons f fs ih =>
    cases b with
    | nil => rfl
    | cons w ws => exact congrArg Nat.succ (ih ws)

/-! ## per-field: when does the assertion give the value back -/

theorem assertTy_toAny_conc (n : String) (v : RV) : assertTy (.conc n) (toAny (.conc n) v) = some v := by
  simp [toAny, assertTy, Ty.name]

theorem assertTy_toAny_opt (e : Ty) (v : RV) : assertTy (.opt e) (toAny (.opt e) v) = some v := by
  simp [toAny, assertTy]

/-- a well-typed non-nil interface value survives `any` and the assertion back -/
theorem assertTy_toAny_iface (n : String) (all : Bool) (impls : List String) (d : String) (w : RV)
    (h : all = true ∨ d ∈ impls) :
    assertTy (.iface n all impls) (toAny (.iface n all impls) (.iface d w)) = some (.iface d w) := by
  cases h with
  | inl h => simp [toAny, assertTy, h]
  | inr h => simp [toAny, assertTy, h]

/-- a well-typed value that `any` can hold survives the assertion back to its type -/
theorem assertTy_toAny (t : Ty) (v : RV) (hwt : WT t v) (hs : toAny t v ≠ none) :
    assertTy t (toAny t v) = some v := by
  cases t with
  | conc n => exact assertTy_toAny_conc n v
  | opt e => exact assertTy_toAny_opt e v
  | iface n all impls =>
    cases v with
    | iface d u =>
      refine assertTy_toAny_iface n all impls d u ?_
      cases u <;> first | exact hwt | exact hwt.elim
    | _ => exact absurd rfl hs

/-- an assertion that succeeds is undone by storing the result back into an `any` -/
theorem toAny_of_assertTy (t : Ty) (d : Dyn) (v : RV) (h : assertTy t d = some v) : toAny t v = d := by
  cases d with
  | none => cases t <;> simp [assertTy] at h
  | some p =>
    obtain ⟨dn, w⟩ := p
    cases t with
    | iface n all impls =>
      simp only [assertTy] at h
      split at h
      · cases h
        rfl
      · cases h
    | _ =>
      -- `conc`, `opt`: the assertion compares the dynamic type's name with the name of `t`
      simp only [assertTy] at h
      split at h
      · rename_i hd
        cases h
        rw [eq_of_beq hd]
        rfl
      · cases h

/-- The entries `FromMap` accepts *and* `AsMap` writes back unchanged ("canonical" entries): the
    assertion to the field type succeeds, and for an Option field it is the assertion to the ELEMENT
    type that succeeds (an `fp.Option[E]` stored under the key is accepted by `FromMap` but `AsMap`
    writes it back unwrapped, or not at all). -/
def entryOK (f : Field) (d : Dyn) : Bool :=
  match f.ty with
  | .opt e => (assertTy (.opt e) d).isNone && (assertTy e d).isSome
  | t => (assertTy t d).isSome

theorem mapEntry_fromEntry (f : Field) (bv : RV) (d : Dyn) (happ : f.applicable = true)
    (h : entryOK f d = true) : mapEntry f (fromEntry f bv d) = some d := by
  unfold entryOK at h
  unfold mapEntry fromEntry
  simp only [happ, if_true]
  cases hty : f.ty with
  | opt e =>
    rw [hty] at h
    change ((assertTy (.opt e) d).isNone && (assertTy e d).isSome) = true at h
    cases h1 : assertTy (.opt e) d with
    | some v => simp [h1] at h
    | none =>
      cases h2 : assertTy e d with
      | none => simp [h1, h2] at h
      | some v => simp [h2, toAny_of_assertTy _ _ _ h2]
  | _ =>
    rw [hty] at h
    obtain ⟨v, ha⟩ := Option.isSome_iff_exists.1 h
    simp [ha, toAny_of_assertTy _ _ _ ha]

/-! ## the method table -/

theorem emitChecked_out (g : Gen) (n : String) (m : Meth) (h : g.has n = false) :
    (g.emitChecked [] n m).out = g.out ++ [(n, m)] := by
  simp [Gen.emitChecked, h]

theorem emitUserOnly_out (g : Gen) (n : String) (m : Meth) :
    (g.emitUserOnly [] n m).out = g.out ++ [(n, m)] := by
  simp [Gen.emitUserOnly]

/-- no user methods, no two attempts with the same name: every attempt is emitted, in order -/
theorem foldl_step_all (cs : List Cand) (g : Gen)
    (hnd : (cs.map Cand.name).Nodup) (hdis : ∀ c ∈ cs, g.has c.name = false) :
    (cs.foldl (Gen.step []) g).out = g.out ++ cs.map Cand.entry := by
  induction cs generalizing g with
  | nil => simp
  | cons c cs ih =>
    have hc : g.has c.name = false := hdis c (by simp)
    have hstep : (Gen.step [] g c).out = g.out ++ [c.entry] := by
      unfold Gen.step Cand.entry
      cases c.checked
      · simp [emitUserOnly_out]
      · simp [emitChecked_out _ _ _ hc]
    have hnd' : (∀ x ∈ cs, ¬x.name = c.name) ∧ (cs.map Cand.name).Nodup := by simpa using hnd
    simp only [List.foldl_cons]
    rw [ih (Gen.step [] g c)]
    · simp [hstep]
    · exact hnd'.2
    · intro c' hc'
      have hne : c'.name ≠ c.name := hnd'.1 c' hc'
      have hg := hdis c' (by simp [hc'])
      unfold Gen.has Table.names at hg ⊢
      rw [hstep]
      simp [Cand.entry] at hg ⊢
      constructor
      · intro a hx; exact hg a hx
      · exact fun h => hne h

/-- one attempt emits its entry or nothing -/
theorem Gen.step_out (user : List String) (g : Gen) (c : Cand) :
    (Gen.step user g c).out = g.out ∨ (Gen.step user g c).out = g.out ++ [c.entry] := by
  unfold Gen.step Gen.emitChecked Gen.emitUserOnly
  split
  · split
    · exact .inl rfl
    · exact .inr rfl
  · split
    · exact .inl rfl
    · exact .inr rfl

/-- whatever is emitted was attempted -/
theorem foldl_step_subset (user : List String) (cs : List Cand) (g : Gen) :
    ∀ e ∈ (cs.foldl (Gen.step user) g).out, e ∈ g.out ∨ e ∈ cs.map Cand.entry := by
  induction cs generalizing g with
  | nil => intro e he; exact Or.inl he
  | cons c cs ih =>
    intro e he
    rw [List.map_cons, List.mem_cons]
    rcases ih (Gen.step user g c) e he with h | h
    · rcases Gen.step_out user g c with hs | hs
      · exact .inl (hs ▸ h)
      · rw [hs, List.mem_append, List.mem_singleton] at h
        exact h.imp_right .inl
    · exact .inr (.inr h)

end FpVerif.Rec
