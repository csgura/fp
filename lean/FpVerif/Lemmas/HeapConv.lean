import FpVerif.Lemmas.HeapBranch
import FpVerif.Lemmas.HamtConv
/-!
The two conversion loops (bitmap -> hash-array in `set`, hash-array -> bitmap in `delete`) on the heap.  They
are polymorphic in the element type and have a closed form (`Lemmas/HamtConv`): slot by slot, what the loop
run on pointers produces represents what the value-level loop produces, and the children are only REARRANGED
(none is duplicated, so the footprint stays free of repetitions).  No well-formedness is assumed.
-/
namespace FpVerif.HamtHeap
open FpVerif.Hamt
variable {K V : Type}

theorem sublist_flatten {γ : Type} {l1 l2 : List (List γ)} (h : List.Sublist l1 l2) :
    List.Sublist l1.flatten l2.flatten := by
  induction h with
  | slnil => exact List.Sublist.refl _
  | cons a _ ih => rw [List.flatten_cons]; exact List.Sublist.trans ih (List.sublist_append_right _ _)
  | cons_cons a _ ih => rw [List.flatten_cons, List.flatten_cons]; exact List.Sublist.append (List.Sublist.refl _) ih

def optL {γ δ : Type} (f : γ → List δ) : Option γ → List δ
  | none => []
  | some x => f x

theorem flatten_map_option {γ δ : Type} (f : γ → List δ) (l : List (Option γ)) :
    (l.map (optL f)).flatten = ((l.filterMap id).map f).flatten := by
  induction l with
  | nil => rfl
  | cons o l ih =>
    cases o with
    | none => simpa [optL] using ih
    | some x => simp [optL, ih]

-- bitmap -> hash-array ----------------------------------------------------------------------------------

/-- a child with its abstraction, or none, as the result of abstracting a slot -/
def slotRes (o : Option (Node K V × List Addr)) : Option (Node K V) × List Addr := (o.map (·.1), optL (·.2) o)

/-- element `j` of a represented list of children, read as a slot -/
theorem absSlot_getElem? {f s : Nat} {H : Heap K V} {ps : List Addr} {rs : List (Node K V × List Addr)}
    (hk : mapOpt (absF f s H) ps = some rs) (j : Nat) : absSlot f s H ps[j]? = some (slotRes rs[j]?) := by
  cases hp : ps[j]? with
  | none =>
    have : rs[j]? = none := by
      rw [List.getElem?_eq_none_iff] at hp ⊢
      rw [mapOpt_length hk]; exact hp
    rw [this]; rfl
  | some c =>
    obtain ⟨r, hr, hc⟩ := mapOpt_getElem? hk hp
    rw [hr]
    simp only [absSlot, hc]
    rfl

/-- **bitmap -> hash-array**: the pointer-level loop refines the value-level loop; the children's
    footprints are only rearranged -/
theorem b2h_sim {f s : Nat} {H : Heap K V} {ps : List Addr} {rs : List (Node K V × List Addr)}
    (hk : mapOpt (absF f s H) ps = some rs) {bm : Nat} {slotsV : List (Option (Node K V))} {cnt : Nat}
    (hv : bitmapToHashArray bm (rs.map (·.1)) = .ok (slotsV, cnt)) :
    ∃ (slotsH : List (Option Addr)) (rsS : List (Option (Node K V) × List Addr)),
      bitmapToHashArrayG bm ps = .ok (slotsH, cnt) ∧
      mapOpt (absSlot f s H) slotsH = some rsS ∧ rsS.map (·.1) = slotsV ∧
      List.Sublist (rsS.map (·.2)).flatten (rs.map (·.2)).flatten := by
  rw [bitmapToHashArray_eq_G, bitmapToHashArrayG_closed, List.length_map] at hv
  split at hv
  · rename_i hle
    cases hv
    refine ⟨(List.range 32).map (b2hSlot bm ps), (List.range 32).map fun i => slotRes (b2hSlot bm rs i), ?_, ?_, ?_, ?_⟩
    · rw [bitmapToHashArrayG_closed, if_pos (mapOpt_length hk ▸ hle)]
    · rw [mapOpt_eq_some_iff, List.map_map, List.map_map]
      refine List.map_congr_left fun i _ => ?_
      show absSlot f s H (b2hSlot bm ps i) = some (slotRes (b2hSlot bm rs i))
      unfold b2hSlot
      split
      · exact absSlot_getElem? hk _
      · rfl
    · rw [List.map_map]
      refine List.map_congr_left fun i _ => ?_
      show (b2hSlot bm rs i).map (·.1) = b2hSlot bm (rs.map (·.1)) i
      unfold b2hSlot
      split
      · exact List.getElem?_map.symm
      · rfl
    · have h2 : ((List.range 32).map fun i => slotRes (b2hSlot bm rs i)).map (·.2) =
          ((List.range 32).map (b2hSlot bm rs)).map (optL (·.2)) := by
        rw [List.map_map, List.map_map]; rfl
      rw [h2, flatten_map_option, List.filterMap_map]
      exact sublist_flatten (((filterMap_b2hSlot bm rs 32 (Nat.le_refl _)) ▸ List.take_sublist _ _).map _)
  · cases hv

-- hash-array -> bitmap ----------------------------------------------------------------------------------

/-- what the loop takes from slot `i`, on the abstractions of the slots -/
def pickRes (rs : List (Option (Node K V) × List Addr)) (idx i : Nat) : Option (Node K V × List Addr) :=
  if i = idx then none else (rs[i]?).bind fun r => r.1.map (·, r.2)

/-- slot by slot, the loop takes a pointer exactly where it takes a node, and the pointer represents it -/
theorem pick_at {f s : Nat} {H : Heap K V} {slots : List (Option Addr)} {rs : List (Option (Node K V) × List Addr)}
    (hk : mapOpt (absSlot f s H) slots = some rs) (idx i : Nat) :
    (h2bPick slots idx i = none ∧ pickRes rs idx i = none ∧ h2bPick (rs.map (·.1)) idx i = none) ∨
    ∃ c r, h2bPick slots idx i = some c ∧ pickRes rs idx i = some r ∧ h2bPick (rs.map (·.1)) idx i = some r.1 ∧
      absF f s H c = some r := by
  unfold h2bPick pickRes
  by_cases hi : i = idx
  · exact Or.inl ⟨if_pos hi, if_pos hi, if_pos hi⟩
  · rw [if_neg hi, if_neg hi, if_neg hi]
    rcases slots_at hk i with ⟨h1, h2⟩ | ⟨h1, h2, h3⟩ | ⟨c, child, fpc, h1, h2, h3, h4⟩
    · rw [h1, h2, List.getElem?_eq_none_iff.mpr (by
        have := List.getElem?_eq_none_iff.mp h2; simpa using this)]
      exact Or.inl ⟨rfl, rfl, rfl⟩
    · rw [h1, h2, h3]; exact Or.inl ⟨rfl, rfl, rfl⟩
    · rw [h1, h2, h3]; exact Or.inr ⟨c, (child, fpc), rfl, rfl, rfl, h4⟩

/-- `mapOpt` through two `filterMap`s that select the same positions -/
theorem mapOpt_filterMap {ι γ δ : Type} {g : γ → Option δ} {p : ι → Option γ} {q : ι → Option δ} :
    ∀ (l : List ι), (∀ i, (p i = none ∧ q i = none) ∨ ∃ c r, p i = some c ∧ q i = some r ∧ g c = some r) →
    mapOpt g (l.filterMap p) = some (l.filterMap q) := by
  intro l h
  induction l with
  | nil => rfl
  | cons i l ih =>
    rw [List.filterMap_cons, List.filterMap_cons]
    rcases h i with ⟨h1, h2⟩ | ⟨c, r, h1, h2, h3⟩
    · rw [h1, h2]; exact ih
    · rw [h1, h2]; exact mapOpt_cons h3 ih

/-- the footprints of what the loop takes are, in order, footprints of slots -/
theorem pickRes_sublist (rs : List (Option (Node K V) × List Addr)) (idx : Nat) : ∀ n,
    List.Sublist (((List.range n).filterMap (pickRes rs idx)).map (·.2)).flatten ((rs.take n).map (·.2)).flatten := by
  intro n
  induction n with
  | zero => simp
  | succ n ih =>
    rw [List.range_succ, List.filterMap_append, List.map_append, List.flatten_append, List.take_add_one,
      List.map_append, List.flatten_append]
    refine List.Sublist.append ih ?_
    unfold pickRes
    by_cases hn : n = idx
    · simp [hn]
    · cases h : rs[n]? with
      | none => simp [hn, h]
      | some r =>
        obtain ⟨o, fp⟩ := r
        cases o <;> simp [hn, h]

/-- **hash-array -> bitmap**: the pointer-level loop refines the value-level loop; the children's
    footprints are a sub-list of the old ones -/
theorem h2b_sim {f s : Nat} {H : Heap K V} {slots : List (Option Addr)}
    {rs : List (Option (Node K V) × List Addr)} (hk : mapOpt (absSlot f s H) slots = some rs) (idx : Nat) :
    (hashArrayToBitmapG slots idx).1 = (hashArrayToBitmap (rs.map (·.1)) idx).1 ∧
    ∃ rsN : List (Node K V × List Addr), mapOpt (absF f s H) (hashArrayToBitmapG slots idx).2 = some rsN ∧
      rsN.map (·.1) = (hashArrayToBitmap (rs.map (·.1)) idx).2 ∧
      List.Sublist (rsN.map (·.2)).flatten (rs.map (·.2)).flatten := by
  have hp := pick_at hk idx
  rw [hashArrayToBitmap_eq_G, hashArrayToBitmapG_closed, hashArrayToBitmapG_closed]
  dsimp only
  refine ⟨congrArg (bitsWhere · 32) (funext fun i => ?_), (List.range 32).filterMap (pickRes rs idx), ?_, ?_, ?_⟩
  · rcases hp i with ⟨h1, _, h3⟩ | ⟨c, r, h1, _, h3, _⟩ <;> rw [h1, h3] <;> rfl
  · exact mapOpt_filterMap _ fun i => (hp i).imp (fun h => ⟨h.1, h.2.1⟩)
      fun ⟨c, r, h1, h2, _, h4⟩ => ⟨c, r, h1, h2, h4⟩
  · rw [List.map_filterMap]
    refine filterMap_congr fun i _ => ?_
    rcases hp i with ⟨_, h2, h3⟩ | ⟨c, r, _, h2, h3, _⟩ <;> rw [h2, h3] <;> rfl
  · exact (pickRes_sublist rs idx 32).trans (sublist_flatten ((List.take_sublist _ _).map _))

end FpVerif.HamtHeap
