import FpVerif.Lemmas.HeapBasic
/-!
Refinement of a value-level computation by a heap program: `Ref H x y Q`, and the rules by which a proof
walks the two program texts side by side.  The start heap is a parameter, so a postcondition may speak
of it (what was written, what is new) and sequencing needs no bookkeeping.  The rules are applied with
`refine` / `exact` against the goal: unification opens the heap program one `>>=` at a time.
`conv => arg 3` rewrites the value-level program `y` alone.
-/
namespace FpVerif.HamtHeap
open FpVerif.Hamt
variable {K V : Type} {α β γ δ : Type}

/-- `x`, started in `H`, follows the value-level `y`: whenever `y` returns `b`, `x` returns some `a`
    and leaves a heap `H'` with `Q a b H'`.  Nothing is claimed where `y` panics. -/
def Ref (H : Heap K V) (x : HM K V α) (y : GoE β) (Q : α → β → Heap K V → Prop) : Prop :=
  ∀ b, y = .ok b → ∃ a H', x H = .ok (a, H') ∧ Q a b H'

theorem Ref.pure {H : Heap K V} {a : α} {b : β} {Q : α → β → Heap K V → Prop} (h : Q a b H) :
    Ref H (Pure.pure a) (Pure.pure b) Q := by
  intro b' hb; cases hb; exact ⟨a, H, rfl, h⟩

theorem Ref.error {H : Heap K V} {x : HM K V α} {e : String} {Q : α → β → Heap K V → Prop} :
    Ref H x (.error e) Q := by
  intro b hb; cases hb

theorem Ref.bind {H : Heap K V} {x : HM K V α} {y : GoE β} {f : α → HM K V γ} {g : β → GoE δ}
    {R : α → β → Heap K V → Prop} {Q : γ → δ → Heap K V → Prop}
    (hx : Ref H x y R) (hf : ∀ a b H1, R a b H1 → Ref H1 (f a) (g b) Q) : Ref H (x >>= f) (y >>= g) Q := by
  intro d hd
  cases hy : y with
  | error e => rw [hy] at hd; cases hd
  | ok b =>
    rw [hy] at hd
    obtain ⟨a, H1, h1, hR⟩ := hx b hy
    obtain ⟨c, H2, h2, hQ⟩ := hf a b H1 hR d hd
    exact ⟨c, H2, by rw [bind_ok h1]; exact h2, hQ⟩

/-- a move of the heap program alone (a read, an allocation, a store) -/
theorem Ref.step {H H1 : Heap K V} {x : HM K V α} {a : α} {f : α → HM K V γ} {y : GoE β}
    {Q : γ → β → Heap K V → Prop} (hx : x H = .ok (a, H1)) (hf : Ref H1 (f a) y Q) : Ref H (x >>= f) y Q := by
  intro b hb
  obtain ⟨c, H2, h2, hQ⟩ := hf b hb
  exact ⟨c, H2, by rw [bind_ok hx]; exact h2, hQ⟩

/-- a value-level computation lifted into the heap monad follows itself -/
theorem Ref.liftE {H : Heap K V} {y : GoE α} : Ref H (liftE y) y fun a b H' => a = b ∧ H = H' := by
  intro b hb; exact ⟨b, H, liftE_ok H hb, rfl, rfl⟩

/-- the value-level program has returned; the heap program runs to its end -/
theorem Ref.run {H H' : Heap K V} {x : HM K V α} {a : α} {b : β} {Q : α → β → Heap K V → Prop}
    (hx : x H = .ok (a, H')) (h : Q a b H') : Ref H x (.ok b) Q := by
  intro b' hb; cases hb; exact ⟨a, H', hx, h⟩

theorem Ref.ite {H : Heap K V} {c : Prop} [Decidable c] {x1 x2 : HM K V α} {y1 y2 : GoE β}
    {Q : α → β → Heap K V → Prop} (h1 : c → Ref H x1 y1 Q) (h2 : ¬c → Ref H x2 y2 Q) :
    Ref H (if c then x1 else x2) (if c then y1 else y2) Q := by
  split
  · exact h1 ‹_›
  · exact h2 ‹_›

/-- the postcondition may use that the value-level program returned this result -/
theorem Ref.result {H : Heap K V} {x : HM K V α} {y : GoE β} {Q : α → β → Heap K V → Prop} (h : Ref H x y Q) :
    Ref H x y fun a b H' => y = .ok b ∧ Q a b H' := by
  intro b hb
  obtain ⟨a, H', h1, h2⟩ := h b hb
  exact ⟨a, H', h1, hb, h2⟩

theorem Ref.mono {H : Heap K V} {x : HM K V α} {y : GoE β} {Q Q' : α → β → Heap K V → Prop}
    (h : Ref H x y Q) (hq : ∀ a b H', Q a b H' → Q' a b H') : Ref H x y Q' := by
  intro b hb
  obtain ⟨a, H', h1, h2⟩ := h b hb
  exact ⟨a, H', h1, hq a b H' h2⟩

end FpVerif.HamtHeap
