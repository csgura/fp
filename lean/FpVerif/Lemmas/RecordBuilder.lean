import FpVerif.Model.Record
import FpVerif.Lemmas.Record
/-!
# Builder semantics and the builder method table: definitions and helper lemmas for C07 (audit
finding 21).  Core Lean only.

The definitions below are not part of `Model/Record.lean` (no oracle runs them); each is related to the
model's definitions by a theorem.

## The builder (`cmd/gombok/gombok.go` `genBuilder`)

The generated code is

    type TBuilder T
    func (r T) Builder() TBuilder { return TBuilder(r) }
    func (r TBuilder) Build() T   { return T(r) }
    func (r TBuilder) F(v FT) TBuilder      { r.f = v; return r }              // one per PRIVATE field
    func (r TBuilder) SomeF(v E) TBuilder   { r.f = option.Some(v); return r } // private Option fields
    func (r TBuilder) NoneF() TBuilder      { r.f = option.None[E](); return r }

A builder is therefore a record in which a field that was never assigned holds the Go zero value of
its type: a *partial* record (`PBuilder`, `none` = never assigned) whose `Build` fills the holes with
`Field.zero`.  `T{}.Builder()` / `TBuilder{}` is the everywhere-undefined partial record (`pbEmpty`),
`x.Builder()` is the everywhere-defined one (`pbOf x`).
-/
namespace FpVerif.Rec

/-- Builder state as a partial record; `none` = the field has not been assigned (it holds its zero value). -/
abbrev PBuilder := List (Option RV)

/-- `TBuilder{}` (= `T{}.Builder()`): nothing assigned -/
def pbEmpty (s : StructSpec) : PBuilder := s.fields.map (fun _ => none)

/-- `x.Builder()`: every field assigned from `x` -/
def pbOf (x : Rec) : PBuilder := x.map some

/-- the setter of field `i`: `r.f = v; return r` -/
def pbSet (i : Nat) (v : RV) (b : PBuilder) : PBuilder := List.set b i (some v)

/-- `Build()`: the conversion `T(r)`; a field never assigned reads as the zero value of its type -/
def pbBuild : List Field → PBuilder → Rec
  | f :: fs, o :: os => o.getD f.zero :: pbBuild fs os
  | _, _ => []

/-- a chain of setter calls `b.F1(v1).F2(v2)…`, as (field index, argument) pairs in call order -/
def pbSetAll (ps : List (Nat × RV)) (b : PBuilder) : PBuilder := ps.foldl (fun b p => pbSet p.1 p.2 b) b

/-- the argument of the LAST call of the setter of field `j` in the chain, if there is one -/
def lastSet : List (Nat × RV) → Nat → Option RV
  | [], _ => none
  | p :: ps, j =>
    match lastSet ps j with
    | some v => some v
    | none => if p.1 = j then some p.2 else none

/-- semantics of the three builder-setter labels of `Meth` on the builder's underlying record
    (`r.f = v`, `r.f = option.Some(v)`, `r.f = option.None()`; `return r`); every other label: identity -/
def runSetter : Meth → RV → Rec → Rec
  | .bSet i, v, b => b.set i v
  | .bSome i, v, b => b.set i (.some v)
  | .bNone i, _, b => b.set i .none
  | _, _, b => b

/-- the same on the partial record -/
def pbRun : Meth → RV → PBuilder → PBuilder
  | .bSet i, v, b => pbSet i v b
  | .bSome i, v, b => pbSet i (.some v) b
  | .bNone i, _, b => pbSet i .none b
  | _, _, b => b

theorem pbBuild_length (fs : List Field) (b : PBuilder) (h : b.length = fs.length) :
    (pbBuild fs b).length = fs.length := by
  induction fs, b, h using Derive.tuple_induction₁ with
  | nil => rfl
  | cons f fs o os h ih => exact congrArg Nat.succ ih

theorem pbBuild_of (fs : List Field) (x : Rec) (h : x.length = fs.length) : pbBuild fs (pbOf x) = x := by
  induction fs, x, h using Derive.tuple_induction₁ with
  | nil => rfl
  | cons f fs v vs h ih => exact congrArg (v :: ·) ih

/-- a setter on the partial record IS the field assignment on the built record -/
theorem pbBuild_set (fs : List Field) (i : Nat) (v : RV) (b : PBuilder) :
    pbBuild fs (pbSet i v b) = (pbBuild fs b).set i v := by
  unfold pbSet
  induction fs generalizing b i with
  | nil => cases b <;> rfl
  | cons f fs ih =>
    cases b with
    | nil => rfl
    | cons o os =>
      cases i with
      | zero => rfl
      | succ i => exact congrArg (o.getD f.zero :: ·) (ih i os)

theorem pbSet_length (i : Nat) (v : RV) (b : PBuilder) : (pbSet i v b).length = b.length := by
  simp [pbSet]

theorem pbSetAll_cons (p : Nat × RV) (ps : List (Nat × RV)) (b : PBuilder) :
    pbSetAll (p :: ps) b = pbSetAll ps (pbSet p.1 p.2 b) := rfl

theorem pbSetAll_length (ps : List (Nat × RV)) (b : PBuilder) : (pbSetAll ps b).length = b.length := by
  induction ps generalizing b with
  | nil => rfl
  | cons p ps ih => rw [pbSetAll_cons, ih, pbSet_length]

theorem pbBuild_run (fs : List Field) (m : Meth) (v : RV) (b : PBuilder) :
    pbBuild fs (pbRun m v b) = runSetter m v (pbBuild fs b) := by
  cases m with
  | bSet i => exact pbBuild_set fs i v b
  | bSome i => exact pbBuild_set fs i (.some v) b
  | bNone i => exact pbBuild_set fs i .none b
  | _ => rfl

/-- the built record after a chain of setters: field `j` holds the argument of the last call of its
    setter, or what it held before when its setter was not called -/
theorem getF_pbBuild_setAll (fs : List Field) (ps : List (Nat × RV)) (b : PBuilder) (j : Nat)
    (hj : j < b.length) (hb : b.length = fs.length) :
    getF j (pbBuild fs (pbSetAll ps b)) = (lastSet ps j).getD (getF j (pbBuild fs b)) := by
  induction ps generalizing b with
  | nil => simp [pbSetAll, lastSet]
  | cons p ps ih =>
    rw [pbSetAll_cons, ih (pbSet p.1 p.2 b) (by simpa [pbSet_length] using hj) (by simpa [pbSet_length] using hb)]
    cases hl : lastSet ps j with
    | some v => simp [lastSet, hl]
    | none =>
      simp only [lastSet, hl, Option.getD_none]
      rw [pbBuild_set]
      by_cases hp : p.1 = j
      · subst hp
        have : p.1 < (pbBuild fs b).length := by rw [pbBuild_length fs b hb]; omega
        simp [getF_set_same _ _ _ this]
      · simp [hp, getF_set_other _ _ _ _ hp]

theorem lastSet_of_fun (g : Nat → RV) (ps : List (Nat × RV)) (h : ∀ p ∈ ps, p.2 = g p.1) (j : Nat) :
    lastSet ps j = if j ∈ ps.map (·.1) then some (g j) else none := by
  induction ps with
  | nil => simp [lastSet]
  | cons p ps ih =>
    have ih' := ih (fun q hq => h q (by simp [hq]))
    have hp := h p (by simp)
    simp only [List.map_cons, List.mem_cons]
    by_cases hm : j ∈ ps.map (·.1)
    · simp only [hm, if_true] at ih'
      simp only [lastSet, ih', hm, or_true, if_true]
    · simp only [hm, if_false] at ih'
      by_cases hpj : p.1 = j
      · subst hpj; simp only [lastSet, ih', hp, if_true, true_or]
      · have hjp : ¬ j = p.1 := fun h => hpj h.symm
        simp only [lastSet, ih', hpj, hm, hjp, if_false, or_self]

/-! ## The builder method table: what `genBuilderB` emits, in closed form -/

/-- the setter attempts for one field (`privateFields.Foreach`): `F`, and for an Option field `SomeF`, `NoneF` -/
def setterEntries (p : Nat × Field) : Table :=
  if p.2.isPrivate then
    [(publicName p.2.name, Meth.bSet p.1)] ++
      (if p.2.ty.isOpt then
        [("Some" ++ publicName p.2.name, Meth.bSome p.1), ("None" ++ publicName p.2.name, Meth.bNone p.1)]
       else [])
  else []

/-- every emission `genBuilder` attempts for the builder receiver, in order -/
def candsB (s : StructSpec) : Table :=
  [("Build", Meth.build)] ++ (indexed s.fields).flatMap setterEntries
  ++ (if s.hasTuple then [("FromTuple", Meth.fromTuple)] else [])
  ++ [("Apply", Meth.apply), ("FromMap", Meth.fromMap)]
  ++ (if s.hasTuple && s.ann.genLabelled then [("FromLabelled", Meth.fromLabelled)] else [])

/-- `!isMethodDefined(workingPackage, builderTypeName, n)` -/
def keepB (user : List String) (e : String × Meth) : Bool := !user.contains e.1

theorem emitB_eq (user : List String) (t : Table) (n : String) (m : Meth) :
    emitB user t n m = t ++ [(n, m)].filter (keepB user) := by
  unfold emitB
  cases h : user.contains n
  · have : keepB user (n, m) = true := by show (!user.contains n) = true; rw [h]; rfl
    simp [this]
  · have : keepB user (n, m) = false := by show (!user.contains n) = false; rw [h]; rfl
    simp [this]

theorem filter_pair {α : Type} (q : α → Bool) (a b : α) :
    [a, b].filter q = [a].filter q ++ [b].filter q := by
  rw [show [a, b] = [a] ++ [b] from rfl, List.filter_append]

theorem foldl_append_flatMap {α β : Type} (g : α → List β) (step : List β → α → List β)
    (h : ∀ t a, step t a = t ++ g a) (l : List α) (t : List β) : l.foldl step t = t ++ l.flatMap g := by
  induction l generalizing t with
  | nil => simp
  | cons a l ih => simp [List.foldl_cons, ih, h, List.flatMap_cons, List.append_assoc]

/-- the step of the `foldl` in `genBuilderB`, its `let`s expanded -/
theorem setter_step (user : List String) (t : Table) (p : Nat × Field) :
    (if p.2.isPrivate then
        if p.2.ty.isOpt then
          emitB user (emitB user (emitB user t (publicName p.2.name) (.bSet p.1))
            ("Some" ++ publicName p.2.name) (.bSome p.1)) ("None" ++ publicName p.2.name) (.bNone p.1)
        else emitB user t (publicName p.2.name) (.bSet p.1)
      else t) = t ++ (setterEntries p).filter (keepB user) := by
  unfold setterEntries
  cases hp : p.2.isPrivate
  · simp
  · cases ho : p.2.ty.isOpt
    · simp [emitB_eq]
    · simp only [emitB_eq, if_true, List.append_assoc, List.filter_append, filter_pair]

/-- `genBuilderB` = the attempts in order, minus the names the user already defined on the builder type -/
theorem genBuilderB_eq (s : StructSpec) : genBuilderB s = (candsB s).filter (keepB s.userB) := by
  simp only [genBuilderB, candsB]
  rw [foldl_append_flatMap (fun p => (setterEntries p).filter (keepB s.userB)) _
    (fun t p => setter_step s.userB t p)]
  simp only [emitB_eq, List.filter_append, List.filter_flatMap]
  cases s.hasTuple <;> cases s.ann.genLabelled <;> simp [List.append_assoc, filter_pair]

/-! ### the plain setters, one per private field, in declaration order -/

def isBSet : String × Meth → Bool
  | (_, .bSet _) => true
  | _ => false

def bSetEntry (p : Nat × Field) : Option (String × Meth) :=
  if p.2.isPrivate then some (publicName p.2.name, Meth.bSet p.1) else none

/-- indices of the private fields, increasing -/
def privIdx (s : StructSpec) : List Nat :=
  (indexed s.fields).filterMap (fun p => if p.2.isPrivate then some p.1 else none)

theorem filter_isBSet_flatMap (l : List (Nat × Field)) :
    (l.flatMap setterEntries).filter isBSet = l.filterMap bSetEntry := by
  induction l with
  | nil => simp
  | cons p l ih =>
    simp only [List.flatMap_cons, List.filter_append, ih, List.filterMap_cons]
    unfold setterEntries bSetEntry
    cases hp : p.2.isPrivate
    · simp
    · cases ho : p.2.ty.isOpt <;> simp [List.filter, isBSet]

theorem filter_isBSet_candsB (s : StructSpec) :
    (candsB s).filter isBSet = (indexed s.fields).filterMap bSetEntry := by
  unfold candsB
  simp only [List.filter_append, filter_isBSet_flatMap]
  cases s.hasTuple <;> cases s.ann.genLabelled <;> simp [isBSet]

theorem indexed_map_fst {α : Type} (l : List α) : (indexed l).map (·.1) = List.range l.length := by
  unfold indexed
  exact List.map_fst_zip (by simp)

theorem mem_indexed_iff {α : Type} (l : List α) (i : Nat) (a : α) : (i, a) ∈ indexed l ↔ l[i]? = some a := by
  unfold indexed
  rw [List.mem_iff_getElem?]
  constructor
  · rintro ⟨k, hk⟩
    obtain ⟨h1, h2⟩ := List.getElem?_zip_eq_some.1 hk
    rw [List.getElem?_range (List.getElem?_eq_some_iff.1 h2).1] at h1
    cases h1
    exact h2
  · intro h
    exact ⟨i, List.getElem?_zip_eq_some.2
      ⟨List.getElem?_range (List.getElem?_eq_some_iff.1 h).1, h⟩⟩

/-- a `filterMap` that tests and then maps is the map of the filter -/
theorem filterMap_ite {α β : Type} (c : α → Bool) (g : α → β) (l : List α) :
    l.filterMap (fun a => if c a then some (g a) else none) = (l.filter c).map g := by
  induction l with
  | nil => rfl
  | cons a l ih => cases h : c a <;> simp [h, ih]

theorem privIdx_nodup (s : StructSpec) : (privIdx s).Nodup := by
  rw [privIdx, filterMap_ite]
  -- a filter is a sublist, and the indices of `indexed` are `range`
  exact (List.filter_sublist.map _).nodup (indexed_map_fst s.fields ▸ List.nodup_range)

theorem mem_privIdx (s : StructSpec) (i : Nat) :
    i ∈ privIdx s ↔ ∃ f, s.fields[i]? = some f ∧ f.isPrivate = true := by
  unfold privIdx
  rw [List.mem_filterMap]
  constructor
  · rintro ⟨⟨k, f⟩, hm, h⟩
    cases hp : f.isPrivate
    · simp [hp] at h
    · simp [hp] at h
      subst h
      exact ⟨f, (mem_indexed_iff _ _ _).mp hm, hp⟩
  · rintro ⟨f, hf, hp⟩
    exact ⟨(i, f), (mem_indexed_iff _ _ _).mpr hf, by simp [hp]⟩

theorem bSetEntries_labels (l : List (Nat × Field)) :
    (l.filterMap bSetEntry).map (·.2) =
      (l.filterMap (fun p => if p.2.isPrivate then some p.1 else none)).map Meth.bSet := by
  rw [List.map_filterMap, List.map_filterMap]
  congr 1
  funext p
  unfold bSetEntry
  cases p.2.isPrivate <;> rfl

theorem bSetEntries_names (l : List (Nat × Field)) :
    (l.filterMap bSetEntry).map (·.1) =
      ((l.map (·.2)).filter Field.isPrivate).map (fun f => publicName f.name) := by
  induction l with
  | nil => simp
  | cons p l ih =>
    simp only [List.filterMap_cons, bSetEntry, List.map_cons, List.filter_cons]
    cases hp : p.2.isPrivate
    · simpa [bSetEntry] using ih
    · simpa [bSetEntry] using ih

theorem indexed_map_snd {α : Type} (l : List α) : (indexed l).map (·.2) = l := by
  unfold indexed
  exact List.map_snd_zip (by simp)

theorem bSetEntries_nodup (s : StructSpec) : ((indexed s.fields).filterMap bSetEntry).Nodup := by
  have h1 : (((indexed s.fields).filterMap bSetEntry).map (·.2)).Nodup := by
    rw [bSetEntries_labels]
    exact List.Pairwise.map Meth.bSet (fun a b h h' => h (by injection h')) (privIdx_nodup s)
  exact List.Pairwise.of_map (·.2) (fun a b h h' => h (by rw [h'])) h1

end FpVerif.Rec
