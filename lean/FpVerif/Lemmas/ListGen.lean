import FpVerif.Lemmas.ListMemo
import FpVerif.Lemmas.Callbacks
/-!
# Lazy list: the memoised cells of `GenerateFrom` (`Generate`, `Range`, `RangeClosed`), partially
# forced (`GenR`) — with frame lemmas for heap growth and for forcing cells.
-/
namespace FpVerif.LL
open FpVerif.It

/-- `xs` is exactly what the generator yields from index `i` on, up to its first `None` -/
def Enum (gp : Int → Option Val) : Int → List Val → Prop
  | i, [] => gp i = none
  | i, v :: rest => gp i = some v ∧ Enum gp (i + 1) rest

/-- the cells of `GenerateFrom(i, g)`, partially forced -/
def GenR (g : Int → GoM (Option Val)) (gp : Int → Option Val) : List Val → Heap → LV → Int → Prop
  | xs, hp, .adaptor hc tc, i =>
    (hp.hs[hc]? = some (.pending (.gen i g), 0) ∨ hp.hs[hc]? = some (.done (gp i), 1)) ∧
    match xs with
    | [] => gp i = none
    | v :: rest => gp i = some v ∧
      ((hp.ts[tc]? = some (.pending (.gen i g), 0) ∧ Enum gp (i + 1) rest) ∨
       (∃ hc' tc', hp.ts[tc]? = some (.done (.adaptor hc' tc'), 1) ∧ hc < hc' ∧ tc < tc' ∧
          GenR g gp rest hp (.adaptor hc' tc') (i + 1)))
  | _, _, _, _ => False

variable {g : Int → GoM (Option Val)} {gp : Int → Option Val}

theorem GenR_enum : ∀ (xs : List Val) (hp : Heap) (l : LV) (i : Int), GenR g gp xs hp l i → Enum gp i xs := by
  intro xs
  induction xs with
  | nil => intro hp l i h; cases l <;> simp [GenR] at h; exact h.2
  | cons v rest ih =>
    intro hp l i h
    cases l <;> simp only [GenR] at h
    obtain ⟨_, hv, h2⟩ := h
    refine ⟨hv, ?_⟩
    rcases h2 with ⟨_, he⟩ | ⟨hc', tc', _, _, _, hr⟩
    · exact he
    · exact ih hp _ _ hr

/-- The relation reads only cells that exist, at indices from `a` (heads) and `b` (tails) on: a heap
    that has the same contents there represents the same list. -/
theorem GenR.frame {hp hp' : Heap} : ∀ (xs : List Val) (a b : Nat) (i : Int),
    (∀ c x, a ≤ c → hp.hs[c]? = some x → hp'.hs[c]? = some x) →
    (∀ c x, b ≤ c → hp.ts[c]? = some x → hp'.ts[c]? = some x) →
    GenR g gp xs hp (.adaptor a b) i → GenR g gp xs hp' (.adaptor a b) i := by
  intro xs
  induction xs with
  | nil =>
    intro a b i hH _ h
    exact ⟨h.1.imp (hH a _ (Nat.le_refl a)) (hH a _ (Nat.le_refl a)), h.2⟩
  | cons v rest ih =>
    intro a b i hH hT h
    obtain ⟨hhead, hv, htail⟩ := h
    refine ⟨hhead.imp (hH a _ (Nat.le_refl a)) (hH a _ (Nat.le_refl a)), hv, ?_⟩
    rcases htail with ⟨hpend, he⟩ | ⟨hc', tc', ht, h1, h2, hr⟩
    · exact .inl ⟨hT b _ (Nat.le_refl b) hpend, he⟩
    · refine .inr ⟨hc', tc', hT b _ (Nat.le_refl b) ht, h1, h2, ih hc' tc' (i + 1) ?_ ?_ hr⟩
      · exact fun c x hc => hH c x (Nat.le_trans (Nat.le_of_lt h1) hc)
      · exact fun c x hc => hT c x (Nat.le_trans (Nat.le_of_lt h2) hc)

/-- pushing fresh cells does not affect it -/
theorem GenR_push (h1 : Cell HThunk (Option Val) × Nat) (t1 : Cell TThunk LV × Nat) :
    ∀ (xs : List Val) (hp : Heap) (a b : Nat) (i : Int), GenR g gp xs hp (.adaptor a b) i →
      GenR g gp xs { hp with hs := hp.hs.push h1, ts := hp.ts.push t1 } (.adaptor a b) i :=
  fun xs hp a b i h => GenR.frame (hp := hp) xs a b i
    (fun _ _ _ hx => (push_get_lt _ _ _ (Array.getElem?_eq_some_iff.mp hx).1).trans hx)
    (fun _ _ _ hx => (push_get_lt _ _ _ (Array.getElem?_eq_some_iff.mp hx).1).trans hx) h

/-- changing a tail cell below all cells of the list does not affect it -/
theorem GenR_set_ts (c : Nat) (v : Cell TThunk LV × Nat) :
    ∀ (xs : List Val) (hp : Heap) (a b : Nat) (i : Int), c < b → GenR g gp xs hp (.adaptor a b) i →
      GenR g gp xs { hp with ts := hp.ts.set! c v } (.adaptor a b) i :=
  fun xs hp a b i hlt h => GenR.frame (hp := hp) xs a b i (fun _ _ _ hx => hx)
    (fun j x hj hx => (set_get_other _ _ _ _ (by omega)).trans hx) h

theorem GenR.head_cell {xs : List Val} {hp : Heap} {hc tc : Nat} {i : Int} (h : GenR g gp xs hp (.adaptor hc tc) i) :
    hp.hs[hc]? = some (.pending (.gen i g), 0) ∨ hp.hs[hc]? = some (.done (gp i), 1) := by
  cases xs <;> exact h.1

/-- forcing the head cell of a `GenerateFrom` list keeps the relation; `w` stands for the entry `running` that
    `force` writes before the closure runs, so the heap has the shape `force_ok` gives it -/
theorem GenR_force_head (xs : List Val) (hp : Heap) (hc tc : Nat) (i : Int)
    (h : GenR g gp xs hp (.adaptor hc tc) i) (w : Cell HThunk (Option Val) × Nat) :
    GenR g gp xs { hp with hs := (hp.hs.set! hc w).set! hc (.done (gp i), 0 + 1) } (.adaptor hc tc) i := by
  have hlt : hc < hp.hs.size := by
    rcases h.head_cell with h | h <;> exact (Array.getElem?_eq_some_iff.mp h).1
  have hget := set_set_get hp.hs hc w (.done (gp i), 0 + 1) hlt
  cases xs with
  | nil => exact ⟨Or.inr hget, h.2⟩
  | cons v rest =>
    refine ⟨Or.inr hget, h.2.1, ?_⟩
    rcases h.2.2 with hl | ⟨hc', tc', ht, h1, h2, hr⟩
    · exact Or.inl hl
    · have hne : ∀ j, hc' ≤ j → j ≠ hc := fun j hj => by omega
      exact Or.inr ⟨hc', tc', ht, h1, h2, GenR.frame (hp := hp) rest hc' tc' (i + 1) (fun j x hj hx =>
        (set_get_other _ _ _ _ (hne j hj)).trans ((set_get_other _ _ _ _ (hne j hj)).trans hx)) (fun _ _ _ hx => hx) hr⟩

/-- Forcing the head cell of a generated list, pending or done, returns the generator's value.  The
    heap is unchanged, or the cell has been run and is done: what holds of both holds afterwards. -/
theorem forceH_gen (hg : Total g gp) (f hc : Nat) (hp : Heap) (lg : Log) (i : Int)
    (hcell : hp.hs[hc]? = some (.pending (.gen i g), 0) ∨ hp.hs[hc]? = some (.done (gp i), 1))
    {P : Heap → Prop} (h0 : P hp) (h1 : ∀ w, P { hp with hs := (hp.hs.set! hc w).set! hc (.done (gp i), 0 + 1) }) :
    ∃ hp' lg', forceH (f + 2) hc hp lg = (.ok (gp i), hp', lg') ∧ P hp' := by
  rcases hcell with hcell | hcell
  · obtain ⟨lg', h'⟩ := liftG_total hg i ({ hp with hs := hp.hs.set! hc (.running, 0 + 1) } : Heap) lg
    exact ⟨_, lg', (forceH_eq (f + 1) hc hp lg).trans (force_ok hsA _ _ hc hcell h'), h1 _⟩
  · exact ⟨hp, lg, (forceH_eq (f + 1) hc hp lg).trans (force_done hsA _ _ hc hcell), h0⟩

theorem GenR.adaptor {xs : List Val} {hp : Heap} {l : LV} {i : Int} (h : GenR g gp xs hp l i) :
    ∃ hc tc, l = .adaptor hc tc := by
  cases l with
  | adaptor hc tc => exact ⟨hc, tc, rfl⟩
  | _ => cases xs <;> exact h.elim

/-- a list given by index is the enumeration from `a` if the generator yields its elements at
    `a`, `a + 1`, … and `None` after them -/
theorem enum_range (gp : Int → Option Val) : ∀ (cnt : Nat) (a : Int) (f : Nat → Val),
    (∀ j : Nat, j < cnt → gp (a + j) = some (f j)) → gp (a + cnt) = none → Enum gp a ((List.range cnt).map f) := by
  intro cnt
  induction cnt with
  | zero => intro a f _ h2; simpa [Enum] using h2
  | succ k ih =>
    intro a f h1 h2
    have hs : ∀ j : Nat, a + 1 + (j : Int) = a + ((j + 1 : Nat) : Int) := fun j => by omega
    rw [List.range_succ_eq_map, List.map_cons, List.map_map]
    refine ⟨by simpa using h1 0 (Nat.succ_pos k), ih (a + 1) (f ∘ Nat.succ) (fun j hj => ?_) ?_⟩
    · rw [hs]; exact h1 (j + 1) (Nat.succ_lt_succ hj)
    · rw [hs]; exact h2

def rangeP (closed : Bool) (b : Int) (index : Int) : Option Val :=
  if (if closed then decide (index ≤ b) else decide (index < b)) then some (.int index) else none

theorem rangeGen_total (closed : Bool) (b : Int) : Total (rangeGen closed b) (rangeP closed b) := by
  intro i lg; exact ⟨lg, rfl⟩

def generateP (n : Int) (index : Int) : Option Val := if index < n then some (.int index) else none

theorem generateGen_total (id n : Int) : Total (generateGen id n) (generateP n) := by
  intro i lg; exact ⟨lg ++ [s!"gen{id}:{i}"], rfl⟩

theorem range_enum (closed : Bool) (a b : Int) (x : Val) :
    Enum (rangeP closed b) a ((LExpr.range closed a b).denote x) := by
  simp only [LExpr.denote]
  cases closed
  · refine enum_range _ (b - a).toNat a _ (fun j hj => if_pos (decide_eq_true ?_)) (if_neg fun h => ?_)
    · show a + j < b
      omega
    · have : a + ((b - a).toNat : Nat) < b := of_decide_eq_true h
      omega
  · refine enum_range _ (b + 1 - a).toNat a _ (fun j hj => if_pos (decide_eq_true ?_)) (if_neg fun h => ?_)
    · show a + j ≤ b
      omega
    · have : a + ((b + 1 - a).toNat : Nat) ≤ b := of_decide_eq_true h
      omega

theorem generate_enum (id n : Int) (x : Val) : Enum (generateP n) 0 ((LExpr.generate id n).denote x) := by
  refine enum_range (generateP n) n.toNat 0 _ (fun j hj => ?_) ?_
  · rw [Int.zero_add]; exact if_pos (by omega)
  · rw [Int.zero_add]; exact if_neg (by omega)

end FpVerif.LL
