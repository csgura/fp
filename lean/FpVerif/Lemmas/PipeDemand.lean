import FpVerif.Lemmas.PipeSim
import FpVerif.Lemmas.PipeStepB
/-!
# Demand of a pipeline: the step bounds of `Lemmas/PipeStepB.lean` folded over the `Pipe` AST

`Pipe.pot p = pulls − held` is the potential, `Pipe.width p` the weight of a call: `stepJ` (every `LinearD`
pipeline, its iterator and every port of its `concat` field).  `build_linear` / `build_linearD` say what
construction leaves of the potential, `pulls_le_of_stepBD` puts the two together over a script.
-/
namespace FpVerif.It
namespace Pipe

/-- the combinators that hand on every element they pull (one in, one out, possibly with a
    look-ahead), and `Concat`: for these the number of source pulls is bounded by the number of elements handed
    out.  `Filter`, `FilterNot`, `DropWhile`, `FlatMap`, `FilterMap` SKIP elements — for them
    a bound in the number of elements handed out is false (`C12.filter_no_linear_bound`), their
    demand is data dependent (`C12.filter_demand`, `dropWhile_demand`, `flatMap_demand`); `Drop`: `LinearD`. -/
def Linear : Pipe → Prop
  | map p _ => Linear p
  | tap p _ => Linear p
  | take p _ => Linear p
  | takew p _ => Linear p
  | scan p _ _ => Linear p
  | zipidx p => Linear p
  | zip p q => Linear p ∧ Linear q
  | zip3 p q r => Linear p ∧ Linear q ∧ Linear r
  | concat p q => Linear p ∧ Linear q
  | drop _ _ => False
  | dropw _ _ => False
  | filter _ _ => False
  | filternot _ _ => False
  | flatmap _ _ _ => False
  | filtermap _ _ => False
  | _ => True

/-- `Linear` plus `Drop(n)`, which skips `n` elements ONCE, at construction time -/
def LinearD : Pipe → Prop
  | map p _ => LinearD p
  | tap p _ => LinearD p
  | take p _ => LinearD p
  | takew p _ => LinearD p
  | scan p _ _ => LinearD p
  | zipidx p => LinearD p
  | drop p _ => LinearD p
  | zip p q => LinearD p ∧ LinearD q
  | zip3 p q r => LinearD p ∧ LinearD q ∧ LinearD r
  | concat p q => LinearD p ∧ LinearD q
  | dropw _ _ => False
  | filter _ _ => False
  | filternot _ _ => False
  | flatmap _ _ _ => False
  | filtermap _ _ => False
  | _ => True

theorem Linear.toD : ∀ (p : Pipe), p.Linear → p.LinearD := by
  intro p
  induction p with
  | map p f ih | tap p f ih | take p n ih | takew p f ih | scan p z f ih | zipidx p ih => exact ih
  | zip p q ihp ihq | concat p q ihp ihq => exact fun h => ⟨ihp h.1, ihq h.2⟩
  | zip3 p q r ihp ihq ihr => exact fun h => ⟨ihp h.1, ihq h.2.1, ihr h.2.2⟩
  | drop p n _ | dropw p f _ | filter p f _ | filternot p f _ | flatmap p f k _ _ | filtermap p f _ => exact fun h => h.elim
  | _ => exact fun _ => trivial

/-- what ONE element handed out may cost in source pulls: the number of instrumented sources that
    are pulled together (`Zip` adds, `Concat` takes the larger side) -/
def width : Pipe → Nat
  | src _ _ => 1
  | gen _ _ _ => 1
  | pullseq _ _ => 1
  | map p _ => width p
  | tap p _ => width p
  | take p _ => width p
  | drop p _ => width p
  | takew p _ => width p
  | dropw p _ => width p
  | filter p _ => width p
  | filternot p _ => width p
  | concat p q => Nat.max (width p) (width q)
  | flatmap p _ _ => width p
  | filtermap p _ => width p
  | scan p _ _ => width p
  | zip p q => width p + width q
  | zip3 p q r => width p + width q + width r
  | zipidx p => width p
  | _ => 0

/-- source pulls that currently sit in look-ahead variables (`MakePullIterator`'s `val`,
    `TakeWhile`'s `fv` / the element that ended the run) -/
def held : (p : Pipe) → p.St → Nat
  | pullseq _ _, s => if s.2.isSome then 1 else 0
  | map p _, s => held p s
  | tap p _, s => held p s
  | take p _, s => held p s.1
  | takew p _, s => held p s.1 + (if s.2.breaking || s.2.fv.isSome then width p else 0)
  | scan p _ _, s => held p s.1
  | zip p q, s => held p s.1 + held q s.2
  | zip3 p q r, s => held p s.1 + held q s.2.1 + held r s.2.2
  | zipidx p, s => held p s.2
  | concat p q, s => held p s.1.1 + held q s.1.2
  | drop p _, s => held p s
  | _, _ => 0

/-- the structural look-ahead constant: one element per `MakePullIterator`, one element of the
    underlying pipeline (`width` pulls) per `TakeWhile` -/
def lookahead : Pipe → Nat
  | pullseq _ _ => 1
  | map p _ => lookahead p
  | tap p _ => lookahead p
  | take p _ => lookahead p
  | takew p _ => lookahead p + width p
  | scan p _ _ => lookahead p
  | zip p q => lookahead p + lookahead q
  | zip3 p q r => lookahead p + lookahead q + lookahead r
  | zipidx p => lookahead p
  | concat p q => lookahead p + lookahead q
  | drop p _ => lookahead p
  | _ => 0

/-- source pulls that `Drop(n)` spends at construction time: `n` elements of the pipeline below -/
def dropped : Pipe → Nat
  | drop p n => dropped p + n.toNat * width p
  | map p _ => dropped p
  | tap p _ => dropped p
  | take p _ => dropped p
  | takew p _ => dropped p
  | scan p _ _ => dropped p
  | zipidx p => dropped p
  | zip p q => dropped p + dropped q
  | zip3 p q r => dropped p + dropped q + dropped r
  | concat p q => dropped p + dropped q
  | _ => 0

theorem held_le_lookahead : ∀ (p : Pipe) (s : p.St), held p s ≤ lookahead p := by
  intro p
  induction p with
  | pullseq id xs => intro s; show (if s.2.isSome then 1 else 0) ≤ 1; split <;> omega
  | map p f ih | tap p f ih | drop p n ih => exact ih
  | take p n ih | scan p z f ih => exact fun s => ih s.1
  | takew p f ih =>
    intro s
    show held p s.1 + (if s.2.breaking || s.2.fv.isSome then width p else 0) ≤ lookahead p + width p
    have := ih s.1
    split <;> omega
  | zip p q ihp ihq => exact fun s => Nat.add_le_add (ihp s.1) (ihq s.2)
  | zip3 p q r ihp ihq ihr => exact fun s => Nat.add_le_add (Nat.add_le_add (ihp s.1) (ihq s.2.1)) (ihr s.2.2)
  | zipidx p ih => exact fun s => ih s.2
  | concat p q ihp ihq => exact fun s => Nat.add_le_add (ihp s.1.1) (ihq s.1.2)
  | _ => exact fun _ => Nat.le_refl 0

def pot (p : Pipe) (s : p.St) : Int := (pulls p s : Int) - (held p s : Int)

theorem pot_add (a b c d : Nat) : ((a + b : Nat) : Int) - ((c + d : Nat) : Int) = ((a : Int) - c) + ((b : Int) - d) := by
  omega

/-- for a pipeline that is not itself a `Concat` / `Drop` the component list is the iterator itself
    (`e`: the caller states the bound `hs` about the unfolded machine) -/
theorem stepJ_single (fuel : Nat) (p : Pipe) (h1 : ∀ a b, p ≠ .concat a b) (h2 : ∀ a n, p ≠ .drop a n)
    {m : Machine p.St Val} (e : machineF fuel p = m) (hs : StepB m (pot p) (width p) (width p)) :
    StepB (machineF fuel p) (pot p) (width p) (width p) ∧ MStepB (partsF fuel p) (pot p) (width p) (width p) := by
  subst e
  refine ⟨hs, ?_⟩
  rw [partsF_single fuel p h1 h2]
  exact single_mstepB hs

/-- EVERY linear pipeline, ANY callbacks (logging, panicking), ANY sources (also `Generate`): each
    call raises `pulls − held` by at most `width` — and a `HasNext` that returns, not at all. -/
theorem stepJ (fuel : Nat) : ∀ (p : Pipe), p.LinearD →
    StepB (machineF fuel p) (pot p) (width p) (width p) ∧ MStepB (partsF fuel p) (pot p) (width p) (width p) := by
  intro p
  induction p with
  | seq _ | arg _ | range _ _ _ | opt _ | empty | zero | rev _ =>
    -- no instrumented source: `pulls` and `held` are `0`
    intro _
    exact stepJ_single fuel _ (by intros; simp) (by intros; simp) rfl ((stepB_zero _).congr (fun _ => rfl))
  | src id xs =>
    intro _
    exact stepJ_single fuel _ (by intros; simp) (by intros; simp) (machineF_src ..)
      ((ofSeq_stepB _ xs).congr (fun s => Int.sub_zero (s : Int)))
  | gen id a b =>
    intro _
    exact stepJ_single fuel _ (by intros; simp) (by intros; simp) (machineF_gen ..)
      ((generate_stepB _).congr (fun s => Int.sub_zero (s : Int)))
  | pullseq id xs =>
    intro _
    refine stepJ_single fuel _ (by intros; simp) (by intros; simp) (machineF_pullseq ..)
      ((pull_stepB (ofSeq_stepB _ xs)).congr (fun s => ?_))
    show ((s.1 : Nat) : Int) - (((if s.2.isSome then 1 else 0 : Nat)) : Int) = ((s.1 : Nat) : Int) - pullHeld s.2 1
    unfold pullHeld
    split <;> simp
  | map p f ih =>
    intro h
    exact stepJ_single fuel _ (by intros; simp) (by intros; simp) (machineF_map ..) (map_stepB (ih h).1)
  | tap p f ih =>
    intro h
    exact stepJ_single fuel _ (by intros; simp) (by intros; simp) (machineF_tap ..) (tapEach_stepB (ih h).1)
  | take p n ih =>
    intro h
    exact stepJ_single fuel _ (by intros; simp) (by intros; simp) (machineF_take ..) (take_stepB n (ih h).1)
  | takew p f ih =>
    intro h
    refine stepJ_single fuel _ (by intros; simp) (by intros; simp) (machineF_takew ..)
      ((takeWhile_stepB (ih h).1).congr (fun s => ?_))
    show ((pulls p s.1 : Nat) : Int) - ((held p s.1 + (if s.2.breaking || s.2.fv.isSome then width p else 0) : Nat) : Int)
      = (((pulls p s.1 : Nat) : Int) - ((held p s.1 : Nat) : Int)) - twHeld s.2 (width p)
    unfold twHeld
    split <;> simp <;> omega
  | scan p z f ih =>
    intro h
    exact stepJ_single fuel _ (by intros; simp) (by intros; simp) (machineF_scan ..) (scan_stepB (ih h).1)
  | zip p q ihp ihq =>
    intro h
    have hz := map_stepB (f := fun ab => (pure (tupV ab.1 ab.2) : GoM Val)) (zip_stepB (ihp h.1).1 (ihq h.2).1)
    rw [← Int.natCast_add] at hz
    exact stepJ_single fuel _ (by intros; simp) (by intros; simp) (machineF_zip ..)
      (hz.congr (fun s => pot_add (pulls p s.1) (pulls q s.2) (held p s.1) (held q s.2)))
  | zip3 p q r ihp ihq ihr =>
    intro h
    have hz := map_stepB (f := fun abc => (pure (Val.tup [abc.1, abc.2.1, abc.2.2]) : GoM Val))
      (zip_stepB (ihp h.1).1 (zip_stepB (ihq h.2.1).1 (ihr h.2.2).1))
    rw [← Int.natCast_add, ← Int.natCast_add, ← Nat.add_assoc] at hz
    refine stepJ_single fuel _ (by intros; simp) (by intros; simp) ((machineF_zip3 ..).trans (by rw [zip3_eq]))
      (hz.congr (fun s => ?_))
    show ((pulls p s.1 + pulls q s.2.1 + pulls r s.2.2 : Nat) : Int) - ((held p s.1 + held q s.2.1 + held r s.2.2 : Nat) : Int)
      = (((pulls p s.1 : Nat) : Int) - ((held p s.1 : Nat) : Int)) +
        ((((pulls q s.2.1 : Nat) : Int) - ((held q s.2.1 : Nat) : Int)) + (((pulls r s.2.2 : Nat) : Int) - ((held r s.2.2 : Nat) : Int)))
    omega
  | zipidx p ih =>
    intro h
    have hz := map_stepB (f := fun ia => (pure (tupV (.int ia.1) ia.2) : GoM Val))
      (zip_stepB (stepB_zero (generate (fun n => (pure (n : Int) : GoM Int)))) (ih h).1)
    rw [Int.zero_add] at hz
    exact stepJ_single fuel _ (by intros; simp) (by intros; simp) (machineF_zipidx ..)
      (hz.congr (fun s => (Int.zero_add _).symm))
  | drop p n ih =>
    intro h
    rw [machineF_drop, partsF_drop]
    exact ih h
  | concat p q ihp ihq =>
    intro h
    obtain ⟨_, hmp⟩ := ihp h.1
    obtain ⟨_, hmq⟩ := ihq h.2
    have hle1 : ((width p : Nat) : Int) ≤ ((Nat.max (width p) (width q) : Nat) : Int) := Int.ofNat_le.mpr (Nat.le_max_left _ _)
    have hle2 : ((width q : Nat) : Int) ≤ ((Nat.max (width p) (width q) : Nat) : Int) := Int.ofNat_le.mpr (Nat.le_max_right _ _)
    have hJ := join_mstepB (hmp.mono hle1 hle1 (Int.le_refl _)) (hmq.mono hle2 hle2 (Int.le_refl _))
    rw [machineF_concat, partsF_concat]
    have hpot : ∀ s : (Pipe.concat p q).St, pot (.concat p q) s = pot p s.1.1 + pot q s.1.2 :=
      fun s => pot_add (pulls p s.1.1) (pulls q s.1.2) (held p s.1.1) (held q s.1.2)
    exact ⟨(concat_stepB hJ).congr hpot, (concatParts_mstepB hJ).congr hpot⟩
  | dropw p f _ | filter p f _ | filternot p f _ | flatmap p f k _ _ | filtermap p f _ => intro h; exact h.elim

theorem stepB (fuel : Nat) (p : Pipe) (hl : p.Linear) : StepB (machineF fuel p) (pot p) (width p) (width p) :=
  (stepJ fuel p (Linear.toD p hl)).1

theorem stepBD (fuel : Nat) (p : Pipe) (hl : p.LinearD) : StepB (machineF fuel p) (pot p) (width p) (width p) :=
  (stepJ fuel p hl).1

/-- the demand bound for pipelines with `Drop`, from any state that construction can leave -/
theorem pulls_le_of_stepBD (fuel : Nat) (p : Pipe) (hl : p.LinearD) (s0 : p.St) (k : Nat) (h0 : pulls p s0 ≤ held p s0 + k)
    (cs : List Call) (lg : Log) :
    pulls p (runScript (machineF fuel p) cs s0 lg).2.1
      ≤ width p * (vals (runScript (machineF fuel p) cs s0 lg).1 + panics (runScript (machineF fuel p) cs s0 lg).1)
        + lookahead p + k := by
  have h := runScript_stepB (stepBD fuel p hl) cs s0 lg
  generalize runScript (machineF fuel p) cs s0 lg = res at h ⊢
  have hh := held_le_lookahead p res.2.1
  unfold pot at h
  have : ((pulls p res.2.1 : Nat) : Int) ≤ ((width p * (vals res.1 + panics res.1) + lookahead p + k : Nat) : Int) := by
    rw [Int.natCast_add, Int.natCast_add, Int.natCast_mul, Int.natCast_add, Int.mul_add]
    omega
  exact Int.ofNat_le.mp this

/-- the demand bound of a linear pipeline, from a state in which every source pull is held in a look-ahead variable -/
theorem pulls_le_of_stepB (fuel : Nat) (p : Pipe) (hl : p.Linear) (s0 : p.St) (h0 : pulls p s0 = held p s0)
    (cs : List Call) (lg : Log) :
    pulls p (runScript (machineF fuel p) cs s0 lg).2.1
      ≤ width p * (vals (runScript (machineF fuel p) cs s0 lg).1 + panics (runScript (machineF fuel p) cs s0 lg).1)
        + lookahead p :=
  pulls_le_of_stepBD fuel p (Linear.toD p hl) s0 0 (Nat.le_of_eq h0) cs lg

/-- building a linear pipeline cannot fail, and afterwards the only source pulls are the ones
    `MakePullIterator` has made into its `val` -/
theorem build_linear (fuel : Nat) : ∀ (p : Pipe), p.Linear → ∀ (x : Val) (lg : Log),
    ∃ (s : p.St) (lg' : Log), (buildF fuel p x).run.run lg = (.ok s, lg') ∧ pulls p s = held p s := by
  show ∀ (p : Pipe), p.Linear → ∀ (x : Val), Yields (buildF fuel p x) (fun s => pulls p s = held p s)
  intro p
  induction p with
  | src _ _ | seq _ | arg _ | gen _ _ _ | range _ _ _ | opt _ | empty | zero | rev _ =>
    intro _ x
    simp only [buildF_src, buildF_seq, buildF_arg, buildF_gen, buildF_range, buildF_opt, buildF_empty, buildF_zero, buildF_rev]
    exact .pure _ rfl
  | pullseq id xs =>
    intro _ x lg
    rw [buildF_pullseq]
    cases xs with
    | nil => exact ⟨((0 : Nat), none), lg, rfl, rfl⟩
    | cons a xs => exact ⟨((1 : Nat), some a), lg ++ [srcTag id a], rfl, rfl⟩
  | map p f ih | tap p f ih =>
    intro h x
    simp only [buildF_map, buildF_tap]
    exact ih h x
  | take p n ih | takew p f ih | scan p z f ih | zipidx p ih =>
    intro h x
    simp only [buildF_take, buildF_takew, buildF_scan, buildF_zipidx]
    exact (ih h x).map _ fun _ hs => hs
  | zip p q ihp ihq | concat p q ihp ihq =>
    intro h x
    simp only [buildF_zip, buildF_concat]
    refine (ihp h.1 x).bind fun s hs => (ihq h.2 x).bind fun t ht => .pure _ ?_
    show pulls p s + pulls q t = held p s + held q t
    omega
  | zip3 p q r ihp ihq ihr =>
    intro h x
    rw [buildF_zip3]
    refine (ihp h.1 x).bind fun s hs => (ihq h.2.1 x).bind fun t ht => (ihr h.2.2 x).bind fun u hu => .pure _ ?_
    show pulls p s + pulls q t + pulls r u = held p s + held q t + held r u
    omega
  | drop p n _ | dropw p f _ | filter p f _ | filternot p f _ | flatmap p f k _ _ | filtermap p f _ => intro h; exact h.elim

/-- IF building a pipeline with `Drop`s returns (a panicking callback may abort a `Drop` loop), the
    source pulls not accounted for by look-ahead variables are the ones the `Drop`s have spent -/
theorem build_linearD (fuel : Nat) : ∀ (p : Pipe), p.LinearD → ∀ (x : Val) (lg : Log) (s : p.St) (lg' : Log),
    (buildF fuel p x).run.run lg = (.ok s, lg') → pulls p s ≤ held p s + dropped p := by
  show ∀ (p : Pipe), p.LinearD → ∀ (x : Val), Post (buildF fuel p x) (fun s => pulls p s ≤ held p s + dropped p)
  have src : ∀ (p : Pipe), p.Linear → ∀ (x : Val), Post (buildF fuel p x) (fun s => pulls p s ≤ held p s + dropped p) :=
    fun p hl x lg s lg' e => Nat.le_add_right_of_le (Nat.le_of_eq (Yields.post (build_linear fuel p hl x) lg s lg' e))
  intro p
  induction p with
  | src _ _ | seq _ | arg _ | gen _ _ _ | range _ _ _ | opt _ | empty | zero | rev _ | pullseq _ _ =>
    intro _; exact src _ trivial
  | map p f ih | tap p f ih =>
    intro h x
    simp only [buildF_map, buildF_tap]
    exact ih h x
  | take p n ih | takew p f ih | scan p z f ih | zipidx p ih =>
    intro h x
    simp only [buildF_take, buildF_takew, buildF_scan, buildF_zipidx]
    exact (ih h x).map _ fun _ hs => hs
  | zip p q ihp ihq | concat p q ihp ihq =>
    intro h x
    simp only [buildF_zip, buildF_concat]
    refine (ihp h.1 x).bind fun s hs => (ihq h.2 x).bind fun t ht => .pure _ ?_
    show pulls p s + pulls q t ≤ held p s + held q t + (dropped p + dropped q)
    omega
  | zip3 p q r ihp ihq ihr =>
    intro h x
    rw [buildF_zip3]
    refine (ihp h.1 x).bind fun s hs => (ihq h.2.1 x).bind fun t ht => (ihr h.2.2 x).bind fun u hu => .pure _ ?_
    show pulls p s + pulls q t + pulls r u ≤ held p s + held q t + held r u + (dropped p + dropped q + dropped r)
    omega
  | drop p n ih =>
    intro h x
    rw [buildF_drop]
    refine (ih h x).bind fun a hi lg1 s lg' e => ?_
    have e' : Pipe.buildF.runInit (dropLoop (machineF fuel p) n.toNat) a lg1 = (.ok s, lg') := e
    have hd := dropLoop_pot (stepBD fuel p h) n.toNat a lg1
    rcases e3 : dropLoop (machineF fuel p) n.toNat a lg1 with ⟨r, s2, lg2⟩
    rw [e3] at hd
    simp only [Pipe.buildF.runInit, e3] at e'
    cases r with
    | error q => cases e'
    | ok u =>
      cases e'
      simp only [pot] at hd
      show pulls p s ≤ held p s + (dropped p + n.toNat * width p)
      have : ((pulls p s : Nat) : Int) ≤ ((held p s + (dropped p + n.toNat * width p) : Nat) : Int) := by
        rw [Int.natCast_add, Int.natCast_add, Int.natCast_mul]
        omega
      exact Int.ofNat_le.mp this
  | dropw p f _ | filter p f _ | filternot p f _ | flatmap p f k _ _ | filtermap p f _ => intro h; exact h.elim

/-- `Take(n)` over a linear pipeline, ANY script (however long): the sources are pulled at most
    `n` times each (plus the look-ahead below, plus one per panicking call) — the number of calls
    does not enter. -/
theorem take_pulls_le (fuel : Nat) (q : Pipe) (hl : q.Linear) (n : Int) (s0 : q.St) (h0 : pulls q s0 = held q s0)
    (cs : List Call) (lg : Log) :
    pulls q (runScript (It.take n (machineF fuel q)) cs (s0, 0) lg).2.1.1
      ≤ width q * (n.toNat + panics (runScript (It.take n (machineF fuel q)) cs (s0, 0) lg).1) + lookahead q := by
  have hq := stepB fuel q hl
  have hs := take_stepB_gen n hq (width q) (Int.natCast_nonneg _) (Int.le_refl _)
  have h := runScript_stepB hs cs (s0, 0) lg
  have hi := take_counter_le n (machineF fuel q) cs s0 0 lg (Nat.zero_le _)
  generalize runScript (It.take n (machineF fuel q)) cs (s0, 0) lg = res at h hi ⊢
  have hh := held_le_lookahead q res.2.1.1
  simp only [pot] at h
  have hmul : (width q : Int) * (res.2.1.2 : Int) ≤ (width q : Int) * (n.toNat : Int) :=
    Int.mul_le_mul_of_nonneg_left (Int.ofNat_le.mpr hi) (Int.natCast_nonneg _)
  have : ((pulls q res.2.1.1 : Nat) : Int) ≤ ((width q * (n.toNat + panics res.1) + lookahead q : Nat) : Int) := by
    rw [Int.natCast_add, Int.natCast_mul, Int.natCast_add, Int.mul_add]
    have e0 : ((pulls q s0 : Nat) : Int) = ((held q s0 : Nat) : Int) := by rw [h0]
    simp only [Int.sub_self, Int.zero_mul, Int.add_zero, Int.natCast_zero, Int.mul_zero, Int.sub_zero] at h
    omega
  exact Int.ofNat_le.mp this

end Pipe
end FpVerif.It
