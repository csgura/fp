import FpVerif.Lemmas.HamtAssoc
import FpVerif.Lemmas.HamtConv
/-!
What `set` needs below the trie induction: the effect on `lookup` of changing the segment of one slot
of a branch node, and `mergeIntoNode`.
-/
namespace FpVerif.Hamt
variable {K V : Type} {h : Hasher K}

theorem LawfulHash.ne_of_frag_ne (hl : LawfulHash h) {a b : K} {s : Nat}
    (hne : frag (h.hash a) s ≠ frag (h.hash b) s) : h.eqv a b = false :=
  hl.ne_of_hash_ne (fun heq => hne (by rw [heq]))

theorem lookup_none_of_new {l : List (K × V)} {k : K}
    (hno : ∀ e ∈ l, h.eqv e.1 k = false) : lookup h k l = none := lookup_eq_none_iff.mpr hno

-- branch nodes: the effect of changing the segment of one slot ------------------------------------

theorem noMatch_of_frag_ne (hl : LawfulHash h) {s j : Nat} {k : K} (hk : frag (h.hash k) s = j)
    {A : List (K × V)} (hA : ∀ e ∈ A, frag (h.hash e.1) s ≠ j) : ∀ e ∈ A, h.eqv e.1 k = false := by
  intro e he
  apply hl.ne_of_frag_ne
  rw [hk]; exact hA e he

/-- looking up `k` in a branch node only sees the segment of `k`'s slot -/
theorem lookup_frame (hl : LawfulHash h) {s : Nat} {k : K} {A C B : List (K × V)}
    (hA : ∀ e ∈ A, frag (h.hash e.1) s ≠ frag (h.hash k) s)
    (hB : ∀ e ∈ B, frag (h.hash e.1) s ≠ frag (h.hash k) s) :
    lookup h k (A ++ C ++ B) = lookup h k C :=
  lookup_mid (noMatch_of_frag_ne hl rfl hA) (noMatch_of_frag_ne hl rfl hB)

theorem branch_lookup (hl : LawfulHash h) {s j : Nat} {k : K} (hk : frag (h.hash k) s = j)
    {A B C C' : List (K × V)} {w : Option V}
    (hA : ∀ e ∈ A, frag (h.hash e.1) s ≠ j) (hB : ∀ e ∈ B, frag (h.hash e.1) s ≠ j)
    (hC : ∀ e ∈ C, frag (h.hash e.1) s = j) (hC' : ∀ e ∈ C', frag (h.hash e.1) s = j)
    (hupd : ∀ k', lookup h k' C' = if h.eqv k k' then w else lookup h k' C) (k' : K) :
    lookup h k' (A ++ C' ++ B) = if h.eqv k k' then w else lookup h k' (A ++ C ++ B) := by
  by_cases hj : frag (h.hash k') s = j
  · have hA' := noMatch_of_frag_ne hl hj hA
    have hB' := noMatch_of_frag_ne hl hj hB
    rw [lookup_mid hA' hB', lookup_mid hA' hB']
    exact hupd k'
  · have hkk : h.eqv k k' = false := hl.ne_of_frag_ne (by rw [hk]; exact fun h' => hj h'.symm)
    -- `k'` lives in another slot: it is in neither version of the segment of slot `j`
    have hnone : ∀ D : List (K × V), (∀ e ∈ D, frag (h.hash e.1) s = j) → lookup h k' D = none :=
      fun D hD => lookup_eq_none_iff.mpr fun e he => hl.ne_of_frag_ne (by rw [hD e he]; exact fun h' => hj h'.symm)
    simp [lookup_append, hnone C hC, hnone C' hC', hkk]

-- bit lists of one and two bits -------------------------------------------------------------------

theorem bitsOf_zero : bitsOf 0 = [] := by
  unfold bitsOf
  rw [List.filter_eq_nil_iff]; simp

theorem bitsOf_bit {i : Nat} (hi : i < 32) : bitsOf (1 <<< i) = [i] := by
  have h0 : (0 : Nat) < 2 ^ i := Nat.pow_pos (by decide)
  obtain ⟨hlo, hhi⟩ := bits_below h0 hi
  have := bitsOf_or_bit (bm := 0) hi
  rw [Nat.zero_or, hlo, hhi, bitsOf_zero] at this
  simpa using this

theorem bitsOf_two {i1 i2 : Nat} (h12 : i1 < i2) (h2 : i2 < 32) :
    bitsOf ((1 <<< i1) ||| (1 <<< i2)) = [i1, i2] := by
  obtain ⟨hlo, hhi⟩ := bits_below (bit_lt h12) h2
  rw [bitsOf_or_bit h2, hlo, hhi, bitsOf_bit (by omega)]
  rfl

-- mergeIntoNode ---------------------------------------------------------------------------------------

/-- a bitmap node with the one child `c` in slot `i` -/
theorem WF.bitmap_single {s i : Nat} (hs : s < 32) (hi : i < 32) {c : Node K V} (hw : WF h (s + 5) c)
    (hsl : ∀ e ∈ c.toList, frag (h.hash e.1) s = i) : WF h s (.bitmap (1 <<< i) [c]) := by
  have hkids : kidsB (1 <<< i) [c] = [(i, c)] := by
    unfold kidsB
    rw [bitsOf_bit hi]
    rfl
  apply WF.bitmap hs
  · exact bit_lt hi
  · unfold popCount
    rw [bitsOf_bit hi]
    rfl
  · exact Nat.le_refl 1
  · exact Nat.le_add_left 1 _
  · rw [hkids]
    exact List.forall_mem_singleton.mpr hw
  · rw [hkids]
    exact List.forall_mem_singleton.mpr hsl

/-- a bitmap node with the two children `c1`, `c2` in slots `i1 < i2` -/
theorem WF.bitmap_pair {s i1 i2 : Nat} (hs : s < 32) (h12 : i1 < i2) (h2 : i2 < 32) {c1 c2 : Node K V}
    (hw1 : WF h (s + 5) c1) (hw2 : WF h (s + 5) c2)
    (hs1 : ∀ e ∈ c1.toList, frag (h.hash e.1) s = i1) (hs2 : ∀ e ∈ c2.toList, frag (h.hash e.1) s = i2) :
    WF h s (.bitmap ((1 <<< i1) ||| (1 <<< i2)) [c1, c2]) := by
  have hkids : kidsB ((1 <<< i1) ||| (1 <<< i2)) [c1, c2] = [(i1, c1), (i2, c2)] := by
    unfold kidsB
    rw [bitsOf_two h12 h2]
    rfl
  apply WF.bitmap hs
  · exact or_bit_lt (bit_lt (Nat.lt_trans h12 h2)) h2
  · unfold popCount
    rw [bitsOf_two h12 h2]
    rfl
  · exact Nat.le_add_left 1 1
  · exact Nat.le_add_left 2 _
  · rw [hkids]
    exact List.forall_mem_cons.mpr ⟨hw1, List.forall_mem_singleton.mpr hw2⟩
  · rw [hkids]
    exact List.forall_mem_cons.mpr ⟨hs1, List.forall_mem_singleton.mpr hs2⟩

/-- `mergeIntoNode` on a leaf whose hash differs from the new key's hash but agrees with it on the
    bits consumed so far: terminates, and yields a well-formed chain of bitmap nodes. -/
theorem mergeIntoNode_spec {leaf : Node K V} {kh : UInt32} (k : K) (v : V)
    (hk : kh = h.hash k) (hwf : ∀ s, WF h s leaf)
    (hkeys : ∀ e ∈ leaf.toList, h.hash e.1 = leaf.keyHashValue) (hne : leaf.keyHashValue ≠ kh) :
    ∀ d s, 32 - s = d → pfxEq s leaf.keyHashValue kh →
      ∃ m, mergeIntoNode leaf s kh k v = .ok m ∧ WF h s m ∧
        (∃ T D, leaf.toList = T ++ D ∧ m.toList = T ++ (k, v) :: D) ∧
        (∀ es, m ≠ .array es) := by
  intro d
  induction d using Nat.strongRecOn with
  | _ d ih =>
    intro s hd hp
    have hs32 : s < 32 := by
      rcases Nat.lt_or_ge s 32 with h1 | h1
      · exact h1
      · exact absurd (pfxEq_eq h1 hp) hne
    have hi1 := frag_lt leaf.keyHashValue s
    have hi2 := frag_lt kh s
    have hsl : ∀ e ∈ leaf.toList, frag (h.hash e.1) s = frag leaf.keyHashValue s := by
      intro e he
      rw [hkeys e he]
    have hsv : ∀ e ∈ (Node.value kh k v).toList, frag (h.hash e.1) s = frag kh s := by
      intro e he
      rw [toList_value, List.mem_singleton] at he
      rw [he, hk]
    rw [mergeIntoNode]
    by_cases heq : frag leaf.keyHashValue s = frag kh s
    · -- same fragment: one more level
      have hp' : pfxEq (s + 5) leaf.keyHashValue kh := pfxEq_succ.mpr ⟨hp, heq⟩
      obtain ⟨m', hm', hwf', ⟨T, D, hT, hT'⟩, hna'⟩ := ih (32 - (s + 5)) (by omega) (s + 5) rfl hp'
      have hns : ¬ s ≥ 32 := by omega
      simp only [heq, beq_self_eq_true, if_true, hns, if_false, mapNodeBits, hm', bind, Except.bind,
        pure, Except.pure, Nat.or_self]
      refine ⟨_, rfl, WF.bitmap_single hs32 hi2 hwf' ?_, ⟨T, D, hT, ?_⟩, by intro es; simp⟩
      · intro e he
        rw [hT', List.mem_append, List.mem_cons] at he
        rw [hT, List.forall_mem_append] at hsl
        rcases he with he | rfl | he
        · rw [hsl.1 e he, heq]
        · rw [← hk]
        · rw [hsl.2 e he, heq]
      · rw [toList_bitmap, List.flatMap_singleton, hT']
    · -- fragments differ: a two-way bitmap node
      simp only [beq_iff_eq, heq, if_false]
      by_cases hlt : frag leaf.keyHashValue s < frag kh s
      · simp only [hlt, if_true, pure, Except.pure]
        exact ⟨_, rfl, WF.bitmap_pair hs32 hlt hi2 (hwf _) (WF.value hk) hsl hsv,
          ⟨leaf.toList, [], (List.append_nil _).symm, by rw [toList_bitmap]; simp⟩, by intro es; simp⟩
      · have hgt : frag kh s < frag leaf.keyHashValue s := by omega
        simp only [hlt, if_false, pure, Except.pure]
        rw [Nat.or_comm]
        exact ⟨_, rfl, WF.bitmap_pair hs32 hgt hi1 (WF.value hk) (hwf _) hsv hsl,
          ⟨[], leaf.toList, rfl, by rw [toList_bitmap]; simp⟩, by intro es; simp⟩

end FpVerif.Hamt
