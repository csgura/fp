import FpVerif.Lemmas.FutHO
import FpVerif.Model.FutureChain
/-!
# The higher-order fragment: membership, denotation of `Flatten` / `LiftM` / `LiftMN`, the first-order fragment inside it

(helper lemmas for `Spec/C06HO.lean`)
-/
namespace FpVerif.Spec.C06.HO
open FpVerif.Fut

-- closure of `HO` under every combinator -------------------------------------------------------------------------------

theorem ho_ref (τ : Ty) (p : Nat) : HO τ (.ref p) := ⟨.ref τ p, rfl⟩
theorem ho_successful (v : Val) : HO .val (.successful v) := ⟨.successful v, rfl⟩
theorem ho_failed (τ : Ty) (x : Err) : HO τ (.failed x) := ⟨.failed τ x, rfl⟩
theorem ho_apply (f : Unit → W (Try Val)) : HO .val (.apply f) := ⟨.apply f, rfl⟩

/-- `Successful(h)` of a future handle: a future of a future -/
theorem ho_successfulOf {τ : Ty} {e : FExpr} (h : HO τ e) : HO (.fut τ) (.successfulOf e) := by
  obtain ⟨t, rfl⟩ := h; exact ⟨.successfulOf t, rfl⟩

theorem ho_logged {τ : Ty} (evs : List Event) {e : FExpr} (h : HO τ e) : HO τ (.logged evs e) := by
  obtain ⟨t, rfl⟩ := h; exact ⟨.logged evs t, rfl⟩

/-- a family of programs of the fragment is the erasure of a family of typed programs -/
theorem ho_family {α : Type} {τ : Ty} {k : α → FExpr} (hk : ∀ x, HO τ (k x)) :
    ∃ k' : α → TExpr τ, (fun x => erase (k' x)) = k :=
  ⟨fun x => Classical.choose (hk x), funext fun x => Classical.choose_spec (hk x)⟩

theorem ho_flatMap {τ : Ty} {e : FExpr} {k : Val → FExpr} (he : HO .val e) (hk : ∀ v, HO τ (k v)) : HO τ (.flatMap e k) := by
  obtain ⟨t, rfl⟩ := he
  obtain ⟨k', rfl⟩ := ho_family hk
  exact ⟨.flatMap t k', rfl⟩

theorem ho_flatten {τ : Ty} {e : FExpr} (h : HO (.fut τ) e) : HO τ (Fut.flatten e) := by
  obtain ⟨t, rfl⟩ := h; exact ⟨.flatten t, rfl⟩

theorem ho_transform {e : FExpr} (f : Try Val → W (Try Val)) (h : HO .val e) : HO .val (.transform e f) := by
  obtain ⟨t, rfl⟩ := h; exact ⟨.transform t f, rfl⟩

theorem ho_transformWith {τ : Ty} {e : FExpr} {k : Try Val → FExpr} (he : HO .val e) (hk : ∀ t, HO τ (k t)) :
    HO τ (.transformWith e k) := by
  obtain ⟨t, rfl⟩ := he
  obtain ⟨k', rfl⟩ := ho_family hk
  exact ⟨.transformWith t k', rfl⟩

theorem ho_recoverWith {τ : Ty} {e : FExpr} (d : Err → Bool) {k : Err → FExpr} (he : HO τ e) (hk : ∀ x, HO τ (k x)) :
    HO τ (.recoverWith e d k) := by
  obtain ⟨t, rfl⟩ := he
  obtain ⟨k', rfl⟩ := ho_family hk
  exact ⟨.recoverWith t d k', rfl⟩

theorem ho_orFuture {τ : Ty} {e alt : FExpr} (he : HO τ e) (ha : HO τ alt) : HO τ (.orFuture e alt) := by
  obtain ⟨t, rfl⟩ := he
  obtain ⟨a, rfl⟩ := ha
  exact ⟨.orFuture t a, rfl⟩

theorem ho_map {e : FExpr} (f : Val → W Val) (h : HO .val e) : HO .val (Fut.map e f) :=
  ho_flatMap h (fun _ => ho_logged _ (ho_successful _))

/-- `LiftM(fa)(ta) = Flatten(Map(ta, fa))`, for every user function returning a future of the fragment (of any type) -/
theorem ho_liftM {τ : Ty} {fa : Val → FExpr} (ta : Nat) (h : ∀ v, HO τ (fa v)) : HO τ (Fut.liftM fa ta) :=
  ho_flatten (ho_flatMap (ho_ref .val ta) (fun v => ho_successfulOf (h v)))

/-- `FlatMethod1(ta, fab)(b) = Flatten(Map(ta, a => fab(a, b)))` -/
theorem ho_flatMethod1 {τ : Ty} (ta : Nat) (f : Ex → List Val → FExpr) (c : Ex) (rest : List Val)
    (h : ∀ vs, HO τ (f c vs)) : HO τ (flatMethodN 1 ta f c rest) :=
  ho_liftM ta (fun x => h (x :: rest))

-- the typed combinators and what they denote ------------------------------------------------------------------------------

/-- `LiftM(fa)(ta)` in the typed syntax -/
def tLiftM {τ : Ty} (fa : Val → TExpr τ) (ta : Nat) : TExpr τ :=
  .flatten (.flatMap (.ref .val ta) (fun v => .successfulOf (fa v)))

theorem erase_tLiftM {τ : Ty} (fa : Val → TExpr τ) (ta : Nat) :
    erase (tLiftM fa ta) = Fut.liftM (fun v => erase (fa v)) ta := rfl

/-- `Flatten(Successful(e))` denotes what `e` denotes -/
theorem den_flatten_successfulOf (ρ : Env) {τ : Ty} (e : TExpr τ) : den ρ (.flatten (.successfulOf e)) = den ρ e := rfl

/-- `Flatten` is the join of the three-valued Try -/
theorem den_flatten (ρ : Env) {τ : Ty} (e : TExpr (.fut τ)) : den ρ (.flatten e) = joinS (den ρ e) := rfl

/-- `LiftM(fa)(ta)` denotes `ta.flatMap(fa)` over fp.Try: pending while `ta` is, `ta`'s failure, else what `fa v` denotes -/
theorem den_tLiftM (ρ : Env) {τ : Ty} (fa : Val → TExpr τ) (ta : Nat) :
    den ρ (tLiftM fa ta) = bindOkS (ρ .val ta) (fun v => den ρ (fa v)) := by
  simp only [tLiftM, den, joinS]
  cases ρ .val ta with
  | none => rfl
  | some t => cases t <;> rfl

/-- … at value type, over the statuses of a network, with the first-order `bindOk` -/
theorem den_tLiftM_val (σ : Nat → Option (Try Val)) (fa : Val → TExpr .val) (ta : Nat) :
    den (absE σ) (tLiftM fa ta) = bindOk (σ ta) (fun v => den (absE σ) (fa v)) := by
  rw [den_tLiftM, bindOkS_eq_bindOk]
  show bindOk (absS σ .val ta) _ = _
  rw [absS_val]

/-- `LiftMN(f)(ins1, …, insN)` in the typed syntax (`Model/FutureChain.lean: liftMFrom`) -/
def tLiftMFrom {τ : Ty} (f : List Val → TExpr τ) : List Nat → List Val → TExpr τ
  | [], vs => f vs
  | [a], vs => .flatten (.flatMap (.ref .val a) (fun v => .successfulOf (f (vs ++ [v]))))
  | [a, b], vs =>
    .flatten (.flatMap (.ref .val a) (fun v1 => .flatMap (.ref .val b) (fun v2 => .successfulOf (f (vs ++ [v1, v2])))))
  | p :: q :: r :: ps, vs => .flatMap (.ref .val p) (fun v => tLiftMFrom f (q :: r :: ps) (vs ++ [v]))

theorem erase_tLiftMFrom {τ : Ty} (f : List Val → TExpr τ) : ∀ (ins : List Nat) (vs : List Val),
    erase (tLiftMFrom f ins vs) = liftMFrom (fun vs => erase (f vs)) ins vs := by
  intro ins vs
  fun_induction tLiftMFrom f ins vs with
  | case1 vs => rfl
  | case2 a vs => rfl
  | case3 a b vs => rfl
  | case4 p q r ps vs ih => simp only [erase, liftMFrom, ih]

/-- the Try-level reading of `LiftMN`: bind the operands left to right, then what `f` returns -/
def liftMDen (ρ : Env) {τ : Ty} (f : List Val → TExpr τ) : List Nat → List Val → St τ
  | [], vs => den ρ (f vs)
  | p :: ps, vs => bindOkS (ρ .val p) (fun v => liftMDen ρ f ps (vs ++ [v]))

/-- **`LiftMN` denotes its do-notation reading at EVERY arity**, the `Flatten ∘ Map2` node included -/
theorem den_tLiftMFrom (ρ : Env) {τ : Ty} (f : List Val → TExpr τ) : ∀ (ins : List Nat) (vs : List Val),
    den ρ (tLiftMFrom f ins vs) = liftMDen ρ f ins vs := by
  intro ins vs
  fun_induction tLiftMFrom f ins vs with
  | case1 vs => rfl
  | case2 a vs => exact den_tLiftM ρ (fun v => f (vs ++ [v])) a
  | case3 a b vs =>
    simp only [den, joinS, liftMDen]
    cases ρ .val a with
    | none => rfl
    | some t =>
      cases t with
      | failure e => rfl
      | success v1 =>
        simp only [bindOkS, List.append_assoc, List.cons_append, List.nil_append]
        cases ρ .val b with
        | none => rfl
        | some t2 => cases t2 <;> rfl
  | case4 p q r ps vs ih => simp only [den, liftMDen, ih]

theorem ho_liftMFrom {τ : Ty} {f : List Val → FExpr} (h : ∀ vs, HO τ (f vs)) (ins : List Nat) (vs : List Val) :
    HO τ (liftMFrom f ins vs) := by
  obtain ⟨f', rfl⟩ := ho_family h
  exact ⟨tLiftMFrom f' ins vs, erase_tLiftMFrom f' ins vs⟩

-- the first-order fragment ---------------------------------------------------------------------------------------------

/-- a first-order program as a typed program of value type (`successfulOf` — not first-order — is mapped to junk) -/
def embed : FExpr → TExpr .val
  | .ref p => .ref .val p
  | .successful v => .successful v
  | .failed e => .failed .val e
  | .successfulOf _ => .failed .val (.code 0)
  | .logged evs e => .logged evs (embed e)
  | .flatMap e k => .flatMap (embed e) (fun v => embed (k v))
  | .transform e f => .transform (embed e) f
  | .transformWith e k => .transformWith (embed e) (fun t => embed (k t))
  | .recoverWith e d k => .recoverWith (embed e) d (fun x => embed (k x))
  | .orFuture e alt => .orFuture (embed e) (embed alt)
  | .apply f => .apply f

theorem erase_embed {b : Nat} {e : FExpr} (h : FO b e) : erase (embed e) = e := by
  induction h with
  | ref p _ => rfl
  | successful v => rfl
  | failed x => rfl
  | logged evs e _ ih => exact congrArg (FExpr.logged evs) ih
  | flatMap e k _ _ ihe ihk => exact congr (congrArg FExpr.flatMap ihe) (funext ihk)
  | transform e f _ ih => exact congrArg (FExpr.transform · f) ih
  | transformWith e k _ _ ihe ihk => exact congr (congrArg FExpr.transformWith ihe) (funext ihk)
  | recoverWith e d k _ _ ihe ihk => exact congr (congrArg (FExpr.recoverWith · d) ihe) (funext ihk)
  | orFuture e alt _ _ ihe iha => exact congr (congrArg FExpr.orFuture ihe) iha
  | apply f => rfl

/-- **every first-order program is in the higher-order fragment** (at value type) -/
theorem fo_ho {b : Nat} {e : FExpr} (h : FO b e) : HO .val e := ⟨embed e, erase_embed h⟩

/-- on first-order programs the denotation over the statuses of a network is the first-order `evalS` -/
theorem den_embed (σ : Nat → Option (Try Val)) {b : Nat} {e : FExpr} (h : FO b e) : den (absE σ) (embed e) = evalS σ e := by
  induction h with
  | ref p _ => simp only [embed, den, evalS]; exact absS_val σ p
  | successful v => rfl
  | failed x => rfl
  | logged evs e _ ih => simp only [embed, den, evalS, ih]
  | flatMap e k _ _ ihe ihk => simp only [embed, den, evalS, ihe, ihk, bindOkS_eq_bindOk]
  | transform e f _ ih => simp only [embed, den, evalS, ih]
  | transformWith e k _ _ ihe ihk => simp only [embed, den, evalS, ihe, ihk, bindTryS_eq_bindTry]
  | recoverWith e d k _ _ ihe ihk =>
    simp only [embed, den, evalS, ihe]
    rw [bindTryS_eq_bindTry]
    congr 1; funext t
    cases t with
    | success v => rfl
    | failure err => simp only [recS, ihk err]
  | orFuture e alt _ _ ihe iha =>
    simp only [embed, den, evalS, ihe]
    rw [bindTryS_eq_bindTry]
    congr 1; funext t
    cases t with
    | success v => rfl
    | failure err => simp only [recS, iha]
  | apply f => rfl

-- handles do not leak ------------------------------------------------------------------------------------------------------

/-- every handle the program refers to is a future of a plain value (hereditarily through user functions) -/
inductive ValRefs : {τ : Ty} → TExpr τ → Prop where
  | ref (p : Nat) : ValRefs (.ref .val p)
  | successful (v : Val) : ValRefs (.successful v)
  | failed (τ : Ty) (e : Err) : ValRefs (.failed τ e)
  | successfulOf {τ : Ty} (e : TExpr τ) : ValRefs e → ValRefs (.successfulOf e)
  | logged {τ : Ty} (evs : List Event) (e : TExpr τ) : ValRefs e → ValRefs (.logged evs e)
  | flatMap {τ : Ty} (e : TExpr .val) (k : Val → TExpr τ) : ValRefs e → (∀ v, ValRefs (k v)) → ValRefs (.flatMap e k)
  | flatten {τ : Ty} (e : TExpr (.fut τ)) : ValRefs e → ValRefs (.flatten e)
  | transform (e : TExpr .val) (f : Try Val → W (Try Val)) : ValRefs e → ValRefs (.transform e f)
  | transformWith {τ : Ty} (e : TExpr .val) (k : Try Val → TExpr τ) : ValRefs e → (∀ t, ValRefs (k t)) →
      ValRefs (.transformWith e k)
  | recoverWith {τ : Ty} (e : TExpr τ) (d : Err → Bool) (k : Err → TExpr τ) : ValRefs e → (∀ x, ValRefs (k x)) →
      ValRefs (.recoverWith e d k)
  | orFuture {τ : Ty} (e alt : TExpr τ) : ValRefs e → ValRefs alt → ValRefs (.orFuture e alt)
  | apply (f : Unit → W (Try Val)) : ValRefs (.apply f)

/-- the environment that knows the Try results of value futures only — no handle is ever looked at -/
def srcE (σ : Nat → Option (Try Val)) : Env
  | .val, p => σ p
  | .fut _, _ => none

/-- the denotation of a program over value futures mentions their Try results only -/
theorem den_valRefs (σ : Nat → Option (Try Val)) {τ : Ty} {t : TExpr τ} (h : ValRefs t) :
    den (absE σ) t = den (srcE σ) t := by
  induction h with
  | ref p => exact absS_val σ p
  | successful v => rfl
  | failed τ e => rfl
  | successfulOf e _ ih => simp only [den, ih]
  | logged evs e _ ih => exact ih
  | flatMap e k _ _ ihe ihk => simp only [den, ihe, ihk]
  | flatten e _ ih => simp only [den, ih]
  | transform e f _ ih => simp only [den, ih]
  | transformWith e k _ _ ihe ihk => simp only [den, ihe, ihk]
  | recoverWith e d k _ _ ihe ihk => simp only [den, ihe, ihk]
  | orFuture e alt _ _ ihe iha => simp only [den, ihe, iha]
  | apply f => rfl

theorem valRefs_tLiftM {τ : Ty} (fa : Val → TExpr τ) (ta : Nat) (h : ∀ v, ValRefs (fa v)) : ValRefs (tLiftM fa ta) :=
  .flatten _ (.flatMap _ _ (.ref ta) (fun v => .successfulOf _ (h v)))

theorem valRefs_embed {b : Nat} {e : FExpr} (h : FO b e) : ValRefs (embed e) := by
  induction h with
  | ref p _ => exact .ref p
  | successful v => exact .successful v
  | failed x => exact .failed _ x
  | logged evs e _ ih => exact .logged _ _ ih
  | flatMap e k _ _ ihe ihk => exact .flatMap _ _ ihe ihk
  | transform e f _ ih => exact .transform _ _ ih
  | transformWith e k _ _ ihe ihk => exact .transformWith _ _ ihe ihk
  | recoverWith e d k _ _ ihe ihk => exact .recoverWith _ _ _ ihe ihk
  | orFuture e alt _ _ ihe iha => exact .orFuture _ _ ihe iha
  | apply f => exact .apply f

end FpVerif.Spec.C06.HO
