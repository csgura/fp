import FpVerif.Lemmas.HamtConv
import FpVerif.Lemmas.HamtOps
/-!
A branch node of either kind seen from one slot `j` (`Slot`, `WF.slot`): its entries are
`A ++ (entries of slot j) ++ B` with `A` and `B` in other slots, and whatever well-formed child is put into
the slot or taken out of it, the node stays well formed and only the middle segment changes.  `get`, `set`
and `delete` are proved along the path of the key's hash (`WF.path_induction`) and never look at the layout
of the children themselves.
-/
namespace FpVerif.Hamt
variable {K V : Type} {h : Hasher K}

theorem forall_mem_mid {α : Type} {P : α → Prop} {L M M' R : List α}
    (hp : ∀ p ∈ L ++ M ++ R, P p) (hp' : ∀ p ∈ M', P p) : ∀ p ∈ L ++ M' ++ R, P p := by
  intro p hm
  simp only [List.mem_append] at hm hp
  rcases hm with (hm | hm) | hm
  · exact hp p (Or.inl (Or.inl hm))
  · exact hp' p hm
  · exact hp p (Or.inr hm)

theorem flat_slot_ne {s j : Nat} {ks : List (Nat × Node K V)}
    (hks : ∀ p ∈ ks, ∀ e ∈ p.2.toList, frag (h.hash e.1) s = p.1) (hj : ∀ p ∈ ks, p.1 ≠ j) :
    ∀ e ∈ flat ks, frag (h.hash e.1) s ≠ j := by
  intro e he
  obtain ⟨p, hp, hep⟩ := mem_flat.mp he
  rw [hks p hp e hep]
  exact hj p hp

/-- A well-formed branch node `n` at shift `s` seen from slot `j`: `o` is the child there, `A` and `B` are
    the entries in the lower and the higher slots. -/
structure Slot (h : Hasher K) (s j : Nat) (n : Node K V) (o : Option (Node K V)) (A B : List (K × V)) :
    Prop where
  wf : WF h s n
  branch : n.isBranch
  read : n.slot j = .ok o
  toList : n.toList = A ++ optList o ++ B
  left : ∀ e ∈ A, frag (h.hash e.1) s ≠ j
  right : ∀ e ∈ B, frag (h.hash e.1) s ≠ j
  childWF : ∀ c, o = some c → WF h (s + 5) c
  childSlot : ∀ e ∈ optList o, frag (h.hash e.1) s = j
  childLt : ∀ c, o = some c → sizeOf c < sizeOf n
  put : ∀ c', WF h (s + 5) c' → (∀ e ∈ c'.toList, frag (h.hash e.1) s = j) →
    ∃ n', n.putChild j c' = .ok n' ∧ WF h s n' ∧ n'.isBranch ∧ n'.toList = A ++ c'.toList ++ B
  dropNone : o.isSome = true → n.dropChild j = none → A = [] ∧ B = []
  dropSome : o.isSome = true → ∀ n', n.dropChild j = some n' → WF h s n' ∧ n'.toList = A ++ B

theorem Slot.of_hashArray {s cnt j : Nat} {ns : List (Option (Node K V))} (hj : j < 32)
    (hwf : WF h s (.hashArray cnt ns)) : ∃ o A B, ns[j]? = some o ∧ Slot h s j (.hashArray cnt ns) o A B := by
  have hwf0 := hwf
  cases hwf with
  | hashArray hs hlen hcnt h16 hkw hks =>
  obtain ⟨SL, o, SR, hsl, hSL, hsget⟩ := hashArray_split hj hlen
  have hkidsAt : ∀ o', kidsH (ns.set j o') = fmH (List.zip (List.range j) SL) ++
      (o'.map (fun c => (j, c))).toList ++ fmH (List.zip (List.range' (j + 1) (31 - j)) SR) := by
    intro o'
    rw [hsl, set_split hSL]
    exact kidsH_cons hj o' hSL
  have hself : ns.set j o = ns := by
    rw [hsl, set_split hSL]
  have hkids := hself ▸ hkidsAt o
  have hcount : ∀ o', countSome (ns.set j o') =
      countSome SL + (if o'.isSome then 1 else 0) + countSome SR := by
    intro o'
    rw [hsl, set_split hSL]
    exact countSome_split SL SR o'
  have hcnt0 := hcnt.trans (hself ▸ hcount o)
  have hlen2 : ∀ o', (ns.set j o').length = 32 := by
    intro o'
    rw [List.length_set]
    exact hlen
  rw [hkids] at hkw hks
  have hL : ∀ p ∈ fmH (List.zip (List.range j) SL), p.1 ≠ j := fun p hp => Nat.ne_of_lt (fmH_lo_slot hp)
  have hR : ∀ p ∈ fmH (List.zip (List.range' (j + 1) (31 - j)) SR), p.1 ≠ j :=
    fun p hp => Nat.ne_of_gt (fmH_hi_slot hp).1
  have hmem : ∀ c, o = some c → (j, c) ∈ fmH (List.zip (List.range j) SL) ++
      (o.map (fun c => (j, c))).toList ++ fmH (List.zip (List.range' (j + 1) (31 - j)) SR) := by
    intro c hc
    rw [hc]
    simp
  refine ⟨o, flat (fmH (List.zip (List.range j) SL)), flat (fmH (List.zip (List.range' (j + 1) (31 - j)) SR)),
    hsget, ?_⟩
  exact {
    wf := hwf0
    branch := trivial
    read := by
      simp only [Node.slot, hsget]
      rfl
    toList := by
      rw [toList_hashArray_flat hlen, hkids]
      cases o <;> simp
    left := flat_slot_ne (fun p hp => hks p (List.mem_append_left _ (List.mem_append_left _ hp))) hL
    right := flat_slot_ne (fun p hp => hks p (List.mem_append_right _ hp)) hR
    childWF := fun c hc => hkw _ (hmem c hc)
    childSlot := fun e he => by
      cases o with
      | none => cases he
      | some c => exact hks _ (hmem c rfl) e he
    childLt := fun c hc => Node.sizeOf_hashArray_child (hc ▸ hsget)
    put := fun c' hw' hs' => by
      refine ⟨_, rfl, WF.hashArray hs (hlen2 _) ?_ ?_ ?_ ?_, trivial, ?_⟩
      · rw [hcount, hsget]
        cases o with
        | none =>
          rw [hcnt0]
          exact Nat.add_right_comm _ _ _
        | some _ => exact hcnt0
      · rw [hsget]
        cases o with
        | none => exact Nat.le_succ_of_le h16
        | some _ => exact h16
      · rw [hkidsAt]
        exact forall_mem_mid hkw (List.forall_mem_singleton.mpr hw')
      · rw [hkidsAt]
        exact forall_mem_mid hks (List.forall_mem_singleton.mpr hs')
      · rw [toList_hashArray_flat (hlen2 _), hkidsAt]
        simp
    dropNone := fun _ hd => by
      simp only [Node.dropChild] at hd
      split at hd <;> cases hd
    dropSome := fun ho n' hd => by
      simp only [Node.dropChild] at hd
      split at hd
      · rename_i hsmall
        cases hd
        obtain ⟨bm', ns', hconv, hb', hl', hk'⟩ := hashArrayToBitmap_spec hlen j
        rw [hconv]
        dsimp only
        rw [hkidsAt] at hk'
        have hnl : ns'.length + 1 = cnt := by
          rw [← length_kidsB hl', hk', ← hkidsAt, length_kidsH (hlen2 _), hcount, hcnt0, ho]
          simp
          omega
        unfold maxBitmapIndexedSize at h16 hsmall
        refine ⟨WF.bitmap hs hb' hl' (by omega) (by unfold maxBitmapIndexedSize; omega) ?_ ?_, ?_⟩
        · rw [hk']
          exact forall_mem_mid hkw (fun _ hp => nomatch hp)
        · rw [hk']
          exact forall_mem_mid hks (fun _ hp => nomatch hp)
        · rw [toList_bitmap_flat hl', hk']
          simp
      · rename_i hbig
        cases hd
        refine ⟨WF.hashArray hs (hlen2 _) ?_ (by omega) ?_ ?_, ?_⟩
        · rw [hcount, hcnt0, ho]
          simp
        · rw [hkidsAt]
          exact forall_mem_mid hkw (fun _ hp => nomatch hp)
        · rw [hkidsAt]
          exact forall_mem_mid hks (fun _ hp => nomatch hp)
        · rw [toList_hashArray_flat (hlen2 _), hkidsAt]
          simp }


/-- slot `j` of a bitmap node, bit set: the child sits at index `rank bm j` -/
theorem Slot.of_bitmap_hit {s bm j : Nat} {ns : List (Node K V)} (hj : j < 32)
    (hwf : WF h s (.bitmap bm ns)) (ht : bm.testBit j = true) :
    ∃ c A B, Slot h s j (.bitmap bm ns) (some c) A B := by
  have hwf0 := hwf
  cases hwf with
  | bitmap hs hb hlen h1 h17 hkw hks =>
  obtain ⟨NL, c, NR, hns, hNL, hNR, hget, hrank⟩ := bitmap_split hj ht hlen
  have hkids : kidsB bm ns = List.zip (lo bm j) NL ++ [(j, c)] ++ List.zip (hi bm j) NR := by
    unfold kidsB
    rw [hns, bitsOf_of_testBit hj ht, List.zip_append hNL.symm, List.append_assoc]
    rfl
  have hlenN : ns.length = NL.length + NR.length + 1 := by
    rw [hns, List.length_append, List.length_cons]
    rfl
  rw [hkids] at hkw hks
  have hL : ∀ p ∈ List.zip (lo bm j) NL, p.1 ≠ j := fun p hp => Nat.ne_of_lt (zip_lo_slot hp)
  have hR : ∀ p ∈ List.zip (hi bm j) NR, p.1 ≠ j := fun p hp => Nat.ne_of_gt (zip_hi_slot hp).1
  have hmem : (j, c) ∈ List.zip (lo bm j) NL ++ [(j, c)] ++ List.zip (hi bm j) NR :=
    List.mem_append_left _ (List.mem_append_right _ (List.mem_singleton.mpr rfl))
  refine ⟨c, flat (List.zip (lo bm j) NL), flat (List.zip (hi bm j) NR), ?_⟩
  exact {
    wf := hwf0
    branch := trivial
    read := by
      simp only [Node.slot, ht, if_true, hget]
      rfl
    toList := by
      rw [toList_bitmap_flat hlen, hkids]
      simp
    left := flat_slot_ne (fun p hp => hks p (List.mem_append_left _ (List.mem_append_left _ hp))) hL
    right := flat_slot_ne (fun p hp => hks p (List.mem_append_right _ hp)) hR
    childWF := fun c0 hc0 => Option.some.inj hc0 ▸ hkw _ hmem
    childSlot := hks _ hmem
    childLt := fun c0 hc0 => Option.some.inj hc0 ▸ Node.sizeOf_bitmap_child hget
    put := fun c' hw' hs' => by
      have hlen' : (ns.set (rank bm j) c').length = popCount bm := by
        rw [List.length_set]
        exact hlen
      have hkids' : kidsB bm (ns.set (rank bm j) c') =
          List.zip (lo bm j) NL ++ [(j, c')] ++ List.zip (hi bm j) NR := by
        unfold kidsB
        rw [hns, set_split hrank, bitsOf_of_testBit hj ht, List.zip_append hNL.symm, List.append_assoc]
        rfl
      refine ⟨_, if_pos ht, WF.bitmap hs hb hlen' ?_ ?_ ?_ ?_, trivial, ?_⟩
      · rw [List.length_set]
        exact h1
      · rw [List.length_set]
        exact h17
      · rw [hkids']
        exact forall_mem_mid hkw (List.forall_mem_singleton.mpr hw')
      · rw [hkids']
        exact forall_mem_mid hks (List.forall_mem_singleton.mpr hs')
      · rw [toList_bitmap_flat hlen', hkids']
        simp
    dropNone := fun _ hd => by
      simp only [Node.dropChild] at hd
      split at hd
      · rename_i hone
        obtain ⟨hl0, hr0⟩ := Nat.add_eq_zero_iff.mp (Nat.succ.inj (hlenN.symm.trans (beq_iff_eq.mp hone)))
        rw [List.eq_nil_of_length_eq_zero hl0, List.eq_nil_of_length_eq_zero hr0, List.zip_nil_right,
          List.zip_nil_right]
        exact ⟨rfl, rfl⟩
      · cases hd
    dropSome := fun _ n' hd => by
      simp only [Node.dropChild] at hd
      split at hd
      · cases hd
      · rename_i hne
        cases hd
        have hne : ns.length ≠ 1 := fun e => hne (beq_iff_eq.mpr e)
        have hnn : ns.take (rank bm j) ++ ns.drop (rank bm j + 1) = NL ++ NR := by
          rw [← hrank, hns]
          simp
        have hlen' : (NL ++ NR).length = popCount (bm ^^^ 1 <<< j) := by
          rw [List.length_append]
          apply Nat.succ.inj
          rw [Nat.succ_eq_add_one, Nat.succ_eq_add_one, ← hlenN, hlen, popCount_xor_bit hj ht]
        have hkids' : kidsB (bm ^^^ 1 <<< j) (NL ++ NR) =
            List.zip (lo bm j) NL ++ [] ++ List.zip (hi bm j) NR := by
          unfold kidsB
          rw [bitsOf_xor_bit hj ht, List.zip_append hNL.symm, List.append_nil]
        rw [hnn]
        refine ⟨WF.bitmap hs (xor_bit_lt hb hj) hlen' ?_ ?_ ?_ ?_, ?_⟩
        · rw [List.length_append]
          omega
        · rw [List.length_append]
          omega
        · rw [hkids']
          exact forall_mem_mid hkw (fun _ hp => nomatch hp)
        · rw [hkids']
          exact forall_mem_mid hks (fun _ hp => nomatch hp)
        · rw [toList_bitmap_flat hlen', hkids']
          simp }

/-- slot `j` of a bitmap node, bit unset: a new child goes in at index `rank bm j`, or, the node being full,
    into slot `j` of the hash-array node it is rebuilt as -/
theorem Slot.of_bitmap_miss {s bm j : Nat} {ns : List (Node K V)} (hj : j < 32)
    (hwf : WF h s (.bitmap bm ns)) (ht : bm.testBit j = false) :
    ∃ A B, Slot h s j (.bitmap bm ns) none A B := by
  have hwf0 := hwf
  have hslot : (Node.bitmap bm ns).slot j = .ok none := by
    simp only [Node.slot, ht, Bool.false_eq_true, if_false]
    rfl
  cases hwf with
  | bitmap hs hb hlen h1 h17 hkw hks =>
  by_cases hbig : ns.length > maxBitmapIndexedSize
  · obtain ⟨slots, hconv, hslen, hskids, hscnt⟩ := bitmapToHashArray_spec hlen
    rw [← hskids] at hkw hks
    obtain ⟨o, A, B, hget, hv⟩ := Slot.of_hashArray hj
      (WF.hashArray hs hslen hscnt.symm (Nat.le_of_lt hbig) hkw hks : WF h s (.hashArray ns.length slots))
    have ho : o = none := by
      cases o with
      | none => rfl
      | some c0 =>
        have hm := mem_of_getElem?_kidsH hslen hget
        rw [hskids] at hm
        have := (mem_bitsOf.mp (mem_zip_fst hm)).2
        rw [ht] at this
        cases this
    subst ho
    refine ⟨A, B, ?_⟩
    exact {
      wf := hwf0
      branch := trivial
      read := hslot
      toList := by
        rw [toList_bitmap_flat hlen, ← hskids, ← toList_hashArray_flat hslen (cnt := ns.length), hv.toList]
      left := hv.left
      right := hv.right
      childWF := nofun
      childSlot := nofun
      childLt := nofun
      put := fun c' hw' hs' => by
        obtain ⟨n', hput, hrest⟩ := hv.put c' hw' hs'
        refine ⟨n', ?_, hrest⟩
        rw [← hput]
        simp only [Node.putChild, ht, Bool.false_eq_true, if_false, if_pos hbig, hconv, hget]
        rfl
      dropNone := nofun
      dropSome := nofun }
  · obtain ⟨NL, NR, hns, hNL, hNR, htake, hdrop⟩ := bitmap_split0 hj ht hlen
    have hkids : kidsB bm ns = List.zip (lo bm j) NL ++ [] ++ List.zip (hi bm j) NR := by
      unfold kidsB
      rw [hns, bitsOf_of_not_testBit hj ht, List.zip_append hNL.symm, List.append_nil]
    rw [hkids] at hkw hks
    have hL : ∀ p ∈ List.zip (lo bm j) NL, p.1 ≠ j := fun p hp => Nat.ne_of_lt (zip_lo_slot hp)
    have hR : ∀ p ∈ List.zip (hi bm j) NR, p.1 ≠ j := fun p hp => Nat.ne_of_gt (zip_hi_slot hp).1
    refine ⟨flat (List.zip (lo bm j) NL), flat (List.zip (hi bm j) NR), ?_⟩
    exact {
      wf := hwf0
      branch := trivial
      read := hslot
      toList := by
        rw [toList_bitmap_flat hlen, hkids]
        simp
      left := flat_slot_ne (fun p hp => hks p (List.mem_append_left _ (List.mem_append_left _ hp))) hL
      right := flat_slot_ne (fun p hp => hks p (List.mem_append_right _ hp)) hR
      childWF := nofun
      childSlot := nofun
      childLt := nofun
      put := fun c hw hsl => by
        have hl2 : (NL ++ c :: NR).length = ns.length + 1 := by
          rw [hns]
          simp only [List.length_append, List.length_cons]
          omega
        have hlen' : (NL ++ c :: NR).length = popCount (bm ||| 1 <<< j) := by
          rw [popCount_or_bit hj ht, ← hlen]
          exact hl2
        have hkids' : kidsB (bm ||| 1 <<< j) (NL ++ c :: NR) =
            List.zip (lo bm j) NL ++ [(j, c)] ++ List.zip (hi bm j) NR := by
          unfold kidsB
          rw [bitsOf_or_bit hj, List.zip_append hNL.symm, List.append_assoc]
          rfl
        refine ⟨_, (if_neg (by rw [ht]; exact Bool.false_ne_true)).trans (if_neg hbig), ?_, trivial, ?_⟩
        · rw [htake, hdrop]
          refine WF.bitmap hs (or_bit_lt hb hj) hlen' (by omega) (by omega) ?_ ?_
          · rw [hkids']
            exact forall_mem_mid hkw (List.forall_mem_singleton.mpr hw)
          · rw [hkids']
            exact forall_mem_mid hks (List.forall_mem_singleton.mpr hsl)
        · rw [htake, hdrop, toList_bitmap_flat hlen', hkids']
          simp
      dropNone := nofun
      dropSome := nofun }

theorem WF.slot {s j : Nat} {n : Node K V} (hwf : WF h s n) (hb : n.isBranch) (hj : j < 32) :
    ∃ o A B, Slot h s j n o A B := by
  cases n with
  | array _ | value _ _ _ | collision _ _ => exact hb.elim
  | hashArray cnt os =>
    obtain ⟨o, A, B, -, hv⟩ := Slot.of_hashArray hj hwf
    exact ⟨o, A, B, hv⟩
  | bitmap bm ns =>
    cases ht : bm.testBit j with
    | true =>
      obtain ⟨c, hv⟩ := Slot.of_bitmap_hit hj hwf ht
      exact ⟨_, hv⟩
    | false => exact ⟨_, Slot.of_bitmap_miss hj hwf ht⟩


/-- Induction along the path of the hash `kh` through a well-formed trie: a leaf, or a branch node seen from
    the slot of `kh`'s fragment, with the statement for the child in that slot. -/
@[elab_as_elim]
theorem WF.path_induction (kh : UInt32) {motive : Nat → Node K V → Prop}
    (leaf : ∀ {s n}, WF h s n → ¬ n.isBranch → motive s n)
    (branch : ∀ {s n o A B}, Slot h s (frag kh s) n o A B → (∀ c, o = some c → motive (s + 5) c) → motive s n) :
    ∀ {n : Node K V} {s : Nat}, WF h s n → motive s n := by
  intro n
  induction hn : sizeOf n using Nat.strongRecOn generalizing n with
  | _ m ih =>
    intro s hwf
    by_cases hb : n.isBranch
    · obtain ⟨o, A, B, hv⟩ := hwf.slot hb (frag_lt kh s)
      exact branch hv fun c hc => ih _ (hn ▸ hv.childLt c hc) rfl (hv.childWF c hc)
    · exact leaf hwf hb

end FpVerif.Hamt
