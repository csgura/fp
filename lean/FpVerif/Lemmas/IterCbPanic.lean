import FpVerif.Lemmas.IterComb
import FpVerif.Lemmas.RefFolds
/-!
# Callbacks INSIDE a pipeline that panic or log (audit finding 12)

`Lemmas/RefFolds.lean` has the references for a TERMINAL operation whose callback panics.  Here the
callback of `Map`, `Filter`, `TakeWhile`, `FlatMap` may panic: `Outcome f g` (`Lemmas/IterSim.lean`) says
that `f a` logs whatever it likes and then returns or panics as `g a : Except PanicVal _` says.  The iterator below
the combinator is any machine with a simulation `Sim m R` (so: any pipeline of `Spec/C12`).
-/
namespace FpVerif.It
variable {σ α β : Type}

/-! ## Find / Filter -/

/-- `C12.filter_hasNext_panic` over any simulation `R` of the iterator below, from any `fv`; `d1` is what `Find` pulled. -/
theorem filter_hasNext_first {p : α → GoM Bool} {g : α → Except PanicVal Bool} (hp : Outcome p g) {m : Machine σ α}
    {R : σ → List α → List α → Prop} (hS : Sim m R) (fuel : Nat) (s : σ) (fv0 : Option α) (d r : List α) (lg : Log)
    (hf : r.length < fuel) (hR : R s d r) :
    ∃ s' lg' d1, R s' (d ++ d1) (findE g r).2 ∧ d1 ++ (findE g r).2 = r ∧
      (filter fuel p m).hasNext (s, { first := true, fv := fv0 }) lg =
        match (findE g r).1 with
        | .ok fv => (.ok fv.isSome, (s', { first := false, fv := fv }), lg')
        | .error q => (.error q, (s', { first := true, fv := fv0 }), lg') := by
  obtain ⟨s', lg', d1, h1, hR1, hd⟩ := find_pspec hp hS r fuel s d lg hf hR
  refine ⟨s', lg', d1, hR1, hd, ?_⟩
  rcases hr : (findE g r).1 with q | fv
  · rw [hr] at h1
    simp [filter, bind_apply, onFst_eq _ h1]
  · rw [hr] at h1
    simp [filter, bind_apply, onFst_eq _ h1]

/-- `C12.filter_next_panic` over any simulation `R` of the iterator below; `d1` is what `Find` pulled. -/
theorem filter_next_lookahead {p : α → GoM Bool} {g : α → Except PanicVal Bool} (hp : Outcome p g) {m : Machine σ α}
    {R : σ → List α → List α → Prop} (hS : Sim m R) (fuel : Nat) (s : σ) (ret : α) (d r : List α) (lg : Log)
    (hf : r.length < fuel) (hR : R s d r) :
    ∃ s' lg' d1, R s' (d ++ d1) (findE g r).2 ∧ d1 ++ (findE g r).2 = r ∧
      (filter fuel p m).next (s, { first := false, fv := some ret }) lg =
        match (findE g r).1 with
        | .ok fv => (.ok ret, (s', { first := false, fv := fv }), lg')
        | .error q => (.error q, (s', { first := false, fv := some ret }), lg') := by
  obtain ⟨s', lg', d1, h1, hR1, hd⟩ := find_pspec hp hS r fuel s d lg hf hR
  refine ⟨s', lg', d1, hR1, hd, ?_⟩
  rcases hr : (findE g r).1 with q | fv
  · rw [hr] at h1
    simp [filter, bind_apply, onFst_eq _ h1]
  · rw [hr] at h1
    simp [filter, bind_apply, onFst_eq _ h1]

/-! ## Map: the complete behaviour under any script, with the log -/

/-- the callback logs exactly `ev a` and then returns / panics as `g a` says -/
def Logs (f : α → GoM β) (g : α → Except PanicVal β) (ev : α → List Event) : Prop :=
  ∀ a lg, (f a).run.run lg = (g a, lg ++ ev a)

theorem Logs.outcome {f : α → GoM β} {g : α → Except PanicVal β} {ev : α → List Event} (h : Logs f g ev) :
    Outcome f g := fun a lg => ⟨_, h a lg⟩

/-- satisfiable: log, then panic on the bad elements -/
theorem logs_example (t : α → Event) (bad : α → Bool) (q : PanicVal) (h : α → β) :
    Logs (fun a => (do emit (t a); if bad a then throw q else pure (h a) : GoM β))
      (fun a => if bad a then .error q else .ok (h a)) (fun a => [t a]) := by
  intro a lg
  by_cases hb : bad a = true
  · simp only [hb, if_true]; rfl
  · simp only [hb]; rfl

def outcomeObs : Except PanicVal β → Obs β
  | .ok b => .val b
  | .error q => .panic q

/-- what a script observes on `Map(f)` over the list `r` when `f` behaves as `g`: a panicking
    element yields `panic` and IS consumed -/
def mapSpecObs (g : α → Except PanicVal β) : List Call → List α → List (Obs β)
  | [], _ => []
  | .H :: cs, r => .has (!r.isEmpty) :: mapSpecObs g cs r
  | .N :: cs, [] => .panic nextOnEmpty :: mapSpecObs g cs []
  | .N :: cs, a :: r => outcomeObs (g a) :: mapSpecObs g cs r

/-- the events of the run: for every element pulled, the source's tag event (if instrumented),
    then the callback's events — in pull order -/
def mapSpecLog (tagEv : α → List Event) (ev : α → List Event) : List Call → List α → List Event
  | [], _ => []
  | .H :: cs, r => mapSpecLog tagEv ev cs r
  | .N :: cs, [] => mapSpecLog tagEv ev cs []
  | .N :: cs, a :: r => tagEv a ++ ev a ++ mapSpecLog tagEv ev cs r

/-- `C12.map_log_pull_order` from any position `idx` of the slice. -/
theorem map_ofSeq_script {f : α → GoM β} {g : α → Except PanicVal β} {ev : α → List Event} (hf : Logs f g ev)
    (tag : Option (α → Event)) (xs : List α) :
    ∀ (cs : List Call) (idx : Nat) (lg : Log), idx ≤ xs.length →
      runScript (map f (ofSeq tag xs)) cs idx lg =
        (mapSpecObs g cs (xs.drop idx),
          xs.length - (specRest cs (xs.drop idx)).length,
          lg ++ mapSpecLog (tagEvs tag) ev cs (xs.drop idx)) := by
  intro cs
  induction cs with
  | nil => intro idx lg hi; simp [runScript, mapSpecObs, mapSpecLog, specRest]; omega
  | cons c cs ih =>
    intro idx lg hi
    cases c with
    | H =>
      have h1 : (map f (ofSeq tag xs)).hasNext idx lg = _ := ofSeq_hasNext tag xs idx lg
      simp only [runScript, runCall, h1, ih idx lg hi, mapSpecObs, mapSpecLog, specRest]
    | N =>
      cases hd : xs.drop idx with
      | nil =>
        have h1 : (map f (ofSeq tag xs)).next idx lg = (.error nextOnEmpty, idx, lg) := bind_err (ofSeq_next_nil tag lg hd)
        have := ih idx lg hi
        rw [hd] at this
        simp only [runScript, runCall, h1, this, mapSpecObs, mapSpecLog, specRest]
      | cons a r =>
        obtain ⟨h0, hlt, hr, -⟩ := ofSeq_next_cons tag lg hd
        have h1 : (map f (ofSeq tag xs)).next idx lg = (g a, idx + 1, lg ++ tagEvs tag a ++ ev a) := by
          simp only [map, bind_ok h0, IM.liftG, hf a (lg ++ tagEvs tag a)]
        have := ih (idx + 1) (lg ++ tagEvs tag a ++ ev a) hlt
        rw [hr] at this
        simp only [List.append_assoc] at this h1
        rcases hg : g a with q | b
        · rw [hg] at h1
          simp only [runScript, runCall, h1, this, mapSpecObs, mapSpecLog, specRest, hg, outcomeObs, List.append_assoc]
        · rw [hg] at h1
          simp only [runScript, runCall, h1, this, mapSpecObs, mapSpecLog, specRest, hg, outcomeObs, List.append_assoc]

/-- `C12.map_next_panic` over any simulation `R` of the iterator below. -/
theorem map_next_outcome {f : α → GoM β} {g : α → Except PanicVal β} (hf : Outcome f g) {m : Machine σ α}
    {R : σ → List α → List α → Prop} (hS : Sim m R) (s : σ) (d : List α) (a : α) (r : List α) (lg : Log)
    (hR : R s d (a :: r)) :
    ∃ s' lg', (map f m).next s lg = (g a, s', lg') ∧ R s' (d ++ [a]) r := by
  obtain ⟨s1, lg1, h1, hR1⟩ := hS.next_cons s d a r lg hR
  obtain ⟨lg2, h2⟩ := liftG_outcome hf a s1 lg1
  exact ⟨s1, lg2, by simp [map, bind_ok h1, h2], hR1⟩

/-- two observations agree; only the message of a `Next` on the exhausted iterator is left open
    (it is the underlying iterator's) -/
def ObsAgree (o o' : Obs β) : Prop := o = o' ∨ (∃ q, o = .panic q ∧ o' = .panic nextOnEmpty)

def ObsAgreeL : List (Obs β) → List (Obs β) → Prop
  | [], [] => True
  | o :: os, o' :: os' => ObsAgree o o' ∧ ObsAgreeL os os'
  | _, _ => False

/-! ## FlatMap -/

/-- `C12.flatMap_hasNext_cb_panic` over any simulation `R` of the iterator below. -/
theorem flatMap_hasNext_panic {τ : Type} {mf : α → GoM τ} {gm : α → Except PanicVal τ} (hmf : Outcome mf gm)
    (inner : Machine τ β) {m : Machine σ α} {R : σ → List α → List α → Prop} (hS : Sim m R) (fuel : Nat)
    (s : σ) (d : List α) (a : α) (r : List α) (lg : Log) (q : PanicVal) (hR : R s d (a :: r)) (hq : gm a = .error q) :
    ∃ s' lg', (flatMap (fuel + 1) mf inner m).hasNext (s, none) lg = (.error q, (s', none), lg') ∧ R s' (d ++ [a]) r := by
  obtain ⟨s1, lg1, h1, hR1⟩ := hS.hasNext s d (a :: r) lg hR
  obtain ⟨s2, lg2, h2, hR2⟩ := hS.next_cons s1 d a r lg1 hR1
  obtain ⟨lg3, h3⟩ := liftG_outcome hmf a (s2, (none : Option τ)) lg2
  rw [hq] at h3
  simp only [List.isEmpty_cons, Bool.not_false] at h1
  refine ⟨s2, lg3, ?_, hR2⟩
  have hc : (IM.onSnd (onCurrent (pure false) inner.hasNext) : IM (σ × Option τ) Bool) (s, none) lg = (.ok false, (s, none), lg) := rfl
  simp [flatMap, flatMapLoop, bind_apply, hc, onFst_eq _ h1, onFst_eq _ h2, h3]

/-! ## Filter: the complete behaviour under any script, predicate panicking -/

/-- what the captured variables of `Filter` mean: `none` = before the first look-ahead (`first`),
    `some fv` = the look-ahead is `fv` -/
def filterMode (c : FilterSt α) : Option (Option α) := if c.first then none else some c.fv

/-- `Next` with look-ahead `ret`: search the next look-ahead first; a panic there keeps `ret` -/
def lookNext (g : α → Except PanicVal Bool) (ret : α) (r : List α) : Obs α × Option (Option α) × List α :=
  match (findE g r).1 with
  | .ok fv => (.val ret, some fv, (findE g r).2)
  | .error q => (.panic q, some (some ret), (findE g r).2)

/-- reference for ONE call on `Filter(p)` over the list `r` -/
def filterStep (g : α → Except PanicVal Bool) : Call → Option (Option α) → List α → Obs α × Option (Option α) × List α
  | .H, none, r =>
    match (findE g r).1 with
    | .ok fv => (.has fv.isSome, some fv, (findE g r).2)
    | .error q => (.panic q, none, (findE g r).2)
  | .H, some fv, r => (.has fv.isSome, some fv, r)
  | .N, some none, r => (.panic nextOnEmpty, some none, r)
  | .N, some (some ret), r => lookNext g ret r
  | .N, none, r =>
    match (findE g r).1 with
    | .error q => (.panic q, none, (findE g r).2)
    | .ok none => (.panic nextOnEmpty, some none, (findE g r).2)
    | .ok (some ret) => lookNext g ret (findE g r).2

/-- reference for a script -/
def filterSpec (g : α → Except PanicVal Bool) : List Call → Option (Option α) → List α → List (Obs α) × Option (Option α) × List α
  | [], md, r => ([], md, r)
  | c :: cs, md, r =>
    ((filterStep g c md r).1 :: (filterSpec g cs (filterStep g c md r).2.1 (filterStep g c md r).2.2).1,
      (filterSpec g cs (filterStep g c md r).2.1 (filterStep g c md r).2.2).2)

theorem findE_length_le (g : α → Except PanicVal Bool) (r : List α) : (findE g r).2.length ≤ r.length := by
  obtain ⟨d1, h⟩ := findE_suffix g r
  have := congrArg List.length h
  simp only [List.length_append] at this
  omega

/-- ONE call on `Filter(p)`, `p` panicking where `g` says so, over any iterator below: observation, captured
    variables (through `filterMode`) and the list the iterator below represents are the reference's (`filterStep`).
    A call runs `Find` at most twice (`Next` before the first look-ahead: for the element, then for the look-ahead). -/
theorem filter_call_spec {p : α → GoM Bool} {g : α → Except PanicVal Bool} (hp : Outcome p g) {m : Machine σ α}
    {R : σ → List α → List α → Prop} (hS : Sim m R) (fuel : Nat) (c : Call) (s : σ) (cst : FilterSt α) (d r : List α) (lg : Log)
    (hf : r.length < fuel) (hR : R s d r) :
    (runCall (filter fuel p m) c (s, cst) lg).1 = (filterStep g c (filterMode cst) r).1 ∧
    filterMode (runCall (filter fuel p m) c (s, cst) lg).2.1.2 = (filterStep g c (filterMode cst) r).2.1 ∧
    (∃ d', R (runCall (filter fuel p m) c (s, cst) lg).2.1.1 d' (filterStep g c (filterMode cst) r).2.2) ∧
    (filterStep g c (filterMode cst) r).2.2.length ≤ r.length := by
  obtain ⟨s1, lg1, d1, h1, hR1, -⟩ := find_pspec hp hS r fuel s d lg hf hR
  have hl1 := findE_length_le g r
  obtain ⟨s2, lg2, d2, h2, hR2, -⟩ := find_pspec hp hS (findE g r).2 fuel s1 (d ++ d1) lg1 (by omega) hR1
  have hl2 := findE_length_le g (findE g r).2
  rcases cst with ⟨_ | _, fv0⟩
  · -- a look-ahead exists: `HasNext` answers from it, `Next` hands it out and searches the next one
    cases c with
    | H => exact ⟨rfl, rfl, ⟨d, hR⟩, Nat.le_refl _⟩
    | N =>
      cases fv0 with
      | none => exact ⟨rfl, rfl, ⟨d, hR⟩, Nat.le_refl _⟩
      | some ret =>
        rcases hr : (findE g r).1 with q | fv <;> rw [hr] at h1
        · simp [runCall, filter, bind_apply, onFst_eq _ h1, filterStep, filterMode, lookNext, hr]
          exact ⟨⟨_, hR1⟩, hl1⟩
        · simp [runCall, filter, bind_apply, onFst_eq _ h1, filterStep, filterMode, lookNext, hr]
          exact ⟨⟨_, hR1⟩, hl1⟩
  · -- before the first look-ahead: both calls search first
    rcases hr : (findE g r).1 with q | fv <;> rw [hr] at h1
    · cases c
      · simp [runCall, filter, bind_apply, onFst_eq _ h1, filterStep, filterMode, hr]
        exact ⟨⟨_, hR1⟩, hl1⟩
      · simp [runCall, filter, bind_apply, onFst_eq _ h1, filterStep, filterMode, hr]
        exact ⟨⟨_, hR1⟩, hl1⟩
    · cases c with
      | H =>
        simp [runCall, filter, bind_apply, onFst_eq _ h1, filterStep, filterMode, hr]
        exact ⟨⟨_, hR1⟩, hl1⟩
      | N =>
        cases fv with
        | none =>
          simp [runCall, filter, bind_apply, onFst_eq _ h1, filterStep, filterMode, hr]
          exact ⟨⟨_, hR1⟩, hl1⟩
        | some ret =>
          -- the element is there; the search for the next look-ahead runs in the same call
          rcases hr2 : (findE g (findE g r).2).1 with q | fv2 <;> rw [hr2] at h2
          · simp [runCall, filter, bind_apply, onFst_eq _ h1, onFst_eq _ h2, filterStep, filterMode, lookNext, hr, hr2]
            exact ⟨⟨_, hR2⟩, by omega⟩
          · simp [runCall, filter, bind_apply, onFst_eq _ h1, onFst_eq _ h2, filterStep, filterMode, lookNext, hr, hr2]
            exact ⟨⟨_, hR2⟩, by omega⟩

/-- `C12.filter_script_panic` over any simulation `R` of the iterator below, from any captured variables `cst`. -/
theorem filter_outcome_script {p : α → GoM Bool} {g : α → Except PanicVal Bool} (hp : Outcome p g) {m : Machine σ α}
    {R : σ → List α → List α → Prop} (hS : Sim m R) (fuel : Nat) :
    ∀ (cs : List Call) (s : σ) (cst : FilterSt α) (d r : List α) (lg : Log), r.length < fuel → R s d r →
      (runScript (filter fuel p m) cs (s, cst) lg).1 = (filterSpec g cs (filterMode cst) r).1 ∧
      filterMode (runScript (filter fuel p m) cs (s, cst) lg).2.1.2 = (filterSpec g cs (filterMode cst) r).2.1 ∧
      ∃ d', R (runScript (filter fuel p m) cs (s, cst) lg).2.1.1 d' (filterSpec g cs (filterMode cst) r).2.2 := by
  intro cs
  induction cs with
  | nil => intro s cst d r lg _ hR; exact ⟨rfl, rfl, d, hR⟩
  | cons c cs ih =>
    intro s cst d r lg hf hR
    obtain ⟨ho, hm, ⟨d1, hR1⟩, hlen⟩ := filter_call_spec hp hS fuel c s cst d r lg hf hR
    obtain ⟨h1, h2, h3⟩ := ih _ _ d1 _ (runCall (filter fuel p m) c (s, cst) lg).2.2 (by omega) hR1
    rw [hm] at h1 h2 h3
    rw [runScript_cons]
    exact ⟨by simp only [filterSpec, h1, ho], by simpa only [filterSpec] using h2, by simpa only [filterSpec] using h3⟩

/-! ## TakeWhile: the complete behaviour under any script, predicate panicking -/

/-- `C12.takeWhile_hasNext_panic` over any simulation `R` of the iterator below. -/
theorem takeWhile_hasNext_outcome {p : α → GoM Bool} {g : α → Except PanicVal Bool} (hp : Outcome p g) {m : Machine σ α}
    {R : σ → List α → List α → Prop} (hS : Sim m R) (s : σ) (d : List α) (a : α) (r : List α) (lg : Log)
    (hR : R s d (a :: r)) :
    ∃ s' lg', R s' (d ++ [a]) r ∧
      (takeWhile p m).hasNext (s, {}) lg =
        match g a with
        | .ok true => (.ok true, (s', { breaking := false, fv := some a }), lg')
        | .ok false => (.ok false, (s', { breaking := true, fv := none }), lg')
        | .error q => (.error q, (s', {}), lg') := by
  obtain ⟨s1, lg1, h1, hR1⟩ := hS.hasNext s d (a :: r) lg hR
  obtain ⟨s2, lg2, h2, hR2⟩ := hS.next_cons s1 d a r lg1 hR1
  obtain ⟨lg3, h3⟩ := liftG_outcome hp a (s2, ({} : TakeWhileSt α)) lg2
  simp only [List.isEmpty_cons, Bool.not_false] at h1
  refine ⟨s2, lg3, hR2, ?_⟩
  rcases hg : g a with q | b
  · rw [hg] at h3
    simp [takeWhile, bind_apply, onFst_eq _ h1, onFst_eq _ h2, h3]
  · rw [hg] at h3
    cases b <;> simp [takeWhile, bind_apply, onFst_eq _ h1, onFst_eq _ h2, h3]

/-- reference for ONE call on `TakeWhile(p)` over the list `r`; the captured variables themselves
    are the mode (`breaking`; look-ahead `fv`) -/
def twStep (g : α → Except PanicVal Bool) : Call → TakeWhileSt α → List α → Obs α × TakeWhileSt α × List α
  | .H, ⟨true, fv⟩, r => (.has false, ⟨true, fv⟩, r)
  | .H, ⟨false, some v⟩, r => (.has true, ⟨false, some v⟩, r)
  | .H, ⟨false, none⟩, [] => (.has false, ⟨false, none⟩, [])
  | .H, ⟨false, none⟩, a :: r =>
    match g a with
    | .ok true => (.has true, ⟨false, some a⟩, r)
    | .ok false => (.has false, ⟨true, none⟩, r)
    | .error q => (.panic q, ⟨false, none⟩, r)
  | .N, ⟨true, fv⟩, r => (.panic nextOnEmpty, ⟨true, fv⟩, r)
  | .N, ⟨false, some v⟩, r => (.val v, ⟨false, none⟩, r)
  | .N, ⟨false, none⟩, [] => (.panic nextOnEmpty, ⟨false, none⟩, [])
  | .N, ⟨false, none⟩, a :: r =>
    match g a with
    | .ok true => (.val a, ⟨false, none⟩, r)
    | .ok false => (.panic nextOnEmpty, ⟨true, none⟩, r)
    | .error q => (.panic q, ⟨false, none⟩, r)

def twSpec (g : α → Except PanicVal Bool) : List Call → TakeWhileSt α → List α → List (Obs α) × TakeWhileSt α × List α
  | [], c, r => ([], c, r)
  | k :: cs, c, r =>
    ((twStep g k c r).1 :: (twSpec g cs (twStep g k c r).2.1 (twStep g k c r).2.2).1,
      (twSpec g cs (twStep g k c r).2.1 (twStep g k c r).2.2).2)

/-- ONE call on `TakeWhile(p)`, `p` panicking where `g` says so, over any iterator below: observation, captured
    variables and the list the iterator below represents are the reference's (`twStep`) -/
theorem takeWhile_call_spec {p : α → GoM Bool} {g : α → Except PanicVal Bool} (hp : Outcome p g) {m : Machine σ α}
    {R : σ → List α → List α → Prop} (hS : Sim m R) (c : Call) (s : σ) (cst : TakeWhileSt α) (d r : List α) (lg : Log)
    (hR : R s d r) :
    (runCall (takeWhile p m) c (s, cst) lg).1 = (twStep g c cst r).1 ∧
    (runCall (takeWhile p m) c (s, cst) lg).2.1.2 = (twStep g c cst r).2.1 ∧
    ∃ d', R (runCall (takeWhile p m) c (s, cst) lg).2.1.1 d' (twStep g c cst r).2.2 := by
  rcases cst with ⟨_ | _, _ | v⟩
  · -- no look-ahead: the source is asked, and the predicate if there is an element
    cases r with
    | nil =>
      obtain ⟨s1, lg1, h1, hR1⟩ := hS.hasNext s d [] lg hR
      have e : (takeWhile p m).hasNext (s, ⟨false, none⟩) lg = (.ok false, (s1, ⟨false, none⟩), lg1) := by
        simp [takeWhile, bind_apply, onFst_eq _ h1]
      have e2 : (takeWhile p m).next (s, ⟨false, none⟩) lg = _ := guard_apply e
      cases c
      · simp [runCall, e, twStep]; exact ⟨d, hR1⟩
      · simp [runCall, e2, twStep]; exact ⟨d, hR1⟩
    | cons a r =>
      obtain ⟨s2, lg3, hR2, e⟩ := takeWhile_hasNext_outcome hp hS s d a r lg hR
      rcases hg : g a with q | _ | _ <;> rw [hg] at e
      · -- the predicate panics: the panic comes out of either call, `a` is consumed
        have e2 : (takeWhile p m).next (s, ⟨false, none⟩) lg = _ := bind_err e
        cases c
        · simp [runCall, e, twStep, hg]; exact ⟨_, hR2⟩
        · simp [runCall, e2, twStep, hg]; exact ⟨_, hR2⟩
      · -- `false`: `HasNext` answers `false` and sets `breaking`, `Next` panics
        have e2 : (takeWhile p m).next (s, ⟨false, none⟩) lg = _ := guard_apply e
        cases c
        · simp [runCall, e, twStep, hg]; exact ⟨_, hR2⟩
        · simp [runCall, e2, twStep, hg]; exact ⟨_, hR2⟩
      · -- `true`: `HasNext` parks `a` in `fv`, `Next` hands it out
        have e2 : (takeWhile p m).next (s, ⟨false, none⟩) lg = _ := guard_apply e
        cases c
        · simp [runCall, e, twStep, hg]; exact ⟨_, hR2⟩
        · simp [runCall, e2, bind_apply, twStep, hg]; exact ⟨_, hR2⟩
  -- `breaking`, or an element in `fv`: both calls answer from the captured variables
  · cases c <;> exact ⟨rfl, rfl, d, hR⟩
  · cases c <;> exact ⟨rfl, rfl, d, hR⟩
  · cases c <;> exact ⟨rfl, rfl, d, hR⟩

/-- `C12.takeWhile_script_panic` over any simulation `R` of the iterator below, from any captured variables `cst`. -/
theorem takeWhile_outcome_script {p : α → GoM Bool} {g : α → Except PanicVal Bool} (hp : Outcome p g) {m : Machine σ α}
    {R : σ → List α → List α → Prop} (hS : Sim m R) :
    ∀ (cs : List Call) (s : σ) (cst : TakeWhileSt α) (d r : List α) (lg : Log), R s d r →
      (runScript (takeWhile p m) cs (s, cst) lg).1 = (twSpec g cs cst r).1 ∧
      (runScript (takeWhile p m) cs (s, cst) lg).2.1.2 = (twSpec g cs cst r).2.1 ∧
      ∃ d', R (runScript (takeWhile p m) cs (s, cst) lg).2.1.1 d' (twSpec g cs cst r).2.2 := by
  intro cs
  induction cs with
  | nil => intro s cst d r lg hR; exact ⟨rfl, rfl, d, hR⟩
  | cons c cs ih =>
    intro s cst d r lg hR
    have hc := takeWhile_call_spec hp hS c s cst d r lg hR
    rw [runScript_cons]
    generalize runCall (takeWhile p m) c (s, cst) lg = res at hc ⊢
    obtain ⟨o, ⟨s1, c1⟩, lg1⟩ := res
    obtain ⟨rfl, rfl, d1, hR1⟩ := hc
    obtain ⟨h1, h2, h3⟩ := ih s1 (twStep g c cst r).2.1 d1 _ lg1 hR1
    exact ⟨by simp only [twSpec, h1], by simpa only [twSpec] using h2, by simpa only [twSpec] using h3⟩

end FpVerif.It
