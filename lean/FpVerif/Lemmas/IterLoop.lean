import FpVerif.Lemmas.IterSim
/-!
# The loop of the terminal operations

`ToSeq`, `Count`, `Fold*`, `Foreach`, `All`, `Exists`, `ForAll`, `Find` are the same Go loop
`for r.HasNext() { v := r.Next(); … }` with different bodies.  `pullLoop_spec` is about ANY function `F fuel acc` that
satisfies the equation of that loop for a body `K` (each of the model's loops does, by `rfl`): the one induction,
against a reference computation on the list.
-/
namespace FpVerif.It
variable {σ α A B : Type}

/-- `K acc v k`: the body; it goes on with `k acc'` or ends the loop by not calling `k`.
    `E acc r`: outcome of the loop over `r` and the elements not pulled.  The element on which the
    body ends (result or panic) has been pulled, nothing after it. -/
theorem pullLoop_spec {m : Machine σ α} {F : Nat → A → IM σ B} {K : A → α → (A → IM σ B) → IM σ B} {fin : A → B}
    (hF : ∀ fuel z, F (fuel + 1) z = do if ← m.hasNext then (do let v ← m.next; K z v (F fuel)) else pure (fin z))
    {E : A → List α → Except PanicVal B × List α} (hnil : ∀ z, E z [] = (.ok (fin z), []))
    (hstep : ∀ z a as (k : A → IM σ B) s lg, ∃ lg',
      (∃ z', K z a k s lg = k z' s lg' ∧ E z (a :: as) = E z' as) ∨
      (K z a k s lg = ((E z (a :: as)).1, s, lg') ∧ (E z (a :: as)).2 = as))
    {R : σ → List α → List α → Prop} (hS : Sim m R) :
    ∀ (r : List α) (fuel : Nat) (s : σ) (d : List α) (z : A) (lg : Log), r.length < fuel → R s d r →
      ∃ s' lg' d1, F fuel z s lg = ((E z r).1, s', lg') ∧ R s' (d ++ d1) (E z r).2 ∧
        d1 ++ (E z r).2 = r := by
  intro r
  induction r with
  | nil =>
    intro fuel s d z lg hfu hR
    obtain ⟨k, rfl⟩ := Nat.exists_eq_succ_of_ne_zero (Nat.ne_zero_of_lt hfu)
    obtain ⟨s1, lg1, h1, hR1⟩ := hS.hasNext s d [] lg hR
    rw [hnil]
    exact ⟨s1, lg1, [], by rw [hF, bind_ok h1]; rfl, by rw [List.append_nil]; exact hR1, rfl⟩
  | cons a r ih =>
    intro fuel s d z lg hfu hR
    obtain ⟨k, rfl⟩ := Nat.exists_eq_succ_of_ne_zero (Nat.ne_zero_of_lt hfu)
    obtain ⟨s1, lg1, h1, hR1⟩ := hS.hasNext s d (a :: r) lg hR
    obtain ⟨s2, lg2, h2, hR2⟩ := hS.next_cons s1 d a r lg1 hR1
    have e : F (k + 1) z s lg = K z a (F k) s2 lg2 := by
      rw [hF, bind_ok h1]; exact bind_ok h2
    obtain ⟨lg3, ⟨z', h3, hE⟩ | ⟨h3, hE⟩⟩ := hstep z a r (F k) s2 lg2
    · obtain ⟨s', lg', d1, h4, hR4, hd⟩ := ih k s2 (d ++ [a]) z' lg3 (Nat.lt_of_succ_lt_succ hfu) hR2
      rw [e, h3, hE]
      exact ⟨s', lg', a :: d1, h4, by rw [List.append_cons]; exact hR4, by rw [List.cons_append, hd]⟩
    · rw [e, h3, hE]
      exact ⟨s2, lg3, [a], rfl, hR2, rfl⟩

theorem pullLoop_represents {m : Machine σ α} {F : Nat → A → IM σ B} {K : A → α → (A → IM σ B) → IM σ B} {fin : A → B}
    (hF : ∀ fuel z, F (fuel + 1) z = do if ← m.hasNext then (do let v ← m.next; K z v (F fuel)) else pure (fin z))
    {E : A → List α → Except PanicVal B × List α} (hnil : ∀ z, E z [] = (.ok (fin z), []))
    (hstep : ∀ z a as (k : A → IM σ B) s lg, ∃ lg',
      (∃ z', K z a k s lg = k z' s lg' ∧ E z (a :: as) = E z' as) ∨
      (K z a k s lg = ((E z (a :: as)).1, s, lg') ∧ (E z (a :: as)).2 = as))
    {s : σ} {l : List α} (h : Represents m s [] l) {fuel : Nat} (hfuel : l.length < fuel) (z : A) (lg : Log) :
    ∃ s' lg' d', F fuel z s lg = ((E z l).1, s', lg') ∧ Represents m s' d' (E z l).2 ∧
      d' ++ (E z l).2 = l :=
  pullLoop_spec hF hnil hstep (Represents.sim m) l fuel s [] z lg hfuel h

/-- a loop that never ends early leaves the iterator exhausted -/
theorem pullLoop_represents_all {m : Machine σ α} {F : Nat → A → IM σ B} {K : A → α → (A → IM σ B) → IM σ B} {fin : A → B}
    (hF : ∀ fuel z, F (fuel + 1) z = do if ← m.hasNext then (do let v ← m.next; K z v (F fuel)) else pure (fin z))
    {G : A → List α → B} (hnil : ∀ z, G z [] = fin z)
    (hstep : ∀ z a as (k : A → IM σ B) s lg, ∃ lg' z', K z a k s lg = k z' s lg' ∧ G z (a :: as) = G z' as)
    {s : σ} {l : List α} (h : Represents m s [] l) {fuel : Nat} (hfuel : l.length < fuel) (z : A) (lg : Log) :
    ∃ s' lg', F fuel z s lg = (.ok (G z l), s', lg') ∧ Represents m s' l [] := by
  obtain ⟨s', lg', d', e, hR, hd⟩ := pullLoop_represents hF (E := fun z r => (.ok (G z r), []))
    (fun z => by rw [hnil]) (fun z a as k s lg => by
      obtain ⟨lg', z', hk, hG⟩ := hstep z a as k s lg
      exact ⟨lg', .inl ⟨z', hk, by rw [hG]⟩⟩) h hfuel z lg
  rw [List.append_nil] at hd
  subst hd
  exact ⟨s', lg', e, hR⟩

end FpVerif.It
