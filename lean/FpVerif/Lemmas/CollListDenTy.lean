import FpVerif.Model.CollExpr
import FpVerif.Lemmas.IM
import FpVerif.Lemmas.CellArray
/-!
# Lazy list over `El`: the heap typing (as in `Lemmas/ListTy.lean`, `Lemmas/ListTyHeap.lean`)

Same ghost typing as for C12 (`Sty`, `VDen`, `Cons`, `Ext`, `Quiet`, `Post`, `Spec`), for the heap
of `Model/CollList.lean`.  The thunk kinds are `map`, `flatMap`, `combine`; the `FlatMap`
continuation `KL` is typed SEMANTICALLY: `KOK S k kd Bi y` — applied to the element `y` the
continuation `k` returns a list value denoting `kd y` with fuel bound `Bi`.  For `apInner a` /
`map2Inner b g` this mentions the typing of the captured list `a` / `b` (stable under `Ext`).
-/
namespace FpVerif.Coll
open FpVerif.It
open FpVerif.LL (CellsOK CellsOK.mono CellsOK.push CellsOK.set running_of_push quiet_post)

/-! ## pure versions of the callbacks -/

/-- the function a function value computes (its events dropped) -/
def fnP (f : Fn) (x : El) : El := pureG (f.app x)

/-- applying the function value never panics -/
def Fn.Tot (f : Fn) : Prop := ∀ x lg, ∃ lg', (f.app x).run.run lg = (.ok (fnP f x), lg')

/-- the user continuation of a `FlatMap` never panics -/
def KTot (k : Kl) : Prop := ∀ x lg, ∃ lg', (k x).run.run lg = (.ok (pureG (k x)), lg')

def G2Tot (g : Val → Val → GoM Val) : Prop := ∀ x y lg, ∃ lg', (g x y).run.run lg = (.ok (pureG (g x y)), lg')

def G3Tot (h : Val → Val → Val → GoM Val) : Prop :=
  ∀ x y z lg, ∃ lg', (h x y z).run.run lg = (.ok (pureG (h x y z)), lg')

theorem pureG_of_run {X : Type} [Inhabited X] {m : GoM X} {v : X} {lg : Log} (h : m.run.run [] = (.ok v, lg)) :
    pureG m = v := by
  simp only [pureG, h]

/-! ## typing -/

def tailTy (d : List El) : Option (List El) := if d.isEmpty then none else some d.tail

structure HTy where
  o : Option El
  need : Nat

structure TTy where
  d : Option (List El)
  need : Nat
  K : Nat

structure LTy where
  xs : List El
  need : Nat
  K : Nat

/-- heap typing -/
structure Sty where
  nh : Nat
  nt : Nat
  nl : Nat
  hs : Nat → HTy
  ts : Nat → TTy
  ls : Nat → LTy

def Sty.empty : Sty := ⟨0, 0, 0, fun _ => ⟨none, 0⟩, fun _ => ⟨none, 0, 0⟩, fun _ => ⟨[], 0, 0⟩⟩

def Sty.pushHT (S : Sty) (h : HTy) (t : TTy) : Sty :=
  { S with nh := S.nh + 1, nt := S.nt + 1,
           hs := fun c => if c = S.nh then h else S.hs c,
           ts := fun c => if c = S.nt then t else S.ts c }

def Sty.pushL (S : Sty) (l : LTy) : Sty :=
  { S with nl := S.nl + 1, ls := fun c => if c = S.nl then l else S.ls c }

structure Ext (S S' : Sty) : Prop where
  nh : S.nh ≤ S'.nh
  nt : S.nt ≤ S'.nt
  nl : S.nl ≤ S'.nl
  hs : ∀ c, c < S.nh → S'.hs c = S.hs c
  ts : ∀ c, c < S.nt → S'.ts c = S.ts c
  ls : ∀ c, c < S.nl → S'.ls c = S.ls c

theorem Ext.refl (S : Sty) : Ext S S := ⟨Nat.le_refl _, Nat.le_refl _, Nat.le_refl _, fun _ _ => rfl, fun _ _ => rfl, fun _ _ => rfl⟩

theorem Ext.trans {S1 S2 S3 : Sty} (a : Ext S1 S2) (b : Ext S2 S3) : Ext S1 S3 :=
  ⟨Nat.le_trans a.nh b.nh, Nat.le_trans a.nt b.nt, Nat.le_trans a.nl b.nl,
   fun c h => by rw [b.hs c (Nat.lt_of_lt_of_le h a.nh), a.hs c h],
   fun c h => by rw [b.ts c (Nat.lt_of_lt_of_le h a.nt), a.ts c h],
   fun c h => by rw [b.ls c (Nat.lt_of_lt_of_le h a.nl), a.ls c h]⟩

theorem Ext.pushHT (S : Sty) (h : HTy) (t : TTy) : Ext S (S.pushHT h t) :=
  ⟨Nat.le_succ _, Nat.le_succ _, Nat.le_refl _,
   fun c hc => by simp only [Sty.pushHT]; rw [if_neg (by omega)],
   fun c hc => by simp only [Sty.pushHT]; rw [if_neg (by omega)],
   fun _ _ => rfl⟩

theorem Ext.pushL (S : Sty) (l : LTy) : Ext S (S.pushL l) :=
  ⟨Nat.le_refl _, Nat.le_refl _, Nat.le_succ _, fun _ _ => rfl, fun _ _ => rfl,
   fun c hc => by simp only [Sty.pushL]; rw [if_neg (by omega)]⟩

/-- under `S` the list value `l` denotes `d`; every interface operation on it and on its tails
    needs at most fuel `K` -/
def VDen (S : Sty) : LV → List El → Nat → Prop
  | .nil, d, K => d = [] ∧ 1 ≤ K
  | .seq xs, d, K => d = xs ∧ 1 ≤ K
  | .adaptor hc tc, d, K =>
    hc < S.nh ∧ (S.hs hc).o = d.head? ∧ (S.hs hc).need < K ∧
    (d.isEmpty = false →
      tc < S.nt ∧ (S.ts tc).d = some d.tail ∧ (S.ts tc).need < K ∧ (S.ts tc).K ≤ K)

theorem VDen.pos {S : Sty} {l : LV} {d : List El} {K : Nat} (h : VDen S l d K) : 1 ≤ K := by
  cases l with
  | nil => exact h.2
  | seq xs => exact h.2
  | adaptor hc tc => have := h.2.2.1; omega

theorem VDen.mono {S S' : Sty} (hE : Ext S S') {l : LV} {d : List El} {K K' : Nat}
    (h : VDen S l d K) (hk : K ≤ K') : VDen S' l d K' := by
  cases l with
  | nil => exact ⟨h.1, Nat.le_trans h.2 hk⟩
  | seq xs => exact ⟨h.1, Nat.le_trans h.2 hk⟩
  | adaptor hc tc =>
    obtain ⟨h1, h2, h3, h4⟩ := h
    refine ⟨Nat.lt_of_lt_of_le h1 hE.nh, by rw [hE.hs hc h1]; exact h2, by rw [hE.hs hc h1]; omega, ?_⟩
    intro hne
    obtain ⟨t1, t2, t3, t4⟩ := h4 hne
    refine ⟨Nat.lt_of_lt_of_le t1 hE.nt, by rw [hE.ts tc t1]; exact t2, by rw [hE.ts tc t1]; omega,
      by rw [hE.ts tc t1]; omega⟩

theorem VDen.monoK {S : Sty} {l : LV} {d : List El} {K K' : Nat} (h : VDen S l d K) (hk : K ≤ K') :
    VDen S l d K' := VDen.mono (Ext.refl S) h hk

/-- typed values stay typed when the typing grows -/
theorem VDen.ext {S S' : Sty} {l : LV} {d : List El} {K : Nat} (h : VDen S l d K) (hE : Ext S S') :
    VDen S' l d K := VDen.mono hE h (Nat.le_refl _)

/-- fuel bound of the `FlatMap` list over a source with bound `Ks` and `n` remaining elements,
    inner lists bounded by `Bi` -/
def FMB (Ks Bi n : Nat) : Nat := Ks + Bi + 4 * n + 4

theorem FMB_pos (Ks Bi n : Nat) : Ks + Bi + 4 ≤ FMB Ks Bi n := by unfold FMB; omega

theorem le_FMB (Ks Bi n : Nat) : Ks ≤ FMB Ks Bi n := by unfold FMB; omega

theorem le_FMB_inner (Ks Bi n : Nat) : Bi ≤ FMB Ks Bi n := by unfold FMB; omega

theorem FMB_succ (Ks Bi n : Nat) : FMB Ks Bi (n + 1) = FMB Ks Bi n + 4 := rfl

/-- the continuation `k`, applied to the element `y`, returns a value denoting `kd y`, bound `Bi` -/
def KOK (S : Sty) (k : KL) (kd : El → List El) (Bi : Nat) (y : El) : Prop :=
  match k with
  | .user f => (∀ lg, ∃ lg', (f y.val).run.run lg = (.ok (kd y), lg')) ∧ 1 ≤ Bi
  | .ident => (∃ tag xs, y = .coll tag xs ∧ kd y = xs) ∧ 1 ≤ Bi
  | .apInner a => ∃ xs Ka f, VDen S a xs Ka ∧ y = .fn f ∧ f.Tot ∧ kd y = xs.map (fnP f) ∧ Ka + 4 ≤ Bi
  | .map2Inner b g => ∃ xs Kb, VDen S b xs Kb ∧ (Fn.c2a g y.val).Tot ∧
      kd y = xs.map (fnP (.c2a g y.val)) ∧ Kb + 4 ≤ Bi

theorem KOK.mono {S S' : Sty} (hE : Ext S S') {k : KL} {kd : El → List El} {Bi : Nat} {y : El}
    (h : KOK S k kd Bi y) : KOK S' k kd Bi y := by
  cases k with
  | user f => exact h
  | ident => exact h
  | apInner a => obtain ⟨xs, Ka, f, h1, h2⟩ := h; exact ⟨xs, Ka, f, h1.ext hE, h2⟩
  | map2Inner b g => obtain ⟨xs, Kb, h1, h2⟩ := h; exact ⟨xs, Kb, h1.ext hE, h2⟩

theorem KOK.pos {S : Sty} {k : KL} {kd : El → List El} {Bi : Nat} {y : El} (h : KOK S k kd Bi y) : 1 ≤ Bi := by
  cases k with
  | user f => exact h.2
  | ident => exact h.2
  | apInner a => obtain ⟨xs, Ka, f, h1, _, _, _, h5⟩ := h; omega
  | map2Inner b g => obtain ⟨xs, Kb, h1, _, _, h5⟩ := h; omega

/-! ## typing of closures -/

/-- the captured variables of a `FlatMap` closure -/
structure FMOK (S : Sty) (lz : Nat) (tl : LV) (k : KL) (kd : El → List El) (y : El) (ys : List El)
    (Ks Bi : Nat) : Prop where
  hlz : lz < S.nl
  hxs : (S.ls lz).xs = kd y
  hneed : (S.ls lz).need ≤ Ks + Bi + 1
  hK : (S.ls lz).K ≤ Bi
  htl : VDen S tl ys Ks
  hk : ∀ y', y' ∈ ys → KOK S k kd Bi y'
  hBi : 1 ≤ Bi

def HThunkOK (S : Sty) : HThunk → HTy → Prop
  | .map opt fn, ty => ∃ xs K, VDen S opt xs K ∧ fn.Tot ∧
      ty.o = (xs.head?).map (fnP fn) ∧ K + 3 ≤ ty.need
  | .flatMap lz tl k, ty => ∃ kd y ys Ks Bi, FMOK S lz tl k kd y ys Ks Bi ∧
      ty.o = (kd y ++ ys.flatMap kd).head? ∧ FMB Ks Bi ys.length + 3 ≤ ty.need
  | .combine l1, ty => ∃ x xs K, VDen S l1 (x :: xs) K ∧ ty.o = some x ∧ K + 2 ≤ ty.need

def TThunkOK (S : Sty) : TThunk → List El → Nat → Nat → Prop
  | .map opt fn, d, need, K => ∃ x xs Ko, VDen S opt (x :: xs) Ko ∧ fn.Tot ∧
      d = xs.map (fnP fn) ∧ Ko + 2 ≤ need ∧ Ko + 4 ≤ K
  | .flatMap lz tl k, d, need, K => ∃ kd y ys Ks Bi, FMOK S lz tl k kd y ys Ks Bi ∧
      (kd y ++ ys.flatMap kd) ≠ [] ∧ d = (kd y ++ ys.flatMap kd).tail ∧
      FMB Ks Bi ys.length + 2 ≤ need ∧ FMB Ks Bi ys.length ≤ K
  | .combine l1 l2, d, need, K => ∃ x xs ys K1 K2, VDen S l1 (x :: xs) K1 ∧
      VDen S l2 ys K2 ∧ d = xs ++ ys ∧ K1 + 3 ≤ need ∧ max (K1 + 4) K2 ≤ K

def LThunkOK (S : Sty) (opt : LV) (k : KL) (ty : LTy) : Prop :=
  ∃ kd y ys Ks, VDen S opt (y :: ys) Ks ∧ ty.xs = kd y ∧ Ks + 1 ≤ ty.need ∧ KOK S k kd ty.K y

theorem FMOK.mono {S S' : Sty} (hE : Ext S S') {lz tl k kd y ys Ks Bi} (h : FMOK S lz tl k kd y ys Ks Bi) :
    FMOK S' lz tl k kd y ys Ks Bi :=
  ⟨Nat.lt_of_lt_of_le h.hlz hE.nl, by rw [hE.ls _ h.hlz]; exact h.hxs, by rw [hE.ls _ h.hlz]; exact h.hneed,
   by rw [hE.ls _ h.hlz]; exact h.hK, h.htl.ext hE, fun y' hy' => (h.hk y' hy').mono hE, h.hBi⟩

theorem HThunkOK.mono {S S' : Sty} (hE : Ext S S') : ∀ {t : HThunk} {ty : HTy}, HThunkOK S t ty → HThunkOK S' t ty := by
  intro t ty h
  cases t with
  | map opt fn => obtain ⟨xs, K, h1, h2⟩ := h; exact ⟨xs, K, h1.ext hE, h2⟩
  | flatMap lz tl k => obtain ⟨kd, y, ys, Ks, Bi, h1, h2⟩ := h; exact ⟨kd, y, ys, Ks, Bi, h1.mono hE, h2⟩
  | combine l1 => obtain ⟨x, xs, K, h1, h2⟩ := h; exact ⟨x, xs, K, h1.ext hE, h2⟩

theorem TThunkOK.mono {S S' : Sty} (hE : Ext S S') : ∀ {t : TThunk} {d : List El} {need K : Nat},
    TThunkOK S t d need K → TThunkOK S' t d need K := by
  intro t d need K h
  cases t with
  | map opt fn => obtain ⟨x, xs, Ko, h1, h2⟩ := h; exact ⟨x, xs, Ko, h1.ext hE, h2⟩
  | flatMap lz tl k => obtain ⟨kd, y, ys, Ks, Bi, h1, h2⟩ := h; exact ⟨kd, y, ys, Ks, Bi, h1.mono hE, h2⟩
  | combine l1 l2 => obtain ⟨x, xs, ys, K1, K2, h1, h2, h3⟩ := h; exact ⟨x, xs, ys, K1, K2, h1.ext hE, h2.ext hE, h3⟩

theorem LThunkOK.mono {S S' : Sty} (hE : Ext S S') {opt k ty} (h : LThunkOK S opt k ty) : LThunkOK S' opt k ty := by
  obtain ⟨kd, y, ys, Ks, h1, h2, h3, h4⟩ := h
  exact ⟨kd, y, ys, Ks, h1.ext hE, h2, h3, h4.mono hE⟩

/-! ## typing of the heap -/

def HCellOK (S : Sty) (ty : HTy) : Cell HThunk (Option El) → Prop
  | .pending t => HThunkOK S t ty
  | .running => True
  | .done v => v = ty.o

def TCellOK (S : Sty) (ty : TTy) : Cell TThunk LV → Prop
  | .pending t => ∀ d, ty.d = some d → TThunkOK S t d ty.need ty.K
  | .running => True
  | .done v => ∀ d, ty.d = some d → VDen S v d ty.K

def LCellOK (S : Sty) (ty : LTy) : Cell (LV × KL) LV → Prop
  | .pending (opt, k) => LThunkOK S opt k ty
  | .running => True
  | .done v => VDen S v ty.xs ty.K

theorem HCellOK.mono {S S' : Sty} (hE : Ext S S') {ty : HTy} {c : Cell HThunk (Option El)}
    (h : HCellOK S ty c) : HCellOK S' ty c := by
  cases c with
  | pending t => exact HThunkOK.mono hE h
  | running => trivial
  | done v => exact h

theorem TCellOK.mono {S S' : Sty} (hE : Ext S S') {ty : TTy} {c : Cell TThunk LV}
    (h : TCellOK S ty c) : TCellOK S' ty c := by
  cases c with
  | pending t => exact fun d hd => TThunkOK.mono hE (h d hd)
  | running => trivial
  | done v => exact fun d hd => (h d hd).ext hE

theorem LCellOK.mono {S S' : Sty} (hE : Ext S S') {ty : LTy} {c : Cell (LV × KL) LV}
    (h : LCellOK S ty c) : LCellOK S' ty c := by
  cases c with
  | pending t => exact LThunkOK.mono hE h
  | running => trivial
  | done v => exact VDen.ext h hE

structure Cons (S : Sty) (hp : Heap) : Prop where
  nh : S.nh = hp.hs.size
  nt : S.nt = hp.ts.size
  nl : S.nl = hp.ls.size
  hs : ∀ (c : Nat) cell n, hp.hs[c]? = some (cell, n) → 2 ≤ (S.hs c).need ∧ HCellOK S (S.hs c) cell
  ts : ∀ (c : Nat) cell n, hp.ts[c]? = some (cell, n) → 2 ≤ (S.ts c).need ∧ TCellOK S (S.ts c) cell
  ls : ∀ (c : Nat) cell n, hp.ls[c]? = some (cell, n) → 2 ≤ (S.ls c).need ∧ LCellOK S (S.ls c) cell

theorem Cons.empty : Cons Sty.empty {} :=
  ⟨rfl, rfl, rfl, by simp, by simp, by simp⟩

/-- cells that are running in `hp'` were running in `hp` -/
structure RunSub (hp' hp : Heap) : Prop where
  hs : ∀ (c : Nat) n, hp'.hs[c]? = some (.running, n) → ∃ n', hp.hs[c]? = some (.running, n')
  ts : ∀ (c : Nat) n, hp'.ts[c]? = some (.running, n) → ∃ n', hp.ts[c]? = some (.running, n')
  ls : ∀ (c : Nat) n, hp'.ls[c]? = some (.running, n) → ∃ n', hp.ls[c]? = some (.running, n')

theorem RunSub.refl (hp : Heap) : RunSub hp hp := ⟨fun _ n h => ⟨n, h⟩, fun _ n h => ⟨n, h⟩, fun _ n h => ⟨n, h⟩⟩

theorem RunSub.trans {a b c : Heap} (h1 : RunSub a b) (h2 : RunSub b c) : RunSub a c :=
  ⟨fun i n h => by obtain ⟨n', h'⟩ := h1.hs i n h; exact h2.hs i n' h',
   fun i n h => by obtain ⟨n', h'⟩ := h1.ts i n h; exact h2.ts i n' h',
   fun i n h => by obtain ⟨n', h'⟩ := h1.ls i n h; exact h2.ls i n' h'⟩

/-- all running cells have `need ≥ K` -/
structure Quiet (K : Nat) (S : Sty) (hp : Heap) : Prop where
  hs : ∀ (c : Nat) n, hp.hs[c]? = some (.running, n) → K ≤ (S.hs c).need
  ts : ∀ (c : Nat) n, hp.ts[c]? = some (.running, n) → K ≤ (S.ts c).need
  ls : ∀ (c : Nat) n, hp.ls[c]? = some (.running, n) → K ≤ (S.ls c).need

theorem Quiet.mono {K K' : Nat} {S : Sty} {hp : Heap} (h : Quiet K S hp) (hk : K' ≤ K) : Quiet K' S hp :=
  ⟨fun c n hc => Nat.le_trans hk (h.hs c n hc), fun c n hc => Nat.le_trans hk (h.ts c n hc),
   fun c n hc => Nat.le_trans hk (h.ls c n hc)⟩

/-- the outcome of an operation: typing extended, heap consistent, no new running cells -/
structure Post (S : Sty) (hp : Heap) (S' : Sty) (hp' : Heap) : Prop where
  cons : Cons S' hp'
  ext : Ext S S'
  run : RunSub hp' hp

theorem Post.refl {S : Sty} {hp : Heap} (h : Cons S hp) : Post S hp S hp :=
  ⟨h, Ext.refl S, RunSub.refl hp⟩

theorem Post.trans {S1 S2 S3 : Sty} {h1 h2 h3 : Heap} (a : Post S1 h1 S2 h2) (b : Post S2 h2 S3 h3) :
    Post S1 h1 S3 h3 := ⟨b.cons, a.ext.trans b.ext, b.run.trans a.run⟩

theorem Quiet.post {K : Nat} {S S' : Sty} {hp hp' : Heap} (h : Quiet K S hp) (hC : Cons S hp)
    (hP : Post S hp S' hp') : Quiet K S' hp' :=
  ⟨quiet_post h.hs hP.run.hs fun i hi => congrArg HTy.need (hP.ext.hs i (hC.nh ▸ hi)),
   quiet_post h.ts hP.run.ts fun i hi => congrArg TTy.need (hP.ext.ts i (hC.nt ▸ hi)),
   quiet_post h.ls hP.run.ls fun i hi => congrArg LTy.need (hP.ext.ls i (hC.nl ▸ hi))⟩

/-- Hoare-style statement: from a heap consistent with `S`, `m` returns normally with `Q` -/
def Spec {X : Type} (m : HM X) (S : Sty) (hp : Heap) (Q : Sty → X → Prop) : Prop :=
  ∀ lg, ∃ v S' hp' lg', m hp lg = (.ok v, hp', lg') ∧ Post S hp S' hp' ∧ Q S' v

theorem Spec.pure {X : Type} {S : Sty} {hp : Heap} {Q : Sty → X → Prop} (hC : Cons S hp) (x : X) (h : Q S x) :
    Spec (pure x : HM X) S hp Q := fun lg => ⟨x, S, hp, lg, rfl, Post.refl hC, h⟩

theorem Spec.bind {X Y : Type} {m : HM X} {f : X → HM Y} {S : Sty} {hp : Heap} {Q : Sty → X → Prop}
    {Q' : Sty → Y → Prop} (hm : Spec m S hp Q)
    (hf : ∀ v S1 hp1, Post S hp S1 hp1 → Q S1 v → Spec (f v) S1 hp1 Q') : Spec (m >>= f) S hp Q' := by
  intro lg
  obtain ⟨v, S1, hp1, lg1, e1, hP1, hQ1⟩ := hm lg
  obtain ⟨w, S2, hp2, lg2, e2, hP2, hQ2⟩ := hf v S1 hp1 hP1 hQ1 lg1
  exact ⟨w, S2, hp2, lg2, by rw [bind_ok e1, e2], hP1.trans hP2, hQ2⟩

/-- `m` runs within the part `K'` of the bound `K`; what follows it runs in a heap still quiet at `K` -/
theorem Spec.bind_sub {X Y : Type} {m : HM X} {f : X → HM Y} {S : Sty} {hp : Heap} {K K' : Nat}
    {Q : Sty → X → Prop} {Q' : Sty → Y → Prop} (hC : Cons S hp) (hQ : Quiet K S hp) (hK : K' ≤ K)
    (hm : Quiet K' S hp → Spec m S hp Q)
    (hf : ∀ v S1 hp1, Post S hp S1 hp1 → Quiet K S1 hp1 → Q S1 v → Spec (f v) S1 hp1 Q') :
    Spec (m >>= f) S hp Q' :=
  Spec.bind (hm (hQ.mono hK)) fun v S1 hp1 hP hq => hf v S1 hp1 hP (hQ.post hC hP) hq

theorem Spec.weaken {X : Type} {m : HM X} {S : Sty} {hp : Heap} {Q Q' : Sty → X → Prop} (hm : Spec m S hp Q)
    (h : ∀ S' v, Ext S S' → Q S' v → Q' S' v) : Spec m S hp Q' := by
  intro lg
  obtain ⟨v, S1, hp1, lg1, e1, hP1, hQ1⟩ := hm lg
  exact ⟨v, S1, hp1, lg1, e1, hP1, h S1 v hP1.ext hQ1⟩

theorem Spec.liftG {X : Type} {S : Sty} {hp : Heap} {Q : Sty → X → Prop} (hC : Cons S hp) {g : GoM X} {x : X}
    (hg : ∀ lg, ∃ lg', g.run.run lg = (.ok x, lg')) (h : Q S x) : Spec (IM.liftG g : HM X) S hp Q := by
  intro lg
  obtain ⟨lg', e⟩ := hg lg
  exact ⟨x, S, hp, lg', by simp [IM.liftG, e], Post.refl hC, h⟩

/-! ## pushing cells -/

theorem Cons.pushHT {S : Sty} {hp : Heap} (hC : Cons S hp) {h : HThunk} {t : TThunk} {hty : HTy} {tty : TTy}
    (hh : HThunkOK S h hty) (h2 : 2 ≤ hty.need)
    (ht : ∀ d, tty.d = some d → TThunkOK S t d tty.need tty.K) (t2 : 2 ≤ tty.need) :
    Cons (S.pushHT hty tty)
      { hp with hs := hp.hs.push (.pending h, 0), ts := hp.ts.push (.pending t, 0) } := by
  have hE := Ext.pushHT S hty tty
  have hhs : (S.pushHT hty tty).hs hp.hs.size = hty := by simp [Sty.pushHT, hC.nh]
  have hts : (S.pushHT hty tty).ts hp.ts.size = tty := by simp [Sty.pushHT, hC.nt]
  refine ⟨by simp [Sty.pushHT, hC.nh], by simp [Sty.pushHT, hC.nt], hC.nl, ?_, ?_, ?_⟩
  · exact CellsOK.push (need := HTy.need) hC.hs (fun _ _ => HCellOK.mono hE)
      (fun c hc => hE.hs c (by rw [hC.nh]; exact hc)) (by rw [hhs]; exact ⟨h2, HThunkOK.mono hE hh⟩)
  · exact CellsOK.push (need := TTy.need) hC.ts (fun _ _ => TCellOK.mono hE)
      (fun c hc => hE.ts c (by rw [hC.nt]; exact hc))
      (by rw [hts]; exact ⟨t2, fun d hd => TThunkOK.mono hE (ht d hd)⟩)
  · exact CellsOK.mono (need := LTy.need) hC.ls (fun _ _ => LCellOK.mono hE) (fun _ _ => rfl)

theorem RunSub.pushHT (hp : Heap) (h : HThunk) (t : TThunk) :
    RunSub { hp with hs := hp.hs.push (.pending h, 0), ts := hp.ts.push (.pending t, 0) } hp :=
  ⟨running_of_push (by nofun), running_of_push (by nofun), fun c n hc => ⟨n, hc⟩⟩

theorem tailTy_some {d d' : List El} (h : tailTy d = some d') : d.isEmpty = false ∧ d' = d.tail := by
  unfold tailTy at h
  split at h
  · cases h
  · next hne => cases h; exact ⟨by simpa using hne, rfl⟩

/-- the fresh adaptor denotes `d` -/
theorem VDen.fresh (S : Sty) (d : List El) {hn tn tK K : Nat} (hK : hn < K) (tK1 : tn < K) (tK2 : tK ≤ K) :
    VDen (S.pushHT ⟨d.head?, hn⟩ ⟨tailTy d, tn, tK⟩) (.adaptor S.nh S.nt) d K := by
  refine ⟨by simp [Sty.pushHT], by simp [Sty.pushHT], by simp [Sty.pushHT, hK], fun hne => ?_⟩
  refine ⟨by simp [Sty.pushHT], ?_, by simp [Sty.pushHT, tK1], by simp [Sty.pushHT, tK2]⟩
  simp [Sty.pushHT, tailTy, hne]

/-- `fp.MakeList(head, tail)` denotes `d` when the head closure computes `d.head?` and, `d` not being empty,
    the tail closure computes `d.tail`; `K` is above both needs and the tail's bound -/
theorem spec_mkList {S : Sty} {hp : Heap} (hC : Cons S hp) {h : HThunk} {t : TThunk} (d : List El) {hn tn tK K : Nat}
    (hh : HThunkOK S h ⟨d.head?, hn⟩) (h2 : 2 ≤ hn) (hK : hn < K)
    (ht : d.isEmpty = false → TThunkOK S t d.tail tn tK) (t2 : 2 ≤ tn) (tK1 : tn < K) (tK2 : tK ≤ K) :
    Spec (makeList h t) S hp (fun S' v => VDen S' v d K) := by
  intro lg
  refine ⟨.adaptor hp.hs.size hp.ts.size, S.pushHT ⟨d.head?, hn⟩ ⟨tailTy d, tn, tK⟩, _, lg, rfl,
    ⟨hC.pushHT hh h2 (fun d' hd' => ?_) t2, Ext.pushHT S _ _, RunSub.pushHT hp h t⟩, ?_⟩
  · obtain ⟨hne, rfl⟩ := tailTy_some hd'
    exact ht hne
  · rw [← hC.nh, ← hC.nt]
    exact VDen.fresh S d hK tK1 tK2

theorem Cons.pushL {S : Sty} {hp : Heap} (hC : Cons S hp) {opt : LV} {k : KL} {lty : LTy}
    (hl : LThunkOK S opt k lty) (l2 : 2 ≤ lty.need) :
    Cons (S.pushL lty) { hp with ls := hp.ls.push (.pending (opt, k), 0) } := by
  have hE := Ext.pushL S lty
  have hls : (S.pushL lty).ls hp.ls.size = lty := by simp [Sty.pushL, hC.nl]
  refine ⟨hC.nh, hC.nt, by simp [Sty.pushL, hC.nl], ?_, ?_, ?_⟩
  · exact CellsOK.mono (need := HTy.need) hC.hs (fun _ _ => HCellOK.mono hE) (fun _ _ => rfl)
  · exact CellsOK.mono (need := TTy.need) hC.ts (fun _ _ => TCellOK.mono hE) (fun _ _ => rfl)
  · exact CellsOK.push (need := LTy.need) hC.ls (fun _ _ => LCellOK.mono hE)
      (fun c hc => hE.ls c (by rw [hC.nl]; exact hc)) (by rw [hls]; exact ⟨l2, LThunkOK.mono hE hl⟩)

theorem spec_allocLazy {S : Sty} {hp : Heap} (hC : Cons S hp) {opt : LV} {k : KL} {lty : LTy}
    (hl : LThunkOK S opt k lty) (l2 : 2 ≤ lty.need) :
    Spec (allocLazy opt k) S hp (fun S' v => v = S.nl ∧ S' = S.pushL lty) :=
  fun lg => ⟨hp.ls.size, S.pushL lty, _, lg, rfl,
    ⟨hC.pushL hl l2, Ext.pushL S lty, ⟨fun c n hc => ⟨n, hc⟩, fun c n hc => ⟨n, hc⟩, running_of_push (by nofun)⟩⟩,
    hC.nl.symm, rfl⟩

/-! ## overwriting a cell -/

theorem Cons.setH {S : Sty} {hp : Heap} (hC : Cons S hp) (c : Nat) (cell : Cell HThunk (Option El)) (n : Nat)
    (hcell : HCellOK S (S.hs c) cell) : Cons S { hp with hs := hp.hs.set! c (cell, n) } :=
  ⟨by simp [hC.nh], hC.nt, hC.nl, CellsOK.set (need := HTy.need) hC.hs c n hcell, hC.ts, hC.ls⟩

theorem Cons.setL {S : Sty} {hp : Heap} (hC : Cons S hp) (c : Nat) (cell : Cell (LV × KL) LV) (n : Nat)
    (hcell : LCellOK S (S.ls c) cell) : Cons S { hp with ls := hp.ls.set! c (cell, n) } :=
  ⟨hC.nh, hC.nt, by simp [hC.nl], hC.hs, hC.ts, CellsOK.set (need := LTy.need) hC.ls c n hcell⟩

theorem Cons.setT {S : Sty} {hp : Heap} (hC : Cons S hp) (c : Nat) (cell : Cell TThunk LV) (n : Nat)
    (hcell : TCellOK S (S.ts c) cell) : Cons S { hp with ts := hp.ts.set! c (cell, n) } :=
  ⟨hC.nh, by simp [hC.nt], hC.nl, hC.hs, CellsOK.set (need := TTy.need) hC.ts c n hcell, hC.ls⟩

end FpVerif.Coll
