import FpVerif.Model.LazyList
import FpVerif.Lemmas.Callbacks
/-!
# `pure1 f` / `pure2 f`: the function a non-panicking callback computes
-/
namespace FpVerif.LL
open FpVerif.It

theorem pure1_eq {X : Type} [Inhabited X] {f : Val → GoM X} {g : Val → X} (h : Total f g) (a : Val) :
    pure1 f a = g a := by
  obtain ⟨lg', h'⟩ := h a []
  simp only [pure1, h']

theorem Total.pure1 {X : Type} [Inhabited X] {f : Val → GoM X} {g : Val → X} (h : Total f g) :
    Total f (pure1 f) := by
  intro a lg
  obtain ⟨lg', h'⟩ := h a lg
  exact ⟨lg', by rw [pure1_eq h]; exact h'⟩

theorem pure2_eq {f : Val → Val → GoM Val} {g : Val → Val → Val} (h : Total2 f g) (a b : Val) :
    pure2 f a b = g a b := by
  obtain ⟨lg', h'⟩ := h a b []
  simp only [pure2, h']

theorem Total2.pure2 {f : Val → Val → GoM Val} {g : Val → Val → Val} (h : Total2 f g) : Total2 f (pure2 f) := by
  intro a b lg
  obtain ⟨lg', h'⟩ := h a b lg
  exact ⟨lg', by rw [pure2_eq h]; exact h'⟩

end FpVerif.LL
