import FpVerif.Model.EvalStack
/-! Stack-instrumented lazy.Eval: cost-monad projections, `WF`, val / peak / log of `runBody` per node. -/
namespace FpVerif.EvalStack

namespace Cost
variable {α β : Type}

@[simp] theorem val_pure (a : α) : (pure a : Cost α).val = a := rfl
@[simp] theorem log_pure (a : α) : (pure a : Cost α).log = [] := rfl
@[simp] theorem peak_pure (a : α) : (pure a : Cost α).peak = 0 := rfl
@[simp] theorem val_bind (m : Cost α) (f : α → Cost β) : (m >>= f).val = (f m.val).val := rfl
@[simp] theorem log_bind (m : Cost α) (f : α → Cost β) : (m >>= f).log = m.log ++ (f m.val).log := rfl
@[simp] theorem peak_bind (m : Cost α) (f : α → Cost β) : (m >>= f).peak = max m.peak (f m.val).peak := rfl
@[simp] theorem val_call (m : Cost α) : (call m).val = m.val := rfl
@[simp] theorem log_call (m : Cost α) : (call m).log = bump 1 m.log := rfl
@[simp] theorem peak_call (m : Cost α) : (call m).peak = m.peak + 1 := rfl
@[simp] theorem val_void (m : Cost α) : m.void.val = () := rfl
@[simp] theorem log_void (m : Cost α) : m.void.log = m.log := rfl
@[simp] theorem peak_void (m : Cost α) : m.void.peak = m.peak := rfl
@[simp] theorem log_emit (e : Event) : (emit e).log = [(e, 0)] := rfl
@[simp] theorem peak_emit (e : Event) : (emit e).peak = 0 := rfl

theorem ext' {a b : Cost α} (h1 : a.val = b.val) (h2 : a.log = b.log) (h3 : a.peak = b.peak) : a = b := by
  cases a; cases b; simp_all

@[simp] theorem bump_nil (k : Nat) : bump k [] = [] := rfl
@[simp] theorem bump_append (k : Nat) (a b : List DEvent) : bump k (a ++ b) = bump k a ++ bump k b := by
  simp [bump]
@[simp] theorem bump_bump (j k : Nat) (a : List DEvent) : bump j (bump k a) = bump (k + j) a := by
  simp [bump, Nat.add_assoc]
@[simp] theorem bump_cons (k : Nat) (p : DEvent) (a : List DEvent) : bump k (p :: a) = (p.1, p.2 + k) :: bump k a := rfl
@[simp] theorem map_fst_bump (k : Nat) (a : List DEvent) : (bump k a).map Prod.fst = a.map Prod.fst := by
  simp [bump, Function.comp_def]

@[simp] theorem events_pure (a : α) : (pure a : Cost α).events = [] := rfl
@[simp] theorem events_bind (m : Cost α) (f : α → Cost β) : (m >>= f).events = m.events ++ (f m.val).events := by
  simp [events]
@[simp] theorem events_call (m : Cost α) : (call m).events = m.events := by simp [events]
@[simp] theorem events_void (m : Cost α) : m.void.events = m.events := rfl
@[simp] theorem events_emit (e : Event) : (emit e).events = [e] := rfl

theorem erase_eq (m : Cost α) : m.erase = (m.val, m.events) := rfl

/-- every logged frame is below the peak -/
def WF (m : Cost α) : Prop := ∀ p ∈ m.log, p.2 ≤ m.peak

theorem wf_pure (a : α) : WF (pure a : Cost α) := by intro p hp; simp at hp
theorem wf_emit (e : Event) : WF (emit e) := by intro p hp; simp at hp; simp [hp]
theorem wf_call {m : Cost α} (h : WF m) : WF (call m) := by
  intro p hp
  simp [bump] at hp
  obtain ⟨a, b, hab, rfl⟩ := hp
  have := h _ hab
  simp at this ⊢; omega
theorem wf_bind {m : Cost α} {f : α → Cost β} (h1 : WF m) (h2 : WF (f m.val)) : WF (m >>= f) := by
  intro p hp
  simp at hp
  rcases hp with hp | hp
  · have := h1 _ hp; simp; omega
  · have := h2 _ hp; simp; omega
theorem wf_void {m : Cost α} (h : WF m) : WF m.void := h

end Cost
-- equations of the instrumented run loop (used by Spec/C16Stack) ------------------------------------------------
section RunLemmas
open Cost
variable {T : Type} [Inhabited T]

theorem callFirst_erase (first : Option (Unit → Cost T)) :
    (EvalStack.callFirst first).erase = EvalM.callFirst (first.map (fun f u => (f u).erase)) := by
  cases first <;> simp [EvalStack.callFirst, EvalM.callFirst, erase_eq]

theorem val_runBody_cont (first : Option (Unit → Cost T)) (nextC : T → Cost Unit) (next : T → SEval T) :
    (runBody (.cont first nextC next)).val = (runBody (next (EvalStack.callFirst first).val)).val := by
  simp [runBody]

/-- One loop iteration on a `cont` node: `Resume` (1 frame), then the closure it returned (1 frame) calling
    `firstFunc` and `getNextFunc` (1 frame each + what they do); the REST of the evaluation runs in the same
    frame of `Run`: it contributes with `max`, not with `+`. -/
theorem peak_runBody_cont (first : Option (Unit → Cost T)) (nextC : T → Cost Unit) (next : T → SEval T) :
    (runBody (.cont first nextC next)).peak
      = max (1 + max (EvalStack.callFirst first).peak (1 + (nextC (EvalStack.callFirst first).val).peak))
            (runBody (next (EvalStack.callFirst first).val)).peak := by
  simp only [runBody, peak_bind, peak_call, peak_pure, val_bind, val_call, val_pure]
  rw [Nat.max_zero, Nat.zero_add, Nat.max_eq_right (Nat.le_add_left 1 _), Nat.add_comm _ 1, Nat.add_comm _ 1]

/-- … as a bound: neither a frame of the step nor anything in the rest is deeper than `B` -/
theorem peak_runBody_cont_le (first : Option (Unit → Cost T)) (nextC : T → Cost Unit) (next : T → SEval T) (B : Nat) :
    (runBody (.cont first nextC next)).peak ≤ B
      ↔ (EvalStack.callFirst first).peak + 1 ≤ B ∧ (nextC (EvalStack.callFirst first).val).peak + 2 ≤ B
        ∧ (runBody (next (EvalStack.callFirst first).val)).peak ≤ B := by
  rw [peak_runBody_cont]
  simp only [Nat.max_le, ← Nat.add_max_add_left]
  omega

theorem val_runBody_leaf (first : Option (Unit → Cost T)) :
    (runBody (.leaf first)).val = (EvalStack.callFirst first).val := rfl

theorem peak_runBody_leaf (first : Option (Unit → Cost T)) :
    (runBody (.leaf first)).peak = 1 + (EvalStack.callFirst first).peak := by
  simp [runBody]; omega

theorem peak_runBody_done (t : T) : (runBody (done t)).peak = 2 := by
  simp [runBody, done, EvalStack.callFirst]

theorem val_runBody_tailCall (f : Unit → Cost (SEval T)) :
    (runBody (tailCall f)).val = (runBody (f ()).val).val := by
  simp [tailCall, val_runBody_cont]

theorem peak_get (e : SEval T) : (EvalStack.get e).peak = 2 + (runBody e).peak := by
  simp [EvalStack.get, EvalStack.run]; omega

theorem val_runBody_flatMap (r : SEval T) (f : T → Cost (SEval T)) :
    (runBody (flatMap r f)).val = (runBody (f (runBody r).val).val).val := by
  induction r with
  | leaf first => simp [flatMap, runBody]
  | cont first nextC next ih => simp [flatMap, val_runBody_cont, ih]

/-- `r`, the continuation of `r.FlatMap(f)` (two frames above `Run`) and its result all run below the peak -/
theorem le_of_flatMap_peak_le (r : SEval T) (f : T → Cost (SEval T)) (B : Nat)
    (h : (runBody (flatMap r f)).peak ≤ B) :
    (runBody r).peak ≤ B ∧ 2 + (f (runBody r).val).peak ≤ B ∧ (runBody (f (runBody r).val).val).peak ≤ B := by
  induction r with
  | leaf first =>
    rw [flatMap, peak_runBody_cont_le, peak_void] at h
    rw [peak_runBody_leaf, val_runBody_leaf]
    omega
  | cont first nextC next ih =>
    rw [flatMap, peak_runBody_cont_le] at h
    have ih := ih (EvalStack.callFirst first).val h.2.2
    rw [peak_runBody_cont_le, val_runBody_cont]
    simp only [peak_bind, peak_call, peak_pure] at h
    omega

omit [Inhabited T] in
/-- structure of a left-nested chain on a leaf: the `getNextFunc` of `e.FlatMap(k 1)…FlatMap(k (n+1))` is a tower
    of `n` wrapper closures around `k 1` -/
theorem lchain_leaf (k : Nat → T → Cost (SEval T)) (first : Option (Unit → Cost T)) (n : Nat) :
    ∃ nextC next, lchain k (n + 1) (.leaf first) = .cont first nextC next
      ∧ ∀ v, (nextC v).peak = n + (k 1 v).peak := by
  induction n with
  | zero => exact ⟨_, _, rfl, fun v => by simp⟩
  | succ n ih =>
    obtain ⟨nC, nx, h, hp⟩ := ih
    refine ⟨_, _, by rw [lchain, h, flatMap], fun v => ?_⟩
    have := hp v
    simp; omega

theorem log_runBody_tailCall (f : Unit → Cost (SEval T)) :
    (runBody (tailCall f)).log = bump 7 (f ()).log ++ (runBody (f ()).val).log := by
  simp [tailCall, runBody, callFirst, memoBody, onceDo]

theorem log_runBody_tailCallN (f : Unit → Cost (SEval T)) :
    (runBody (tailCallN f)).log = bump 8 (f ()).log ++ (runBody (f ()).val).log := by
  simp [tailCallN, log_runBody_tailCall]

theorem log_runBody_tc (viaN : Bool) (f : Unit → Cost (SEval T)) :
    (runBody (tc viaN f)).log = bump (if viaN then 8 else 7) (f ()).log ++ (runBody (f ()).val).log := by
  cases viaN
  · exact log_runBody_tailCall f
  · exact log_runBody_tailCallN f

theorem wf_callFirst (first : Option (Unit → Cost T)) (h : ∀ f, first = some f → WF (f ())) : WF (callFirst first) := by
  cases first with
  | none => exact wf_call (wf_pure _)
  | some f => exact wf_call (h f rfl)

theorem log_runBody_callE (f : Unit → Cost T) : (runBody (callE f)).log = bump 6 (f ()).log := by
  simp [runBody, callE, callFirst, memoBody, onceDo]

end RunLemmas

end FpVerif.EvalStack
