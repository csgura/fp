import FpVerif.Lemmas.ListTy
/-!
# Lazy list typing: the heap updates of the model keep the heap consistent

Pushing fresh cells (`makeList`, `allocLazy`, `allocIter`), overwriting a cell (`running`, `done`),
advancing a captured iterator.  The two untyped components of `Post` — no new running cells (`runSubStep`),
done cells untouched (`doneSubStep`) — are heap relations in the sense of `StepRel`, so they hold of every
run, typed or not; the typed lemmas cite their clauses.
-/
namespace FpVerif.LL
open FpVerif.It

theorem Cons.pushHT {S : Sty} {hp : Heap} (hC : Cons S hp) {h : HThunk} {t : TThunk} {hty : HTy} {tty : TTy}
    (hh : HThunkOK S h hty) (h2 : 2 ≤ hty.need)
    (ht : ∀ d, tty.d = some d → TThunkOK S hp.its t d tty.need tty.K) (t2 : 2 ≤ tty.need)
    (hcol : ∀ it, t = .collect it → it < hp.its.size ∧ NoPendCollect hp it) :
    Cons (S.pushHT hty tty)
      { hp with hs := hp.hs.push (.pending h, 0), ts := hp.ts.push (.pending t, 0) } := by
  have hE := Ext.pushHT S hty tty
  have hhs : (S.pushHT hty tty).hs hp.hs.size = hty := by simp [Sty.pushHT, hC.nh]
  have hts : (S.pushHT hty tty).ts hp.ts.size = tty := by simp [Sty.pushHT, hC.nt]
  refine ⟨by simp [Sty.pushHT, hC.nh], by simp [Sty.pushHT, hC.nt], hC.nl, ?_, ?_, ?_, ?_, ?_⟩
  · exact CellsOK.push (need := HTy.need) hC.hs (fun _ _ => HCellOK.mono hE)
      (fun c hc => hE.hs c (by rw [hC.nh]; exact hc)) (by rw [hhs]; exact ⟨h2, HThunkOK.mono hE hh⟩)
  · exact CellsOK.push (need := TTy.need) hC.ts (fun _ _ => TCellOK.mono hE)
      (fun c hc => hE.ts c (by rw [hC.nt]; exact hc))
      (by rw [hts]; exact ⟨t2, fun d hd => TThunkOK.mono hE (ht d hd)⟩)
  · exact CellsOK.mono (need := LTy.need) hC.ls (fun _ _ => LCellOK.mono hE) (fun _ _ => rfl)
  · intro c c' it n n' h1 h2'
    rcases push_cases h1 with ⟨_, g1⟩ | ⟨he1, hx1⟩
    · rcases push_cases h2' with ⟨_, g2⟩ | ⟨he2, hx2⟩
      · exact hC.uniq c c' it n n' g1 g2
      · cases hx2
        exact absurd g1 ((hcol it rfl).2 c n)
    · cases hx1
      rcases push_cases h2' with ⟨_, g2⟩ | ⟨he2, hx2⟩
      · exact absurd g2 ((hcol it rfl).2 c' n')
      · rw [he1, he2]
  · intro c it n h1
    rcases push_cases h1 with ⟨_, g1⟩ | ⟨he1, hx1⟩
    · exact hC.itsb c it n g1
    · cases hx1; exact (hcol it rfl).1

theorem RunSub.pushHT (hp : Heap) (h : HThunk) (t : TThunk) :
    RunSub { hp with hs := hp.hs.push (.pending h, 0), ts := hp.ts.push (.pending t, 0) } hp :=
  ⟨running_of_push (by nofun), running_of_push (by nofun), fun c n hc => ⟨n, hc⟩⟩

theorem DoneSub.pushHT (hp : Heap) (h : HThunk) (t : TThunk) :
    DoneSub hp { hp with hs := hp.hs.push (.pending h, 0), ts := hp.ts.push (.pending t, 0) } :=
  ⟨fun c v n hc => by rw [push_get_lt _ _ _ (get_lt hc)]; exact hc,
   fun c v n hc => by rw [push_get_lt _ _ _ (get_lt hc)]; exact hc⟩

/-- what runs after an operation ran before it: every operation, from every heap -/
theorem runSubStep : StepRel fun hp hp' => RunSub hp' hp where
  refl := RunSub.refl
  trans h1 h2 := h2.trans h1
  pushHT := RunSub.pushHT
  pushL _ _ := ⟨fun _ n h => ⟨n, h⟩, fun _ n h => ⟨n, h⟩, running_of_push (by nofun)⟩
  its _ _ := ⟨fun _ n h => ⟨n, h⟩, fun _ n h => ⟨n, h⟩, fun _ n h => ⟨n, h⟩⟩
  cellH _ _ hB := ⟨running_of_forced (by nofun) hB.hs, hB.ts, hB.ls⟩
  cellT _ _ hB := ⟨hB.hs, running_of_forced (by nofun) hB.ts, hB.ls⟩
  cellL _ _ hB := ⟨hB.hs, hB.ts, running_of_forced (by nofun) hB.ls⟩

/-- done cells keep their value: every operation, from every heap, whatever the callbacks do -/
theorem doneSubStep : StepRel DoneSub where
  refl := DoneSub.refl
  trans := DoneSub.trans
  pushHT := DoneSub.pushHT
  pushL _ _ := ⟨fun _ _ _ h => h, fun _ _ _ h => h⟩
  its _ _ := ⟨fun _ _ _ h => h, fun _ _ _ h => h⟩
  cellH _ hcell hB := ⟨fun i v m => kept_of_forced hcell (by nofun) (hB.hs i v m), hB.ts⟩
  cellT _ hcell hB := ⟨hB.hs, fun i v m => kept_of_forced hcell (by nofun) (hB.ts i v m)⟩
  cellL _ _ hB := ⟨hB.hs, hB.ts⟩

theorem DenV.tailTy_some {d d' : DenV} (h : d.tailTy = some d') : d.isEmpty = false ∧ d' = d.tail := by
  unfold DenV.tailTy at h
  split at h
  · cases h
  · next hne => cases h; exact ⟨by simpa using hne, rfl⟩

theorem VDen.fresh (S : Sty) (d : DenV) {hn tn tK K : Nat} (hK : hn < K) (tK1 : tn < K) (tK2 : tK ≤ K) :
    VDen (S.pushHT ⟨d.head?, hn⟩ ⟨d.tailTy, tn, tK⟩) (.adaptor S.nh S.nt) d K := by
  refine ⟨by simp [Sty.pushHT], by simp [Sty.pushHT], by simp [Sty.pushHT, hK], fun hne => ?_⟩
  refine ⟨by simp [Sty.pushHT], ?_, by simp [Sty.pushHT, tK1], by simp [Sty.pushHT, tK2]⟩
  simp [Sty.pushHT, DenV.tailTy, hne]

/-- `fp.MakeList(head, tail)` denotes `d` when the head closure computes `d.head?` and the tail closure
    `d.tail`; `K` is above both needs and the tail's bound -/
theorem spec_mkList {S : Sty} {hp : Heap} (hC : Cons S hp) {h : HThunk} {t : TThunk} (d : DenV) {hn tn tK K : Nat}
    (hh : HThunkOK S h ⟨d.head?, hn⟩) (h2 : 2 ≤ hn) (hK : hn < K)
    (ht : d.isEmpty = false → TThunkOK S hp.its t d.tail tn tK) (t2 : 2 ≤ tn) (tK1 : tn < K) (tK2 : tK ≤ K)
    (hcol : ∀ it, t = .collect it → it < hp.its.size ∧ NoPendCollect hp it) :
    Spec (makeList h t) S hp (fun S' v => VDen S' v d K) := by
  intro lg
  refine ⟨.adaptor hp.hs.size hp.ts.size, S.pushHT ⟨d.head?, hn⟩ ⟨d.tailTy, tn, tK⟩, _, lg, rfl,
    ⟨hC.pushHT hh h2 (fun d' hd' => ?_) t2 hcol, Ext.pushHT S _ _, runSubStep.pushHT hp h t, doneSubStep.pushHT hp h t⟩, ?_⟩
  · obtain ⟨hne, rfl⟩ := DenV.tailTy_some hd'
    exact ht hne
  · rw [← hC.nh, ← hC.nt]
    exact VDen.fresh S d hK tK1 tK2

theorem Cons.pushL {S : Sty} {hp : Heap} (hC : Cons S hp) {opt : LV} {k : FnK} {lty : LTy}
    (hl : LThunkOK S opt k lty) (l2 : 2 ≤ lty.need) :
    Cons (S.pushL lty) { hp with ls := hp.ls.push (.pending (opt, k), 0) } := by
  have hE := Ext.pushL S lty
  have hls : (S.pushL lty).ls hp.ls.size = lty := by simp [Sty.pushL, hC.nl]
  refine ⟨hC.nh, hC.nt, by simp [Sty.pushL, hC.nl], ?_, ?_, ?_, hC.uniq, hC.itsb⟩
  · exact CellsOK.mono (need := HTy.need) hC.hs (fun _ _ => HCellOK.mono hE) (fun _ _ => rfl)
  · exact CellsOK.mono (need := TTy.need) hC.ts (fun _ _ => TCellOK.mono hE) (fun _ _ => rfl)
  · exact CellsOK.push (need := LTy.need) hC.ls (fun _ _ => LCellOK.mono hE)
      (fun c hc => hE.ls c (by rw [hC.nl]; exact hc)) (by rw [hls]; exact ⟨l2, LThunkOK.mono hE hl⟩)

theorem spec_allocLazy {S : Sty} {hp : Heap} (hC : Cons S hp) {opt : LV} {k : FnK} {lty : LTy}
    (hl : LThunkOK S opt k lty) (l2 : 2 ≤ lty.need) :
    Spec (allocLazy opt k) S hp (fun S' v => v = S.nl ∧ S' = S.pushL lty) :=
  fun lg => ⟨hp.ls.size, S.pushL lty, _, lg, rfl,
    ⟨hC.pushL hl l2, Ext.pushL S lty, runSubStep.pushL hp _, doneSubStep.pushL hp _⟩, hC.nl.symm, rfl⟩

theorem Cons.setH {S : Sty} {hp : Heap} (hC : Cons S hp) (c : Nat) (cell : Cell HThunk (Option Val)) (n : Nat)
    (hcell : HCellOK S (S.hs c) cell) : Cons S { hp with hs := hp.hs.set! c (cell, n) } :=
  ⟨by simp [hC.nh], hC.nt, hC.nl, CellsOK.set (need := HTy.need) hC.hs c n hcell, hC.ts, hC.ls, hC.uniq, hC.itsb⟩

theorem Cons.setL {S : Sty} {hp : Heap} (hC : Cons S hp) (c : Nat) (cell : Cell (LV × FnK) LV) (n : Nat)
    (hcell : LCellOK S (S.ls c) cell) : Cons S { hp with ls := hp.ls.set! c (cell, n) } :=
  ⟨hC.nh, hC.nt, by simp [hC.nl], hC.hs, hC.ts, CellsOK.set (need := LTy.need) hC.ls c n hcell, hC.uniq, hC.itsb⟩

/-- only by `running` / `done`, never by a pending closure -/
theorem Cons.setT {S : Sty} {hp : Heap} (hC : Cons S hp) (c : Nat) (cell : Cell TThunk LV) (n : Nat)
    (hnp : ∀ t, cell ≠ .pending t)
    (hcell : TCellOK S hp.its (S.ts c) cell) : Cons S { hp with ts := hp.ts.set! c (cell, n) } := by
  refine ⟨hC.nh, by simp [hC.nt], hC.nl, hC.hs, CellsOK.set (need := TTy.need) hC.ts c n hcell, hC.ls, ?_, ?_⟩
  · intro i j it m m' h1 h2
    rcases set_cases h1 with ⟨_, h1⟩ | ⟨_, _, hx⟩
    · rcases set_cases h2 with ⟨_, h2⟩ | ⟨_, _, hx⟩
      · exact hC.uniq i j it m m' h1 h2
      · cases hx; exact absurd rfl (hnp _)
    · cases hx; exact absurd rfl (hnp _)
  · intro i it m h1
    rcases set_cases h1 with ⟨_, h1⟩ | ⟨_, _, hx⟩
    · exact hC.itsb i it m h1
    · cases hx; exact absurd rfl (hnp _)

theorem Cons.allocIter {S : Sty} {hp : Heap} (hC : Cons S hp) (e : Int × List Val × Nat) :
    Cons S { hp with its := hp.its.push e } := by
  refine ⟨hC.nh, hC.nt, hC.nl, hC.hs, ?_, hC.ls, hC.uniq, ?_⟩
  · intro c cell n hc
    refine ⟨(hC.ts c cell n hc).1, ?_⟩
    have h := (hC.ts c cell n hc).2
    cases cell with
    | pending t =>
      intro d hd
      refine (h d hd).its (fun it hit => ?_)
      subst hit
      exact push_get_lt _ _ _ (hC.itsb c it n hc)
    | running => trivial
    | done v => exact h
  · intro c it n hc
    have := hC.itsb c it n hc
    simp only [Array.size_push]
    omega

theorem Cons.setIts {S : Sty} {hp : Heap} (hC : Cons S hp) (it : Nat) (e : Int × List Val × Nat)
    (hnp : NoPendCollect hp it) : Cons S { hp with its := hp.its.set! it e } := by
  refine ⟨hC.nh, hC.nt, hC.nl, hC.hs, ?_, hC.ls, hC.uniq, ?_⟩
  · intro c cell n hc
    refine ⟨(hC.ts c cell n hc).1, ?_⟩
    have h := (hC.ts c cell n hc).2
    cases cell with
    | pending t =>
      intro d hd
      refine (h d hd).its (fun it' hit => ?_)
      subst hit
      have hne : it' ≠ it := fun e => by subst e; exact hnp c n hc
      exact set_get_other _ _ _ _ hne
    | running => trivial
    | done v => exact h
  · intro c it' n hc
    have := hC.itsb c it' n hc
    simp only [size_set!]
    exact this

theorem isEmpty_plain (fuel : Nat) (l : LV) (hl : ∀ a b, l ≠ .adaptor a b) (hn : l ≠ .nilIface) (hp : Heap) (lg : Log) :
    LL.isEmpty (fuel + 1) l hp lg =
      (.ok (match l with | .nil => true | .cons _ _ => false | .seq xs => xs.isEmpty | _ => true), hp, lg) := by
  cases l with
  | nil => rfl
  | cons a t => rfl
  | seq xs => rfl
  | adaptor a b => exact absurd rfl (hl a b)
  | nilIface => exact absurd rfl hn

end FpVerif.LL
