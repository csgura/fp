import FpVerif.Lemmas.PromiseInvA
/-!
Invariant B — the repaired algorithm (`Variant.copyFirst`) only: backing arrays are immutable
once allocated, so every slice header keeps denoting the same callback list; every callback is,
at all times, in exactly one place (still with its registering thread, in the cell's list, in
the winner's captured list, or in the invocation log): conservation of callbacks.
-/
namespace FpVerif.Promise
open FpVerif.Sched

variable {R : Type}

/-! ### slices over an append-only heap -/

def Denotes (h : Heap) (sl : Slice) (cs : List Cb) : Prop :=
  sl.arr < h.length ∧ resolve h sl = cs.map some ∧ cs.length = sl.len

theorem arrayAt_push {h : Heap} {a : Nat} (x : List (Option Cb)) (ha : a < h.length) :
    arrayAt (h ++ [x]) a = arrayAt h a := by
  simp [arrayAt, List.getElem?_append_left ha]

theorem arrayAt_push_new (h : Heap) (x : List (Option Cb)) : arrayAt (h ++ [x]) h.length = x := by
  simp [arrayAt]

theorem resolve_push {h : Heap} {sl : Slice} (x : List (Option Cb)) (ha : sl.arr < h.length) :
    resolve (h ++ [x]) sl = resolve h sl := by
  simp [resolve, arrayAt_push x ha]

theorem Denotes.push {h : Heap} {sl : Slice} {cs : List Cb} (x : List (Option Cb))
    (d : Denotes h sl cs) : Denotes (h ++ [x]) sl cs :=
  ⟨by have := d.1; simp; omega, by rw [resolve_push x d.1]; exact d.2.1, d.2.2⟩

theorem Denotes.alloc (h : Heap) (cs : List Cb) (cb : Cb) :
    Denotes (allocCopy h (cs.map some) cb).1 (allocCopy h (cs.map some) cb).2 (cs ++ [cb]) := by
  refine ⟨by simp [allocCopy], ?_, by simp [allocCopy]⟩
  simp only [allocCopy, resolve, arrayAt_push_new, List.length_map]
  rw [List.take_append_of_le_length (by simp)]
  rw [List.take_of_length_le (by simp)]
  simp

theorem count_some_map (c : Cb) (cs : List Cb) : (cs.map some).count (some c) = cs.count c := by
  induction cs with
  | nil => rfl
  | cons a as ih =>
    simp only [List.map_cons, List.count_cons, ih]
    by_cases h : a = c <;> simp [h]

theorem Denotes.readSlot {h : Heap} {sl : Slice} {cs : List Cb} (d : Denotes h sl cs) {i : Nat}
    (hi : i < sl.len) : ∃ cb, readSlot h sl.arr i = some cb ∧ cs[i]? = some cb := by
  have h1 : (resolve h sl)[i]? = (arrayAt h sl.arr)[i]? := by
    simp [resolve, hi]
  have hlen : i < cs.length := by rw [d.2.2]; exact hi
  refine ⟨cs[i], ?_, by simp [hlen]⟩
  unfold FpVerif.Promise.readSlot
  rw [← h1, d.2.1]
  simp [hlen]

theorem Denotes.drop_eq {h : Heap} {sl : Slice} {cs : List Cb} (d : Denotes h sl cs) {i : Nat}
    {cb : Cb} (hcb : cs[i]? = some cb) :
    (resolve h sl).drop i = some cb :: (resolve h sl).drop (i + 1) := by
  rw [d.2.1]
  obtain ⟨hlen, hget⟩ := List.getElem?_eq_some_iff.mp hcb
  rw [List.drop_eq_getElem_cons (by simpa using hlen)]
  simp [hget]

/-! ### the invariant: valid slices per thread, one count per callback -/

def CellHas (sh : Shared R) (cs : List Cb) : Prop :=
  match sh.cell with
  | .nil => cs = []
  | .cbs sl => Denotes sh.heap sl cs
  | .done _ => False

def TInvB (sh : Shared R) : Local R → Prop
  | .cRun _ sl i cb => ∃ cs, Denotes sh.heap sl cs ∧ cs[i]? = some cb
  | .rCas cb ap new => ap = sh.ver → ∃ cs, CellHas sh cs ∧ Denotes sh.heap new (cs ++ [cb])
  | .panicked _ => False
  | _ => True

/-- where a callback is, seen from one thread -/
def holds (c : Cb) (sh : Shared R) : Local R → Nat
  | .rGet cb | .rAppend cb .. | .rCas cb .. | .rCall cb _ => if cb = c then 1 else 0
  | .cRun _ sl i _ => ((resolve sh.heap sl).drop i).count (some c)
  | _ => 0

def cellCount (c : Cb) (sh : Shared R) : Nat :=
  match sh.cell with
  | .cbs sl => (resolve sh.heap sl).count (some c)
  | _ => 0

def logCount (c : Cb) (sh : Shared R) : Nat := (sh.log.map (·.1)).count c

/-- number of places callback `c` is in -/
def occ (c : Cb) (s : PSys R) : Nat :=
  sumBy (holds c s.shared) s.threads + cellCount c s.shared + logCount c s.shared

structure InvB (total : Cb → Nat) (s : PSys R) : Prop where
  threads : ∀ l ∈ s.threads, TInvB s.shared l
  cell : ∀ sl, s.shared.cell = .cbs sl → ∃ cs, Denotes s.shared.heap sl cs
  cons : ∀ c, occ c s = total c

/-- bookkeeping of one step in the per-thread sum -/
theorem holds_step {c : Cb} {sh sh' : Shared R} {ts : List (Local R)} {t : Nat} {l l' : Local R}
    (hl : ts[t]? = some l) (hst : ∀ x ∈ ts, holds c sh' x = holds c sh x) :
    sumBy (holds c sh') (ts.set t l') + holds c sh l = sumBy (holds c sh) ts + holds c sh' l' := by
  have h1 := sumBy_set (holds c sh') (l' := l') hl
  rw [sumBy_congr hst, hst l (List.mem_of_getElem? hl)] at h1
  exact h1

/-! ### stability of the per-thread parts under the steps of other threads -/

theorem holds_pushLog (c : Cb) (sh : Shared R) (cb : Cb) (r : R) (x : Local R) :
    holds c (pushLog sh cb r) x = holds c sh x := by cases x <;> rfl

theorem holds_bump (c : Cb) (sh : Shared R) (cl : Cell R) (x : Local R) :
    holds c (bump sh cl) x = holds c sh x := by cases x <;> rfl

theorem holds_push (c : Cb) (sh : Shared R) (a : List (Option Cb)) (x : Local R)
    (hx : TInvB sh x) : holds c (setHeap sh (sh.heap ++ [a])) x = holds c sh x := by
  cases x with
  | cRun r sl i cb =>
    obtain ⟨cs, d, _⟩ := hx
    simp [holds, resolve_push a d.1]
  | _ => rfl

theorem TInvB_pushLog (sh : Shared R) (cb : Cb) (r : R) (x : Local R) :
    TInvB sh x → TInvB (pushLog sh cb r) x := by
  intro h; cases x <;> exact h

theorem CellHas.push {sh : Shared R} {cs : List Cb} (a : List (Option Cb)) (h : CellHas sh cs) :
    CellHas (setHeap sh (sh.heap ++ [a])) cs := by
  unfold CellHas at *
  simp only [setHeap_cell, setHeap_heap]
  split <;> simp_all
  exact h.push a

theorem TInvB_push (sh : Shared R) (a : List (Option Cb)) (x : Local R) :
    TInvB sh x → TInvB (setHeap sh (sh.heap ++ [a])) x := by
  intro h
  cases x with
  | cRun r sl i cb =>
    obtain ⟨cs, d, hi⟩ := h
    exact ⟨cs, d.push a, hi⟩
  | rCas cb ap new =>
    intro hap
    obtain ⟨cs, hc, d⟩ := h hap
    exact ⟨cs, hc.push a, d.push a⟩
  | _ => exact h

theorem TInvB_bump (sh : Shared R) (cl : Cell R) (x : Local R) (hA : TInvA sh x) :
    TInvB sh x → TInvB (bump sh cl) x := by
  intro h
  cases x with
  | cRun r sl i cb => exact h
  | rCas cb ap new => exact (le_bump hA.1).2
  | _ => exact h

theorem cellCount_push {sh : Shared R} (c : Cb) (a : List (Option Cb))
    (hcell : ∀ sl, sh.cell = .cbs sl → ∃ cs, Denotes sh.heap sl cs) :
    cellCount c (setHeap sh (sh.heap ++ [a])) = cellCount c sh := by
  unfold cellCount
  simp only [setHeap_cell, setHeap_heap]
  split
  · rename_i sl hc
    obtain ⟨cs, d⟩ := hcell sl hc
    rw [resolve_push a d.1]
  · rfl

theorem cellCount_of_CellHas {sh : Shared R} {cs : List Cb} (c : Cb) (h : CellHas sh cs) :
    cellCount c sh = cs.count c := by
  unfold CellHas at h
  unfold cellCount
  split at h
  · subst h; simp_all
  · rename_i sl hc; simp only [hc]; rw [h.2.1, count_some_map]
  · exact h.elim

/-- with a valid slice, the loop head fetches a real callback or finishes -/
theorem enterRun_of_denotes {h : Heap} {sl : Slice} {cs : List Cb} (d : Denotes h sl cs) (r : R)
    (i : Nat) :
    (i < sl.len ∧ ∃ cb, cs[i]? = some cb ∧ enterRun h r sl i = .cRun r sl i cb) ∨
    (¬ i < sl.len ∧ enterRun h r sl i = .cRet r true) := by
  unfold enterRun
  by_cases hi : i < sl.len
  · obtain ⟨cb, hrd, hget⟩ := d.readSlot hi
    exact Or.inl ⟨hi, cb, hget, by simp [hi, hrd]⟩
  · exact Or.inr ⟨hi, by simp [hi]⟩

theorem holds_enterRun {sh sh' : Shared R} {sl : Slice} {cs : List Cb} (c : Cb) (r : R) (j : Nat)
    (d : Denotes sh.heap sl cs) (hh : sh'.heap = sh.heap) :
    holds c sh' (enterRun sh.heap r sl j) = ((resolve sh.heap sl).drop j).count (some c) := by
  rcases enterRun_of_denotes d r j with ⟨_, cb, _, he⟩ | ⟨hj, he⟩
  · rw [he]; simp [holds, hh]
  · rw [he]
    have : (resolve sh.heap sl).drop j = [] := by
      apply List.drop_eq_nil_of_le
      have := resolve_length_le sh.heap sl
      omega
    simp [holds, this]

theorem TInvB_enterRun {sh sh' : Shared R} {sl : Slice} {cs : List Cb} (r : R) (j : Nat)
    (d : Denotes sh.heap sl cs) (hh : sh'.heap = sh.heap) : TInvB sh' (enterRun sh.heap r sl j) := by
  rcases enterRun_of_denotes d r j with ⟨_, cb, hget, he⟩ | ⟨_, he⟩
  · rw [he]; exact ⟨cs, by rw [hh]; exact d, hget⟩
  · rw [he]; trivial

/-- local conservation: the other threads hold what they held, and the moved thread, the cell and
    the log together hold `c` as often as before -/
theorem occ_step {c : Cb} {s : PSys R} {sh' : Shared R} {t : Nat} {l l' : Local R}
    (hl : s.threads[t]? = some l) (hst : ∀ x ∈ s.threads, holds c sh' x = holds c s.shared x)
    (h : holds c sh' l' + cellCount c sh' + logCount c sh' =
      holds c s.shared l + cellCount c s.shared + logCount c s.shared) :
    occ c ⟨sh', s.threads.set t l'⟩ = occ c s := by
  have h1 := holds_step (l' := l') hl hst
  simp only [occ]
  omega

/-- steps that leave the shared state alone and do not move a callback -/
theorem InvB_same {total : Cb → Nat} {s : PSys R} {t : Nat} {l l' : Local R}
    (hB : InvB total s) (hl : s.threads[t]? = some l) (hT : TInvB s.shared l')
    (hh : ∀ c, holds c s.shared l' = holds c s.shared l) :
    InvB total ⟨s.shared, s.threads.set t l'⟩ :=
  ⟨forall_mem_set hB.threads hT, hB.cell,
    fun c => (occ_step hl (fun _ _ => rfl) (by rw [hh c])).trans (hB.cons c)⟩

/-- a registering thread allocates the array `elems ++ [cb]` and is about to publish it; if its
    identity is still current, `elems` is what the cell holds -/
theorem InvB_alloc {total : Cb → Nat} {s : PSys R} {t : Nat} {l : Local R} {cb : Cb} {ap : Nat}
    (elems : List (Option Cb)) (hB : InvB total s) (hl : s.threads[t]? = some l)
    (hh : ∀ c, holds c s.shared l = if cb = c then 1 else 0)
    (hc : ap = s.shared.ver → ∃ cs, CellHas s.shared cs ∧ elems = cs.map some) :
    InvB total ⟨setHeap s.shared (allocCopy s.shared.heap elems cb).1,
      s.threads.set t (.rCas cb ap (allocCopy s.shared.heap elems cb).2)⟩ := by
  refine ⟨forall_mem_set (fun x hx => TInvB_push _ _ x (hB.threads x hx)) ?_, fun sl hsl => ?_, fun c => ?_⟩
  · intro hap
    obtain ⟨cs, hcs, rfl⟩ := hc hap
    exact ⟨cs, hcs.push _, Denotes.alloc _ cs cb⟩
  · obtain ⟨cs, d⟩ := hB.cell sl hsl
    exact ⟨cs, d.push _⟩
  · refine (occ_step hl (fun x hx => holds_push c _ _ x (hB.threads x hx)) ?_).trans (hB.cons c)
    rw [hh c]
    exact congrArg (fun n => (if cb = c then 1 else 0) + n + logCount c s.shared)
      (cellCount_push c _ hB.cell)

theorem logCount_pushLog (c : Cb) (sh : Shared R) (cb : Cb) (r : R) :
    logCount c (pushLog sh cb r) = logCount c sh + (if cb = c then 1 else 0) := by
  simp [logCount, List.count_append, List.count_cons]

/-- a pending completer captured what the cell holds: nothing, or the cell's slice -/
theorem cell_of_captOf {c : Cell R} {cp : Capt} (hnd : c.isDone = false) (h : captOf c = cp) :
    (cp = .nil ∧ c = .nil) ∨ ∃ sl, cp = .cbs sl ∧ c = .cbs sl := by
  subst h
  cases c with
  | nil => exact Or.inl ⟨rfl, rfl⟩
  | cbs sl => exact Or.inr ⟨sl, rfl, rfl⟩
  | done r => cases hnd

theorem InvB_step {total : Cb → Nat} (s : PSys R) (t : Tid) (s' : PSys R)
    (hA : InvA s) (hB : InvB total s) (hstep : step (stepT Variant.copyFirst) s t = some s') :
    InvB total s' := by
  obtain ⟨l, sh', l', hl, htr, rfl⟩ := step_trans hstep
  have hlm := List.mem_of_getElem? hl
  have hAl := hA.threads l hlm
  have hBl := hB.threads l hlm
  have hbump : ∀ cl, ∀ x ∈ s.threads, TInvB (bump s.shared cl) x :=
    fun cl x hx => TInvB_bump _ cl x (hA.threads x hx) (hB.threads x hx)
  cases htr with
  | @cCasOk r ap c hap =>
    obtain ⟨hnd, hcap⟩ := hAl.2 hap
    -- the winner takes over what the cell held
    have hwin : TInvB (bump s.shared (.done r)) (afterWin s.shared.heap r c) ∧
        ∀ c', holds c' (bump s.shared (.done r)) (afterWin s.shared.heap r c) =
          cellCount c' s.shared := by
      rcases cell_of_captOf hnd hcap with ⟨rfl, hcell⟩ | ⟨sl, rfl, hcell⟩
      · exact ⟨trivial, fun c' => by simp [afterWin, holds, cellCount, hcell]⟩
      · obtain ⟨cs, d⟩ := hB.cell sl hcell
        refine ⟨TInvB_enterRun r 0 d rfl, fun c' => ?_⟩
        rw [afterWin, holds_enterRun (sh' := bump s.shared (.done r)) c' r 0 d rfl]
        simp [cellCount, hcell]
    refine ⟨forall_mem_set (hbump _) hwin.1, fun sl hsl => (by cases hsl), fun c' => ?_⟩
    refine (occ_step hl (fun x _ => holds_bump c' _ _ x) ?_).trans (hB.cons c')
    have h0 : cellCount c' (bump s.shared (.done r)) = 0 := rfl
    have h1 : holds c' s.shared (.cCas r ap c) = 0 := rfl
    rw [hwin.2 c', h0, h1, Nat.add_zero, Nat.zero_add]
    rfl
  | @cRun r sl i cb =>
    obtain ⟨cs, d, hget⟩ := hBl
    refine ⟨forall_mem_set (fun x hx => TInvB_pushLog _ cb r x (hB.threads x hx)) (TInvB_enterRun r (i + 1) d rfl),
      hB.cell, fun c' => ?_⟩
    refine (occ_step hl (fun x _ => holds_pushLog c' _ _ _ x) ?_).trans (hB.cons c')
    -- the callback just run moves from the captured slice to the log
    rw [holds_enterRun (sh' := pushLog s.shared cb r) c' r (i + 1) d rfl, logCount_pushLog]
    have : holds c' s.shared (.cRun r sl i cb) =
        (if cb = c' then 1 else 0) + ((resolve s.shared.heap sl).drop (i + 1)).count (some c') := by
      simp only [holds]
      rw [d.drop_eq hget, List.count_cons]
      by_cases hcc : cb = c' <;> simp [hcc, Nat.add_comm]
    have : cellCount c' (pushLog s.shared cb r) = cellCount c' s.shared := rfl
    omega
  | @rGetNil cb hc =>
    exact InvB_alloc [] hB hl (fun _ => rfl) (fun _ => ⟨[], by simp [CellHas, hc], rfl⟩)
  | @rAppend cb ap sl =>
    refine InvB_alloc (resolve s.shared.heap sl) hB hl (fun _ => rfl) (fun hap => ?_)
    have hcell := hAl.2 hap
    obtain ⟨cs, d⟩ := hB.cell sl hcell
    exact ⟨cs, by simp [CellHas, hcell, d], d.2.1⟩
  | @rCasOk cb ap new hap =>
    obtain ⟨cs, hcs, dnew⟩ := hBl hap
    refine ⟨forall_mem_set (hbump _) trivial, fun sl hsl => ?_, fun c' => ?_⟩
    · cases hsl
      exact ⟨_, dnew⟩
    · refine (occ_step hl (fun x _ => holds_bump c' _ _ x) ?_).trans (hB.cons c')
      -- the registered callback moves from its thread into the cell
      have h3 : cellCount c' (bump s.shared (.cbs new)) = cs.count c' + (if cb = c' then 1 else 0) := by
        simp only [cellCount, bump_cell, bump_heap]
        rw [dnew.2.1, count_some_map, List.count_append]
        simp [List.count_cons]
      have h4 := cellCount_of_CellHas c' hcs
      have h5 : logCount c' (bump s.shared (.cbs new)) = logCount c' s.shared := rfl
      simp only [holds]
      omega
  | @rCall cb r =>
    refine ⟨forall_mem_set (fun x hx => TInvB_pushLog _ cb r x (hB.threads x hx)) trivial, hB.cell, fun c' => ?_⟩
    refine (occ_step hl (fun x _ => holds_pushLog c' _ _ _ x) ?_).trans (hB.cons c')
    rw [logCount_pushLog]
    have : cellCount c' (pushLog s.shared cb r) = cellCount c' s.shared := rfl
    simp only [holds]
    omega
  | oLoad2Pend hd =>
    have : s.shared.cell.isDone = true := hAl
    rw [this] at hd
    cases hd
  | _ => exact InvB_same hB hl trivial (fun _ => rfl)

end FpVerif.Promise
