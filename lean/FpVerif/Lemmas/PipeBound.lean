import FpVerif.Lemmas.PipeSim
/-!
# A syntactic fuel bound for pipelines

`Pipe.need p x` (Lemmas/PipeSim.lean), the fuel above which the pipeline theorems hold, mentions the
intermediate lists (`Pipe.denote`).  `Pipe.needB p` is an upper bound that is
computed from the AST alone — from the lengths of the source slices and the nesting of the
combinators, without evaluating a single callback and independent of the `FlatMap` argument:
`lenB` bounds the number of elements a pipeline can deliver, `needB` the longest list that can reach
a `DropWhile`/`Filter`/`FilterNot`/`FlatMap`/`FilterMap` loop.
-/
namespace FpVerif.It
namespace Pipe

/-- syntactic upper bound on the number of elements the pipeline delivers (for every argument) -/
def lenB : Pipe → Nat
  | src _ xs => xs.length
  | seq xs => xs.length
  | arg n => n
  | gen _ _ _ => 0
  | range closed a b => rangeCount closed b a
  | opt _ => 1
  | empty => 0
  | zero => 0
  | rev xs => xs.length
  | pullseq _ xs => xs.length
  | map p _ => p.lenB
  | tap p _ => p.lenB
  | take p _ => p.lenB
  | drop p _ => p.lenB
  | takew p _ => p.lenB
  | dropw p _ => p.lenB
  | filter p _ => p.lenB
  | filternot p _ => p.lenB
  | concat p q => p.lenB + q.lenB
  | flatmap p _ k => p.lenB * k.lenB
  | filtermap p _ => p.lenB
  | scan p _ _ => p.lenB + 1
  | zip p _ => p.lenB
  | zip3 p _ _ => p.lenB
  | zipidx p => p.lenB

/-- syntactic upper bound on `Pipe.need` -/
def needB : Pipe → Nat
  | src _ _ => 0
  | seq _ => 0
  | arg _ => 0
  | gen _ _ _ => 0
  | range _ _ _ => 0
  | opt _ => 0
  | empty => 0
  | zero => 0
  | rev _ => 0
  | pullseq _ _ => 0
  | map p _ => p.needB
  | tap p _ => p.needB
  | take p _ => p.needB
  | drop p _ => p.needB
  | takew p _ => p.needB
  | dropw p _ => Max.max p.needB p.lenB
  | filter p _ => Max.max p.needB p.lenB
  | filternot p _ => Max.max p.needB p.lenB
  | concat p q => Max.max p.needB q.needB
  | flatmap p _ k => Max.max p.needB (Max.max p.lenB k.needB)
  | filtermap p _ => Max.max p.needB p.lenB
  | scan p _ _ => p.needB
  | zip p q => Max.max p.needB q.needB
  | zip3 p q r => Max.max p.needB (Max.max q.needB r.needB)
  | zipidx p => p.needB

theorem intRange_length (i : Int) (k : Nat) : (intRange i k).length = k := by
  induction k generalizing i with
  | zero => rfl
  | succ k ih => simp [intRange, ih]

theorem scanl_length {α β : Type} (g : β → α → β) (z : β) (l : List α) : (scanl g z l).length = l.length + 1 := by
  induction l generalizing z with
  | nil => rfl
  | cons a l ih => simp [scanl, ih]

theorem zipIdx_length {α : Type} (n : Nat) (l : List α) : (zipIdx n l).length = l.length := by
  induction l generalizing n with
  | nil => rfl
  | cons a l ih => simp [zipIdx, ih]

theorem flatMap_length_le {α β : Type} (f : α → List β) (B : Nat) (l : List α) (h : ∀ a, a ∈ l → (f a).length ≤ B) :
    (l.flatMap f).length ≤ l.length * B := by
  induction l with
  | nil => simp
  | cons a l ih =>
    have h1 := h a (List.mem_cons_self ..)
    have h2 := ih (fun b hb => h b (List.mem_cons_of_mem _ hb))
    simp only [List.flatMap_cons, List.length_append, List.length_cons, Nat.succ_mul]
    omega

theorem denote_length_le (p : Pipe) : ∀ x, (p.denote x).length ≤ p.lenB := by
  induction p with
  | src _ xs | seq xs | pullseq _ xs => exact fun _ => Nat.le_refl _
  | gen _ _ _ | empty | zero => exact fun _ => Nat.le_refl 0
  | rev xs => exact fun _ => Nat.le_of_eq List.length_reverse
  | arg n => intro x; simp [denote, lenB]
  | range closed a b => intro x; simp [denote, lenB, intRange_length]
  | opt o => intro x; cases o <;> simp [denote, lenB]
  | map p f ih => intro x; show ((p.denote x).map _).length ≤ _; rw [List.length_map]; exact ih x
  | tap p f ih => exact ih
  | take p n ih => exact fun x => Nat.le_trans (List.take_sublist _ _).length_le (ih x)
  | drop p n ih => exact fun x => Nat.le_trans (List.drop_sublist _ _).length_le (ih x)
  | takew p f ih => exact fun x => Nat.le_trans (List.takeWhile_sublist _).length_le (ih x)
  | dropw p f ih => exact fun x => Nat.le_trans (List.dropWhile_sublist _).length_le (ih x)
  | filter p f ih | filternot p f ih => exact fun x => Nat.le_trans (List.length_filter_le _ _) (ih x)
  | filtermap p f ih => exact fun x => Nat.le_trans (List.length_filterMap_le _ _) (ih x)
  | concat p q ihp ihq =>
    intro x
    show (p.denote x ++ q.denote x).length ≤ _
    rw [List.length_append]
    exact Nat.add_le_add (ihp x) (ihq x)
  | flatmap p pre k ihp ihk =>
    exact fun x => Nat.le_trans (flatMap_length_le _ k.lenB _ (fun a _ => ihk a)) (Nat.mul_le_mul_right _ (ihp x))
  | scan p z f ih =>
    intro x
    show (scanl _ z (p.denote x)).length ≤ _
    rw [scanl_length]
    exact Nat.succ_le_succ (ih x)
  | zip p q ihp ihq =>
    intro x
    show (((p.denote x).zip (q.denote x)).map _).length ≤ _
    rw [List.length_map, List.length_zip]
    exact Nat.le_trans (Nat.min_le_left _ _) (ihp x)
  | zip3 p q r ihp ihq ihr =>
    intro x
    show (((p.denote x).zip ((q.denote x).zip (r.denote x))).map _).length ≤ _
    rw [List.length_map, List.length_zip]
    exact Nat.le_trans (Nat.min_le_left _ _) (ihp x)
  | zipidx p ih =>
    intro x
    show ((zipIdx 0 (p.denote x)).map _).length ≤ _
    rw [List.length_map, zipIdx_length]
    exact ih x

theorem max_le_max {a b c d : Nat} (h1 : a ≤ c) (h2 : b ≤ d) : Max.max a b ≤ Max.max c d :=
  Nat.max_le.mpr ⟨Nat.le_trans h1 (Nat.le_max_left _ _), Nat.le_trans h2 (Nat.le_max_right _ _)⟩

theorem need_le_needB (p : Pipe) : ∀ x, p.need x ≤ p.needB := by
  induction p with
  | src _ _ | seq _ | arg _ | gen _ _ _ | range _ _ _ | opt _ | empty | zero | rev _ | pullseq _ _ =>
    exact fun _ => Nat.le_refl 0
  | map p f ih | tap p f ih | takew p f ih | scan p z f ih | take p n ih | drop p n ih | zipidx p ih => exact ih
  | dropw p f ih | filter p f ih | filternot p f ih | filtermap p f ih =>
    exact fun x => max_le_max (ih x) (denote_length_le p x)
  | concat p q ihp ihq | zip p q ihp ihq => exact fun x => max_le_max (ihp x) (ihq x)
  | zip3 p q r ihp ihq ihr => exact fun x => max_le_max (ihp x) (max_le_max (ihq x) (ihr x))
  | flatmap p pre k ihp ihk =>
    refine fun x => max_le_max (ihp x) (max_le_max (denote_length_le p x) (listMax_le fun n hn => ?_))
    obtain ⟨a, _, rfl⟩ := List.mem_map.mp hn
    exact ihk a

end Pipe
end FpVerif.It
