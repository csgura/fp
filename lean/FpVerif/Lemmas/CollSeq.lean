import FpVerif.Model.CollMonad
import FpVerif.Lemmas.Callbacks
import FpVerif.Lemmas.CollRun
/-!
# package `seq`: the loops of `seq.FlatMap` / `seq.Map` as list recursions, what they return for callbacks that
# return (`Total`), and the exact event log for callbacks with a known log (`Logs`): the two nestings of
# associativity give the same value and different logs
-/
namespace FpVerif.Coll
open FpVerif.It

variable {α β γ : Type}

/-! ## the accumulator loops as equations on nil / cons; `Map` as a `FlatMap` -/

theorem seqFlatMapLoop_acc (fn : α → GoM (List β)) (l : List α) (ret : List β) :
    seqFlatMapLoop fn l ret = (do let r ← seqFlatMapLoop fn l []; pure (ret ++ r)) := by
  induction l generalizing ret with
  | nil => simp [seqFlatMapLoop]
  | cons v rest ih =>
    simp only [seqFlatMapLoop, bind_assoc, List.nil_append]
    congr 1; funext r
    rw [ih (ret ++ r), ih r]
    simp [List.append_assoc]

theorem seqFlatMap_nil (fn : α → GoM (List β)) : seqFlatMap [] fn = pure [] := rfl

theorem seqFlatMap_cons (fn : α → GoM (List β)) (v : α) (rest : List α) :
    seqFlatMap (v :: rest) fn = (do let r ← fn v; let r' ← seqFlatMap rest fn; pure (r ++ r')) := by
  simp only [seqFlatMap, seqFlatMapLoop, List.nil_append]
  congr 1; funext r
  rw [seqFlatMapLoop_acc]

/-- `seq.Map` is `seq.FlatMap` with the one-element slice of the callback's result -/
theorem seqMapLoop_eq (fn : α → GoM β) (l : List α) (ret : List β) :
    seqMapLoop fn l ret = seqFlatMapLoop (fun v => do let u ← fn v; pure [u]) l ret := by
  induction l generalizing ret with
  | nil => rfl
  | cons v rest ih => simp only [seqMapLoop, seqFlatMapLoop, bind_assoc, pure_bind, ih]

theorem seqMap_eq_flatMap (opt : List α) (fn : α → GoM β) :
    seqMap opt fn = seqFlatMap opt (fun v => do let u ← fn v; pure [u]) :=
  seqMapLoop_eq fn opt []

/-- a callback that only computes: `List.flatMap`, nothing is logged -/
theorem seqFlatMap_pure (g : α → List β) (m : List α) :
    seqFlatMap m (fun x => pure (g x)) = pure (m.flatMap g) := by
  induction m with
  | nil => rfl
  | cons v rest ih => rw [seqFlatMap_cons, ih]; simp

/-! ## callbacks that return -/

theorem seqFlatMap_run_cons {fn : α → GoM (List β)} {v : α} {rest : List α} {lg lg1 lg2 : List Event}
    {r r' : List β} (h1 : (fn v).run.run lg = (.ok r, lg1))
    (h2 : (seqFlatMap rest fn).run.run lg1 = (.ok r', lg2)) :
    (seqFlatMap (v :: rest) fn).run.run lg = (.ok (r ++ r'), lg2) := by
  rw [seqFlatMap_cons, run_bind_ok h1, run_bind_ok h2]; rfl

theorem seqFlatMap_total {fn : α → GoM (List β)} {g : α → List β} (h : Total fn g) (opt : List α)
    (lg : List Event) : ∃ lg', (seqFlatMap opt fn).run.run lg = (.ok (opt.flatMap g), lg') := by
  induction opt generalizing lg with
  | nil => exact ⟨lg, rfl⟩
  | cons v rest ih =>
    obtain ⟨lg1, h1⟩ := h v lg
    obtain ⟨lg2, h2⟩ := ih lg1
    exact ⟨lg2, by rw [seqFlatMap_run_cons h1 h2]; simp⟩

theorem seqMap_total {fn : α → GoM β} {g : α → β} (h : Total fn g) (opt : List α)
    (lg : List Event) : ∃ lg', (seqMap opt fn).run.run lg = (.ok (opt.map g), lg') := by
  rw [seqMap_eq_flatMap, List.map_eq_flatMap]
  exact seqFlatMap_total (total_bind_pure h fun u => [u]) opt lg

/-- `seqCompose f g` returns when `f` and `g` do. -/
theorem total_seqCompose {f : α → GoM (List β)} {g : β → GoM (List γ)} {gf : α → List β}
    {gg : β → List γ} (hf : Total f gf) (hg : Total g gg) :
    Total (seqCompose f g) (fun x => (gf x).flatMap gg) := by
  intro a lg
  obtain ⟨lg1, h1⟩ := hf a lg
  obtain ⟨lg2, h2⟩ := seqFlatMap_total hg (gf a) lg1
  exact ⟨lg2, by unfold seqCompose; rw [run_bind_ok h1, h2]⟩

theorem flatMap_optionToSeq (g : α → Option β) (opt : List α) :
    opt.flatMap (fun v => optionToSeq (g v)) = opt.filterMap g := by
  induction opt with
  | nil => rfl
  | cons v rest ih =>
    rw [List.flatMap_cons, ih, List.filterMap_cons]
    cases g v <;> simp [optionToSeq]

/-! ## order of the callback invocations -/

/-- `f a` returns `g a` and appends exactly the events `e a` to the log. -/
def Logs (f : α → GoM β) (g : α → β) (e : α → List Event) : Prop :=
  ∀ a lg, (f a).run.run lg = (.ok (g a), lg ++ e a)

def Logs2 (f : α → β → GoM γ) (g : α → β → γ) (e : α → β → List Event) : Prop :=
  ∀ a b lg, (f a b).run.run lg = (.ok (g a b), lg ++ e a b)

theorem Logs.total {f : α → GoM β} {g : α → β} {e : α → List Event} (h : Logs f g e) : Total f g :=
  fun a lg => ⟨_, h a lg⟩

theorem seqFlatMap_logs {fn : α → GoM (List β)} {g : α → List β} {e : α → List Event}
    (h : Logs fn g e) (opt : List α) (lg : List Event) :
    (seqFlatMap opt fn).run.run lg = (.ok (opt.flatMap g), lg ++ opt.flatMap e) := by
  induction opt generalizing lg with
  | nil => rw [seqFlatMap_nil, run_pure]; simp
  | cons v rest ih =>
    rw [seqFlatMap_run_cons (h v lg) (ih _)]; simp [List.append_assoc]

theorem logs_seqCompose {f : α → GoM (List β)} {g : β → GoM (List γ)} {gf : α → List β}
    {gg : β → List γ} {ef : α → List Event} {eg : β → List Event}
    (hf : Logs f gf ef) (hg : Logs g gg eg) :
    Logs (seqCompose f g) (fun x => (gf x).flatMap gg) (fun x => ef x ++ (gf x).flatMap eg) := by
  intro a lg
  unfold seqCompose
  rw [run_bind_ok (hf a lg), seqFlatMap_logs hg, List.append_assoc]

theorem seq_assoc_logs {f : α → GoM (List β)} {g : β → GoM (List γ)} {gf : α → List β}
    {gg : β → List γ} {ef : α → List Event} {eg : β → List Event}
    (hf : Logs f gf ef) (hg : Logs g gg eg) (m : List α) (lg : List Event) :
    (do let l ← seqFlatMap m f; seqFlatMap l g).run.run lg
      = (.ok ((m.flatMap gf).flatMap gg), lg ++ m.flatMap ef ++ (m.flatMap gf).flatMap eg) ∧
    (seqFlatMap m (fun x => do let l ← f x; seqFlatMap l g)).run.run lg
      = (.ok ((m.flatMap gf).flatMap gg),
          lg ++ m.flatMap (fun x => ef x ++ (gf x).flatMap eg)) := by
  refine ⟨?_, ?_⟩
  · rw [run_bind_ok (seqFlatMap_logs hf m lg), seqFlatMap_logs hg]
  · rw [List.flatMap_assoc]; exact seqFlatMap_logs (logs_seqCompose hf hg) m lg

example : Total (fun a : Nat => (do emit "x"; pure [a, a] : GoM (List Nat))) (fun a => [a, a]) :=
  fun _ lg => ⟨lg ++ ["x"], rfl⟩

example : Logs (fun a : Nat => (do emit "x"; pure [a, a] : GoM (List Nat))) (fun a => [a, a])
    (fun _ => ["x"]) :=
  fun _ _ => rfl

example : Logs2 (fun (a b : Nat) => (do emit "x"; pure (a + b) : GoM Nat)) (fun a b => a + b)
    (fun _ _ => ["x"]) :=
  fun _ _ _ => rfl

/-- the callbacks of the example: `exF a` logs `a` and returns `[a, a]`, `exG b` logs `"g"`. -/
def exF : Event → GoM (List Event) := fun a => do emit a; pure [a, a]
def exG : Event → GoM (List Event) := fun b => do emit "g"; pure [b]

theorem exF_logs : Logs exF (fun a => [a, a]) (fun a => [a]) := fun _ _ => rfl
theorem exG_logs : Logs exG (fun b => [b]) (fun _ => ["g"]) := fun _ _ => rfl

/-- left nesting: all `f` callbacks first. -/
example : (do let l ← seqFlatMap ["a", "b"] exF; seqFlatMap l exG).run.run []
    = (.ok ["a", "a", "b", "b"], ["a", "b", "g", "g", "g", "g"]) := rfl

/-- right nesting: interleaved. -/
example : (seqFlatMap ["a", "b"] (fun x => do let l ← exF x; seqFlatMap l exG)).run.run []
    = (.ok ["a", "a", "b", "b"], ["a", "g", "g", "b", "g", "g"]) := rfl

/-- the two logs really differ (same value). -/
example : ((do let l ← seqFlatMap ["a", "b"] exF; seqFlatMap l exG).run.run []).2
    ≠ ((seqFlatMap ["a", "b"] (fun x => do let l ← exF x; seqFlatMap l exG)).run.run []).2 := by
  rw [(seq_assoc_logs exF_logs exG_logs ["a", "b"] []).1,
    (seq_assoc_logs exF_logs exG_logs ["a", "b"] []).2]
  decide

end FpVerif.Coll
