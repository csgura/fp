/-!
# Linear-time table checks used by Spec/C04Frame (reflection lemmas)

The kernel evaluates `decide` slowly (thousands of steps per second), so membership of one list in another is
decided by a single merge walk over ascending lists; the lemmas below turn a successful walk into the
declarative statement.
-/
namespace FpVerif.FrameTable

/-- merge walk: every element of the first list occurs in the second (complete when both are ascending) -/
def subsetAsc : Nat → List Nat → List Nat → Bool
  | _, [], _ => true
  | 0, _ :: _, _ => false
  | _ + 1, _ :: _, [] => false
  | f + 1, x :: xs, y :: ys =>
    if x = y then subsetAsc f xs (y :: ys)
    else if y < x then subsetAsc f (x :: xs) ys
    else false

theorem subsetAsc_sound : ∀ (f : Nat) (a b : List Nat), subsetAsc f a b = true → ∀ x ∈ a, x ∈ b := by
  intro f
  induction f with
  | zero =>
    intro a b h x hx
    cases a with
    | nil => cases hx
    | cons _ _ => simp [subsetAsc] at h
  | succ f ih =>
    intro a b h x hx
    cases a with
    | nil => cases hx
    | cons a0 as =>
      cases b with
      | nil => simp [subsetAsc] at h
      | cons b0 bs =>
        simp only [subsetAsc] at h
        split at h
        · rename_i heq
          rcases List.mem_cons.mp hx with rfl | hx'
          · simp [heq]
          · exact ih as (b0 :: bs) h x hx'
        · split at h
          · exact List.mem_cons_of_mem _ (ih (a0 :: as) bs h x hx)
          · cases h

/-- strictly ascending -/
def ascending : List Nat → Bool
  | [] => true
  | [_] => true
  | x :: y :: rest => decide (x < y) && ascending (y :: rest)

/-- `==` on `Nat` goes through `Nat.decEq`, whose proof-carrying match the kernel evaluates several times more slowly
    than the primitive test -/
theorem beq_eq_natBeq (a b : Nat) : (a == b) = Nat.beq a b := by
  rw [Bool.eq_iff_iff, beq_iff_eq, Nat.beq_eq]

end FpVerif.FrameTable
