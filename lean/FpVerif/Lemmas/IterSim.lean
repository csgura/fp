import FpVerif.Lemmas.IM
/-!
# Simulation framework for iterator machines

`Sim m R`: `R s d r` reads "in state `s` the iterator has so far delivered `d` and will deliver
exactly `r`".  `R` is a simulation relation: it is preserved by `hasNext` (which answers `r ≠ []`),
`next` on `a :: r` returns `a` and moves `a` to the delivered part, `next` on `[]` panics and stays.
Three ways to a `Sim` other than by its three clauses: `Sim.guarded` (`next` is `if hasNext then … else panic`),
`Sim.transport` (the machine runs another one on a part of its state), `SimUpTo E` (the source may be unbounded).
`Represents m s d r`: some simulation relation holds of `s d r`.
-/
namespace FpVerif.It
variable {σ γ α β : Type}

structure Sim (m : Machine σ α) (R : σ → List α → List α → Prop) : Prop where
  hasNext : ∀ s d r lg, R s d r →
    ∃ s' lg', m.hasNext s lg = (.ok (!r.isEmpty), s', lg') ∧ R s' d r
  next_cons : ∀ s d a r lg, R s d (a :: r) →
    ∃ s' lg', m.next s lg = (.ok a, s', lg') ∧ R s' (d ++ [a]) r
  next_nil : ∀ s d lg, R s d [] →
    ∃ p s' lg', m.next s lg = (.error p, s', lg') ∧ R s' d []

/-- A machine whose `next` is `if hasNext then body else panic` (Take, TakeWhile, DropWhile, Filter, Scan, FlatMap,
    Concat): `hasNext` answers and leaves a state that is `Rdy` when there is an element; `body` delivers it from a
    `Rdy` state.  The model's definitions unfold to this shape, so the lemma applies to them as it stands. -/
theorem Sim.guarded {hn : IM σ Bool} {body : IM σ α} {R : σ → List α → List α → Prop}
    (Rdy : σ → List α → List α → Prop)
    (hH : ∀ s d r lg, R s d r → ∃ s' lg', hn s lg = (.ok (!r.isEmpty), s', lg') ∧ R s' d r ∧ (r ≠ [] → Rdy s' d r))
    (hB : ∀ s d a r lg, Rdy s d (a :: r) → ∃ s' lg', body s lg = (.ok a, s', lg') ∧ R s' (d ++ [a]) r) :
    Sim ⟨hn, do if ← hn then body else IM.panic nextOnEmpty⟩ R where
  hasNext := fun s d r lg h =>
    let ⟨s', lg', e, hR, _⟩ := hH s d r lg h
    ⟨s', lg', e, hR⟩
  next_cons := fun s d a r lg h =>
    let ⟨s1, lg1, e1, _, hrdy⟩ := hH s d (a :: r) lg h
    let ⟨s2, lg2, e2, hR2⟩ := hB s1 d a r lg1 (hrdy (List.cons_ne_nil a r))
    ⟨s2, lg2, (guard_apply e1).trans e2, hR2⟩
  next_nil := fun s d lg h =>
    let ⟨s1, lg1, e1, hR1, _⟩ := hH s d [] lg h
    ⟨nextOnEmpty, s1, lg1, guard_apply e1, hR1⟩

/-- `Sim` whose clauses for the exhausted iterator are asked only if `E` holds.  `E := True`: `Sim`;
    `E := False`: only a prefix of what the machine delivers is known (`Generate`: `PreSim.upTo`).  `Map` keeps it
    (`map_simU`: `SimUpTo E` of the source gives `SimUpTo E`); `Take` and `TakeWhile` stop asking and conclude `Sim`
    from it (`take_simU`, `takeWhile_simU`). -/
structure SimUpTo (E : Prop) (m : Machine σ α) (R : σ → List α → List α → Prop) : Prop where
  hasNext_cons : ∀ s d a r lg, R s d (a :: r) → ∃ s' lg', m.hasNext s lg = (.ok true, s', lg') ∧ R s' d (a :: r)
  next_cons : ∀ s d a r lg, R s d (a :: r) → ∃ s' lg', m.next s lg = (.ok a, s', lg') ∧ R s' (d ++ [a]) r
  hasNext_nil : E → ∀ s d lg, R s d [] → ∃ s' lg', m.hasNext s lg = (.ok false, s', lg') ∧ R s' d []
  next_nil : E → ∀ s d lg, R s d [] → ∃ p s' lg', m.next s lg = (.error p, s', lg') ∧ R s' d []

theorem Sim.upTo {m : Machine σ α} {R : σ → List α → List α → Prop} (h : Sim m R) : SimUpTo True m R :=
  ⟨fun s d a r lg hR => h.hasNext s d (a :: r) lg hR, h.next_cons, fun _ s d lg hR => h.hasNext s d [] lg hR,
    fun _ => h.next_nil⟩

theorem SimUpTo.sim {m : Machine σ α} {R : σ → List α → List α → Prop} (h : SimUpTo True m R) : Sim m R where
  hasNext := fun s d r lg hR => by
    cases r with
    | nil => exact h.hasNext_nil trivial s d lg hR
    | cons a r => exact h.hasNext_cons s d a r lg hR
  next_cons := h.next_cons
  next_nil := h.next_nil trivial

/-- `m'` runs `m` on the part `get s'` of its state and puts the new part back (`put`).  A relation `R'` of `m'` whose
    every instance comes from a member of a family of simulations of `m`, and is re-established from what that member
    says after the call (the lists move as a call moves them: `d1 ++ r1 = d ++ r`), is a simulation. -/
theorem Sim.transport {σ' ι : Type} {m : Machine σ α} {m' : Machine σ' α} {R : ι → σ → List α → List α → Prop}
    {R' : σ' → List α → List α → Prop} (hS : ∀ i, Sim m (R i)) (get : σ' → σ) (put : σ' → σ → σ')
    (hH : ∀ s' d r lg, R' s' d r → m'.hasNext s' lg =
      ((m.hasNext (get s') lg).1, put s' (m.hasNext (get s') lg).2.1, (m.hasNext (get s') lg).2.2))
    (hN : ∀ s' d r lg, R' s' d r → m'.next s' lg =
      ((m.next (get s') lg).1, put s' (m.next (get s') lg).2.1, (m.next (get s') lg).2.2))
    (hR : ∀ s' d r, R' s' d r → ∃ i, R i (get s') d r ∧
      ∀ s1 d1 r1, R i s1 d1 r1 → d1 ++ r1 = d ++ r → R' (put s' s1) d1 r1) : Sim m' R' where
  hasNext := fun s' d r lg h =>
    let ⟨i, hi, back⟩ := hR s' d r h
    let ⟨s1, lg1, e, h1⟩ := (hS i).hasNext _ d r lg hi
    ⟨put s' s1, lg1, by rw [hH s' d r lg h, e], back s1 d r h1 rfl⟩
  next_cons := fun s' d a r lg h =>
    let ⟨i, hi, back⟩ := hR s' d (a :: r) h
    let ⟨s1, lg1, e, h1⟩ := (hS i).next_cons _ d a r lg hi
    ⟨put s' s1, lg1, by rw [hN s' d _ lg h, e], back s1 _ r h1 (List.append_cons d a r).symm⟩
  next_nil := fun s' d lg h =>
    let ⟨i, hi, back⟩ := hR s' d [] h
    let ⟨p, s1, lg1, e, h1⟩ := (hS i).next_nil _ d lg hi
    ⟨p, put s' s1, lg1, by rw [hN s' d _ lg h, e], back s1 d [] h1 rfl⟩

/-- a simulation relation may carry along the whole sequence `l = delivered ++ rest` -/
theorem Sim.withTotal {m : Machine σ α} {R : σ → List α → List α → Prop} (hS : Sim m R)
    (l : List α) : Sim m (fun s d r => R s d r ∧ d ++ r = l) := by
  refine Sim.transport (ι := Unit) (hS := fun _ => hS) (get := id) (put := fun _ s1 => s1)
    (hH := fun _ _ _ _ _ => rfl) (hN := fun _ _ _ _ _ => rfl) (hR := ?_)
  rintro s d r ⟨h, hl⟩
  exact ⟨(), h, fun s1 d1 r1 h1 e => ⟨h1, e.trans hl⟩⟩

/-- The relation of a combinator whose closure captures the variables `γ` next to the underlying iterator:
    `Inv c d r d' r'` relates the captured variables `c`, the underlying iterator's delivered / remaining lists `d`, `r`,
    and the combinator's own delivered / remaining lists `d'`, `r'`. -/
def liftRel (Inv : γ → List α → List α → List β → List β → Prop) (R : σ → List α → List α → Prop) :
    σ × γ → List β → List β → Prop :=
  fun sc d' r' => ∃ d r, R sc.1 d r ∧ Inv sc.2 d r d' r'

theorem Sim.of_iff {m : Machine σ α} {R R' : σ → List α → List α → Prop} (h : Sim m R)
    (hiff : ∀ s d r, R' s d r ↔ R s d r) : Sim m R' := by
  have : R' = R := funext fun s => funext fun d => funext fun r => propext (hiff s d r)
  rw [this]; exact h

/-- "From state `s`, having delivered `d`, machine `m` will yield exactly the list `r`." -/
def Represents (m : Machine σ α) (s : σ) (d r : List α) : Prop :=
  ∃ R, Sim m R ∧ R s d r

/-- `Represents` is itself a simulation relation (the largest one). -/
theorem Represents.sim (m : Machine σ α) : Sim m (Represents m) := by
  refine Sim.transport (ι := { R // Sim m R }) (R := fun R => R.1) (hS := fun R => R.2) (get := id)
    (put := fun _ s1 => s1) (hH := fun _ _ _ _ _ => rfl) (hN := fun _ _ _ _ _ => rfl) (hR := ?_)
  rintro s d r ⟨R, hS, h⟩
  exact ⟨⟨R, hS⟩, h, fun s1 d1 r1 h1 _ => ⟨R, hS, h1⟩⟩

/-- the delivered part is ghost: whatever it is said to be, the future is the same -/
theorem Represents.reset {m : Machine σ α} {s : σ} {d r : List α} (h : Represents m s d r) :
    Represents m s [] r := by
  obtain ⟨R, hS, hR⟩ := h
  refine ⟨fun s d' r => ∃ d0, R s (d0 ++ d') r, ⟨?_, ?_, ?_⟩, d, by simpa using hR⟩
  · rintro s d' r lg ⟨d0, h⟩
    obtain ⟨s', lg', e, h'⟩ := hS.hasNext s _ r lg h
    exact ⟨s', lg', e, d0, h'⟩
  · rintro s d' a r lg ⟨d0, h⟩
    obtain ⟨s', lg', e, h'⟩ := hS.next_cons s _ a r lg h
    exact ⟨s', lg', e, d0, by simpa using h'⟩
  · rintro s d' lg ⟨d0, h⟩
    obtain ⟨p, s', lg', e, h'⟩ := hS.next_nil s _ lg h
    exact ⟨p, s', lg', e, d0, h'⟩

theorem runScript_cons (m : Machine σ α) (c : Call) (cs : List Call) (s : σ) (lg : Log) :
    runScript m (c :: cs) s lg =
      ((runCall m c s lg).1 :: (runScript m cs (runCall m c s lg).2.1 (runCall m c s lg).2.2).1,
        (runScript m cs (runCall m c s lg).2.1 (runCall m c s lg).2.2).2) := rfl

end FpVerif.It
