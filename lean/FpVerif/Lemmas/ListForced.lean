import FpVerif.Lemmas.ListTyHeap
import FpVerif.Lemmas.ListLoops
/-!
# Lazy list: memoisation end to end — after a traversal every cell it read is done, and a second
# traversal reads the stored values only: it changes neither the heap nor the log

None of this (`Cons.need_ts` apart) depends on the typing: done cells keep their value across every operation from every heap
(`doneSubStep`, a `StepRel`, in Lemmas/ListTyHeap), a `getHead` / `getTail` that returns leaves its cell done, so every traversal that
returns — of any list value, with any callbacks — has forced what it read (`toSeq_ok_forced`).
-/
namespace FpVerif.LL
open FpVerif.It

/-- no cell is ever removed -/
theorem sizeStep : StepRel fun hp hp' => hp.hs.size ≤ hp'.hs.size ∧ hp.ts.size ≤ hp'.ts.size where
  refl _ := ⟨Nat.le_refl _, Nat.le_refl _⟩
  trans h1 h2 := ⟨Nat.le_trans h1.1 h2.1, Nat.le_trans h1.2 h2.2⟩
  pushHT _ _ _ := ⟨by simp, by simp⟩
  pushL _ _ := ⟨Nat.le_refl _, Nat.le_refl _⟩
  its _ _ := ⟨Nat.le_refl _, Nat.le_refl _⟩
  cellH _ _ hB := ⟨by simpa using hB.1, hB.2⟩
  cellT _ _ hB := ⟨hB.1, by simpa using hB.2⟩
  cellL _ _ hB := hB

/-- A `getHead` that returns leaves its cell done with the returned value.  The cell is there when the closure
    has run because no cell is removed (`sizeStep`). -/
theorem forceH_ok_done {f c : Nat} {hp hp' : Heap} {lg lg' : Log} {v : Option Val}
    (h : forceH f c hp lg = (.ok v, hp', lg')) : ∃ n, hp'.hs[c]? = some (.done v, n) := by
  cases f with
  | zero => cases h
  | succ f =>
    have hs := ((stepsAll sizeStep (f + 1)).forceH c hp lg).1
    rw [h] at hs
    rw [forceH_eq] at h
    exact force_stores hsA _ _ c h (Nat.lt_of_lt_of_le (force_ok_lt hsA _ _ c h) hs)

theorem forceT_ok_done {f c : Nat} {hp hp' : Heap} {lg lg' : Log} {v : LV}
    (h : forceT f c hp lg = (.ok v, hp', lg')) : ∃ n, hp'.ts[c]? = some (.done v, n) := by
  cases f with
  | zero => cases h
  | succ f =>
    have hs := ((stepsAll sizeStep (f + 1)).forceT c hp lg).2
    rw [h] at hs
    rw [forceT_eq] at h
    exact force_stores tsA _ _ c h (Nat.lt_of_lt_of_le (force_ok_lt tsA _ _ c h) hs)

/-- every memo cell that a traversal of `xs` through `l` reads is done -/
def Forced (hp : Heap) : List Val → LV → Prop
  | [], l => match l with
    | .nil => True
    | .seq ys => ys = []
    | .adaptor hc _ => ∃ n, hp.hs[hc]? = some (.done none, n)
    | .cons _ _ => False
    | .nilIface => False
  | x :: xs, l => match l with
    | .nil => False
    | .seq ys => ys = x :: xs
    | .cons h t => h = x ∧ Forced hp xs t
    | .adaptor hc tc => ∃ n m t, hp.hs[hc]? = some (.done (some x), n) ∧
        hp.ts[tc]? = some (.done t, m) ∧ Forced hp xs t
    | .nilIface => False

theorem Forced.seq (hp : Heap) (xs : List Val) : Forced hp xs (.seq xs) := by
  cases xs <;> simp [Forced]

theorem Forced.mono {hp hp' : Heap} (hD : DoneSub hp hp') : ∀ (xs : List Val) (l : LV), Forced hp xs l → Forced hp' xs l := by
  intro xs
  induction xs with
  | nil =>
    intro l h
    cases l with
    | adaptor hc tc => obtain ⟨n, h⟩ := h; exact ⟨n, hD.hs _ _ _ h⟩
    | _ => exact h
  | cons x xs ih =>
    intro l h
    cases l with
    | cons a t => exact ⟨h.1, ih t h.2⟩
    | adaptor hc tc =>
      obtain ⟨n, m, t, h1, h2, h3⟩ := h
      exact ⟨n, m, t, hD.hs _ _ _ h1, hD.ts _ _ _ h2, ih t h3⟩
    | _ => exact h

theorem isEmpty_adaptor (f hc tc : Nat) :
    LL.isEmpty (f + 1) (.adaptor hc tc) = (do let o ← forceH f hc; pure o.isNone) := rfl

theorem tail_adaptor (f hc tc : Nat) : LL.tail (f + 1) (.adaptor hc tc) = forceT f tc := rfl

theorem head_adaptor_some (f hc tc : Nat) (hp hp' : Heap) (lg lg' : Log) (x : Val)
    (h : forceH f hc hp lg = (.ok (some x), hp', lg')) :
    LL.head (f + 1) (.adaptor hc tc) hp lg = (.ok x, hp', lg') :=
  (bind_ok h).trans rfl

theorem isEmpty_seq (f : Nat) (ys : List Val) (hp : Heap) (lg : Log) :
    LL.isEmpty (f + 1) (.seq ys) hp lg = (.ok ys.isEmpty, hp, lg) := rfl

theorem isEmpty_cons (f : Nat) (a : Val) (t : LV) (hp : Heap) (lg : Log) :
    LL.isEmpty (f + 1) (.cons a t) hp lg = (.ok false, hp, lg) := rfl

theorem isEmpty_nil (f : Nat) (hp : Heap) (lg : Log) : LL.isEmpty (f + 1) .nil hp lg = (.ok true, hp, lg) := rfl

theorem head_cons (f : Nat) (a : Val) (t : LV) (hp : Heap) (lg : Log) :
    LL.head (f + 1) (.cons a t) hp lg = (.ok a, hp, lg) := rfl

theorem tail_cons (f : Nat) (a : Val) (t : LV) (hp : Heap) (lg : Log) :
    LL.tail (f + 1) (.cons a t) hp lg = (.ok t, hp, lg) := rfl

theorem head_seq (f : Nat) (y : Val) (ys : List Val) (hp : Heap) (lg : Log) :
    LL.head (f + 1) (.seq (y :: ys)) hp lg = (.ok y, hp, lg) := rfl

theorem tail_seq (f : Nat) (y : Val) (ys : List Val) (hp : Heap) (lg : Log) :
    LL.tail (f + 1) (.seq (y :: ys)) hp lg = (.ok (.seq ys), hp, lg) := rfl

theorem toSeq_step_nil {F : Nat} {l : LV} {acc : List Val} {hp hp1 : Heap} {lg lg1 : Log}
    (e1 : LL.isEmpty F l hp lg = (.ok true, hp1, lg1)) : LL.toSeq (F + 1) l acc hp lg = (.ok acc, hp1, lg1) := by
  simp [LL.toSeq, bind_ok e1]

theorem toSeq_step_cons {F : Nat} {l t : LV} {acc : List Val} {x : Val} {hp hp1 hp2 hp3 : Heap} {lg lg1 lg2 lg3 : Log}
    (e1 : LL.isEmpty F l hp lg = (.ok false, hp1, lg1)) (e2 : LL.head F l hp1 lg1 = (.ok x, hp2, lg2))
    (e3 : LL.tail F l hp2 lg2 = (.ok t, hp3, lg3)) :
    LL.toSeq (F + 1) l acc hp lg = LL.toSeq F t (acc ++ [x]) hp3 lg3 := by
  simp [LL.toSeq, bind_ok e1, bind_ok e2, bind_ok e3]

/-- on a value whose cells are done the three operations return what `xs` says and run nothing: heap
    and log stay as they are -/
theorem Forced.ops {hp : Heap} {xs : List Val} {l : LV} (h : Forced hp xs l) {fuel : Nat} (hk : 2 ≤ fuel) (lg : Log) :
    LL.isEmpty fuel l hp lg = (.ok xs.isEmpty, hp, lg) ∧
      ∀ x ys, xs = x :: ys → LL.head fuel l hp lg = (.ok x, hp, lg) ∧
        ∃ t, LL.tail fuel l hp lg = (.ok t, hp, lg) ∧ Forced hp ys t := by
  obtain ⟨f, rfl⟩ : ∃ f, fuel = f + 2 := ⟨fuel - 2, by omega⟩
  cases xs with
  | nil =>
    refine ⟨?_, nofun⟩
    cases l with
    | nil => rfl
    | seq ys => cases (h : ys = []); rfl
    | adaptor hc tc =>
      obtain ⟨n, hcell⟩ := h
      exact (bind_ok ((forceH_eq f hc hp lg).trans (force_done hsA _ _ hc hcell))).trans rfl
    | _ => exact h.elim
  | cons x xs =>
    cases l with
    | cons a t =>
      obtain ⟨rfl, hF⟩ := h
      exact ⟨rfl, fun _ _ e => by cases e; exact ⟨rfl, t, rfl, hF⟩⟩
    | seq ys =>
      cases (h : ys = x :: xs)
      exact ⟨rfl, fun _ _ e => by cases e; exact ⟨rfl, _, rfl, Forced.seq hp xs⟩⟩
    | adaptor hc tc =>
      obtain ⟨n, m, t, h1, h2, hF⟩ := h
      have eH := (forceH_eq f hc hp lg).trans (force_done hsA _ _ hc h1)
      have eT := (forceT_eq f tc hp lg).trans (force_done tsA _ _ tc h2)
      refine ⟨(bind_ok eH).trans rfl, fun _ _ e' => ?_⟩
      cases e'
      exact ⟨(bind_ok eH).trans rfl, t, eT, hF⟩
    | _ => exact h.elim

theorem Cons.need_ts {S : Sty} {hp : Heap} (hC : Cons S hp) {c : Nat} (hc : c < S.nt) : 2 ≤ (S.ts c).need := by
  obtain ⟨⟨cell, m⟩, hcell⟩ := cell_of_lt hp.ts c (by rw [← hC.nt]; exact hc)
  exact (hC.ts c cell m hcell).1

theorem Forced.seq_inv {hp : Heap} {xs ys : List Val} (h : Forced hp xs (.seq ys)) : ys = xs := by
  cases xs <;> exact h

/-- `IsEmpty` answered `true`: nothing is left to force -/
theorem Forced.of_isEmpty {f : Nat} {l : LV} {hp hp' : Heap} {lg lg' : Log}
    (h : LL.isEmpty f l hp lg = (.ok true, hp', lg')) : Forced hp' [] l := by
  cases f with
  | zero => cases h
  | succ f =>
    cases l with
    | nil => trivial
    | cons a t => cases h
    | seq ys =>
      have : ys.isEmpty = true := by injection h with h; injection h
      exact List.isEmpty_iff.mp this
    | adaptor hc tc =>
      obtain ⟨o, hp1, lg1, e, e'⟩ := bind_ok_inv h
      obtain ⟨n, hcell⟩ := forceH_ok_done e
      cases o with
      | none => cases e'; exact ⟨n, hcell⟩
      | some v => cases e'
    | nilIface => cases h

/-- One turn of a traversal that went through: `IsEmpty` left the head cell done, `Head` read it, `Tail` left
    the tail cell done; both stay so in every later heap. -/
theorem Forced.of_step {f : Nat} {l t : LV} {x : Val} {xs : List Val} {hp hp1 hp2 hp3 hp' : Heap}
    {lg lg1 lg2 lg3 : Log} (h1 : LL.isEmpty f l hp lg = (.ok false, hp1, lg1))
    (h2 : LL.head f l hp1 lg1 = (.ok x, hp2, lg2)) (h3 : LL.tail f l hp2 lg2 = (.ok t, hp3, lg3))
    (hD : DoneSub hp3 hp') (hF : Forced hp' xs t) : Forced hp' (x :: xs) l := by
  cases f with
  | zero => cases h1
  | succ f =>
    cases l with
    | nil => cases h1
    | cons a t' => cases h2; cases h3; exact ⟨rfl, hF⟩
    | seq ys =>
      cases ys with
      | nil => cases h1
      | cons y ys =>
        cases h2; cases h3
        show _ :: _ = _ :: _
        rw [hF.seq_inv]
    | adaptor hc tc =>
      obtain ⟨o, hpa, lga, e1, e1'⟩ := bind_ok_inv h1
      obtain ⟨n, hcell⟩ := forceH_ok_done e1
      cases o with
      | none => cases e1'
      | some v =>
        cases e1'
        obtain ⟨f', rfl⟩ : ∃ f', f = f' + 1 := by
          cases f with
          | zero => cases e1
          | succ f' => exact ⟨f', rfl⟩
        have eH := (forceH_eq f' hc hp1 lg1).trans (force_done hsA _ _ hc hcell)
        rw [head_adaptor_some (f' + 1) hc tc hp1 hp1 lg1 lg1 v eH] at h2
        cases h2
        obtain ⟨m, hcellT⟩ := forceT_ok_done h3
        have hD13 := (stepsAll doneSubStep (f' + 1)).forceT tc hp1 lg1
        rw [show LL.forceT (f' + 1) tc hp1 lg1 = _ from h3] at hD13
        exact ⟨n, m, t, hD.hs _ _ _ (hD13.hs _ _ _ hcell), hD.ts _ _ _ hcellT, hF⟩
    | nilIface => cases h1

/-- every traversal that returns has forced what it read: any list value, any heap, any callbacks -/
theorem toSeq_ok_forced : ∀ (fuel : Nat) (l : LV) (acc ys : List Val) (hp hp' : Heap) (lg lg' : Log),
    LL.toSeq fuel l acc hp lg = (.ok ys, hp', lg') → ∃ xs, ys = acc ++ xs ∧ Forced hp' xs l := by
  intro fuel
  induction fuel with
  | zero => intro l acc ys hp hp' lg lg' h; cases h
  | succ n ih =>
    intro l acc ys hp hp' lg lg' h
    rcases h1 : LL.isEmpty n l hp lg with ⟨p | b, hp1, lg1⟩
    · rw [LL.toSeq, bind_err h1] at h; cases h
    cases b with
    | true =>
      rw [toSeq_step_nil h1] at h
      cases h
      exact ⟨[], (List.append_nil _).symm, Forced.of_isEmpty h1⟩
    | false =>
      rcases h2 : LL.head n l hp1 lg1 with ⟨p | x, hp2, lg2⟩
      · rw [LL.toSeq, bind_ok h1] at h
        simp only [Bool.not_false, if_true] at h
        rw [bind_err h2] at h; cases h
      rcases h3 : LL.tail n l hp2 lg2 with ⟨p | t, hp3, lg3⟩
      · rw [LL.toSeq, bind_ok h1] at h
        simp only [Bool.not_false, if_true] at h
        rw [bind_ok h2, bind_err h3] at h; cases h
      rw [toSeq_step_cons h1 h2 h3] at h
      obtain ⟨xs, rfl, hF⟩ := ih t _ ys hp3 hp' lg3 lg' h
      have hD := doneSubStep.toSeq n t (acc ++ [x]) hp3 lg3
      rw [h] at hD
      exact ⟨x :: xs, by rw [List.append_assoc]; rfl, Forced.of_step h1 h2 h3 hD hF⟩

end FpVerif.LL
