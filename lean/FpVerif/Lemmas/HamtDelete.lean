import FpVerif.Lemmas.HamtSet
import FpVerif.Lemmas.HamtFrame
/-! `delete` on a node, by induction along the path of the key through a well-formed trie. -/
namespace FpVerif.Hamt
variable {K V : Type} {h : Hasher K}

/-- what `delete` (called with `*resized == false`) must achieve on a node -/
structure DelPost (h : Hasher K) (s : Nat) (n : Node K V) (k : K)
    (res : Option (Node K V) × Bool) : Prop where
  resized : res.2 = (lookup h k n.toList).isSome
  wf : ∀ n', res.1 = some n' → WF h s n'
  look : ∀ k', lookup h k' (optList res.1) = if h.eqv k k' then none else lookup h k' n.toList
  len : (optList res.1).length + (if (lookup h k n.toList).isSome then 1 else 0) = n.toList.length
  keys : ∀ e ∈ optList res.1, e ∈ n.toList

theorem DelPost.of_absent (hl : LawfulHash h) {s : Nat} {n : Node K V} {k : K} (hwf : WF h s n)
    (hn : lookup h k n.toList = none) : DelPost h s n k (some n, false) := by
  refine ⟨by simp [hn], ?_, ?_, by simp [hn], by simp⟩
  · intro n' hn'; simp at hn'; subst hn'; exact hwf
  · intro k'; simpa using lookup_absent hl hn k'

/-- a branch node whose child `c` in the slot of `k` became `oc` (nil: gone) -/
theorem DelPost.of_child (hl : LawfulHash h) {s : Nat} {n c : Node K V} {res1 oc : Option (Node K V)} {k : K}
    {A B : List (K × V)} (hv : Slot h s (frag (h.hash k) s) n (some c) A B)
    (hn' : optList res1 = A ++ optList oc ++ B) (hwf' : ∀ n', res1 = some n' → WF h s n')
    (hpost : DelPost h (s + 5) c k (oc, true)) : DelPost h s n k (res1, true) := by
  have hn : n.toList = A ++ c.toList ++ B := hv.toList
  have hC : ∀ e ∈ c.toList, _ := hv.childSlot
  have hC' : ∀ e ∈ optList oc, frag (h.hash e.1) s = frag (h.hash k) s := fun e he => hC e (hpost.keys e he)
  have hmid : lookup h k (A ++ c.toList ++ B) = lookup h k c.toList := lookup_frame hl hv.left hv.right
  have hlen := hpost.len
  refine ⟨?_, hwf', ?_, ?_, ?_⟩
  · rw [hn, hmid]
    exact hpost.resized
  · intro k'
    simp only [hn, hn']
    exact branch_lookup hl rfl hv.left hv.right hC hC' hpost.look k'
  · simp only [hn, hn', hmid, List.length_append]
    simp only at hlen
    omega
  · intro e he
    simp only [hn'] at he
    simp only [hn]
    simp only [List.mem_append] at he ⊢
    rcases he with (he | he) | he
    · exact Or.inl (Or.inl he)
    · exact Or.inl (Or.inr (hpost.keys e he))
    · exact Or.inr he

theorem wf_of_some {s : Nat} {x : Node K V} (hw : WF h s x) : ∀ n', some x = some n' → WF h s n' :=
  fun _ e => Option.some.inj e ▸ hw

/-- `DelPost` of a node that lost the key, from the same facts about the two entry lists -/
theorem DelPost.of_entries {s : Nat} {n : Node K V} {res1 : Option (Node K V)} {es es' : List (K × V)} {k : K}
    (hn : n.toList = es) (hn' : optList res1 = es') (wf : ∀ n', res1 = some n' → WF h s n')
    (hsome : (lookup h k es).isSome = true)
    (look : ∀ k', lookup h k' es' = if h.eqv k k' then none else lookup h k' es)
    (len : es'.length + 1 = es.length) (keys : ∀ e ∈ es', e ∈ es) : DelPost h s n k (res1, true) := by
  subst hn hn'
  exact ⟨hsome.symm, wf, look, by rw [hsome]; exact len, keys⟩

theorem Node.delete_spec (hl : LawfulHash h) {s : Nat} {n : Node K V} (hwf : WF h s n) (k : K) (mu : Bool) :
    ∃ res, n.delete h k s (h.hash k) mu false = .ok res ∧ DelPost h s n k res := by
  refine WF.path_induction (h.hash k) (fun {s n} hwf hb => ?_) (fun {s n o A B} hv ih => ?_) hwf
  · cases hwf with
    | bitmap | hashArray => exact absurd trivial hb
    | @array s es h0 hne hlen hd =>
      unfold Node.delete
      cases hi : indexOf h es k with
      | none =>
        exact ⟨_, rfl, DelPost.of_absent hl (WF.array h0 hne hlen hd) (by simpa using lookup_eq_none_iff.mpr (indexOf_none.mp hi))⟩
      | some i =>
        obtain ⟨hlook, hlen', hdist, hsome, hmem⟩ := erase_spec hl hd hi
        by_cases h1 : es.length = 1
        · have hnil : es.take i ++ es.drop (i + 1) = [] := List.eq_nil_of_length_eq_zero (by omega)
          rw [hnil] at hlook hlen' hmem
          exact ⟨(none, true), by simp [h1, pure, Except.pure],
            DelPost.of_entries (toList_array _) rfl (fun n' hn' => by cases hn') hsome hlook hlen' hmem⟩
        · refine ⟨(some (Node.array (es.take i ++ es.drop (i + 1))), true), by simp [h1, pure, Except.pure],
            DelPost.of_entries (toList_array _) (toList_array _) (wf_of_some ?_) hsome hlook hlen' hmem⟩
          refine WF.array h0 ?_ (by omega) hdist
          intro hnil
          rw [hnil] at hlen'
          exact h1 hlen'.symm
    | @value s kh nk nv hkh =>
      unfold Node.delete
      cases hek : h.eqv nk k with
      | false =>
        exact ⟨_, by simp [pure, Except.pure], DelPost.of_absent hl (WF.value hkh) (by simp [lookup_cons, lookup_nil, hek])⟩
      | true =>
        refine ⟨(none, true), by simp [pure, Except.pure], ?_, ?_, ?_, ?_, ?_⟩
        · simp [lookup_cons, hek]
        · intro n' hn'; cases hn'
        · intro k'
          simp only [optList_none, lookup_nil, toList_value, lookup_cons]
          rw [hl.eqv_congr_left hek]; cases h.eqv k k' <;> simp
        · simp [lookup_cons, hek]
        · intro e he; simp at he
    | @collision s kh es h2 hh hd =>
      unfold Node.delete
      cases hi : indexOf h es k with
      | none =>
        exact ⟨_, rfl, DelPost.of_absent hl (WF.collision h2 hh hd) (by simpa using lookup_eq_none_iff.mpr (indexOf_none.mp hi))⟩
      | some i =>
        obtain ⟨hlook, hlen', hdist, hsome, hmem⟩ := erase_spec hl hd hi
        by_cases h1 : es.length = 2
        · -- two entries: the other one becomes a value node
          obtain ⟨a, b, rfl⟩ : ∃ a b, es = [a, b] := by
            match es, h1 with
            | [a, b], _ => exact ⟨a, b, rfl⟩
          obtain ⟨e, hei, _⟩ := indexOf_some hi
          have hi2 : i = 0 ∨ i = 1 := by
            rcases Nat.lt_or_ge i 2 with h' | h'
            · omega
            · rw [List.getElem?_eq_none (by simpa using h')] at hei; cases hei
          have hother : ∃ e', [a, b][i ^^^ 1]? = some e' ∧ List.take i [a, b] ++ List.drop (i + 1) [a, b] = [e'] := by
            rcases hi2 with rfl | rfl
            · exact ⟨b, rfl, rfl⟩
            · exact ⟨a, rfl, rfl⟩
          obtain ⟨e', he', hrest⟩ := hother
          rw [hrest] at hlook hlen' hdist hmem
          exact ⟨(some (Node.value kh e'.1 e'.2), true), by simp [he', pure, Except.pure],
            DelPost.of_entries (toList_collision _ _) (toList_value _ _ _)
              (wf_of_some (WF.value (hh e' (hmem e' (List.mem_singleton.mpr rfl))).symm)) hsome hlook hlen' hmem⟩
        · exact ⟨(some (Node.collision kh (es.take i ++ es.drop (i + 1))), true), by simp [h1, pure, Except.pure],
            DelPost.of_entries (toList_collision _ _) (toList_collision _ _)
              (wf_of_some (WF.collision (by omega) (fun e he => hh e (hmem e he)) hdist)) hsome hlook hlen' hmem⟩
  · rw [delete_branch hv.branch, hv.read, ok_bind]
    have hmid : lookup h k n.toList = lookup h k (optList o) := by
      rw [hv.toList, lookup_frame hl hv.left hv.right]
    cases o with
    | none => exact ⟨_, rfl, .of_absent hl hv.wf hmid⟩
    | some c =>
      obtain ⟨⟨nc, rz⟩, hdel, hpost⟩ := ih c rfl
      simp only [hdel, bind, Except.bind]
      cases rz with
      | false =>
        exact ⟨_, rfl, .of_absent hl hv.wf
          (hmid.trans (Option.isNone_iff_eq_none.mp (Option.isSome_eq_false_iff.mp hpost.resized.symm)))⟩
      | true =>
        cases nc with
        | some c' =>
          obtain ⟨n', hput, hwf', -, htl'⟩ := hv.put c' (hpost.wf c' rfl)
            fun e he => hv.childSlot e (hpost.keys e he)
          exact ⟨(some n', true), bind_ok hput rfl, .of_child hl (oc := some c') hv htl' (wf_of_some hwf') hpost⟩
        | none =>
          refine ⟨(n.dropChild (frag (h.hash k) s), true), rfl, ?_⟩
          cases hd : n.dropChild (frag (h.hash k) s) with
          | none =>
            obtain ⟨rfl, rfl⟩ := hv.dropNone rfl hd
            exact .of_child hl hv rfl nofun hpost
          | some n' =>
            obtain ⟨hwf', htl'⟩ := hv.dropSome rfl n' hd
            exact .of_child hl hv (by rw [optList_some, htl', optList_none, List.append_nil]) (wf_of_some hwf') hpost

end FpVerif.Hamt
