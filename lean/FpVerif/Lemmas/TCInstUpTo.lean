import FpVerif.Model.TCInst
import FpVerif.Lemmas.TCLaws
/-!
# Typed monoid instance expressions WITH the map monoids, and the equivalence each is lawful up to  (audit finding 15)

`Model/TCInst.MInst` has no `MergeGoMap / MergeMap / MergeSet` leaf, because those are lawful only up
to the CONTENT of a Go map (`GoMap.Ext`), not up to `=`.  `MInstU` embeds every `MInst` expression as a leaf (`lawful`),
adds the three map monoids, and closes under `Option`, `Try`, `Dual`, `HCons`, `Tuple1`, `TupleN`; `MInstU.rel` is the
equivalence an expression is lawful up to: `=` at `lawful` leaves, same content at map leaves, lifted component-wise.
`Spec/C11.minstU_upTo` is the induction.  (`MInst` itself is unchanged.)
-/
namespace FpVerif.TC

variable {α τ : Type}

def relOption (R : α → α → Prop) : Option α → Option α → Prop
  | none, none => True
  | some a, some b => R a b
  | _, _ => False

def relTry (R : α → α → Prop) : TryV α → TryV α → Prop
  | .success a, .success b => R a b
  | .failure e, .failure e' => e = e'
  | _, _ => False

def relDual (R : α → α → Prop) : Dual α → Dual α → Prop := fun a b => R a.getDual b.getDual
def relPair (R1 : α → α → Prop) (R2 : τ → τ → Prop) : α × τ → α × τ → Prop := fun p q => R1 p.1 q.1 ∧ R2 p.2 q.2
def relT1 (R : α → α → Prop) : T1 α → T1 α → Prop := fun a b => R a.i1 b.i1

inductive MInstU : Type → Type 1 where
  | lawful {α : Type} (i : MInst α) : MInstU α
  | mergeGoMap (κ ν : Type) [DecidableEq κ] : MInstU (GoMap κ ν)
  | mergeMap (κ ν : Type) [DecidableEq κ] : MInstU (GoMap κ ν)
  | mergeSet (κ : Type) [DecidableEq κ] : MInstU (GoMap κ Unit)
  | option {α : Type} (i : MInstU α) : MInstU (Option α)
  | try_ {α : Type} (i : MInstU α) : MInstU (TryV α)
  | dual {α : Type} (i : MInstU α) : MInstU (Dual α)
  | hcons {α τ : Type} (h : MInstU α) (t : MInstU τ) : MInstU (α × τ)
  | tuple1 {α : Type} (i : MInstU α) : MInstU (T1 α)
  | tupleN {α τ : Type} (i : MInstU α) (rest : MInstU τ) : MInstU (α × τ)

def MInstU.denote : {α : Type} → MInstU α → MonoidD α
  | _, .lawful i => i.denote
  | _, @MInstU.mergeGoMap _ _ inst => @MonoidD.mergeGoMap _ _ inst
  | _, @MInstU.mergeMap _ _ inst => @MonoidD.mergeMap _ _ inst
  | _, @MInstU.mergeSet _ inst => @MonoidD.mergeSet _ inst
  | _, .option i => MonoidD.option i.denote
  | _, .try_ i => MonoidD.try_ i.denote
  | _, .dual i => MonoidD.dual i.denote
  | _, .hcons h t => MonoidD.hcons h.denote t.denote
  | _, .tuple1 i => MonoidD.tuple1 i.denote
  | _, .tupleN i rest => MonoidD.tupleN i.denote rest.denote

/-- the equivalence the expression is lawful up to -/
def MInstU.rel : {α : Type} → MInstU α → α → α → Prop
  | _, .lawful _ => Eq
  | _, @MInstU.mergeGoMap _ _ inst => @GoMap.Ext _ _ inst
  | _, @MInstU.mergeMap _ _ inst => @GoMap.Ext _ _ inst
  | _, @MInstU.mergeSet _ inst => @GoMap.Ext _ _ inst
  | _, .option i => relOption i.rel
  | _, .try_ i => relTry i.rel
  | _, .dual i => relDual i.rel
  | _, .hcons h t => relPair h.rel t.rel
  | _, .tuple1 i => relT1 i.rel
  | _, .tupleN i rest => relPair i.rel rest.rel

end FpVerif.TC
