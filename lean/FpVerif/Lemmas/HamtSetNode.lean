import FpVerif.Lemmas.HamtSet
import FpVerif.Lemmas.HamtFrame
/-! `set` below the root (`setCore` on a node that is not an array node), by induction along the path of the key through a well-formed trie. -/
namespace FpVerif.Hamt
variable {K V : Type} {h : Hasher K}

/-- what `set` must achieve on a node -/
structure SetPost (h : Hasher K) (s : Nat) (n : Node K V) (k : K) (v : V) (r : Bool)
    (res : Node K V × Bool) : Prop where
  wf : WF h s res.1
  resized : res.2 = (r || (lookup h k n.toList).isNone)
  look : ∀ k', lookup h k' res.1.toList = if h.eqv k k' then some v else lookup h k' n.toList
  len : res.1.toList.length = n.toList.length + (if (lookup h k n.toList).isSome then 0 else 1)
  keys : ∀ e ∈ res.1.toList, (∃ e0 ∈ n.toList, e0.1 = e.1) ∨ e.1 = k
  notArray : ∀ es, res.1 ≠ .array es

theorem WF.not_array {s : Nat} {n : Node K V} (hs : 0 < s) (hwf : WF h s n) : ∀ es, n ≠ .array es := by
  intro es heq
  subst heq
  cases hwf with
  | array h0 => omega

/-- `SetPost` for a key that was there, from the same facts about the entry lists of the two nodes -/
theorem SetPost.of_entries {s : Nat} {n n' : Node K V} {es es' : List (K × V)} {k : K} {v : V} {r : Bool}
    (hn : n.toList = es) (hn' : n'.toList = es') (wf : WF h s n') (hna : ∀ es, n' ≠ .array es)
    (hsome : (lookup h k es).isSome = true)
    (look : ∀ k', lookup h k' es' = if h.eqv k k' then some v else lookup h k' es)
    (len : es'.length = es.length)
    (keys : ∀ e ∈ es', (∃ e0 ∈ es, e0.1 = e.1) ∨ e.1 = k) : SetPost h s n k v r (n', r) := by
  subst hn hn'
  refine ⟨wf, ?_, look, ?_, keys, hna⟩
  · show r = (r || (lookup h k n.toList).isNone)
    rw [Option.isNone_eq_false_iff.mpr hsome, Bool.or_false]
  · show n'.toList.length = _
    rw [hsome, len]
    rfl

/-- `n'` holds the entries of `n` and, somewhere among them, the new key `k` -/
theorem SetPost.of_insert_new (hl : LawfulHash h) {s : Nat} {n n' : Node K V} {k : K} {v : V} {r : Bool}
    (hwf : WF h s n') (hna : ∀ es, n' ≠ .array es) (hno : ∀ e ∈ n.toList, h.eqv e.1 k = false)
    {T D : List (K × V)} (hn : n.toList = T ++ D) (hn' : n'.toList = T ++ (k, v) :: D) :
    SetPost h s n k v r (n', true) := by
  have hnone : lookup h k n.toList = none := lookup_eq_none_iff.mpr hno
  refine ⟨hwf, by simp [hnone], fun k' => ?_, ?_, fun e he => ?_, hna⟩
  · exact hn' ▸ lookup_insert hl v hn hno k'
  · show n'.toList.length = _
    rw [hnone, hn', hn, List.length_append, List.length_append, List.length_cons]
    rfl
  · simp only [hn', List.mem_append, List.mem_cons] at he
    simp only [hn, List.mem_append]
    rcases he with he | rfl | he
    · exact Or.inl ⟨e, Or.inl he, rfl⟩
    · exact Or.inr rfl
    · exact Or.inl ⟨e, Or.inr he, rfl⟩

theorem slot_of_keys {s j : Nat} {k : K} (hk : frag (h.hash k) s = j) {C C' : List (K × V)}
    (hC : ∀ e ∈ C, frag (h.hash e.1) s = j)
    (hkeys : ∀ e ∈ C', (∃ e0 ∈ C, e0.1 = e.1) ∨ e.1 = k) : ∀ e ∈ C', frag (h.hash e.1) s = j := by
  intro e he
  rcases hkeys e he with ⟨e0, he0, heq⟩ | heq
  · rw [← heq]; exact hC e0 he0
  · rw [heq]; exact hk

theorem slot_value (k : K) (v : V) (s : Nat) :
    ∀ e ∈ (Node.value (h.hash k) k v).toList, frag (h.hash e.1) s = frag (h.hash k) s := by
  intro e he
  rw [toList_value, List.mem_singleton] at he
  rw [he]

/-- the child `c` in the slot of `k` became `c'` and is put back -/
theorem SetPost.of_child (hl : LawfulHash h) {s : Nat} {n c c' : Node K V} {k : K} {v : V} {r r' : Bool}
    {A B : List (K × V)} (hv : Slot h s (frag (h.hash k) s) n (some c) A B)
    (hpost : SetPost h (s + 5) c k v r (c', r')) :
    ∃ n', n.putChild (frag (h.hash k) s) c' = .ok n' ∧ SetPost h s n k v r (n', r') := by
  have hC : ∀ e ∈ c.toList, _ := hv.childSlot
  have hC' := slot_of_keys rfl hC hpost.keys
  obtain ⟨n', hput, hwf', hb', hn'⟩ := hv.put c' hpost.wf hC'
  have hn : n.toList = A ++ c.toList ++ B := hv.toList
  have hmid : lookup h k (A ++ c.toList ++ B) = lookup h k c.toList := lookup_frame hl hv.left hv.right
  have hlen := hpost.len
  refine ⟨n', hput, hwf', ?_, ?_, ?_, ?_, hb'.not_array⟩
  · rw [hn, hmid]
    exact hpost.resized
  · intro k'
    simp only [hn, hn']
    exact branch_lookup hl rfl hv.left hv.right hC hC' hpost.look k'
  · simp only [hn, hn', hmid, List.length_append]
    simp only at hlen
    omega
  · intro e he
    simp only [hn'] at he
    simp only [hn]
    simp only [List.mem_append] at he ⊢
    rcases he with (he | he) | he
    · exact Or.inl ⟨e, Or.inl (Or.inl he), rfl⟩
    · rcases hpost.keys e he with ⟨e0, he0, heq⟩ | heq
      · exact Or.inl ⟨e0, Or.inl (Or.inr he0), heq⟩
      · exact Or.inr heq
    · exact Or.inl ⟨e, Or.inr he, rfl⟩

/-- the free slot of `k` receives the value node of `k` -/
theorem SetPost.of_free_slot (hl : LawfulHash h) {s : Nat} {n : Node K V} {k : K} (v : V) (r : Bool)
    {A B : List (K × V)} (hv : Slot h s (frag (h.hash k) s) n none A B) :
    ∃ n', n.putChild (frag (h.hash k) s) (.value (h.hash k) k v) = .ok n' ∧ SetPost h s n k v r (n', true) := by
  obtain ⟨n', hput, hwf', hb', hn'⟩ := hv.put _ (WF.value rfl) (slot_value k v s)
  have hn : n.toList = A ++ B := List.append_nil A ▸ hv.toList
  exact ⟨n', hput, .of_insert_new hl hwf' hb'.not_array
    (hn ▸ noMatch_of_frag_ne hl rfl (List.forall_mem_append.mpr ⟨hv.left, hv.right⟩)) hn
    (by rw [hn', toList_value, List.append_assoc]; rfl)⟩

theorem setCore_spec (hl : LawfulHash h)
    (ex : List (K × V) → K → V → Bool → GoE (Node K V × Bool)) {s : Nat} {n : Node K V}
    (hwf : WF h s n) (k : K) : (∀ es, n ≠ .array es) → ∀ (v : V) (mu r : Bool),
      (∀ e ∈ n.toList, pfxEq s (h.hash e.1) (h.hash k)) →
      ∃ res, n.setCore h ex k v s (h.hash k) mu r = .ok res ∧ SetPost h s n k v r res := by
  refine WF.path_induction (h.hash k) (fun {s n} hwf hb => ?_) (fun {s n o A B} hv ih => ?_) hwf
  · cases hwf with
    | bitmap | hashArray => exact absurd trivial hb
    | array h0 => intro hna; exact absurd rfl (hna _)
    | @value s kh nk nv hkh =>
      intro _ v mu r hag
      unfold Node.setCore
      by_cases hek : h.eqv nk k = true
      · -- same key: overwrite
        have hkk : kh = h.hash k := by rw [hkh]; exact hl.hash_eq _ _ hek
        have hpost : ∀ x, (x = nk ∨ x = k) → SetPost h s (Node.value kh nk nv) k v r (Node.value kh x v, r) := by
          intro x hx
          have hxk : h.eqv x k = true := by rcases hx with rfl | rfl; exact hek; exact hl.refl _
          refine ⟨WF.value (by rw [hkk]; exact (hl.hash_eq _ _ hxk).symm), ?_, ?_, ?_, ?_, by intro es; simp⟩
          · simp [lookup_cons, hek]
          · intro k'
            simp only [toList_value, lookup_cons, lookup_nil]
            rw [hl.eqv_congr_left hxk k', hl.eqv_congr_left hek k']
            cases h.eqv k k' <;> simp
          · simp [lookup_cons, hek]
          · intro e he
            simp at he; rw [he]
            rcases hx with hx | hx
            · exact Or.inl ⟨(nk, nv), by simp, by simp [hx]⟩
            · exact Or.inr (by simp [hx])
        cases mu
        · exact ⟨_, by simp [hek, pure, Except.pure], hpost k (Or.inr rfl)⟩
        · exact ⟨_, by simp [hek, pure, Except.pure], hpost nk (Or.inl rfl)⟩
      · have hek' : h.eqv nk k = false := by simpa using hek
        have hno : ∀ e ∈ (Node.value kh nk nv).toList, h.eqv e.1 k = false := by
          intro e he; simp at he; subst he; exact hek'
        by_cases hne : kh = h.hash k
        · -- same hash: collision node
          refine ⟨(Node.collision (h.hash k) [(nk, nv), (k, v)], true), by simp [hek', hne, pure, Except.pure], ?_⟩
          apply SetPost.of_insert_new hl _ (by intro es; simp) hno (T := [(nk, nv)]) (D := [])
            (toList_value _ _ _) (toList_collision _ _)
          apply WF.collision (by simp)
          · intro e he; simp at he; rcases he with rfl | rfl
            · rw [← hne, hkh]
            · rfl
          · unfold DistinctKeys; simp [hek']
        · -- different hash: merge
          have hp : pfxEq s (Node.value kh nk nv).keyHashValue (h.hash k) := by
            have := hag (nk, nv) (by simp)
            simpa [Node.keyHashValue, hkh] using this
          obtain ⟨m, hm, hmwf, ⟨T, D, hT, hT'⟩, hmna⟩ := mergeIntoNode_spec (leaf := Node.value kh nk nv) k v rfl
            (fun s' => WF.value hkh)
            (by intro e he; simp at he; subst he; simp [Node.keyHashValue, hkh])
            (by simpa [Node.keyHashValue] using hne) _ s rfl hp
          refine ⟨(m, true), ?_, SetPost.of_insert_new hl hmwf hmna hno hT hT'⟩
          have hne' : (kh != h.hash k) = true := by simpa using hne
          simp [hek', hne', hm, bind, Except.bind, pure, Except.pure]
    | @collision s kh es h2 hh hd =>
      intro _ v mu r hag
      unfold Node.setCore
      by_cases hne : kh = h.hash k
      · have hne' : (kh != h.hash k) = false := by simpa using hne
        simp only [hne', Bool.false_eq_true, if_false]
        cases hi : indexOf h es k with
        | none =>
          have hno' : ∀ e ∈ es, h.eqv e.1 k = false := indexOf_none.mp hi
          have hno : ∀ e ∈ (Node.collision kh es).toList, h.eqv e.1 k = false := by
            rw [toList_collision]
            exact hno'
          refine ⟨_, rfl, ?_⟩
          apply SetPost.of_insert_new hl _ (by intro es; simp) hno (T := es) (D := [])
            ((toList_collision _ _).trans (List.append_nil _).symm) (toList_collision _ _)
          apply WF.collision (by simp; omega)
          · intro e he
            rcases List.mem_append.mp he with he | he
            · exact hh e he
            · rw [List.mem_singleton.mp he]
              exact hne.symm
          · exact distinct_insert hl v (List.append_nil _).symm hd hno'
        | some i =>
          obtain ⟨hlook, hlen, hdist, hsome, hkeys, hmem⟩ := replace_spec hl (v := v) hd hi
          refine ⟨_, rfl, SetPost.of_entries (toList_collision _ _) (toList_collision _ _) ?_
            (by intro es; simp) hsome hlook hlen hkeys⟩
          apply WF.collision (by rw [List.length_set]; exact h2) _ hdist
          intro e he
          rcases hmem e he with rfl | he'
          · exact hne.symm
          · exact hh e he'
      · have hne' : (kh != h.hash k) = true := by simpa using hne
        have hno : ∀ e ∈ (Node.collision kh es).toList, h.eqv e.1 k = false := by
          intro e he; simp at he
          apply hl.ne_of_hash_ne; rw [hh e he]; exact hne
        have h0 : 0 < es.length := by omega
        have hp : pfxEq s (Node.collision kh es).keyHashValue (h.hash k) := by
          have := hag es[0] (by simp)
          rw [hh es[0] (by simp)] at this
          simpa [Node.keyHashValue] using this
        obtain ⟨m, hm, hmwf, ⟨T, D, hT, hT'⟩, hmna⟩ := mergeIntoNode_spec (leaf := Node.collision kh es) k v rfl
          (fun s' => WF.collision h2 hh hd)
          (by intro e he; simp at he; simp [Node.keyHashValue, hh e he])
          (by simpa [Node.keyHashValue] using hne) _ s rfl hp
        refine ⟨(m, true), ?_, SetPost.of_insert_new hl hmwf hmna hno hT hT'⟩
        simp [hne', hm, bind, Except.bind, pure, Except.pure]
  · intro _ v mu r hag
    rw [setCore_branch hv.branch, hv.read, ok_bind]
    cases o with
    | none =>
      obtain ⟨n', hput, hp⟩ := SetPost.of_free_slot hl v r hv
      exact ⟨_, bind_ok hput rfl, hp⟩
    | some c =>
      obtain ⟨⟨c', r'⟩, hset, hpost⟩ := ih c rfl (WF.not_array (by omega) (hv.childWF c rfl)) v mu r
        fun e he => pfxEq_succ.mpr ⟨hag e (by rw [hv.toList]; simp [he]), hv.childSlot e he⟩
      obtain ⟨n', hput, hp⟩ := SetPost.of_child hl hv hpost
      exact ⟨(n', r'), bind_ok hset (bind_ok hput rfl), hp⟩

end FpVerif.Hamt
