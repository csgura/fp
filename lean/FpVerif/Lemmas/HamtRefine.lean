import FpVerif.Lemmas.HamtIter
/-!
Histories of operations, the reference association-list map, and the simulation between the two
(`Represents`).  The definitions are part of the statement of `Spec/C03.lean`.
-/
namespace FpVerif.Hamt
variable {K V : Type} {h : Hasher K}

/-- operations of a history (`mutable = true`: through a builder, in place) -/
inductive Op (K V : Type) where
  | set (k : K) (v : V) (mutable : Bool)
  | delete (k : K) (mutable : Bool)

/-- the implementation model -/
def Op.apply (h : Hasher K) (m : Hamt K V) : Op K V → GoE (Hamt K V)
  | .set k v mu => m.set h k v mu
  | .delete k mu => m.delete h k mu

def run (h : Hasher K) (ops : List (Op K V)) (m : Hamt K V) : GoE (Hamt K V) :=
  ops.foldlM (Op.apply h) m

/-- the reference: an association list keyed by `Eqv` class -/
def Ref.apply (h : Hasher K) (r : List (K × V)) : Op K V → List (K × V)
  | .set k v _ => r.filter (fun e => !h.eqv e.1 k) ++ [(k, v)]
  | .delete k _ => r.filter (fun e => !h.eqv e.1 k)

def Ref.run (h : Hasher K) (ops : List (Op K V)) (r : List (K × V)) : List (K × V) :=
  ops.foldl (Ref.apply h) r

/-- the trie `m` represents the finite map `r` -/
structure Represents (h : Hasher K) (m : Hamt K V) (r : List (K × V)) : Prop where
  wf : Hamt.Inv h m
  distinct : DistinctKeys h r
  look : ∀ k, lookup h k m.toList = lookup h k r
  size : m.size = r.length

/-- the size of the trie need not be followed through the operations: it is the number of entries,
    and the lookups determine that -/
theorem Represents.of_look (hl : LawfulHash h) {m : Hamt K V} {r : List (K × V)} (hwf : Hamt.Inv h m)
    (hd : DistinctKeys h r) (look : ∀ k, lookup h k m.toList = lookup h k r) : Represents h m r :=
  ⟨hwf, hd, look, hwf.size_eq.trans (length_eq_of_lookup_eq hl (hwf.distinct hl) hd look)⟩

theorem repr_step (hl : LawfulHash h) {m : Hamt K V} {r : List (K × V)} (hr : Represents h m r) (op : Op K V) :
    ∃ m', op.apply h m = .ok m' ∧ Represents h m' (Ref.apply h r op) := by
  cases op with
  | set k v mu =>
    obtain ⟨m', h1, h2, h3, -⟩ := Hamt.set_spec hl hr.wf k v mu
    exact ⟨m', h1, .of_look hl h2 (distinct_upd hl hr.distinct k v) fun k' => by
      rw [h3, hr.look]
      exact (lookup_upd hl r k v k').symm⟩
  | delete k mu =>
    obtain ⟨m', h1, h2, h3, -⟩ := Hamt.delete_spec hl hr.wf k mu
    exact ⟨m', h1, .of_look hl h2 (distinct_filter hr.distinct _) fun k' => by
      rw [h3, hr.look]
      exact (lookup_filter_ne hl r k k').symm⟩

theorem repr_run (hl : LawfulHash h) (ops : List (Op K V)) : ∀ {m : Hamt K V} {r : List (K × V)},
    Represents h m r → ∃ m', run h ops m = .ok m' ∧ Represents h m' (Ref.run h ops r) := by
  induction ops with
  | nil => intro m r hr; exact ⟨m, rfl, hr⟩
  | cons op ops ih =>
    intro m r hr
    obtain ⟨m1, h1, hr1⟩ := repr_step hl hr op
    obtain ⟨m2, h2, hr2⟩ := ih hr1
    exact ⟨m2, bind_ok h1 h2, hr2⟩

theorem repr_empty : Represents h (Hamt.empty : Hamt K V) [] :=
  ⟨Hamt.Inv_empty, List.Pairwise.nil, fun _ => rfl, rfl⟩

end FpVerif.Hamt
