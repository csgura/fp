import FpVerif.Model.DeriveInst
import FpVerif.Lemmas.Derive
import FpVerif.Lemmas.TCOrd
/-!
# Helper lemmas for C08: the concrete component instances are lawful.  Core Lean only.

The sequence / map / option orders re-use the lemmas of C09 / C10 (`Lemmas/TCEq.lean`,
`Lemmas/TCOrd.lean`) about the very same model functions.
-/
namespace FpVerif.Derive
open FpVerif.Rec

variable {α : Type}

/-- equality of a projection is an equivalence -/
theorem lawfulEq_proj {γ : Type} [BEq γ] [LawfulBEq γ] (f : α → γ) :
    LawfulEq (⟨fun a b => f a == f b⟩ : EqD α) where
  refl a _ := by simp
  symm a b _ _ h := by simp at h ⊢; exact h.symm
  trans a b c _ _ _ h1 h2 := by simp at h1 h2 ⊢; exact h1.trans h2

theorem eqInt_lawful : LawfulEq eqInt := lawfulEq_proj DV.asInt
theorem eqStr_lawful : LawfulEq eqStr := lawfulEq_proj DV.asStr
theorem eqBool_lawful : LawfulEq eqBool := lawfulEq_proj DV.asBool
theorem eqMod10_lawful : LawfulEq eqMod10 := lawfulEq_proj fun a : DV => a.asInt % 10
theorem eqMoney100_lawful : LawfulEq eqMoney100 := lawfulEq_proj fun a : DV => Int.tdiv a.asInt 100
theorem eqMoney7_lawful : LawfulEq eqMoney7 := lawfulEq_proj fun a : DV => Int.tmod a.asInt 7
theorem eqTrivial_lawful : LawfulEq EqD.trivial :=
  ⟨fun _ _ => rfl, fun _ _ _ _ _ => rfl, fun _ _ _ _ _ _ _ _ => rfl⟩

/-! ## eq combinators -/

/-- the law bundle of C09 for the same relation -/
theorem toTC {e : EqD α} (L : LawfulEq e) : TC.LawfulEq (⟨e.eqv⟩ : TC.EqD α) where
  refl a := L.refl a trivial
  symm a b := L.symm a b trivial trivial
  trans a b c := L.trans a b c trivial trivial trivial

theorem ofTC {e : TC.EqD α} (L : TC.LawfulEq e) : LawfulEq (⟨e.eqv⟩ : EqD α) where
  refl a _ := L.refl a
  symm a b _ _ := L.symm a b
  trans a b c _ _ _ := L.trans a b c

/-- `eq.Option` / `eq.Ptr` on `Option DV` is `eq.Option` of the model of C09 -/
theorem optEqv_eq (e : EqD DV) : optEqv e = (TC.EqD.option ⟨e.eqv⟩).eqv := by
  funext a b
  cases a <;> cases b <;> rfl

theorem optEqv_lawful {e : EqD DV} (L : LawfulEq e) :
    LawfulEq (⟨optEqv e⟩ : EqD (Option DV)) :=
  optEqv_eq e ▸ ofTC (TC.option_lawful (toTC L))

theorem eqOption_lawful {e : EqD DV} (L : LawfulEq e) : LawfulEq (eqOption e) :=
  (optEqv_lawful L).comap DV.asOpt fun _ _ => trivial

theorem eqPtr_lawful {e : EqD DV} (L : LawfulEq e) : LawfulEq (eqPtr e) :=
  (optEqv_lawful L).comap DV.asPtr fun _ _ => trivial

theorem seqEqv_iff (e : EqD DV) (a b : List DV) :
    seqEqv e a b = true ↔ TC.Pointwise (fun x y => e.eqv x y = true) a b :=
  TC.seq_eqv_iff ⟨e.eqv⟩ a b

theorem seqEqv_lawful {e : EqD DV} (L : LawfulEq e) : LawfulEq (⟨seqEqv e⟩ : EqD (List DV)) :=
  ofTC (TC.seq_lawful (toTC L))

theorem eqSeq_lawful {e : EqD DV} (L : LawfulEq e) : LawfulEq (eqSeq e) :=
  (seqEqv_lawful L).comap DV.asList fun _ _ => trivial

theorem eqSlice_lawful {e : EqD DV} (L : LawfulEq e) : LawfulEq (eqSlice e) :=
  (eqSeq_lawful L).comap id fun _ _ => trivial

theorem goMapEqv_lawful {e : EqD DV} (L : LawfulEq e) :
    LawfulEq (⟨(TC.EqD.goMap (κ := List UInt8) ⟨e.eqv⟩).eqv⟩ : EqD (TC.GoMap (List UInt8) DV)) :=
  ofTC (TC.goMap_lawful (toTC L))

theorem eqGoMap_lawful {e : EqD DV} (L : LawfulEq e) : LawfulEq (eqGoMap e) :=
  (goMapEqv_lawful L).comap DV.goMap fun _ _ => trivial

/-- a lawful instance of tuples of one arity, read through `asN` (which always has that arity) -/
theorem lawfulEq_asN {n : Nat} {d : EqD (List DV)} (L : LawfulEqOn (fun l => l.length = n) d) :
    LawfulEq (d.comap (DV.asN n)) :=
  L.comap (DV.asN n) fun v _ => DV.asN_length n v

theorem eqTuple2_lawful {a b : EqD DV} (La : LawfulEq a) (Lb : LawfulEq b) :
    LawfulEq (eqTuple2 a b) :=
  lawfulEq_asN (n := 2) (tupleEq_lawful [a, b] (forall_mem_pair La Lb))

/-! ## hash -/

theorem lawfulHash_proj {γ : Type} [BEq γ] [LawfulBEq γ] (f : α → γ) (g : γ → UInt32) :
    LawfulHash (⟨fun a b => f a == f b, fun a => g (f a)⟩ : HashD α) where
  congr a b _ _ h := by simp at h; simp [h]

theorem hashNumber_lawful : LawfulHash hashNumber :=
  lawfulHash_proj DV.asInt fun i => TC.HashD.hashUint64 (UInt64.ofInt i)
theorem hashStr_lawful : LawfulHash hashStr := lawfulHash_proj DV.asStr TC.HashD.fnv1
theorem hashMod10_lawful : LawfulHash hashMod10 :=
  lawfulHash_proj (fun a : DV => a.asInt % 10) UInt32.ofInt
theorem hashMoney100_lawful : LawfulHash hashMoney100 :=
  lawfulHash_proj (fun a : DV => Int.tdiv a.asInt 100) UInt32.ofInt
theorem hashTrivial_lawful : LawfulHash HashD.trivial := ⟨fun _ _ _ _ _ => rfl⟩

/-- `hash.Option` / `hash.Ptr`: `0` for the absent value, the component hash otherwise -/
theorem optHash_congr {h : HashD DV} (L : LawfulHash h) :
    ∀ {oa ob : Option DV}, optEqv h.toEq oa ob = true →
      (match oa with | .none => 0 | .some v => h.hash v) =
        (match ob with | .none => (0 : UInt32) | .some v => h.hash v)
  | none, none, _ => rfl
  | some x, some y, e => L.congr x y trivial trivial e
  | none, some _, e => Bool.noConfusion e
  | some _, none, e => Bool.noConfusion e

theorem hashOption_lawful {h : HashD DV} (L : LawfulHash h) : LawfulHash (hashOption h) where
  congr _ _ _ _ e := optHash_congr L e

theorem hashPtr_lawful {h : HashD DV} (L : LawfulHash h) : LawfulHash (hashPtr h) where
  congr _ _ _ _ e := optHash_congr L e

theorem hashSeq_lawful {h : HashD DV} (L : LawfulHash h) : LawfulHash (hashSeq h) where
  congr a b _ _ e := by
    simp only [hashSeq, eqSeq, HashD.toEq] at e ⊢
    exact TC.Pointwise.foldl_congr (fun c x y hxy => congrArg (c * 31 + ·) (L.congr x y trivial trivial hxy))
      ((seqEqv_iff _ _ _).1 e) 0

theorem hashSlice_lawful {h : HashD DV} (L : LawfulHash h) : LawfulHash (hashSlice h) where
  congr a b _ _ e := (hashSeq_lawful L).congr a b trivial trivial e

theorem lawfulHash_asN {n : Nat} {d : HashD (List DV)} (L : LawfulHashOn (fun l => l.length = n) d) :
    LawfulHash (d.comap (DV.asN n)) :=
  L.comap (DV.asN n) fun v _ => DV.asN_length n v

theorem hashTuple2_lawful {a b : HashD DV} (La : LawfulHash a) (Lb : LawfulHash b) :
    LawfulHash (hashTuple2 a b) :=
  lawfulHash_asN (n := 2) (tupleHash_lawful [a, b] (forall_mem_pair La Lb))

/-! ## ord -/

theorem lawfulOrd_of {d : OrdD α} (sw : TC.StrictWeak d.less) (c : OrdCompat d) : LawfulOrd d where
  irrefl a _ := sw.irrefl a
  trans a b c _ _ _ := sw.trans a b c
  eqv_iff a b _ _ := c a b
  eqv_trans a b x _ _ _ h1 h2 := by
    have i1 := (c a b).1 h1
    have i2 := (c b x).1 h2
    exact (c a x).2 (sw.incomp_trans a b x i1.1 i1.2 i2.1 i2.2)

theorem ofLess_lawful {l : α → α → Bool} (sw : TC.StrictWeak l) : LawfulOrd (OrdD.ofLess l) :=
  lawfulOrd_of sw fun a b => by simp [OrdD.ofLess]

/-- `ord.New(eqv, less)` of a lawful pair is that pair -/
theorem OrdD.new_lawful {e l : α → α → Bool} (L : LawfulOrd ⟨e, l⟩) : LawfulOrd (OrdD.new e l) :=
  L.congr fun a b _ _ => OrdD.new_of_compat e l a b (L.eqv_iff a b True.intro True.intro)

theorem ordTrivial_lawful : LawfulOrd OrdD.trivial :=
  ⟨fun _ _ => rfl, fun _ _ _ _ _ _ h => by simp [OrdD.trivial] at h, fun _ _ _ _ => by simp [OrdD.trivial],
   fun _ _ _ _ _ _ _ _ => rfl⟩

theorem intLt_strictWeak : TC.StrictWeak fun a b : Int => decide (a < b) :=
  TC.strictWeak_of_linear Int.lt_irrefl (fun _ _ _ => Int.lt_trans) fun a b => by omega

theorem natLt_strictWeak : TC.StrictWeak fun a b : Nat => decide (a < b) :=
  TC.strictWeak_of_linear Nat.lt_irrefl (fun _ _ _ => Nat.lt_trans) fun a b => by omega

/-- comparison of an integer key: `Eqv` = same key, `Less` = smaller key -/
theorem intKey_lawful (f : α → Int) :
    LawfulOrd (⟨fun a b => f a == f b, fun a b => decide (f a < f b)⟩ : OrdD α) :=
  lawfulOrd_of (intLt_strictWeak.comap f) fun a b => by simp; omega

theorem ordInt_lawful : LawfulOrd ordInt := ofLess_lawful (intLt_strictWeak.comap DV.asInt)

theorem bytesLt_strictWeak : TC.StrictWeak bytesLt :=
  TC.StrictWeak.seq (ord := TC.OrdD.lessFunc fun x y : UInt8 => decide (x.toNat < y.toNat))
    (natLt_strictWeak.comap UInt8.toNat)

theorem ordStr_lawful : LawfulOrd ordStr := ofLess_lawful (bytesLt_strictWeak.comap DV.asStr)

theorem ordMod10_lawful : LawfulOrd ordMod10 := OrdD.new_lawful (intKey_lawful fun a : DV => a.asInt % 10)
theorem ordMoney100_lawful : LawfulOrd ordMoney100 :=
  OrdD.new_lawful (intKey_lawful fun a : DV => Int.tdiv a.asInt 100)

theorem optLess_eq (m : OrdD DV) : optLess m = TC.optLess m.less := by
  funext a b; cases a <;> cases b <;> rfl

theorem ptrLess_eq (m : OrdD DV) : ptrLess m = TC.optLess m.less := by
  funext a b; cases a <;> cases b <;> rfl

theorem ordOption_lawful {m : OrdD DV} (L : LawfulOrd m) : LawfulOrd (ordOption m) := by
  unfold ordOption
  rw [optLess_eq]
  exact ofLess_lawful ((TC.StrictWeak.opt L.strictWeak).comap DV.asOpt)

/-- the pair (`eq.Ptr`'s `Eqv`, nil-first `Less`) on `Option` -/
theorem optPair_lawful {o : OrdD DV} (L : LawfulOrd o) :
    LawfulOrd (⟨optEqv o.toEq, TC.optLess o.less⟩ : OrdD (Option DV)) :=
  lawfulOrd_of (TC.StrictWeak.opt L.strictWeak) fun a b => by
    cases a <;> cases b <;> simp [optEqv, TC.optLess, OrdD.toEq]
    exact L.eqv_iff _ _ trivial trivial

theorem ordPtr_lawful {o : OrdD DV} (L : LawfulOrd o) : LawfulOrd (ordPtr o) := by
  unfold ordPtr
  rw [ptrLess_eq]
  exact OrdD.new_lawful ((optPair_lawful L).comap DV.asPtr fun _ _ => trivial)

/-- the pair (`eq.Seq`'s `Eqv`, lexicographic `Less`) on lists -/
theorem seqPair_lawful {o : OrdD DV} (L : LawfulOrd o) :
    LawfulOrd (⟨seqEqv o.toEq, seqLess o⟩ : OrdD (List DV)) :=
  lawfulOrd_of (TC.StrictWeak.seq (ord := TC.OrdD.lessFunc o.less) L.strictWeak) fun a b => by
    show seqEqv o.toEq a b = true ↔ _
    rw [seqEqv_iff]
    have := TC.seqLess_incomp_iff (TC.OrdD.lessFunc o.less) a b
    simp only [seqLess]
    rw [this]
    exact TC.pointwise_congr fun x y => L.eqv_iff x y trivial trivial

theorem ordSeq_lawful {o : OrdD DV} (L : LawfulOrd o) : LawfulOrd (ordSeq o) :=
  OrdD.new_lawful ((seqPair_lawful L).comap DV.asList fun _ _ => trivial)

theorem ordSlice_lawful {o : OrdD DV} (L : LawfulOrd o) : LawfulOrd (ordSlice o) :=
  (ordSeq_lawful L).contraMap id fun _ _ => trivial

theorem lawfulOrd_asN {n : Nat} {d : OrdD (List DV)} (L : LawfulOrdOn (fun l => l.length = n) d) :
    LawfulOrd (d.comap (DV.asN n)) :=
  L.comap (DV.asN n) fun v _ => DV.asN_length n v

theorem ordTuple2_lawful {a b : OrdD DV} (La : LawfulOrd a) (Lb : LawfulOrd b) :
    LawfulOrd (ordTuple2 a b) :=
  lawfulOrd_asN (n := 2) (tupleOrd_lawful [a, b] (forall_mem_pair La Lb))

/-! ## monoid -/

theorem emod_mul_left (a b n : Int) : (a % n * b) % n = (a * b) % n := by
  rw [Int.mul_emod, Int.emod_emod, ← Int.mul_emod]

theorem emod_mul_right (a b n : Int) : (a * (b % n)) % n = (a * b) % n := by
  rw [Int.mul_emod, Int.emod_emod, ← Int.mul_emod]

theorem IntKind.wrap_mul_left (k : IntKind) (a b : Int) : k.wrap (k.wrap a * b) = k.wrap (a * b) := by
  cases k <;> simp only [IntKind.wrap]
  · exact Int.bmod_mul_bmod
  · exact Int.bmod_mul_bmod
  · exact emod_mul_left a b _

theorem IntKind.wrap_mul_right (k : IntKind) (a b : Int) : k.wrap (a * k.wrap b) = k.wrap (a * b) := by
  cases k <;> simp only [IntKind.wrap]
  · exact Int.mul_bmod_bmod
  · exact Int.mul_bmod_bmod
  · exact emod_mul_right a b _

theorem IntKind.wrap_add_left (k : IntKind) (a b : Int) : k.wrap (k.wrap a + b) = k.wrap (a + b) := by
  cases k <;> simp only [IntKind.wrap]
  · exact Int.bmod_add_bmod
  · exact Int.bmod_add_bmod
  · exact Int.emod_add_emod a _ b

theorem IntKind.wrap_add_right (k : IntKind) (a b : Int) : k.wrap (a + k.wrap b) = k.wrap (a + b) := by
  cases k <;> simp only [IntKind.wrap]
  · exact Int.add_bmod_bmod
  · exact Int.add_bmod_bmod
  · exact Int.add_emod_emod a b _

/-- `monoid.Product[T]()` is a monoid on the values of the integer type `T` (wrap-around
    multiplication is associative) -/
theorem monoidProduct_lawful (k : IntKind) : LawfulMonoidOn k.InRange (monoidProduct k) where
  left_id a pa := by
    obtain ⟨n, rfl, hn⟩ := pa
    show DV.int (k.wrap (1 * n)) = _
    rw [Int.one_mul, hn]
  right_id a pa := by
    obtain ⟨n, rfl, hn⟩ := pa
    show DV.int (k.wrap (n * 1)) = _
    rw [Int.mul_one, hn]
  assoc a b c pa pb pc := by
    obtain ⟨x, rfl, _⟩ := pa
    obtain ⟨y, rfl, _⟩ := pb
    obtain ⟨z, rfl, _⟩ := pc
    simp only [monoidProduct, DV.asInt]
    rw [k.wrap_mul_left, k.wrap_mul_right, Int.mul_assoc]

/-- `monoid.New(0, a + b)` (`MonoidMyInt`, `dep.MonoidMoney`) -/
theorem monoidSum_lawful (k : IntKind) : LawfulMonoidOn k.InRange (monoidSum k) where
  left_id a pa := by
    obtain ⟨n, rfl, hn⟩ := pa
    show DV.int (k.wrap (0 + n)) = _
    rw [Int.zero_add, hn]
  right_id a pa := by
    obtain ⟨n, rfl, hn⟩ := pa
    show DV.int (k.wrap (n + 0)) = _
    rw [Int.add_zero, hn]
  assoc a b c pa pb pc := by
    obtain ⟨x, rfl, _⟩ := pa
    obtain ⟨y, rfl, _⟩ := pb
    obtain ⟨z, rfl, _⟩ := pc
    simp only [monoidSum, DV.asInt]
    rw [k.wrap_add_left, k.wrap_add_right, Int.add_assoc]

theorem monoidStr_lawful : LawfulMonoidOn DV.IsStr monoidStr where
  left_id a pa := by obtain ⟨b, rfl⟩ := pa; rfl
  right_id a pa := by obtain ⟨b, rfl⟩ := pa; exact congrArg DV.str (List.append_nil b)
  assoc _ _ _ _ _ _ := congrArg DV.str (List.append_assoc ..)

theorem monoidMerge_lawful : LawfulMonoidOn DV.IsList monoidMerge where
  left_id a pa := by obtain ⟨b, rfl⟩ := pa; rfl
  right_id a pa := by obtain ⟨b, rfl⟩ := pa; exact congrArg DV.list (List.append_nil b)
  assoc _ _ _ _ _ _ := congrArg DV.list (List.append_assoc ..)

theorem monoid_vacuous (m : MonoidD DV) : LawfulMonoidOn (fun _ => False) m :=
  ⟨fun _ h => h.elim, fun _ h => h.elim, fun _ _ _ h => h.elim⟩

theorem monoidOption_none_right (m : MonoidD DV) (a : DV) :
    (monoidOption m).combine a .none = .none := by
  cases a <;> rfl

/-- `monoid.Option(m)`: `Some(m.Empty())` is the identity, `None` absorbs -/
theorem monoidOption_lawful {m : MonoidD DV} {P : DV → Prop} (L : LawfulMonoidOn P m) :
    LawfulMonoidOn (fun v => v = .none ∨ ∃ w, v = .some w ∧ P w) (monoidOption m) where
  left_id a pa := by
    rcases pa with rfl | ⟨w, rfl, pw⟩
    · exact monoidOption_none_right m _
    · exact congrArg DV.some (L.left_id w pw)
  right_id a pa := by
    rcases pa with rfl | ⟨w, rfl, pw⟩
    · rfl
    · exact congrArg DV.some (L.right_id w pw)
  assoc a b c pa pb pc := by
    rcases pa with rfl | ⟨x, rfl, px⟩
    · rfl
    rcases pb with rfl | ⟨y, rfl, py⟩
    · rfl
    rcases pc with rfl | ⟨z, rfl, pz⟩
    · rfl
    · exact congrArg DV.some (L.assoc x y z px py pz)

theorem monoidTuple2_lawful {a b : MonoidD DV} {Pa Pb : DV → Prop} (La : LawfulMonoidOn Pa a)
    (Lb : LawfulMonoidOn Pb b) :
    LawfulMonoidOn (fun v => ∃ x y, v = .tup [x, y] ∧ Pa x ∧ Pb y) (monoidTuple2 a b) where
  left_id v pv := by
    obtain ⟨x, y, rfl, px, py⟩ := pv
    show DV.tup [a.combine a.empty x, b.combine b.empty y] = _
    rw [La.left_id x px, Lb.left_id y py]
  right_id v pv := by
    obtain ⟨x, y, rfl, px, py⟩ := pv
    show DV.tup [a.combine x a.empty, b.combine y b.empty] = _
    rw [La.right_id x px, Lb.right_id y py]
  assoc u v w pu pv pw := by
    obtain ⟨x1, y1, rfl, px1, py1⟩ := pu
    obtain ⟨x2, y2, rfl, px2, py2⟩ := pv
    obtain ⟨x3, y3, rfl, px3, py3⟩ := pw
    show DV.tup [a.combine (a.combine x1 x2) x3, b.combine (b.combine y1 y2) y3] = 
      DV.tup [a.combine x1 (a.combine x2 x3), b.combine y1 (b.combine y2 y3)]
    rw [La.assoc _ _ _ px1 px2 px3, Lb.assoc _ _ _ py1 py2 py3]

theorem asN_record (n : Nat) (vs : List DV) (h : vs.length = n) : DV.asN n (.record vs) = vs := by
  simp [DV.asN, h]

/-! ## clone -/

theorem unspine_spine (vs : List HV) : unspine (spine vs) = vs := by
  induction vs with
  | nil => rfl
  | cons v vs ih => simp [spine, unspine, ih]

theorem spine_addrs (vs : List HV) : (spine vs).addrs = addrsL vs := by
  induction vs with
  | nil => rfl
  | cons v vs ih => simp [spine, HV.addrs, ih]

theorem spine_same (r vs : List HV) : (spine r).same (spine vs) = sameL r vs := by
  induction r generalizing vs with
  | nil => cases vs <;> rfl
  | cons a r ih =>
    cases vs with
    | nil => rfl
    | cons v vs => exact congrArg (a.same v && ·) (ih vs)

/-- cloning the two halves of a pair one after the other -/
theorem pair_ok {c1 c2 d : CloneD HV} {v r : HV} (h1 : CloneOK c1 v) (h2 : CloneOK c2 r)
    (hd : ∀ n, runAlloc (d.clone (.pair v r)) n =
      (.pair (runAlloc (c1.clone v) n).1 (runAlloc (c2.clone r) (runAlloc (c1.clone v) n).2).1,
        (runAlloc (c2.clone r) (runAlloc (c1.clone v) n).2).2)) :
    CloneOK d (.pair v r) :=
  cloneOK_of_run fun n => by
    rw [hd n]
    refine ⟨by simp [HV.same, h1.same n, h2.same _], ?_, ?_⟩
    · have := h1.mono n
      have := h2.mono (runAlloc (c1.clone v) n).2
      simp only
      omega
    · simpa [HV.addrs] using (h1.block n).append (h2.block _) (h1.mono n) (h2.mono _)

/-- `seq.Map(s, c.Clone)`: the elements of a spine, one after the other -/
theorem spineClone_ok {c : CloneD HV} {P : HV → Prop} (hc : ∀ v, P v → CloneOK c v) {sp : HV}
    (h : SpineOf P sp) : CloneOK ⟨spineClone c⟩ sp := by
  induction h with
  | nil => exact pure_ok_leaf _ _ fun n => rfl
  | cons pv _ ih => exact pair_ok (hc _ pv) ih fun n => rfl

theorem cloneEntry_ok {ck cv : CloneD HV} {P : HV → Prop} (hk : ∀ k, k.addrs = [] → CloneOK ck k)
    (hv : ∀ w, P w → CloneOK cv w) (e : HV) (he : EntryOf P e) : CloneOK (cloneEntry ck cv) e := by
  obtain ⟨k, w, rfl, hk0, pw⟩ := he
  exact pair_ok (hk k hk0) (hv w pw) fun n => rfl

theorem cloneOption_ok {c : CloneD HV} {w : HV} (h : CloneOK c w) :
    CloneOK (cloneOption c) (.pair (.leaf "Some") w) :=
  pair_ok (c1 := CloneD.given) (given_ok _ rfl) h fun _ => rfl

/-- a tuple / struct value (the spine of its components) cloned component by component -/
theorem spineTuple_ok (d : CloneD HV) (ds : List (CloneD HV)) (vs : List HV)
    (h : Forall2 CloneOK ds vs)
    (hd : ∀ n, runAlloc (d.clone (spine vs)) n =
      (spine (runAlloc (tupleClone ds vs) n).1, (runAlloc (tupleClone ds vs) n).2)) :
    CloneOK d (spine vs) :=
  cloneOK_of_run fun n => by
    obtain ⟨t1, t2, _, t4⟩ := tupleClone_run ds vs h n
    rw [hd n]
    exact ⟨by rw [spine_same]; exact t1, t2, by rw [spine_addrs]; exact t4⟩

/-! ## instance expressions and declarations: plumbing -/

theorem WFs_mem {is : List Inst} (h : Inst.WFs is) {i : Inst} (hi : i ∈ is) : i.WF := by
  induction is with
  | nil => simp at hi
  | cons j js ih =>
    simp only [List.mem_cons] at hi
    rcases hi with rfl | hi
    · exact h.1
    · exact ih h.2 hi

theorem prim_WF (n : String) : (Inst.prim n).WF := by simp [Inst.WF]

/-- the expression looked up for a field type is one of the declaration's, or the fallback -/
theorem givenInst_mem (d : Decl) (t : Ty) : d.givenInst t ∈ d.insts ∨ d.givenInst t = .prim "?" := by
  unfold Decl.givenInst
  split
  · rename_i p hp
    exact .inl (List.of_mem_zip (List.mem_of_find?_eq_some hp)).2
  · exact .inr rfl

theorem paramInst_mem (d : Decl) (n : String) :
    d.paramInst n ∈ d.pinsts.map (·.2) ∨ d.paramInst n = .prim "?" := by
  unfold Decl.paramInst
  split
  · rename_i p hp
    exact .inl (List.mem_map.2 ⟨p, List.mem_of_find?_eq_some hp, rfl⟩)
  · exact .inr rfl

theorem givenInst_WF (d : Decl) (wf : d.WF) (t : Ty) : (d.givenInst t).WF :=
  (givenInst_mem d t).elim (WFs_mem wf.insts) fun h => h ▸ prim_WF _

theorem paramInst_WF (d : Decl) (wf : d.WF) (n : String) : (d.paramInst n).WF :=
  (paramInst_mem d n).elim (WFs_mem wf.pinsts) fun h => h ▸ prim_WF _

theorem eqs_length (env : Env (EqD DV)) (is : List Inst) : (Inst.eqs env is).length = is.length := by
  induction is with
  | nil => rfl
  | cons i is ih => simp [Inst.eqs, ih]

theorem hashes_length (env : Env (HashD DV)) (is : List Inst) :
    (Inst.hashes env is).length = is.length := by
  induction is with
  | nil => rfl
  | cons i is ih => simp [Inst.hashes, ih]

theorem ords_length (env : Env (OrdD DV)) (is : List Inst) :
    (Inst.ords env is).length = is.length := by
  induction is with
  | nil => rfl
  | cons i is ih => simp [Inst.ords, ih]

theorem monoids_length (env : Env (MonoidD DV)) (is : List Inst) :
    (Inst.monoids env is).length = is.length := by
  induction is with
  | nil => rfl
  | cons i is ih => simp [Inst.monoids, ih]

theorem WFms_mem {is : List Inst} (h : Inst.WFms is) {i : Inst} (hi : i ∈ is) : i.WFm := by
  induction is with
  | nil => simp at hi
  | cons j js ih =>
    simp only [List.mem_cons] at hi
    rcases hi with rfl | hi
    · exact h.1
    · exact ih h.2 hi

theorem givenInst_WFm (d : Decl) (hi : Inst.WFms d.insts) (t : Ty) : (d.givenInst t).WFm :=
  (givenInst_mem d t).elim (WFms_mem hi) fun h => h ▸ by simp [Inst.WFm]

theorem paramInst_WFm (d : Decl) (hpi : Inst.WFms (d.pinsts.map (·.2))) (n : String) :
    (d.paramInst n).WFm :=
  (paramInst_mem d n).elim (WFms_mem hpi) fun h => h ▸ by simp [Inst.WFm]

theorem nestedZero_WFG (s : StructSpec) : WFG s (nestedZero s) := by simp [WFG, nestedZero]

theorem primClone_given (n : String) : (primClone? n).getD CloneD.given = CloneD.given := by
  unfold primClone?
  split <;> rfl

end FpVerif.Derive
