import FpVerif.Model.Sched
/-!
The termination argument shared by the interleaving models (Promise, CopyOnWriteMap).  `Progress`:
an invariant kept by every step, a measure every executed step decreases, finished threads never
move, and while some thread is unfinished some thread is enabled (threads may block, the system
never does).  Hence every weakly fair infinite schedule and every long enough sequence of complete
rounds ends with all threads finished, and nothing changes afterwards.

An infinite schedule is `σ : Nat → Tid`; its first `n` entries are `(List.range n).map σ`.

Before it: counting over the thread list.  Every machine, the two `sync.Once` cells included, keeps a count
`#{threads with p} = if flag then 1 else 0` (the winner of the CAS, the holder of a mutex); that the thread counted is
unique, and exists when the flag is set, is read off it here.
-/
namespace FpVerif.Sched

variable {Sh L : Type} {stepT : StepT Sh L}

theorem run_length (s : Sys Sh L) (sched : List Tid) :
    (run stepT s sched).threads.length = s.threads.length :=
  rel_run (Inv := fun _ => True) (Rel := fun s0 s => s.threads.length = s0.threads.length)
    (fun _ _ _ _ _ => trivial) (fun _ => rfl)
    (fun _ _ _ _ _ hr hs => (step_length hs).trans hr) trivial sched

theorem range_map_add (σ : Nat → Tid) (n k : Nat) :
    (List.range (n + k)).map σ = (List.range n).map σ ++ (List.range k).map (fun i => σ (n + i)) := by
  simp [List.range_add, List.map_map, Function.comp_def]

theorem step_isSome_of {s : Sys Sh L} {t : Tid} {l : L} (hl : s.threads[t]? = some l)
    (h : (stepT s.shared l).isSome = true) : (step stepT s t).isSome = true := by
  obtain ⟨⟨sh, l'⟩, hp⟩ := Option.isSome_iff_exists.mp h
  rw [step_of hl hp]
  rfl

theorem exists_not_fin {fin : L → Bool} {ts : List L} (h : ts.all fin = false) :
    ∃ t l, ts[t]? = some l ∧ fin l = false ∧ t < ts.length := by
  obtain ⟨l, hmem, hf⟩ := List.all_eq_false.mp h
  obtain ⟨t, ht, hget⟩ := List.getElem_of_mem hmem
  exact ⟨t, l, by rw [List.getElem?_eq_getElem ht, hget], by simpa using hf, ht⟩

/-- `sumBy_set` in the form a goal about the new sum needs -/
theorem sumBy_set_eq {w : L → Nat} {ts : List L} {i n : Nat} {l l' : L} (h : ts[i]? = some l)
    (hs : sumBy w ts + w l' = n + w l) : sumBy w (ts.set i l') = n := by
  have := sumBy_set w (l' := l') h
  omega

theorem sumBy_set_of_eq {w : L → Nat} {ts : List L} {i n : Nat} {l l' : L} (h : ts[i]? = some l)
    (hw : w l' = w l) (hs : sumBy w ts = n) : sumBy w (ts.set i l') = n :=
  sumBy_set_eq h (by rw [hw, hs])

theorem sumBy_congr {f g : L → Nat} {ts : List L} (h : ∀ x ∈ ts, f x = g x) :
    sumBy f ts = sumBy g ts := by
  rw [sumBy_eq_sum_map, sumBy_eq_sum_map, List.map_congr_left h]

theorem sumBy_ind_pos {p : L → Bool} {ts : List L} {i : Nat} {a : L}
    (hi : ts[i]? = some a) (ha : p a = true) : 1 ≤ sumBy (fun l => if p l then 1 else 0) ts := by
  rw [sumBy_eq_sum_map]
  exact Nat.le_trans (by rw [ha]; exact Nat.le_refl 1)
    (le_sum_map_of_mem (fun l => if p l then 1 else 0) (List.mem_of_getElem? hi))

theorem sumBy_ind_two {p : L → Bool} {ts : List L} {i j : Nat} {a b : L}
    (hi : ts[i]? = some a) (hj : ts[j]? = some b) (ha : p a = true) (hb : p b = true)
    (hne : i ≠ j) : 2 ≤ sumBy (fun l => if p l then 1 else 0) ts := by
  induction ts generalizing i j with
  | nil => cases hi
  | cons x xs ih =>
    rw [sumBy]
    cases i with
    | zero =>
      cases j with
      | zero => exact absurd rfl hne
      | succ j' =>
        cases hi
        rw [ha]
        exact Nat.add_le_add_left (sumBy_ind_pos (p := p) (ts := xs) (i := j') hj hb) 1
    | succ i' =>
      cases j with
      | zero =>
        cases hj
        rw [hb]
        exact Nat.add_le_add_left (sumBy_ind_pos (p := p) (ts := xs) (i := i') hi ha) 1
      | succ j' => exact Nat.le_trans (ih hi hj (fun h => hne (congrArg Nat.succ h))) (Nat.le_add_left _ _)

/-- mutual exclusion read off a count: if at most one thread satisfies `p`, two positions that do
    are the same -/
theorem eq_of_sumBy_ind_le_one {p : L → Bool} {ts : List L} {i j : Nat} {a b : L}
    (h : sumBy (fun l => if p l then 1 else 0) ts ≤ 1) (hi : ts[i]? = some a) (hj : ts[j]? = some b)
    (ha : p a = true) (hb : p b = true) : i = j :=
  Decidable.byContradiction fun hne =>
    Nat.not_succ_le_self 1 (Nat.le_trans (sumBy_ind_two hi hj ha hb hne) h)

theorem exists_of_sumBy_ind_pos {p : L → Bool} {ts : List L}
    (h : 1 ≤ sumBy (fun l => if p l then 1 else 0) ts) : ∃ (t : Nat) (l : L), ts[t]? = some l ∧ p l = true := by
  rw [sumBy_eq_sum_map] at h
  obtain ⟨t, l, hl, hp⟩ := exists_pos_of_sum_map_pos _ h
  refine ⟨t, l, hl, ?_⟩
  cases hpl : p l with
  | true => rfl
  | false => rw [hpl] at hp; cases hp

structure Progress (stepT : StepT Sh L) (fin : L → Bool) (Inv : Sys Sh L → Prop)
    (μ : Sys Sh L → Nat) : Prop where
  inv : ∀ s t s', Inv s → step stepT s t = some s' → Inv s'
  dec : ∀ s t s', Inv s → step stepT s t = some s' → μ s' < μ s
  halt : ∀ sh l, fin l = true → stepT sh l = none
  enabled : ∀ s, Inv s → s.threads.all fin = false →
    ∃ t, t < s.threads.length ∧ (step stepT s t).isSome = true

namespace Progress

variable {fin : L → Bool} {Inv : Sys Sh L → Prop} {μ : Sys Sh L → Nat}
  (P : Progress stepT fin Inv μ)
include P

theorem run_inv {s : Sys Sh L} (h : Inv s) (sched : List Tid) : Inv (run stepT s sched) :=
  inv_run P.inv h sched

theorem measure_run_le {s : Sys Sh L} (h : Inv s) (sched : List Tid) : μ (run stepT s sched) ≤ μ s :=
  Nat.le_trans (Nat.le_add_left _ _) (effSteps_le_measure_inv P.inv P.dec s h sched)

theorem effSteps_le {s : Sys Sh L} (h : Inv s) (sched : List Tid) : effSteps stepT s sched ≤ μ s :=
  Nat.le_trans (Nat.le_add_right _ _) (effSteps_le_measure_inv P.inv P.dec s h sched)

/-- an earlier entry is executed, or the state is unchanged when the enabled thread's turn comes -/
theorem measure_run_lt {s : Sys Sh L} (h : Inv s) {t : Tid} (hen : (step stepT s t).isSome = true)
    {sched : List Tid} (hmem : t ∈ sched) : μ (run stepT s sched) < μ s := by
  induction sched with
  | nil => cases hmem
  | cons a rest ih =>
    rw [run_cons, stepOr]
    cases hs : step stepT s a with
    | some s' => exact Nat.lt_of_le_of_lt (P.measure_run_le (P.inv s a s' h hs) rest) (P.dec s a s' h hs)
    | none =>
      rcases List.mem_cons.mp hmem with rfl | hm
      · rw [hs] at hen; cases hen
      · exact ih hm

theorem step_none_of_finished {s : Sys Sh L} (h : s.threads.all fin = true) (t : Tid) :
    step stepT s t = none := by
  unfold step
  cases hl : s.threads[t]? with
  | none => rfl
  | some l => simp only [P.halt s.shared l (List.all_eq_true.mp h l (List.mem_of_getElem? hl))]

theorem run_of_finished {s : Sys Sh L} (h : s.threads.all fin = true) (sched : List Tid) :
    run stepT s sched = s := by
  rw [run_eq_foldl]
  exact Fold.inv (P := (· = s)) (fun _ t e => by rw [e, stepOr, P.step_none_of_finished h t]; rfl) rfl sched

theorem unfinished_of_enabled {s : Sys Sh L} {t : Tid} (hen : (step stepT s t).isSome = true) :
    ∃ l, s.threads[t]? = some l ∧ fin l = false := by
  obtain ⟨s', hs⟩ := Option.isSome_iff_exists.mp hen
  obtain ⟨l, sh, l', hl, hst, _⟩ := step_eq_some hs
  refine ⟨l, hl, ?_⟩
  cases hfl : fin l with
  | false => rfl
  | true => rw [P.halt _ l hfl] at hst; cases hst

theorem finished_of_measure_zero {s : Sys Sh L} (hi : Inv s) (h : μ s = 0) :
    s.threads.all fin = true := by
  cases hf : s.threads.all fin with
  | true => rfl
  | false =>
    obtain ⟨t, _, hen⟩ := P.enabled s hi hf
    have := P.measure_run_lt hi hen (List.mem_singleton_self t)
    omega

/-- no state satisfying the invariant is stuck with work left -/
theorem quiescent_iff {s : Sys Sh L} (h : Inv s) : Quiescent stepT s ↔ s.threads.all fin = true := by
  refine ⟨fun hq => ?_, P.step_none_of_finished⟩
  cases hf : s.threads.all fin with
  | true => rfl
  | false =>
    obtain ⟨t, _, hen⟩ := P.enabled s h hf
    rw [hq t] at hen
    cases hen

/-- weakly fair: every thread unfinished after `n` entries is named by a later entry -/
theorem fair_finishes {s : Sys Sh L} (hi : Inv s) (σ : Nat → Tid)
    (hfair : ∀ n t l, (run stepT s ((List.range n).map σ)).threads[t]? = some l → fin l = false →
      ∃ m, n ≤ m ∧ σ m = t) :
    ∃ n, (run stepT s ((List.range n).map σ)).threads.all fin = true := by
  suffices h : ∀ k n, μ (run stepT s ((List.range n).map σ)) ≤ k →
      ∃ n', (run stepT s ((List.range n').map σ)).threads.all fin = true from h _ 0 (Nat.le_refl _)
  intro k
  induction k with
  | zero => exact fun n hk => ⟨n, P.finished_of_measure_zero (P.run_inv hi _) (Nat.le_zero.mp hk)⟩
  | succ k ih =>
    intro n hk
    cases hf : (run stepT s ((List.range n).map σ)).threads.all fin with
    | true => exact ⟨n, hf⟩
    | false =>
      -- the enabled thread is unfinished, so the schedule names it at some `m ≥ n`
      obtain ⟨t, _, hen⟩ := P.enabled _ (P.run_inv hi _) hf
      obtain ⟨l, hl, hunf⟩ := P.unfinished_of_enabled hen
      obtain ⟨m, hnm, hσ⟩ := hfair n t l hl hunf
      apply ih (m + 1)
      obtain ⟨d, rfl⟩ := Nat.exists_eq_add_of_le hnm
      have hmem : t ∈ (List.range (d + 1)).map (fun i => σ (n + i)) :=
        List.mem_map.mpr ⟨d, List.mem_range.mpr (Nat.lt_succ_self d), hσ⟩
      have hlt := P.measure_run_lt (P.run_inv hi _) hen hmem
      rw [Nat.add_assoc, range_map_add, run_append]
      omega

theorem fair_finishes_after {s : Sys Sh L} (hi : Inv s) (sched : List Tid) (σ : Nat → Tid)
    (hfair : ∀ n t l, (run stepT (run stepT s sched) ((List.range n).map σ)).threads[t]? = some l →
      fin l = false → ∃ m, n ≤ m ∧ σ m = t) :
    ∃ n, (run stepT s (sched ++ (List.range n).map σ)).threads.all fin = true := by
  obtain ⟨n, hn⟩ := P.fair_finishes (P.run_inv hi sched) σ hfair
  exact ⟨n, by rw [run_append]; exact hn⟩

theorem fair_finishes_stable {s : Sys Sh L} (hi : Inv s) (σ : Nat → Tid)
    (hfair : ∀ n t l, (run stepT s ((List.range n).map σ)).threads[t]? = some l → fin l = false →
      ∃ m, n ≤ m ∧ σ m = t) :
    ∃ n, ∀ m, n ≤ m → (run stepT s ((List.range m).map σ)).threads.all fin = true ∧
      run stepT s ((List.range m).map σ) = run stepT s ((List.range n).map σ) := by
  obtain ⟨n, hn⟩ := P.fair_finishes hi σ hfair
  refine ⟨n, fun m hm => ?_⟩
  obtain ⟨k, rfl⟩ := Nat.exists_eq_add_of_le hm
  rw [range_map_add, run_append, P.run_of_finished hn]
  exact ⟨hn, rfl⟩

/-- `a` names every thread, `b` finishes every system of smaller measure -/
theorem round_finishes {s : Sys Sh L} (hi : Inv s) {a b : List Tid}
    (ha : ∀ t, t < s.threads.length → t ∈ a)
    (hb : ∀ s', Inv s' → s'.threads.length = s.threads.length → μ s' < μ s →
      (run stepT s' b).threads.all fin = true) :
    (run stepT s (a ++ b)).threads.all fin = true := by
  cases hf : s.threads.all fin with
  | true => rw [P.run_of_finished hf]; exact hf
  | false =>
    obtain ⟨t, hlt, hen⟩ := P.enabled s hi hf
    rw [run_append]
    exact hb _ (P.run_inv hi a) (run_length s a) (P.measure_run_lt hi hen (ha t hlt))

theorem roundRobin_finishes (fuel : Nat) {s : Sys Sh L} (hi : Inv s) (hm : μ s ≤ fuel) :
    (run stepT s (roundRobin s.threads.length fuel)).threads.all fin = true := by
  induction fuel generalizing s with
  | zero => exact P.finished_of_measure_zero hi (Nat.le_zero.mp hm)
  | succ n ih =>
    refine P.round_finishes hi (fun t ht => List.mem_range.mpr ht) (fun s' hi' hlen hlt => ?_)
    rw [← hlen]
    exact ih hi' (by omega)

end Progress

end FpVerif.Sched
