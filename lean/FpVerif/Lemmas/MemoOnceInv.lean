import FpVerif.Model.Memo
import FpVerif.Lemmas.ConcProgress
/-!
# Invariant of the small `sync.Once` model (`Model/Memo.lean`), for every interleaving

`P` is what is known of the value a thread stores: `(· = v)` for `Spec/C16.once_all_schedules` (every caller
computes the same `v`), "the value of one of the callers" for `Lemmas/FnMemo` (`fn1.Memoize`, each caller its own argument).
-/
namespace FpVerif.Memo
open FpVerif.Sched
variable {T : Type}

/-- the model's counter of running threads is the sum the invariant speaks of -/
theorem nRunning_eq (ts : List (TState T)) : nRunning ts = sumBy (fun t => if isRunning t then 1 else 0) ts :=
  (sumBy_eq_sum_map _ ts).symm

/-- `f` has run iff the cell is filled; whoever runs `f` holds the Once and is alone; a call that returned returned the cell's value -/
structure OnceInv (P : T → Prop) (s : Sys T) : Prop where
  runs_eq : s.runs = if s.cell.isSome then 1 else 0
  cell_v : ∀ r, s.cell = some r → P r
  busy_none : s.busy = true → s.cell = none
  running_eq : sumBy (fun t => if isRunning t then 1 else 0) s.threads = if s.busy then 1 else 0
  returned_v : ∀ t ∈ s.threads, ∀ r, t = TState.returned r → s.cell = some r

theorem onceInv_init (P : T → Prop) (n : Nat) : OnceInv P (init n : Sys T) where
  runs_eq := rfl
  cell_v := by intro r h; simp [init] at h
  busy_none := by simp [init]
  running_eq := sumBy_eq_zero fun _ hx => by rw [List.eq_of_mem_replicate hx]; rfl
  returned_v := by
    intro t ht r hr
    simp [init] at ht
    rw [ht.2] at hr; cases hr

/-- a non-stuttering step of a thread in state `t`: cell, `busy` flag and run counter afterwards, the thread's new state -/
inductive Move (v : T) (s : Sys T) : TState T → Option T → Bool → Nat → TState T → Prop
  | ret {t x} (ht : isRunning t = false) (hc : s.cell = some x) : Move v s t s.cell s.busy s.runs (.returned x)
  | wait (hc : s.cell = none) (hb : s.busy = true) : Move v s .idle s.cell s.busy s.runs .waiting
  | enter {t} (ht : isRunning t = false) (hc : s.cell = none) (hb : s.busy = false) :
      Move v s t s.cell true s.runs .running
  | finish : Move v s .running (some v) false (s.runs + 1) (.returned v)

theorem step_spec (v : T) (s : Sys T) (i : Nat) :
    step v s i = s ∨ ∃ t c b r t', s.threads[i]? = some t ∧ Move v s t c b r t'
      ∧ step v s i = { cell := c, busy := b, runs := r, threads := s.threads.set i t' } := by
  unfold step
  cases hti : s.threads[i]? with
  | none => exact .inl rfl
  | some t =>
    cases t with
    | returned r => exact .inl rfl
    | running => exact .inr ⟨_, _, _, _, _, rfl, .finish, rfl⟩
    | idle =>
      cases hc : s.cell with
      | some x => exact .inr ⟨_, _, _, _, _, rfl, hc ▸ .ret rfl hc, rfl⟩
      | none =>
        cases hb : s.busy with
        | true => exact .inr ⟨_, _, _, _, _, rfl, hc ▸ hb ▸ .wait hc hb, rfl⟩
        | false => exact .inr ⟨_, _, _, _, _, rfl, hc ▸ .enter rfl hc hb, rfl⟩
    | waiting =>
      cases hc : s.cell with
      | some x => exact .inr ⟨_, _, _, _, _, rfl, hc ▸ .ret rfl hc, rfl⟩
      | none =>
        cases hb : s.busy with
        | true => exact .inl rfl
        | false => exact .inr ⟨_, _, _, _, _, rfl, hc ▸ .enter rfl hc hb, rfl⟩

theorem length_step (v : T) (s : Sys T) (i : Nat) : (step v s i).threads.length = s.threads.length := by
  rcases step_spec v s i with h | ⟨t, c, b, r, t', _, _, h⟩
  · rw [h]
  · rw [h]; exact List.length_set

/-- `v` is what thread `i` stores if it is the one running `f` -/
theorem onceInv_step {P : T → Prop} {v : T} {s : Sys T} {i : Nat} (h : OnceInv P s)
    (hv : s.threads[i]? = some .running → P v) : OnceInv P (step v s i) := by
  rcases step_spec v s i with he | ⟨t, c, b, r, t', hti, hm, he⟩
  · rw [he]; exact h
  rw [he]
  have hret : ∀ t'' ∈ s.threads.set i t', (∀ r, t' = .returned r → c = some r) → (c = s.cell ∨ s.cell = none) →
      ∀ r, t'' = .returned r → c = some r := by
    intro t'' ht'' hnew hc r hr
    rcases List.mem_or_eq_of_mem_set ht'' with hm | he
    · have := h.returned_v t'' hm r hr
      rcases hc with hc | hc
      · rw [hc]; exact this
      · rw [hc] at this; cases this
    · exact hnew r (he ▸ hr)
  cases hm with
  | ret ht hc =>
    exact { h with
      running_eq := sumBy_set_of_eq hti (by rw [ht]; rfl) h.running_eq
      returned_v := fun t'' ht'' => hret t'' ht'' (fun r hr => by cases hr; exact hc) (.inl rfl) }
  | wait hc hb =>
    exact { h with
      running_eq := sumBy_set_of_eq hti rfl h.running_eq
      returned_v := fun t'' ht'' => hret t'' ht'' (fun r hr => nomatch hr) (.inl rfl) }
  | enter ht hc hb =>
    exact { h with
      busy_none := fun _ => hc
      running_eq := sumBy_set_eq hti (by rw [ht, h.running_eq, hb]; rfl)
      returned_v := fun t'' ht'' => hret t'' ht'' (fun r hr => nomatch hr) (.inl rfl) }
  | finish =>
    -- a running thread exists, so the Once is held, so the cell is still empty and f has not run yet
    have hb : s.busy = true := by
      have h1 := sumBy_ind_pos (p := isRunning) hti rfl
      cases hb : s.busy with
      | true => rfl
      | false => rw [h.running_eq, hb] at h1; exact absurd h1 (by decide)
    have hc : s.cell = none := h.busy_none hb
    have hr := h.runs_eq
    rw [hc] at hr
    exact {
      runs_eq := by rw [hr]; rfl
      cell_v := fun r hr => by cases hr; exact hv hti
      busy_none := fun hf => nomatch hf
      running_eq := sumBy_set_eq hti (by rw [h.running_eq, hb]; rfl)
      returned_v := fun t'' ht'' => hret t'' ht'' (fun r hr => by cases hr; rfl) (.inr hc) }

theorem onceInv_runSched {P : T → Prop} {v : T} (hv : P v) (sched : List Nat) :
    ∀ s : Sys T, OnceInv P s → OnceInv P (runSched v s sched) :=
  fun _ h => Fold.inv (P := OnceInv P) (fun _ _ h => onceInv_step h fun _ => hv) h sched

theorem OnceInv.runs_le_one {P : T → Prop} {s : Sys T} (h : OnceInv P s) : s.runs ≤ 1 := by
  rw [h.runs_eq]; split <;> omega

end FpVerif.Memo
