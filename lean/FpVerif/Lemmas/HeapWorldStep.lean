import FpVerif.Lemmas.HeapWorldInv
/-!
Every step of a history preserves the world invariant, leaves every collection handed out so far
intact, and writes only the trie of a builder that still owns it (`World.writes`).
-/
namespace FpVerif.HamtHeap
open FpVerif.Hamt
variable {K V : Type}

-- value level: the composite operations never panic on well-formed tries ----------------------------

theorem concat_ok {h : Hasher K} (hl : LawfulHash h) : ∀ (kvs : List (K × V)) {a : Hamt K V}, Hamt.Inv h a →
    ∃ a', kvs.foldlM (fun (ret : Hamt K V) kv => ret.set h kv.1 kv.2 false) a = .ok a' ∧ Hamt.Inv h a' := by
  intro kvs
  induction kvs with
  | nil => intro a ha; exact ⟨a, rfl, ha⟩
  | cons kv kvs ih =>
    intro a ha
    obtain ⟨a1, h1, hi1, _⟩ := Hamt.set_spec hl ha kv.1 kv.2 false
    obtain ⟨a', h2, hi2⟩ := ih hi1
    exact ⟨a', by rw [List.foldlM_cons, h1]; exact h2, hi2⟩

theorem updatedWith_ok {h : Hasher K} (hl : LawfulHash h) {a : Hamt K V} (ha : Hamt.Inv h a) (k : K)
    (remap : Option V → Option V) : ∃ a', Hamt.updatedWith h a k remap = .ok a' ∧ Hamt.Inv h a' := by
  unfold Hamt.updatedWith
  rw [Hamt.get_spec hl ha]
  simp only [bind, Except.bind]
  cases remap (lookup h k a.toList) with
  | some x =>
    obtain ⟨a', h1, hi1, _⟩ := Hamt.set_spec hl ha k x false
    exact ⟨a', h1, hi1⟩
  | none =>
    dsimp only
    by_cases hs : (lookup h k a.toList).isSome = true
    · simp only [hs, if_true]
      obtain ⟨a', h1, hi1, _⟩ := Hamt.removed_spec hl [k] ha
      exact ⟨a', h1, hi1⟩
    · simp only [hs, Bool.false_eq_true, if_false]
      exact ⟨a, rfl, ha⟩

theorem filterLoop_ok {h : Hasher K} (hl : LawfulHash h) {aj : Hamt K V} (hj : Hamt.Inv h aj) (neg : Bool) (tt : V) :
    ∀ (es : List (K × V)) {a : Hamt K V}, Hamt.Inv h a →
    ∃ a', es.foldlM (fun (ret : Hamt K V) e => do
        let c ← aj.get h e.1
        if c.isSome != neg then ret.set h e.1 tt false else pure ret) a = .ok a' ∧ Hamt.Inv h a' := by
  intro es
  induction es with
  | nil => intro a ha; exact ⟨a, rfl, ha⟩
  | cons e es ih =>
    intro a ha
    rw [List.foldlM_cons, Hamt.get_spec hl hj]
    simp only [bind, Except.bind]
    by_cases hc : ((lookup h e.1 aj.toList).isSome != neg) = true
    · simp only [hc, if_true]
      obtain ⟨a1, h1, hi1, _⟩ := Hamt.set_spec hl ha e.1 tt false
      rw [h1]
      exact ih hi1
    · simp only [hc, Bool.false_eq_true, if_false, pure, Except.pure]
      exact ih ha

theorem filterInto_ok {h : Hasher K} (hl : LawfulHash h) {ai aj : Hamt K V} (hi : Hamt.Inv h ai)
    (hj : Hamt.Inv h aj) (neg : Bool) (tt : V) :
    ∃ a', Hamt.filterInto h ai aj neg tt = .ok a' ∧ Hamt.Inv h a' := by
  unfold Hamt.filterInto
  rw [Hamt.iterList_spec hi]
  simp only [bind, Except.bind]
  exact filterLoop_ok hl hj neg tt ai.toList Hamt.Inv_empty

-- the steps --------------------------------------------------------------------------------------------

theorem ver_mem {W : World K V} {i : Nat} {m : Addr} (h : W.ver i = .ok m) : m ∈ W.vers := by
  unfold World.ver at h
  split at h
  · rename_i m' hm; injection h with h; subst h; exact List.mem_of_getElem? hm
  · cases h

theorem bind_ver {W : World K V} {i : Nat} {f : Addr → Except String (World K V)} {W' : World K V}
    (h : (W.ver i >>= f) = .ok W') : ∃ m, W.ver i = .ok m ∧ f m = .ok W' := by
  cases hv : W.ver i with
  | error e => rw [hv] at h; cases h
  | ok m => rw [hv] at h; exact ⟨m, rfl, h⟩

/-- the old cells a step may write: the trie of a builder that still updates in place -/
def World.writes (W : World K V) : Op K V → List Addr
  | .mbAdd _ _ => match W.mb with
    | some ⟨some m⟩ => fpOf W.heap m
    | _ => []
  | .sbAdd _ _ => match W.sb with
    | some b => if b.shared then [] else fpOf W.heap b.m
    | none => []
  | _ => []

/-- steps that call the library on collections handed out -/
theorem WInv.step_call {h : Hasher K} {W W' : World K V} (hW : WInv h W) {comp : HM K V Addr} {fps : List Addr}
    {a' : Hamt K V} (hp : PRes W.heap fps comp a') (hinv : Hamt.Inv h a')
    (hfps : ∀ y ∈ fps, ∃ m ∈ W.vers, y ∈ fpOf W.heap m) (hs : W.call comp = .ok W') :
    WInv h W' ∧ Intact W W' ∧ Eff W.heap W'.heap [] := by
  obtain ⟨W'', h1, h2, h3, _⟩ := hW.call hp hinv hfps
  rw [h1] at hs; injection hs with hs; subst hs
  obtain ⟨m', H', hcomp, _, _, _, heff, _⟩ := hp
  simp only [World.call, hcomp] at h1
  injection h1 with h1; subst h1
  exact ⟨h2, h3, heff⟩

/-- in-place `Add` of a builder that owns its trie: only cells of its own footprint are written -/
theorem builder_add_inplace {h : Hasher K} (hl : LawfulHash h) {H : Heap K V} {m : Addr} (hg : Good h H m)
    (k : K) (v : V) :
    ∃ m1 H1, hamtSet h m k v true H = .ok (m1, H1) ∧ Good h H1 m1 ∧ Eff H H1 (fpOf H m) ∧
      (∀ x ∈ fpOf H1 m1, x ∈ fpOf H m ∨ x ∈ freshOf H H1) := by
  obtain ⟨a, fp, habs, hnd, hinv⟩ := hg
  obtain ⟨a1, m1, H1, _, hinv1, hh1, fp1, habs1, hnd1, heff1, hsub1⟩ := hamtSet_step hl habs hnd hinv k v true
  refine ⟨m1, H1, hh1, ⟨a1, fp1, habs1, hnd1, hinv1⟩, by rw [fpOf_eq habs]; simpa using heff1, ?_⟩
  intro x hx
  rw [fpOf_eq habs1] at hx
  rw [fpOf_eq habs]
  rcases hsub1 x hx with h' | h'
  · exact Or.inl h'
  · exact Or.inr (mem_freshOf h' (absHamt_lt habs1 hx))

/-- a footprint made of cells of `old` and cells allocated since stays apart from whatever old cells
    `old` was apart from -/
theorem sep_of_sub {H H1 : Heap K V} {new old other : List Addr}
    (hsub : ∀ x ∈ new, x ∈ old ∨ x ∈ freshOf H H1) (hsep : ∀ x ∈ old, x ∉ other)
    (hlt : ∀ x ∈ other, x < H.size) : ∀ x ∈ new, x ∉ other := fun x hx hx' =>
  (hsub x hx).elim (fun h' => hsep x h' hx') (fun h' => by have := mem_freshOf_ge h'; have := hlt x hx'; omega)

/-- the header a builder starts from: a new cell, so nothing that existed before reaches it -/
theorem new_header (h : Hasher K) (H : Heap K V) :
    Good h (H.push (.hamt 0 none)) H.size ∧ fpOf (H.push (.hamt 0 none : Cell K V)) H.size = [H.size] := by
  have habs : absHamt (H.push (.hamt 0 none)) H.size = some ((Hamt.empty : Hamt K V), [H.size]) :=
    absHamt_nil (get_push_size _ _)
  exact ⟨⟨_, _, habs, by simp, Hamt.Inv_empty⟩, fpOf_eq habs⟩

/-- **every step** preserves the invariant, leaves all collections handed out intact, and writes no old
    cell outside `W.writes op` -/
theorem WInv.step {h : Hasher K} (hl : LawfulHash h) {W W' : World K V} (hW : WInv h W) (op : Op K V)
    (hs : W.step h op = .ok W') : WInv h W' ∧ Intact W W' ∧ Eff W.heap W'.heap (W.writes op) := by
  cases op with
  | empty => exact hW.step_call (hamtNew_sim _ _ rfl) Hamt.Inv_empty (by intro y hy; cases hy) hs
  | ofList t =>
    obtain ⟨a', _, hinv, hp⟩ := hamtOfList_sim hl t W.heap
    exact hW.step_call hp hinv (by intro y hy; cases hy) hs
  | updated i k v =>
    obtain ⟨m, hm, hs⟩ := bind_ver hs
    obtain ⟨a, fp, habs, hnd, hinv⟩ := hW.vers m (ver_mem hm)
    obtain ⟨a', h1, hi1, _⟩ := Hamt.set_spec hl hinv k v false
    exact hW.step_call (hamtUpdated_sim h habs hnd k v _ h1) hi1
      (fun y hy => ⟨m, ver_mem hm, by rw [fpOf_eq habs]; exact hy⟩) hs
  | removed i ks =>
    obtain ⟨m, hm, hs⟩ := bind_ver hs
    obtain ⟨a, fp, habs, hnd, hinv⟩ := hW.vers m (ver_mem hm)
    obtain ⟨a', h1, hi1, _⟩ := Hamt.removed_spec hl ks hinv
    exact hW.step_call (hamtRemoved_sim h ks habs hnd _ h1) hi1
      (fun y hy => ⟨m, ver_mem hm, by rw [fpOf_eq habs]; exact hy⟩) hs
  | updatedWith i k remap =>
    obtain ⟨m, hm, hs⟩ := bind_ver hs
    obtain ⟨a, fp, habs, hnd, hinv⟩ := hW.vers m (ver_mem hm)
    obtain ⟨a', h1, hi1⟩ := updatedWith_ok hl hinv k remap
    exact hW.step_call (hamtUpdatedWith_sim h habs hnd k remap _ h1) hi1
      (fun y hy => ⟨m, ver_mem hm, by rw [fpOf_eq habs]; exact hy⟩) hs
  | concat i kvs =>
    obtain ⟨m, hm, hs⟩ := bind_ver hs
    obtain ⟨a, fp, habs, hnd, hinv⟩ := hW.vers m (ver_mem hm)
    obtain ⟨a', h1, hi1⟩ := concat_ok hl kvs hinv
    exact hW.step_call (hamtConcat_sim h kvs habs hnd _ h1) hi1
      (fun y hy => ⟨m, ver_mem hm, by rw [fpOf_eq habs]; exact hy⟩) hs
  | diff i j tt =>
    obtain ⟨mi, hmi, hs⟩ := bind_ver hs
    obtain ⟨mj, hmj, hs⟩ := bind_ver hs
    obtain ⟨ai, fpi, habsi, _, hinvi⟩ := hW.vers mi (ver_mem hmi)
    obtain ⟨aj, fpj, habsj, _, hinvj⟩ := hW.vers mj (ver_mem hmj)
    obtain ⟨a', h1, hi1⟩ := filterInto_ok hl hinvi hinvj true tt
    exact hW.step_call (hamtFilterInto_sim h habsi habsj true tt _ h1) hi1 (by intro y hy; cases hy) hs
  | intersect i j tt =>
    obtain ⟨mi, hmi, hs⟩ := bind_ver hs
    obtain ⟨mj, hmj, hs⟩ := bind_ver hs
    obtain ⟨ai, fpi, habsi, _, hinvi⟩ := hW.vers mi (ver_mem hmi)
    obtain ⟨aj, fpj, habsj, _, hinvj⟩ := hW.vers mj (ver_mem hmj)
    obtain ⟨a', h1, hi1⟩ := filterInto_ok hl hinvi hinvj false tt
    exact hW.step_call (hamtFilterInto_sim h habsi habsj false tt _ h1) hi1 (by intro y hy; cases hy) hs
  | mbNew =>
    have hnew : (HMapBuilder.new : HM K V HMapBuilder) W.heap = .ok (⟨some W.heap.size⟩, W.heap.push (.hamt 0 none)) := rfl
    simp only [World.step, hnew] at hs
    injection hs with hs; subst hs
    obtain ⟨hW1, ev, _, esb⟩ := hW.le (Heap.le_push W.heap (.hamt 0 none))
    obtain ⟨hg, hfp⟩ := new_header h W.heap
    refine ⟨hW1.set_mb _ _ fun m hm => ?_, ⟨⟨[], by simp⟩, ev⟩, Eff.push _ _ _⟩
    cases hm
    refine ⟨hg, fun x hx => ?_, fun m' hm' x hx hx' => ?_, fun b hb x hx hx' => ?_⟩
    · rw [hfp, List.mem_singleton] at hx
      exact hx ▸ mem_freshOf (Nat.le_refl _) (by simp)
    · rw [hfp, List.mem_singleton] at hx
      have := fpOf_lt (fpOf_congr (ev m' hm') ▸ hx'); omega
    · rw [hfp, List.mem_singleton] at hx
      have := fpOf_lt (fpOf_congr (esb b hb) ▸ hx'); omega
  | mbAdd k v =>
    unfold World.step at hs
    cases hmb : W.mb with
    | none => rw [hmb] at hs; cases hs
    | some b =>
      rw [hmb] at hs
      obtain ⟨bm⟩ := b
      cases bm with
      | none => simp [HMapBuilder.add, fail] at hs
      | some m =>
        obtain ⟨hg, hown, hsepv, hsepb⟩ := hW.mb m hmb
        obtain ⟨m1, H1, hh1, hg1, heff, hsub⟩ := builder_add_inplace hl hg k v
        have hadd : (HMapBuilder.add h ⟨some m⟩ k v : HM K V HMapBuilder) W.heap = .ok (⟨some m1⟩, H1) := by
          unfold HMapBuilder.add; dsimp only; rw [bind_ok hh1]; rfl
        simp only [hadd] at hs
        injection hs with hs; subst hs
        -- the write set is the builder's own footprint, which the other roots stay apart from
        obtain ⟨hW1, ev, _, esb⟩ := (hW.set_mb none W.mbOwned (fun _ hm => by cases hm)).transport heff
          (fun m' hm' x hx hx' => hsepv m' hm' x hx' hx) (fun _ hm => by cases hm)
          (fun b hb x hx hx' => hsepb b hb x hx' hx)
        refine ⟨hW1.set_mb _ _ fun m2 hm2 => ?_, ⟨⟨[], by simp⟩, ev⟩, by simpa only [World.writes, hmb] using heff⟩
        cases hm2
        refine ⟨hg1, fun x hx => ?_, fun m' hm' => ?_, fun b hb => ?_⟩
        · exact (hsub x hx).elim (fun h' => List.mem_append_left _ (hown x h')) (List.mem_append_right _)
        · show ∀ x ∈ fpOf H1 m1, x ∉ fpOf H1 m'
          rw [fpOf_congr (ev m' hm')]
          exact sep_of_sub hsub (hsepv m' hm') (fun _ => fpOf_lt)
        · show ∀ x ∈ fpOf H1 m1, x ∉ fpOf H1 b.m
          rw [fpOf_congr (esb b hb)]
          exact sep_of_sub hsub (hsepb b hb) (fun _ => fpOf_lt)
  | mbBuild =>
    unfold World.step at hs
    cases hmb : W.mb with
    | none => rw [hmb] at hs; cases hs
    | some b =>
      rw [hmb] at hs
      obtain ⟨bm⟩ := b
      cases bm with
      | none => simp [HMapBuilder.build, fail] at hs
      | some m =>
        obtain ⟨hg, _, _, hsepb⟩ := hW.mb m hmb
        have hb : (HMapBuilder.build ⟨some m⟩ : HM K V (Addr × HMapBuilder)) W.heap = .ok ((m, ⟨none⟩), W.heap) := rfl
        simp only [hb] at hs
        injection hs with hs; subst hs
        have hW1 := hW.set_mb (some ⟨none⟩) W.mbOwned (fun _ hm => nomatch hm)
        have hW2 := hW1.add_ver hg (fun _ hm => nomatch hm) (fun b hb _ x hx hx' => hsepb b hb x hx' hx)
        exact ⟨hW2, ⟨⟨[m], rfl⟩, fun _ _ => rfl⟩, Eff.refl _ _⟩
  | sbNew =>
    have hnew : (HSetBuilder.new : HM K V HSetBuilder) W.heap = .ok (⟨W.heap.size, false⟩, W.heap.push (.hamt 0 none)) := rfl
    simp only [World.step, hnew] at hs
    injection hs with hs; subst hs
    obtain ⟨hW1, ev, emb, _⟩ := hW.le (Heap.le_push W.heap (.hamt 0 none))
    obtain ⟨hg, hfp⟩ := new_header h W.heap
    refine ⟨hW1.set_sb _ _ (fun b hb => ?_) (fun m hm b hb x hx hx' => ?_), ⟨⟨[], by simp⟩, ev⟩, Eff.push _ _ _⟩
    · cases hb
      refine ⟨hg, fun _ => ⟨fun x hx => ?_, fun m' hm' x hx hx' => ?_⟩⟩
      · rw [hfp, List.mem_singleton] at hx
        exact hx ▸ mem_freshOf (Nat.le_refl _) (by simp)
      · rw [hfp, List.mem_singleton] at hx
        have := fpOf_lt (fpOf_congr (ev m' hm') ▸ hx'); omega
    · cases hb
      rw [hfp, List.mem_singleton] at hx'
      have := fpOf_lt (fpOf_congr (emb m hm) ▸ hx); omega
  | sbAdd k tt =>
    unfold World.step at hs
    cases hsb : W.sb with
    | none => rw [hsb] at hs; cases hs
    | some b =>
      rw [hsb] at hs
      obtain ⟨hg, hunsh⟩ := hW.sb b hsb
      cases hsh : b.shared with
      | false =>
        -- in place: the builder still owns its trie
        obtain ⟨hown, hsepv⟩ := hunsh hsh
        obtain ⟨m1, H1, hh1, hg1, heff, hsub⟩ := builder_add_inplace hl hg k tt
        have hadd : (HSetBuilder.add h b k tt : HM K V HSetBuilder) W.heap = .ok ({ b with m := m1 }, H1) := by
          unfold HSetBuilder.add; simp only [hsh, Bool.not_false]; rw [bind_ok hh1]; rfl
        simp only [hadd] at hs
        injection hs with hs; subst hs
        obtain ⟨hW1, ev, emb, _⟩ :=
          (hW.set_sb none W.sbOwned (fun _ hb => by cases hb) (fun _ _ _ hb => by cases hb)).transport heff
            (fun m' hm' x hx hx' => hsepv m' hm' x hx' hx)
            (fun m hm x hx hx' => (hW.mb m hm).2.2.2 b hsb x hx hx') (fun _ hb => by cases hb)
        refine ⟨hW1.set_sb _ _ (fun b' hb' => ?_) (fun m hm b' hb' x hx hx' => ?_), ⟨⟨[], by simp⟩, ev⟩,
          by simpa [World.writes, hsb, hsh] using heff⟩
        · cases hb'
          refine ⟨hg1, fun _ => ⟨fun x hx => ?_, fun m' hm' => ?_⟩⟩
          · exact (hsub x hx).elim (fun h' => List.mem_append_left _ (hown x h')) (List.mem_append_right _)
          · show ∀ x ∈ fpOf H1 m1, x ∉ fpOf H1 m'
            rw [fpOf_congr (ev m' hm')]
            exact sep_of_sub hsub (hsepv m' hm') (fun _ => fpOf_lt)
        · cases hb'
          have hx0 : x ∈ fpOf W.heap m := fpOf_congr (emb m hm) ▸ hx
          exact sep_of_sub hsub (fun y hy hy' => (hW.mb m hm).2.2.2 b hsb y hy' hy) (fun _ => fpOf_lt) x hx' hx0
      | true =>
        -- after Build: the copying path
        obtain ⟨a, fp, habs, hnd, hinv⟩ := hg
        obtain ⟨a1, m1, H1, _, hinv1, hh1, fp1, habs1, hnd1, heff1, hsub1⟩ :=
          hamtSet_step hl habs hnd hinv k tt false
        have hadd : (HSetBuilder.add h b k tt : HM K V HSetBuilder) W.heap = .ok ({ b with m := m1 }, H1) := by
          unfold HSetBuilder.add; simp only [hsh, Bool.not_true]; rw [bind_ok hh1]; rfl
        simp only [hadd] at hs
        injection hs with hs; subst hs
        obtain ⟨hW1, ev, emb, _⟩ := hW.le heff1.to_le
        refine ⟨hW1.set_sb _ _ (fun b' hb' => ?_) (fun m hm b' hb' x hx hx' => ?_), ⟨⟨[], by simp⟩, ev⟩,
          by simpa [World.writes, hsb, hsh] using heff1⟩
        · cases hb'
          exact ⟨⟨a1, fp1, habs1, hnd1, hinv1⟩, fun hcontra => by simp [hsh] at hcontra⟩
        · cases hb'
          have hx0 : x ∈ fpOf W.heap m := fpOf_congr (emb m hm) ▸ hx
          have hx1 : x ∈ fp1 := fpOf_eq habs1 ▸ hx'
          rcases hsub1 x hx1 with h' | h'
          · exact (hW.mb m hm).2.2.2 b hsb x hx0 (by rw [fpOf_eq habs]; exact h')
          · have := fpOf_lt hx0; omega
  | sbBuild =>
    unfold World.step at hs
    cases hsb : W.sb with
    | none => rw [hsb] at hs; cases hs
    | some b =>
      rw [hsb] at hs
      injection hs with hs; subst hs
      obtain ⟨hg, _⟩ := hW.sb b hsb
      have hW1 : WInv h { W with sb := some b.build.2, sbOwned := W.sbOwned } := by
        refine hW.set_sb (some b.build.2) W.sbOwned (fun b' hb' => ?_) (fun m hm b' hb' => ?_)
        · cases hb'
          exact ⟨hg, fun hcontra => by simp [HSetBuilder.build] at hcontra⟩
        · cases hb'
          exact (hW.mb m hm).2.2.2 b hsb
      have hW2 := hW1.add_ver hg (fun mb hm => (hW.mb mb hm).2.2.2 b hsb) (fun b' hb' hs => by
        cases hb'
        simp [HSetBuilder.build] at hs)
      exact ⟨hW2, ⟨⟨[b.m], rfl⟩, fun _ _ => rfl⟩, Eff.refl _ _⟩

/-- the cells an `Add` of the MapBuilder may write are the builder's own and reachable from no collection handed out -/
theorem WInv.writes_mbAdd {h : Hasher K} {W : World K V} (hW : WInv h W) {k : K} {v : V} {p : Addr}
    (hp : p ∈ W.writes (.mbAdd k v)) : p ∈ W.mbOwned ∧ ∀ m ∈ W.vers, p ∉ fpOf W.heap m := by
  simp only [World.writes] at hp
  split at hp
  · rename_i m hmb
    obtain ⟨_, hown, hsepv, _⟩ := hW.mb m hmb
    exact ⟨hown p hp, fun m' hm' => hsepv m' hm' p hp⟩
  · cases hp

/-- … and of the SetBuilder: there are some only before the first `Build` -/
theorem WInv.writes_sbAdd {h : Hasher K} {W : World K V} (hW : WInv h W) {k : K} {tt : V} {p : Addr}
    (hp : p ∈ W.writes (.sbAdd k tt)) :
    ∃ b, W.sb = some b ∧ b.shared = false ∧ p ∈ W.sbOwned ∧ ∀ m ∈ W.vers, p ∉ fpOf W.heap m := by
  simp only [World.writes] at hp
  split at hp
  · rename_i b hsb
    split at hp
    · cases hp
    · rename_i hsh
      obtain ⟨hown, hsepv⟩ := (hW.sb b hsb).2 (Bool.eq_false_iff.mpr hsh)
      exact ⟨b, hsb, Bool.eq_false_iff.mpr hsh, hown p hp, fun m' hm' => hsepv m' hm' p hp⟩
  · cases hp

end FpVerif.HamtHeap
