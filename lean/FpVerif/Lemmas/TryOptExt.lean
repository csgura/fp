import FpVerif.Model.TryOptExt
/-!
# Helper lemmas for `Spec/C01TExt.lean`: the loops of `seq.Scan` and `Seq.MakeString` equal their recursive
specifications (`scanTail`, `joinSep`), which are defined here because the lemmas are stated with them.
-/
namespace FpVerif.Spec.C01

variable {A B : Type}

/-- the running fold that `seq.Scan` tabulates (without the leading zero) -/
def scanTail (f : B → A → GoM B) : List A → B → GoM (List B)
  | [], _ => pure []
  | v :: vs, sum => do
    let sum' ← f sum v
    let tl ← scanTail f vs sum'
    pure (sum' :: tl)

theorem scanLoop_spec (f : B → A → GoM B) (vs : List A) :
    ∀ (sum : B) (ret : List B), SeqM.scanLoop f vs sum ret = (do let tl ← scanTail f vs sum; pure (ret ++ tl)) := by
  induction vs with
  | nil => intro sum ret; simp [SeqM.scanLoop, scanTail]
  | cons v vs ih =>
    intro sum ret
    simp only [SeqM.scanLoop, scanTail, ih, bind_assoc, pure_bind]
    exact bind_congr fun s' => bind_congr fun tl => by rw [List.append_assoc]; rfl

def joinAll : List String → String
  | [] => ""
  | a :: as => a ++ joinAll as

/-- `strings.Join(parts, sep)`, by recursion on the list: the first part, then every further part preceded by `sep` -/
def joinSep (sep : String) : List String → String
  | [] => ""
  | a :: as => a ++ joinAll (as.map (fun x => sep ++ x))

theorem makeStringLoop_spec (sprint : A → String) (sep : String) (vs : List A) :
    ∀ buf : String, SeqM.makeStringLoop sprint sep vs false buf
      = buf ++ joinAll ((vs.map sprint).map (fun x => sep ++ x)) := by
  induction vs with
  | nil => intro buf; simp [SeqM.makeStringLoop, joinAll]
  | cons v vs ih => intro buf; simp [SeqM.makeStringLoop, joinAll, ih, String.append_assoc]

end FpVerif.Spec.C01
