import FpVerif.Lemmas.IterSim
import FpVerif.Lemmas.Callbacks
/-!
# Unbounded sources (`iterator.Generate`): lazy combinators need only a prefix
-/
namespace FpVerif.It
variable {σ α : Type}

/-- `P s r`: from `s` the machine will deliver at least the elements `r` (and may go on). -/
structure PreSim (m : Machine σ α) (P : σ → List α → Prop) : Prop where
  hasNext : ∀ s a r lg, P s (a :: r) → ∃ s' lg', m.hasNext s lg = (.ok true, s', lg') ∧ P s' (a :: r)
  next : ∀ s a r lg, P s (a :: r) → ∃ s' lg', m.next s lg = (.ok a, s', lg') ∧ P s' r

/-- `gf n, gf (n+1), …` (`k` elements) -/
def genList (gf : Nat → α) : Nat → Nat → List α
  | _, 0 => []
  | n, k + 1 => gf n :: genList gf (n + 1) k

theorem genList_length (gf : Nat → α) (n k : Nat) : (genList gf n k).length = k := by
  induction k generalizing n with
  | zero => rfl
  | succ k ih => simp [genList, ih]

theorem generate_presim {g : Nat → GoM α} {gf : Nat → α} (hg : Total g gf) :
    PreSim (generate g) (fun n r => ∃ k, r = genList gf n k) where
  hasNext := by
    rintro n a r lg h
    exact ⟨n, lg, rfl, h⟩
  next := by
    rintro n a r lg ⟨k, hk⟩
    cases k with
    | zero => simp [genList] at hk
    | succ k =>
      simp only [genList, List.cons.injEq] at hk
      obtain ⟨rfl, rfl⟩ := hk
      obtain ⟨lg', h'⟩ := liftG_total hg n n lg
      exact ⟨n + 1, lg', by simp [generate, bind_apply, h'], k, rfl⟩

/-- a finite source is in particular a source of which a prefix is known -/
theorem sim_presim {m : Machine σ α} {R : σ → List α → List α → Prop} (hS : Sim m R) :
    PreSim m (fun s r => ∃ d r2, R s d (r ++ r2)) where
  hasNext := by
    rintro s a r lg ⟨d, r2, h⟩
    obtain ⟨s', lg', e, h'⟩ := hS.hasNext s d _ lg h
    exact ⟨s', lg', by simpa using e, d, r2, h'⟩
  next := by
    rintro s a r lg ⟨d, r2, h⟩
    obtain ⟨s', lg', e, h'⟩ := hS.next_cons s d a (r ++ r2) lg h
    exact ⟨s', lg', e, _, r2, h'⟩

/-- what is known of an unbounded source is a simulation without the clauses for the exhausted iterator -/
theorem PreSim.upTo {m : Machine σ α} {P : σ → List α → Prop} (h : PreSim m P) :
    SimUpTo False m (fun s _ r => P s r) :=
  ⟨fun s _ a r lg hP => h.hasNext s a r lg hP, fun s _ a r lg hP => h.next s a r lg hP, False.elim, False.elim⟩

theorem genList_mem_last (gf : Nat → α) (n k : Nat) : gf (n + k) ∈ genList gf n (k + 1) := by
  induction k generalizing n with
  | zero => simp [genList]
  | succ k ih =>
    rw [genList]
    refine List.mem_cons_of_mem _ ?_
    have := ih (n + 1)
    rwa [show n + 1 + k = n + (k + 1) by omega] at this

end FpVerif.It
