import FpVerif.Lemmas.HamtKids
import FpVerif.Model.HamtHeap
/-!
The two node-kind conversion loops, `bitmapToHashArray` (bitmap-indexed → hash-array) and `hashArrayToBitmap`
(hash-array → bitmap-indexed), in closed form on any element type (`bitmapToHashArrayG_closed`,
`hashArrayToBitmapG_closed`: one walk over each loop); that they keep the (slot, child) view follows.
-/
namespace FpVerif.Hamt
open FpVerif.HamtHeap (bitmapToHashArrayG hashArrayToBitmapG)
variable {K V : Type} {α : Type}

-- lists --------------------------------------------------------------------------------------------

theorem foldl_pair {γ δ ι : Type} (f : γ → ι → γ) (g : δ → ι → δ) (l : List ι) : ∀ (a : γ) (b : δ),
    l.foldl (fun (acc : γ × δ) i => (f acc.1 i, g acc.2 i)) (a, b) = (l.foldl f a, l.foldl g b) := by
  induction l with
  | nil => intro a b; rfl
  | cons i l ih => intro a b; exact ih _ _

theorem foldl_append_toList {ι : Type} (p : ι → Option α) (l : List ι) : ∀ (a : List α),
    l.foldl (fun acc i => acc ++ (p i).toList) a = a ++ l.filterMap p := by
  induction l with
  | nil => intro a; simp
  | cons i l ih =>
    intro a
    rw [List.foldl_cons, ih, List.filterMap_cons]
    cases p i <;> simp

theorem filterMap_congr {ι : Type} {f g : ι → Option α} {l : List ι} (h : ∀ i ∈ l, f i = g i) :
    l.filterMap f = l.filterMap g := by
  induction l with
  | nil => rfl
  | cons i l ih =>
    rw [List.filterMap_cons, List.filterMap_cons, h i List.mem_cons_self,
      ih fun j hj => h j (List.mem_cons_of_mem _ hj)]

theorem zip_filter_filterMap {ι : Type} (f : ι → Option α) (l : List ι) :
    (l.filter fun i => (f i).isSome).length = (l.filterMap f).length ∧
    List.zip (l.filter fun i => (f i).isSome) (l.filterMap f) = l.filterMap fun i => (f i).map (i, ·) := by
  induction l with
  | nil => exact ⟨rfl, rfl⟩
  | cons i l ih =>
    rw [List.filter_cons, List.filterMap_cons, List.filterMap_cons]
    cases f i with
    | none => exact ih
    | some a => exact ⟨congrArg Nat.succ ih.1, congrArg (List.cons (i, a)) ih.2⟩

theorem zip_range'_filterMap {γ δ : Type} (g : Nat → γ → Option δ) : ∀ (l : List γ) (s : Nat),
    (List.zip (List.range' s l.length) l).filterMap (fun p => g p.1 p.2) =
      (List.range' s l.length).filterMap fun i => (l[i - s]?).bind (g i) := by
  intro l
  induction l with
  | nil => intro s; rfl
  | cons x l ih =>
    intro s
    rw [List.length_cons, List.range'_succ, List.zip_cons_cons, List.filterMap_cons, List.filterMap_cons, ih,
      Nat.sub_self]
    have : (List.range' (s + 1) l.length).filterMap (fun i => (l[i - (s + 1)]?).bind (g i)) =
        (List.range' (s + 1) l.length).filterMap fun i => ((x :: l)[i - s]?).bind (g i) := by
      refine filterMap_congr fun i hi => ?_
      have : i - s = (i - (s + 1)) + 1 := by
        have := (List.mem_range'_1.mp hi).1
        omega
      rw [this, List.getElem?_cons_succ]
    rw [this]
    rfl

theorem zip_range_filterMap {γ δ : Type} (g : Nat → γ → Option δ) (l : List γ) :
    (List.zip (List.range l.length) l).filterMap (fun p => g p.1 p.2) =
      (List.range l.length).filterMap fun i => (l[i]?).bind (g i) := by
  rw [List.range_eq_range']
  exact zip_range'_filterMap g l 0

-- bits and (slot, child) lists -------------------------------------------------------------------

theorem lo_succ (bm n : Nat) : lo bm (n + 1) = lo bm n ++ (if bm.testBit n then [n] else []) := by
  unfold lo
  rw [List.range_succ, List.filter_append]
  by_cases h : bm.testBit n = true <;> simp [h]

theorem lo_32 (bm : Nat) : lo bm 32 = bitsOf bm := rfl

theorem lo_length_lt {bm n : Nat} (hn : n < 32) (ht : bm.testBit n = true) :
    (lo bm n).length < popCount bm := by
  rw [popCount_of_testBit hn ht]; omega

theorem lo_length_succ_le (bm n : Nat) : (lo bm n).length ≤ (lo bm (n + 1)).length := by
  rw [lo_succ, List.length_append]
  exact Nat.le_add_right _ _

theorem bits_below {bm n : Nat} (hb : bm < 2 ^ n) (hn : n < 32) : lo bm n = bitsOf bm ∧ hi bm n = [] := by
  have ht : bm.testBit n = false := Nat.testBit_lt_two_pow hb
  have hhi : hi bm n = [] := by
    unfold hi
    rw [List.filter_eq_nil_iff]
    intro x hx
    have hx' : n < x := by simp [List.mem_range'_1] at hx; omega
    have : bm < 2 ^ x := Nat.lt_of_lt_of_le hb (Nat.pow_le_pow_right (by decide) (by omega))
    simp [Nat.testBit_lt_two_pow this]
  refine ⟨?_, hhi⟩
  rw [bitsOf_of_not_testBit hn ht, hhi]; simp

/-- the bitmap with the bits `i < n` for which `q i` holds -/
def bitsWhere (q : Nat → Bool) (n : Nat) : Nat :=
  (List.range n).foldl (fun b i => if q i then b ||| 1 <<< i else b) 0

theorem bitsWhere_spec (q : Nat → Bool) : ∀ n, bitsWhere q n < 2 ^ n ∧ lo (bitsWhere q n) n = (List.range n).filter q := by
  intro n
  induction n with
  | zero => exact ⟨Nat.one_pos, rfl⟩
  | succ n ih =>
    obtain ⟨hb, hlo⟩ := ih
    have hb' : bitsWhere q n < 2 ^ (n + 1) := Nat.lt_of_lt_of_le hb (Nat.pow_le_pow_right (by decide) (Nat.le_succ n))
    have hstep : bitsWhere q (n + 1) = if q n then bitsWhere q n ||| 1 <<< n else bitsWhere q n := by
      unfold bitsWhere
      rw [List.range_succ, List.foldl_append]
      rfl
    rw [hstep, List.range_succ, List.filter_append, lo_succ]
    cases hq : q n with
    | false =>
      refine ⟨hb', ?_⟩
      rw [if_neg Bool.false_ne_true, hlo, Nat.testBit_lt_two_pow hb]
      simp [hq]
    | true =>
      refine ⟨or_bit_lt hb' (Nat.lt_succ_self n), ?_⟩
      rw [if_pos rfl, lo_congr (bm := bitsWhere q n) (fun x hx => by
        rw [testBit_or_bit, decide_eq_false (Ne.symm hx), Bool.or_false]), hlo, testBit_or_bit,
        decide_eq_true rfl, Bool.or_true]
      simp [hq]

theorem fmH_append (a b : List (Nat × Option (Node K V))) : fmH (a ++ b) = fmH a ++ fmH b := by
  simp [fmH]

theorem length_fmH_zip (n : Nat) : ∀ (P : List (Option (Node K V))), P.length = n →
    (fmH (List.zip (List.range n) P)).length = countSome P := by
  induction n with
  | zero => intro P hP; cases P <;> simp_all [fmH, countSome]
  | succ n ih =>
    intro P hP
    obtain ⟨P', x, rfl⟩ : ∃ P' x, P = P' ++ [x] := by
      refine ⟨P.dropLast, P.getLast (by intro h; simp [h] at hP), ?_⟩
      exact (List.dropLast_concat_getLast _).symm
    have hP' : P'.length = n := by simpa using hP
    rw [List.range_succ, List.zip_append (by simp [hP']), fmH_append, List.length_append, ih P' hP']
    cases x <;> simp [fmH, countSome, List.filter_append]

theorem length_kidsH {ns : List (Option (Node K V))} (hlen : ns.length = 32) :
    (kidsH ns).length = countSome ns := length_fmH_zip 32 ns hlen

theorem length_kidsB {bm : Nat} {ns : List (Node K V)} (hlen : ns.length = popCount bm) :
    (kidsB bm ns).length = ns.length := by
  unfold kidsB; unfold popCount at hlen; simp [hlen]

-- bitmap-indexed -> hash-array ---------------------------------------------------------------------

/-- what the loop of `bitmapToHashArray` puts into slot `i` -/
def b2hSlot (bm : Nat) (l : List α) (i : Nat) : Option α := if bm.testBit i then l[rank bm i]? else none

/-- one iteration of the loop in `bitmapToHashArray` -/
def b2hStep (bm : Nat) (l : List α) (acc : List (Option α) × Nat) (i : Nat) : GoE (List (Option α) × Nat) :=
  if bm &&& (1 <<< i) != 0 then
    match l[acc.2]? with
    | some c => pure (acc.1.set i (some c), acc.2 + 1)
    | none => throw "index out of range"
  else pure acc

theorem b2h_closed_prefix (bm : Nat) (l : List α) : ∀ n, n ≤ 32 →
    (List.range n).foldlM (b2hStep bm l) (List.replicate 32 none, 0) =
      if (lo bm n).length ≤ l.length then
        .ok ((List.range n).map (b2hSlot bm l) ++ List.replicate (32 - n) none, (lo bm n).length)
      else .error "index out of range" := by
  intro n
  induction n with
  | zero => intro _; rfl
  | succ n ih =>
    intro hn
    have hn32 : n < 32 := hn
    rw [List.range_succ, List.foldlM_append, ih (Nat.le_of_lt hn), List.map_append, List.map_singleton]
    by_cases hA : (lo bm n).length ≤ l.length
    · rw [if_pos hA]
      simp only [bind, Except.bind, List.foldlM_cons, List.foldlM_nil, b2hStep, and_bit_ne_zero]
      have hrep : List.replicate (32 - n) (none : Option α) = none :: List.replicate (32 - (n + 1)) none := by
        rw [show 32 - n = (32 - (n + 1)) + 1 by omega, List.replicate_succ]
      unfold b2hSlot
      rw [lo_succ, rank_eq_lo hn32, hrep]
      cases ht : bm.testBit n with
      | false => simp [hA, pure, Except.pure]
      | true =>
        simp only [if_true, List.length_append, List.length_singleton]
        cases hc : l[(lo bm n).length]? with
        | none =>
          rw [if_neg (by have := List.getElem?_eq_none_iff.mp hc; omega)]
          rfl
        | some c =>
          dsimp only
          rw [if_pos (Nat.succ_le_of_lt (List.getElem?_eq_some_iff.mp hc).1),
            set_split (j := n) (by rw [List.length_map, List.length_range])]
          simp [pure, Except.pure]
    · rw [if_neg hA, if_neg fun h' => hA (Nat.le_trans (lo_length_succ_le bm n) h')]
      rfl

/-- the loop of `bitmapToHashArray` in closed form: slot `i` gets the element at the rank of bit `i`; it panics
    exactly when there are fewer elements than set bits -/
theorem bitmapToHashArrayG_closed (bm : Nat) (l : List α) :
    bitmapToHashArrayG bm l =
      if popCount bm ≤ l.length then .ok ((List.range 32).map (b2hSlot bm l), popCount bm)
      else .error "index out of range" := by
  refine (b2h_closed_prefix bm l 32 (Nat.le_refl _)).trans ?_
  rw [Nat.sub_self, List.replicate_zero, List.append_nil]
  rfl

/-- read in slot order, the elements the loop distributes are a prefix of the list -/
theorem filterMap_b2hSlot (bm : Nat) (l : List α) : ∀ n, n ≤ 32 →
    (List.range n).filterMap (b2hSlot bm l) = l.take (lo bm n).length := by
  intro n
  induction n with
  | zero => intro _; rfl
  | succ n ih =>
    intro hn
    have hs : b2hSlot bm l n = if bm.testBit n then l[(lo bm n).length]? else none := by
      unfold b2hSlot
      rw [rank_eq_lo hn]
    rw [List.range_succ, List.filterMap_append, ih (Nat.le_of_lt hn), lo_succ, List.filterMap_cons,
      List.filterMap_nil, hs]
    cases bm.testBit n with
    | false => simp
    | true =>
      simp only [if_true, List.length_append, List.length_singleton]
      cases hc : l[(lo bm n).length]? with
      | none =>
        have := List.getElem?_eq_none_iff.mp hc
        rw [List.take_of_length_le this, List.take_of_length_le (Nat.le_succ_of_le this), List.append_nil]
      | some c =>
        obtain ⟨hlt, rfl⟩ := List.getElem?_eq_some_iff.mp hc
        rw [List.take_succ_eq_append_getElem hlt]

theorem bitmapToHashArray_eq_G (bm : Nat) (nodes : List (Node K V)) :
    bitmapToHashArray bm nodes = bitmapToHashArrayG bm nodes := by
  unfold bitmapToHashArray bitmapToHashArrayG
  congr 1
  funext acc i
  split
  · cases nodes[acc.2]? <;> rfl
  · rfl

theorem bitmapToHashArray_spec {bm : Nat} {ns : List (Node K V)} (hlen : ns.length = popCount bm) :
    ∃ slots, bitmapToHashArray bm ns = .ok (slots, ns.length) ∧ slots.length = 32 ∧
      kidsH slots = kidsB bm ns ∧ countSome slots = ns.length := by
  have hslen : ((List.range 32).map (b2hSlot bm ns)).length = 32 := by rw [List.length_map, List.length_range]
  -- `kidsH`: `range 32` zipped with the slots, empty slots dropped; `kidsB`: the same two lists filtered, then zipped
  have hk : kidsH ((List.range 32).map (b2hSlot bm ns)) = kidsB bm ns := by
    have hz := zip_range_filterMap (fun i (o : Option (Node K V)) => o.map fun c => (i, c))
      ((List.range 32).map (b2hSlot bm ns))
    rw [hslen] at hz
    obtain ⟨-, hzz⟩ := zip_filter_filterMap (b2hSlot bm ns) (List.range 32)
    unfold kidsH kidsB
    have hbits : (List.range 32).filter (fun i => (b2hSlot bm ns i).isSome) = bitsOf bm := by
      refine List.filter_congr fun i hi => ?_
      have hi := List.mem_range.mp hi
      unfold b2hSlot
      cases ht : bm.testBit i with
      | false => rfl
      | true =>
        have : rank bm i < ns.length := by rw [rank_eq_lo hi, hlen]; exact lo_length_lt hi ht
        simp [this]
    have htake := filterMap_b2hSlot bm ns 32 (Nat.le_refl _)
    rw [lo_32, show (bitsOf bm).length = ns.length from hlen.symm, List.take_length] at htake
    rw [hz]
    refine Eq.trans ?_ (hzz.symm.trans (by rw [hbits, htake]))
    refine filterMap_congr fun i hi => ?_
    rw [List.getElem?_map, List.getElem?_range (List.mem_range.mp hi)]
    rfl
  refine ⟨_, ?_, hslen, hk, ?_⟩
  · rw [bitmapToHashArray_eq_G, bitmapToHashArrayG_closed, if_pos (Nat.le_of_eq hlen.symm), hlen]
  · rw [← length_kidsH hslen, hk, length_kidsB hlen]

-- hash-array -> bitmap-indexed ---------------------------------------------------------------------

/-- what the loop of `hashArrayToBitmap` takes from slot `i` -/
def h2bPick (os : List (Option α)) (idx i : Nat) : Option α := if i = idx then none else (os[i]?).join

/-- the loop of `hashArrayToBitmap` in closed form: the bit and the child of every slot that has one, the slot
    `idx` left out -/
theorem hashArrayToBitmapG_closed (os : List (Option α)) (idx : Nat) :
    hashArrayToBitmapG os idx =
      (bitsWhere (fun i => (h2bPick os idx i).isSome) 32, (List.range 32).filterMap (h2bPick os idx)) := by
  -- the loop updates bitmap and child list independently: two folds (`foldl_pair`), the second a `filterMap`
  refine Eq.trans ?_ ((foldl_pair (fun b i => if (h2bPick os idx i).isSome then b ||| 1 <<< i else b)
    (fun (a : List α) i => a ++ (h2bPick os idx i).toList) _ 0 []).trans
      (congrArg (Prod.mk _) ((foldl_append_toList _ _ []).trans (List.nil_append _))))
  unfold hashArrayToBitmapG mapNodeSize
  congr 1
  funext acc i
  unfold h2bPick
  by_cases hi : i = idx
  · cases os[i]? with
    | none => simp [hi]
    | some o => cases o <;> simp [hi]
  · cases os[i]? with
    | none => simp [hi]
    | some o => cases o <;> simp [hi]

theorem hashArrayToBitmap_eq_G (nodes : List (Option (Node K V))) (idx : Nat) :
    hashArrayToBitmap nodes idx = hashArrayToBitmapG nodes idx := by
  unfold hashArrayToBitmap hashArrayToBitmapG
  congr 1
  funext acc i
  cases nodes[i]? with
  | none => rfl
  | some o => cases o <;> rfl

theorem hashArrayToBitmap_spec {ns : List (Option (Node K V))} (hlen : ns.length = 32) (idx : Nat) :
    ∃ bm' ns', hashArrayToBitmap ns idx = (bm', ns') ∧ bm' < 2 ^ 32 ∧ ns'.length = popCount bm' ∧
      kidsB bm' ns' = kidsH (ns.set idx none) := by
  obtain ⟨hb, hlo⟩ := bitsWhere_spec (fun i => (h2bPick ns idx i).isSome) 32
  obtain ⟨hl, hz⟩ := zip_filter_filterMap (h2bPick ns idx) (List.range 32)
  refine ⟨_, _, (hashArrayToBitmap_eq_G ns idx).trans (hashArrayToBitmapG_closed ns idx), hb, ?_, ?_⟩
  · unfold popCount
    rw [← lo_32, hlo]
    exact hl.symm
  · have h32 : (ns.set idx none).length = 32 := by rw [List.length_set, hlen]
    have hk := zip_range_filterMap (fun i (o : Option (Node K V)) => o.map fun c => (i, c)) (ns.set idx none)
    rw [h32] at hk
    unfold kidsB kidsH
    rw [← lo_32, hlo, hz, hk]
    refine filterMap_congr fun i _ => ?_
    unfold h2bPick
    rw [List.getElem?_set]
    by_cases hi : idx = i
    · subst hi
      by_cases hlt : idx < ns.length <;> simp [hlt]
    · rw [if_neg hi, if_neg (Ne.symm hi)]
      cases ns[i]? with
      | none => rfl
      | some o => rfl

end FpVerif.Hamt
