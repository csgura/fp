import FpVerif.Lemmas.IterComb
import FpVerif.Lemmas.IterMulti
/-!
# Scripts of HasNext/Next calls over a simulated iterator; `Drop`, `IsEmpty`, `FoldRight`
-/
namespace FpVerif.It
variable {σ α β : Type}

/-! ## scripts -/

theorem specScript_cons (c : Call) (cs : List Call) (r : List α) :
    specScript (c :: cs) r = specScript [c] r ++ specScript cs (specRest [c] r) := by
  cases c <;> cases r <;> rfl

theorem specRest_cons (c : Call) (cs : List Call) (r : List α) :
    specRest (c :: cs) r = specRest cs (specRest [c] r) := by
  cases c <;> cases r <;> rfl

theorem length_eq_sub_of_append {a b c : List α} (h : a ++ b = c) : a.length = c.length - b.length := by
  subst h; simp

/-- ONE call: the observation is the list's, the lists move as the reference says. -/
theorem runCall_sim {m : Machine σ α} {R : σ → List α → List α → Prop} (hS : Sim m R)
    (c : Call) (s : σ) (d r : List α) (lg : Log) (hR : R s d r) :
    ∃ o s' lg' d', runCall m c s lg = (o, s', lg') ∧ [o.erase] = specScript [c] r ∧
      R s' d' (specRest [c] r) ∧ d' ++ specRest [c] r = d ++ r := by
  cases c with
  | H =>
    obtain ⟨s1, lg1, h1, hR1⟩ := hS.hasNext s d r lg hR
    exact ⟨_, s1, lg1, d, by rw [runCall, h1], rfl, hR1, rfl⟩
  | N =>
    cases r with
    | nil =>
      obtain ⟨p, s1, lg1, h1, hR1⟩ := hS.next_nil s d lg hR
      exact ⟨_, s1, lg1, d, by rw [runCall, h1], rfl, hR1, rfl⟩
    | cons a r =>
      obtain ⟨s1, lg1, h1, hR1⟩ := hS.next_cons s d a r lg hR
      exact ⟨_, s1, lg1, d ++ [a], by rw [runCall, h1], rfl, hR1, by rw [List.append_assoc]; rfl⟩

theorem runScript_sim {m : Machine σ α} {R : σ → List α → List α → Prop} (hS : Sim m R) :
    ∀ (cs : List Call) (s : σ) (d r : List α) (lg : Log), R s d r →
      ∃ d', (runScript m cs s lg).1.map Obs.erase = specScript cs r ∧
        R (runScript m cs s lg).2.1 d' (specRest cs r) ∧ d' ++ specRest cs r = d ++ r := by
  intro cs
  induction cs with
  | nil => intro s d r lg hR; exact ⟨d, rfl, hR, rfl⟩
  | cons c cs ih =>
    intro s d r lg hR
    obtain ⟨o, s1, lg1, d1, h1, ho, hR1, hd1⟩ := runCall_sim hS c s d r lg hR
    obtain ⟨d', hobs, hR', hd⟩ := ih s1 d1 _ lg1 hR1
    rw [specScript_cons c cs r, specRest_cons c cs r, ← ho, ← hobs, ← hd1]
    simp only [runScript, h1]
    exact ⟨d', rfl, hR', hd⟩

theorem runScript2_sim {mL : Machine σ α} {mR : Machine σ β}
    {R2 : σ → List α → List α → List β → List β → Prop} (h2 : Sim2 mL mR R2) :
    ∀ (cs : List Call2) (s : σ) (dL rL : List α) (dR rR : List β) (lg : Log), R2 s dL rL dR rR →
      ∃ dL' dR',
        (obsLeft (runScript2 mL mR cs s lg).1).map Obs.erase = specScript (Call2.leftPart cs) rL ∧
        (obsRight (runScript2 mL mR cs s lg).1).map Obs.erase = specScript (Call2.rightPart cs) rR ∧
        R2 (runScript2 mL mR cs s lg).2.1 dL' (specRest (Call2.leftPart cs) rL) dR' (specRest (Call2.rightPart cs) rR) ∧
        dL' ++ specRest (Call2.leftPart cs) rL = dL ++ rL ∧
        dR' ++ specRest (Call2.rightPart cs) rR = dR ++ rR := by
  -- a call on one side is a call of that side's machine; the other side's lists stay
  have left : ∀ (c : Call) (c2 : Call2) (cs : List Call2), (c2 = .LH ∧ c = .H ∨ c2 = .LN ∧ c = .N) →
      ∀ s lg, runScript2 mL mR (c2 :: cs) s lg =
        (.inl (runCall mL c s lg).1 :: (runScript2 mL mR cs (runCall mL c s lg).2.1 (runCall mL c s lg).2.2).1,
          (runScript2 mL mR cs (runCall mL c s lg).2.1 (runCall mL c s lg).2.2).2) ∧
        Call2.leftPart (c2 :: cs) = c :: Call2.leftPart cs ∧ Call2.rightPart (c2 :: cs) = Call2.rightPart cs := by
    rintro c c2 cs (⟨rfl, rfl⟩ | ⟨rfl, rfl⟩) s lg <;> exact ⟨rfl, rfl, rfl⟩
  have right : ∀ (c : Call) (c2 : Call2) (cs : List Call2), (c2 = .RH ∧ c = .H ∨ c2 = .RN ∧ c = .N) →
      ∀ s lg, runScript2 mL mR (c2 :: cs) s lg =
        (.inr (runCall mR c s lg).1 :: (runScript2 mL mR cs (runCall mR c s lg).2.1 (runCall mR c s lg).2.2).1,
          (runScript2 mL mR cs (runCall mR c s lg).2.1 (runCall mR c s lg).2.2).2) ∧
        Call2.leftPart (c2 :: cs) = Call2.leftPart cs ∧ Call2.rightPart (c2 :: cs) = c :: Call2.rightPart cs := by
    rintro c c2 cs (⟨rfl, rfl⟩ | ⟨rfl, rfl⟩) s lg <;> exact ⟨rfl, rfl, rfl⟩
  intro cs
  induction cs with
  | nil => intro s dL rL dR rR lg hR; exact ⟨dL, dR, rfl, rfl, hR, rfl, rfl⟩
  | cons c2 cs ih =>
    intro s dL rL dR rR lg hR
    have side : (∃ c : Call, c2 = .LH ∧ c = .H ∨ c2 = .LN ∧ c = .N) ∨ (∃ c : Call, c2 = .RH ∧ c = .H ∨ c2 = .RN ∧ c = .N) := by
      cases c2
      · exact .inl ⟨.H, .inl ⟨rfl, rfl⟩⟩
      · exact .inl ⟨.N, .inr ⟨rfl, rfl⟩⟩
      · exact .inr ⟨.H, .inl ⟨rfl, rfl⟩⟩
      · exact .inr ⟨.N, .inr ⟨rfl, rfl⟩⟩
    rcases side with ⟨c, hc⟩ | ⟨c, hc⟩
    · obtain ⟨e, eL, eR⟩ := left c c2 cs hc s lg
      obtain ⟨o, s1, lg1, d1, h1, ho, hR1, hd1⟩ := runCall_sim (h2.left dR rR) c s dL rL lg hR
      rw [h1] at e
      obtain ⟨dL', dR', hoL, hoR, hR', hdL, hdR⟩ := ih s1 d1 _ dR rR lg1 hR1
      rw [e, eL, eR, specScript_cons c (Call2.leftPart cs) rL, specRest_cons c (Call2.leftPart cs) rL, ← ho, ← hoL, ← hd1]
      exact ⟨dL', dR', rfl, hoR, hR', hdL, hdR⟩
    · obtain ⟨e, eL, eR⟩ := right c c2 cs hc s lg
      obtain ⟨o, s1, lg1, d1, h1, ho, hR1, hd1⟩ := runCall_sim (h2.right dL rL) c s dR rR lg hR
      rw [h1] at e
      obtain ⟨dL', dR', hoL, hoR, hR', hdL, hdR⟩ := ih s1 dL rL d1 _ lg1 hR1
      rw [e, eL, eR, specScript_cons c (Call2.rightPart cs) rR, specRest_cons c (Call2.rightPart cs) rR, ← ho, ← hoR, ← hd1]
      exact ⟨dL', dR', hoL, rfl, hR', hdL, hdR⟩

/-! ## terminal operations -/

theorem dropLoop_spec {m : Machine σ α} {R : σ → List α → List α → Prop} (hS : Sim m R) :
    ∀ (k : Nat) (s : σ) (d r : List α) (lg : Log), R s d r →
      ∃ s' lg', dropLoop m k s lg = (.ok (), s', lg') ∧ R s' (d ++ r.take k) (r.drop k) := by
  intro k
  induction k with
  | zero => intro s d r lg hR; exact ⟨s, lg, rfl, by simpa using hR⟩
  | succ k ih =>
    intro s d r lg hR
    obtain ⟨s1, lg1, h1, hR1⟩ := hS.hasNext s d r lg hR
    cases r with
    | nil =>
      simp only [List.isEmpty_nil, Bool.not_true] at h1
      exact ⟨s1, lg1, by simp [dropLoop, bind_ok h1], by simpa using hR1⟩
    | cons a r =>
      simp only [List.isEmpty_cons, Bool.not_false] at h1
      obtain ⟨s2, lg2, h2, hR2⟩ := hS.next_cons s1 d a r lg1 hR1
      obtain ⟨s', lg', h3, hR3⟩ := ih s2 (d ++ [a]) r lg2 hR2
      exact ⟨s', lg', by simp [dropLoop, bind_ok h1, bind_ok h2, h3], by simpa using hR3⟩

theorem isEmpty_spec {m : Machine σ α} {R : σ → List α → List α → Prop} (hS : Sim m R)
    (s : σ) (d r : List α) (lg : Log) (hR : R s d r) :
    ∃ s' lg', isEmpty m s lg = (.ok r.isEmpty, s', lg') ∧ R s' d r := by
  obtain ⟨s1, lg1, h1, hR1⟩ := hS.hasNext s d r lg hR
  exact ⟨s1, lg1, by simp [isEmpty, bind_ok h1], hR1⟩

/-- FoldRight with a step that forces its lazy argument first and then combines:
    the classical right fold. -/
theorem foldRight_strict_spec {f : α → β → GoM β} {g : α → β → β} (hf : Total2 f g) {m : Machine σ α}
    {R : σ → List α → List α → Prop} (hS : Sim m R) (zero : β) :
    ∀ (r : List α) (fuel : Nat) (s : σ) (d : List α) (lg : Log), r.length < fuel → R s d r →
      ∃ s' lg', foldRight zero (fun a th => do let b ← th; IM.liftG (f a b)) m fuel s lg =
        (.ok (r.foldr g zero), s', lg') ∧ R s' (d ++ r) [] := by
  intro r
  induction r with
  | nil =>
    intro fuel s d lg hfu hR
    obtain ⟨k, rfl⟩ := Nat.exists_eq_succ_of_ne_zero (by omega : fuel ≠ 0)
    obtain ⟨s1, lg1, h1, hR1⟩ := isEmpty_spec hS s d [] lg hR
    simp only [List.isEmpty_nil] at h1
    exact ⟨s1, lg1, by simp [foldRight, bind_ok h1], by simpa using hR1⟩
  | cons a r ih =>
    intro fuel s d lg hfu hR
    obtain ⟨k, rfl⟩ := Nat.exists_eq_succ_of_ne_zero (by omega : fuel ≠ 0)
    obtain ⟨s1, lg1, h1, hR1⟩ := isEmpty_spec hS s d (a :: r) lg hR
    simp only [List.isEmpty_cons] at h1
    obtain ⟨s2, lg2, h2, hR2⟩ := hS.next_cons s1 d a r lg1 hR1
    obtain ⟨s3, lg3, h3, hR3⟩ := ih k s2 (d ++ [a]) lg2 (by simpa using hfu) hR2
    obtain ⟨lg4, h4⟩ := liftG_total2 hf a (r.foldr g zero) s3 lg3
    exact ⟨s3, lg4, by simp [foldRight, bind_ok h1, bind_ok h2, bind_ok h3, h4], by simpa using hR3⟩

/-- FoldRight with a short-circuiting step (`if p a then Done(h a) else tail`): elements after the
    first hit are never pulled. -/
theorem foldRight_shortcut_spec {p : α → GoM Bool} {g : α → Bool} (hp : Total p g) (h : α → β)
    {m : Machine σ α} {R : σ → List α → List α → Prop} (hS : Sim m R) (zero : β) :
    ∀ (r : List α) (fuel : Nat) (s : σ) (d : List α) (lg : Log), r.length < fuel → R s d r →
      ∃ s' lg' d', foldRight zero (fun a th => do if ← IM.liftG (p a) then pure (h a) else th) m fuel s lg =
        (.ok (((r.find? g).map h).getD zero), s', lg') ∧ R s' d' (afterHit g r) ∧
        d' ++ afterHit g r = d ++ r := by
  intro r
  induction r with
  | nil =>
    intro fuel s d lg hfu hR
    obtain ⟨k, rfl⟩ := Nat.exists_eq_succ_of_ne_zero (by omega : fuel ≠ 0)
    obtain ⟨s1, lg1, h1, hR1⟩ := isEmpty_spec hS s d [] lg hR
    simp only [List.isEmpty_nil] at h1
    exact ⟨s1, lg1, d, by simp [foldRight, bind_ok h1], by simpa [afterHit] using hR1, by simp [afterHit]⟩
  | cons a r ih =>
    intro fuel s d lg hfu hR
    obtain ⟨k, rfl⟩ := Nat.exists_eq_succ_of_ne_zero (by omega : fuel ≠ 0)
    obtain ⟨s1, lg1, h1, hR1⟩ := isEmpty_spec hS s d (a :: r) lg hR
    simp only [List.isEmpty_cons] at h1
    obtain ⟨s2, lg2, h2, hR2⟩ := hS.next_cons s1 d a r lg1 hR1
    obtain ⟨lg3, h3⟩ := liftG_total hp a s2 lg2
    cases hg : g a
    · obtain ⟨s', lg', d', h4, hR4, hd⟩ := ih k s2 (d ++ [a]) lg3 (by simpa using hfu) hR2
      refine ⟨s', lg', d', ?_, by simpa [afterHit, hg] using hR4, by simpa [afterHit, hg] using hd⟩
      simp [foldRight, bind_ok h1, bind_ok h2, bind_ok h3, hg, h4]
    · refine ⟨s2, lg3, d ++ [a], ?_, by simpa [afterHit, hg] using hR2, by simp [afterHit, hg]⟩
      simp [foldRight, bind_ok h1, bind_ok h2, bind_ok h3, hg]

end FpVerif.It
