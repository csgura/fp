import FpVerif.Lemmas.HeapSetSim
import FpVerif.Lemmas.HeapDelSim
import FpVerif.Model.HamtWorld
import FpVerif.Lemmas.HamtWrap
/-!
Operations on a whole `*hamt` as refinements.  Loops of persistent steps (`foldlM_sim`), of which `(*hamt).Removed` is one.
The composite operations of the `fp.Map` / `fp.Set` wrappers (`Concat`, `UpdatedWith`, `Diff`,
`Intersect`) as simulations: each returns a collection that represents the value-level result, only
allocates, and its footprint consists of cells of the receiver's footprint and of fresh cells.
Then the in-place (builder) step and the constructors `immutable.Map(hasher, t...)` /
`Set(hasher, v...)`, which run a private builder: every in-place write hits a cell allocated by the
same call.
-/
namespace FpVerif.HamtHeap
open FpVerif.Hamt
variable {K V : Type}

/-- `x`, run in `H`, returns a collection representing `a'` — see `HSimRes` -/
def PRes (H : Heap K V) (fps : List Addr) (x : HM K V Addr) (a' : Hamt K V) : Prop :=
  ∃ m' H', x H = .ok (m', H') ∧ HSimRes false H fps H' m' a'

/-- a loop `ret = step(ret, c)` of persistent steps, under a side condition `P` on the heap that heap
    extension preserves (e.g. "the other operand is still represented") -/
theorem foldlM_sim {γ : Type} (f : Addr → γ → HM K V Addr) (g : Hamt K V → γ → GoE (Hamt K V))
    (P : Heap K V → Prop) (hP : ∀ H H', P H → Heap.le H H' → P H')
    (hstep : ∀ (H : Heap K V) (m : Addr) (a : Hamt K V) (fp : List Addr) (c : γ),
      P H → absHamt H m = some (a, fp) → fp.Nodup → Ref H (f m c) (g a c) (HQ false H fp)) :
    ∀ (l : List γ) (H : Heap K V) (m : Addr) (a : Hamt K V) (fp : List Addr),
      P H → absHamt H m = some (a, fp) → fp.Nodup → Ref H (l.foldlM f m) (l.foldlM g a) (HQ false H fp) := by
  intro l
  induction l with
  | nil => intro H m a fp hp habs hnd; exact Ref.pure (HQ.refl habs hnd)
  | cons c l ih =>
    intro H m a fp hp habs hnd
    rw [List.foldlM_cons, List.foldlM_cons]
    refine Ref.bind (hstep H m a fp c hp habs hnd) fun m1 a1 H1 hR => ?_
    obtain ⟨fp1, habs1, hnd1, heff1, hsub1⟩ := hR
    exact (ih H1 m1 a1 fp1 (hP _ _ hp heff1.to_le) habs1 hnd1).mono fun _ _ _ => HSimRes.seq heff1 hsub1

/-- **Simulation of `(*hamt).Removed(key...)`** -/
theorem hamtRemoved_sim (h : Hasher K) (ks : List K) {H : Heap K V} {m : Addr} {a : Hamt K V} {fp : List Addr}
    (habs : absHamt H m = some (a, fp)) (hnd : fp.Nodup) :
    Ref H (hamtRemoved h m ks) (a.removed h ks) (HQ false H fp) :=
  foldlM_sim (fun ret k => hamtDelete h ret k false) (fun a k => a.delete h k false) (fun _ => True)
    (fun _ _ _ _ => trivial) (fun _ _ _ _ k _ habs hnd => hamtDelete_sim h habs hnd k) ks H m a fp trivial habs hnd

theorem hamtUpdated_sim (h : Hasher K) {H : Heap K V} {m : Addr} {a : Hamt K V} {fp : List Addr}
    (habs : absHamt H m = some (a, fp)) (hnd : fp.Nodup) (k : K) (v : V) :
    Ref H (hamtUpdated h m k v) (a.set h k v false) (HQ false H fp) :=
  hamtSet_sim h habs hnd k v false (by intro hm; cases hm)

theorem hamtNew_sim (H : Heap K V) : Ref H (hamtNew : HM K V Addr) (.ok Hamt.empty) (HQ false H []) :=
  Ref.run rfl ⟨[H.size], absHamt_nil (get_push_size _ _), by simp, Eff.push _ _ _,
    fun x hx => by simp at hx; right; omega⟩

theorem hamtConcat_sim (h : Hasher K) (kvs : List (K × V)) {H : Heap K V} {m : Addr} {a : Hamt K V} {fp : List Addr}
    (habs : absHamt H m = some (a, fp)) (hnd : fp.Nodup) :
    Ref H (hamtConcat h m kvs) (kvs.foldlM (fun (ret : Hamt K V) kv => ret.set h kv.1 kv.2 false) a) (HQ false H fp) :=
  foldlM_sim (fun ret (kv : K × V) => hamtUpdated h ret kv.1 kv.2) (fun ret kv => ret.set h kv.1 kv.2 false)
    (fun _ => True) (fun _ _ _ _ => trivial) (fun _ _ _ _ c _ habs hnd => hamtUpdated_sim h habs hnd c.1 c.2)
    kvs H m a fp trivial habs hnd

theorem readHamt_apply {H : Heap K V} {m : Addr} {a : Hamt K V} {fp : List Addr}
    (habs : absHamt H m = some (a, fp)) : readHamt m H = .ok (a, H) := by
  unfold readHamt; rw [habs]

/-- value-level `Map.UpdatedWith` on the trie -/
def Hamt.updatedWith (h : Hasher K) (a : Hamt K V) (k : K) (remap : Option V → Option V) : GoE (Hamt K V) := do
  let v ← a.get h k
  match remap v with
  | some x => a.set h k x false
  | none => if v.isSome then a.removed h [k] else pure a

theorem hamtUpdatedWith_sim (h : Hasher K) {H : Heap K V} {m : Addr} {a : Hamt K V} {fp : List Addr}
    (habs : absHamt H m = some (a, fp)) (hnd : fp.Nodup) (k : K) (remap : Option V → Option V) :
    Ref H (hamtUpdatedWith h m k remap) (Hamt.updatedWith h a k remap) (HQ false H fp) := by
  refine Ref.step (readHamt_apply habs) (Ref.bind Ref.liftE fun v v' H1 hR => ?_)
  obtain ⟨rfl, rfl⟩ := hR
  cases remap v with
  | some x => exact hamtUpdated_sim h habs hnd k x
  | none => exact Ref.ite (fun _ => hamtRemoved_sim h [k] habs hnd) fun _ => Ref.pure (HQ.refl habs hnd)

/-- value-level loop of `Set.Diff` (`neg = true`) / `Set.Intersect` (`neg = false`) on the tries -/
def Hamt.filterInto (h : Hasher K) (ai aj : Hamt K V) (neg : Bool) (tt : V) : GoE (Hamt K V) := do
  let es ← ai.iterList
  es.foldlM (fun (ret : Hamt K V) e => do
    let c ← aj.get h e.1
    if c.isSome != neg then ret.set h e.1 tt false else pure ret) Hamt.empty

/-- `Diff` / `Intersect`: the result is built from a new empty trie, so its footprint is entirely fresh -/
theorem hamtFilterInto_sim (h : Hasher K) {H : Heap K V} {mi mj : Addr} {ai aj : Hamt K V} {fpi fpj : List Addr}
    (habsi : absHamt H mi = some (ai, fpi)) (habsj : absHamt H mj = some (aj, fpj)) (neg : Bool) (tt : V) :
    Ref H (hamtFilterInto h mi mj neg tt) (Hamt.filterInto h ai aj neg tt) (HQ false H []) := by
  refine Ref.step (readHamt_apply habsi) (Ref.bind Ref.liftE fun es es' H1 hR => ?_)
  obtain ⟨rfl, rfl⟩ := hR
  obtain ⟨m0, H0, h0, fp0, habs0, hnd0, heff0, hsub0⟩ := hamtNew_sim H _ rfl
  refine Ref.step h0 ((foldlM_sim _ _ (fun H' => absHamt H' mj = some (aj, fpj)) (fun _ _ hp hle => absHamt_le hp hle)
    (fun H' m a fp c hp habs hnd => ?_) es H0 m0 Hamt.empty fp0 (absHamt_le habsj heff0.to_le) habs0 hnd0).mono
    fun _ _ _ => HSimRes.seq heff0 hsub0)
  refine Ref.step (readHamt_apply hp) (Ref.bind Ref.liftE fun cv cv' H1 hR => ?_)
  obtain ⟨rfl, rfl⟩ := hR
  exact Ref.ite (fun _ => hamtUpdated_sim h habs hnd c.1 tt) fun _ => Ref.pure (HQ.refl habs hnd)

theorem Inv_root_wf {h : Hasher K} {a : Hamt K V} (hi : Hamt.Inv h a) : ∀ n, a.root = some n → WF h 0 n := by
  intro n hn
  unfold Hamt.Inv at hi
  rw [hn] at hi
  exact hi.1

/-- one `set` of either kind on a well-formed trie: never panics, refines the value-level `set`,
    keeps the invariant -/
theorem hamtSet_step {h : Hasher K} (hl : LawfulHash h) {H : Heap K V} {m : Addr} {a : Hamt K V} {fp : List Addr}
    (habs : absHamt H m = some (a, fp)) (hnd : fp.Nodup) (hinv : Hamt.Inv h a) (k : K) (v : V) (mu : Bool) :
    ∃ a' m' H', a.set h k v mu = .ok a' ∧ Hamt.Inv h a' ∧ hamtSet h m k v mu H = .ok (m', H') ∧
      HSimRes mu H fp H' m' a' := by
  obtain ⟨a', h1, h2, _⟩ := Hamt.set_spec hl hinv k v mu
  obtain ⟨m', H', h3, h4⟩ := hamtSet_sim h habs hnd k v mu (fun _ => Inv_root_wf hinv) a' h1
  exact ⟨a', m', H', h1, h2, h3, h4⟩

/-- the `Add` loop of a private builder whose trie is entirely fresh with respect to `H0` -/
theorem builderLoop_sim {h : Hasher K} (hl : LawfulHash h) (H0 : Heap K V) : ∀ (t : List (K × V)) (Hc : Heap K V)
    (m : Addr) (a : Hamt K V) (fp : List Addr),
    Heap.le H0 Hc → absHamt Hc m = some (a, fp) → fp.Nodup → Hamt.Inv h a → (∀ x ∈ fp, H0.size ≤ x) →
    Ref Hc (t.foldlM (fun (b : HMapBuilder) kv => b.add h kv.1 kv.2) ⟨some m⟩)
      (t.foldlM (fun (b : MapBuilder K V) kv => b.add h kv.1 kv.2) ⟨some a⟩)
      fun b b' H' => ∃ m' a' fp', b = ⟨some m'⟩ ∧ b' = ⟨some a'⟩ ∧ Heap.le H0 H' ∧
        absHamt H' m' = some (a', fp') ∧ fp'.Nodup ∧ Hamt.Inv h a' ∧ ∀ x ∈ fp', H0.size ≤ x := by
  intro t
  induction t with
  | nil =>
    intro Hc m a fp hle habs hnd hinv hfresh
    exact Ref.pure ⟨m, a, fp, rfl, rfl, hle, habs, hnd, hinv, hfresh⟩
  | cons kv t ih =>
    intro Hc m a fp hle habs hnd hinv hfresh
    rw [List.foldlM_cons, List.foldlM_cons]
    refine Ref.bind (R := fun b b' H1 => ∃ m1 a1, b = ⟨some m1⟩ ∧ b' = ⟨some a1⟩ ∧
        a.set h kv.1 kv.2 true = .ok a1 ∧ HSimRes true Hc fp H1 m1 a1)
      (Ref.bind (hamtSet_sim h habs hnd kv.1 kv.2 true fun _ => Inv_root_wf hinv).result
        fun m1 a1 H1 hR => Ref.pure ⟨m1, a1, rfl, rfl, hR⟩) fun b b' H1 hR => ?_
    obtain ⟨m1, a1, rfl, rfl, hs1, fp1, habs1, hnd1, heff1, hsub1⟩ := hR
    obtain ⟨a1', hs1', hinv1, _⟩ := Hamt.set_spec hl hinv kv.1 kv.2 true
    cases hs1.symm.trans hs1'
    refine ih H1 m1 a1 fp1 ⟨Nat.le_trans hle.1 heff1.1, fun x hx => ?_⟩ habs1 hnd1 hinv1 fun x hx => ?_
    · rw [heff1.2 x (Nat.lt_of_lt_of_le hx hle.1) (fun hmem => by have := hfresh x hmem; omega), hle.2 x hx]
    · rcases hsub1 x hx with h' | h'
      · exact hfresh x h'
      · have := hle.1; omega

/-- **constructors**: `immutable.Map(hasher, t...)` returns a collection whose cells are all new;
    no cell that existed before the call is written -/
theorem hamtOfList_sim {h : Hasher K} (hl : LawfulHash h) (t : List (K × V)) (H : Heap K V) :
    ∃ a', Hamt.ofList h t = .ok a' ∧ Hamt.Inv h a' ∧ PRes H [] (hamtOfList h t) a' := by
  obtain ⟨a', hv, hinv, _⟩ := Hamt.ofList_spec hl t
  refine ⟨a', hv, hinv, (?_ : Ref H (hamtOfList h t) (Hamt.ofList h t) (HQ false H [])) a' hv⟩
  refine Ref.ite (fun _ => ?_) fun _ => hamtNew_sim H
  refine Ref.step (rfl : HMapBuilder.new H = .ok (⟨some H.size⟩, H.push (.hamt 0 none))) (Ref.bind
    (builderLoop_sim hl H t (H.push (.hamt 0 none)) H.size Hamt.empty [H.size] (Heap.le_push _ _)
      (absHamt_nil (get_push_size _ _)) (by simp) Hamt.Inv_empty (by simp)) fun b b' H1 hR => ?_)
  obtain ⟨m1, a1, fp1, rfl, rfl, hle1, habs1, hnd1, _, hfresh1⟩ := hR
  exact Ref.run rfl ⟨fp1, habs1, hnd1, Eff.of_le hle1 _, fun x hx => Or.inr (hfresh1 x hx)⟩

end FpVerif.HamtHeap
