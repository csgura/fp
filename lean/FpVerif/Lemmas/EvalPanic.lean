import FpVerif.Model.EvalPanic
import FpVerif.Lemmas.CellHeap
import FpVerif.Lemmas.ListBasics
/-!
# Helper lemmas for `Model/EvalPanic.lean`

`Ext hp hp'`: how the heap of an Eval client program evolves — cells are only added, keep their thunk, are frozen once
their `Once` has fired; variables keep their value; and `OK` (every thunk started at most once, exactly once iff
its `Once` has fired) is preserved.  Every operation of the machine is `Good Ext`.  Then what a force does by the
state of its cell (`runLoop_call_*` for a `Call`; for a `TailCall` `forceTail_fresh` / `forceTail_done`, and
`runLoop_tail`: one iteration of `Run` on its Eval is that force), packaged per cell as "it runs once" (`call_once`,
`tail_once`): the first force is the first execution of the thunk, whatever its outcome, and in every `Ext`-later
heap a force answers from the memo, runs nothing and changes nothing.
-/
namespace FpVerif.EvalP
open FpVerif.It FpVerif.MemoPanic

variable {T X : Type}

/-- every memo cell: started at most once, exactly once iff done -/
def Heap.OK (hp : Heap T) : Prop :=
  (∀ cc ∈ hp.calls, CellOK cc.cell) ∧ (∀ tc ∈ hp.tails, CellOK tc.cell)

structure Ext (hp hp' : Heap T) : Prop where
  calls : ExtL (fun (cc : CallCell T) => cc.f) (fun cc => cc.cell.done) hp.calls hp'.calls
  tails : ExtL (fun (tc : TailCell T) => tc.f) (fun tc => tc.cell.done) hp.tails hp'.tails
  roots : ∀ (j : Nat) (e : EvalV T), hp.roots[j]? = some e → hp'.roots[j]? = some e
  ok : hp.OK → hp'.OK

theorem Ext.refl (hp : Heap T) : Ext hp hp :=
  ⟨ExtL.refl _ _ _, ExtL.refl _ _ _, fun _ _ h => h, id⟩

theorem Ext.trans {a b c : Heap T} (h1 : Ext a b) (h2 : Ext b c) : Ext a c :=
  ⟨h1.calls.trans h2.calls, h1.tails.trans h2.tails, fun j e h => h2.roots j e (h1.roots j e h),
   fun h => h2.ok (h1.ok h)⟩

abbrev GoodE (m : HM T X) : Prop := Good Ext m

theorem extPre : Pre (Ext (T := T)) := ⟨Ext.refl, Ext.trans⟩

theorem goodE_emitAll (evs : List Event) : GoodE (emitAll evs : HM T Unit) := fun hp _ => Ext.refl hp

-- `build` only allocates ---------------------------------------------------------------------------------------

/-- the heap grew by fresh cells, nothing else changed -/
def Grow (hp hp' : Heap T) : Prop :=
  GrowL (·.cell) hp.calls hp'.calls ∧ GrowL (·.cell) hp.tails hp'.tails ∧ hp'.roots = hp.roots

theorem Grow.refl (hp : Heap T) : Grow hp hp := ⟨GrowL.refl _ _, GrowL.refl _ _, rfl⟩

theorem Grow.trans {a b c : Heap T} (h1 : Grow a b) (h2 : Grow b c) : Grow a c :=
  ⟨h1.1.trans h2.1, h1.2.1.trans h2.2.1, h2.2.2.trans h1.2.2⟩

theorem Grow.ext {hp hp' : Heap T} (h : Grow hp hp') : Ext hp hp' :=
  ⟨h.1.extL _ _, h.2.1.extL _ _, fun j ev hj => by rw [h.2.2]; exact hj, fun hok => ⟨h.1.ok hok.1, h.2.1.ok hok.2⟩⟩

theorem growPre : Pre (Grow (T := T)) := ⟨Grow.refl, Grow.trans⟩

theorem goodG_allocCall (zero : T) (f : Nat → GoM T) : Good Grow (allocCall zero f) := fun _ _ =>
  ⟨GrowL.snoc _ _ (cellOK_fresh zero), GrowL.refl _ _, rfl⟩

theorem goodG_allocTail (f : Nat → Prog T) : Good Grow (allocTail f) := fun _ _ =>
  ⟨GrowL.refl _ _, GrowL.snoc _ _ (cellOK_fresh _), rfl⟩

theorem goodE_allocCall (zero : T) (f : Nat → GoM T) : GoodE (allocCall zero f) :=
  fun hp lg => (goodG_allocCall zero f hp lg).ext

theorem goodE_allocTail (f : Nat → Prog T) : GoodE (allocTail f) :=
  fun hp lg => (goodG_allocTail f hp lg).ext

theorem goodG_build (zero : T) (p : Prog T) : Good Grow (build zero p) := by
  induction p with
  | done t => exact growPre.pure _
  | zero => exact growPre.pure _
  | call f => exact growPre.bind (goodG_allocCall zero f) (fun _ => growPre.pure _)
  | tailCall f _ => exact growPre.bind (goodG_allocTail f) (fun _ => growPre.pure _)
  | flatMap p k ihp _ => exact growPre.bind ihp (fun _ => growPre.pure _)
  | map p f ihp => exact growPre.bind ihp (fun _ => growPre.pure _)
  | map2 p q f ihp ihq => exact growPre.bind ihp (fun _ => growPre.bind ihq (fun _ => growPre.pure _))
  | logged evs p ih => exact growPre.bind (fun hp _ => Grow.refl hp) (fun _ => ih)
  | panic pv => exact growPre.panic pv
  | ref j =>
    intro hp lg
    simp only [build]
    split <;> exact Grow.refl hp

theorem goodE_build (zero : T) (p : Prog T) : GoodE (build zero p) :=
  fun hp lg => (goodG_build zero p hp lg).ext

theorem goodE_forceCall (c : Nat) : GoodE (forceCall c : HM T T) := by
  intro hp lg
  simp only [forceCall]
  cases hc : hp.calls[c]? with
  | none => exact Ext.refl hp
  | some cc =>
    simp only
    refine ⟨ExtL.set _ _ _ c cc _ hc rfl ?_, ExtL.refl _ _ _, fun _ _ h => h, ?_⟩
    · intro hd
      rw [get_stable cc.f cc.cell lg hd]
    · rintro ⟨h1, h2⟩
      refine ⟨forall_mem_set h1 ?_, h2⟩
      exact get_cellOK cc.f cc.cell lg (h1 cc (List.mem_of_getElem? hc))

/-- writing the outcome of a tail cell's first execution into the heap that executing the thunk left -/
theorem ext_setTail {hp hp' : Heap T} (h : Grow hp hp') (c : Nat) (tc : TailCell T) (hc : hp.tails[c]? = some tc)
    (hnd : tc.cell.done = false) (r : EvalV T) :
    Ext hp { hp' with tails := hp'.tails.set c { tc with cell := { done := true, ret := r, runs := tc.cell.runs + 1 } } } := by
  have he := h.ext
  refine ⟨he.calls, ?_, he.roots, fun hOK => ⟨(he.ok hOK).1,
    forall_mem_set (he.ok hOK).2 ((hOK.2 tc (List.mem_of_getElem? hc)).fire hnd r)⟩⟩
  exact he.tails.trans (ExtL.set _ _ _ c tc _ (h.2.1.getElem? hc) rfl (fun hd => nomatch hnd.symm.trans hd))

theorem goodE_forceTail (zero : T) (c : Nat) : GoodE (forceTail zero c) := by
  intro hp lg
  simp only [forceTail]
  cases hc : hp.tails[c]? with
  | none => exact Ext.refl hp
  | some tc =>
    simp only
    cases hd : tc.cell.done with
    | true => exact Ext.refl hp
    | false =>
      simp only [Bool.false_eq_true, if_false]
      have hg := goodG_build zero (tc.f tc.cell.runs) hp lg
      rcases hb : build zero (tc.f tc.cell.runs) hp lg with ⟨r, hp', lg'⟩
      rw [hb] at hg
      simp only at hg
      cases r with
      | ok e => exact ext_setTail hg c tc hc hd e
      | error p => exact ext_setTail hg c tc hc hd tc.cell.ret

theorem goodE_callFirst (zero : T) (first : First T) : GoodE (callFirst zero first) := by
  cases first with
  | nil => exact extPre.pure _
  | const t => exact extPre.pure _
  | memo c => exact goodE_forceCall c

theorem goodE_applyK (zero : T) (k : Kont T) (v : T) : GoodE (applyK zero k v) := by
  induction k generalizing v with
  | user k => exact goodE_build zero (k v)
  | mapF f => exact extPre.bind (extPre.liftG _) (fun _ => extPre.pure _)
  | map2L bFirst f => exact extPre.pure _
  | map2C bFirst bNext f _ => exact extPre.pure _
  | tail c => exact goodE_forceTail zero c
  | comp g f ihg _ => exact extPre.bind (ihg v) (fun _ => extPre.pure _)

theorem goodE_resume (zero : T) (e : EvalV T) : GoodE (resume zero e) := by
  cases e with
  | leaf first => exact extPre.bind (goodE_callFirst zero first) (fun _ => extPre.pure _)
  | cont first next =>
    exact extPre.bind (goodE_callFirst zero first) (fun v => extPre.bind (goodE_applyK zero next v) (fun _ => extPre.pure _))

theorem goodE_runLoop (zero : T) (fuel : Nat) (e : EvalV T) : GoodE (runLoop zero fuel e) := by
  induction fuel generalizing e with
  | zero => exact extPre.panic _
  | succ n ih =>
    refine extPre.bind (goodE_resume zero e) (fun r => ?_)
    cases r with
    | inl v => exact extPre.pure _
    | inr e' => exact ih e'

theorem goodE_root (j : Nat) : GoodE (root j : HM T (EvalV T)) := by
  intro hp lg
  simp only [root]
  split <;> exact Ext.refl hp

theorem goodE_pushRoot (e : EvalV T) : GoodE (pushRoot e) := by
  intro hp lg
  refine ⟨ExtL.refl _ _ _, ExtL.refl _ _ _, ?_, id⟩
  intro j ev hj
  have hlt : j < hp.roots.length := (List.getElem?_eq_some_iff.mp hj).1
  simp only [pushRoot]
  rw [List.getElem?_append_left hlt]; exact hj

theorem goodE_exec (zero : T) (fuel : Nat) (c : Cmd T) : GoodE (exec zero fuel c) := by
  cases c with
  | define p =>
    refine extPre.bind (good_attempt (goodE_build zero p)) (fun r => ?_)
    cases r with
    | ok e => exact extPre.bind (goodE_pushRoot e) (fun _ => extPre.pure _)
    | error pv => exact extPre.bind (goodE_pushRoot _) (fun _ => extPre.pure _)
  | get j =>
    refine extPre.bind (good_attempt (extPre.bind (goodE_root j) (fun e => goodE_runLoop zero fuel e))) (fun r => ?_)
    cases r with
    | ok v => exact extPre.pure _
    | error pv => exact extPre.pure _

theorem goodE_execAll (zero : T) (fuel : Nat) (cs : List (Cmd T)) : GoodE (execAll zero fuel cs) := by
  induction cs with
  | nil => exact extPre.pure _
  | cons c cs ih => exact extPre.bind (goodE_exec zero fuel c) (fun _ => extPre.bind ih (fun _ => extPre.pure _))

theorem ok_empty : (({} : Heap T)).OK := ⟨by simp, by simp⟩

-- ---------------------------------------------------------------------------------- Get on a Call / TailCall

theorem build_call (zero : T) (f : Nat → GoM T) (hp : Heap T) (lg : Log) :
    build zero (.call f) hp lg
      = (.ok (.leaf (.memo hp.calls.length)),
         { hp with calls := hp.calls ++ [{ f := f, cell := Cell.fresh zero }] }, lg) := rfl

theorem build_tailCall (zero : T) (f : Nat → Prog T) (hp : Heap T) (lg : Log) :
    build zero (.tailCall f) hp lg
      = (.ok (.cont (.const zero) (.tail hp.tails.length)),
         { hp with tails := hp.tails ++ [{ f := f, cell := Cell.fresh (.leaf .nil) }] }, lg) := rfl

/-- `Get` on the Eval of a `Call` whose cell has not fired: the first execution of `f` -/
theorem runLoop_call_fresh (zero : T) (fuel : Nat) (c : Nat) (f : Nat → GoM T) (hp : Heap T) (lg : Log)
    (hc : hp.calls[c]? = some { f := f, cell := Cell.fresh zero }) :
    runLoop zero (fuel + 1) (.leaf (.memo c)) hp lg
      = (((f 0).run.run lg).1,
         { hp with calls := hp.calls.set c { f := f, cell := { done := true, ret := memoOf zero ((f 0).run.run lg).1, runs := 1 } } },
         ((f 0).run.run lg).2) := by
  simp only [runLoop, resume, callFirst, bind_apply, forceCall, hc, get_fresh]
  rcases (f 0).run.run lg with ⟨r, lg'⟩
  cases r <;> rfl

/-- `Get` on the Eval of a `Call` whose cell has fired: the memo, nothing runs, nothing changes -/
theorem runLoop_call_done (zero : T) (fuel : Nat) (c : Nat) (cc : CallCell T) (hp : Heap T) (lg : Log)
    (hc : hp.calls[c]? = some cc) (hd : cc.cell.done = true) :
    runLoop zero (fuel + 1) (.leaf (.memo c)) hp lg = (.ok cc.cell.ret, hp, lg) := by
  simp only [runLoop, resume, callFirst, bind_apply, forceCall, hc, get_of_done cc.f cc.cell lg hd]
  have : hp.calls.set c { f := cc.f, cell := cc.cell } = hp.calls := set_same hc
  simp only [this]
  rfl

/-- one iteration of `Run` on the Eval of a `TailCall`: force the cell, go on with what it holds -/
theorem runLoop_tail (zero : T) (fuel c : Nat) (hp : Heap T) (lg : Log) :
    runLoop zero (fuel + 1) (.cont (.const zero) (.tail c)) hp lg = (forceTail zero c >>= runLoop zero fuel) hp lg := by
  simp only [runLoop, resume, callFirst, bind_apply, pure_apply, applyK]
  rcases forceTail zero c hp lg with ⟨r | r, hp', lg'⟩ <;> rfl

/-- forcing a tail cell that has not fired, for either outcome `r` of its thunk: `r` is passed on, the cell fires and
    keeps the Eval the thunk produced (what it held, the zero `Eval[T]{}`, if the thunk panicked) -/
theorem forceTail_fresh (zero : T) (c : Nat) (tc : TailCell T) (hp hp' : Heap T) (lg lg' : Log)
    (r : Except PanicVal (EvalV T)) (hc : hp.tails[c]? = some tc) (hd : tc.cell.done = false)
    (hb : build zero (tc.f tc.cell.runs) hp lg = (r, hp', lg')) :
    forceTail zero c hp lg
      = (r, { hp' with tails := hp'.tails.set c { tc with cell := { done := true, ret := memoOf tc.cell.ret r, runs := tc.cell.runs + 1 } } }, lg') := by
  cases r <;> simp only [forceTail, hc, hd, hb, Bool.false_eq_true, if_false] <;> rfl

/-- forcing a tail cell that has fired: the memo, the thunk is not consulted, nothing changes -/
theorem forceTail_done (zero : T) (c : Nat) (tc : TailCell T) (hp : Heap T) (lg : Log)
    (hc : hp.tails[c]? = some tc) (hd : tc.cell.done = true) :
    forceTail zero c hp lg = (.ok tc.cell.ret, hp, lg) := by
  simp only [forceTail, hc, hd, if_true]

/-- the zero `Eval[T]{}` evaluates to the zero value -/
theorem runLoop_zero (zero : T) (fuel : Nat) (hp : Heap T) (lg : Log) :
    runLoop zero (fuel + 1) (.leaf .nil) hp lg = (.ok zero, hp, lg) := rfl

-- ---------------------------------------------------------------------------------- packaged: first Get, later Gets

/-- a call cell runs once: the first `Get` is the first execution of `f`; in every later heap `Get` answers from the
    memo, runs nothing and changes nothing -/
theorem call_once (zero : T) (fuel : Nat) (c : Nat) (f : Nat → GoM T) (hp : Heap T) (lg : Log)
    (hc : hp.calls[c]? = some { f := f, cell := Cell.fresh zero }) :
    ∃ hp2, runLoop zero (fuel + 1) (.leaf (.memo c)) hp lg = (((f 0).run.run lg).1, hp2, ((f 0).run.run lg).2)
      ∧ ∀ hp3, Ext hp2 hp3 → ∀ fuel' lg3, runLoop zero (fuel' + 1) (.leaf (.memo c)) hp3 lg3
          = (.ok (memoOf zero ((f 0).run.run lg).1), hp3, lg3) := by
  refine ⟨_, runLoop_call_fresh zero fuel c f hp lg hc, fun hp3 h fuel' lg3 => ?_⟩
  have hlt : c < hp.calls.length := (List.getElem?_eq_some_iff.mp hc).1
  exact runLoop_call_done zero fuel' c { f := f, cell := { done := true, ret := memoOf zero ((f 0).run.run lg).1, runs := 1 } }
    hp3 lg3 (h.calls.frozen (by simp [hlt]) rfl) rfl

/-- the cell survives (at the same index) the allocations its own thunk performs -/
theorem tails_after_build (zero : T) (p : Prog T) (hp : Heap T) (lg : Log) (c : Nat) (tc : TailCell T)
    (hc : hp.tails[c]? = some tc) : (build zero p hp lg).2.1.tails[c]? = some tc :=
  (goodG_build zero p hp lg).2.1.getElem? hc

/-- a tail cell runs once, for either outcome `r` of its thunk: the first force passes `r` on; in every later heap
    a force returns the memo without consulting the thunk -/
theorem tail_once (zero : T) (c : Nat) (tc : TailCell T) (hp hp' : Heap T) (lg lg' : Log)
    (r : Except PanicVal (EvalV T)) (hc : hp.tails[c]? = some tc) (hd : tc.cell.done = false)
    (hb : build zero (tc.f tc.cell.runs) hp lg = (r, hp', lg')) :
    ∃ hp2, forceTail zero c hp lg = (r, hp2, lg')
      ∧ ∀ hp3, Ext hp2 hp3 → ∀ lg3, forceTail zero c hp3 lg3 = (.ok (memoOf tc.cell.ret r), hp3, lg3) := by
  refine ⟨_, forceTail_fresh zero c tc hp hp' lg lg' r hc hd hb, fun hp3 h lg3 => ?_⟩
  have h1 := tails_after_build zero (tc.f tc.cell.runs) hp lg c tc hc
  rw [hb] at h1
  have hlt : c < hp'.tails.length := (List.getElem?_eq_some_iff.mp h1).1
  exact forceTail_done zero c
    { tc with cell := { done := true, ret := memoOf tc.cell.ret r, runs := tc.cell.runs + 1 } } hp3 lg3
    (h.tails.frozen (by simp [hlt]) rfl) rfl

end FpVerif.EvalP
