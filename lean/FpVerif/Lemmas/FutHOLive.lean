import FpVerif.Lemmas.FutHOStep
import FpVerif.Spec.C06Live
/-!
# Completeness at quiescence for futures of futures (helper lemmas for `Spec/C06HO.lean`)

With the structural liveness invariant `Live` of `Spec/C06Live.lean` (which needs no assumption on the programs at all)
and an empty task queue, the `Sem`-level reading of every promise is also ABOVE the denotation of its typed spec —
hence equal to it.
-/
namespace FpVerif.Spec.C06.HO
open FpVerif.Fut

/-- with nothing left to run, a pending promise's typed spec does not denote anything yet, provided the same holds
    (and completed promises hold all their specs denote) for all younger promises -/
theorem pending_good_ge {nsrc : Nat} {T : TSpec} {n : Net} (hi : Inv nsrc T n) (hl : Live nsrc (fun _ => False) n)
    (hq : n.pool = []) (p : Nat) (hlt : p < n.next) (hst : n.status p = none)
    (hy : ∀ p', p < p' → p' < n.next → Good .ge T n.status p') : Good .ge T n.status p := by
  have fin : ∀ {τ : Ty} {X : TExpr τ}, T p = ⟨τ, X⟩ → den (absE n.status) X = none → Good .ge T n.status p := by
    intro τ X hsp hd
    rw [good_iff hsp, absS_none _ hst]
    exact leS_of_eq hd
  by_cases hsrc : p < nsrc
  · unfold Good
    rw [hi.srcs.2 p hsrc]
    exact rel_refl _ _ _
  · rcases hl.blocked p (Nat.le_of_not_lt hsrc) hlt hst id with ⟨tk, htk, _⟩ | ⟨q, c, hc, ht⟩
    · rw [hq] at htk; simp at htk
    · have hqs := hl.cbsPending q c hc
      have hok := hi.cbs q c hc
      cases c with
      | flatMapA k np =>
        cases ht
        rcases hok.2 with ⟨τ, k', hsp, _⟩ | ⟨τ, hsp, _⟩
        · exact fin hsp (by simp [den, absS_none _ hqs, bindOkS])
        · exact fin hsp (by simp [den, absS_none _ hqs, joinS, bindOkS])
      | completeWith np =>
        cases ht
        obtain ⟨_, τ, sp, lo, hsp, hlo, hr⟩ := hok
        refine fin hsp ?_
        have := hr .ge n.status (fun _ _ h => h) (fun p' h1 h2 => hy p' (Nat.lt_of_lt_of_le hlo h1) h2)
        rw [absS_none _ hqs] at this
        exact leS_to_none this
      | transformA f np =>
        cases ht
        exact fin hok.2 (by simp [den, absS_none _ hqs] <;> rfl)
      | transformWithA k np =>
        cases ht
        obtain ⟨_, τ, k', hsp, _⟩ := hok
        exact fin hsp (by simp [den, absS_none _ hqs, bindTryS])
      | recoverWithA d' k np =>
        cases ht
        obtain ⟨_, τ, k', hsp, _⟩ := hok
        exact fin hsp (by simp [den, absS_none _ hqs, bindTryS])
      | orFutureA alt np =>
        cases ht
        obtain ⟨_, τ, hsp⟩ := hok
        exact fin hsp (by simp [den, absS_none _ hqs, bindTryS])
      | observe id => simp [cbTarget] at ht

/-- **Completeness at quiescence, one state** -/
theorem all_good_ge {nsrc : Nat} {T : TSpec} {n : Net} (hi : Inv nsrc T n) (hl : Live nsrc (fun _ => False) n)
    (hq : n.pool = []) : ∀ p, p < n.next → Good .ge T n.status p :=
  all_good hi .ge (fun p hlt hst hy => pending_good_ge hi hl hq p hlt hst hy)

/-- **Exactness at quiescence, one state**: the reading of every promise IS the denotation of its typed spec -/
theorem all_exact {nsrc : Nat} {T : TSpec} {n : Net} (hi : Inv nsrc T n) (hl : Live nsrc (fun _ => False) n)
    (hq : n.pool = []) (p : Nat) (hlt : p < n.next) : absS n.status (T p).1 p = den (absE n.status) (T p).2 :=
  leS_antisymm _ _ _ (all_good_le hi p hlt) (all_good_ge hi hl hq p hlt)

/-- the root of a program holds, at quiescence, exactly what the program denotes -/
theorem root_exact {nsrc : Nat} {T : TSpec} {n : Net} (hi : Inv nsrc T n) (hl : Live nsrc (fun _ => False) n)
    (hq : n.pool = []) (lo : Nat) {τ : Ty} (e : TExpr τ) (q : Nat) (hr : Denotes T n lo q e) :
    absS n.status τ q = den (absE n.status) e :=
  leS_antisymm _ _ _
    (hr .le n.status (fun _ _ h => h) (fun p' _ hlt => all_good_le hi p' hlt))
    (hr .ge n.status (fun _ _ h => h) (fun p' _ hlt => all_good_ge hi hl hq p' hlt))

end FpVerif.Spec.C06.HO
