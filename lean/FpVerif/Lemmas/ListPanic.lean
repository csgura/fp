import FpVerif.Model.ListPanic
import FpVerif.Lemmas.CellHeap
import FpVerif.Lemmas.ListBasics
/-!
# Helper lemmas for `Model/ListPanic.lean` (same structure as `Lemmas/EvalPanic.lean`)
-/
namespace FpVerif.ListP
open FpVerif.It FpVerif.MemoPanic

variable {T X : Type}

/-- every head / tail cell: thunk started at most once, exactly once iff done -/
def Heap.OK (hp : Heap T) : Prop :=
  (∀ hc ∈ hp.heads, CellOK hc.cell) ∧ (∀ tc ∈ hp.tails, CellOK tc.cell)

structure Ext (hp hp' : Heap T) : Prop where
  heads : ExtL (fun (hc : HCell T) => hc.f) (fun hc => hc.cell.done) hp.heads hp'.heads
  tails : ExtL (fun (tc : TCell T) => tc.f) (fun tc => tc.cell.done) hp.tails hp'.tails
  roots : ∀ (j : Nat) (e : LV T), hp.roots[j]? = some e → hp'.roots[j]? = some e
  ok : hp.OK → hp'.OK

theorem Ext.refl (hp : Heap T) : Ext hp hp :=
  ⟨ExtL.refl _ _ _, ExtL.refl _ _ _, fun _ _ h => h, id⟩

theorem Ext.trans {a b c : Heap T} (h1 : Ext a b) (h2 : Ext b c) : Ext a c :=
  ⟨h1.heads.trans h2.heads, h1.tails.trans h2.tails, fun j e h => h2.roots j e (h1.roots j e h),
   fun h => h2.ok (h1.ok h)⟩

abbrev GoodE (m : HM T X) : Prop := Good Ext m

theorem extPre : Pre (Ext (T := T)) := ⟨Ext.refl, Ext.trans⟩

theorem goodE_liftG (g : GoM X) : GoodE (IM.liftG g : HM T X) := extPre.liftG g

/-- the heap grew by fresh cells, nothing else changed -/
def Grow (hp hp' : Heap T) : Prop :=
  GrowL (·.cell) hp.heads hp'.heads ∧ GrowL (·.cell) hp.tails hp'.tails ∧ hp'.roots = hp.roots

theorem Grow.refl (hp : Heap T) : Grow hp hp := ⟨GrowL.refl _ _, GrowL.refl _ _, rfl⟩

theorem Grow.trans {a b c : Heap T} (h1 : Grow a b) (h2 : Grow b c) : Grow a c :=
  ⟨h1.1.trans h2.1, h1.2.1.trans h2.2.1, h2.2.2.trans h1.2.2⟩

theorem Grow.ext {hp hp' : Heap T} (h : Grow hp hp') : Ext hp hp' :=
  ⟨h.1.extL _ _, h.2.1.extL _ _, fun j ev hj => by rw [h.2.2]; exact hj, fun hok => ⟨h.1.ok hok.1, h.2.1.ok hok.2⟩⟩

theorem growPre : Pre (Grow (T := T)) := ⟨Grow.refl, Grow.trans⟩

theorem goodG_allocHead (f : Nat → GoM (Option T)) : Good Grow (allocHead f) := fun _ _ =>
  ⟨GrowL.snoc _ _ (cellOK_fresh _), GrowL.refl _ _, rfl⟩

theorem goodG_allocTail (f : Nat → LProg T) : Good Grow (allocTail f) := fun _ _ =>
  ⟨GrowL.refl _ _, GrowL.snoc _ _ (cellOK_fresh _), rfl⟩

theorem goodG_build (p : LProg T) : Good Grow (build p) := by
  induction p with
  | empty => exact growPre.pure _
  | cons h t ih => exact growPre.bind ih (fun _ => growPre.pure _)
  | make head tail _ =>
    exact growPre.bind (goodG_allocHead head) (fun _ => growPre.bind (goodG_allocTail tail) (fun _ => growPre.pure _))
  | generateFrom i g =>
    exact growPre.bind (goodG_allocHead _) (fun _ => growPre.bind (goodG_allocTail _) (fun _ => growPre.pure _))
  | recurrence1 a rel =>
    exact growPre.bind (goodG_allocHead _) (fun _ => growPre.bind (goodG_allocTail _) (fun _ => growPre.pure _))
  | bindG m k ih => exact growPre.bind (growPre.liftG m) (fun v => ih v)
  | logged evs p ih => exact growPre.bind (fun hp _ => Grow.refl hp) (fun _ => ih)
  | panic pv => exact growPre.panic pv
  | ref j =>
    intro hp lg
    simp only [build]
    split <;> exact Grow.refl hp

theorem goodE_build (p : LProg T) : GoodE (build p) := fun hp lg => (goodG_build p hp lg).ext

theorem goodE_forceH (c : Nat) : GoodE (forceH c : HM T (Option T)) := by
  intro hp lg
  simp only [forceH]
  cases hc : hp.heads[c]? with
  | none => exact Ext.refl hp
  | some cc =>
    simp only
    refine ⟨ExtL.set _ _ _ c cc _ hc rfl ?_, ExtL.refl _ _ _, fun _ _ h => h, ?_⟩
    · intro hd
      rw [get_stable cc.f cc.cell lg hd]
    · rintro ⟨h1, h2⟩
      refine ⟨forall_mem_set h1 ?_, h2⟩
      exact get_cellOK cc.f cc.cell lg (h1 cc (List.mem_of_getElem? hc))

theorem ext_setTail {hp hp' : Heap T} (h : Grow hp hp') (c : Nat) (tc : TCell T) (hc : hp.tails[c]? = some tc)
    (hnd : tc.cell.done = false) (r : LV T) :
    Ext hp { hp' with tails := hp'.tails.set c { tc with cell := { done := true, ret := r, runs := tc.cell.runs + 1 } } } := by
  have he := h.ext
  refine ⟨he.heads, ?_, he.roots, fun hOK => ⟨(he.ok hOK).1,
    forall_mem_set (he.ok hOK).2 ((hOK.2 tc (List.mem_of_getElem? hc)).fire hnd r)⟩⟩
  exact he.tails.trans (ExtL.set _ _ _ c tc _ (h.2.1.getElem? hc) rfl (fun hd => nomatch hnd.symm.trans hd))

theorem goodE_forceT (c : Nat) : GoodE (forceT c : HM T (LV T)) := by
  intro hp lg
  simp only [forceT]
  cases hc : hp.tails[c]? with
  | none => exact Ext.refl hp
  | some tc =>
    simp only
    cases hd : tc.cell.done with
    | true => exact Ext.refl hp
    | false =>
      simp only [Bool.false_eq_true, if_false]
      have hg := goodG_build (tc.f tc.cell.runs) hp lg
      rcases hb : build (tc.f tc.cell.runs) hp lg with ⟨r, hp', lg'⟩
      rw [hb] at hg
      simp only at hg
      cases r with
      | ok e => exact ext_setTail hg c tc hc hd e
      | error p => exact ext_setTail hg c tc hc hd tc.cell.ret

theorem goodE_isEmpty (l : LV T) : GoodE (isEmpty l) := by
  cases l with
  | nilIface => exact extPre.panic _
  | nil => exact extPre.pure _
  | cons h t => exact extPre.pure _
  | adaptor hc tc => exact extPre.bind (goodE_forceH hc) (fun _ => extPre.pure _)

theorem goodE_head (l : LV T) : GoodE (head l) := by
  cases l with
  | nilIface => exact extPre.panic _
  | nil => exact extPre.panic _
  | cons h t => exact extPre.pure _
  | adaptor hc tc =>
    refine extPre.bind (goodE_forceH hc) (fun o => ?_)
    cases o with
    | none => exact extPre.panic _
    | some v => exact extPre.pure _

theorem goodE_tail (l : LV T) : GoodE (tail l) := by
  cases l with
  | nilIface => exact extPre.panic _
  | nil => exact extPre.pure _
  | cons h t => exact extPre.pure _
  | adaptor hc tc => exact goodE_forceT tc

theorem goodE_toSeq (fuel : Nat) (l : LV T) (acc : List T) : GoodE (toSeq fuel l acc) := by
  induction fuel generalizing l acc with
  | zero => exact extPre.panic _
  | succ n ih =>
    refine extPre.bind (goodE_isEmpty l) (fun b => ?_)
    cases b with
    | true => exact extPre.pure _
    | false => exact extPre.bind (goodE_head l) (fun _ => extPre.bind (goodE_tail l) (fun t => ih t _))

theorem goodE_root (j : Nat) : GoodE (root j : HM T (LV T)) := by
  intro hp lg
  simp only [root]
  split <;> exact Ext.refl hp

theorem goodE_pushRoot (e : LV T) : GoodE (pushRoot e) := by
  intro hp lg
  refine ⟨ExtL.refl _ _ _, ExtL.refl _ _ _, ?_, id⟩
  intro j ev hj
  have hlt : j < hp.roots.length := (List.getElem?_eq_some_iff.mp hj).1
  simp only [pushRoot]
  rw [List.getElem?_append_left hlt]; exact hj

theorem goodE_exec (fuel : Nat) (c : Cmd T) : GoodE (exec fuel c) := by
  cases c with
  | define p =>
    refine extPre.bind (good_attempt (goodE_build p)) (fun r => ?_)
    cases r with
    | ok e => exact extPre.bind (goodE_pushRoot e) (fun _ => extPre.pure _)
    | error pv => exact extPre.bind (goodE_pushRoot _) (fun _ => extPre.pure _)
  | isEmpty j =>
    refine extPre.bind (good_attempt (extPre.bind (goodE_root j) (fun l => goodE_isEmpty l))) (fun r => ?_)
    cases r <;> exact extPre.pure _
  | head j =>
    refine extPre.bind (good_attempt (extPre.bind (goodE_root j) (fun l => goodE_head l))) (fun r => ?_)
    cases r <;> exact extPre.pure _
  | tailOf j =>
    refine extPre.bind (good_attempt (extPre.bind (goodE_root j) (fun l => goodE_tail l))) (fun r => ?_)
    cases r with
    | ok t => exact extPre.bind (goodE_pushRoot t) (fun _ => extPre.pure _)
    | error pv => exact extPre.bind (goodE_pushRoot _) (fun _ => extPre.pure _)
  | toSeq j =>
    refine extPre.bind (good_attempt (extPre.bind (goodE_root j) (fun l => goodE_toSeq fuel l []))) (fun r => ?_)
    cases r <;> exact extPre.pure _

theorem goodE_execAll (fuel : Nat) (cs : List (Cmd T)) : GoodE (execAll fuel cs) := by
  induction cs with
  | nil => exact extPre.pure _
  | cons c cs ih => exact extPre.bind (goodE_exec fuel c) (fun _ => extPre.bind ih (fun _ => extPre.pure _))

theorem ok_empty : (({} : Heap T)).OK := ⟨by simp, by simp⟩

-- ---------------------------------------------------------------------------------- one cell

theorem build_make (head : Nat → GoM (Option T)) (tl : Nat → LProg T) (hp : Heap T) (lg : Log) :
    build (.make head tl) hp lg
      = (.ok (.adaptor hp.heads.length hp.tails.length),
         { hp with heads := hp.heads ++ [{ f := head, cell := Cell.fresh none }],
                   tails := hp.tails ++ [{ f := tl, cell := Cell.fresh .nilIface }] }, lg) := rfl

/-- forcing a head cell that has not fired: the first execution of the head thunk -/
theorem forceH_fresh (c : Nat) (f : Nat → GoM (Option T)) (hp : Heap T) (lg : Log)
    (hc : hp.heads[c]? = some { f := f, cell := Cell.fresh none }) :
    forceH c hp lg
      = (((f 0).run.run lg).1,
         { hp with heads := hp.heads.set c { f := f, cell := { done := true, ret := memoOf none ((f 0).run.run lg).1, runs := 1 } } },
         ((f 0).run.run lg).2) := by
  simp only [forceH, hc, get_fresh]

/-- forcing a head cell that has fired: the memo, nothing runs, nothing changes -/
theorem forceH_done (c : Nat) (hcell : HCell T) (hp : Heap T) (lg : Log)
    (hc : hp.heads[c]? = some hcell) (hd : hcell.cell.done = true) :
    forceH c hp lg = (.ok hcell.cell.ret, hp, lg) := by
  simp only [forceH, hc, get_of_done hcell.f hcell.cell lg hd]
  have : hp.heads.set c { f := hcell.f, cell := hcell.cell } = hp.heads := set_same hc
  simp only [this]

/-- forcing a tail cell that has not fired, for either outcome `r` of its thunk: `r` is passed on, the cell fires and
    keeps the list the thunk produced (what it held, the nil interface, if the thunk panicked) -/
theorem forceT_fresh (c : Nat) (tc : TCell T) (hp hp' : Heap T) (lg lg' : Log) (r : Except PanicVal (LV T))
    (hc : hp.tails[c]? = some tc) (hd : tc.cell.done = false)
    (hb : build (tc.f tc.cell.runs) hp lg = (r, hp', lg')) :
    forceT c hp lg
      = (r, { hp' with tails := hp'.tails.set c { tc with cell := { done := true, ret := memoOf tc.cell.ret r, runs := tc.cell.runs + 1 } } }, lg') := by
  cases r <;> simp only [forceT, hc, hd, hb, Bool.false_eq_true, if_false] <;> rfl

theorem forceT_done (c : Nat) (tc : TCell T) (hp : Heap T) (lg : Log)
    (hc : hp.tails[c]? = some tc) (hd : tc.cell.done = true) :
    forceT c hp lg = (.ok tc.cell.ret, hp, lg) := by
  simp only [forceT, hc, hd, if_true]

-- ---------------------------------------------------------------------------------- packaged: first force, later forces

/-- a head cell runs once: the first force is the first execution of the head thunk; in every later heap the cell
    answers from the memo, runs nothing and changes nothing -/
theorem head_once (c : Nat) (f : Nat → GoM (Option T)) (hp : Heap T) (lg : Log)
    (hc : hp.heads[c]? = some { f := f, cell := Cell.fresh none }) :
    ∃ hp2, forceH c hp lg = (((f 0).run.run lg).1, hp2, ((f 0).run.run lg).2)
      ∧ ∀ hp3, Ext hp2 hp3 → ∀ lg3, forceH c hp3 lg3 = (.ok (memoOf none ((f 0).run.run lg).1), hp3, lg3) := by
  refine ⟨_, forceH_fresh c f hp lg hc, fun hp3 h lg3 => ?_⟩
  have hlt : c < hp.heads.length := (List.getElem?_eq_some_iff.mp hc).1
  exact forceH_done c { f := f, cell := { done := true, ret := memoOf none ((f 0).run.run lg).1, runs := 1 } } hp3 lg3
    (h.heads.frozen (by simp [hlt]) rfl) rfl

theorem tails_after_build (p : LProg T) (hp : Heap T) (lg : Log) (c : Nat) (tc : TCell T)
    (hc : hp.tails[c]? = some tc) : (build p hp lg).2.1.tails[c]? = some tc :=
  (goodG_build p hp lg).2.1.getElem? hc

theorem tail_first (c : Nat) (tc : TCell T) (hp hp' : Heap T) (lg lg' : Log) (r : Except PanicVal (LV T))
    (hc : hp.tails[c]? = some tc) (hd : tc.cell.done = false)
    (hb : build (tc.f tc.cell.runs) hp lg = (r, hp', lg')) :
    ∃ hp2, forceT c hp lg = (r, hp2, lg')
      ∧ ∃ tc', hp2.tails[c]? = some tc' ∧ tc'.cell.done = true ∧ tc'.cell.ret = memoOf tc.cell.ret r := by
  refine ⟨_, forceT_fresh c tc hp hp' lg lg' r hc hd hb,
    { tc with cell := { done := true, ret := memoOf tc.cell.ret r, runs := tc.cell.runs + 1 } }, ?_, rfl, rfl⟩
  have h1 := tails_after_build (tc.f tc.cell.runs) hp lg c tc hc
  rw [hb] at h1
  have hlt : c < hp'.tails.length := (List.getElem?_eq_some_iff.mp h1).1
  simp [hlt]

theorem tail_first_ok (c : Nat) (tc : TCell T) (hp hp' : Heap T) (lg lg' : Log) (e : LV T)
    (hc : hp.tails[c]? = some tc) (hd : tc.cell.done = false)
    (hb : build (tc.f tc.cell.runs) hp lg = (.ok e, hp', lg')) :
    ∃ hp2, forceT c hp lg = (.ok e, hp2, lg')
      ∧ ∃ tc', hp2.tails[c]? = some tc' ∧ tc'.cell.done = true ∧ tc'.cell.ret = e :=
  tail_first c tc hp hp' lg lg' (.ok e) hc hd hb

theorem tail_later (c : Nat) (tc : TCell T) {hp2 hp3 : Heap T} (hc : hp2.tails[c]? = some tc)
    (hd : tc.cell.done = true) (h : Ext hp2 hp3) (lg : Log) :
    forceT c hp3 lg = (.ok tc.cell.ret, hp3, lg) :=
  forceT_done c tc _ lg (h.tails.frozen hc hd) hd

end FpVerif.ListP
