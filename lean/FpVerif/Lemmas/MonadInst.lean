import FpVerif.Model.TryOpt
/-!
# What `FlatMap` of Try, Option, Either and StateT does on each shape of value

The error of a failure is read through `Failed().Get()` (`Try.failedGet`), which panics on the zero-value Try: two
computations that begin with that read agree once their continuations agree off `.nil` (`failedGet_bind_congr`).
A step known to return its outcome after effects (the `_eff` forms of C02 / C17) is consumed by `bind_of_returns`.
-/
namespace FpVerif

/-- A package whose `M[X]` is a Go value `F X` (Try, Option, Either) is lawful as soon as `FlatMap` on VALUES is;
    the `seq` laws are the monad laws of `GoM`. -/
theorem MonadOps.lawful_of_value {F : Type → Type} (unit : {α : Type} → α → F α)
    (fm : {α β : Type} → F α → (α → GoM (F β)) → GoM (F β))
    (left_id : ∀ {α β : Type} (a : α) (k : α → GoM (F β)), fm (unit a) k = k a)
    (assoc : ∀ {α β γ : Type} (t : F α) (k : α → GoM (F β)) (h : β → GoM (F γ)),
      (fm t k >>= fun u => fm u h) = fm t fun a => k a >>= fun u => fm u h) :
    MonadOps.Lawful (C := fun X => GoM (F X))
      ⟨fun a => pure (unit a), fun g k => g >>= k, fun m k => m >>= fun t => fm t k⟩ where
  seq_pure a k := pure_bind a k
  seq_bind g h k := bind_assoc g h k
  flatMap_seq g k _ := bind_assoc g k _
  left_id a k := (pure_bind _ _).trans (left_id a k)
  assoc m k h := (bind_assoc m _ _).trans (bind_congr fun t => assoc t k h)

/-- Every operation of the models that wraps a step is by definition `step >>= K` (run the step first, once, then decide
    on what it returned); this is how a hypothesis `step = act >>= fun _ => pure outcome` is used. -/
theorem bind_of_returns {m : Type → Type} [Monad m] [LawfulMonad m] {α β X : Type} {x : m α} {act : m X} {v : X → α}
    (h : x = act >>= fun y => pure (v y)) (k : α → m β) : x >>= k = act >>= fun y => k (v y) := by
  rw [h, bind_assoc]
  exact bind_congr fun _ => pure_bind _ _

namespace Try
variable {α β γ : Type}

/-- Only `e ≠ .nil` need be considered: on the zero value both sides panic in the read. -/
theorem failedGet_bind_congr (e : Err) (k k' : Err → GoM γ) (h : e ≠ .nil → k e = k' e) :
    (failedGet (failure e : Try α) >>= k) = (failedGet (failure e : Try β) >>= k') := by
  by_cases he : e = .nil
  · subst he; rfl
  · simpa [he] using h he

/-- an error that has been read once is read again unchanged -/
@[simp] theorem failedGet_bind_failedGet (e : Err) (k : Err → Err → GoM γ) :
    (failedGet (failure e : Try α) >>= fun e' => failedGet (failure e' : Try β) >>= k e')
      = failedGet (failure e : Try α) >>= fun e' => k e' e' :=
  failedGet_bind_congr e _ _ fun he => by simp [he]

end Try

namespace TryM
variable {A B : Type}

@[simp] theorem flatMap_success (a : A) (k : A → GoM (Try B)) : flatMap (.success a) k = k a := rfl

/-- the general failure case; `flatMap_failure`, `flatMap_nil` are its two branches -/
theorem flatMap_failure_eq (e : Err) (k : A → GoM (Try B)) :
    flatMap (.failure e) k = Try.failedGet (.failure e : Try A) >>= fun e => pure (.failure e) := rfl

@[simp] theorem flatMap_failure (e : Err) (h : e ≠ .nil) (k : A → GoM (Try B)) :
    flatMap (.failure e) k = pure (.failure e) := by
  simp [flatMap_failure_eq, h]

@[simp] theorem flatMap_nil (k : A → GoM (Try B)) : flatMap (.failure .nil) k = throw "ErrNotInit" := rfl

theorem flatMap_assoc {D : Type} (t : Try A) (k : A → GoM (Try B)) (h : B → GoM (Try D)) :
    (flatMap t k >>= fun u => flatMap u h) = flatMap t fun a => k a >>= fun u => flatMap u h := by
  cases t with
  | success a => rfl
  | failure e => simp only [flatMap_failure_eq, bind_assoc, pure_bind, Try.failedGet_bind_failedGet]

/-- right identity, except on the zero value, where `FlatMap` panics (`flatMap_nil`) -/
theorem flatMap_pure (t : Try A) (h : t ≠ .failure .nil) : flatMap t (fun a => pure (.success a)) = pure t := by
  cases t with
  | success a => rfl
  | failure e => exact flatMap_failure e (fun he => h (he ▸ rfl)) _

theorem ops_flatMap_pure (t : Try A) (k : A → GoM (Try B)) : ops.flatMap (pure t) k = flatMap t k := by
  simp only [ops, pure_bind]

/-- the generated `Map` on a value that is already there -/
theorem map_pure (t : Try A) (f : A → GoM B) :
    MonadFamily.map ops (pure t) f = flatMap t (fun a => f a >>= fun b => pure (.success b)) := by
  simp only [MonadFamily.map, MonadFamily.lift, ops, pure_bind]

end TryM

namespace OptM
variable {A B D : Type}

theorem flatMap_assoc (t : Option A) (k : A → GoM (Option B)) (h : B → GoM (Option D)) :
    (flatMap t k >>= fun u => flatMap u h) = flatMap t fun a => k a >>= fun u => flatMap u h := by
  cases t with
  | some a => rfl
  | none => exact pure_bind _ _

theorem flatMap_pure (t : Option A) : flatMap t (fun a => pure (some a)) = pure t := by
  cases t <;> rfl

end OptM

namespace EitM
variable {L A B D : Type}

theorem flatMap_assoc (t : Either L A) (k : A → GoM (Either L B)) (h : B → GoM (Either L D)) :
    (flatMap t k >>= fun u => flatMap u h) = flatMap t fun a => k a >>= fun u => flatMap u h := by
  cases t with
  | right a => rfl
  | left l => exact pure_bind _ _

theorem flatMap_pure (t : Either L A) : flatMap t (fun a => pure (.right a)) = pure t := by
  cases t <;> rfl

end EitM

namespace StM
variable {S A γ : Type}

theorem bind_outcome_congr (x : GoM (Try A × S)) {f g : Try A × S → GoM γ}
    (hs : ∀ a ns, f (.success a, ns) = g (.success a, ns))
    (hf : ∀ e ns, f (.failure e, ns) = g (.failure e, ns)) : x >>= f = x >>= g :=
  bind_congr fun (t, ns) => by
    cases t with
    | success a => exact hs a ns
    | failure e => exact hf e ns

end StM

end FpVerif
