import FpVerif.Lemmas.CloneHeap
/-!
# Heap-relative ties between a PURE (typed) clone function and the heap model's `clone`  (audit finding 6)

`Tie c i enc` of `Spec/C18Gen.lean` demands `clone i (enc v) h = (enc (c v), h)`: a heap-INDEPENDENT encoding and an
UNCHANGED heap.  No allocating instance (`clone.Seq`, `clone.Slice`, `clone.Ptr`, `clone.GoMap`) can satisfy it, so the
`…_is_model` theorems stated with it do not apply below a reference (`Option[Seq[T]]`, `Seq[Seq[T]]`).

Here the encoding is a heap-relative REPRESENTATION RELATION `R : Heap → T → Val → Prop` (`R h v x`: in heap `h` the
model value `x` represents the typed value `v`), monotone under heap extension, and

    `HTie c i R`  :  `R h v x → ∃ ext, (clone i x h).2 = h ++ ext ∧ R (h ++ ext) (c v) (clone i x h).1`

(the heap only grows, and in the GROWN heap the model's result represents what the pure function returns).
`Rep.Views R ty tr` connects a representation to the observation `view` of `Model/CloneHeap.lean`: related values are
well-formed and read as the heap-free tree `tr v`; hence `HTie.view_eq`: the view of the model's result in the new heap is
the tree of the pure function's result.

The combinators (`repOption`, `repPair`, `repList`) and their `htie_*` / `mono` / `views` lemmas compose at ANY depth.
-/
namespace FpVerif.CloneHeap

/-- heap-relative representation of typed values by model values -/
abbrev Rep (T : Type) := Heap → T → Val → Prop

/-- a representation survives allocation -/
def Rep.Mono {T : Type} (R : Rep T) : Prop := ∀ (h : Heap) (v : T) (x : Val) (ext : Heap), R h v x → R (h ++ ext) v x

/-- related model values are well-formed inhabitants of `ty` and read (following all references) as `tr v` -/
def Rep.Views {T : Type} (R : Rep T) (ty : Ty) (tr : T → Tree) : Prop :=
  ∀ (h : Heap) (v : T) (x : Val), R h v x → WT ty h x ∧ view ty h x = tr v

/-- THE HEAP-RELATIVE TIE: the instance expression `i` of the heap model maps a representation of `v` to a representation
    of `c v` in an EXTENSION of the heap -/
def HTie {T : Type} (c : T → T) (i : Inst) (R : Rep T) : Prop :=
  ∀ (v : T) (x : Val) (h : Heap), R h v x → ∃ ext, (clone i x h).2 = h ++ ext ∧ R (h ++ ext) (c v) (clone i x h).1

variable {T A B : Type}

-- representations ------------------------------------------------------------------------------------------------------

/-- a heap-independent encoding (the notion of `Tie` in `Spec/C18Gen.lean`) -/
def repEnc (enc : T → Val) : Rep T := fun _ v x => x = enc v
def repInt : Rep Int := repEnc Val.int
def repUnit : Rep Unit := repEnc fun _ => Val.unit

def repOption (R : Rep T) : Rep (Option T)
  | _, none, x => x = .none
  | h, some v, x => ∃ y, x = .some y ∧ R h v y

def repPair (R1 : Rep A) (R2 : Rep B) : Rep (A × B) :=
  fun h p x => ∃ a b, x = .pair a b ∧ R1 h p.1 a ∧ R2 h p.2 b

/-- a Go slice / `fp.Seq`: nil, or (backing array, length) whose first `len` cells represent the elements -/
def repList (R : Rep T) : Rep (List T) :=
  fun h vs x => (x = .nilslice ∧ vs = []) ∨
    ∃ a len ws, x = .slice a len ∧ h[a]? = some (.arr ws) ∧ len ≤ ws.length ∧ All2 (R h) vs (ws.take len)

def trOption (tr : T → Tree) : Option T → Tree
  | none => .none
  | some v => .some (tr v)
def trPair (t1 : A → Tree) (t2 : B → Tree) : A × B → Tree := fun p => .pair (t1 p.1) (t2 p.2)
def trList (tr : T → Tree) : List T → Tree := fun vs => .seq (vs.map tr)

-- monotonicity ---------------------------------------------------------------------------------------------------------

theorem Rep.Mono.pre {R : Rep T} (hm : R.Mono) {h h' : Heap} (p : h <+: h') {v : T} {x : Val} (hr : R h v x) :
    R h' v x := by
  obtain ⟨ext, rfl⟩ := p
  exact hm h v x ext hr

theorem repEnc_mono (enc : T → Val) : (repEnc enc).Mono := fun _ _ _ _ hr => hr
theorem repInt_mono : repInt.Mono := repEnc_mono _
theorem repUnit_mono : repUnit.Mono := repEnc_mono _

theorem repOption_mono {R : Rep T} (hm : R.Mono) : (repOption R).Mono := by
  intro h v x ext hr
  cases v with
  | none => exact hr
  | some v =>
    obtain ⟨y, hx, hy⟩ := hr
    exact ⟨y, hx, hm _ _ _ ext hy⟩

theorem repPair_mono {R1 : Rep A} {R2 : Rep B} (h1 : R1.Mono) (h2 : R2.Mono) : (repPair R1 R2).Mono := by
  intro h v x ext hr
  obtain ⟨a, b, hx, ha, hb⟩ := hr
  exact ⟨a, b, hx, h1 _ _ _ ext ha, h2 _ _ _ ext hb⟩

theorem repList_mono {R : Rep T} (hm : R.Mono) : (repList R).Mono := by
  intro h v x ext hr
  rcases hr with hr | ⟨a, len, ws, hx, hc, hl, hf⟩
  · exact .inl hr
  · exact .inr ⟨a, len, ws, hx, get_append ext hc, hl, hf.imp fun _ _ => hm _ _ _ ext⟩

-- views ----------------------------------------------------------------------------------------------------------------

theorem repInt_views : repInt.Views .int Tree.int := by
  intro h v x hr
  cases hr
  exact ⟨trivial, rfl⟩

theorem repUnit_views : repUnit.Views .unit (fun _ => Tree.unit) := by
  intro h v x hr
  cases hr
  exact ⟨trivial, rfl⟩

theorem repOption_views {R : Rep T} {ty : Ty} {tr : T → Tree} (hv : R.Views ty tr) :
    (repOption R).Views (.option ty) (trOption tr) := by
  intro h v x hr
  cases v with
  | none =>
    cases hr
    exact ⟨trivial, rfl⟩
  | some v =>
    obtain ⟨y, rfl, hy⟩ := hr
    exact ⟨(hv h v y hy).1, congrArg Tree.some (hv h v y hy).2⟩

theorem repPair_views {R1 : Rep A} {R2 : Rep B} {ta tb : Ty} {t1 : A → Tree} {t2 : B → Tree}
    (h1 : R1.Views ta t1) (h2 : R2.Views tb t2) : (repPair R1 R2).Views (.pair ta tb) (trPair t1 t2) := by
  intro h v x hr
  obtain ⟨a, b, rfl, ha, hb⟩ := hr
  have ha := h1 _ _ _ ha
  have hb := h2 _ _ _ hb
  exact ⟨⟨ha.1, hb.1⟩, congr (congrArg Tree.pair ha.2) hb.2⟩

theorem repList_views {R : Rep T} {ty : Ty} {tr : T → Tree} (hv : R.Views ty tr) :
    (repList R).Views (.slice ty) (trList tr) := by
  intro h v x hr
  rcases hr with ⟨rfl, rfl⟩ | ⟨a, len, ws, rfl, hc, hl, hf⟩
  · exact ⟨trivial, rfl⟩
  · refine ⟨⟨ws, hc, hl, hf.forall_right fun v x hr => (hv h v x hr).1⟩, ?_⟩
    rw [view_slice hc, hf.map_eq fun v x hr => (hv h v x hr).2]
    rfl

-- the ties compose -----------------------------------------------------------------------------------------------------

variable {c : T → T} {i : Inst} {R : Rep T}

/-- a tie, said with the heap the model returns: it extends `h`, and in it the result represents `c v` -/
theorem htie_iff : HTie c i R ↔
    ∀ v x h, R h v x → h <+: (clone i x h).2 ∧ R (clone i x h).2 (c v) (clone i x h).1 :=
  ⟨fun ht v x h hr => let ⟨ext, he, hr'⟩ := ht v x h hr; ⟨⟨ext, he.symm⟩, he ▸ hr'⟩,
   fun ht v x h hr => let ⟨⟨ext, he⟩, hr'⟩ := ht v x h hr; ⟨ext, he.symm, he ▸ hr'⟩⟩

/-- `clone.Given` at any representation: the value and the heap are returned as they are -/
theorem htie_given (R : Rep T) : HTie (fun v => v) .given R :=
  htie_iff.mpr fun _ _ h hr => ⟨List.prefix_refl h, hr⟩

theorem htie_hnil : HTie (fun _ => ()) .hnil repUnit :=
  htie_iff.mpr fun _ _ h _ => ⟨List.prefix_refl h, rfl⟩

/-- a tie with unchanged heap and heap-independent encoding is the special case `ext = []` -/
theorem htie_of_enc {enc : T → Val} (ht : ∀ v h, clone i (enc v) h = (enc (c v), h)) : HTie c i (repEnc enc) := by
  refine htie_iff.mpr fun v x h hr => ?_
  cases hr
  rw [ht]
  exact ⟨List.prefix_refl h, rfl⟩

theorem htie_option (ht : HTie c i R) : HTie (Option.map c) (.option i) (repOption R) := by
  refine htie_iff.mpr fun v x h hr => ?_
  cases v with
  | none =>
    cases hr
    exact ⟨List.prefix_refl h, rfl⟩
  | some v =>
    obtain ⟨y, rfl, hy⟩ := hr
    obtain ⟨p, hr'⟩ := htie_iff.mp ht v y h hy
    exact ⟨p, _, rfl, hr'⟩

theorem htie_pair {c1 : A → A} {c2 : B → B} {i1 i2 : Inst} {R1 : Rep A} {R2 : Rep B}
    (h1 : HTie c1 i1 R1) (h2 : HTie c2 i2 R2) (m1 : R1.Mono) (m2 : R2.Mono) :
    HTie (fun p => (c1 p.1, c2 p.2)) (.pair i1 i2) (repPair R1 R2) := by
  refine htie_iff.mpr fun v x h hr => ?_
  obtain ⟨a, b, rfl, ha, hb⟩ := hr
  obtain ⟨p1, hr1⟩ := htie_iff.mp h1 v.1 a h ha
  obtain ⟨p2, hr2⟩ := htie_iff.mp h2 v.2 b _ (m2.pre p1 hb)
  exact ⟨p1.trans p2, _, _, rfl, m1.pre p2 hr1, hr2⟩

/-- `seq.Map(s, tclone.Clone)`: the heap is threaded left to right and only grows; the results represent `vs.map c` in the
    final heap -/
theorem cloneList_htie (ht : HTie c i R) (hm : R.Mono) :
    ∀ (vs : List T) (xs : List Val) (h : Heap), All2 (R h) vs xs →
      h <+: (cloneList (clone i) xs h).2 ∧
        All2 (R (cloneList (clone i) xs h).2) (vs.map c) (cloneList (clone i) xs h).1 := by
  intro vs
  induction vs with
  | nil =>
    intro xs h hf
    cases hf
    exact ⟨List.prefix_refl h, .nil⟩
  | cons v vs ih =>
    intro xs h hf
    cases hf with
    | cons hvx hrest =>
      obtain ⟨p1, hr1⟩ := htie_iff.mp ht v _ h hvx
      obtain ⟨p2, hr2⟩ := ih _ _ (hrest.imp fun _ _ => hm.pre p1)
      exact ⟨p1.trans p2, .cons (hm.pre p2 hr1) hr2⟩

/-- `clone.Slice`: ALLOCATES the backing array of the result (after the element clones allocated theirs) — satisfied by
    the heap-relative tie, at any element tie -/
theorem htie_slice {c : T → T} {i : Inst} {R : Rep T} (ht : HTie c i R) (hm : R.Mono) :
    HTie (List.map c) (.slice i) (repList R) := by
  refine htie_iff.mpr fun v x h hr => ?_
  rcases hr with ⟨rfl, rfl⟩ | ⟨a, len, ws, rfl, hc, hl, hf⟩
  · exact ⟨List.prefix_append h _, .inr ⟨_, 0, [], rfl, List.getElem?_concat_length, Nat.le_refl 0, .nil⟩⟩
  · obtain ⟨p, hr⟩ := cloneList_htie ht hm v _ h hf
    rw [clone_slice hc]
    generalize cloneList (clone i) (ws.take len) h = r at p hr
    have q := List.prefix_append r.2 [.arr r.1]
    have hlen : len = r.1.length := by
      rw [← hr.length_eq, List.length_map, hf.length_eq, List.length_take, Nat.min_eq_left hl]
    refine ⟨p.trans q, .inr ⟨_, len, r.1, rfl, List.getElem?_concat_length, Nat.le_of_eq hlen, ?_⟩⟩
    rw [List.take_of_length_le (Nat.le_of_eq hlen.symm)]
    exact hr.imp fun _ _ => hm.pre q

/-- `clone.Seq`: as `clone.Slice` -/
theorem htie_seq {c : T → T} {i : Inst} {R : Rep T} (ht : HTie c i R) (hm : R.Mono) :
    HTie (List.map c) (.seq i) (repList R) :=
  fun v x h hr => clone_seq ▸ htie_slice ht hm v x h hr

-- what a heap-relative tie says in terms of `view` ----------------------------------------------------------------------

/-- the heap only grows, and the VIEW of the model's result in the new heap is the tree of the pure function's result -/
theorem HTie.view_eq {tr : T → Tree} (ht : HTie c i R) (hv : R.Views i.ty tr)
    {h : Heap} {v : T} {x : Val} (hr : R h v x) :
    ∃ ext, (clone i x h).2 = h ++ ext ∧ WT i.ty (clone i x h).2 (clone i x h).1 ∧
      view i.ty (clone i x h).2 (clone i x h).1 = tr (c v) := by
  obtain ⟨ext, he, hr'⟩ := ht v x h hr
  have := hv _ _ _ hr'
  exact ⟨ext, he, by rw [he]; exact this.1, by rw [he]; exact this.2⟩

end FpVerif.CloneHeap
