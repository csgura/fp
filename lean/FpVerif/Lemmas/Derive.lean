import FpVerif.Lemmas.RecordG
import FpVerif.Lemmas.TCOrd
/-!
# Helper lemmas for C08 (derived instances).  Core Lean only.

Per class, the tuple combinator of `Model/Derive.lean` is lawful on the tuples of its arity when its
components are: `tupleEq` (a conjunction, `tupleEq_iff`), `tupleHash`, `tupleLess` (one level is
`TC.lexLess` of `Lemmas/TCOrd`, whose lemmas give irreflexivity, transitivity and incomparability) with
`tupleOrd` = the reference pair under `OrdCompat` (`tupleOrd_spec`, through `OrdD.new_of_compat`),
`tupleCombine`.  Then: the components of a generic struct come from one source whatever the class
(`resolve_choice`, `components_*`); clones as runs of the allocator (`Block`, `cloneOK_of_run`,
`tupleClone_run`).
-/
namespace FpVerif.Derive
open FpVerif.Rec

variable {α : Type}

theorem zero_WF (s : StructSpec) : Rec.WF s s.zero := by simp [Rec.WF, StructSpec.zero]

theorem forall_mem_pair {P : α → Prop} {a b : α} (ha : P a) (hb : P b) : ∀ d ∈ [a, b], P d :=
  List.forall_mem_cons.2 ⟨ha, List.forall_mem_cons.2 ⟨hb, fun _ h => nomatch h⟩⟩

/-! ## eq -/

theorem tupleEq_cons (d : EqD α) (ds : List (EqD α)) (a b : α) (as bs : List α) :
    tupleEq (d :: ds) (a :: as) (b :: bs) = (d.eqv a b && tupleEq ds as bs) := by
  cases ds with
  | nil => exact (Bool.and_true _).symm
  | cons e ds => rfl

/-- the tuple `Eqv` is the conjunction of the component `Eqv`s -/
theorem tupleEq_iff (ds : List (EqD α)) (as bs : List α) (ha : as.length = ds.length)
    (hb : bs.length = ds.length) :
    tupleEq ds as bs = true ↔
      ∀ k (h : k < ds.length), (ds[k]).eqv (as[k]'(ha ▸ h)) (bs[k]'(hb ▸ h)) = true := by
  induction ds, as, bs, ha, hb using tuple_induction with
  | nil => exact ⟨fun _ k h => absurd h (Nat.not_lt_zero k), fun _ => rfl⟩
  | cons d ds a as b bs ha hb ih =>
    rw [tupleEq_cons, Bool.and_eq_true, ih]
    constructor
    · rintro ⟨h0, hr⟩ k hk
      cases k with
      | zero => exact h0
      | succ k => exact hr k (Nat.lt_of_succ_lt_succ hk)
    · exact fun h => ⟨h 0 (Nat.succ_pos _), fun k hk => h (k + 1) (Nat.succ_lt_succ hk)⟩

theorem tupleEq_refl (ds : List (EqD α)) (h : ∀ d ∈ ds, LawfulEq d) (as : List α)
    (ha : as.length = ds.length) : tupleEq ds as as = true := by
  rw [tupleEq_iff ds as as ha ha]
  intro k hk
  exact (h _ (List.getElem_mem hk)).refl _ trivial

theorem tupleEq_symm (ds : List (EqD α)) (h : ∀ d ∈ ds, LawfulEq d) (as bs : List α)
    (ha : as.length = ds.length) (hb : bs.length = ds.length) (e : tupleEq ds as bs = true) :
    tupleEq ds bs as = true := by
  rw [tupleEq_iff ds _ _ hb ha]
  rw [tupleEq_iff ds _ _ ha hb] at e
  intro k hk
  exact (h _ (List.getElem_mem hk)).symm _ _ trivial trivial (e k hk)

theorem tupleEq_trans (ds : List (EqD α)) (h : ∀ d ∈ ds, LawfulEq d) (as bs cs : List α)
    (ha : as.length = ds.length) (hb : bs.length = ds.length) (hc : cs.length = ds.length)
    (e1 : tupleEq ds as bs = true) (e2 : tupleEq ds bs cs = true) : tupleEq ds as cs = true := by
  rw [tupleEq_iff ds _ _ ha hc]
  rw [tupleEq_iff ds _ _ ha hb] at e1
  rw [tupleEq_iff ds _ _ hb hc] at e2
  intro k hk
  exact (h _ (List.getElem_mem hk)).trans _ _ _ trivial trivial trivial (e1 k hk) (e2 k hk)

/-- laws transfer along a function into the carrier (`eq.ContraMap`) -/
theorem LawfulEqOn.comap {β : Type} {P : α → Prop} {Q : β → Prop} {d : EqD α} (L : LawfulEqOn P d)
    (f : β → α) (hf : ∀ x, Q x → P (f x)) : LawfulEqOn Q ⟨fun a b => d.eqv (f a) (f b)⟩ where
  refl a qa := L.refl (f a) (hf a qa)
  symm a b qa qb := L.symm (f a) (f b) (hf a qa) (hf b qb)
  trans a b c qa qb qc := L.trans (f a) (f b) (f c) (hf a qa) (hf b qb) (hf c qc)

/-- `eq.TupleN` of equivalence relations is one on the tuples of its arity -/
theorem tupleEq_lawful (ds : List (EqD α)) (h : ∀ d ∈ ds, LawfulEq d) :
    LawfulEqOn (fun l : List α => l.length = ds.length) ⟨tupleEq ds⟩ :=
  ⟨tupleEq_refl ds h, tupleEq_symm ds h, tupleEq_trans ds h⟩

/-! ## hash -/

theorem tupleHash_cons2 (d e : HashD α) (ds : List (HashD α)) (a : α) (as : List α) :
    tupleHash (d :: e :: ds) (a :: as) = d.hash a * 31 + tupleHash (e :: ds) as := rfl

theorem tupleHash_congr (ds : List (HashD α)) (h : ∀ d ∈ ds, LawfulHash d) (as bs : List α)
    (ha : as.length = ds.length) (hb : bs.length = ds.length)
    (e : tupleEq (ds.map HashD.toEq) as bs = true) : tupleHash ds as = tupleHash ds bs := by
  induction ds, as, bs, ha, hb using tuple_induction with
  | nil => rfl
  | cons d ds a as b bs ha hb ih =>
    rw [List.map_cons, tupleEq_cons, Bool.and_eq_true] at e
    have h0 : d.hash a = d.hash b := (h d (List.mem_cons_self ..)).congr a b trivial trivial e.1
    have hr := ih (fun d hd => h d (List.mem_cons_of_mem _ hd)) e.2
    cases ds with
    | nil => exact h0
    | cons e' ds => rw [tupleHash_cons2, tupleHash_cons2, h0, hr]

theorem LawfulHashOn.comap {β : Type} {P : α → Prop} {Q : β → Prop} {d : HashD α}
    (L : LawfulHashOn P d) (f : β → α) (hf : ∀ x, Q x → P (f x)) :
    LawfulHashOn Q ⟨fun a b => d.eqv (f a) (f b), fun a => d.hash (f a)⟩ where
  congr a b qa qb := L.congr (f a) (f b) (hf a qa) (hf b qb)

theorem tupleHash_lawful (ds : List (HashD α)) (h : ∀ d ∈ ds, LawfulHash d) :
    LawfulHashOn (fun l : List α => l.length = ds.length)
      ⟨tupleEq (ds.map HashD.toEq), tupleHash ds⟩ :=
  ⟨tupleHash_congr ds h⟩

/-! ## ord -/

namespace LawfulOrdOn
variable {P : α → Prop} {d : OrdD α}

theorem asymm (L : LawfulOrdOn P d) {a b : α} (pa : P a) (pb : P b) (h : d.less a b = true) :
    d.less b a = false := by
  cases hba : d.less b a with
  | false => rfl
  | true =>
    have := L.trans a b a pa pb pa h hba
    rw [L.irrefl a pa] at this
    exact absurd this (by simp)

theorem incomp_trans (L : LawfulOrdOn P d) {a b c : α} (pa : P a) (pb : P b) (pc : P c)
    (h1 : d.less a b = false) (h2 : d.less b a = false)
    (h3 : d.less b c = false) (h4 : d.less c b = false) :
    d.less a c = false ∧ d.less c a = false :=
  (L.eqv_iff a c pa pc).1 (L.eqv_trans a b c pa pb pc ((L.eqv_iff a b pa pb).2 ⟨h1, h2⟩)
    ((L.eqv_iff b c pb pc).2 ⟨h3, h4⟩))

/-- a lawful order on every value is a strict weak order in the sense of `Lemmas/TCOrd` -/
theorem strictWeak {d : OrdD α} (L : LawfulOrd d) : TC.StrictWeak d.less where
  irrefl a := L.irrefl a trivial
  trans a b c := L.trans a b c trivial trivial trivial
  incomp_trans _ _ _ h1 h2 h3 h4 := L.incomp_trans trivial trivial trivial h1 h2 h3 h4

theorem toEq (L : LawfulOrdOn P d) : LawfulEqOn P d.toEq where
  refl a pa := (L.eqv_iff a a pa pa).2 ⟨L.irrefl a pa, L.irrefl a pa⟩
  symm a b pa pb h := (L.eqv_iff b a pb pa).2 ((L.eqv_iff a b pa pb).1 h).symm
  trans := L.eqv_trans

theorem total (L : LawfulOrdOn P d) {a b : α} (pa : P a) (pb : P b) :
    d.less a b = true ∨ d.eqv a b = true ∨ d.less b a = true := by
  cases h1 : d.less a b with
  | true => exact .inl rfl
  | false =>
    cases h2 : d.less b a with
    | true => exact .inr (.inr rfl)
    | false => exact .inr (.inl ((L.eqv_iff a b pa pb).2 ⟨h1, h2⟩))

theorem eqv_not_less (L : LawfulOrdOn P d) {a b : α} (pa : P a) (pb : P b)
    (h : d.eqv a b = true) : d.less a b = false :=
  ((L.eqv_iff a b pa pb).1 h).1

/-- laws transfer along a function into the carrier -/
theorem comap {β : Type} {Q : β → Prop} (L : LawfulOrdOn P d) (f : β → α)
    (hf : ∀ x, Q x → P (f x)) :
    LawfulOrdOn Q ⟨fun a b => d.eqv (f a) (f b), fun a b => d.less (f a) (f b)⟩ where
  irrefl a qa := L.irrefl (f a) (hf a qa)
  trans a b c qa qb qc := L.trans (f a) (f b) (f c) (hf a qa) (hf b qb) (hf c qc)
  eqv_iff a b qa qb := L.eqv_iff (f a) (f b) (hf a qa) (hf b qb)
  eqv_trans a b c qa qb qc := L.eqv_trans (f a) (f b) (f c) (hf a qa) (hf b qb) (hf c qc)

/-- laws only look at the values of `Eqv` / `Less` on the carrier -/
theorem congr {d' : OrdD α} (L : LawfulOrdOn P d)
    (h : ∀ a b, P a → P b → d'.eqv a b = d.eqv a b ∧ d'.less a b = d.less a b) :
    LawfulOrdOn P d' where
  irrefl a pa := by rw [(h a a pa pa).2]; exact L.irrefl a pa
  trans a b c pa pb pc := by
    rw [(h a b pa pb).2, (h b c pb pc).2, (h a c pa pc).2]; exact L.trans a b c pa pb pc
  eqv_iff a b pa pb := by
    rw [(h a b pa pb).1, (h a b pa pb).2, (h b a pb pa).2]; exact L.eqv_iff a b pa pb
  eqv_trans a b c pa pb pc := by
    rw [(h a b pa pb).1, (h b c pb pc).1, (h a c pa pc).1]; exact L.eqv_trans a b c pa pb pc

end LawfulOrdOn

/-- one level of the tuple order is the lexicographic step of `Lemmas/TCOrd` -/
theorem tupleLess_cons_lex (d : OrdD α) (ds : List (OrdD α)) (a b : α) (as bs : List α) :
    tupleLess (d :: ds) (a :: as) (b :: bs) = TC.lexLess d.less (tupleLess ds) (a, as) (b, bs) := by
  cases ds with
  | nil =>
    show d.less a b = if d.less a b then true else if d.less b a then false else false
    cases d.less a b <;> cases d.less b a <;> rfl
  | cons e ds => rfl

/-- the head decides, or it is "neither less" and the tails decide -/
theorem tupleLess_cons_iff (d : OrdD α) (ds : List (OrdD α)) (a b : α) (as bs : List α) :
    tupleLess (d :: ds) (a :: as) (b :: bs) = true ↔
      d.less a b = true ∨ (d.less a b = false ∧ d.less b a = false ∧ tupleLess ds as bs = true) := by
  rw [tupleLess_cons_lex, TC.lexLess_iff, and_assoc]

/-- `Less` of the tuple is the lexicographic order: the first position where the components are
    not "neither less" decides.  (No law needed: this is `tupleLess` unfolded.) -/
theorem tupleLess_iff (ds : List (OrdD α)) (as bs : List α) (ha : as.length = ds.length)
    (hb : bs.length = ds.length) :
    tupleLess ds as bs = true ↔
      ∃ k, ∃ h : k < ds.length,
        (∀ j (hj : j < k),
          (ds[j]'(Nat.lt_trans hj h)).less (as[j]'(ha ▸ Nat.lt_trans hj h))
              (bs[j]'(hb ▸ Nat.lt_trans hj h)) = false ∧
          (ds[j]'(Nat.lt_trans hj h)).less (bs[j]'(hb ▸ Nat.lt_trans hj h))
              (as[j]'(ha ▸ Nat.lt_trans hj h)) = false) ∧
        (ds[k]).less (as[k]'(ha ▸ h)) (bs[k]'(hb ▸ h)) = true := by
  induction ds, as, bs, ha, hb using tuple_induction with
  | nil => exact ⟨fun h => Bool.noConfusion h, fun ⟨_, h, _⟩ => absurd h (Nat.not_lt_zero _)⟩
  | cons d ds a as b bs ha hb ih =>
    rw [tupleLess_cons_iff, ih]
    constructor
    · rintro (h1 | ⟨h1, h2, k, hk, hpre, hlt⟩)
      · exact ⟨0, Nat.succ_pos _, fun j hj => absurd hj (Nat.not_lt_zero j), h1⟩
      · refine ⟨k + 1, Nat.succ_lt_succ hk, fun j hj => ?_, hlt⟩
        cases j with
        | zero => exact ⟨h1, h2⟩
        | succ j => exact hpre j (Nat.lt_of_succ_lt_succ hj)
    · rintro ⟨k, hk, hpre, hlt⟩
      cases k with
      | zero => exact .inl hlt
      | succ k =>
        exact .inr ⟨(hpre 0 (Nat.succ_pos k)).1, (hpre 0 (Nat.succ_pos k)).2, k,
          Nat.lt_of_succ_lt_succ hk, fun j hj => hpre (j + 1) (Nat.succ_lt_succ hj), hlt⟩

theorem tupleLess_irrefl (ds : List (OrdD α)) (h : ∀ d ∈ ds, LawfulOrd d) (as : List α) :
    tupleLess ds as as = false := by
  induction ds generalizing as with
  | nil => rfl
  | cons d ds ih =>
    cases as with
    | nil => cases ds <;> rfl
    | cons a as =>
      rw [tupleLess_cons_lex, TC.lexLess_self _ ((h d List.mem_cons_self).irrefl a trivial)]
      exact ih (fun d hd => h d (List.mem_cons_of_mem _ hd)) as

theorem tupleLess_trans (ds : List (OrdD α)) (h : ∀ d ∈ ds, LawfulOrd d) (as bs cs : List α)
    (ha : as.length = ds.length) (hb : bs.length = ds.length) (hc : cs.length = ds.length)
    (e1 : tupleLess ds as bs = true) (e2 : tupleLess ds bs cs = true) :
    tupleLess ds as cs = true := by
  induction ds, as, bs, ha, hb using tuple_induction generalizing cs with
  | nil => exact Bool.noConfusion e1
  | cons d ds a as b bs ha hb ih =>
    cases cs with
    | nil => cases hc
    | cons c cs =>
      rw [tupleLess_cons_lex] at e1 e2 ⊢
      exact TC.lexLess_trans (h d List.mem_cons_self).strictWeak
        (ih (fun d hd => h d (List.mem_cons_of_mem _ hd)) cs (Nat.succ.inj hc)) e1 e2

/-- the tuple `Eqv` (conjunction of component `Eqv`s) is exactly "neither tuple is `Less`" -/
theorem tupleEq_iff_not_less (ds : List (OrdD α)) (h : ∀ d ∈ ds, OrdCompat d) (as bs : List α)
    (ha : as.length = ds.length) (hb : bs.length = ds.length) :
    tupleEq (ds.map OrdD.toEq) as bs = true ↔
      (tupleLess ds as bs = false ∧ tupleLess ds bs as = false) := by
  induction ds, as, bs, ha, hb using tuple_induction with
  | nil => exact ⟨fun _ => ⟨rfl, rfl⟩, fun _ => rfl⟩
  | cons d ds a as b bs ha hb ih =>
    rw [List.map_cons, tupleEq_cons, tupleLess_cons_lex, tupleLess_cons_lex, Bool.and_eq_true,
      TC.lexLess_incomp_iff, ih fun d hd => h d (List.mem_cons_of_mem _ hd)]
    exact and_congr_left' (h d List.mem_cons_self a b)

theorem LawfulOrdOn.compat {d : OrdD α} (L : LawfulOrd d) : OrdCompat d :=
  fun a b => L.eqv_iff a b trivial trivial

/-- the reference pair (conjunction of `Eqv`s, lexicographic `Less`) is a lawful order -/
theorem tupleLex_lawful (ds : List (OrdD α)) (h : ∀ d ∈ ds, LawfulOrd d) :
    LawfulOrdOn (fun l : List α => l.length = ds.length)
      ⟨tupleEq (ds.map OrdD.toEq), tupleLess ds⟩ where
  irrefl a _ := tupleLess_irrefl ds h a
  trans a b c pa pb pc := tupleLess_trans ds h a b c pa pb pc
  eqv_iff a b pa pb := tupleEq_iff_not_less ds (fun d hd => (h d hd).compat) a b pa pb
  eqv_trans a b c pa pb pc :=
    tupleEq_trans (ds.map OrdD.toEq)
      (fun d hd => by
        obtain ⟨d', hd', rfl⟩ := List.mem_map.1 hd
        exact (h d' hd').toEq)
      a b c (by simpa using pa) (by simpa using pb) (by simpa using pc)

/-- `ord.New(eqv, less)` is the pair `(eqv, less)` wherever `eqv` is "neither is less" -/
theorem OrdD.new_of_compat (e l : α → α → Bool) (a b : α)
    (h : e a b = true ↔ (l a b = false ∧ l b a = false)) :
    (OrdD.new e l).eqv a b = e a b ∧ (OrdD.new e l).less a b = l a b := by
  cases he : e a b <;> cases hab : l a b <;> cases hba : l b a <;> simp_all [OrdD.new]

theorem tupleOrd_nil (as bs : List α) :
    (tupleOrd ([] : List (OrdD α))).eqv as bs = true ∧ (tupleOrd ([] : List (OrdD α))).less as bs = false := by
  simp [tupleOrd, OrdD.new]

/-- the generated `ord.TupleN` (every level wrapped in `ord.New`) computes the reference pair
    when every component's `Eqv` is "neither is less" -/
theorem tupleOrd_spec (ds : List (OrdD α)) (h : ∀ d ∈ ds, OrdCompat d) (as bs : List α)
    (ha : as.length = ds.length) (hb : bs.length = ds.length) :
    (tupleOrd ds).eqv as bs = tupleEq (ds.map OrdD.toEq) as bs ∧
      (tupleOrd ds).less as bs = tupleLess ds as bs := by
  induction ds generalizing as bs with
  | nil => simp [tupleOrd, OrdD.new, tupleEq, tupleLess]
  | cons d ds ih =>
    cases as with
    | nil => cases ha
    | cons a as =>
    cases bs with
    | nil => cases hb
    | cons b bs =>
      have h' : ∀ d ∈ ds, OrdCompat d := fun d hd => h d (List.mem_cons_of_mem _ hd)
      have i1 := ih h' as bs (Nat.succ.inj ha) (Nat.succ.inj hb)
      have i2 := ih h' bs as (Nat.succ.inj hb) (Nat.succ.inj ha)
      -- the reference pair at `d :: ds` is compatible; rewritten by the IH into `tupleOrd ds` it is
      -- the hypothesis under which this level's `ord.New` is the pair it wraps (`new_of_compat`)
      have C := tupleEq_iff_not_less (d :: ds) h (a :: as) (b :: bs) ha hb
      simp only [List.map_cons, tupleEq_cons, tupleLess_cons_lex, TC.lexLess] at C ⊢
      rw [← i1.1, ← i1.2, ← i2.2] at C
      rw [← i1.1, ← i1.2]
      exact OrdD.new_of_compat _ _ (a :: as) (b :: bs) C

/-- `ord.TupleN` of lawful components is a lawful order on the tuples of its arity -/
theorem tupleOrd_lawful (ds : List (OrdD α)) (h : ∀ d ∈ ds, LawfulOrd d) :
    LawfulOrdOn (fun l : List α => l.length = ds.length) (tupleOrd ds) :=
  (tupleLex_lawful ds h).congr fun a b pa pb =>
    tupleOrd_spec ds (fun d hd => (h d hd).compat) a b pa pb

/-- `ord.ContraMap(inst, fn)` is `inst` read through `fn`, wherever `inst.Eqv` is "neither is less" -/
theorem OrdD.contraMap_spec {β : Type} (inst : OrdD α) (fn : β → α) (a b : β)
    (h : inst.eqv (fn a) (fn b) = true ↔
      (inst.less (fn a) (fn b) = false ∧ inst.less (fn b) (fn a) = false)) :
    (OrdD.contraMap inst fn).eqv a b = inst.eqv (fn a) (fn b) ∧
      (OrdD.contraMap inst fn).less a b = inst.less (fn a) (fn b) :=
  OrdD.new_of_compat _ _ a b h

theorem LawfulOrdOn.contraMap {β : Type} {P : α → Prop} {Q : β → Prop} {inst : OrdD α}
    (L : LawfulOrdOn P inst) (f : β → α) (hf : ∀ x, Q x → P (f x)) :
    LawfulOrdOn Q (OrdD.contraMap inst f) :=
  (L.comap f hf).congr fun a b qa qb =>
    OrdD.contraMap_spec inst f a b (L.eqv_iff (f a) (f b) (hf a qa) (hf b qb))

/-! ## monoid -/

theorem tupleEmpty_length (ds : List (MonoidD α)) : (tupleEmpty ds).length = ds.length := by
  simp [tupleEmpty]

theorem tupleCombine_cons (d : MonoidD α) (ds : List (MonoidD α)) (a b : α) (as bs : List α) :
    tupleCombine (d :: ds) (a :: as) (b :: bs) = d.combine a b :: tupleCombine ds as bs := rfl

theorem tupleCombine_length (ds : List (MonoidD α)) (as bs : List α) (ha : as.length = ds.length)
    (hb : bs.length = ds.length) : (tupleCombine ds as bs).length = ds.length := by
  induction ds, as, bs, ha, hb using tuple_induction with
  | nil => rfl
  | cons d ds a as b bs ha hb ih => exact congrArg Nat.succ ih

/-- component `k` of the result is the `k`-th instance applied to the `k`-th components -/
theorem tupleCombine_getElem (ds : List (MonoidD α)) (as bs : List α) (ha : as.length = ds.length)
    (hb : bs.length = ds.length) (k : Nat) (hk : k < ds.length) :
    (tupleCombine ds as bs)[k]'(tupleCombine_length ds as bs ha hb ▸ hk) =
      (ds[k]).combine (as[k]'(ha ▸ hk)) (bs[k]'(hb ▸ hk)) := by
  induction ds, as, bs, ha, hb using tuple_induction generalizing k with
  | nil => cases hk
  | cons d ds a as b bs ha hb ih =>
    cases k with
    | zero => rfl
    | succ k => exact ih k (Nat.lt_of_succ_lt_succ hk)

theorem derivedMonoid_combine (s : StructSpec) (zero : List α) (ds : List (MonoidD α)) (a b : List α) :
    (derivedMonoid s zero ds).combine a b =
      fromZero s zero (tupleCombine ds (unapplyG s a) (unapplyG s b)) := rfl

theorem derivedMonoid_empty (s : StructSpec) (zero : List α) (ds : List (MonoidD α)) :
    (derivedMonoid s zero ds).empty = fromZero s zero (tupleEmpty ds) := rfl

theorem Forall2.length_eq {β : Type} {R : α → β → Prop} {as : List α} {bs : List β}
    (h : Forall2 R as bs) : as.length = bs.length := by
  induction h with
  | nil => rfl
  | cons _ _ ih => simp [ih]

theorem Forall2.of_forall {β : Type} {R : α → β → Prop} (as : List α) (b : β)
    (h : ∀ a ∈ as, R a b) : Forall2 R as (as.map fun _ => b) := by
  induction as with
  | nil => exact .nil
  | cons a as ih => exact .cons (h a (by simp)) (ih fun a ha => h a (by simp [ha]))

/-- the trivial carriers: one `True` per component -/
theorem InCarriers.trivial (ds : List (MonoidD α)) (vs : List α) (h : vs.length = ds.length) :
    InCarriers (ds.map fun _ => fun _ : α => True) vs := by
  induction ds, vs, h using tuple_induction₁ with
  | nil => exact .nil
  | cons d ds v vs h ih => exact .cons True.intro ih

theorem tupleCombine_left_id (ds : List (MonoidD α)) (Ps : List (α → Prop))
    (h : LawfulMonoids ds Ps) (as : List α) (ha : InCarriers Ps as) :
    tupleCombine ds (tupleEmpty ds) as = as := by
  induction h generalizing as with
  | nil => cases ha; rfl
  | @cons d P ds Ps hd _ ih =>
    cases ha with
    | cons pa ha =>
      show d.combine d.empty _ :: tupleCombine ds (tupleEmpty ds) _ = _
      rw [hd.left_id _ pa, ih _ ha]

theorem tupleCombine_right_id (ds : List (MonoidD α)) (Ps : List (α → Prop))
    (h : LawfulMonoids ds Ps) (as : List α) (ha : InCarriers Ps as) :
    tupleCombine ds as (tupleEmpty ds) = as := by
  induction h generalizing as with
  | nil => cases ha; rfl
  | @cons d P ds Ps hd _ ih =>
    cases ha with
    | cons pa ha =>
      show d.combine _ d.empty :: tupleCombine ds _ (tupleEmpty ds) = _
      rw [hd.right_id _ pa, ih _ ha]

theorem tupleCombine_assoc (ds : List (MonoidD α)) (Ps : List (α → Prop))
    (h : LawfulMonoids ds Ps) (as bs cs : List α) (ha : InCarriers Ps as) (hb : InCarriers Ps bs)
    (hc : InCarriers Ps cs) :
    tupleCombine ds (tupleCombine ds as bs) cs = tupleCombine ds as (tupleCombine ds bs cs) := by
  induction h generalizing as bs cs with
  | nil => rfl
  | @cons d P ds Ps hd _ ih =>
    cases ha with
    | cons pa ha =>
    cases hb with
    | cons pb hb =>
    cases hc with
    | cons pc hc =>
      simp only [tupleCombine_cons]
      rw [hd.assoc _ _ _ pa pb pc, ih _ _ _ ha hb hc]

/-! ## generic structs -/

/-- the component of a field comes from the same source whatever the class: the dictionary passed
    for one type parameter, or the instance in scope for the field's type -/
theorem resolve_choice (params : List String) (f : Field) :
    (∃ n, ∀ {D : Type} (pd : String → D) (given : Ty → D), resolve params pd given f = pd n) ∨
      ∀ {D : Type} (pd : String → D) (given : Ty → D), resolve params pd given f = given f.ty := by
  cases hty : f.ty with
  | conc n =>
    cases hn : params.contains n
    · exact .inr fun pd given => by simp only [resolve, hty, hn, Bool.false_eq_true, if_false]
    · exact .inl ⟨n, fun pd given => by simp only [resolve, hty, hn, if_true]⟩
  | iface nm all impls => exact .inr fun pd given => by simp only [resolve, hty]
  | opt e => exact .inr fun pd given => by simp only [resolve, hty]

theorem components_length {D : Type} (s : StructSpec) (params : List String) (given : Ty → D)
    (pd : String → D) : (components s params given pd).length = s.nApp :=
  List.length_map _

/-- every component of a generic instance is the parameter dictionary or an in-scope instance -/
theorem components_all {D : Type} (P : D → Prop) (s : StructSpec) (params : List String)
    (given : Ty → D) (pd : String → D) (hg : ∀ t, P (given t)) (hp : ∀ n, P (pd n)) :
    ∀ c ∈ components s params given pd, P c := by
  intro c hc
  obtain ⟨f, _, rfl⟩ := List.mem_map.1 hc
  rcases resolve_choice params f with ⟨n, h⟩ | h
  · rw [h]; exact hp n
  · rw [h]; exact hg _

/-- … and the components of two classes are related when the dictionaries and the in-scope
    instances are -/
theorem components_forall2 {D E : Type} (R : D → E → Prop) (s : StructSpec) (params : List String)
    (g1 : Ty → D) (p1 : String → D) (g2 : Ty → E) (p2 : String → E) (hg : ∀ t, R (g1 t) (g2 t))
    (hp : ∀ n, R (p1 n) (p2 n)) :
    Forall2 R (components s params g1 p1) (components s params g2 p2) := by
  unfold components
  induction s.applicableFields with
  | nil => exact .nil
  | cons f fs ih =>
    refine .cons ?_ ih
    rcases resolve_choice params f with ⟨n, h⟩ | h
    · rw [h, h]; exact hp n
    · rw [h, h]; exact hg _

/-- what holds of every value in the carrier of its position holds of the values position by position -/
theorem Forall2.of_carriers {β : Type} {S : α → β → Prop} {as : List α} {Ps : List (β → Prop)}
    {vs : List β} (h : Forall2 (fun a P => ∀ v, P v → S a v) as Ps) (hv : InCarriers Ps vs) :
    Forall2 S as vs := by
  induction h generalizing vs with
  | nil => cases hv; exact .nil
  | cons ha _ ih =>
    cases hv with
    | cons pv hrest => exact .cons (ha _ pv) (ih hrest)

/-! ## clone -/

@[simp] theorem runAlloc_pure (a : α) (n : Nat) : runAlloc (pure a) n = (a, n) := rfl

@[simp] theorem runAlloc_bind {β : Type} (m : Alloc α) (f : α → Alloc β) (n : Nat) :
    runAlloc (m >>= f) n = runAlloc (f (runAlloc m n).1) (runAlloc m n).2 := rfl

@[simp] theorem runAlloc_fresh (n : Nat) : runAlloc fresh n = (n, n + 1) := rfl

/-- a block of addresses allocated between counter `n` and counter `n'`, pairwise distinct -/
def Block (l : List Nat) (n n' : Nat) : Prop := (∀ a ∈ l, n ≤ a ∧ a < n') ∧ l.Nodup

theorem Block.nil (n n' : Nat) : Block [] n n' := ⟨by simp, by simp⟩

theorem Block.append {l1 l2 : List Nat} {n m k : Nat} (h1 : Block l1 n m) (h2 : Block l2 m k)
    (hnm : n ≤ m) (hmk : m ≤ k) : Block (l1 ++ l2) n k := by
  refine ⟨fun a ha => ?_, ?_⟩
  · rcases List.mem_append.1 ha with ha | ha
    · have := h1.1 a ha; omega
    · have := h2.1 a ha; omega
  · rw [List.nodup_append]
    refine ⟨h1.2, h2.2, fun a ha b hb => ?_⟩
    have := h1.1 a ha; have := h2.1 b hb; omega

theorem Block.cons {l : List Nat} {n k : Nat} (h : Block l (n + 1) k) (hk : n + 1 ≤ k) :
    Block (n :: l) n k := by
  have := Block.append (l1 := [n]) (n := n) (m := n + 1) ⟨by simp, by simp⟩ h (by omega) hk
  simpa using this

/-! `HV.same` on two given constructors computes: to `false` when they differ. -/

theorem HV.leaf_of_same {s : String} {w : HV} (h : (HV.leaf s).same w = true) : w = .leaf s := by
  cases w with
  | leaf t => rw [of_decide_eq_true h]
  | ref a c => exact Bool.noConfusion h
  | pair l r => exact Bool.noConfusion h

theorem HV.ref_of_same {a : Nat} {c w : HV} (h : (HV.ref a c).same w = true) :
    ∃ a' c', w = .ref a' c' ∧ c.same c' = true := by
  cases w with
  | leaf s => exact Bool.noConfusion h
  | ref a' c' => exact ⟨a', c', rfl, h⟩
  | pair l r => exact Bool.noConfusion h

theorem HV.pair_of_same {l r w : HV} (h : (HV.pair l r).same w = true) :
    ∃ l' r', w = .pair l' r' ∧ l.same l' = true ∧ r.same r' = true := by
  cases w with
  | leaf s => exact Bool.noConfusion h
  | ref a' c' => exact Bool.noConfusion h
  | pair l' r' => exact ⟨l', r', rfl, Bool.and_eq_true_iff.1 h⟩

theorem HV.same_refl (v : HV) : v.same v = true := by
  induction v with
  | leaf s => exact decide_eq_true rfl
  | ref a c ih => exact ih
  | pair l r ihl ihr => exact Bool.and_eq_true_iff.2 ⟨ihl, ihr⟩

theorem HV.same_symm (v w : HV) (h : v.same w = true) : w.same v = true := by
  induction v generalizing w with
  | leaf s => rw [HV.leaf_of_same h, HV.same_refl]
  | ref a c ih =>
    obtain ⟨a', c', rfl, hc⟩ := HV.ref_of_same h
    exact ih c' hc
  | pair l r ihl ihr =>
    obtain ⟨l', r', rfl, hl, hr⟩ := HV.pair_of_same h
    exact Bool.and_eq_true_iff.2 ⟨ihl l' hl, ihr r' hr⟩

theorem HV.same_trans (u v w : HV) (h1 : u.same v = true) (h2 : v.same w = true) :
    u.same w = true := by
  induction u generalizing v w with
  | leaf s => rwa [HV.leaf_of_same h1] at h2
  | ref a c ih =>
    obtain ⟨a', c', rfl, hc⟩ := HV.ref_of_same h1
    obtain ⟨a'', c'', rfl, hc'⟩ := HV.ref_of_same h2
    exact ih c' c'' hc hc'
  | pair l r ihl ihr =>
    obtain ⟨l', r', rfl, hl, hr⟩ := HV.pair_of_same h1
    obtain ⟨l'', r'', rfl, hl', hr'⟩ := HV.pair_of_same h2
    exact Bool.and_eq_true_iff.2 ⟨ihl l' l'' hl hl', ihr r' r'' hr hr'⟩

theorem CloneOK.block {d : CloneD HV} {v : HV} (h : CloneOK d v) (n : Nat) :
    Block (runAlloc (d.clone v) n).1.addrs n (runAlloc (d.clone v) n).2 :=
  ⟨h.fresh n, h.nodup n⟩

/-- a clone whose every run returns the same content in one block of fresh addresses -/
theorem cloneOK_of_run {d : CloneD HV} {v : HV}
    (h : ∀ n, (runAlloc (d.clone v) n).1.same v = true ∧ n ≤ (runAlloc (d.clone v) n).2 ∧
      Block (runAlloc (d.clone v) n).1.addrs n (runAlloc (d.clone v) n).2) : CloneOK d v where
  same n := (h n).1
  mono n := (h n).2.1
  fresh n := (h n).2.2.1
  nodup n := (h n).2.2.2

/-- `clone.Given` is a lawful clone of a value that holds no mutable storage -/
theorem given_ok (v : HV) (hv : v.addrs = []) : CloneOK CloneD.given v :=
  cloneOK_of_run fun n => by
    simp only [CloneD.given, runAlloc_pure, hv]
    exact ⟨HV.same_refl v, Nat.le_refl n, Block.nil n n⟩

theorem pure_ok_leaf (d : CloneD HV) (t : String) (h : ∀ n, runAlloc (d.clone (.leaf t)) n = (.leaf t, n)) :
    CloneOK d (.leaf t) :=
  cloneOK_of_run fun n => by
    rw [h n]
    exact ⟨HV.same_refl _, Nat.le_refl n, by simpa [HV.addrs] using Block.nil n n⟩

theorem deepClone_run (v : HV) (n : Nat) :
    (runAlloc (deepClone v) n).1.same v = true ∧ n ≤ (runAlloc (deepClone v) n).2 ∧
      Block (runAlloc (deepClone v) n).1.addrs n (runAlloc (deepClone v) n).2 := by
  induction v generalizing n with
  | leaf s => simp [deepClone, HV.same, HV.addrs, Block.nil]
  | ref a c ih =>
    obtain ⟨h1, h2, h3⟩ := ih (n + 1)
    simp only [deepClone, runAlloc_bind, runAlloc_fresh, runAlloc_pure, HV.same, HV.addrs]
    exact ⟨h1, by omega, h3.cons h2⟩
  | pair l r ihl ihr =>
    obtain ⟨l1, l2, l3⟩ := ihl n
    obtain ⟨r1, r2, r3⟩ := ihr (runAlloc (deepClone l) n).2
    simp only [deepClone, runAlloc_bind, runAlloc_pure, HV.same, HV.addrs, Bool.and_eq_true]
    exact ⟨⟨l1, r1⟩, by omega, l3.append r3 l2 r2⟩

theorem deepClone_ok (v : HV) : CloneOK CloneD.deep v := cloneOK_of_run (deepClone_run v)

theorem sameL_refl (vs : List HV) : sameL vs vs = true := by
  induction vs with
  | nil => rfl
  | cons v vs ih => simp [sameL, HV.same_refl, ih]

theorem ofRV_addrs (v : RV) : (HV.ofRV v).addrs = [] := by
  induction v with
  | atom s => rfl
  | none => rfl
  | some v ih => simp [HV.ofRV, HV.addrs, ih]
  | nilIface => rfl
  | iface d v ih => simp [HV.ofRV, HV.addrs, ih]

@[simp] theorem addrsL_nil : addrsL [] = [] := rfl
@[simp] theorem addrsL_cons (v : HV) (vs : List HV) : addrsL (v :: vs) = v.addrs ++ addrsL vs := rfl

/-- the tuple clone: component-wise same content, one block of fresh addresses -/
theorem tupleClone_run (ds : List (CloneD HV)) (vs : List HV) (h : Forall2 CloneOK ds vs)
    (n : Nat) :
    sameL (runAlloc (tupleClone ds vs) n).1 vs = true ∧ n ≤ (runAlloc (tupleClone ds vs) n).2 ∧
      (runAlloc (tupleClone ds vs) n).1.length = vs.length ∧
      Block (addrsL (runAlloc (tupleClone ds vs) n).1) n (runAlloc (tupleClone ds vs) n).2 := by
  induction h generalizing n with
  | nil => simp [tupleClone, sameL, Block.nil]
  | @cons d v ds vs hd _ ih =>
    obtain ⟨t1, t2, t3, t4⟩ := ih (runAlloc (d.clone v) n).2
    simp only [tupleClone, runAlloc_bind, runAlloc_pure, sameL, addrsL_cons,
      Bool.and_eq_true, List.length_cons]
    refine ⟨⟨hd.same n, t1⟩, ?_, by simpa using t3, (hd.block n).append t4 (hd.mono n) t2⟩
    have := hd.mono n
    omega

/-- addresses of a record assembled on the zero builder: exactly those of the injected tuple -/
theorem addrsL_injectG_zero_eq (fs : List Field) (t : List HV)
    (ht : t.length = (fs.filter Field.applicable).length) :
    addrsL (injectG fs (fs.map (fun f => HV.ofRV f.zero)) t) = addrsL t := by
  induction fs generalizing t with
  | nil =>
    obtain rfl := List.length_eq_zero_iff.1 ht
    rfl
  | cons f fs ih =>
    rw [List.map_cons, injectG_cons]
    rw [List.filter_cons] at ht
    cases hf : f.applicable
    · rw [hf] at ht
      rw [if_neg Bool.false_ne_true, addrsL_cons, ofRV_addrs, ih t ht]
      rfl
    · rw [hf, if_pos rfl] at ht
      cases t with
      | nil => cases ht
      | cons v t =>
        rw [if_pos rfl, addrsL_cons, addrsL_cons]
        exact congrArg (v.addrs ++ ·) (ih t (Nat.succ.inj ht))

end FpVerif.Derive
