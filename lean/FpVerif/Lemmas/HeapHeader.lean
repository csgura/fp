import FpVerif.Lemmas.HeapSimRes
/-!
The `*hamt` header cell: what an operation on a whole map must deliver (`HSimRes`), `absHamt` cell by cell and its
frame rule, the end of `(*hamt).set` / `delete` (the header written in place or cloned).
One notion in three forms, each for its place of use: `HSimRes` (resp. `SimRes`, `DRes` for a node) is stated of the
heap a run has left; `HQ` (`SetQ`, `DelQ`) is the same with the arguments in the order of a postcondition of `Ref`;
`PRes` (`Lemmas/HeapPersist`) packs it with the run itself, for a call of the histories.
-/
namespace FpVerif.HamtHeap
open FpVerif.Hamt
variable {K V : Type}

/-- the analogue of `SimRes` for `*hamt` headers -/
def HSimRes (mu : Bool) (H : Heap K V) (fp : List Addr) (H' : Heap K V) (m' : Addr) (a' : Hamt K V) : Prop :=
  ∃ fp', absHamt H' m' = some (a', fp') ∧ fp'.Nodup ∧ Eff H H' (if mu then fp else []) ∧
    ∀ x ∈ fp', x ∈ fp ∨ H.size ≤ x

/-- `HSimRes` as what a heap program on a `*hamt` delivers for the value-level result -/
def HQ (mu : Bool) (H : Heap K V) (fp : List Addr) (m' : Addr) (a' : Hamt K V) (H' : Heap K V) : Prop :=
  HSimRes mu H fp H' m' a'

theorem absHamt_nil {H : Heap K V} {m : Addr} {sz : Nat} (hc : H[m]? = some (.hamt sz none)) :
    absHamt H m = some (⟨sz, none⟩, [m]) := by
  simp [absHamt, hc]

theorem absHamt_root {H : Heap K V} {m : Addr} {sz : Nat} {r : Addr} (hc : H[m]? = some (.hamt sz (some r))) :
    absHamt H m = (absF trieFuel 0 H r).map fun x => (⟨sz, some x.1⟩, m :: x.2) := by
  simp [absHamt, hc]

theorem absHamt_cell {H : Heap K V} {m : Addr} {a : Hamt K V} {fp : List Addr} (h : absHamt H m = some (a, fp)) :
    (∃ sz, H[m]? = some (.hamt sz none) ∧ a = ⟨sz, none⟩ ∧ fp = [m]) ∨
    (∃ sz r n fpr, H[m]? = some (.hamt sz (some r)) ∧ absF trieFuel 0 H r = some (n, fpr) ∧
      a = ⟨sz, some n⟩ ∧ fp = m :: fpr) := by
  unfold absHamt at h
  split at h
  · rename_i sz hc; cases h; exact Or.inl ⟨sz, hc, rfl, rfl⟩
  · rename_i sz r hc
    simp only [Option.map_eq_some_iff] at h
    obtain ⟨⟨n, fpr⟩, habs, he⟩ := h; cases he
    exact Or.inr ⟨sz, r, n, fpr, hc, habs, rfl, rfl⟩
  · cases h

theorem absHamt_lt {H : Heap K V} {m : Addr} {a : Hamt K V} {fp : List Addr} (h : absHamt H m = some (a, fp))
    {x : Addr} (hx : x ∈ fp) : x < H.size := by
  rcases absHamt_cell h with ⟨sz, hc, _, rfl⟩ | ⟨sz, r, n, fpr, hc, habs, _, rfl⟩
  · simp at hx; subst hx; exact lt_size_of_get hc
  · simp only [List.mem_cons] at hx
    rcases hx with rfl | hx
    · exact lt_size_of_get hc
    · exact absF_lt habs hx

/-- frame rule for `*hamt` -/
theorem absHamt_agree {H H' : Heap K V} {m : Addr} {a : Hamt K V} {fp : List Addr}
    (h : absHamt H m = some (a, fp)) (hag : ∀ x ∈ fp, H'[x]? = H[x]?) : absHamt H' m = some (a, fp) := by
  rcases absHamt_cell h with ⟨sz, hc, rfl, rfl⟩ | ⟨sz, r, n, fpr, hc, habs, rfl, rfl⟩
  · exact absHamt_nil (by rw [hag m (by simp), hc])
  · rw [absHamt_root (by rw [hag m (by simp), hc]), absF_agree habs (fun x hx => hag x (by simp [hx]))]; rfl

theorem absHamt_le {H H' : Heap K V} {m : Addr} {a : Hamt K V} {fp : List Addr}
    (h : absHamt H m = some (a, fp)) (hle : Heap.le H H') : absHamt H' m = some (a, fp) :=
  absHamt_agree h (fun x hx => hle.2 x (absHamt_lt h hx))

theorem Eff.absHamt {H H' : Heap K V} {W : List Addr} (he : Eff H H' W) {m : Addr} {a : Hamt K V} {fp : List Addr}
    (h : HamtHeap.absHamt H m = some (a, fp)) (hd : ∀ x ∈ fp, x ∉ W) : HamtHeap.absHamt H' m = some (a, fp) :=
  absHamt_agree h (fun x hx => he.2 x (absHamt_lt h hx) (hd x hx))

/-- the end of `(*hamt).set` (and of a `delete` that leaves a root): the new root goes into the header,
    which is written in place or cloned -/
theorem hamtSet_finish {H H1 : Heap K V} {m : Addr} {fpr fp1 : List Addr} {p1 : Addr} {n1 : Node K V}
    {mu : Bool} (hm : m < H.size) (hmr : m ∉ fpr) (habs1 : absF trieFuel 0 H1 p1 = some (n1, fp1))
    (hnd1 : fp1.Nodup) (heff1 : Eff H H1 (if mu then fpr else [])) (hsub1 : ∀ a ∈ fp1, a ∈ fpr ∨ H.size ≤ a)
    (sz' : Nat) :
    ∃ m' H', (if mu = true then store m (.hamt sz' (some p1)) >>= fun _ => pure m
        else alloc (.hamt sz' (some p1))) H1 = .ok (m', H') ∧ HSimRes mu H (m :: fpr) H' m' ⟨sz', some n1⟩ := by
  have hm1 : m < H1.size := Nat.lt_of_lt_of_le hm heff1.1
  have hmfp1 : m ∉ fp1 := fun h' => (hsub1 m h').elim hmr (fun h'' => by omega)
  have hsub : ∀ x ∈ fp1, x ∈ m :: fpr ∨ H.size ≤ x := fun x hx => (hsub1 x hx).imp (fun h' => by simp [h']) id
  cases mu with
  | true =>
    have heff1 : Eff H H1 fpr := heff1
    rw [if_pos rfl, bind_ok (store_apply _ hm1)]
    refine ⟨_, _, rfl, m :: fp1, ?_, List.nodup_cons.mpr ⟨hmfp1, hnd1⟩,
      Eff.trans (heff1.mono (fun x hx _ => by simp [hx])) (Eff.set _ _ _ (by simp)), ?_⟩
    · rw [absHamt_root (get_set_eq _ hm1), (Eff.set H1 m _ (W := [m]) (by simp)).absF habs1 (by
        intro x hx; simp only [List.mem_singleton]; intro h'; exact hmfp1 (h' ▸ hx))]
      rfl
    · intro x hx
      rcases List.mem_cons.mp hx with rfl | hx
      · simp
      · exact hsub x hx
  | false =>
    rw [if_neg Bool.false_ne_true, alloc_apply]
    refine ⟨_, _, rfl, H1.size :: fp1, ?_, nodup_fresh1 hnd1 (fun x hx => absF_lt habs1 hx),
      Eff.of_le (Heap.le_trans heff1.to_le (Heap.le_push _ _)) _, ?_⟩
    · rw [absHamt_root (get_push_size _ _), absF_le habs1 (Heap.le_push _ _)]; rfl
    · intro x hx
      rcases List.mem_cons.mp hx with rfl | hx
      · right; exact heff1.1
      · exact hsub x hx

theorem HSimRes.le {H H' : Heap K V} {fp : List Addr} {m' : Addr} {a' : Hamt K V}
    (h : HSimRes false H fp H' m' a') : Heap.le H H' := by
  obtain ⟨_, _, _, he, _⟩ := h; exact he.to_le

theorem HQ.refl {H : Heap K V} {m : Addr} {a : Hamt K V} {fp : List Addr}
    (habs : absHamt H m = some (a, fp)) (hnd : fp.Nodup) : HQ false H fp m a H :=
  ⟨fp, habs, hnd, Eff.refl _ _, fun _ hx => Or.inl hx⟩

/-- sequencing: a persistent step after a persistent computation -/
theorem HSimRes.seq {H H1 H2 : Heap K V} {fp fp1 : List Addr} {m2 : Addr} {a2 : Hamt K V}
    (he1 : Eff H H1 []) (hs1 : ∀ x ∈ fp1, x ∈ fp ∨ H.size ≤ x) (h2 : HSimRes false H1 fp1 H2 m2 a2) :
    HSimRes false H fp H2 m2 a2 := by
  obtain ⟨fp2, hab2, hnd2, he2, hs2⟩ := h2
  refine ⟨fp2, hab2, hnd2, Eff.trans he1 he2, ?_⟩
  intro x hx
  rcases hs2 x hx with h' | h'
  · exact hs1 x h'
  · right; have := he1.1; omega

end FpVerif.HamtHeap
