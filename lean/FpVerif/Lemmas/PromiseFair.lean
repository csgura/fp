import FpVerif.Lemmas.PromiseFinal
/-!
# Promise: infinite fair schedules, and the per-callback form of the conservation invariant.

`prefixOf σ n` is the finite schedule made of the first `n` entries of the infinite schedule `σ`.
`Fair` is WEAK fairness restricted to the threads that still have something to do: an unfinished
thread is scheduled again, some time.
-/
namespace FpVerif.Promise
open FpVerif.Sched

variable {R : Type}

/-- the first `n` entries of an infinite schedule -/
def prefixOf (σ : Nat → Tid) (n : Nat) : List Tid := (List.range n).map σ

/-- every thread that is unfinished after `n` entries is named by some later entry -/
def Fair (v : Variant) (s : PSys R) (σ : Nat → Tid) : Prop :=
  ∀ n t l, (prun v s (prefixOf σ n)).threads[t]? = some l → l.finished = false →
    ∃ m, n ≤ m ∧ σ m = t

theorem Fair.of_infinitely_often (v : Variant) (s : PSys R) (σ : Nat → Tid)
    (h : ∀ n t, t < s.threads.length → ∃ m, n ≤ m ∧ σ m = t) : Fair v s σ := by
  intro n t l hl _
  apply h n t
  rw [← run_length (stepT := stepT v) s (prefixOf σ n)]
  exact (List.getElem?_eq_some_iff.mp hl).1

/-! ### finite schedules made of fair rounds -/

/-- `sched` can be cut into `k` consecutive segments each of which names every thread id `< n` -/
def HasRounds (n : Nat) : Nat → List Tid → Prop
  | 0, _ => True
  | k + 1, sched => ∃ a b, sched = a ++ b ∧ (∀ t, t < n → t ∈ a) ∧ HasRounds n k b

theorem hasRounds_roundRobin (n k : Nat) : HasRounds n k (roundRobin n k) := by
  induction k with
  | zero => trivial
  | succ k ih => exact ⟨List.range n, roundRobin n k, rfl, fun t ht => List.mem_range.mpr ht, ih⟩

/-- any finite schedule containing `measure s` fair rounds reaches quiescence -/
theorem rounds_finish (v : Variant) (k : Nat) (s : PSys R) (hinv : InvA s) (sched : List Tid)
    (hm : measure s ≤ k) (hr : HasRounds s.threads.length k sched) :
    allFinished (prun v s sched) = true := by
  induction k generalizing s sched with
  | zero =>
    have hf := (progress v).finished_of_measure_zero hinv (Nat.le_zero.mp hm)
    rw [prun, (progress v).run_of_finished hf]
    exact hf
  | succ k ih =>
    obtain ⟨a, b, rfl, ha, hb⟩ := hr
    exact (progress v).round_finishes hinv ha
      (fun s' hi' hlen hlt => ih s' hi' b (by omega) (hlen ▸ hb))

/-! ### where one callback is, when its registrations have returned and no completer is running -/

/-- a thread that is not registering `c` (or has returned from doing so) and is not inside the
    callback loop of `Complete` does not hold `c` -/
theorem holds_zero_of_settled (c : Cb) (sh : Shared R) (l : Local R)
    (hreg : l.prog = .register c → l.finished = true)
    (hrun : ∀ r sl i cb, l ≠ .cRun r sl i cb) : holds c sh l = 0 := by
  cases l with
  | cRun r sl i cb => exact absurd rfl (hrun r sl i cb)
  | rGet cb | rAppend cb _ _ | rCas cb _ _ | rCall cb _ =>
    by_cases h : cb = c
    · subst h; simp [Local.prog, Local.finished] at hreg
    · simp [holds, h]
  | _ => rfl

theorem finished_of_allFinished {s : PSys R} (hq : allFinished s = true) {l : Local R}
    (hl : l ∈ s.threads) : l.finished = true :=
  List.all_eq_true.mp hq l hl

theorem no_cRun_of_allFinished {s : PSys R} (hq : allFinished s = true) :
    ∀ l ∈ s.threads, ∀ r sl i cb, l ≠ .cRun r sl i cb := by
  rintro l hl r sl i cb rfl
  cases finished_of_allFinished hq hl

/-- Conservation read at a settled callback: the cell is done, nobody is inside the callback loop
    of `Complete`, the registrations of `cb` have returned — so every registration of `cb` is in
    the log. -/
theorem invocations_settled {total : Cb → Nat} {s : PSys R} (hB : InvB total s) (cb : Cb)
    (hd : s.shared.cell.isDone = true)
    (hrun : ∀ l ∈ s.threads, ∀ r sl i c, l ≠ .cRun r sl i c)
    (hreg : ∀ l ∈ s.threads, l.prog = .register cb → l.finished = true) :
    invocations cb s = total cb := by
  have h := hB.cons cb
  have h0 : sumBy (holds cb s.shared) s.threads = 0 :=
    sumBy_eq_zero (fun x hx => holds_zero_of_settled cb s.shared x (hreg x hx) (hrun x hx))
  have h1 : cellCount cb s.shared = 0 := by
    unfold cellCount
    cases hc : s.shared.cell with
    | cbs sl => rw [hc] at hd; cases hd
    | _ => rfl
  rw [occ, h0, h1] at h
  exact (Nat.zero_add _).symm.trans h

/-- Conservation read at any moment: what is in the log was registered. -/
theorem invocations_le {total : Cb → Nat} {s : PSys R} (hB : InvB total s) (cb : Cb) :
    invocations cb s ≤ total cb := by
  rw [← hB.cons cb, occ]
  exact Nat.le_add_left _ _

/-- user-visible deliveries of one callback, when all invocations carry `r` -/
theorem delivered_filter_length {α : Type} (r : Try α) (cb : Cb) :
    ∀ (log : List (Cb × Try α)), (∀ p ∈ log, p.2 = r) →
    ((delivered log).filter (fun p => decide (p.1 = cb))).length =
      if cb.wants r = true then (log.map (·.1)).count cb else 0
  | [], _ => by simp [delivered]
  | (c, r') :: ps, hval => by
    have hr : r' = r := hval (c, r') (by simp)
    subst hr
    have ih := delivered_filter_length r' cb ps (fun p hp => hval p (by simp [hp]))
    have hd : delivered ((c, r') :: ps) =
        if c.wants r' = true then (c, r') :: delivered ps else delivered ps := by
      simp [delivered, List.filter_cons]
    rw [hd]
    by_cases hc : c = cb
    · subst hc
      by_cases hw : c.wants r' = true
      · simp only [hw, if_true] at ih ⊢
        simp [ih]
      · simp only [hw] at ih ⊢
        simpa using ih
    · by_cases hw : c.wants r' = true
      · simp only [hw, if_true]
        simp [hc, ih]
      · simp only [hw]
        simp [ih, hc]

/-- what the user sees of a callback invoked exactly once, on a promise completed with `r` -/
theorem delivered_of_invoked_once {α : Type} {s : PSys (Try α)} (hA : InvA s) {r : Try α}
    (hd : s.shared.cell = .done r) {cb : Cb} (hone : invocations cb s = 1) :
    ((delivered s.shared.log).filter (fun p => p.1 = cb)).length = (if cb.wants r then 1 else 0) ∧
    ∀ p ∈ delivered s.shared.log, p.2 = r := by
  have hval : ∀ p ∈ s.shared.log, p.2 = r := fun p hp =>
    (Cell.done.inj ((hA.log p hp).symm.trans hd))
  refine ⟨?_, fun p hp => hval p (List.mem_filter.mp hp).1⟩
  rw [delivered_filter_length r cb _ hval]
  exact congrArg (fun n => if cb.wants r = true then n else 0) hone

/-- a returned winner excludes a completer inside its callback loop -/
theorem no_cRun_of_winner_returned {s : PSys R} (hA : InvA s) {i : Nat} {r : R}
    (hi : s.threads[i]? = some (.cRet r true)) :
    ∀ l ∈ s.threads, ∀ r' sl j cb, l ≠ .cRun r' sl j cb := by
  intro l hl r' sl j cb heq
  subst heq
  obtain ⟨k, hk, hget⟩ := List.getElem_of_mem hl
  have hk' : s.threads[k]? = some (.cRun r' sl j cb) := by
    simp [List.getElem?_eq_getElem hk, hget]
  cases winner_unique hA hi hk' rfl rfl
  rw [hi] at hk'
  cases hk'

/-! ### the log only grows -/

theorem trans_log_ext {v : Variant} {sh sh' : Shared R} {l l' : Local R} (h : Trans v sh l sh' l') :
    ∃ ext, sh'.log = sh.log ++ ext := by
  cases h with
  | cRun | rCall => exact ⟨_, rfl⟩
  | _ => exact ⟨[], (List.append_nil _).symm⟩

theorem invocations_mono (v : Variant) (cb : Cb) (s : PSys R) (more : List Tid) :
    invocations cb s ≤ invocations cb (prun v s more) := by
  refine rel_run (Inv := fun _ => True) (Rel := fun s0 s => invocations cb s0 ≤ invocations cb s)
    (fun _ _ _ _ _ => trivial) (fun _ => Nat.le_refl _) (fun s0 s t s' _ hr hs => ?_) trivial more
  obtain ⟨l, sh, l', hl, htr, rfl⟩ := step_trans hs
  obtain ⟨ext, hext⟩ := trans_log_ext htr
  refine Nat.le_trans hr ?_
  simp only [invocations, hext, List.map_append, List.count_append]
  exact Nat.le_add_right _ _

end FpVerif.Promise
