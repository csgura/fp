import FpVerif.Lemmas.ListXLoops
/-!
# `list.Recurrence1 / Recurrence2` — every memo cell is started at most once; the first traversal
# computes the unfolded recurrence
-/
namespace FpVerif.LX.Rec
open FpVerif.It FpVerif.LL

/-! ## at most once -/

structure RHeap.WF (hp : RHeap) : Prop where
  hs : ∀ (i : Nat) c, hp.hs[i]? = some c → cellOk c
  ts : ∀ (i : Nat) c, hp.ts[i]? = some c → cellOk c

theorem RHeap.WF.empty : ({} : RHeap).WF := ⟨by simp, by simp⟩

/-- `Good (fun hp hp' => hp.WF → hp'.WF) m` unfolded: the rules of `wfPre` apply to it as it stands -/
def RPres {X : Type} (m : RM X) : Prop := ∀ hp lg, hp.WF → (m hp lg).2.1.WF

theorem wfPre : Pre fun (hp hp' : RHeap) => hp.WF → hp'.WF := Pre.imp _

theorem pres_mk (a1 a2 : Val) : RPres (mk a1 a2) := by
  intro hp lg wf
  exact ⟨arr_push_ok wf.hs rfl, arr_push_ok wf.ts rfl⟩

theorem pres_forceH (c : Nat) : RPres (forceH c) := by
  intro hp lg wf
  show (forceH c hp lg).2.1.WF
  unfold forceH
  simp only [bind_apply, get_apply]
  rcases hcell : hp.hs[c]? with _ | ⟨cell, n⟩
  · simpa using wf
  · rcases cell with t | _ | w
    · have hn : n = 0 := wf.hs c _ hcell
      subst hn
      exact ⟨arr_set_ok c wf.hs rfl, wf.ts⟩
    · simpa using wf
    · simpa using wf

theorem pres_runT (rel : Rel) (t : RThunk) : RPres (runT rel t) := by
  cases rel with
  | r1 f => exact wfPre.bind (wfPre.liftG _) (fun _ => pres_mk _ _)
  | r2 f => exact wfPre.bind (wfPre.liftG _) (fun _ => pres_mk _ _)

theorem pres_forceT (rel : Rel) (c : Nat) : RPres (forceT rel c) := by
  intro hp lg wf
  show (forceT rel c hp lg).2.1.WF
  unfold forceT
  rcases hcell : hp.ts[c]? with _ | ⟨cell, n⟩
  · simpa using wf
  · rcases cell with t | _ | w
    · have hn : n = 0 := wf.ts c _ hcell
      subst hn
      have wf1 : ({ hp with ts := hp.ts.set! c (.running, 0 + 1) } : RHeap).WF := ⟨wf.hs, arr_set_ok c wf.ts rfl⟩
      have h2 := pres_runT rel t _ lg wf1
      simp only []
      rcases hr : runT rel t { hp with ts := hp.ts.set! c (.running, 0 + 1) } lg with ⟨_ | v, hp', lg'⟩
      · rw [hr] at h2; exact ⟨h2.hs, arr_set_ok c h2.ts rfl⟩
      · rw [hr] at h2; exact ⟨h2.hs, arr_set_ok c h2.ts rfl⟩
    · simpa using wf
    · simpa using wf

theorem pres_isEmpty (l : RV) : RPres (isEmpty l) := by
  cases l with
  | nilIface => exact wfPre.panic _
  | adaptor hc tc => exact wfPre.bind (pres_forceH hc) (fun _ => wfPre.pure _)

theorem pres_head (l : RV) : RPres (head l) := by
  cases l with
  | nilIface => exact wfPre.panic _
  | adaptor hc tc =>
    refine wfPre.bind (pres_forceH hc) (fun o => ?_)
    cases o
    · exact wfPre.panic _
    · exact wfPre.pure _

theorem pres_tail (rel : Rel) (l : RV) : RPres (tail rel l) := by
  cases l with
  | nilIface => exact wfPre.panic _
  | adaptor hc tc => exact pres_forceT rel tc

theorem pres_recurrence (rel : Rel) (a1 a2 : Val) : RPres (recurrence rel a1 a2) := by
  cases rel <;> exact pres_mk _ _

theorem pres_take (rel : Rel) : ∀ n cur out, RPres (take rel n cur out) := by
  intro n
  induction n with
  | zero => intro cur out; exact wfPre.pure _
  | succ n ih => intro cur out; exact wfPre.bind (pres_head cur) (fun _ => wfPre.bind (pres_tail rel cur) (fun t => ih t _))

theorem pres_nth (rel : Rel) : ∀ k cur, RPres (nth rel k cur) := by
  intro k
  induction k with
  | zero => intro cur; exact pres_head cur
  | succ k ih => intro cur; exact wfPre.bind (pres_tail rel cur) (fun t => ih t)

theorem WF.maxEvals_le (hp : RHeap) (wf : hp.WF) : hp.maxEvals ≤ 1 := by
  unfold RHeap.maxEvals
  apply foldl_max_le _ _ _ (fun i c hc => cellOk_le c (wf.ts i c hc))
  apply foldl_max_le _ _ _ (fun i c hc => cellOk_le c (wf.hs i c hc))
  omega

/-! ## the first traversal -/

/-- the relation as a function -/
inductive RelP where
  | r1 (g : Val → Val)
  | r2 (g : Val → Val → Val)

/-- the captured pair of the next `getTail` closure -/
def RelP.next : RelP → Val × Val → Val × Val
  | .r1 g, (a1, _) => (g a1, .unit)
  | .r2 g, (a1, a2) => (a2, g a1 a2)

/-- the unfolded recurrence: `a1, a2, rel(a1,a2), …` -/
def RelP.unfold (r : RelP) : Nat → Val × Val → List Val
  | 0, _ => []
  | n + 1, s => s.1 :: r.unfold n (r.next s)

def RelP.iter (r : RelP) : Nat → Val × Val → Val × Val
  | 0, s => s
  | n + 1, s => r.iter n (r.next s)

/-- the pair captured by the first `getTail` closure: `Recurrence1(a1, rel)` has no second seed -/
def RelP.start : RelP → Val → Val → Val × Val
  | .r1 _, a1, _ => (a1, .unit)
  | .r2 _, a1, a2 => (a1, a2)

/-- `rel` returns normally and computes `relp` (it may log) -/
def RelTotal : Rel → RelP → Prop
  | .r1 f, .r1 g => Total f g
  | .r2 f, .r2 g => Total2 f g
  | _, _ => False

/-- both cells of the list are still pending and have captured `s` -/
def Fresh (hp : RHeap) (l : RV) (s : Val × Val) : Prop :=
  ∃ hc tc, l = .adaptor hc tc ∧ hp.hs[hc]? = some (.pending s.1, 0) ∧ hp.ts[tc]? = some (.pending ⟨s.1, s.2⟩, 0)

theorem fresh_recurrence {rel : Rel} {relp : RelP} (hr : RelTotal rel relp) (a1 a2 : Val) (lg : Log) :
    ∃ l hp, recurrence rel a1 a2 {} lg = (.ok l, hp, lg) ∧
      Fresh hp l (relp.start a1 a2) := by
  cases rel <;> cases relp <;> simp only [RelTotal] at hr
  · exact ⟨_, _, rfl, 0, 0, rfl, by simp [RelP.start], by simp [RelP.start]⟩
  · exact ⟨_, _, rfl, 0, 0, rfl, by simp [RelP.start], by simp [RelP.start]⟩

theorem head_fresh {hp : RHeap} {l : RV} {s : Val × Val} (h : Fresh hp l s) (lg : Log) :
    ∃ hp', head l hp lg = (.ok s.1, hp', lg) ∧ hp'.ts = hp.ts := by
  obtain ⟨hc, tc, rfl, hh, _⟩ := h
  refine ⟨{ hp with hs := hp.hs.set! hc (.done (some s.1), 0 + 1) }, ?_, rfl⟩
  simp [head, forceH, bind_apply, get_apply, hh, IM.modify]

/-- the heap after forcing the pending `getTail` cell `tc` whose closure produced the pair `(b1, b2)` -/
def afterTail (hp : RHeap) (tc : Nat) (b1 b2 : Val) : RHeap :=
  { hs := hp.hs.push (.pending b1, 0),
    ts := ((hp.ts.set! tc (.running, 0 + 1)).push (.pending ⟨b1, b2⟩, 0)).set! tc
      (.done (.adaptor hp.hs.size (hp.ts.set! tc (.running, 0 + 1)).size), 0 + 1) }

/-- the `getTail` closure calls the relation once and builds the list of the next pair -/
theorem runT_total {rel : Rel} {relp : RelP} (hr : RelTotal rel relp) (a1 a2 : Val) (hp : RHeap) (lg : Log) :
    ∃ lg', runT rel ⟨a1, a2⟩ hp lg = mk (relp.next (a1, a2)).1 (relp.next (a1, a2)).2 hp lg' := by
  cases rel <;> cases relp <;> simp only [RelTotal] at hr
  case r1.r1 f g =>
    obtain ⟨lg1, h1⟩ := hr a1 lg
    exact ⟨lg1, by simp [runT, bind_apply, IM.liftG, h1, RelP.next]⟩
  case r2.r2 f g =>
    obtain ⟨lg1, h1⟩ := hr a1 a2 lg
    exact ⟨lg1, by simp [runT, bind_apply, IM.liftG, h1, RelP.next]⟩

theorem tail_pending {rel : Rel} {relp : RelP} (hr : RelTotal rel relp) {hp : RHeap} {hc tc : Nat} {s : Val × Val}
    (ht : hp.ts[tc]? = some (.pending ⟨s.1, s.2⟩, 0)) (lg : Log) :
    ∃ l' hp' lg', tail rel (.adaptor hc tc) hp lg = (.ok l', hp', lg') ∧ Fresh hp' l' (relp.next s) := by
  have hne : tc ≠ hp.ts.size := Nat.ne_of_lt (get_lt ht)
  obtain ⟨lg1, h1⟩ := runT_total hr s.1 s.2 { hp with ts := hp.ts.set! tc (.running, 0 + 1) } lg
  refine ⟨.adaptor hp.hs.size hp.ts.size, afterTail hp tc (relp.next s).1 (relp.next s).2, lg1, ?_,
    hp.hs.size, hp.ts.size, rfl, ?_, ?_⟩
  · simp only [tail, forceT, ht, h1, mk]
    simp [afterTail]
  · simp [afterTail]
  · simp [afterTail, Array.set!_eq_setIfInBounds, Array.getElem_push, hne]

/-- the client loop on a fresh list: the unfolded recurrence -/
theorem take_fresh {rel : Rel} {relp : RelP} (hr : RelTotal rel relp) :
    ∀ (n : Nat) (cur : RV) (s : Val × Val) (out : List Val) (hp : RHeap) (lg : Log), Fresh hp cur s →
      ∃ hp' lg', take rel n cur out hp lg = (.ok (out ++ relp.unfold n s), hp', lg') := by
  intro n
  induction n with
  | zero => intro cur s out hp lg _; exact ⟨hp, lg, by simp [take, RelP.unfold]⟩
  | succ n ih =>
    intro cur s out hp lg hF
    obtain ⟨hp1, h1, hts⟩ := head_fresh hF lg
    obtain ⟨hc, tc, rfl, _, ht⟩ := hF
    obtain ⟨l', hp2, lg2, h2, hF2⟩ := tail_pending (hc := hc) hr (hp := hp1) (by rw [hts]; exact ht) lg
    obtain ⟨hp', lg', h3⟩ := ih l' _ (out ++ [s.1]) hp2 lg2 hF2
    exact ⟨hp', lg', by simp [take, bind_ok h1, bind_ok h2, h3, RelP.unfold, List.append_assoc]⟩

theorem nth_fresh {rel : Rel} {relp : RelP} (hr : RelTotal rel relp) :
    ∀ (k : Nat) (cur : RV) (s : Val × Val) (hp : RHeap) (lg : Log), Fresh hp cur s →
      ∃ hp' lg', nth rel k cur hp lg = (.ok (relp.iter k s).1, hp', lg') := by
  intro k
  induction k with
  | zero =>
    intro cur s hp lg hF
    obtain ⟨hp1, h1, _⟩ := head_fresh hF lg
    exact ⟨hp1, lg, by simpa [nth, RelP.iter] using h1⟩
  | succ k ih =>
    intro cur s hp lg hF
    obtain ⟨hc, tc, rfl, _, ht⟩ := hF
    obtain ⟨l', hp2, lg2, h2, hF2⟩ := tail_pending (hc := hc) hr ht lg
    obtain ⟨hp', lg', h3⟩ := ih l' _ hp2 lg2 hF2
    exact ⟨hp', lg', by simp [nth, bind_ok h2, h3, RelP.iter]⟩

end FpVerif.LX.Rec
