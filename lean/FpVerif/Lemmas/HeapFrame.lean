import FpVerif.Lemmas.HeapBasic
/-!
The copying path only allocates: `mergeIntoNode`, `set` / `delete` with `mutable = false`, the array
expansion, `(*hamt).set/delete(…, false)`, `Removed` never `store`.  No well-formedness is assumed.
Each proof walks its program once: `Pres.bind` along the sequence, `Pres.ite` / a case split at
each branch, `Pres.copying` at each test of `mutable`.
-/
namespace FpVerif.HamtHeap
open FpVerif.Hamt
variable {K V : Type}

theorem Pres.hmergeN : ∀ (F : Nat) (node : Addr) (shift : Nat) (kh : UInt32) (k : K) (v : V),
    Pres (hmergeN F node shift kh k v) := by
  intro F
  induction F with
  | zero => intro node shift kh k v; exact Pres.fail _
  | succ F ih =>
    intro node shift kh k v
    unfold HamtHeap.hmergeN
    refine Pres.bind (Pres.keyHashValueAt _) fun kh' => Pres.ite (Pres.ite (Pres.fail _) ?_) ?_
    · exact Pres.bind (ih _ _ _ _ _) fun _ => Pres.bind (Pres.allocSlots _ _) fun _ => Pres.alloc _
    · refine Pres.bind (Pres.alloc _) fun _ => Pres.ite ?_ ?_
      · exact Pres.bind (Pres.allocSlots _ _) fun _ => Pres.alloc _
      · exact Pres.bind (Pres.allocSlots _ _) fun _ => Pres.alloc _

theorem Pres.hsetCoreN (h : Hasher K) {ex : List (K × V) → K → V → Bool → HM K V (Addr × Bool)}
    (hex : ∀ es k v r, Pres (ex es k v r)) :
    ∀ (F : Nat) (n : Addr) (k : K) (v : V) (shift : Nat) (kh : UInt32) (r : Bool),
    Pres (hsetCoreN h ex F n k v shift kh false r) := by
  intro F
  induction F with
  | zero => intro n k v shift kh r; exact Pres.fail _
  | succ F ih =>
    intro n k v shift kh r
    unfold HamtHeap.hsetCoreN
    refine Pres.bind (Pres.load _) fun c => ?_
    cases c with
    | array sl =>
      refine Pres.bind (Pres.loadEnts _) fun es => Pres.ite (hex _ _ _ _) (Pres.copying ?_)
      split
      · exact Pres.newNode _ _ _ _
      · exact Pres.newNode _ _ _ _
    | bitmap bm sl =>
      refine Pres.bind (Pres.loadPtrs _) fun nodes => ?_
      -- `rest` is what follows `newNode, resized := …`; it is entered from three places
      extract_lets frg bit exists_ r' idx rest
      have hrest : ∀ x, Pres (rest x) := by
        intro x
        refine Pres.ite ?_ (Pres.copying (Pres.ite ?_ ?_))
        · exact Pres.bind (Pres.liftE _) fun _ => Pres.bind_pure (Pres.alloc _) _
        · exact Pres.newNode _ _ _ _
        · exact Pres.newNode _ _ _ _
      refine Pres.ite ?_ (Pres.bind (Pres.alloc _) fun _ => Pres.bind (Pres.pure _) hrest)
      split
      · exact Pres.bind (ih _ _ _ _ _ _) hrest
      · exact Pres.bind (Pres.fail _) hrest
    | hashArray count nodes =>
      dsimp only
      split
      · exact Pres.fail _
      · split
        · exact Pres.bind (Pres.alloc _) fun _ => Pres.bind (Pres.pure _) fun _ =>
            Pres.copying (Pres.bind_pure (Pres.alloc _) _)
        · exact Pres.bind (ih _ _ _ _ _ _) fun _ => Pres.copying (Pres.bind_pure (Pres.alloc _) _)
    | value nkh nk nv =>
      refine Pres.ite (Pres.copying (Pres.bind_pure (Pres.alloc _) _)) (Pres.ite ?_ ?_)
      · exact Pres.bind_pure (Pres.hmergeN _ _ _ _ _ _) _
      · exact Pres.newNode _ _ _ _
    | collision nkh sl =>
      refine Pres.ite (Pres.bind_pure (Pres.hmergeN _ _ _ _ _ _) _) ?_
      refine Pres.bind (Pres.loadEnts _) fun es => Pres.copying ?_
      split
      · exact Pres.newNode _ _ _ _
      · exact Pres.newNode _ _ _ _
    | _ => exact Pres.fail _

theorem Pres.hsetTrieN (h : Hasher K) (F : Nat) (n : Addr) (k : K) (v : V) (shift : Nat) (kh : UInt32)
    (r : Bool) : Pres (hsetTrieN h F n k v shift kh false r) :=
  Pres.hsetCoreN h (fun _ _ _ _ => Pres.fail _) F n k v shift kh r

theorem Pres.hexpandArray (h : Hasher K) (es : List (K × V)) (k : K) (v : V) (r : Bool) :
    Pres (hexpandArray h es k v r) :=
  Pres.bind (Pres.alloc _) fun _ => Pres.foldlM (fun _ _ => Pres.hsetTrieN h _ _ _ _ _ _ _) _ _

/-- **frame, `set`**: with `mutable = false` no existing cell is written -/
theorem Pres.hsetN (h : Hasher K) (F : Nat) (n : Addr) (k : K) (v : V) (shift : Nat) (kh : UInt32)
    (r : Bool) : Pres (hsetN h F n k v shift kh false r) :=
  Pres.hsetCoreN h (Pres.hexpandArray h) F n k v shift kh r

/-- **frame, `delete`**: with `mutable = false` no existing cell is written -/
theorem Pres.hdeleteN (h : Hasher K) :
    ∀ (F : Nat) (n : Addr) (k : K) (shift : Nat) (kh : UInt32) (r : Bool),
    Pres (hdeleteN (V := V) h F n k shift kh false r) := by
  intro F
  induction F with
  | zero => intro n k shift kh r; exact Pres.fail _
  | succ F ih =>
    intro n k shift kh r
    unfold HamtHeap.hdeleteN
    refine Pres.bind (Pres.load _) fun c => ?_
    cases c with
    | array sl =>
      refine Pres.bind (Pres.loadEnts _) fun es => ?_
      split
      · exact Pres.pure _
      · exact Pres.ite (Pres.pure _) (Pres.copying (Pres.newNode _ _ _ _))
    | bitmap bm sl =>
      refine Pres.bind (Pres.loadPtrs _) fun nodes => Pres.ite (Pres.pure _) ?_
      extract_lets idx
      split
      · exact Pres.fail _
      · refine Pres.bind (ih _ _ _ _ _) fun x => ?_
        obtain ⟨newChild, r'⟩ := x
        refine Pres.ite (Pres.pure _) ?_
        cases newChild with
        | none => exact Pres.ite (Pres.pure _) (Pres.copying (Pres.newNode _ _ _ _))
        | some c => exact Pres.copying (Pres.newNode _ _ _ _)
    | hashArray count nodes =>
      dsimp only
      split
      · exact Pres.fail _
      · exact Pres.pure _
      · refine Pres.bind (ih _ _ _ _ _) fun x => Pres.ite (Pres.pure _) (Pres.ite ?_ (Pres.copying ?_))
        · exact Pres.newNode _ _ _ _
        · exact Pres.bind_pure (Pres.alloc _) _
    | value nkh nk nv => exact Pres.ite (Pres.pure _) (Pres.pure _)
    | collision nkh sl =>
      refine Pres.bind (Pres.loadEnts _) fun es => ?_
      split
      · exact Pres.pure _
      · refine Pres.ite ?_ (Pres.copying (Pres.newNode _ _ _ _))
        split
        · exact Pres.bind_pure (Pres.alloc _) _
        · exact Pres.fail _
    | _ => exact Pres.fail _

theorem Pres.hamtNew : Pres (hamtNew : HM K V Addr) := Pres.alloc _

theorem Pres.hamtSet (h : Hasher K) (m : Addr) (k : K) (v : V) : Pres (hamtSet h m k v false) := by
  unfold HamtHeap.hamtSet
  refine Pres.bind (Pres.load _) fun c => ?_
  split
  · rename_i size root
    extract_lets finish
    have hfin : ∀ x, Pres (finish x) := fun (_, _) => Pres.copying (Pres.alloc _)
    cases root with
    | none =>
      exact Pres.bind (Pres.allocSlots _ _) fun _ => Pres.bind (Pres.alloc _) fun _ =>
        Pres.bind (Pres.pure _) hfin
    | some root =>
      exact Pres.bind (Pres.hsetN h _ _ _ _ _ _ _) fun (_, _) => Pres.bind (Pres.pure _) hfin
  · exact Pres.fail _

theorem Pres.hamtUpdated (h : Hasher K) (m : Addr) (k : K) (v : V) : Pres (hamtUpdated h m k v) :=
  Pres.hamtSet h m k v

theorem Pres.hamtDelete (h : Hasher K) (m : Addr) (k : K) : Pres (hamtDelete (V := V) h m k false) := by
  unfold HamtHeap.hamtDelete
  refine Pres.bind (Pres.load _) fun c => ?_
  split
  · rename_i size root
    cases root with
    | none => exact Pres.pure _
    | some root =>
      exact Pres.bind (Pres.hdeleteN h _ _ _ _ _ _) fun (_, _) =>
        Pres.ite (Pres.pure _) (Pres.copying (Pres.alloc _))
  · exact Pres.fail _

theorem Pres.hamtRemoved (h : Hasher K) (m : Addr) (ks : List K) : Pres (hamtRemoved (V := V) h m ks) :=
  Pres.foldlM (fun b a => Pres.hamtDelete h b a) _ _

end FpVerif.HamtHeap
