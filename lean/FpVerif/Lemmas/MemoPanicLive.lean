import FpVerif.Lemmas.MemoPanicInv
/-!
# Progress of the concurrent `sync.Once` cell (`Model/MemoPanic.lean`)

* `calls`: calls completed + calls in flight + calls still to start is constant per goroutine;
* `meas`: a measure that every state-changing step decreases; a step that does not change the state is a blocked
  `Lock()` or an exhausted goroutine;
* while the system is not quiescent some goroutine can move (the mutex holder is never blocked);
* hence every schedule made of enough blocks, each of which lets every goroutine try once, ends quiescent.
-/
namespace FpVerif.MemoPanic
open FpVerif.Sched

variable {T : Type}

-- ---------------------------------------------------------------------------------- accounting

/-- calls of this goroutine: completed + in flight + still to start -/
def calls (t : Thread T) : Nat := t.results.length + t.todo + wBusy t

theorem Move.calls_eq {out : Nat → Out T} {i : Nat} {s g : Sys T} {t t' : Thread T} (h : Move out i s t g t') :
    calls t' = calls t := by
  cases h <;> simp [calls, wBusy] <;> omega

theorem calls_step (out : Nat → Out T) (s : Sys T) (i : Nat) :
    (step out s i).threads.map calls = s.threads.map calls := by
  cases hti : s.threads[i]? with
  | none => rw [step_none out hti]
  | some t =>
    rcases step_spec out hti with ⟨he, _⟩ | ⟨g, t', hm, he⟩
    · rw [he]
    · rw [he]
      exact map_set_of_eq hti hm.calls_eq

theorem calls_runSched (out : Nat → Out T) (s : Sys T) (sched : List Nat) :
    (runSched out s sched).threads.map calls = s.threads.map calls :=
  Fold.inv (P := fun s' => s'.threads.map calls = s.threads.map calls) (fun s' i h => (calls_step out s' i).trans h) rfl sched

theorem calls_init (zero : T) (progs : List Nat) : (init zero progs).threads.map calls = progs := by
  simp only [init, List.map_map]
  induction progs with
  | nil => rfl
  | cons n ns ih => simp [calls, wBusy] at ih ⊢; exact ih

theorem length_step (out : Nat → Out T) (s : Sys T) (i : Nat) :
    (step out s i).threads.length = s.threads.length := by
  have := congrArg List.length (calls_step out s i)
  simpa using this

theorem length_runSched (out : Nat → Out T) (s : Sys T) (sched : List Nat) :
    (runSched out s sched).threads.length = s.threads.length := by
  have := congrArg List.length (calls_runSched out s sched)
  simpa using this

-- ---------------------------------------------------------------------------------- the measure

def pcW : PC T → Nat
  | .idle => 0
  | .locking => 5
  | .locked => 4
  | .running _ => 3
  | .stored _ => 2
  | .unlocking _ => 1

/-- atomic steps this goroutine still has to take, at most -/
def meas (t : Thread T) : Nat := 6 * t.todo + pcW t.pc

def Sys.measure (s : Sys T) : Nat := sumBy meas s.threads

theorem Move.meas_lt {out : Nat → Out T} {i : Nat} {s g : Sys T} {t t' : Thread T} (h : Move out i s t g t') :
    meas t' < meas t := by
  cases h <;> simp [meas, pcW] <;> omega

theorem Move.measure_lt {out : Nat → Out T} {i : Nat} {s g : Sys T} {t t' : Thread T} (h : Move out i s t g t')
    (hti : s.threads[i]? = some t) : Sys.measure { g with threads := s.threads.set i t' } < s.measure :=
  sumBy_set_lt hti (fun _ _ => Nat.le_refl _) h.meas_lt

theorem step_eq_or_lt (out : Nat → Out T) (s : Sys T) (i : Nat) :
    step out s i = s ∨ (step out s i).measure < s.measure := by
  cases hti : s.threads[i]? with
  | none => exact .inl (step_none out hti)
  | some t =>
    rcases step_spec out hti with ⟨he, _⟩ | ⟨g, t', hm, he⟩
    · exact .inl he
    · exact .inr (he ▸ hm.measure_lt hti)

theorem measure_step_le (out : Nat → Out T) (s : Sys T) (i : Nat) : (step out s i).measure ≤ s.measure := by
  rcases step_eq_or_lt out s i with h | h
  · rw [h]; exact Nat.le_refl _
  · omega

theorem measure_runSched_le (out : Nat → Out T) (s : Sys T) (sched : List Nat) :
    (runSched out s sched).measure ≤ s.measure :=
  Fold.inv (P := fun s' => s'.measure ≤ s.measure) (fun s' i h => Nat.le_trans (measure_step_le out s' i) h)
    (Nat.le_refl _) sched

/-- a goroutine that is not finished and not blocked on the mutex moves -/
theorem measure_lt_of_enabled (out : Nat → Out T) (s : Sys T) (i : Nat) (t : Thread T)
    (hti : s.threads[i]? = some t) (hq : t.quiet = false) (hl : t.pc = .locking → s.mutex = false) :
    (step out s i).measure < s.measure := by
  rcases step_spec out hti with ⟨_, hb | hb⟩ | ⟨g, t', hm, he⟩
  · exact absurd (hq.symm.trans hb) (by decide)
  · exact absurd ((hl hb.1).symm.trans hb.2) (by decide)
  · exact he ▸ hm.measure_lt hti

/-- while something is left to do, some goroutine can take a step: the holder of the mutex if it is held,
    anybody who is not finished otherwise -/
theorem exists_enabled {zero : T} {out : Nat → Out T} {s : Sys T} (h : Inv zero out s)
    (hq : s.quiescent = false) : ∃ i, i < s.threads.length ∧ (step out s i).measure < s.measure := by
  cases hm : s.mutex with
  | true =>
    have hh := h.hold
    rw [hm] at hh
    obtain ⟨i, t, hi, ht⟩ := exists_of_sumBy_ind_pos (p := Thread.holds) (Nat.le_of_eq hh.symm)
    refine ⟨i, ?_, measure_lt_of_enabled out s i t hi ?_ ?_⟩
    · exact (List.getElem?_eq_some_iff.mp hi).1
    · unfold Thread.holds at ht
      unfold Thread.quiet
      cases hp : t.pc <;> simp [hp] at ht ⊢
    · intro hp
      simp [Thread.holds, hp] at ht
  | false =>
    simp only [Sys.quiescent, List.all_eq_false] at hq
    obtain ⟨t, htm, htq⟩ := hq
    obtain ⟨i, hi⟩ := List.getElem?_of_mem htm
    exact ⟨i, (List.getElem?_eq_some_iff.mp hi).1,
      measure_lt_of_enabled out s i t hi (by simpa using htq) (fun _ => hm)⟩

theorem step_of_quiescent (out : Nat → Out T) (s : Sys T) (hq : s.quiescent = true) (i : Nat) :
    step out s i = s := by
  cases hti : s.threads[i]? with
  | none => exact step_none out hti
  | some t =>
    rcases step_spec out hti with ⟨he, _⟩ | ⟨g, t', hm, _⟩
    · exact he
    · simp only [Sys.quiescent, List.all_eq_true] at hq
      exact absurd (hm.not_quiet.symm.trans (hq t (List.mem_of_getElem? hti))) (by decide)

theorem runSched_of_quiescent (out : Nat → Out T) (s : Sys T) (hq : s.quiescent = true) (sched : List Nat) :
    runSched out s sched = s :=
  Fold.inv (P := (· = s)) (fun _ i h => h ▸ step_of_quiescent out s hq i) rfl sched

-- ---------------------------------------------------------------------------------- fair schedules

/-- the block lets every one of the `n` goroutines try at least once -/
def Covers (n : Nat) (blk : List Nat) : Prop := ∀ i, i < n → i ∈ blk

theorem inv_runSched {zero : T} {out : Nat → Out T} {s : Sys T} (h : Inv zero out s) (sched : List Nat) :
    Inv zero out (runSched out s sched) :=
  Fold.inv (P := Inv zero out) (fun _ i h => inv_step h i) h sched

/-- a block that names a goroutine which can move now decreases the measure: an earlier entry moves, or the
    state is still the same when that goroutine's turn comes -/
theorem block_decreases {zero : T} {out : Nat → Out T} {s : Sys T} (h : Inv zero out s)
    (blk : List Nat) (hc : Covers s.threads.length blk) (hq : s.quiescent = false) :
    (runSched out s blk).measure < s.measure := by
  obtain ⟨i, hi, hlt⟩ := exists_enabled h hq
  have hmem := hc i hi
  clear hc
  induction blk with
  | nil => cases hmem
  | cons j js ih =>
    rcases step_eq_or_lt out s j with hj | hj
    · rcases List.mem_cons.mp hmem with rfl | hm
      · rw [hj] at hlt
        exact absurd hlt (Nat.lt_irrefl _)
      · simp only [runSched, List.foldl] at ih ⊢
        rw [hj]
        exact ih hm
    · exact Nat.lt_of_le_of_lt (measure_runSched_le out (step out s j) js) hj

theorem runSched_append (out : Nat → Out T) (s : Sys T) (a b : List Nat) :
    runSched out s (a ++ b) = runSched out (runSched out s a) b := by
  simp [runSched, List.foldl_append]

theorem fair_quiescent {zero : T} {out : Nat → Out T} (blocks : List (List Nat)) :
    ∀ (s : Sys T), Inv zero out s → (∀ b ∈ blocks, Covers s.threads.length b) → s.measure ≤ blocks.length →
      (runSched out s blocks.flatten).quiescent = true := by
  induction blocks with
  | nil =>
    intro s h _ hm
    simp only [List.flatten_nil, runSched, List.foldl]
    cases hq : s.quiescent with
    | true => rfl
    | false =>
      obtain ⟨i, _, hlt⟩ := exists_enabled (out := out) h hq
      simp at hm; omega
  | cons b bs ih =>
    intro s h hc hm
    simp only [List.flatten_cons, runSched_append]
    cases hq : s.quiescent with
    | true =>
      rw [runSched_of_quiescent out s hq b, runSched_of_quiescent out s hq]
      exact hq
    | false =>
      have hlt := block_decreases h b (hc b (by simp)) hq
      refine ih _ (inv_runSched h b) ?_ ?_
      · intro b' hb'
        rw [length_runSched]
        exact hc b' (by simp [hb'])
      · simp at hm; omega

theorem roundRobin_eq (n r : Nat) : roundRobin n r = (List.replicate r (List.range n)).flatten := by
  induction r with
  | zero => rfl
  | succ r ih => simp [roundRobin, List.replicate_succ, ih]

theorem measure_init (zero : T) (progs : List Nat) : (init zero progs).measure = 6 * progs.sum := by
  simp only [Sys.measure, init, ← sumW_eq]
  induction progs with
  | nil => rfl
  | cons n ns ih => simp [meas, pcW] at ih ⊢; omega

-- ---------------------------------------------------------------------------------- quiescent states

/-- a goroutine with nothing left to do is idle, all its calls answered -/
theorem Thread.eq_of_quiet {t : Thread T} (h : t.quiet = true) : t = ⟨0, .idle, t.results⟩ := by
  obtain ⟨todo, pc, results⟩ := t
  cases pc with
  | idle =>
    cases todo with
    | zero => rfl
    | succ k => cases h
  | _ => cases h

/-- when nothing is in flight, the panics counted by `Inv.pan` have all been delivered -/
theorem wPanic_of_quiescent (s : Sys T) (hq : s.quiescent = true) : sumBy wPanic s.threads = sumW wPan s.threads := by
  simp only [Sys.quiescent, List.all_eq_true] at hq
  rw [← sumW_eq]
  refine congrArg List.sum (List.map_congr_left fun t ht => ?_)
  rw [Thread.eq_of_quiet (hq t ht)]
  rfl

end FpVerif.MemoPanic
