import FpVerif.Lemmas.Callbacks
import FpVerif.Lemmas.IterLoop
import FpVerif.Lemmas.IterSrc
import FpVerif.Lemmas.RefFolds
/-!
# Simulation lemmas: every combinator over ONE source maps simulations to simulations

For a combinator `C` the lemma has the shape

    Sim m R → Sim (C m) (liftRel Inv R)

(`Map`, `TapEach` and `Take` capture so little that their relation is written out directly; `Map`, `Take`,
`TakeWhile` ask of the source only `SimUpTo E`, so that they also cover `Generate`).
-/
namespace FpVerif.It
variable {σ τ X α β : Type}

theorem map_simU {E : Prop} {f : α → GoM β} {g : α → β} (hf : Total f g) {m : Machine σ α}
    {R : σ → List α → List α → Prop} (hS : SimUpTo E m R) :
    SimUpTo E (map f m) (fun s d' r' => ∃ d r, R s d r ∧ d' = d.map g ∧ r' = r.map g) where
  hasNext_cons := by
    rintro s d' b r' lg ⟨d, _ | ⟨a, r⟩, hR, rfl, hr⟩
    · cases hr
    · obtain ⟨s', lg', h, hR'⟩ := hS.hasNext_cons s d a r lg hR
      exact ⟨s', lg', h, d, a :: r, hR', rfl, hr⟩
  next_cons := by
    rintro s d' b r' lg ⟨d, _ | ⟨a, r⟩, hR, rfl, hr⟩
    · cases hr
    · obtain ⟨rfl, rfl⟩ := List.cons.inj hr
      obtain ⟨s', lg', h, hR'⟩ := hS.next_cons s d a r lg hR
      obtain ⟨lg'', h2⟩ := liftG_total hf a s' lg'
      exact ⟨s', lg'', by simp [map, bind_ok h, h2], d ++ [a], r, hR', by simp, rfl⟩
  hasNext_nil := by
    rintro hE s d' lg ⟨d, _ | ⟨a, r⟩, hR, rfl, hr⟩
    · obtain ⟨s', lg', h, hR'⟩ := hS.hasNext_nil hE s d lg hR
      exact ⟨s', lg', h, d, [], hR', rfl, rfl⟩
    · cases hr
  next_nil := by
    rintro hE s d' lg ⟨d, _ | ⟨a, r⟩, hR, rfl, hr⟩
    · obtain ⟨p, s', lg', h, hR'⟩ := hS.next_nil hE s d lg hR
      exact ⟨p, s', lg', by simp [map, bind_err h], d, [], hR', rfl, rfl⟩
    · cases hr

theorem map_sim {f : α → GoM β} {g : α → β} (hf : Total f g) {m : Machine σ α}
    {R : σ → List α → List α → Prop} (hS : Sim m R) :
    Sim (map f m) (fun s d' r' => ∃ d r, R s d r ∧ d' = d.map g ∧ r' = r.map g) :=
  (map_simU hf hS.upTo).sim

theorem tapEach_sim {f : α → GoM Unit} (hf : Total f (fun _ => ())) {m : Machine σ α}
    {R : σ → List α → List α → Prop} (hS : Sim m R) : Sim (tapEach f m) R where
  hasNext := by
    intro s d r lg hR
    obtain ⟨s', lg', h, hR'⟩ := hS.hasNext s d r lg hR
    exact ⟨s', lg', by simpa [tapEach] using h, hR'⟩
  next_cons := by
    intro s d a r lg hR
    obtain ⟨s', lg', h, hR'⟩ := hS.next_cons s d a r lg hR
    obtain ⟨lg'', h2⟩ := liftG_total hf a s' lg'
    exact ⟨s', lg'', by simp [tapEach, bind_ok h, bind_ok h2], hR'⟩
  next_nil := by
    intro s d lg hR
    obtain ⟨p, s', lg', h, hR'⟩ := hS.next_nil s d lg hR
    exact ⟨p, s', lg', by simp [tapEach, bind_err h], hR'⟩

def takeRel (n : Int) (R : σ → List α → List α → Prop) (sc : σ × Nat) (d' r' : List α) : Prop :=
  ∃ r, R sc.1 d' r ∧ sc.2 = d'.length ∧ r' = r.take (n.toNat - sc.2)

theorem take_isEmpty (k : Nat) (r : List α) (hk : 0 < k) : (r.take k).isEmpty = r.isEmpty := by
  cases r with
  | nil => simp
  | cons a r => obtain ⟨k, rfl⟩ := Nat.exists_eq_succ_of_ne_zero (Nat.pos_iff_ne_zero.mp hk); simp

/-- the source is exact, or has the elements `Take` will still ask for -/
def takeRelU (E : Prop) (n : Int) (R : σ → List α → List α → Prop) (sc : σ × Nat) (d' r' : List α) : Prop :=
  ∃ r, R sc.1 d' r ∧ sc.2 = d'.length ∧ r' = r.take (n.toNat - sc.2) ∧ (E ∨ n.toNat - sc.2 ≤ r.length)

theorem take_simU {E : Prop} (n : Int) {m : Machine σ α} {R : σ → List α → List α → Prop} (hS : SimUpTo E m R) :
    Sim (take n m) (takeRelU E n R) := by
  refine Sim.guarded (takeRelU E n R) (fun ⟨s, i⟩ d' r' lg ⟨r, hR, hi, hr, hE⟩ => ?_)
    (fun ⟨s, i⟩ d' a r' lg ⟨r, hR, hi, hr, hE⟩ => ?_)
  · simp only at hR hi hr hE
    subst hr
    by_cases hlt : (i : Int) < n
    · have hpos : 0 < n.toNat - i := by omega
      rw [take_isEmpty _ _ hpos]
      cases r with
      | nil =>
        obtain ⟨s', lg', h, hR'⟩ := hS.hasNext_nil (hE.resolve_right (by simp; omega)) s d' lg hR
        exact ⟨(s', i), lg', by simp only [bind_apply, onSnd_get, hlt, if_true, onFst_eq i h]; rfl,
          ⟨[], hR', hi, rfl, hE⟩, fun hne => absurd List.take_nil hne⟩
      | cons a r =>
        obtain ⟨s', lg', h, hR'⟩ := hS.hasNext_cons s d' a r lg hR
        exact ⟨(s', i), lg', by simp only [bind_apply, onSnd_get, hlt, if_true, onFst_eq i h]; rfl,
          ⟨_, hR', hi, rfl, hE⟩, fun _ => ⟨_, hR', hi, rfl, hE⟩⟩
    · have h0 : n.toNat - i = 0 := by omega
      rw [h0]
      have hrel : takeRelU E n R (s, i) d' (r.take 0) := ⟨r, hR, hi, by rw [h0], hE⟩
      exact ⟨(s, i), lg, by simp [bind_apply, hlt], hrel, fun hne => absurd List.take_zero hne⟩
  · simp only at hR hi hr hE
    cases r with
    | nil => simp at hr
    | cons b r =>
      obtain ⟨k, hk⟩ : ∃ k, n.toNat - i = k + 1 := by
        rcases h : n.toNat - i with _ | k
        · rw [h] at hr; simp at hr
        · exact ⟨k, rfl⟩
      rw [hk, List.take_succ_cons, List.cons.injEq] at hr
      obtain ⟨rfl, rfl⟩ := hr
      obtain ⟨s2, lg2, h2, hR2⟩ := hS.next_cons s d' a r lg hR
      have hk' : n.toNat - (i + 1) = k := by omega
      refine ⟨(s2, i + 1), lg2, by simp [bind_apply, onFst_eq (i+1) h2], r, hR2, by simp [hi], by simp only [hk'], ?_⟩
      refine hE.imp_right fun h => ?_
      simp only [List.length_cons] at h ⊢
      omega

theorem take_sim (n : Int) {m : Machine σ α} {R : σ → List α → List α → Prop} (hS : Sim m R) :
    Sim (take n m) (takeRel n R) :=
  (take_simU n hS.upTo).of_iff fun sc d' r' => by simp [takeRel, takeRelU]

/-- captured variables of `TakeWhile` vs. source (`d`,`r`) and output (`d'`,`r'`) lists. -/
def TakeWhileInv (g : α → Bool) (c : TakeWhileSt α) (d r d' r' : List α) : Prop :=
  match c.breaking, c.fv with
  | false, none => d = d' ∧ r' = r.takeWhile g
  | false, some v => d = d' ++ [v] ∧ g v = true ∧ r' = v :: r.takeWhile g
  | true, none => (∃ v, d = d' ++ [v] ∧ g v = false) ∧ r' = []
  | true, some _ => False

abbrev takeWhileRel (g : α → Bool) (R : σ → List α → List α → Prop) :
    σ × TakeWhileSt α → List α → List α → Prop :=
  liftRel (TakeWhileInv g) R

/-- the source is exact, or `TakeWhile` stops before the known prefix ends -/
def takeWhileRelU (E : Prop) (g : α → Bool) (R : σ → List α → List α → Prop) (sc : σ × TakeWhileSt α)
    (d' r' : List α) : Prop :=
  ∃ d r, R sc.1 d r ∧ TakeWhileInv g sc.2 d r d' r' ∧ (E ∨ sc.2.breaking = true ∨ ∃ x ∈ r, g x = false)

theorem takeWhile_simU {E : Prop} {p : α → GoM Bool} {g : α → Bool} (hp : Total p g) {m : Machine σ α}
    {R : σ → List α → List α → Prop} (hS : SimUpTo E m R) :
    Sim (takeWhile p m) (takeWhileRelU E g R) := by
  refine Sim.guarded (fun sc d' r' => takeWhileRelU E g R sc d' r' ∧ ∃ v, sc.2 = ⟨false, some v⟩)
    (fun ⟨s, c⟩ d' r' lg ⟨d, r, hR, hI, hE⟩ => ?_) (fun ⟨s, c⟩ d' a r' lg ⟨⟨d, r, hR, hI, hE⟩, v, hc⟩ => ?_)
  · simp only at hR hI hE
    rcases c with ⟨_ | _, _ | v⟩
    · obtain ⟨rfl, rfl⟩ := hI
      cases r with
      | nil =>
        obtain ⟨s1, lg1, h1, hR1⟩ := hS.hasNext_nil (by simpa using hE) s d lg hR
        exact ⟨(s1, ⟨false, none⟩), lg1, by simp [bind_apply, onFst_eq _ h1],
          ⟨d, [], hR1, by simp [TakeWhileInv], hE⟩, fun hne => absurd rfl hne⟩
      | cons a r =>
        obtain ⟨s1, lg1, h1, hR1⟩ := hS.hasNext_cons s d a r lg hR
        obtain ⟨s2, lg2, h2, hR2⟩ := hS.next_cons s1 d a r lg1 hR1
        obtain ⟨lg3, h3⟩ := liftG_total hp a (s2, ({} : TakeWhileSt α)) lg2
        cases hg : g a
        · exact ⟨(s2, ⟨true, none⟩), lg3, by simp [bind_apply, onFst_eq _ h1, onFst_eq _ h2, h3, hg],
            ⟨d ++ [a], r, hR2, by simp [TakeWhileInv, hg], .inr (.inl rfl)⟩, by simp [hg]⟩
        · have hrel : takeWhileRelU E g R (s2, ⟨false, some a⟩) d (List.takeWhile g (a :: r)) :=
            ⟨d ++ [a], r, hR2, by simp [TakeWhileInv, hg], hE.imp_right fun h => by simpa [hg] using h⟩
          exact ⟨(s2, ⟨false, some a⟩), lg3, by simp [bind_apply, onFst_eq _ h1, onFst_eq _ h2, h3, hg],
            hrel, fun _ => ⟨hrel, a, rfl⟩⟩
    · obtain ⟨rfl, hg, rfl⟩ := hI
      have hrel : takeWhileRelU E g R (s, ⟨false, some v⟩) d' (v :: r.takeWhile g) :=
        ⟨_, r, hR, ⟨rfl, hg, rfl⟩, hE⟩
      exact ⟨(s, ⟨false, some v⟩), lg, rfl, hrel, fun _ => ⟨hrel, v, rfl⟩⟩
    · obtain ⟨hd, rfl⟩ := hI
      exact ⟨(s, ⟨true, none⟩), lg, rfl, ⟨d, r, hR, ⟨hd, rfl⟩, hE⟩, fun hne => absurd rfl hne⟩
    · exact absurd hI (by simp [TakeWhileInv])
  · simp only at hc hR hI hE; subst hc
    simp only [TakeWhileInv, List.cons.injEq] at hI
    obtain ⟨rfl, hg, rfl, rfl⟩ := hI
    exact ⟨(s, ⟨false, none⟩), lg, by simp [bind_apply], _, r, hR, by simp [TakeWhileInv], by simpa using hE⟩

theorem takeWhile_sim {p : α → GoM Bool} {g : α → Bool} (hp : Total p g) {m : Machine σ α}
    {R : σ → List α → List α → Prop} (hS : Sim m R) :
    Sim (takeWhile p m) (takeWhileRel g R) :=
  (takeWhile_simU hp hS.upTo).of_iff fun sc d' r' => by simp [takeWhileRelU, liftRel]

theorem find_pspec {p : α → GoM Bool} {g : α → Except PanicVal Bool} (hp : Outcome p g) {m : Machine σ α}
    {R : σ → List α → List α → Prop} (hS : Sim m R)
    (r : List α) (fuel : Nat) (s : σ) (d : List α) (lg : Log) (hf : r.length < fuel) (hR : R s d r) :
    ∃ s' lg' d1, find p m fuel s lg = ((findE g r).1, s', lg') ∧ R s' (d ++ d1) (findE g r).2 ∧
      d1 ++ (findE g r).2 = r := by
  refine pullLoop_spec (F := fun fuel (_ : Unit) => find p m fuel) (K := fun u v k => do
      if ← IM.liftG (p v) then return some v
      k u) (fin := fun _ => none)
    (fun _ _ => rfl) (E := fun _ => findE g) (fun _ => rfl) (fun z a as k s lg => ?_) hS r fuel s d () lg hf hR
  obtain ⟨lg', e⟩ := liftG_outcome hp a s lg
  refine ⟨lg', ?_⟩
  simp only [findE]
  rcases hg : g a with q | _ | _
  · rw [hg] at e; exact .inr ⟨bind_err e, rfl⟩
  · rw [hg] at e; exact .inl ⟨(), bind_ok e, rfl⟩
  · rw [hg] at e; exact .inr ⟨bind_ok e, rfl⟩

theorem find_spec {p : α → GoM Bool} {g : α → Bool} (hp : Total p g) {m : Machine σ α}
    {R : σ → List α → List α → Prop} (hS : Sim m R) (r : List α) (fuel : Nat) (s : σ) (d : List α) (lg : Log)
    (hf : r.length < fuel) (hR : R s d r) :
    ∃ s' lg' d1, find p m fuel s lg = (.ok (r.find? g), s', lg') ∧ R s' (d ++ d1) (afterHit g r) ∧
      d1 ++ afterHit g r = r ∧ (afterHit g r).length < fuel := by
  obtain ⟨s', lg', d1, e, hR', hd⟩ := find_pspec hp.outcome hS r fuel s d lg hf hR
  rw [findE_ok] at e hR' hd
  have := congrArg List.length hd
  simp only [List.length_append] at this
  exact ⟨s', lg', d1, e, hR', hd, by omega⟩

def FilterInv (g : α → Bool) (c : FilterSt α) (d r d' r' : List α) : Prop :=
  match c.first, c.fv with
  | true, none => d = [] ∧ d' = [] ∧ r' = r.filter g
  | true, some _ => False
  | false, some v => (∃ d0, d = d0 ++ [v]) ∧ g v = true ∧ d.filter g = d' ++ [v] ∧ r' = v :: r.filter g
  | false, none => r = [] ∧ r' = [] ∧ d' = d.filter g

/-- after `Find` over `r` (it has pulled `d1`) the look-ahead of `Filter` is the hit -/
theorem filterInv_after_find (g : α → Bool) (r dpre d1 : List α) (hd : d1 ++ afterHit g r = r) :
    FilterInv g ⟨false, r.find? g⟩ (dpre ++ d1) (afterHit g r) (dpre.filter g) (r.filter g) := by
  have h := find?_split g r
  cases hfd : r.find? g with
  | none =>
    rw [hfd] at h
    obtain ⟨h0, hfl⟩ := h
    rw [h0, List.append_nil] at hd
    subst hd
    simp [FilterInv, h0, hfl]
  | some v =>
    rw [hfd] at h
    obtain ⟨pre, hsplit, hpre, hgv⟩ := h
    obtain rfl : d1 = pre ++ [v] := List.append_cancel_right (by rw [hd, List.append_assoc]; exact hsplit.symm)
    refine ⟨⟨dpre ++ pre, by simp⟩, hgv, by simp [hpre, hgv], ?_⟩
    have := congrArg (List.filter g) hsplit
    rw [List.filter_append, hpre, List.filter_cons_of_pos hgv] at this
    exact this.symm

def FilterInvF (fuel : Nat) (g : α → Bool) (c : FilterSt α) (d r d' r' : List α) : Prop :=
  r.length < fuel ∧ FilterInv g c d r d' r'

theorem filter_hasNext {p : α → GoM Bool} {g : α → Bool} (hp : Total p g) {m : Machine σ α}
    {R : σ → List α → List α → Prop} (hS : Sim m R) (fuel : Nat) (s : σ) (c : FilterSt α) (d' r' : List α)
    (lg : Log) (h : liftRel (FilterInvF fuel g) R (s, c) d' r') :
    ∃ s' c' lg', (filter fuel p m).hasNext (s, c) lg = (.ok (!r'.isEmpty), (s', c'), lg') ∧
      liftRel (FilterInvF fuel g) R (s', c') d' r' ∧ (r' ≠ [] → ∃ v, c' = ⟨false, some v⟩) := by
  obtain ⟨d, r, hR, hf, hI⟩ := h
  rcases c with ⟨_ | _, _ | v⟩
  · simp only [FilterInv] at hI
    obtain ⟨rfl, rfl, rfl⟩ := hI
    exact ⟨s, ⟨false, none⟩, lg, rfl, ⟨d, [], hR, hf, by simp [FilterInv]⟩, fun hne => absurd rfl hne⟩
  · simp only [FilterInv] at hI
    obtain ⟨hd0, hg, hd, rfl⟩ := hI
    exact ⟨s, ⟨false, some v⟩, lg, rfl, ⟨d, r, hR, hf, by simp [FilterInv, hd0, hg, hd]⟩, fun _ => ⟨v, rfl⟩⟩
  · simp only [FilterInv] at hI
    obtain ⟨rfl, rfl, rfl⟩ := hI
    obtain ⟨s1, lg1, d1, h1, hR1, hd1, hlen⟩ := find_spec hp hS r fuel s [] lg hf hR
    have hinv := filterInv_after_find g r [] d1 hd1
    have hsp := find?_split g r
    refine ⟨s1, ⟨false, r.find? g⟩, lg1, ?_, ⟨[] ++ d1, afterHit g r, hR1, hlen, hinv⟩, fun hne => ?_⟩
    · simp only [filter, bind_apply, onSnd_get, if_true, onFst_eq _ h1, onSnd_set, pure_apply]
      cases hfd : r.find? g with
      | none => rw [hfd] at hsp; simp [hsp.2]
      | some v => rw [hfd] at hinv; simp [hinv.2.2.2]
    · cases hfd : r.find? g with
      | none => rw [hfd] at hsp; exact absurd hsp.2 hne
      | some v => exact ⟨v, rfl⟩
  · simp [FilterInv] at hI

theorem filter_sim {p : α → GoM Bool} {g : α → Bool} (hp : Total p g) (fuel : Nat) {m : Machine σ α}
    {R : σ → List α → List α → Prop} (hS : Sim m R) :
    Sim (filter fuel p m) (liftRel (FilterInvF fuel g) R) := by
  refine Sim.guarded (fun sc d' r' => liftRel (FilterInvF fuel g) R sc d' r' ∧ ∃ v, sc.2 = ⟨false, some v⟩)
    (fun ⟨s, c⟩ d' r' lg h => ?_) (fun ⟨s, c⟩ d' a r' lg ⟨⟨d, r, hR, hf, hI⟩, v, hc⟩ => ?_)
  · obtain ⟨s', c', lg', h1, hrel, hrdy⟩ := filter_hasNext hp hS fuel s c d' r' lg h
    exact ⟨(s', c'), lg', h1, hrel, fun hne => ⟨hrel, hrdy hne⟩⟩
  · simp only at hc hR hf hI; subst hc
    simp only [FilterInv, List.cons.injEq] at hI
    obtain ⟨hd0, hg, hd, rfl, rfl⟩ := hI
    obtain ⟨s3, lg3, d1, h3, hR3, hd1, hlen⟩ := find_spec hp hS r fuel s d lg hf hR
    refine ⟨(s3, ⟨false, r.find? g⟩), lg3, by simp [bind_apply, onFst_eq _ h3], d ++ d1, afterHit g r, hR3, hlen, ?_⟩
    have := filterInv_after_find g r d d1 hd1
    rw [hd] at this
    exact this

def DropWhileInv (fuel : Nat) (g : α → Bool) (c : DropWhileSt α) (_d r _d' r' : List α) : Prop :=
  r.length < fuel ∧
  match c.found, c.first with
  | false, none => r' = r.dropWhile g
  | true, some v => r' = v :: r
  | true, none => r' = r
  | false, some _ => False

theorem dropWhileLoop_spec {p : α → GoM Bool} {g : α → Bool} (hp : Total p g) {m : Machine σ α}
    {R : σ → List α → List α → Prop} (hS : Sim m R) :
    ∀ (r : List α) (fuel : Nat) (s : σ) (d : List α) (lg : Log), r.length < fuel → R s d r →
      ∃ s' c' lg' d2 r2, dropWhileLoop p m fuel (s, ⟨false, none⟩) lg = (.ok (!(r.dropWhile g).isEmpty), (s', c'), lg') ∧
        R s' d2 r2 ∧ r2.length ≤ r.length ∧
        match r.dropWhile g with
        | [] => c' = ⟨false, none⟩ ∧ r2 = []
        | v :: t => c' = ⟨true, some v⟩ ∧ r2 = t := by
  intro r
  induction r with
  | nil =>
    intro fuel s d lg hf hR
    obtain ⟨k, rfl⟩ := Nat.exists_eq_succ_of_ne_zero (by omega : fuel ≠ 0)
    obtain ⟨s1, lg1, h1, hR1⟩ := hS.hasNext s d [] lg hR
    simp only [List.isEmpty_nil, Bool.not_true] at h1
    exact ⟨s1, ⟨false, none⟩, lg1, d, [], by simp [dropWhileLoop, bind_apply, onFst_eq _ h1], hR1, by simp, by simp⟩
  | cons a r ih =>
    intro fuel s d lg hf hR
    obtain ⟨k, rfl⟩ := Nat.exists_eq_succ_of_ne_zero (by omega : fuel ≠ 0)
    obtain ⟨s1, lg1, h1, hR1⟩ := hS.hasNext s d (a :: r) lg hR
    obtain ⟨s2, lg2, h2, hR2⟩ := hS.next_cons s1 d a r lg1 hR1
    obtain ⟨lg3, h3⟩ := liftG_total hp a (s2, (⟨false, none⟩ : DropWhileSt α)) lg2
    simp only [List.isEmpty_cons, Bool.not_false] at h1
    cases hg : g a
    · refine ⟨s2, ⟨true, some a⟩, lg3, d ++ [a], r, ?_, hR2, by simp, by simp [hg]⟩
      simp [dropWhileLoop, bind_apply, onFst_eq _ h1, onFst_eq _ h2, h3, hg]
    · obtain ⟨s', c', lg', d2, r2, h4, hR4, hle, hm⟩ := ih k s2 (d ++ [a]) lg3 (by simpa using hf) hR2
      refine ⟨s', c', lg', d2, r2, ?_, hR4, by simp; omega, by simpa [hg] using hm⟩
      simp [dropWhileLoop, bind_apply, onFst_eq _ h1, onFst_eq _ h2, h3, hg, h4]

theorem dropWhile_hasNext {p : α → GoM Bool} {g : α → Bool} (hp : Total p g) (fuel : Nat) {m : Machine σ α}
    {R : σ → List α → List α → Prop} (hS : Sim m R) (s : σ) (c : DropWhileSt α) (d' r' : List α)
    (lg : Log) (h : liftRel (DropWhileInv fuel g) R (s, c) d' r') :
    ∃ s' c' lg', (dropWhile fuel p m).hasNext (s, c) lg = (.ok (!r'.isEmpty), (s', c'), lg') ∧
      liftRel (DropWhileInv fuel g) R (s', c') d' r' ∧ (r' ≠ [] → c'.found = true) := by
  obtain ⟨d, r, hR, hf, hI⟩ := h
  simp only at hR hf hI
  rcases c with ⟨_ | _, _ | v⟩
  · simp only at hI; subst hI
    obtain ⟨s', c', lg', d2, r2, h1, hR2, hle, hm⟩ := dropWhileLoop_spec hp hS r fuel s d lg hf hR
    refine ⟨s', c', lg', ?_, ⟨d2, r2, hR2, by omega, ?_⟩, ?_⟩
    · simp [dropWhile, bind_apply, h1]
    · cases hdw : r.dropWhile g with
      | nil => rw [hdw] at hm; obtain ⟨rfl, rfl⟩ := hm; simp
      | cons v t => rw [hdw] at hm; obtain ⟨rfl, rfl⟩ := hm; simp
    · cases hdw : r.dropWhile g with
      | nil => simp
      | cons v t => rw [hdw] at hm; obtain ⟨rfl, rfl⟩ := hm; simp
  · simp at hI
  · simp only at hI; subst hI
    obtain ⟨s1, lg1, h1, hR1⟩ := hS.hasNext s d r' lg hR
    exact ⟨s1, ⟨true, none⟩, lg1, by simp [dropWhile, bind_apply, onFst_eq _ h1], ⟨d, r', hR1, hf, rfl⟩, by simp⟩
  · simp only at hI; subst hI
    exact ⟨s, ⟨true, some v⟩, lg, rfl, ⟨d, r, hR, hf, rfl⟩, by simp⟩

theorem dropWhile_sim {p : α → GoM Bool} {g : α → Bool} (hp : Total p g) (fuel : Nat) {m : Machine σ α}
    {R : σ → List α → List α → Prop} (hS : Sim m R) :
    Sim (dropWhile fuel p m) (liftRel (DropWhileInv fuel g) R) := by
  refine Sim.guarded (fun sc d' r' => liftRel (DropWhileInv fuel g) R sc d' r' ∧ sc.2.found = true)
    (fun ⟨s, c⟩ d' r' lg h => ?_) (fun ⟨s, c⟩ d' a r' lg ⟨⟨d, r, hR, hf, hI⟩, hfd⟩ => ?_)
  · obtain ⟨s', c', lg', h1, hrel, hfound⟩ := dropWhile_hasNext hp fuel hS s c d' r' lg h
    exact ⟨(s', c'), lg', h1, hrel, fun hne => ⟨hrel, hfound hne⟩⟩
  · rcases c with ⟨fd, _ | v⟩
    · simp only at hfd
      subst hfd
      simp only at hI hR hf
      subst hI
      obtain ⟨s2, lg2, h2, hR2⟩ := hS.next_cons s d a r' lg hR
      refine ⟨(s2, ⟨true, none⟩), lg2, by simp [bind_apply, onFst_eq _ h2], d ++ [a], r', hR2, ?_, rfl⟩
      simp at hf ⊢
      omega
    · simp only at hfd
      subst hfd
      simp only at hI hR hf
      obtain ⟨rfl, rfl⟩ := List.cons.inj hI
      exact ⟨(s, ⟨true, none⟩), lg, by simp [bind_apply], d, r', hR, hf, rfl⟩

/-- `zero, f(zero,a₁), f(f(zero,a₁),a₂), …` -/
def scanl (g : β → α → β) : β → List α → List β
  | z, [] => [z]
  | z, a :: as => z :: scanl g (g z a) as

/-- the elements after the first one -/
def scanTail (g : β → α → β) : β → List α → List β
  | _, [] => []
  | z, a :: as => g z a :: scanTail g (g z a) as

theorem scanl_eq (g : β → α → β) (z : β) (l : List α) : scanl g z l = z :: scanTail g z l := by
  induction l generalizing z with
  | nil => rfl
  | cons a as ih => simp [scanl, scanTail, ih]

def ScanInv (g : β → α → β) (c : ScanSt β) (d r : List α) (d' r' : List β) : Prop :=
  if c.first then d'.length = d.length ∧ r' = scanl g c.sum r
  else d'.length = d.length + 1 ∧ r' = scanTail g c.sum r

theorem scan_sim {f : β → α → GoM β} {g : β → α → β} (hf : Total2 f g) {m : Machine σ α}
    {R : σ → List α → List α → Prop} (hS : Sim m R) :
    Sim (scan f m) (liftRel (ScanInv g) R) := by
  refine Sim.guarded (liftRel (ScanInv g) R) (fun ⟨s, c⟩ d' r' lg ⟨d, r, hR, hI⟩ => ?_)
    (fun ⟨s, c⟩ d' b r' lg ⟨d, r, hR, hI⟩ => ?_)
  · simp only [ScanInv] at hI hR
    cases hc : c.first
    · simp only [hc, Bool.false_eq_true, if_false] at hI
      obtain ⟨s', lg', h, hR'⟩ := hS.hasNext s d r lg hR
      have hrel : liftRel (ScanInv g) R (s', c) d' r' := ⟨d, r, hR', by simp [ScanInv, hc, hI]⟩
      have e : (!r'.isEmpty) = !r.isEmpty := by rw [hI.2]; cases r <;> simp [scanTail]
      exact ⟨(s', c), lg', by rw [e]; simp [bind_apply, hc, onFst_eq _ h], hrel, fun _ => hrel⟩
    · simp only [hc, if_true] at hI
      have hrel : liftRel (ScanInv g) R (s, c) d' r' := ⟨d, r, hR, by simp [ScanInv, hc, hI]⟩
      exact ⟨(s, c), lg, by rw [hI.2, scanl_eq]; simp [bind_apply, hc], hrel, fun _ => hrel⟩
  · simp only [ScanInv] at hI hR
    cases hc : c.first
    · simp only [hc, Bool.false_eq_true, if_false] at hI
      obtain ⟨hlen, hr⟩ := hI
      cases r with
      | nil => simp [scanTail] at hr
      | cons a r =>
        simp only [scanTail, List.cons.injEq] at hr
        obtain ⟨rfl, rfl⟩ := hr
        obtain ⟨s2, lg2, h2, hR2⟩ := hS.next_cons s d a r lg hR
        obtain ⟨lg3, h3⟩ := liftG_total2 hf c.sum a (s2, c) lg2
        exact ⟨(s2, { c with sum := g c.sum a }), lg3, by simp [bind_apply, hc, onFst_eq _ h2, h3], d ++ [a], r, hR2,
          by simp [ScanInv, hc, hlen]⟩
    · simp only [hc, if_true] at hI
      obtain ⟨hlen, hr⟩ := hI
      rw [scanl_eq] at hr
      obtain ⟨rfl, rfl⟩ := List.cons.inj hr
      exact ⟨(s, { c with first := false }), lg, by simp [bind_apply, hc], d, r, hR, by simp [ScanInv, hlen]⟩

/-- `[(n, a₀), (n+1, a₁), …]` -/
def zipIdx : Nat → List α → List (Int × α)
  | _, [] => []
  | n, a :: as => ((n : Int), a) :: zipIdx (n + 1) as

theorem generate_next_pure (h : Nat → α) (n : Nat) (lg : Log) :
    (generate (fun n => (pure (h n) : GoM α))).next n lg = (.ok (h n), n + 1, lg) := rfl

theorem zipWithIndex_sim {m : Machine σ α} {R : σ → List α → List α → Prop} (hS : Sim m R) :
    Sim (zipWithIndex m) (fun s _ r' => ∃ d r, R s.2 d r ∧ r' = zipIdx s.1 r) where
  hasNext := by
    rintro ⟨n, s⟩ d' r' lg ⟨d, r, hR, rfl⟩
    obtain ⟨s', lg', e, hR'⟩ := hS.hasNext s d r lg hR
    refine ⟨(n, s'), lg', ?_, d, r, hR', rfl⟩
    simp only [zipWithIndex, zip, generate, bind_apply, onFst_apply, pure_apply, if_true, onSnd_eq _ e]
    cases r <;> simp [zipIdx]
  next_cons := by
    rintro ⟨n, s⟩ d' ⟨i, x⟩ r' lg ⟨d, r, hR, hr⟩
    cases r with
    | nil => simp [zipIdx] at hr
    | cons a r =>
      simp only [zipIdx, List.cons.injEq, Prod.mk.injEq] at hr
      obtain ⟨⟨rfl, rfl⟩, rfl⟩ := hr
      obtain ⟨s', lg', e, hR'⟩ := hS.next_cons s d x r lg hR
      refine ⟨(n + 1, s'), lg', ?_, _, r, hR', rfl⟩
      simp [zipWithIndex, zip, bind_apply, onFst_eq _ (generate_next_pure (fun n => (n : Int)) n lg), onSnd_eq _ e]
  next_nil := by
    rintro ⟨n, s⟩ d' lg ⟨d, r, hR, hr⟩
    cases r with
    | cons a r => simp [zipIdx] at hr
    | nil =>
      obtain ⟨p, s', lg', e, hR'⟩ := hS.next_nil s d lg hR
      refine ⟨p, (n + 1, s'), lg', ?_, d, [], hR', by simp [zipIdx]⟩
      simp [zipWithIndex, zip, bind_apply, onFst_eq _ (generate_next_pure (fun n => (n : Int)) n lg), onSnd_eq _ e]

def PullInv (val : Option α) (d r d' r' : List α) : Prop :=
  match val with
  | some v => d = d' ++ [v] ∧ r' = v :: r
  | none => d = d' ∧ r = [] ∧ r' = []

theorem pullNextFn_spec {m : Machine σ α} {R : σ → List α → List α → Prop} (hS : Sim m R)
    (s : σ) (d r : List α) (lg : Log) (hR : R s d r) :
    ∃ s' lg', pullNextFn m s lg = (.ok r.head?, s', lg') ∧ R s' (d ++ r.head?.toList) r.tail := by
  obtain ⟨s1, lg1, h1, hR1⟩ := hS.hasNext s d r lg hR
  cases r with
  | nil =>
    simp only [List.isEmpty_nil, Bool.not_true] at h1
    exact ⟨s1, lg1, by simp [pullNextFn, bind_ok h1], by simpa using hR1⟩
  | cons a r =>
    simp only [List.isEmpty_cons, Bool.not_false] at h1
    obtain ⟨s2, lg2, h2, hR2⟩ := hS.next_cons s1 d a r lg1 hR1
    exact ⟨s2, lg2, by simp [pullNextFn, bind_ok h1, bind_ok h2], by simpa using hR2⟩

/-- construction pulls the first element -/
theorem pullInit_spec {m : Machine σ α} {R : σ → List α → List α → Prop} (hS : Sim m R)
    (s : σ) (v0 : Option α) (r : List α) (lg : Log) (hR : R s [] r) :
    ∃ s' lg' v, pullInit m (s, v0) lg = (.ok (), (s', v), lg') ∧ liftRel PullInv R (s', v) [] r := by
  obtain ⟨s', lg', h, hR'⟩ := pullNextFn_spec hS s [] r lg hR
  refine ⟨s', lg', r.head?, by simp [pullInit, bind_apply, onFst_eq _ h], _, r.tail, hR', ?_⟩
  cases r <;> simp [PullInv]

theorem pull_sim {m : Machine σ α} {R : σ → List α → List α → Prop} (hS : Sim m R) :
    Sim (pull m) (liftRel PullInv R) where
  hasNext := by
    rintro ⟨s, v⟩ d' r' lg ⟨d, r, hR, hI⟩
    refine ⟨(s, v), lg, ?_, d, r, hR, hI⟩
    cases v with
    | none => obtain ⟨_, _, rfl⟩ := hI; rfl
    | some v => obtain ⟨_, rfl⟩ := hI; rfl
  next_cons := by
    rintro ⟨s, v⟩ d' a r' lg ⟨d, r, hR, hI⟩
    cases v with
    | none => obtain ⟨_, _, h⟩ := hI; cases h
    | some v =>
      simp only [PullInv, List.cons.injEq] at hI
      obtain ⟨rfl, rfl, rfl⟩ := hI
      obtain ⟨s', lg', h, hR'⟩ := pullNextFn_spec hS s _ r' lg hR
      refine ⟨(s', r'.head?), lg', by simp [pull, bind_apply, onFst_eq _ h], _, r'.tail, hR', ?_⟩
      cases r' <;> simp [PullInv]
  next_nil := by
    rintro ⟨s, v⟩ d' lg ⟨d, r, hR, hI⟩
    cases v with
    | some v => obtain ⟨_, h⟩ := hI; cases h
    | none => exact ⟨nextOnEmpty, (s, none), lg, rfl, d, _, hR, hI⟩

theorem onCurrent_some {dflt : IM (Option τ) X} {m : IM τ X} {t t' : τ} {lg lg' : Log}
    {r : Except PanicVal X} (h : m t lg = (r, t', lg')) :
    onCurrent dflt m (some t) lg = (r, some t', lg') := by
  simp [onCurrent, h]

@[simp] theorem onCurrent_none (dflt : IM (Option τ) X) (m : IM τ X) (lg : Log) :
    onCurrent dflt m none lg = dflt none lg := rfl

/-- the iterator stored in `current` will still deliver `rc` -/
def CurOK (Ri : τ → List β → List β → Prop) (cur : Option τ) (rc : List β) : Prop :=
  match cur with
  | some t => ∃ dc, Ri t dc rc
  | none => rc = []

/-- the callback behaves on `a`: it returns (without panic) an iterator state that represents `h a` -/
def MfOK (mf : α → GoM τ) (Ri : τ → List β → List β → Prop) (h : α → List β) (a : α) : Prop :=
  ∀ lg, ∃ t lg', (mf a).run.run lg = (.ok t, lg') ∧ Ri t [] (h a)

/-- `rc`: what the iterator in `current` will still deliver; `H d rc`: what is remembered about how
    `rc` relates to the elements `d` pulled from the source (`flatMapHist`: the history the demand
    bound needs) -/
def FlatMapInvH (H : List α → List β → Prop) (fuel : Nat) (mf : α → GoM τ) (Ri : τ → List β → List β → Prop)
    (h : α → List β) (cur : Option τ) (d r : List α) (_d' r' : List β) : Prop :=
  r.length < fuel ∧ (∀ a, a ∈ r → MfOK mf Ri h a) ∧
  ∃ rc, CurOK Ri cur rc ∧ r' = rc ++ r.flatMap h ∧ H d rc

/-- `rc` is a suffix of the inner list of the source element pulled last -/
def flatMapHist (h : α → List β) (d : List α) (rc : List β) : Prop :=
  rc ≠ [] → ∃ d0 a pre, d = d0 ++ [a] ∧ pre ++ rc = h a

def FlatMapInv (fuel : Nat) (mf : α → GoM τ) (Ri : τ → List β → List β → Prop) (h : α → List β) :
    Option τ → List α → List α → List β → List β → Prop :=
  FlatMapInvH (flatMapHist h) fuel mf Ri h

theorem flatMapLoop_spec {mf : α → GoM τ} {inner : Machine τ β}
    {Ri : τ → List β → List β → Prop} (hI : Sim inner Ri) {h : α → List β}
    {m : Machine σ α} {R : σ → List α → List α → Prop} (hS : Sim m R) :
    ∀ (r : List α) (fuel : Nat) (s : σ) (d : List α) (cur : Option τ) (lg : Log), r.length < fuel → R s d r →
      (∀ a, a ∈ r → MfOK mf Ri h a) → CurOK Ri cur [] →
      ∃ s' cur' lg' d2 r2 rc, flatMapLoop mf inner m fuel (s, cur) lg =
          (.ok (!(r.flatMap h).isEmpty), (s', cur'), lg') ∧
        R s' d2 r2 ∧ r2.length ≤ r.length ∧ (∀ a, a ∈ r2 → a ∈ r) ∧ CurOK Ri cur' rc ∧
        rc ++ r2.flatMap h = r.flatMap h ∧ (r.flatMap h ≠ [] → rc ≠ []) ∧
        (rc ≠ [] → ∃ d0 a, d2 = d0 ++ [a] ∧ rc = h a) := by
  intro r
  induction r with
  | nil =>
    intro fuel s d cur lg hf hR hok hc
    obtain ⟨k, rfl⟩ := Nat.exists_eq_succ_of_ne_zero (by omega : fuel ≠ 0)
    obtain ⟨s1, lg1, h1, hR1⟩ := hS.hasNext s d [] lg hR
    simp only [List.isEmpty_nil, Bool.not_true] at h1
    exact ⟨s1, cur, lg1, d, [], [], by simp [flatMapLoop, bind_apply, onFst_eq _ h1], hR1, by simp,
      fun a ha => ha, hc, by simp, by simp, by simp⟩
  | cons a r ih =>
    intro fuel s d cur lg hf hR hok hc
    obtain ⟨k, rfl⟩ := Nat.exists_eq_succ_of_ne_zero (by omega : fuel ≠ 0)
    obtain ⟨s1, lg1, h1, hR1⟩ := hS.hasNext s d (a :: r) lg hR
    obtain ⟨s2, lg2, h2, hR2⟩ := hS.next_cons s1 d a r lg1 hR1
    obtain ⟨t, lg3, e3, hRi⟩ := hok a (List.mem_cons_self ..) lg2
    have h3 : (IM.liftG (mf a) : IM (σ × Option τ) τ) (s2, cur) lg2 = (.ok t, (s2, cur), lg3) := by
      simp [IM.liftG, e3]
    obtain ⟨t4, lg4, h4, hR4⟩ := hI.hasNext t [] (h a) lg3 hRi
    simp only [List.isEmpty_cons, Bool.not_false] at h1
    have h4' := onSnd_eq s2 (onCurrent_some (dflt := (pure false : IM (Option τ) Bool)) h4)
    cases hh : h a with
    | nil =>
      rw [hh] at h4' hR4
      obtain ⟨s', cur', lg', d2, r2, rc, h5, hR5, hle, hsub, hc5, hrc, hne, hhist⟩ :=
        ih k s2 (d ++ [a]) (some t4) lg4 (by simpa using hf) hR2
          (fun b hb => hok b (List.mem_cons_of_mem _ hb)) ⟨[], hR4⟩
      refine ⟨s', cur', lg', d2, r2, rc, ?_, hR5, by simp; omega, fun b hb => List.mem_cons_of_mem _ (hsub b hb),
        hc5, by simpa [hh] using hrc, by simpa [hh] using hne, hhist⟩
      simp [flatMapLoop, bind_apply, onFst_eq _ h1, onFst_eq _ h2, h3, h4', h5, hh]
    | cons b bs =>
      rw [hh] at h4' hR4
      refine ⟨s2, some t4, lg4, d ++ [a], r, b :: bs, ?_, hR2, by simp, fun c hc' => List.mem_cons_of_mem _ hc',
        ⟨[], hR4⟩, by simp [hh], by simp, fun _ => ⟨d, a, rfl, hh.symm⟩⟩
      simp [flatMapLoop, bind_apply, onFst_eq _ h1, onFst_eq _ h2, h3, h4', hh]

theorem flatMap_hasNextH {H : List α → List β → Prop} {h : α → List β} (hnil : ∀ d, H d [])
    (hpull : ∀ d a, H (d ++ [a]) (h a)) {mf : α → GoM τ} {inner : Machine τ β}
    {Ri : τ → List β → List β → Prop} (hI : Sim inner Ri) (fuel : Nat)
    {m : Machine σ α} {R : σ → List α → List α → Prop}
    (hS : Sim m R) (s : σ) (cur : Option τ) (d' r' : List β) (lg : Log)
    (hrel : liftRel (FlatMapInvH H fuel mf Ri h) R (s, cur) d' r') :
    ∃ s' cur' lg', (flatMap fuel mf inner m).hasNext (s, cur) lg = (.ok (!r'.isEmpty), (s', cur'), lg') ∧
      ∃ d r rc, R s' d r ∧ r.length < fuel ∧ (∀ a, a ∈ r → MfOK mf Ri h a) ∧ CurOK Ri cur' rc ∧
        r' = rc ++ r.flatMap h ∧ (r' ≠ [] → rc ≠ []) ∧ H d rc := by
  obtain ⟨d, r, hR, hf, hok, rc, hc, rfl, hhist⟩ := hrel
  simp only at hR hf hok hhist
  -- first: current.IsDefined() && current.Get().HasNext()
  have hfirst : ∃ cur1 lg1, (IM.onSnd (onCurrent (pure false) inner.hasNext) : IM (σ × Option τ) Bool) (s, cur) lg =
      (.ok (!rc.isEmpty), (s, cur1), lg1) ∧ CurOK Ri cur1 rc := by
    cases cur with
    | none =>
      simp only [CurOK] at hc; subst hc
      exact ⟨none, lg, by simp [onSnd_apply], rfl⟩
    | some t =>
      obtain ⟨dc, hc⟩ := hc
      obtain ⟨t1, lg1, h1, hc1⟩ := hI.hasNext t dc rc lg hc
      exact ⟨some t1, lg1, onSnd_eq s (onCurrent_some h1), dc, hc1⟩
  obtain ⟨cur1, lg1, h1, hc1⟩ := hfirst
  cases rc with
  | cons b bs =>
    refine ⟨s, cur1, lg1, ?_, d, r, b :: bs, hR, hf, hok, hc1, rfl, by simp, hhist⟩
    simp only [List.isEmpty_cons, Bool.not_false] at h1
    simp [flatMap, bind_apply, h1]
  | nil =>
    simp only [List.isEmpty_nil, Bool.not_true] at h1
    obtain ⟨s', cur', lg', d2, r2, rc, h5, hR5, hle, hsub, hc5, hrc, hne, hh2⟩ :=
      flatMapLoop_spec hI hS r fuel s d cur1 lg1 hf hR hok hc1
    refine ⟨s', cur', lg', ?_, d2, r2, rc, hR5, by omega, fun a ha => hok a (hsub a ha), hc5,
      by simpa using hrc.symm, by simpa using hne, ?_⟩
    · simp [flatMap, bind_apply, h1, h5]
    · cases rc with
      | nil => exact hnil d2
      | cons b bs =>
        obtain ⟨d0, a, rfl, hrc'⟩ := hh2 (List.cons_ne_nil b bs)
        rw [hrc']
        exact hpull d0 a

theorem flatMap_simH {H : List α → List β → Prop} {h : α → List β} (hnil : ∀ d, H d [])
    (hpull : ∀ d a, H (d ++ [a]) (h a)) (hnext : ∀ d b bs, H d (b :: bs) → H d bs)
    {mf : α → GoM τ} {inner : Machine τ β} {Ri : τ → List β → List β → Prop} (hI : Sim inner Ri) (fuel : Nat)
    {m : Machine σ α} {R : σ → List α → List α → Prop} (hS : Sim m R) :
    Sim (flatMap fuel mf inner m) (liftRel (FlatMapInvH H fuel mf Ri h) R) := by
  refine Sim.guarded (fun sc _ r' => ∃ d r rc, R sc.1 d r ∧ r.length < fuel ∧ (∀ a, a ∈ r → MfOK mf Ri h a) ∧
      CurOK Ri sc.2 rc ∧ r' = rc ++ r.flatMap h ∧ rc ≠ [] ∧ H d rc)
    (fun ⟨s, cur⟩ d' r' lg hrel => ?_) (fun ⟨s, cur⟩ d' b r' lg ⟨d, r, rc, hR, hf, hok, hc, hr, hne, hhist⟩ => ?_)
  · obtain ⟨s', cur', lg', h1, d, r, rc, hR, hf, hok, hc, hr, hne, hhist⟩ :=
      flatMap_hasNextH hnil hpull hI fuel hS s cur d' r' lg hrel
    exact ⟨(s', cur'), lg', h1, ⟨d, r, hR, hf, hok, rc, hc, hr, hhist⟩,
      fun hn => ⟨d, r, rc, hR, hf, hok, hc, hr, hne hn, hhist⟩⟩
  · cases rc with
    | nil => exact absurd rfl hne
    | cons b' bs =>
      obtain ⟨rfl, rfl⟩ := List.cons.inj hr
      cases cur with
      | none => simp [CurOK] at hc
      | some t =>
        obtain ⟨dc, hc⟩ := hc
        obtain ⟨t2, lg2, h2, hc2⟩ := hI.next_cons t dc b bs lg hc
        exact ⟨(s, some t2), lg2, onSnd_eq s (onCurrent_some (dflt := (IM.panic "Option.empty" : IM (Option τ) β)) h2),
          d, r, hR, hf, hok, bs, ⟨_, hc2⟩, rfl, hnext d b bs hhist⟩

/-- the callback needs to behave only on the elements the source holds -/
theorem flatMap_sim {mf : α → GoM τ} {inner : Machine τ β}
    {Ri : τ → List β → List β → Prop} (hI : Sim inner Ri) (h : α → List β) (fuel : Nat)
    {m : Machine σ α} {R : σ → List α → List α → Prop} (hS : Sim m R) :
    Sim (flatMap fuel mf inner m) (liftRel (FlatMapInv fuel mf Ri h) R) :=
  flatMap_simH (fun _ hne => absurd rfl hne) (fun d a _ => ⟨d, a, [], rfl, rfl⟩)
    (fun _ b _ hh _ =>
      let ⟨d0, a, pre, hd, hpre⟩ := hh (List.cons_ne_nil _ _)
      ⟨d0, a, pre ++ [b], hd, by rw [List.append_assoc]; exact hpre⟩)
    hI fuel hS

end FpVerif.It
