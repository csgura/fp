/-!
# Reading one entry of a generated association table

The tables under `FpVerif/Gen` are association lists keyed by strings.  Deciding `table.lookup k = some v` by
evaluation compares strings character by character; with the keys known to be distinct (one evaluation per
table) it suffices that `table[i]? = some (k, v)`, which holds by `rfl` (equal literals are not unfolded).
-/
namespace FpVerif.FactsLookup

/-- (Give `h` as `by rfl`: written as a term, `rfl` is elaborated against the entry several times, as a tactic once.) -/
theorem lookup_of_getElem? {α β : Type} [BEq α] [LawfulBEq α] {t : List (α × β)} (hk : (t.map (·.1)).Nodup)
    {i : Nat} {k : α} {v : β} (h : t[i]? = some (k, v)) : t.lookup k = some v := by
  induction t generalizing i with
  | nil => cases h
  | cons p t ih =>
    rw [List.map_cons, List.nodup_cons] at hk
    cases i with
    | zero =>
      cases h
      exact List.lookup_cons_self
    | succ i =>
      rw [List.getElem?_cons_succ] at h
      have hne : (k == p.1) = false := by
        rw [beq_eq_false_iff_ne]
        rintro rfl
        exact hk.1 (List.mem_map.2 ⟨_, List.mem_of_getElem? h, rfl⟩)
      rw [List.lookup_cons, hne]
      exact ih hk.2 h

/-- `rfl` on a literal list of more than a hundred strings runs into the elaborator's recursion limit, on either half it does not -/
theorem eq_of_take_of_drop {α : Type} {a b : List α} (n : Nat) (ht : a.take n = b.take n) (hd : a.drop n = b.drop n) :
    a = b := by
  rw [← List.take_append_drop n a, ht, hd, List.take_append_drop]

end FpVerif.FactsLookup
