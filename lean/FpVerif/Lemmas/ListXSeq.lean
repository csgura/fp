import FpVerif.Model.ListX
/-!
# Lemmas for `Model/ListX.lean`: the accumulator form of `seq.FlatMap`; lookup in an association list after inserts
-/
namespace FpVerif.LX

namespace Sq

theorem flatMapPure_eq {α : Type} (fn : α → List Val) : ∀ (r : List α) (acc : List Val),
    flatMapPure fn r acc = acc ++ r.flatMap fn := by
  intro r
  induction r with
  | nil => intro acc; simp [flatMapPure]
  | cons a t ih => intro acc; simp [flatMapPure, ih, List.append_assoc]

end Sq

/-! ## association lists: last write wins -/

section KV
variable {κ ν : Type} [BEq κ] [LawfulBEq κ]

theorem kvLookup_insert (k k' : κ) (v : ν) : ∀ (m : List (κ × ν)),
    kvLookupBy (· == ·) k (kvInsertBy (· == ·) k' v m) = if k' == k then some v else kvLookupBy (· == ·) k m := by
  intro m
  induction m with
  | nil => simp [kvInsertBy, kvLookupBy]
  | cons e m ih =>
    obtain ⟨k0, v0⟩ := e
    simp only [kvInsertBy]
    by_cases h0 : (k0 == k') = true
    · rw [if_pos h0]
      have : k0 = k' := eq_of_beq h0
      subst this
      simp only [kvLookupBy]
      by_cases h1 : (k0 == k) = true
      · rw [if_pos h1, if_pos h1]
      · rw [if_neg h1, if_neg h1, if_neg h1]
    · rw [if_neg h0]
      simp only [kvLookupBy]
      by_cases h1 : (k0 == k) = true
      · have hk : k0 = k := eq_of_beq h1
        subst hk
        have h2 : ¬ (k' == k0) = true := by
          intro h
          have hk : k' = k0 := eq_of_beq h
          subst hk
          exact h0 h1
        rw [if_pos h1, if_neg h2, if_pos h1]
      · rw [if_neg h1, if_neg h1, ih]

theorem kvLookup_foldl (k : κ) : ∀ (ps m : List (κ × ν)),
    kvLookupBy (· == ·) k (ps.foldl (fun m kv => kvInsertBy (· == ·) kv.1 kv.2 m) m) =
      ((ps.reverse.find? (fun kv => kv.1 == k)).map (·.2)).or (kvLookupBy (· == ·) k m) := by
  intro ps
  induction ps with
  | nil => intro m; simp
  | cons kv ps ih =>
    intro m
    simp only [List.foldl_cons, List.reverse_cons, List.find?_append]
    rw [ih, kvLookup_insert]
    cases hf : List.find? (fun kv => kv.1 == k) ps.reverse with
    | some e => simp
    | none =>
      by_cases h : (kv.1 == k) = true
      · simp [List.find?, h]
      · simp [List.find?, h]

end KV

end FpVerif.LX
