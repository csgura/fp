import FpVerif.Lemmas.HeapSimRes
/-!
The end of `set` / `delete` on a branch node, each for both values of `mutable`: a slot of a hash-array node
replaced (`hashArray_finish`), a child of a bitmap-indexed node replaced (`bitmap_finish`), a new child inserted
(`bitmap_insert`).
-/
namespace FpVerif.HamtHeap
open FpVerif.Hamt
variable {K V : Type}

theorem getElem?_map_fst {γ δ : Type} {rs : List (γ × δ)} {i : Nat} {x : γ} (h : (rs.map (·.1))[i]? = some x) :
    ∃ y, rs[i]? = some (x, y) := by
  rw [List.getElem?_map] at h
  cases hr : rs[i]? with
  | none => rw [hr] at h; cases h
  | some r => rw [hr] at h; simp at h; exact ⟨r.2, by rw [← h]⟩

theorem getElem?_map_snd {γ δ : Type} {rs : List (γ × δ)} {i : Nat} {r : γ × δ} (h : rs[i]? = some r) :
    (rs.map (·.2))[i]? = some r.2 := by
  rw [List.getElem?_map, h]; rfl

/-- a child of a tree is a tree -/
theorem nodup_child {γ : Type} {rs : List (γ × List Addr)} {i : Nat} {r : γ × List Addr}
    (hnd : (rs.map (·.2)).flatten.Nodup) (hri : rs[i]? = some r) : r.2.Nodup :=
  (List.pairwise_flatten.mp hnd).1 r.2 (List.mem_of_getElem? (getElem?_map_snd hri))

/-- footprint of a branch node (own cells `pre`, children `L`) after the child at `idx` was replaced by
    one that consists of its old cells and of cells from `B` on -/
theorem fp_child_replaced {pre : List Nat} {L : List (List Nat)} {idx : Nat} {old new : List Nat} {B : Nat}
    (hnd : (pre ++ L.flatten).Nodup) (hB : ∀ a ∈ pre ++ L.flatten, a < B) (hold : L[idx]? = some old)
    (hnew : new.Nodup) (hsub : ∀ a ∈ new, a ∈ old ∨ B ≤ a) :
    (pre ++ (L.set idx new).flatten).Nodup ∧ ∀ a ∈ (L.set idx new).flatten, a ∈ L.flatten ∨ B ≤ a := by
  obtain ⟨hpre, hndL, hdisj⟩ := List.nodup_append.mp hnd
  have hmem : ∀ a ∈ (L.set idx new).flatten, a ∈ L.flatten ∨ B ≤ a := by
    intro a ha
    rcases mem_flatten_set ha with h | h
    · exact (hsub a h).imp (mem_flatten_of_getElem? hold) id
    · exact Or.inl h
  refine ⟨List.nodup_append.mpr ⟨hpre,
    nodup_flatten_set hndL hold hnew hsub (fun a ha => hB a (List.mem_append_right _ ha)), ?_⟩, hmem⟩
  intro a ha b hb hab
  subst hab
  rcases hmem a hb with h | h
  · exact hdisj a ha a h rfl
  · have := hB a (List.mem_append_left _ ha); omega

/-- the end of `set` / `delete` on a hash-array node whose slot `idx` now holds `o'` (a new child, or
    nil): in place (`other := n`) or in a clone (`other = n.clone()`), `other.nodes[idx] = newNode` -/
theorem hashArray_finish {F s : Nat} {H H1 : Heap K V} {p : Addr} {cnt : Nat} {slots : List (Option Addr)}
    {rs : List (Option (Node K V) × List Addr)} {idx : Nat} {node : Option (Node K V)} {fpo fpn : List Addr}
    {o' : Option Addr} {on : Option (Node K V)} {mu : Bool}
    (hc : H[p]? = some (.hashArray cnt slots)) (hs : s < 32)
    (hk : mapOpt (absSlot F (s + mapNodeBits) H) slots = some rs)
    (hnd : (p :: (rs.map (·.2)).flatten).Nodup) (hri : rs[idx]? = some (node, fpo))
    (ho' : absSlot F (s + mapNodeBits) H1 o' = some (on, fpn)) (hlt : ∀ a ∈ fpn, a < H1.size) (hndn : fpn.Nodup)
    (heff : Eff H H1 (if mu then fpo else [])) (hsub : ∀ a ∈ fpn, a ∈ fpo ∨ H.size ≤ a) (cnt' : Nat)
    {γ : Type} (g : Addr → γ) :
    ∃ p' H', (if mu = true then store p (.hashArray cnt' (slots.set idx o')) >>= fun _ => pure (g p)
        else alloc (.hashArray cnt' (slots.set idx o')) >>= fun a => pure (g a)) H1 = .ok (g p', H') ∧
      SimRes mu (F + 1) s H (p :: (rs.map (·.2)).flatten) H' p'
        (.hashArray cnt' ((rs.map (·.1)).set idx on)) := by
  have hparent := (AbsAt.hashArray hc hs hk).absF
  have hB : ∀ a ∈ [p] ++ (rs.map (·.2)).flatten, a < H.size := fun a ha => absF_lt hparent ha
  have hold := getElem?_map_snd hri
  obtain ⟨hnd', hmem⟩ := fp_child_replaced (pre := [p]) hnd hB hold hndn hsub
  have hnd' : (p :: ((rs.map (·.2)).set idx fpn).flatten).Nodup := hnd'
  have hfpoL : ∀ a ∈ fpo, a ∈ (rs.map (·.2)).flatten := fun a ha => mem_flatten_of_getElem? hold ha
  have hsub' : ∀ a ∈ ((rs.map (·.2)).set idx fpn).flatten, a ∈ p :: (rs.map (·.2)).flatten ∨ H.size ≤ a :=
    fun a ha => (hmem a ha).imp (List.mem_cons_of_mem _) id
  have hmaps : ∀ r' : Option (Node K V) × List Addr, (rs.set idx r').map (·.1) = (rs.map (·.1)).set idx r'.1 ∧
      (rs.set idx r').map (·.2) = (rs.map (·.2)).set idx r'.2 := fun r' => ⟨List.map_set .., List.map_set ..⟩
  cases mu with
  | false =>
    have heff : Eff H H1 [] := heff
    have hle1 := heff.to_le
    rw [if_neg Bool.false_ne_true, bind_ok (alloc_apply _ _)]
    refine ⟨_, _, rfl, ?_⟩
    have hk1 := slots_set heff hk (idx := idx) ho' (fun _ _ _ _ _ _ => by simp)
    rw [← (hmaps (on, fpn)).1]
    apply SimRes.newHashArray hle1 hk1 hs
    · rw [(hmaps _).2]; exact (List.nodup_cons.mp hnd').2
    · rw [(hmaps _).2]
      intro x hx
      rcases mem_flatten_set hx with h | h
      · exact hlt x h
      · have := hB x (List.mem_append_right _ h); have := hle1.1; omega
    · rw [(hmaps _).2]; exact hsub'
  | true =>
    have heff : Eff H H1 fpo := heff
    have hp := lt_size_of_get hc
    have hp1 : p < H1.size := Nat.lt_of_lt_of_le hp heff.1
    obtain ⟨hpn, hndL⟩ := List.nodup_cons.mp hnd
    have hpfpn : p ∉ fpn := fun h => (hsub p h).elim (fun h' => hpn (hfpoL p h')) (fun h' => by omega)
    rw [if_pos rfl, bind_ok (store_apply _ hp1)]
    have heff2 : Eff H (H1.setIfInBounds p (.hashArray cnt' (slots.set idx o'))) (p :: fpo) :=
      Eff.trans (heff.mono (fun a ha _ => by simp [ha])) (Eff.set _ _ _ (by simp))
    have ho2 := (Eff.set H1 p (.hashArray cnt' (slots.set idx o')) (W := [p]) (by simp)).absSlot ho'
      (fun a ha => by simp only [List.mem_singleton]; intro h; exact hpfpn (h ▸ ha))
    have hk2 := slots_set heff2 hk (idx := idx) ho2
      (fun j r hj hr a ha => by
        simp only [List.mem_cons, not_or]
        have haL := mem_flatten_of_getElem? (getElem?_map_snd hr) ha
        exact ⟨fun h => hpn (h ▸ haL), disjoint_of_nodup_flatten hndL (getElem?_map_snd hr) hold hj ha⟩)
    refine ⟨_, _, rfl, p :: ((rs.map (·.2)).set idx fpn).flatten, ?_, hnd', ?_, ?_⟩
    · rw [(AbsAt.hashArray (get_set_eq _ hp1) hs hk2).absF, (hmaps _).1, (hmaps _).2]
    · exact heff2.mono fun a ha _ => by
        rcases List.mem_cons.mp ha with rfl | ha
        · simp
        · simp [hfpoL a ha]
    · intro a ha
      rcases List.mem_cons.mp ha with rfl | ha
      · simp
      · exact hsub' a ha

/-- slot `i` of a hash-array node: out of range, nil, or a child with its abstraction -/
theorem slots_at {f s : Nat} {H : Heap K V} {slots : List (Option Addr)} {rs : List (Option (Node K V) × List Addr)}
    (hk : mapOpt (absSlot f s H) slots = some rs) (i : Nat) :
    (slots[i]? = none ∧ (rs.map (·.1))[i]? = none) ∨
    (slots[i]? = some none ∧ rs[i]? = some (none, []) ∧ (rs.map (·.1))[i]? = some none) ∨
    ∃ c child fpc, slots[i]? = some (some c) ∧ rs[i]? = some (some child, fpc) ∧
      (rs.map (·.1))[i]? = some (some child) ∧ absF f s H c = some (child, fpc) := by
  cases hs : slots[i]? with
  | none =>
    left
    rw [List.getElem?_eq_none_iff] at hs
    exact ⟨rfl, List.getElem?_eq_none_iff.mpr (by rw [List.length_map, mapOpt_length hk]; exact hs)⟩
  | some o =>
    right
    obtain ⟨r, hr, hoabs⟩ := mapOpt_getElem? hk hs
    cases o with
    | none => cases hoabs; exact Or.inl ⟨rfl, hr, by rw [List.getElem?_map, hr]; rfl⟩
    | some c =>
      obtain ⟨rc, hcabs, hrc⟩ := Option.map_eq_some_iff.mp hoabs
      exact Or.inr ⟨c, rc.1, rc.2, rfl, by rw [hr, ← hrc], by rw [List.getElem?_map, hr, ← hrc]; rfl, hcabs⟩

theorem kids_stable {f s : Nat} {H H' : Heap K V} {W : List Addr} (heff : Eff H H' W)
    {ps : List Addr} {rs : List (Node K V × List Addr)} (hk : mapOpt (absF f s H) ps = some rs)
    (hdisj : ∀ r ∈ rs, ∀ a ∈ r.2, a ∉ W) : mapOpt (absF f s H') ps = some rs :=
  kids_transport hk fun _ r hr hcabs => heff.absF (n := r.1) (fp := r.2) hcabs (hdisj r hr)

/-- the end of `set` / `delete` on a bitmap node whose child `idx` was replaced by `c'`: in place
    `n.nodes[idx] = newNode`, else `make` + `copy` + `other.nodes[idx] = newNode` under bitmap `bm'` -/
theorem bitmap_finish {F s : Nat} {H H1 : Heap K V} {p : Addr} {bm : Nat} {sl : Slice} {ps : List Addr}
    {rs : List (Node K V × List Addr)} {idx : Nat} {child : Node K V} {fpo fpn : List Addr}
    {c' : Addr} {nn : Node K V} {mu : Bool}
    (hc : H[p]? = some (.bitmap bm sl)) (hs : s < 32) (hview : viewPtrs H sl = some ps)
    (hk : mapOpt (absF F (s + mapNodeBits) H) ps = some rs)
    (hnd : (p :: sl.arr :: (rs.map (·.2)).flatten).Nodup) (hri : rs[idx]? = some (child, fpo))
    (hc' : absF F (s + mapNodeBits) H1 c' = some (nn, fpn)) (hndn : fpn.Nodup)
    (heff : Eff H H1 (if mu then fpo else [])) (hsub : ∀ a ∈ fpn, a ∈ fpo ∨ H.size ≤ a) (bm' : Nat)
    {γ : Type} (g : Addr → γ) :
    ∃ p' H', (if mu = true then storeSlot sl idx (.ptr c') >>= fun _ => pure (g p)
        else allocSlots (ptrSlots (ps.set idx c')) ps.length >>= fun sl' =>
          alloc (.bitmap bm' sl') >>= fun a => pure (g a)) H1 = .ok (g p', H') ∧
      SimRes mu (F + 1) s H (p :: sl.arr :: (rs.map (·.2)).flatten) H' p'
        (.bitmap (if mu then bm else bm') ((rs.map (·.1)).set idx nn)) := by
  have hparent := (AbsAt.bitmap hc hs hview hk).absF
  have hB : ∀ a ∈ [p, sl.arr] ++ (rs.map (·.2)).flatten, a < H.size := fun a ha => absF_lt hparent ha
  have hold := getElem?_map_snd hri
  obtain ⟨hnd', hmem⟩ := fp_child_replaced (pre := [p, sl.arr]) hnd hB hold hndn hsub
  have hnd' : (p :: sl.arr :: ((rs.map (·.2)).set idx fpn).flatten).Nodup := hnd'
  have hfpoL : ∀ a ∈ fpo, a ∈ (rs.map (·.2)).flatten := fun a ha => mem_flatten_of_getElem? hold ha
  have hsub' : ∀ a ∈ ((rs.map (·.2)).set idx fpn).flatten,
      a ∈ p :: sl.arr :: (rs.map (·.2)).flatten ∨ H.size ≤ a :=
    fun a ha => (hmem a ha).imp (fun h => by simp [h]) id
  cases mu with
  | false =>
    have heff : Eff H H1 [] := heff
    have hle1 := heff.to_le
    rw [if_neg Bool.false_ne_true, bind_ok (allocSlots_apply _ _ _), bind_ok (alloc_apply _ _), Array.size_push]
    refine ⟨_, _, rfl, ?_⟩
    apply SimRes.of_fresh (fp' := (H1.size + 1) :: H1.size :: ((rs.map (·.2)).set idx fpn).flatten)
    · rw [mkBitmap_abs (kids_set heff hk hc' (fun _ _ _ _ _ _ => by simp)) hs _ bm']
      simp [List.map_set]
    · apply nodup_fresh2 (List.nodup_cons.mp (List.nodup_cons.mp hnd').2).2
      intro x hx
      rcases mem_flatten_set hx with h | h
      · exact absF_lt hc' h
      · have := hB x (List.mem_append_right _ h); have := hle1.1; omega
    · exact Heap.le_trans hle1 (Heap.le_trans (Heap.le_push _ _) (Heap.le_push _ _))
    · intro a ha
      have := hle1.1
      simp only [List.mem_cons] at ha
      rcases ha with rfl | rfl | ha
      · right; omega
      · right; omega
      · exact hsub' a ha
  | true =>
    have heff : Eff H H1 fpo := heff
    have hp := lt_size_of_get hc
    have harr := viewWith_arr_lt hview
    obtain ⟨hp1, hnd2⟩ := List.nodup_cons.mp hnd
    obtain ⟨harrL, hndL⟩ := List.nodup_cons.mp hnd2
    have hpa : p ≠ sl.arr := fun h => hp1 (by simp [h])
    have hpL : p ∉ (rs.map (·.2)).flatten := fun h => hp1 (by simp [h])
    have hidx : idx < ps.length := by
      have := (List.getElem?_eq_some_iff.mp hri).1
      rw [mapOpt_length hk] at this; exact this
    -- the slice is untouched by the recursive call
    have hview1 : viewPtrs H1 sl = some ps :=
      (viewWith_agree (heff.2 sl.arr harr (fun h => harrL (hfpoL _ h)))).trans hview
    obtain ⟨H2, h1, hview2, hsz, heff12⟩ :=
      storeSlot_spec (g := Slot.ptr?) hview1 hidx (x := .ptr c') (y := c') rfl
    have heff2 : Eff H H2 (sl.arr :: fpo) :=
      Eff.trans (heff.mono (fun a ha _ => by simp [ha])) (heff12.mono (fun a ha _ => by simp at ha; simp [ha]))
    have hc2 : absF F (s + mapNodeBits) H2 c' = some (nn, fpn) :=
      heff12.absF hc' (fun a ha => by
        simp only [List.mem_singleton]; intro h
        rcases hsub a ha with h' | h'
        · exact harrL (h ▸ hfpoL a h')
        · omega)
    have hk2 : mapOpt (absF F (s + mapNodeBits) H2) (ps.set idx c') = some (rs.set idx (nn, fpn)) := by
      apply kids_set heff2 hk hc2
      intro j r hj hr a ha
      simp only [List.mem_cons, not_or]
      have haL := mem_flatten_of_getElem? (getElem?_map_snd hr) ha
      exact ⟨fun h => harrL (h ▸ haL), disjoint_of_nodup_flatten hndL (getElem?_map_snd hr) hold hj ha⟩
    have hcell2 : H2[p]? = some (.bitmap bm sl) :=
      heff2.get hc (by simp only [List.mem_cons, not_or]; exact ⟨hpa, fun h => hpL (hfpoL p h)⟩)
    rw [if_pos rfl, bind_ok h1]
    refine ⟨_, _, rfl, p :: sl.arr :: ((rs.map (·.2)).set idx fpn).flatten, ?_, hnd', ?_, ?_⟩
    · rw [(AbsAt.bitmap hcell2 hs hview2 hk2).absF]; simp [List.map_set]
    · exact heff2.mono fun a ha _ => by
        rcases List.mem_cons.mp ha with rfl | ha
        · simp
        · simp [hfpoL a ha]
    · intro a ha
      simp only [List.mem_cons] at ha
      rcases ha with rfl | rfl | ha
      · simp
      · simp
      · exact hsub' a ha

theorem map_insert {γ δ : Type} (f : γ → δ) (l : List γ) (x : γ) (idx : Nat) :
    (l.take idx ++ x :: l.drop idx).map f = (l.map f).take idx ++ f x :: (l.map f).drop idx := by
  simp [List.map_take, List.map_drop]

/-- footprint of a branch node (own cells `pre`, now `pre'`; children `L`) after a child made of cells
    from `B` on was inserted -/
theorem fp_child_inserted {pre pre' : List Nat} {L : List (List Nat)} (idx : Nat) {new : List Nat} {B : Nat}
    (hnd : (pre ++ L.flatten).Nodup) (hB : ∀ a ∈ L.flatten, a < B) (hnew : new.Nodup)
    (hfresh : ∀ a ∈ new, B ≤ a) (hpre' : pre'.Nodup) (hsub : ∀ a ∈ pre', (a ∈ pre ∨ B ≤ a) ∧ a ∉ new) :
    (pre' ++ (L.take idx ++ new :: L.drop idx).flatten).Nodup := by
  obtain ⟨_, hndL, hdisj⟩ := List.nodup_append.mp hnd
  refine List.nodup_append.mpr ⟨hpre', nodup_flatten_insert hndL hnew hfresh hB, ?_⟩
  intro a ha b hb hab
  subst hab
  rcases mem_flatten_insert hb with h | h
  · exact (hsub a ha).2 h
  · rcases (hsub a ha).1 with h' | h'
    · exact hdisj a h' a h rfl
    · have := hB a h; omega

/-- the end of `set` on a bitmap node that gets a new value leaf (already allocated, at `H.size`) as
    child `idx`: in place `n.bitmap |= bit; n.nodes = append(n.nodes, nil); copy(…); n.nodes[idx] = newNode`,
    else `make(len+1)` + `copy` + `other.nodes[idx] = newNode` -/
theorem bitmap_insert {F0 s : Nat} {H : Heap K V} {p : Addr} {bm : Nat} {sl : Slice} {ps : List Addr}
    {rs : List (Node K V × List Addr)} {idx : Nat} {mu : Bool} (hidx : mu = true → idx ≤ ps.length)
    (hc : H[p]? = some (.bitmap bm sl)) (hs : s < 32) (hview : viewPtrs H sl = some ps)
    (hk : mapOpt (absF (F0 + 1) (s + mapNodeBits) H) ps = some rs)
    (hnd : (p :: sl.arr :: (rs.map (·.2)).flatten).Nodup)
    (kh : UInt32) (k : K) (v : V) (bm' : Nat) {γ : Type} (g : Addr → γ) :
    ∃ p' H', (if mu = true then insertSlot sl idx (.ptr H.size) >>= fun sl' =>
          store p (.bitmap bm' sl') >>= fun _ => pure (g p)
        else allocSlots (ptrSlots (ps.take idx ++ H.size :: ps.drop idx)) (ps.length + 1) >>= fun sl' =>
          alloc (.bitmap bm' sl') >>= fun a => pure (g a)) (H.push (.value kh k v)) = .ok (g p', H') ∧
      SimRes mu (F0 + 1 + 1) s H (p :: sl.arr :: (rs.map (·.2)).flatten) H' p'
        (.bitmap bm' ((rs.map (·.1)).take idx ++ Node.value kh k v :: (rs.map (·.1)).drop idx)) := by
  have hparent := (AbsAt.bitmap hc hs hview hk).absF
  have hB : ∀ a ∈ (rs.map (·.2)).flatten, a < H.size := fun a ha => absF_lt hparent (by simp [ha])
  have hp := lt_size_of_get hc
  have harr := viewWith_arr_lt hview
  have hsz1 : (H.push (Cell.value kh k v)).size = H.size + 1 := by simp
  have hmemL : ∀ x ∈ ((rs.map (·.2)).take idx ++ [H.size] :: (rs.map (·.2)).drop idx).flatten,
      x ∈ p :: sl.arr :: (rs.map (·.2)).flatten ∨ H.size ≤ x := by
    intro x hx
    rcases mem_flatten_insert hx with h | h
    · right; simp at h; omega
    · left; simp [h]
  have hnd' := fun {pre'} => fp_child_inserted (pre := [p, sl.arr]) (pre' := pre') idx (new := [H.size]) hnd hB
    (by simp) (by simp)
  cases mu with
  | false =>
    rw [if_neg Bool.false_ne_true, bind_ok (allocSlots_apply _ _ _), bind_ok (alloc_apply _ _), Array.size_push, hsz1]
    refine ⟨_, _, rfl, ?_⟩
    apply SimRes.of_fresh
      (fp' := (H.size + 1 + 1) :: (H.size + 1) :: ((rs.map (·.2)).take idx ++ [H.size] :: (rs.map (·.2)).drop idx).flatten)
    · have hk1 := mapOpt_insert (kids_stable (Eff.push H (.value kh k v) []) hk (fun _ _ _ _ => by simp))
        (mkValue_abs H kh k v F0 (s + mapNodeBits)) idx
      have habs := mkBitmap_abs hk1 hs
        (List.replicate (ps.length + 1 - (ptrSlots (ps.take idx ++ H.size :: ps.drop idx) : List (Slot K V)).length) none) bm'
      simp only [hsz1] at habs
      rw [habs, map_insert, map_insert]
    · apply hnd' (pre' := [H.size + 1 + 1, H.size + 1]) (by simp)
      intro a ha
      simp only [List.mem_cons, List.not_mem_nil, or_false] at ha
      have hlt : H.size < a := by
        rcases ha with rfl | rfl
        · omega
        · omega
      exact ⟨Or.inr (Nat.le_of_lt hlt), fun hmem => Nat.ne_of_gt hlt (List.mem_singleton.mp hmem)⟩
    · exact Heap.le_trans (Heap.le_push _ _) (Heap.le_trans (Heap.le_push _ _) (Heap.le_push _ _))
    · intro a ha
      simp only [List.mem_cons] at ha
      rcases ha with rfl | rfl | ha
      · right; omega
      · right; omega
      · exact hmemL a ha
  | true =>
    obtain ⟨hp1, hnd2⟩ := List.nodup_cons.mp hnd
    obtain ⟨harrL, hndL⟩ := List.nodup_cons.mp hnd2
    have hpa : p ≠ sl.arr := fun h => hp1 (by simp [h])
    have hpL : p ∉ (rs.map (·.2)).flatten := fun h => hp1 (by simp [h])
    have hle1 : Heap.le H (H.push (.value kh k v)) := Heap.le_push _ _
    have hview1 : viewPtrs (H.push (.value kh k v)) sl = some ps :=
      (viewWith_agree (hle1.2 sl.arr harr)).trans hview
    obtain ⟨sl', H2, h2, hview2, heff12, hsl', hsl'lt, hsz2⟩ :=
      insertSlot_spec (g := Slot.ptr?) hview1 (hidx rfl) (x := .ptr H.size) (y := H.size) rfl
    have hp2 : p < H2.size := by have := heff12.1; omega
    have hpsl' : p ≠ sl'.arr := by
      rcases hsl' with h | h
      · rw [h]; exact hpa
      · rw [h]; omega
    have heff13 : Eff (H.push (.value kh k v)) (H2.setIfInBounds p (.bitmap bm' sl')) [p, sl.arr] :=
      Eff.trans (heff12.mono (fun a ha _ => by simp at ha; simp [ha])) (Eff.set _ _ _ (by simp))
    have heff3 := Eff.trans (Eff.push H (.value kh k v) [p, sl.arr]) heff13
    have hk3 : mapOpt (absF (F0 + 1) (s + mapNodeBits) (H2.setIfInBounds p (.bitmap bm' sl'))) ps = some rs := by
      apply kids_stable heff3 hk
      intro r hr a ha
      have haL := mem_flatten_snd hr ha
      simp only [List.mem_cons, List.not_mem_nil, or_false, not_or]
      exact ⟨fun h => hpL (h ▸ haL), fun h => harrL (h ▸ haL)⟩
    have hv3 := heff13.absF (mkValue_abs H kh k v F0 (s + mapNodeBits)) (fun a ha => by
      simp only [List.mem_singleton] at ha
      simp only [List.mem_cons, List.not_mem_nil, or_false, not_or]
      subst ha; constructor <;> omega)
    have hview3 : viewPtrs (H2.setIfInBounds p (.bitmap bm' sl')) sl' = some (ps.take idx ++ H.size :: ps.drop idx) :=
      (viewWith_agree (get_set_ne _ hpsl')).trans hview2
    rw [if_pos rfl, bind_ok h2, bind_ok (store_apply _ hp2)]
    refine ⟨_, _, rfl, p :: sl'.arr :: ((rs.map (·.2)).take idx ++ [H.size] :: (rs.map (·.2)).drop idx).flatten,
      ?_, ?_, heff3.mono (fun a ha _ => ?_), ?_⟩
    · rw [(AbsAt.bitmap (get_set_eq _ hp2) hs hview3 (mapOpt_insert hk3 hv3 idx)).absF, map_insert, map_insert]
    · apply hnd' (pre' := [p, sl'.arr]) (by simpa using hpsl')
      intro a ha
      simp only [List.mem_cons, List.not_mem_nil, or_false] at ha
      rcases ha with rfl | rfl
      · exact ⟨by simp, by simp; omega⟩
      · rcases hsl' with h | h
        · exact ⟨by simp [h], by simp; omega⟩
        · exact ⟨Or.inr (by omega), by simp; omega⟩
    · rw [if_pos rfl]
      exact List.mem_append_left _ ha
    · intro a ha
      simp only [List.mem_cons] at ha
      rcases ha with rfl | rfl | ha
      · simp
      · exact hsl'.imp (fun h => by simp [h]) (fun h => by omega)
      · exact hmemL a ha

end FpVerif.HamtHeap
