import FpVerif.Lemmas.HeapWorldStep
import FpVerif.Lemmas.ListBasics
/-!
Whole histories: the invariant holds after every history, every collection handed out stays intact.
Plus: the wrapper methods `Updated` / `Removed` / `Incl` / `Excl`
on a trie-backed receiver ARE the steps `hamtUpdated` / `hamtRemoved` of the histories.
-/
namespace FpVerif.HamtHeap
open FpVerif.Hamt
variable {K V : Type}

theorem Intact.refl (W : World K V) : Intact W W := ⟨⟨[], by simp⟩, fun _ _ => rfl⟩

theorem Intact.trans {W1 W2 W3 : World K V} (h12 : Intact W1 W2) (h23 : Intact W2 W3) : Intact W1 W3 := by
  obtain ⟨⟨l1, hl1⟩, ha1⟩ := h12
  obtain ⟨⟨l2, hl2⟩, ha2⟩ := h23
  refine ⟨⟨l1 ++ l2, by rw [hl2, hl1, List.append_assoc]⟩, fun m hm => ?_⟩
  rw [ha2 m (by rw [hl1]; exact List.mem_append_left _ hm), ha1 m hm]

theorem stepSkip_inv {h : Hasher K} (hl : LawfulHash h) {W : World K V} (hW : WInv h W) (op : Op K V) :
    WInv h (W.stepSkip h op) ∧ Intact W (W.stepSkip h op) := by
  unfold World.stepSkip
  cases hs : W.step h op with
  | ok W' =>
    obtain ⟨h1, h2, _⟩ := hW.step hl op hs
    exact ⟨h1, h2⟩
  | error e => exact ⟨hW, Intact.refl W⟩

theorem run_inv {h : Hasher K} (hl : LawfulHash h) : ∀ (ops : List (Op K V)) {W : World K V}, WInv h W →
    WInv h (W.run h ops) ∧ Intact W (W.run h ops) := by
  intro ops W hW
  exact Fold.inv_rel (P := WInv h) (R := Intact) Intact.refl (fun h1 h2 => h1.trans h2)
    (fun _ op hW => stepSkip_inv hl hW op) hW ops

theorem run_append (h : Hasher K) (ops1 ops2 : List (Op K V)) (W : World K V) :
    W.run h (ops1 ++ ops2) = (W.run h ops1).run h ops2 := by
  unfold World.run; rw [List.foldl_append]

theorem Intact.absV {W W' : World K V} (hi : Intact W W') {i : Nat} (hlt : i < W.vers.length) :
    W'.vers[i]? = W.vers[i]? ∧ W'.absV i = W.absV i := by
  obtain ⟨⟨l, hl⟩, ha⟩ := hi
  have h1 : W'.vers[i]? = W.vers[i]? := by rw [hl, List.getElem?_append_left hlt]
  refine ⟨h1, ?_⟩
  unfold World.absV
  rw [h1]
  have : W.vers[i]? = some W.vers[i] := List.getElem?_eq_getElem hlt
  rw [this]
  simp only
  rw [ha _ (List.getElem_mem hlt)]

theorem WInv.absV_some {h : Hasher K} {W : World K V} (hW : WInv h W) {i : Nat} (hlt : i < W.vers.length) :
    ∃ a, W.absV i = some a ∧ Hamt.Inv h a := by
  obtain ⟨a, fp, habs, _, hinv⟩ := hW.vers _ (List.getElem_mem hlt)
  refine ⟨a, ?_, hinv⟩
  unfold World.absV
  rw [List.getElem?_eq_getElem hlt]
  simp [habs]

-- the wrapper methods on a trie-backed receiver are `hamtUpdated` / `hamtRemoved` ----------------------

section wrappers
variable [BEq K]

theorem HFMap_updated_hamt (h : Hasher K) (m : Addr) (k : K) (v : V) :
    (⟨some (.hamt m)⟩ : HFMap K V).updated h k v = (do pure ⟨some (.hamt (← hamtUpdated h m k v))⟩) := rfl

theorem HFMap_removed_hamt (h : Hasher K) (m : Addr) (ks : List K) :
    (⟨some (.hamt m)⟩ : HFMap K V).removed h ks = (do pure ⟨some (.hamt (← hamtRemoved h m ks))⟩) := rfl

theorem HSetMin_incl_hamt (h : Hasher K) (m : Addr) (v : K) :
    (HSetMin.hamt m).incl h v = (do pure (.hamt (← hamtUpdated h m v true))) := rfl

theorem HSetMin_excl_hamt (h : Hasher K) (m : Addr) (v : K) :
    (HSetMin.hamt m).excl h v = (do pure (.hamt (← hamtRemoved h m [v]))) := rfl

end wrappers

end FpVerif.HamtHeap
