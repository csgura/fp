import FpVerif.Lemmas.IterSrc
/-!
# Demand, operationally: a potential argument over the single calls of an iterator

`StepB m φ wv wp`: every call of the iterator `m` raises the potential `φ` (source pulls minus the
pulls that sit in look-ahead variables) by at most
* `0`  for a `HasNext` that returns,
* `wv` for a `Next` that returns an element,
* `wp` for a call that panics (a panicking callback loses the element it was applied to).

Nothing is assumed about the callbacks (they may log and panic) or about the source (it may be an
unbounded generator): the statement is about single steps of the closures, so it composes over
the combinators without a list denotation.

`PotB φ w wp c` is the same bound for one computation `c`, with rules for `>>=`, `if`, calls on the
captured iterator and accesses to own variables.  `TakeWhile` and `MakePullIterator` store an element in a
variable: what storing it is worth depends on what the variable held before, so the closures that store
are run case by case.

`runScript_stepB` sums the bound over a script (`vals`: elements handed out, `panics`: calls that panicked).  Then one
`…_stepB` per source and per combinator that hands on what it pulls; `Drop` pays at construction (`dropLoop_pot`);
`MStepB` is the bound on every port of a `concat` field, for `Concat`.
-/
namespace FpVerif.It
open IM
variable {σ σ₂ γ X Y α β : Type}

/-- what a call may cost: `wv` when it returns, `wp` when it panics -/
def cost (r : Except PanicVal X) (wv wp : Int) : Int :=
  match r with
  | .ok _ => wv
  | .error _ => wp

@[simp] theorem cost_ok (x : X) (wv wp : Int) : cost (.ok x : Except PanicVal X) wv wp = wv := rfl
@[simp] theorem cost_error (p : PanicVal) (wv wp : Int) : cost (.error p : Except PanicVal X) wv wp = wp := rfl

theorem cost_mono (r : Except PanicVal X) {wv wp wv' wp' : Int} (h1 : wv ≤ wv') (h2 : wp ≤ wp') :
    cost r wv wp ≤ cost r wv' wp' := by
  cases r
  · exact h2
  · exact h1

theorem cost_nonneg (r : Except PanicVal X) {wv wp : Int} (h0 : 0 ≤ wv) (h : wv ≤ wp) : 0 ≤ cost r wv wp := by
  cases r <;> simp <;> omega

structure StepB (m : Machine σ α) (φ : σ → Int) (wv wp : Int) : Prop where
  wv_nonneg : 0 ≤ wv
  wv_le : wv ≤ wp
  hasNext : ∀ s lg, φ (m.hasNext s lg).2.1 ≤ φ s + cost (m.hasNext s lg).1 0 wp
  next : ∀ s lg, φ (m.next s lg).2.1 ≤ φ s + cost (m.next s lg).1 wv wp

theorem StepB.hasNext_of_eq {m : Machine σ α} {φ : σ → Int} {wv wp : Int} (h : StepB m φ wv wp)
    {s s' : σ} {lg lg' : Log} {r : Except PanicVal Bool} (e : m.hasNext s lg = (r, s', lg')) :
    φ s' ≤ φ s + cost r 0 wp := by
  have := h.hasNext s lg; rw [e] at this; exact this

theorem StepB.next_of_eq {m : Machine σ α} {φ : σ → Int} {wv wp : Int} (h : StepB m φ wv wp)
    {s s' : σ} {lg lg' : Log} {r : Except PanicVal α} (e : m.next s lg = (r, s', lg')) :
    φ s' ≤ φ s + cost r wv wp := by
  have := h.next s lg; rw [e] at this; exact this

theorem StepB.wp_nonneg {m : Machine σ α} {φ : σ → Int} {wv wp : Int} (h : StepB m φ wv wp) : 0 ≤ wp :=
  Int.le_trans h.wv_nonneg h.wv_le

theorem StepB.mono {m : Machine σ α} {φ : σ → Int} {wv wp wv' wp' : Int} (h : StepB m φ wv wp)
    (h1 : wv ≤ wv') (h2 : wp ≤ wp') (h3 : wv' ≤ wp') : StepB m φ wv' wp' where
  wv_nonneg := Int.le_trans h.wv_nonneg h1
  wv_le := h3
  hasNext := fun s lg => Int.le_trans (h.hasNext s lg) (Int.add_le_add_left (cost_mono _ (Int.le_refl 0) h2) _)
  next := fun s lg => Int.le_trans (h.next s lg) (Int.add_le_add_left (cost_mono _ h1 h2) _)

theorem StepB.congr {m : Machine σ α} {φ ψ : σ → Int} {wv wp : Int} (h : StepB m φ wv wp) (e : ∀ s, ψ s = φ s) :
    StepB m ψ wv wp := by
  have : ψ = φ := funext e
  rw [this]; exact h

/-! `StepB.hasNext` is `PotB φ 0 wp m.hasNext`, `StepB.next` is `PotB φ wv wp m.next`. -/

/-- running `c` raises `φ` by at most `w` when it returns and by at most `wp` when it panics -/
def PotB (φ : σ → Int) (w wp : Int) (c : IM σ X) : Prop :=
  ∀ s lg, φ (c s lg).2.1 ≤ φ s + cost (c s lg).1 w wp

namespace PotB
variable {φ : σ → Int} {w wp : Int}

theorem mono {w' wp' : Int} {c : IM σ X} (h : PotB φ w wp c) (h1 : w ≤ w') (h2 : wp ≤ wp') : PotB φ w' wp' c :=
  fun s lg => Int.le_trans (h s lg) (Int.add_le_add_left (cost_mono _ h1 h2) _)

/-- a step that leaves the potential alone (a callback, own variables the potential does not look at) costs nothing
    when it returns -/
theorem of_eq {c : IM σ X} (h : ∀ s lg, φ (c s lg).2.1 = φ s) (hp : 0 ≤ wp) : PotB φ 0 wp c := by
  intro s lg
  rw [h s lg]
  refine Int.le_add_of_nonneg_right ?_
  cases (c s lg).1 with
  | error _ => exact hp
  | ok _ => exact Int.le_refl 0

/-- `pure` returns: only the weight of a return matters -/
theorem pure (x : X) (hw : 0 ≤ w) : PotB φ w wp (pure x : IM σ X) :=
  fun _ _ => Int.le_add_of_nonneg_right hw

/-- `panic` does not return: only the weight of a panic matters -/
theorem panic (q : PanicVal) (hp : 0 ≤ wp) : PotB φ w wp (IM.panic q : IM σ X) :=
  fun _ _ => Int.le_add_of_nonneg_right hp

theorem liftG (g : GoM X) (hp : 0 ≤ wp) : PotB φ 0 wp (IM.liftG g : IM σ X) :=
  of_eq (fun _ _ => rfl) hp

/-- sequencing: the weights add; a panic of the second step comes on top of what the first has raised -/
theorem bind_le {a b wa wb : Int} {c : IM σ X} {f : X → IM σ Y} (hc : PotB φ a wa c) (hf : ∀ x, PotB φ b wb (f x))
    (hw : a + b ≤ w) (h1 : wa ≤ wp) (h2 : a + wb ≤ wp) : PotB φ w wp (c >>= f) := by
  intro s lg
  have h1 := hc s lg
  rcases e : c s lg with ⟨r | x, s1, lg1⟩ <;> rw [e] at h1
  · rw [bind_err e]; simp only [cost_error] at h1 ⊢; omega
  · have h2 := hf x s1 lg1
    rw [bind_ok e]
    simp only [cost_ok] at h1
    cases hr : (f x s1 lg1).1 <;> rw [hr] at h2 <;> simp only [cost_ok, cost_error] at h2 ⊢ <;> omega

/-- first a step that costs nothing when it returns, then anything -/
theorem bind {c : IM σ X} {f : X → IM σ Y} (hc : PotB φ 0 wp c) (hf : ∀ x, PotB φ w wp (f x)) :
    PotB φ w wp (c >>= f) :=
  bind_le hc hf (by omega) (Int.le_refl wp) (by omega)

/-- first the step that is paid for, then steps that cost nothing when they return -/
theorem bind_after {c : IM σ X} {f : X → IM σ Y} (hc : PotB φ w wp c) (hf : ∀ x, PotB φ 0 (wp - w) (f x)) :
    PotB φ w wp (c >>= f) :=
  bind_le hc hf (by omega) (Int.le_refl wp) (by omega)

theorem ite {p : Prop} [Decidable p] {c d : IM σ X} (hc : PotB φ w wp c) (hd : PotB φ w wp d) :
    PotB φ w wp (if p then c else d) := by
  split
  · exact hc
  · exact hd

/-- a call on the captured iterator: the own variables (weighed by any `ψ`) stay -/
theorem onFst {c : IM σ X} (h : PotB φ w wp c) (ψ : γ → Int) :
    PotB (fun sc : σ × γ => φ sc.1 + ψ sc.2) w wp (IM.onFst c) := by
  rintro ⟨s, t⟩ lg
  have := h s lg
  show φ (c s lg).2.1 + ψ t ≤ φ s + ψ t + cost (c s lg).1 w wp
  omega

theorem onSnd {c : IM γ X} {ψ : γ → Int} (h : PotB ψ w wp c) (φ : σ → Int) :
    PotB (fun sc : σ × γ => φ sc.1 + ψ sc.2) w wp (IM.onSnd c) := by
  rintro ⟨s, t⟩ lg
  have := h t lg
  show φ s + ψ (c t lg).2.1 ≤ φ s + ψ t + cost (c t lg).1 w wp
  omega

theorem onFst' {c : IM σ X} (h : PotB φ w wp c) : PotB (fun sc : σ × γ => φ sc.1) w wp (IM.onFst c) := by
  rintro ⟨s, t⟩ lg
  exact h s lg

theorem own (c : IM γ X) (hp : 0 ≤ wp) : PotB (fun sc : σ × γ => φ sc.1) 0 wp (IM.onSnd c) :=
  of_eq (fun _ _ => rfl) hp

end PotB


/-- elements handed out by a run -/
def vals : List (Obs α) → Nat
  | [] => 0
  | .val _ :: os => vals os + 1
  | _ :: os => vals os

/-- calls of a run that panicked -/
def panics : List (Obs α) → Nat
  | [] => 0
  | .panic _ :: os => panics os + 1
  | _ :: os => panics os

theorem runScript_inv {m : Machine σ α} {I : σ → Prop} (hH : ∀ s lg, I s → I (m.hasNext s lg).2.1)
    (hN : ∀ s lg, I s → I (m.next s lg).2.1) : ∀ (cs : List Call) (s : σ) (lg : Log), I s → I (runScript m cs s lg).2.1 := by
  intro cs
  induction cs with
  | nil => exact fun _ _ hi => hi
  | cons c cs ih =>
    intro s lg hi
    rw [runScript_cons]
    refine ih _ _ ?_
    cases c with
    | H =>
      have := hH s lg hi
      simp only [runCall]
      generalize m.hasNext s lg = r at this ⊢
      rcases r with ⟨_ | _, _, _⟩ <;> exact this
    | N =>
      have := hN s lg hi
      simp only [runCall]
      generalize m.next s lg = r at this ⊢
      rcases r with ⟨_ | _, _, _⟩ <;> exact this

theorem runScript_stepB {m : Machine σ α} {φ : σ → Int} {wv wp : Int} (h : StepB m φ wv wp) :
    ∀ (cs : List Call) (s : σ) (lg : Log),
      φ (runScript m cs s lg).2.1 ≤ φ s + wv * vals (runScript m cs s lg).1 + wp * panics (runScript m cs s lg).1 := by
  intro cs
  induction cs with
  | nil => intro s lg; simp [runScript, vals, panics]
  | cons c cs ih =>
    intro s lg
    rw [runScript_cons]
    cases c with
    | H =>
      rcases e : m.hasNext s lg with ⟨r, s1, lg1⟩
      have h1 := h.hasNext_of_eq e
      have h2 := ih s1 lg1
      cases r
      all_goals
        simp only [runCall, e]
        generalize runScript m cs s1 lg1 = res at h2 ⊢
        simp only [vals, panics, cost_ok, cost_error, Int.natCast_add, Int.mul_add] at h1 ⊢
        omega
    | N =>
      rcases e : m.next s lg with ⟨r, s1, lg1⟩
      have h1 := h.next_of_eq e
      have h2 := ih s1 lg1
      cases r
      all_goals
        simp only [runCall, e]
        generalize runScript m cs s1 lg1 = res at h2 ⊢
        simp only [vals, panics, cost_ok, cost_error, Int.natCast_add, Int.mul_add] at h1 ⊢
        omega


/-- a machine without instrumented source -/
theorem stepB_zero (m : Machine σ α) : StepB m (fun _ => 0) 0 0 where
  wv_nonneg := Int.le_refl _
  wv_le := Int.le_refl _
  hasNext := PotB.of_eq (fun _ _ => rfl) (Int.le_refl 0)
  next := PotB.of_eq (fun _ _ => rfl) (Int.le_refl 0)

/-- the instrumented slice iterator: `idx` is its pull counter -/
theorem ofSeq_stepB (tag : Option (α → Event)) (xs : List α) :
    StepB (ofSeq tag xs) (fun idx => (idx : Int)) 1 1 where
  wv_nonneg := by omega
  wv_le := by omega
  hasNext := PotB.of_eq (fun _ _ => rfl) (by omega)
  next := by
    intro s lg
    cases h : xs.drop s with
    | nil => rw [ofSeq_next_nil tag lg h]; simp; omega
    | cons a r => rw [(ofSeq_next_cons tag lg h).1]; simp

/-- `Generate`: the call counter -/
theorem generate_stepB (g : Nat → GoM α) : StepB (generate g) (fun n => (n : Int)) 1 1 where
  wv_nonneg := by omega
  wv_le := by omega
  hasNext := PotB.of_eq (fun _ _ => rfl) (by omega)
  next := by
    intro s lg
    cases hr : ((g s).run.run lg).1 with
    | ok v => simp [generate, bind_apply, IM.liftG, hr]
    | error p => simp [generate, bind_apply, IM.liftG, hr]; omega


theorem map_stepB {f : α → GoM β} {m : Machine σ α} {φ : σ → Int} {wv wp : Int} (h : StepB m φ wv wp) :
    StepB (map f m) φ wv wp where
  wv_nonneg := h.wv_nonneg
  wv_le := h.wv_le
  hasNext := h.hasNext
  next :=
    have h0 := Int.sub_nonneg_of_le h.wv_le
    PotB.bind_after h.next (fun _ => PotB.liftG _ h0)

theorem tapEach_stepB {f : α → GoM Unit} {m : Machine σ α} {φ : σ → Int} {wv wp : Int} (h : StepB m φ wv wp) :
    StepB (tapEach f m) φ wv wp where
  wv_nonneg := h.wv_nonneg
  wv_le := h.wv_le
  hasNext := h.hasNext
  next :=
    have h0 := Int.sub_nonneg_of_le h.wv_le
    PotB.bind_after h.next (fun v => PotB.bind (PotB.liftG _ h0) (fun _ => PotB.pure v (Int.le_refl 0)))


/-- `Take(n)`: for every `0 ≤ c ≤ wv` the potential `φ − c·i` (`i` = Take's counter) is raised by at
    most `wv − c` per element.  `c = 0`: Take adds no look-ahead; `c = wv`: handing out an element
    costs NOTHING beyond what the counter `i ≤ n` already accounts for. -/
theorem take_stepB_gen (n : Int) {m : Machine σ α} {φ : σ → Int} {wv wp : Int} (h : StepB m φ wv wp)
    (c : Int) (hc0 : 0 ≤ c) (hc : c ≤ wv) :
    StepB (take n m) (fun sc => φ sc.1 - c * (sc.2 : Int)) (wv - c) wp :=
  have hwp := h.wp_nonneg
  have hle := h.wv_le
  have fst : ∀ {X : Type} {w : Int} {k : IM σ X}, PotB φ w wp k →
      PotB (fun sc : σ × Nat => φ sc.1 - c * (sc.2 : Int)) w wp (IM.onFst k) :=
    fun hk => PotB.onFst hk (fun i : Nat => -(c * (i : Int)))
  have hH : PotB (fun sc : σ × Nat => φ sc.1 - c * (sc.2 : Int)) 0 wp (take n m).hasNext :=
    PotB.bind (PotB.of_eq (fun _ _ => rfl) hwp)
      (fun _ => PotB.ite (fst h.hasNext) (PotB.pure false (Int.le_refl 0)))
  -- `i++` pays `c` in advance
  have hI : PotB (fun sc : σ × Nat => φ sc.1 - c * (sc.2 : Int)) (-c) 0 (IM.onSnd (IM.modify (· + 1))) := by
    rintro ⟨s, i⟩ lg
    show φ s - c * ((i + 1 : Nat) : Int) ≤ φ s - c * (i : Int) + -c
    rw [Int.natCast_add, Int.mul_add]; omega
  { wv_nonneg := by omega
    wv_le := by omega
    hasNext := hH
    next := PotB.bind hH (fun _ => PotB.ite
      (PotB.bind_le hI (fun _ => fst h.next) (by omega) hwp (by omega))
      (PotB.panic _ hwp)) }

theorem take_stepB (n : Int) {m : Machine σ α} {φ : σ → Int} {wv wp : Int} (h : StepB m φ wv wp) :
    StepB (take n m) (fun sc => φ sc.1) wv wp := by
  have := take_stepB_gen n h 0 (Int.le_refl _) h.wv_nonneg
  simpa using this

/-- the counter of `Take(n)` never exceeds `n` -/
theorem take_counter_le (n : Int) (m : Machine σ α) (cs : List Call) (s : σ) (i : Nat) (lg : Log) (hi : i ≤ n.toNat) :
    (runScript (take n m) cs (s, i) lg).2.1.2 ≤ n.toNat := by
  refine runScript_inv (I := fun sc => sc.2 ≤ n.toNat) ?_ ?_ cs (s, i) lg hi
  · rintro ⟨s, i⟩ lg hi
    by_cases hlt : (i : Int) < n <;> simpa [take, bind_apply, hlt, onFst_apply] using hi
  · rintro ⟨s, i⟩ lg hi
    by_cases hlt : (i : Int) < n
    · rcases e : m.hasNext s lg with ⟨_ | b, s1, lg1⟩
      · simpa [take, bind_apply, hlt, onFst_eq _ e] using hi
      · cases b
        · simpa [take, bind_apply, hlt, onFst_eq _ e] using hi
        -- `i++` happens only under `i < n`
        · simp only [take, bind_apply, onSnd_get, hlt, if_true, onFst_eq _ e]
          simp [onFst_apply]
          omega
    · simpa [take, bind_apply, hlt] using hi


/-- the look-ahead of `TakeWhile`: `fv` holds an element, or `breaking` records that the element that
    ended the run was pulled -/
def twHeld (c : TakeWhileSt α) (wv : Int) : Int := if c.breaking || c.fv.isSome then wv else 0

theorem takeWhile_hasNext_pot {p : α → GoM Bool} {m : Machine σ α} {φ : σ → Int} {wv wp : Int} (h : StepB m φ wv wp)
    (s : σ) (c : TakeWhileSt α) (lg : Log) :
    φ ((takeWhile p m).hasNext (s, c) lg).2.1.1 - twHeld ((takeWhile p m).hasNext (s, c) lg).2.1.2 wv
      ≤ φ s - twHeld c wv + cost ((takeWhile p m).hasNext (s, c) lg).1 0 wp := by
  have hle := h.wv_le
  rcases c with ⟨_ | _, _ | v⟩
  · rcases e1 : m.hasNext s lg with ⟨r1, s1, lg1⟩
    have h1 := h.hasNext_of_eq e1
    simp only [takeWhile, bind_apply, onSnd_get, Bool.false_eq_true, if_false, Option.isSome_none, onFst_eq _ e1]
    cases r1 with
    | error q => simpa [twHeld] using h1
    | ok b =>
      cases b with
      | false => simpa [twHeld] using h1
      | true =>
        rcases e2 : m.next s1 lg1 with ⟨r2, s2, lg2⟩
        have h2 := h.next_of_eq e2
        simp only [if_true, bind_apply, onFst_eq _ e2]
        cases r2 with
        | error q =>
          simp only [cost_ok, cost_error, twHeld, Bool.false_eq_true, Option.isSome_none, Bool.or_self, if_false] at h1 h2 ⊢
          omega
        | ok v =>
          simp only [liftG]
          rcases (ExceptT.run (p v)).run lg2 with ⟨r3 | b3, lg3⟩
          · simp only [cost_ok, cost_error, twHeld, Bool.false_eq_true, Option.isSome_none, Bool.or_self, if_false] at h1 h2 ⊢
            omega
          · cases b3 <;> simp [twHeld, bind_apply] at h1 h2 ⊢ <;> omega
  -- `breaking` or an element in `fv`: `HasNext` answers without touching anything
  · exact Int.le_of_eq (Int.add_zero _).symm
  · exact Int.le_of_eq (Int.add_zero _).symm
  · exact Int.le_of_eq (Int.add_zero _).symm

theorem takeWhile_stepB {p : α → GoM Bool} {m : Machine σ α} {φ : σ → Int} {wv wp : Int} (h : StepB m φ wv wp) :
    StepB (takeWhile p m) (fun sc => φ sc.1 - twHeld sc.2 wv) wv wp :=
  have hwp := h.wp_nonneg
  have hwv := h.wv_nonneg
  have hle := h.wv_le
  have hH : PotB (fun sc : σ × TakeWhileSt α => φ sc.1 - twHeld sc.2 wv) 0 wp (takeWhile p m).hasNext :=
    fun sc lg => takeWhile_hasNext_pot h sc.1 sc.2 lg
  have snd : ∀ {X : Type} {w : Int} {k : IM (TakeWhileSt α) X}, PotB (fun c => -twHeld c wv) w wp k →
      PotB (fun sc : σ × TakeWhileSt α => φ sc.1 - twHeld sc.2 wv) w wp (IM.onSnd k) :=
    fun hk => PotB.onSnd hk φ
  -- handing out `fv` frees at most the pull it stood for
  have hM : PotB (fun c : TakeWhileSt α => -twHeld c wv) wv wp (IM.modify fun c => { c with fv := none }) := by
    intro c lg
    show -twHeld { c with fv := none } wv ≤ -twHeld c wv + wv
    unfold twHeld
    split <;> split <;> omega
  { wv_nonneg := hwv
    wv_le := hle
    hasNext := hH
    next := by
      refine PotB.bind hH (fun _ => PotB.ite ?_ (PotB.panic _ hwp))
      refine PotB.bind (snd (PotB.of_eq (fun _ _ => rfl) hwp)) (fun c => ?_)
      split
      · exact PotB.bind_after (snd hM) (fun _ => PotB.pure _ (Int.le_refl 0))
      · exact PotB.panic _ hwp }


theorem scan_stepB {f : β → α → GoM β} {m : Machine σ α} {φ : σ → Int} {wv wp : Int} (h : StepB m φ wv wp) :
    StepB (scan f m) (fun sc => φ sc.1) wv wp :=
  have hwp := h.wp_nonneg
  have hwv := h.wv_nonneg
  have h0 := Int.sub_nonneg_of_le h.wv_le
  have hH : PotB (fun sc : σ × ScanSt β => φ sc.1) 0 wp (scan f m).hasNext :=
    PotB.bind (PotB.own _ hwp) (fun _ => PotB.ite (PotB.pure _ (Int.le_refl 0)) (PotB.onFst' h.hasNext))
  { wv_nonneg := hwv
    wv_le := h.wv_le
    hasNext := hH
    next := by
      refine PotB.bind hH (fun _ => PotB.ite ?_ (PotB.panic _ hwp))
      refine PotB.bind (PotB.own _ hwp) (fun c => PotB.ite ?_ ?_)
      · exact PotB.bind (PotB.own _ hwp) (fun _ => PotB.pure _ hwv)
      · exact PotB.bind_after (PotB.onFst' h.next) (fun v => PotB.bind (PotB.liftG _ h0)
          (fun sum => PotB.bind (PotB.own _ h0) (fun _ => PotB.pure sum (Int.le_refl 0)))) }


theorem zip_stepB {a : Machine σ α} {b : Machine σ₂ β} {φa : σ → Int} {φb : σ₂ → Int} {wva wpa wvb wpb : Int}
    (ha : StepB a φa wva wpa) (hb : StepB b φb wvb wpb) :
    StepB (zip a b) (fun st => φa st.1 + φb st.2) (wva + wvb) (wpa + wpb) where
  wv_nonneg := by have := ha.wv_nonneg; have := hb.wv_nonneg; omega
  wv_le := by have := ha.wv_le; have := hb.wv_le; omega
  hasNext := by
    have := ha.wp_nonneg; have := hb.wp_nonneg
    refine PotB.bind ((PotB.onFst ha.hasNext φb).mono (Int.le_refl _) (by omega)) (fun _ => PotB.ite ?_ ?_)
    · exact (PotB.onSnd hb.hasNext φa).mono (Int.le_refl _) (by omega)
    · exact PotB.pure false (Int.le_refl 0)
  next := by
    have hle := ha.wv_le
    have hwp := hb.wp_nonneg
    refine PotB.bind_le (b := wvb) (wb := wpb) (PotB.onFst ha.next φb) (fun x => ?_)
      (Int.le_refl _) (by omega) (by omega)
    exact PotB.bind_after (PotB.onSnd hb.next φa) (fun y => PotB.pure (x, y) (Int.le_refl 0))


/-- the look-ahead of the pull iterator: `val` holds the element pulled ahead -/
def pullHeld (v : Option α) (wv : Int) : Int := if v.isSome then wv else 0

theorem pullNextFn_pot {m : Machine σ α} {φ : σ → Int} {wv wp : Int} (h : StepB m φ wv wp) (s : σ) (lg : Log) :
    match pullNextFn m s lg with
    | (.ok nv, s', _) => φ s' - pullHeld nv wv ≤ φ s
    | (.error _, s', _) => φ s' ≤ φ s + wp := by
  rcases e1 : m.hasNext s lg with ⟨r1, s1, lg1⟩
  have h1 := h.hasNext_of_eq e1
  cases r1 with
  | error q => simp only [cost_error] at h1; simp [pullNextFn, bind_apply, e1]; omega
  | ok b =>
    simp only [cost_ok] at h1
    cases b with
    | false => simp [pullNextFn, bind_apply, e1, pullHeld]; omega
    | true =>
      rcases e2 : m.next s1 lg1 with ⟨r2, s2, lg2⟩
      have h2 := h.next_of_eq e2
      cases r2 with
      | error q => simp only [cost_error] at h2; simp [pullNextFn, bind_apply, e1, e2]; omega
      | ok v => simp only [cost_ok] at h2; simp [pullNextFn, bind_apply, e1, e2, pullHeld]; omega

theorem pull_stepB {m : Machine σ α} {φ : σ → Int} {wv wp : Int} (h : StepB m φ wv wp) :
    StepB (pull m) (fun sc => φ sc.1 - pullHeld sc.2 wv) wv wp where
  wv_nonneg := h.wv_nonneg
  wv_le := h.wv_le
  hasNext := PotB.of_eq (fun _ _ => rfl) h.wp_nonneg
  next := by
    rintro ⟨s, v⟩ lg
    have hwp := h.wp_nonneg
    cases v with
    | none => exact Int.le_add_of_nonneg_right hwp
    | some ret =>
      have h0 := pullNextFn_pot h s lg
      rcases e : pullNextFn m s lg with ⟨r, s1, lg1⟩
      rw [e] at h0
      cases r with
      | error q =>
        simp only at h0
        simp [pull, bind_apply, onFst_eq _ e, pullHeld]; omega
      | ok nv =>
        simp only at h0
        simp [pull, bind_apply, onFst_eq _ e, pullHeld] at h0 ⊢; omega

/-- construction of the pull iterator pulls the first element into `val` -/
theorem pullInit_pot {m : Machine σ α} {φ : σ → Int} {wv wp : Int} (h : StepB m φ wv wp) (s : σ) (v0 : Option α) (lg : Log) :
    match pullInit m (s, v0) lg with
    | (.ok _, sc', _) => φ sc'.1 - pullHeld sc'.2 wv ≤ φ s
    | (.error _, sc', _) => φ sc'.1 ≤ φ s + wp := by
  have h0 := pullNextFn_pot h s lg
  rcases e : pullNextFn m s lg with ⟨r, s1, lg1⟩
  rw [e] at h0
  cases r with
  | error q => simp only at h0; simpa [pullInit, bind_apply, onFst_eq _ e] using h0
  | ok nv => simp only at h0; simpa [pullInit, bind_apply, onFst_eq _ e] using h0

/-! ### Drop (runs at construction time) -/

theorem dropLoop_potB {m : Machine σ α} {φ : σ → Int} {wv wp : Int} (h : StepB m φ wv wp) :
    ∀ k : Nat, PotB φ ((k : Int) * wp) ((k : Int) * wp) (dropLoop m k)
  | 0 => PotB.pure () (by omega)
  | k + 1 => by
    have hwp := h.wp_nonneg
    have hk : (0 : Int) ≤ (k : Int) * wp := Int.mul_nonneg (Int.natCast_nonneg _) hwp
    have hmul : ((k + 1 : Nat) : Int) * wp = (k : Int) * wp + wp := by
      rw [Int.natCast_add, Int.add_mul]; simp
    rw [hmul]
    refine PotB.bind_le (b := (k : Int) * wp + wp) (wb := (k : Int) * wp + wp) h.hasNext
      (fun _ => PotB.ite ?_ (PotB.pure () (by omega))) (by omega) (by omega) (by omega)
    exact PotB.bind_le (PotB.mono h.next h.wv_le (Int.le_refl _)) (fun _ => dropLoop_potB h k)
      (by omega) (by omega) (by omega)

theorem dropLoop_pot {m : Machine σ α} {φ : σ → Int} {wv wp : Int} (h : StepB m φ wv wp) (k : Nat) (s : σ) (lg : Log) :
    φ (dropLoop m k s lg).2.1 ≤ φ s + (k : Int) * wp := by
  have := dropLoop_potB h k s lg
  cases hr : (dropLoop m k s lg).1 <;> rw [hr] at this <;> exact this


/-- every port of the component list satisfies the step bound -/
def MStepB (M : MMachine σ α) (φ : σ → Int) (wv wp : Int) : Prop :=
  ∀ i, StepB ⟨M.hasNext i, M.next i⟩ φ wv wp

theorem single_mstepB {m : Machine σ α} {φ : σ → Int} {wv wp : Int} (h : StepB m φ wv wp) :
    MStepB (MMachine.single m) φ wv wp := fun _ => h

theorem MStepB.mono {M : MMachine σ α} {φ : σ → Int} {wv wp wv' wp' : Int} (h : MStepB M φ wv wp)
    (h1 : wv ≤ wv') (h2 : wp ≤ wp') (h3 : wv' ≤ wp') : MStepB M φ wv' wp' := fun i => (h i).mono h1 h2 h3

theorem MStepB.congr {M : MMachine σ α} {φ ψ : σ → Int} {wv wp : Int} (h : MStepB M φ wv wp) (e : ∀ s, ψ s = φ s) :
    MStepB M ψ wv wp := fun i => (h i).congr e

/-- `append(alliter, tail.concat...)`: a call on one port touches one side only -/
theorem join_mstepB {A : MMachine σ α} {B : MMachine σ₂ α} {φa : σ → Int} {φb : σ₂ → Int} {wv wp : Int}
    (ha : MStepB A φa wv wp) (hb : MStepB B φb wv wp) :
    MStepB (A.join B) (fun st => φa st.1 + φb st.2) wv wp := by
  intro i
  refine ⟨(ha 0).wv_nonneg, (ha 0).wv_le, ?_, ?_⟩
  · show PotB _ 0 wp (if i < A.n then IM.onFst (A.hasNext i) else IM.onSnd (B.hasNext (i - A.n)))
    exact PotB.ite (PotB.onFst (ha i).hasNext φb) (PotB.onSnd (hb _).hasNext φa)
  · show PotB _ wv wp (if i < A.n then IM.onFst (A.next i) else IM.onSnd (B.next (i - A.n)))
    exact PotB.ite (PotB.onFst (ha i).next φb) (PotB.onSnd (hb _).next φa)

theorem concatParts_mstepB {M : MMachine σ α} {φ : σ → Int} {wv wp : Int} (h : MStepB M φ wv wp) :
    MStepB (concatParts M) (fun sc => φ sc.1) wv wp :=
  fun i => ⟨(h i).wv_nonneg, (h i).wv_le, PotB.onFst' (h i).hasNext, PotB.onFst' (h i).next⟩

theorem concatScan_pot {M : MMachine σ α} {φ : σ → Int} {wv wp : Int} (h : MStepB M φ wv wp) :
    ∀ (k j : Nat), PotB (fun sc : σ × ConcatSt => φ sc.1) 0 wp (concatScan M k j)
  | 0, _ =>
    have hwp := (h 0).wp_nonneg
    PotB.bind (PotB.own _ hwp) (fun _ => PotB.pure false (Int.le_refl 0))
  | k + 1, j =>
    have hwp := (h 0).wp_nonneg
    PotB.bind (PotB.onFst' (h j).hasNext) (fun _ => PotB.ite
      (PotB.bind (PotB.own _ hwp) (fun _ => PotB.pure true (Int.le_refl 0)))
      (concatScan_pot h k (j + 1)))

theorem concatCurrentNext_pot {M : MMachine σ α} {φ : σ → Int} {wv wp : Int} (h : MStepB M φ wv wp) :
    PotB (fun sc : σ × ConcatSt => φ sc.1) 0 wp (concatCurrentNext M) := by
  have hwp := (h 0).wp_nonneg
  refine PotB.bind (PotB.own _ hwp) (fun c => PotB.ite (PotB.pure true (Int.le_refl 0)) ?_)
  split
  · exact PotB.pure false (Int.le_refl 0)
  · next cur _ =>
    exact PotB.bind (PotB.onFst' (h cur).hasNext) (fun _ => PotB.ite
      (PotB.bind (PotB.own _ hwp) (fun _ => PotB.pure true (Int.le_refl 0)))
      (concatScan_pot h _ _))

theorem concat_stepB {M : MMachine σ α} {φ : σ → Int} {wv wp : Int} (h : MStepB M φ wv wp) :
    StepB (concat M) (fun sc => φ sc.1) wv wp where
  wv_nonneg := (h 0).wv_nonneg
  wv_le := (h 0).wv_le
  hasNext := concatCurrentNext_pot h
  next := by
    have hwp := (h 0).wp_nonneg
    refine PotB.bind (concatCurrentNext_pot h) (fun _ => PotB.ite ?_ (PotB.panic _ hwp))
    refine PotB.bind (PotB.own _ hwp) (fun _ => PotB.bind (PotB.own _ hwp) (fun c => ?_))
    split
    · next cur _ => exact PotB.onFst' (h cur).next
    · exact PotB.panic _ hwp

end FpVerif.It
