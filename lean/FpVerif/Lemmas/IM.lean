import FpVerif.Model.IterM
/-!
# `IM σ` (state + log + panic): evaluation equations; programs that move the state along a relation

`MemoPanic.Good R m`: whatever `m` returns, and also when it panics, the state it leaves is `R`-related to the state it
started in.  Heap well-formedness kept (`R s s' := P s → P s'`), "cells are only added and a fired cell is frozen",
"a cell is running only while its closure runs" are all of this form.  For a reflexive and transitive `R` (`Pre R`)
such programs are closed under the constructs of the monad: a proof that a model function is `Good R` follows the
function's text, one rule per construct, without running anything.  The rules are reached through the `Pre R` at hand
(`hR.bind`, `hR.pure` …): the goal alone does not determine `R`.
-/
namespace FpVerif.It
variable {σ γ X Y : Type}

/-! ## evaluation -/

@[simp] theorem pure_apply (x : X) (s : σ) (lg : Log) : (pure x : IM σ X) s lg = (.ok x, s, lg) := rfl

theorem bind_apply (m : IM σ X) (f : X → IM σ Y) (s : σ) (lg : Log) :
    (m >>= f) s lg = match m s lg with
      | (.ok x, s', lg') => f x s' lg'
      | (.error p, s', lg') => (.error p, s', lg') := rfl

theorem bind_ok {m : IM σ X} {f : X → IM σ Y} {s s' : σ} {lg lg' : Log} {x : X}
    (h : m s lg = (.ok x, s', lg')) : (m >>= f) s lg = f x s' lg' := by
  simp [bind_apply, h]

theorem bind_err {m : IM σ X} {f : X → IM σ Y} {s s' : σ} {lg lg' : Log} {p : PanicVal}
    (h : m s lg = (.error p, s', lg')) : (m >>= f) s lg = (.error p, s', lg') := by
  simp [bind_apply, h]

theorem bind_ok_inv {m : IM σ X} {f : X → IM σ Y} {s s2 : σ} {lg lg2 : Log} {y : Y}
    (h : (m >>= f) s lg = (.ok y, s2, lg2)) :
    ∃ x s1 lg1, m s lg = (.ok x, s1, lg1) ∧ f x s1 lg1 = (.ok y, s2, lg2) := by
  rw [bind_apply] at h
  rcases hm : m s lg with ⟨p | x, s1, lg1⟩
  · rw [hm] at h; cases h
  · rw [hm] at h; exact ⟨x, s1, lg1, rfl, h⟩

/-- `if ← c then a else b` once the test `c` has been run -/
theorem guard_apply {c : IM σ Bool} {a b : IM σ X} {s s' : σ} {lg lg' : Log} {t : Bool}
    (h : c s lg = (.ok t, s', lg')) :
    (do if ← c then a else b) s lg = if t then a s' lg' else b s' lg' := by
  rw [bind_ok h]
  cases t <;> rfl

@[simp] theorem map_apply (g : X → Y) (m : IM σ X) (s : σ) (lg : Log) :
    (g <$> m) s lg = match m s lg with
      | (.ok x, s', lg') => (.ok (g x), s', lg')
      | (.error p, s', lg') => (.error p, s', lg') := rfl

@[simp] theorem panic_apply (p : PanicVal) (s : σ) (lg : Log) :
    (IM.panic p : IM σ X) s lg = (.error p, s, lg) := rfl
@[simp] theorem get_apply (s : σ) (lg : Log) : (IM.get : IM σ σ) s lg = (.ok s, s, lg) := rfl
@[simp] theorem set_apply (s s' : σ) (lg : Log) : (IM.set s' : IM σ Unit) s lg = (.ok (), s', lg) := rfl
@[simp] theorem modify_apply (f : σ → σ) (s : σ) (lg : Log) :
    (IM.modify f : IM σ Unit) s lg = (.ok (), f s, lg) := rfl

theorem onFst_apply (m : IM σ X) (s : σ) (c : γ) (lg : Log) :
    (IM.onFst m : IM (σ × γ) X) (s, c) lg = ((m s lg).1, ((m s lg).2.1, c), (m s lg).2.2) := rfl

theorem onSnd_apply (m : IM γ X) (s : σ) (c : γ) (lg : Log) :
    (IM.onSnd m : IM (σ × γ) X) (s, c) lg = ((m c lg).1, (s, (m c lg).2.1), (m c lg).2.2) := rfl

theorem onFst_eq {m : IM σ X} {s s' : σ} {lg lg' : Log} {r : Except PanicVal X} (c : γ)
    (h : m s lg = (r, s', lg')) : (IM.onFst m : IM (σ × γ) X) (s, c) lg = (r, (s', c), lg') := by
  simp [onFst_apply, h]

theorem onSnd_eq {m : IM γ X} {c c' : γ} {lg lg' : Log} {r : Except PanicVal X} (s : σ)
    (h : m c lg = (r, c', lg')) : (IM.onSnd m : IM (σ × γ) X) (s, c) lg = (r, (s, c'), lg') := by
  simp [onSnd_apply, h]

@[simp] theorem onSnd_get (s : σ) (c : γ) (lg : Log) :
    (IM.onSnd IM.get : IM (σ × γ) γ) (s, c) lg = (.ok c, (s, c), lg) := rfl
@[simp] theorem onSnd_set (s : σ) (c c' : γ) (lg : Log) :
    (IM.onSnd (IM.set c') : IM (σ × γ) Unit) (s, c) lg = (.ok (), (s, c'), lg) := rfl
@[simp] theorem onSnd_modify (f : γ → γ) (s : σ) (c : γ) (lg : Log) :
    (IM.onSnd (IM.modify f) : IM (σ × γ) Unit) (s, c) lg = (.ok (), (s, f c), lg) := rfl

/-! ## moving the state along a relation -/

end FpVerif.It

namespace FpVerif.MemoPanic
open FpVerif.It
variable {σ X : Type}

/-- `m` moves the state along `R` whatever its outcome -/
def Good (R : σ → σ → Prop) (m : IM σ X) : Prop := ∀ s lg, R s (m s lg).2.1

end FpVerif.MemoPanic

namespace FpVerif.It
open FpVerif.MemoPanic
variable {σ X Y : Type}

/-- reflexive and transitive: what `pure` and `>>=` need -/
structure Pre (R : σ → σ → Prop) : Prop where
  refl : ∀ s, R s s
  trans : ∀ {a b c}, R a b → R b c → R a c

/-- keeping a predicate of the state -/
theorem Pre.imp (P : σ → Prop) : Pre fun s s' => P s → P s' := ⟨fun _ => id, fun h1 h2 => h2 ∘ h1⟩

namespace Pre
variable {R : σ → σ → Prop} (hR : Pre R)
include hR

theorem pure (x : X) : Good R (pure x : IM σ X) := fun s _ => hR.refl s
theorem panic (p : PanicVal) : Good R (IM.panic p : IM σ X) := fun s _ => hR.refl s
theorem liftG (g : GoM X) : Good R (IM.liftG g : IM σ X) := fun s _ => hR.refl s

/-- if `m` panics the state it left is the final one, otherwise `f` goes on from it -/
theorem bind {m : IM σ X} {f : X → IM σ Y} (hm : Good R m) (hf : ∀ x, Good R (f x)) : Good R (m >>= f) := by
  intro s lg
  have h1 := hm s lg
  rw [bind_apply]
  rcases hr : m s lg with ⟨_ | x, s1, lg1⟩
  · rw [hr] at h1; exact h1
  · rw [hr] at h1; exact hR.trans h1 (hf x s1 lg1)

end Pre
end FpVerif.It

namespace FpVerif.MemoPanic
open FpVerif.It
variable {σ X : Type}

theorem Good.ite {R : σ → σ → Prop} {c : Prop} [Decidable c] {a b : IM σ X} (ha : Good R a) (hb : Good R b) :
    Good R (if c then a else b) := by
  split <;> assumption

end FpVerif.MemoPanic
