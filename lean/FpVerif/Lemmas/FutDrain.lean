import Mathlib.Logic.Hydra
import Mathlib.Tactic.Abel
import Mathlib.Algebra.BigOperators.Group.Finset.Basic
import FpVerif.Model.Future
import FpVerif.Lemmas.ListBasics
/-!
# The task queue of the future network always drains (helper lemmas for `Spec/C06Drain.lean`)

A task either completes a promise (which only MOVES registered callbacks into the pool) or builds `k v` for one
continuation `k`; everything `build (k v)` registers or queues belongs to a structurally smaller continuation.
`FExpr` branches infinitely (`k : Val → FExpr`), so there is no natural-number measure; the argument is the
multiset ("hydra") ordering over that structural order (`Relation.CutExpand`, Mathlib `Logic/Hydra`).

This file is the only place of the project that imports Mathlib; no oracle imports it.
-/
namespace FpVerif.Fut.Drain
open Multiset

/-- what a queued task / registered callback can still cause: only its continuation matters -/
inductive Kind where
  | flatMapK (k : Val → FExpr)
  | transformWithK (k : Try Val → FExpr)
  | recoverWithK (k : Err → FExpr)
  | orFutureK
  | leaf

def cbKind : CB → Kind
  | .flatMapA k _ => .flatMapK k
  | .completeWith _ => .leaf
  | .transformA _ _ => .leaf
  | .transformWithA k _ => .transformWithK k
  | .recoverWithA _ k _ => .recoverWithK k
  | .orFutureA _ _ => .orFutureK
  | .observe _ => .leaf

def taskKind : Task → Kind
  | .cb c _ => cbKind c
  | .applyT _ _ => .leaf

/-- the items `build e` adds to the net (callbacks registered or queued, `Apply` tasks) -/
def created : FExpr → Multiset Kind
  | .ref _ => 0
  | .successful _ => 0
  | .failed _ => 0
  | .successfulOf e => created e
  | .logged _ e => created e
  | .flatMap e k => created e + {Kind.flatMapK k}
  | .transform e _ => created e + {Kind.leaf}
  | .transformWith e k => created e + {Kind.transformWithK k}
  | .recoverWith e _ k => created e + {Kind.recoverWithK k}
  | .orFuture e alt => created e + created alt + {Kind.orFutureK}
  | .apply _ => {Kind.leaf}

/-- the expressions a task of this kind may build when it runs -/
def Spawns : Kind → FExpr → Prop
  | .flatMapK k, e => ∃ v, e = k v
  | .transformWithK k, e => ∃ t, e = k t
  | .recoverWithK k, e => ∃ x, e = k x
  | .orFutureK, _ => False
  | .leaf, _ => False

/-- `a` may appear when a task of kind `b` runs -/
def Lt (a b : Kind) : Prop := (∃ e, Spawns b e ∧ a ∈ created e) ∨ (a = .leaf ∧ b ≠ .leaf)

theorem acc_leaf : Acc Lt Kind.leaf := by
  refine Acc.intro _ fun a h => ?_
  rcases h with ⟨e, hs, _⟩ | ⟨_, hb⟩
  · exact hs.elim
  · exact (hb rfl).elim

theorem acc_of_spawns {b : Kind} (h : ∀ e, Spawns b e → ∀ a ∈ created e, Acc Lt a) : Acc Lt b := by
  refine Acc.intro _ fun a ha => ?_
  rcases ha with ⟨e, hs, hm⟩ | ⟨ha, _⟩
  · exact h e hs a hm
  · exact ha ▸ acc_leaf

theorem acc_add {s : Multiset Kind} {k : Kind} (hs : ∀ a ∈ s, Acc Lt a) (hk : Acc Lt k) : ∀ a ∈ s + {k}, Acc Lt a := by
  intro a h
  rcases mem_add.1 h with h | h
  · exact hs a h
  · exact mem_singleton.1 h ▸ hk

theorem acc_created (e : FExpr) : ∀ a ∈ created e, Acc Lt a := by
  induction e with
  | ref p => exact fun a h => absurd h (notMem_zero a)
  | successful v => exact fun a h => absurd h (notMem_zero a)
  | failed e => exact fun a h => absurd h (notMem_zero a)
  | successfulOf e ih => exact ih
  | logged evs e ih => exact ih
  | flatMap e k ih ihk => exact acc_add ih (acc_of_spawns fun _ ⟨v, he⟩ => he ▸ ihk v)
  | transform e f ih => exact acc_add ih acc_leaf
  | transformWith e k ih ihk => exact acc_add ih (acc_of_spawns fun _ ⟨v, he⟩ => he ▸ ihk v)
  | recoverWith e d k ih ihk => exact acc_add ih (acc_of_spawns fun _ ⟨v, he⟩ => he ▸ ihk v)
  | orFuture e alt ih iha =>
    exact acc_add (fun a h => (mem_add.1 h).elim (ih a) (iha a)) (acc_of_spawns fun _ hs => hs.elim)
  | apply f => exact fun a h => mem_singleton.1 h ▸ acc_leaf

theorem wf_lt : WellFounded Lt := by
  refine ⟨fun a => Acc.intro _ fun a' h => ?_⟩
  rcases h with ⟨e, _, hm⟩ | ⟨ha, _⟩
  · exact acc_created e a' hm
  · exact ha ▸ acc_leaf

def Supp (n : Net) (B : Nat) : Prop := ∀ q, B ≤ q → n.cbs q = []

/-! What the queued tasks and the registered callbacks carry, as a multiset: `fc c` for a callback (below its kind; in
`Lemmas/FutUniq.lean` the promise it will complete), `ft tk` for a task; a task made of a callback carries what the
callback does (`hft`). -/
section Weight
variable {α : Type} (fc : CB → α) (ft : Task → α)

def poolW (n : Net) : Multiset α := ((n.pool.map ft : List α) : Multiset α)

def cbsW (n : Net) (B : Nat) : Multiset α :=
  ∑ q ∈ Finset.range B, (((n.cbs q).map fc : List α) : Multiset α)

def W (n : Net) (B : Nat) : Multiset α := poolW ft n + cbsW fc n B

theorem cbsW_mono {n : Net} {B B' : Nat} (hS : Supp n B) (h : B ≤ B') : cbsW fc n B' = cbsW fc n B := by
  induction B', h using Nat.le_induction with
  | base => rfl
  | succ k hk ih =>
    unfold cbsW at ih ⊢
    rw [Finset.sum_range_succ, ih, hS k hk]
    simp

theorem W_mono {n : Net} {B B' : Nat} (hS : Supp n B) (h : B ≤ B') : W fc ft n B' = W fc ft n B := by
  unfold W; rw [cbsW_mono fc hS h]

theorem cbsW_update (n n' : Net) (B p : Nat) (hp : p < B) (l : List CB)
    (hc : n'.cbs = fun q => if q = p then l else n.cbs q) :
    cbsW fc n' B + (((n.cbs p).map fc : List α) : Multiset α)
      = cbsW fc n B + ((l.map fc : List α) : Multiset α) := by
  unfold cbsW
  have hm : p ∈ Finset.range B := by simpa using hp
  rw [← Finset.add_sum_erase _ _ hm, ← Finset.add_sum_erase (Finset.range B) (fun q => (((n.cbs q).map fc : List α) : Multiset α)) hm]
  have : ∑ x ∈ (Finset.range B).erase p, (((n'.cbs x).map fc : List α) : Multiset α)
       = ∑ x ∈ (Finset.range B).erase p, (((n.cbs x).map fc : List α) : Multiset α) := by
    refine Finset.sum_congr rfl fun x hx => ?_
    have hxp : x ≠ p := (Finset.mem_erase.1 hx).1
    simp [hc, hxp]
  rw [this]
  simp only [hc, if_true]
  abel

theorem W_addTask {n : Net} {B : Nat} (hS : Supp n B) (tk : Task) :
    Supp { n with pool := n.pool ++ [tk] } B ∧
    W fc ft { n with pool := n.pool ++ [tk] } B = W fc ft n B + {ft tk} := by
  refine ⟨hS, ?_⟩
  unfold W poolW
  rw [List.map_append, ← Multiset.coe_add, add_right_comm]
  rfl

theorem W_onComplete (hft : ∀ c t, ft (.cb c t) = fc c) {n : Net} {B : Nat} (hS : Supp n B) (p : Nat) (c : CB) :
    ∃ B', B ≤ B' ∧ Supp (onComplete p c n) B' ∧ W fc ft (onComplete p c n) B' = W fc ft n B + {fc c} := by
  unfold onComplete
  cases hst : n.status p with
  | some t => exact ⟨B, Nat.le_refl _, hft c t ▸ W_addTask fc ft hS (.cb c t)⟩
  | none =>
    have hB : B ≤ max B (p + 1) := Nat.le_max_left _ _
    have hp : p < max B (p + 1) := Nat.le_max_right _ _
    refine ⟨_, hB, fun q hq => ?_, ?_⟩
    · exact (if_neg (Nat.ne_of_gt (Nat.lt_of_lt_of_le hp hq))).trans (hS q (Nat.le_trans hB hq))
    · have h := cbsW_update fc n { n with cbs := fun q => if q = p then n.cbs p ++ [c] else n.cbs q } _ p hp _ rfl
      rw [List.map_append, ← Multiset.coe_add, ← add_assoc] at h
      rw [← W_mono fc ft hS hB]
      exact (congrArg (poolW ft n + ·) (add_right_cancel (h.trans (add_right_comm _ _ _)))).trans (add_assoc _ _ _).symm

theorem W_complete (hft : ∀ c t, ft (.cb c t) = fc c) {n : Net} {B : Nat} (hS : Supp n B) (p : Nat) (t : Try Val) :
    Supp (complete p t n) B ∧ W fc ft (complete p t n) B = W fc ft n B := by
  cases hst : n.status p with
  | some t' =>
    unfold complete
    rw [hst]
    exact ⟨hS, rfl⟩
  | none =>
    have hc : (complete p t n).cbs = fun q => if q = p then [] else n.cbs q := by simp only [complete, hst]
    have hpl : (complete p t n).pool = n.pool ++ (n.cbs p).map (fun c => Task.cb c t) := by simp only [complete, hst]
    have hS' : Supp (complete p t n) B := fun q hq => by
      rw [hc]
      by_cases hqp : q = p
      · exact if_pos hqp
      · exact (if_neg hqp).trans (hS q hq)
    refine ⟨hS', ?_⟩
    have hB : B ≤ max B (p + 1) := Nat.le_max_left _ _
    have h := cbsW_update fc n (complete p t n) _ p (Nat.le_max_right B (p + 1)) [] hc
    rw [← W_mono fc ft hS hB, ← W_mono fc ft hS' hB]
    unfold W poolW
    rw [hpl, List.map_append, ← Multiset.coe_add, List.map_map, add_assoc, add_comm _ (cbsW _ _ _),
      show ft ∘ (fun c => Task.cb c t) = fc from funext fun c => hft c t, h]
    exact congrArg (_ + ·) (add_zero _)

theorem coe_map_eraseIdx (l : List Task) : ∀ (i : Nat) (tk : Task), l[i]? = some tk →
    ((l.map ft : List α) : Multiset α) = (((l.eraseIdx i).map ft : List α) : Multiset α) + {ft tk} := by
  intro i tk h
  obtain ⟨hi, rfl⟩ := List.getElem?_eq_some_iff.1 h
  rw [add_comm, Multiset.singleton_add, Multiset.cons_coe, ← List.map_cons]
  exact Multiset.coe_eq_coe.2 ((List.getElem_cons_eraseIdx_perm hi).map ft).symm

end Weight

def M (n : Net) (B : Nat) : Multiset Kind := W cbKind taskKind n B

/-- `n'` is `n` with the items `s` added, its callbacks still below some bound -/
def Adds (n : Net) (B : Nat) (n' : Net) (s : Multiset Kind) : Prop := ∃ B', B ≤ B' ∧ Supp n' B' ∧ M n' B' = M n B + s

theorem Adds.refl {n : Net} {B : Nat} (hS : Supp n B) : Adds n B n 0 := ⟨B, Nat.le_refl _, hS, (add_zero _).symm⟩

theorem Adds.trans {n n1 n2 : Net} {B : Nat} {s s' : Multiset Kind} (h1 : Adds n B n1 s)
    (h2 : ∀ B1, Supp n1 B1 → Adds n1 B1 n2 s') : Adds n B n2 (s + s') := by
  obtain ⟨B1, hB1, hS1, hM1⟩ := h1
  obtain ⟨B2, hB2, hS2, hM2⟩ := h2 B1 hS1
  exact ⟨B2, Nat.le_trans hB1 hB2, hS2, by rw [hM2, hM1, add_assoc]⟩

theorem M_onComplete {n : Net} {B : Nat} (hS : Supp n B) (p : Nat) (c : CB) : Adds n B (onComplete p c n) {cbKind c} :=
  W_onComplete cbKind taskKind (fun _ _ => rfl) hS p c

theorem M_complete {n : Net} {B : Nat} (hS : Supp n B) (p : Nat) (t : Try Val) :
    Supp (complete p t n) B ∧ M (complete p t n) B = M n B :=
  W_complete cbKind taskKind (fun _ _ => rfl) hS p t

theorem M_addTask {n : Net} {B : Nat} (hS : Supp n B) (tk : Task) :
    Supp { n with pool := n.pool ++ [tk] } B ∧ M { n with pool := n.pool ++ [tk] } B = M n B + {taskKind tk} :=
  W_addTask cbKind taskKind hS tk

/-- `fresh` changes neither `Supp` nor `M`, `Complete` on the new promise adds nothing -/
theorem Adds.complete {n n1 : Net} {B : Nat} {s : Multiset Kind} (h : Adds n B n1 s) (sp : FExpr) (p : Nat) (t : Try Val) :
    Adds n B (complete p t (fresh sp n1).2) s := by
  obtain ⟨B1, hB1, hS1, hM1⟩ := h
  obtain ⟨h1, h2⟩ := M_complete (n := (fresh sp n1).2) hS1 p t
  exact ⟨B1, hB1, h1, h2.trans hM1⟩

/-- a node: one more promise, its callback registered on the handle of a child built before -/
theorem Adds.node {n n1 : Net} {B : Nat} {s : Multiset Kind} (h : Adds n B n1 s) (sp : FExpr) (p : Nat) (c : CB) :
    Adds n B (onComplete p c (fresh sp n1).2) (s + {cbKind c}) :=
  h.trans fun _ hS1 => M_onComplete (n := (fresh sp n1).2) hS1 p c

theorem M_build (e : FExpr) : ∀ (n : Net) (B : Nat), Supp n B → Adds n B (build e n).2 (created e) := by
  induction e with
  | ref p => exact fun n B hS => .refl hS
  | successful v => exact fun n B hS => (Adds.refl hS).complete _ _ _
  | failed err => exact fun n B hS => (Adds.refl hS).complete _ _ _
  | successfulOf e ih => exact fun n B hS => (ih n B hS).complete _ _ _
  | logged evs e ih => exact fun n B hS => ih { n with log := n.log ++ evs } B hS
  | flatMap e k ih _ => exact fun n B hS => (ih n B hS).node _ _ _
  | transform e f ih => exact fun n B hS => (ih n B hS).node _ _ _
  | transformWith e k ih _ => exact fun n B hS => (ih n B hS).node _ _ _
  | recoverWith e d k ih _ => exact fun n B hS => (ih n B hS).node _ _ _
  | orFuture e alt ih iha => exact fun n B hS => ((ih n B hS).trans (iha _)).node _ _ _
  | apply f =>
    intro n B hS
    obtain ⟨h1, h2⟩ := M_addTask (n := (fresh (.apply f) n).2) hS (Task.applyT f n.next)
    exact ⟨B, Nat.le_refl _, h1, h2⟩

/-- the tail of FlatMap/TransformWith/RecoverWith tasks -/
theorem M_chain {n : Net} {B : Nat} (hS : Supp n B) (e : FExpr) (np : Nat) :
    Adds n B (onComplete (build e n).1 (.completeWith np) (build e n).2) (created e + {Kind.leaf}) :=
  (M_build e n B hS).trans fun _ h => M_onComplete h _ _

theorem leaf_lt {b : Kind} (h : b ≠ .leaf) : Lt .leaf b := .inr ⟨rfl, h⟩

/-- a task that only completes a promise adds nothing -/
theorem M_completingTask (k : Kind) {n : Net} {B : Nat} (hS : Supp n B) (np : Nat) (t : Try Val) :
    ∃ B' T, Supp (complete np t n) B' ∧ M (complete np t n) B' = M n B + T ∧ ∀ a ∈ T, Lt a k :=
  ⟨B, 0, (M_complete hS np t).1, by rw [(M_complete hS np t).2, add_zero], by simp⟩

/-- a task that builds `k v` adds `created (k v)` and one leaf -/
theorem M_spawningTask {k : Kind} {e : FExpr} (hsp : Spawns k e) (hk : k ≠ .leaf) {n : Net} {B : Nat} (hS : Supp n B) (np : Nat) :
    ∃ B' T, Supp (onComplete (build e n).1 (.completeWith np) (build e n).2) B' ∧
      M (onComplete (build e n).1 (.completeWith np) (build e n).2) B' = M n B + T ∧ ∀ a ∈ T, Lt a k := by
  obtain ⟨B', _, hS', hM'⟩ := M_chain hS e np
  refine ⟨B', _, hS', hM', fun a ha => ?_⟩
  rcases mem_add.1 ha with ha | ha
  · exact .inl ⟨e, hsp, ha⟩
  · exact mem_singleton.1 ha ▸ leaf_lt hk

/-- one task body: everything it adds is below its own kind -/
theorem M_runTask (tk : Task) {n : Net} {B : Nat} (hS : Supp n B) :
    ∃ B' t, Supp (runTask tk n) B' ∧ M (runTask tk n) B' = M n B + t ∧ ∀ a ∈ t, Lt a (taskKind tk) := by
  match tk with
  | .applyT f np => exact M_completingTask _ (n := { n with log := n.log ++ (f ()).2 }) hS np (f ()).1
  | .cb (.flatMapA k np) (.success v) => exact M_spawningTask (k := .flatMapK k) ⟨v, rfl⟩ nofun hS np
  | .cb (.flatMapA k np) (.failure e) => exact M_completingTask _ hS np (.failure e)
  | .cb (.completeWith np) t => exact M_completingTask _ hS np t
  | .cb (.transformA f np) t => exact M_completingTask _ (n := { n with log := n.log ++ (f t).2 }) hS np (f t).1
  | .cb (.transformWithA k np) t => exact M_spawningTask (k := .transformWithK k) ⟨t, rfl⟩ nofun hS np
  | .cb (.recoverWithA d k np) (.success v) => exact M_completingTask _ hS np (.success v)
  | .cb (.recoverWithA d k np) (.failure e) =>
    simp only [runTask]
    split
    · exact M_spawningTask (k := .recoverWithK k) ⟨e, rfl⟩ nofun hS np
    · exact M_completingTask _ hS np (.failure e)
  | .cb (.orFutureA q np) (.success v) => exact M_completingTask _ hS np (.success v)
  | .cb (.orFutureA q np) (.failure e) =>
    obtain ⟨B2, _, hS2, hM2⟩ := M_onComplete hS q (.completeWith np)
    exact ⟨B2, {Kind.leaf}, hS2, hM2, fun a ha => mem_singleton.1 ha ▸ leaf_lt nofun⟩
  | .cb (.observe id) t => exact ⟨B, 0, hS, (add_zero _).symm, by simp⟩

/-- a scheduler step that really runs a task -/
def RunRel (n' n : Net) : Prop := ∃ i tk, n.pool[i]? = some tk ∧ n' = step n (.run i)

theorem step_run {n : Net} {i : Nat} {tk : Task} (hi : n.pool[i]? = some tk) :
    step n (.run i) = runTask tk { n with pool := n.pool.eraseIdx i } := by
  simp only [step, hi]

theorem runRel_cutExpand {n n' : Net} {B : Nat} (hS : Supp n B) (h : RunRel n' n) :
    ∃ B', Supp n' B' ∧ Relation.CutExpand Lt (M n' B') (M n B) := by
  obtain ⟨i, tk, hi, rfl⟩ := h
  obtain ⟨B', t, hS', hM', hlt⟩ := M_runTask tk (n := { n with pool := n.pool.eraseIdx i }) hS
  rw [step_run hi]
  refine ⟨B', hS', t, taskKind tk, hlt, ?_⟩
  rw [hM', add_right_comm]
  congr 1
  unfold M W poolW
  rw [coe_map_eraseIdx taskKind n.pool i tk hi, add_right_comm]
  rfl

/-- THE TERMINATION ARGUMENT: with finitely many registered callbacks, every sequence of task runs is finite -/
theorem acc_runRel (n : Net) (h : ∃ B, Supp n B) : Acc RunRel n := by
  obtain ⟨B, hS⟩ := h
  have key : ∀ s : Multiset Kind, ∀ (n : Net) (B : Nat), Supp n B → M n B = s → Acc RunRel n := by
    intro s
    induction s using (WellFounded.cutExpand wf_lt).induction with
    | _ s ih =>
      intro n B hS hM
      refine Acc.intro _ fun n' hr => ?_
      obtain ⟨B', hS', hc⟩ := runRel_cutExpand hS hr
      exact ih (M n' B') (hM ▸ hc) n' B' hS' rfl
  exact key _ n B hS rfl

theorem supp_step {n : Net} (h : ∃ B, Supp n B) (ev : Ev) : ∃ B, Supp (step n ev) B := by
  obtain ⟨B, hS⟩ := h
  match ev with
  | .run i =>
    cases hi : n.pool[i]? with
    | none => exact ⟨B, by simpa only [step, hi] using hS⟩
    | some tk =>
      obtain ⟨B', _, hS', _, _⟩ := M_runTask tk (n := { n with pool := n.pool.eraseIdx i }) hS
      exact ⟨B', step_run hi ▸ hS'⟩
  | .src p t => exact ⟨B, (M_complete hS p t).1⟩
  | .mk e =>
    obtain ⟨B', _, hS', _⟩ := M_build e n B hS
    exact ⟨B', hS'⟩
  | .obs p id =>
    obtain ⟨B', _, hS', _⟩ := M_onComplete hS p (.observe id)
    exact ⟨B', hS'⟩

theorem supp_runEvs (evs : List Ev) : ∀ (n : Net), (∃ B, Supp n B) → ∃ B, Supp (runEvs n evs) B :=
  fun _ h => Fold.inv (P := fun n => ∃ B, Supp n B) (fun _ ev h => supp_step h ev) h evs

theorem supp_empty (nsrc : Nat) : ∃ B, Supp (Net.empty nsrc) B := ⟨0, fun _ _ => rfl⟩

end FpVerif.Fut.Drain
