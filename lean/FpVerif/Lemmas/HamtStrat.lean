import FpVerif.Lemmas.HamtSetNode
/-! The stratification of `set` (`setCore` + expansion function) is immaterial below the root. -/
namespace FpVerif.Hamt
variable {K V : Type} {h : Hasher K}

/-- On a well-formed non-array node `setCore` does not depend on the expansion function. -/
theorem setCore_ex_irrel (ex1 ex2 : List (K × V) → K → V → Bool → GoE (Node K V × Bool))
    {s : Nat} {n : Node K V} (hwf : WF h s n) (k : K) (v : V) (kh : UInt32) (mu : Bool) : (∀ es, n ≠ .array es) →
    ∀ r : Bool, n.setCore h ex1 k v s kh mu r = n.setCore h ex2 k v s kh mu r := by
  refine WF.path_induction kh (fun {s n} hwf hb => ?_) (fun {s n o A B} hv ih => ?_) hwf
  · intro hna r
    cases hwf with
    | bitmap | hashArray => exact absurd trivial hb
    | array => exact absurd rfl (hna _)
    | value | collision =>
      unfold Node.setCore
      rfl
  · intro _ r
    rw [setCore_branch hv.branch, setCore_branch hv.branch, hv.read, ok_bind, ok_bind]
    cases o with
    | none => rfl
    | some c => exact congrArg (· >>= _) (ih c rfl (WF.not_array (by omega) (hv.childWF c rfl)) r)

theorem setTrie_eq_set {s : Nat} {n : Node K V} (hwf : WF h s n) (hna : ∀ es, n ≠ .array es)
    (k : K) (v : V) (kh : UInt32) (mu r : Bool) :
    n.setTrie h k v s kh mu r = n.set h k v s kh mu r :=
  setCore_ex_irrel _ _ hwf k v kh mu hna r

/-- the expansion loop written with `set` itself (as in Go) equals the model's loop -/
theorem expand_loop_eq (hl : LawfulHash h) : ∀ (Q : List (K × V)) (N : Node K V) (r : Bool),
    WF h 0 N → (∀ es, N ≠ .array es) →
    Q.foldlM (fun (acc : Node K V × Bool) entry =>
        acc.1.setTrie h entry.1 entry.2 0 (h.hash entry.1) false acc.2) (N, r) =
    Q.foldlM (fun (acc : Node K V × Bool) entry =>
        acc.1.set h entry.1 entry.2 0 (h.hash entry.1) false acc.2) (N, r) := by
  intro Q
  induction Q with
  | nil => intro N r _ _; rfl
  | cons e Q ih =>
    intro N r hwf hna
    rw [List.foldlM_cons, List.foldlM_cons]
    simp only [setTrie_eq_set hwf hna]
    obtain ⟨⟨N1, r1⟩, hset, hpost⟩ := setCore_spec hl (expandArray h) hwf e.1 hna e.2 false r
      (fun _ _ => pfxEq_zero _ _)
    have hset' : Node.set h N e.1 e.2 0 (h.hash e.1) false r = .ok (N1, r1) := hset
    simp only [hset', bind, Except.bind]
    exact ih N1 r1 hpost.wf hpost.notArray

end FpVerif.Hamt
