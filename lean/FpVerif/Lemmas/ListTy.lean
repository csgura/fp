import FpVerif.Lemmas.ListGen
import FpVerif.Lemmas.Callbacks
/-!
# Lazy list: a heap typing for ALL closure kinds

To show that every list expression evaluates to a heap representation that satisfies the
interface contract, the heap is given a *typing* `Sty` (a ghost assignment, as in a type-soundness
proof for references):

* every `getHead` cell gets the value it will produce (`o`) and the fuel forcing it needs (`need`);
* every `getTail` cell gets the list (`DenV`: a finite list, or the infinite index stream of
  `ZipWithIndex`) its value will denote, the fuel forcing it needs, and a bound `K` on the fuel that
  every operation on that value (and on all its tails) needs; a tail cell that is never forced on a
  protocol-conforming use (the tail of an empty list) is typed `none`;
* every `lazy.Call` cell of `FlatMap` likewise.

`VDen S l d K`: under typing `S` the list value `l` denotes `d` and every interface operation on it
needs at most fuel `K`.  `Cons S hp`: every cell of heap `hp` is consistent with `S` — a pending
closure (kept as data) captures values whose typing makes the closure compute the cell's type, a
done cell holds a value of the cell's type.  `need` doubles as the rank that shows the absence of
`sync.Once` re-entrance (deadlock): a closure only forces cells of strictly smaller `need`
(`Quiet`: all cells that are currently running have a `need` above what the operation touches).

The typing only grows (`Ext`), so `VDen` is stable; all frame reasoning is in the few lemmas that
update `Cons` (`Cons.pushHT`, `Cons.setH` …, in `Lemmas/ListTyHeap.lean`).  The file ends with the Hoare
layer in which total correctness is stated: `Post` (typing extended, heap consistent, `RunSub`: no new
running cells, `DoneSub`: done cells untouched) and `Spec m S hp Q` with its rules `pure` / `bind` / `weaken` / `liftG`.
-/
namespace FpVerif.LL
open FpVerif.It

/-! ## denotations -/

/-- what a list value denotes: a finite list or the stream `n, n+1, …` (the index list of
    `ZipWithIndex`) -/
inductive DenV where
  | fin (xs : List Val)
  | idx (n : Nat)

def DenV.head? : DenV → Option Val
  | .fin xs => xs.head?
  | .idx n => some (.int n)

def DenV.tail : DenV → DenV
  | .fin xs => .fin xs.tail
  | .idx n => .idx (n + 1)

def DenV.isEmpty : DenV → Bool
  | .fin xs => xs.isEmpty
  | .idx _ => false

/-- type of the tail cell of a list denoting `d`: junk (`none`) when `d` is empty -/
def DenV.tailTy (d : DenV) : Option DenV := if d.isEmpty then none else some d.tail

structure HTy where
  o : Option Val
  need : Nat

structure TTy where
  d : Option DenV
  need : Nat
  K : Nat

structure LTy where
  xs : List Val
  need : Nat
  K : Nat

/-- heap typing -/
structure Sty where
  nh : Nat
  nt : Nat
  nl : Nat
  hs : Nat → HTy
  ts : Nat → TTy
  ls : Nat → LTy

def Sty.empty : Sty := ⟨0, 0, 0, fun _ => ⟨none, 0⟩, fun _ => ⟨none, 0, 0⟩, fun _ => ⟨[], 0, 0⟩⟩

def Sty.pushHT (S : Sty) (h : HTy) (t : TTy) : Sty :=
  { S with nh := S.nh + 1, nt := S.nt + 1,
           hs := fun c => if c = S.nh then h else S.hs c,
           ts := fun c => if c = S.nt then t else S.ts c }

def Sty.pushL (S : Sty) (l : LTy) : Sty :=
  { S with nl := S.nl + 1, ls := fun c => if c = S.nl then l else S.ls c }

structure Ext (S S' : Sty) : Prop where
  nh : S.nh ≤ S'.nh
  nt : S.nt ≤ S'.nt
  nl : S.nl ≤ S'.nl
  hs : ∀ c, c < S.nh → S'.hs c = S.hs c
  ts : ∀ c, c < S.nt → S'.ts c = S.ts c
  ls : ∀ c, c < S.nl → S'.ls c = S.ls c

theorem Ext.refl (S : Sty) : Ext S S := ⟨Nat.le_refl _, Nat.le_refl _, Nat.le_refl _, fun _ _ => rfl, fun _ _ => rfl, fun _ _ => rfl⟩

theorem Ext.trans {S1 S2 S3 : Sty} (a : Ext S1 S2) (b : Ext S2 S3) : Ext S1 S3 :=
  ⟨Nat.le_trans a.nh b.nh, Nat.le_trans a.nt b.nt, Nat.le_trans a.nl b.nl,
   fun c h => by rw [b.hs c (Nat.lt_of_lt_of_le h a.nh), a.hs c h],
   fun c h => by rw [b.ts c (Nat.lt_of_lt_of_le h a.nt), a.ts c h],
   fun c h => by rw [b.ls c (Nat.lt_of_lt_of_le h a.nl), a.ls c h]⟩

theorem Ext.pushHT (S : Sty) (h : HTy) (t : TTy) : Ext S (S.pushHT h t) :=
  ⟨Nat.le_succ _, Nat.le_succ _, Nat.le_refl _,
   fun c hc => by simp only [Sty.pushHT]; rw [if_neg (by omega)],
   fun c hc => by simp only [Sty.pushHT]; rw [if_neg (by omega)],
   fun _ _ => rfl⟩

theorem Ext.pushL (S : Sty) (l : LTy) : Ext S (S.pushL l) :=
  ⟨Nat.le_refl _, Nat.le_refl _, Nat.le_succ _, fun _ _ => rfl, fun _ _ => rfl,
   fun c hc => by simp only [Sty.pushL]; rw [if_neg (by omega)]⟩

/-! ## typing of values -/

/-- under `S` the list value `l` denotes `d`; every interface operation on it and on its tails
    needs at most fuel `K` -/
def VDen (S : Sty) : LV → DenV → Nat → Prop
  | .nil, d, K => d = .fin [] ∧ 1 ≤ K
  | .cons h t, d, K => ∃ xs, d = .fin (h :: xs) ∧ VDen S t (.fin xs) K
  | .seq xs, d, K => d = .fin xs ∧ 1 ≤ K
  | .adaptor hc tc, d, K =>
    hc < S.nh ∧ (S.hs hc).o = d.head? ∧ (S.hs hc).need < K ∧
    (d.isEmpty = false →
      tc < S.nt ∧ (S.ts tc).d = some d.tail ∧ (S.ts tc).need < K ∧ (S.ts tc).K ≤ K)
  | .nilIface, _, _ => False      -- the nil interface (a cell whose closure panicked) denotes nothing

theorem VDen.pos {S : Sty} : ∀ {l : LV} {d : DenV} {K : Nat}, VDen S l d K → 1 ≤ K := by
  intro l
  induction l with
  | nil => intro d K h; exact h.2
  | cons a t ih => intro d K h; obtain ⟨xs, _, h2⟩ := h; exact ih h2
  | seq xs => intro d K h; exact h.2
  | adaptor hc tc => intro d K h; have := h.2.2.1; omega
  | nilIface => intro d K h; exact h.elim

theorem VDen.mono {S S' : Sty} (hE : Ext S S') : ∀ {l : LV} {d : DenV} {K K' : Nat},
    VDen S l d K → K ≤ K' → VDen S' l d K' := by
  intro l
  induction l with
  | nil => intro d K K' h hk; exact ⟨h.1, Nat.le_trans h.2 hk⟩
  | cons a t ih => intro d K K' h hk; obtain ⟨xs, h1, h2⟩ := h; exact ⟨xs, h1, ih h2 hk⟩
  | seq xs => intro d K K' h hk; exact ⟨h.1, Nat.le_trans h.2 hk⟩
  | adaptor hc tc =>
    intro d K K' h hk
    obtain ⟨h1, h2, h3, h4⟩ := h
    refine ⟨Nat.lt_of_lt_of_le h1 hE.nh, by rw [hE.hs hc h1]; exact h2, by rw [hE.hs hc h1]; omega, ?_⟩
    intro hne
    obtain ⟨t1, t2, t3, t4⟩ := h4 hne
    refine ⟨Nat.lt_of_lt_of_le t1 hE.nt, by rw [hE.ts tc t1]; exact t2, by rw [hE.ts tc t1]; omega,
      by rw [hE.ts tc t1]; omega⟩
  | nilIface => intro d K K' h _; exact h.elim

theorem VDen.monoK {S : Sty} {l : LV} {d : DenV} {K K' : Nat} (h : VDen S l d K) (hk : K ≤ K') :
    VDen S l d K' := VDen.mono (Ext.refl S) h hk

theorem VDen.ext {S S' : Sty} {l : LV} {d : DenV} {K : Nat} (h : VDen S l d K) (hE : Ext S S') :
    VDen S' l d K := VDen.mono hE h (Nat.le_refl _)

/-! ## what the function given to `FlatMap` denotes, and syntactic fuel bounds -/

def maxOver (f : Val → Nat) : List Val → Nat
  | [] => 0
  | y :: ys => max (f y) (maxOver f ys)

theorem le_maxOver (f : Val → Nat) : ∀ (ys : List Val) (y : Val), y ∈ ys → f y ≤ maxOver f ys := by
  intro ys
  induction ys with
  | nil => intro y h; cases h
  | cons a as ih =>
    intro y h
    simp only [maxOver]
    rcases List.mem_cons.mp h with rfl | h
    · exact Nat.le_max_left _ _
    · exact Nat.le_trans (ih y h) (Nat.le_max_right _ _)

/-- fuel bound of the `FlatMap` list over a source with bound `Ks` and `n` remaining elements,
    inner lists bounded by `Bi` -/
def FMB (Ks Bi n : Nat) : Nat := Ks + Bi + 4 * n + 4

theorem FMB_pos (Ks Bi n : Nat) : Ks + Bi + 4 ≤ FMB Ks Bi n := by unfold FMB; omega

theorem le_FMB (Ks Bi n : Nat) : Ks ≤ FMB Ks Bi n := by unfold FMB; omega

theorem FMB_succ (Ks Bi n : Nat) : FMB Ks Bi (n + 1) = FMB Ks Bi n + 4 := rfl

/-- callbacks of the expression do not panic (they may log) -/
def LExpr.Pure : LExpr → Prop
  | .apply _ t => t.Pure
  | .map e f => e.Pure ∧ Total f (pure1 f)
  | .flatMap e _ k => e.Pure ∧ k.Pure
  | .filterMap e f => e.Pure ∧ Total f (pure1 f)
  | .combine e1 e2 => e1.Pure ∧ e2.Pure
  | .zip e1 e2 => e1.Pure ∧ e2.Pure
  | .zipidx e => e.Pure
  | .scan e _ f => e.Pure ∧ Total2 f (pure2 f)
  | _ => True

/-- fuel that evaluating the expression needs, and bound of the resulting list value -/
def LExpr.bnd : LExpr → Val → Nat
  | .apply _ t, x => t.bnd x + 1
  | .map e _, x => e.bnd x + 4
  | .flatMap e _ k, x => FMB (e.bnd x) (maxOver (fun y => k.bnd y + 1) (e.denote x)) (e.denote x).length + 1
  | .filterMap e _, x => FMB (e.bnd x) 1 (e.denote x).length + 1
  | .combine e1 e2, x => max (e1.bnd x) (e2.bnd x) + 4
  | .zip e1 e2, x => max (e1.bnd x) (e2.bnd x) + 4
  | .zipidx e, x => e.bnd x + 4
  | .scan e _ _, x => e.bnd x + 4
  | _, _ => 3

def FnK.den : FnK → Val → List Val
  | .expr _ k, y => k.denote y
  | .fromOption f, y => (pure1 f y).toList

def FnK.bnd : FnK → Val → Nat
  | .expr _ k, y => k.bnd y + 1
  | .fromOption _, _ => 1

def FnK.Pure : FnK → Prop
  | .expr _ k => k.Pure
  | .fromOption f => Total f (pure1 f)

def fmDen (k : FnK) (ys : List Val) : List Val := ys.flatMap k.den

def zipD : DenV → List Val → List Val
  | .fin xs, ys => List.zipWith (fun a b => Val.tup [a, b]) xs ys
  | .idx n, ys => enumFrom n ys

def scanTail (g : Val → Val → Val) (z : Val) : List Val → List Val
  | [] => []
  | a :: as => scanlV g (g z a) as

/-- a generator (`GenerateFrom(i, g)`) denotes `d`: the enumeration up to the first `None`, or the
    index stream -/
def GenDen (gp : Int → Option Val) (i : Int) : DenV → Prop
  | .fin xs => Enum gp i xs
  | .idx n => i = (n : Int) ∧ ∀ m : Nat, gp (m : Int) = some (.int m)

/-! ## typing of closures -/

/-- the captured variables of a `FlatMap` closure -/
structure FMOK (S : Sty) (lz : Nat) (tl : LV) (k : FnK) (y : Val) (ys : List Val) (Ks Bi : Nat) : Prop where
  hlz : lz < S.nl
  hxs : (S.ls lz).xs = k.den y
  hneed : (S.ls lz).need ≤ Ks + Bi + 1
  hK : (S.ls lz).K ≤ Bi
  htl : VDen S tl (.fin ys) Ks
  hpure : k.Pure
  hbi : ∀ y', y' ∈ y :: ys → k.bnd y' ≤ Bi

def HThunkOK (S : Sty) : HThunk → HTy → Prop
  | .const o', ty => ty.o = o'
  | .gen i g, ty => ∃ gp, Total g gp ∧ ty.o = gp i
  | .map opt fn, ty => ∃ xs K, VDen S opt (.fin xs) K ∧ Total fn (pure1 fn) ∧
      ty.o = (xs.head?).map (pure1 fn) ∧ K + 3 ≤ ty.need
  | .flatMap lz tl k, ty => ∃ y ys Ks Bi, FMOK S lz tl k y ys Ks Bi ∧
      ty.o = (k.den y ++ fmDen k ys).head? ∧ FMB Ks Bi ys.length + 3 ≤ ty.need
  | .zip a b, ty => ∃ da ys K, VDen S a da K ∧ VDen S b (.fin ys) K ∧
      ty.o = (zipD da ys).head? ∧ K + 3 ≤ ty.need
  | .reverse xs, ty => ty.o = xs.getLast?
  | .combine l1, ty => ∃ x xs K, VDen S l1 (.fin (x :: xs)) K ∧ ty.o = some x ∧ K + 2 ≤ ty.need

abbrev Its := Array (Int × List Val × Nat)

def TThunkOK (S : Sty) (its : Its) : TThunk → DenV → Nat → Nat → Prop
  | .gen i g, d, _, K => ∃ gp, Total g gp ∧ GenDen gp (i + 1) d ∧ 3 ≤ K
  | .map opt fn, d, need, K => ∃ x xs Ko, VDen S opt (.fin (x :: xs)) Ko ∧ Total fn (pure1 fn) ∧
      d = .fin (xs.map (pure1 fn)) ∧ Ko + 2 ≤ need ∧ Ko + 4 ≤ K
  | .flatMap lz tl k, d, need, K => ∃ y ys Ks Bi, FMOK S lz tl k y ys Ks Bi ∧
      (k.den y ++ fmDen k ys) ≠ [] ∧ d = .fin (k.den y ++ fmDen k ys).tail ∧
      FMB Ks Bi ys.length + 2 ≤ need ∧ FMB Ks Bi ys.length ≤ K
  | .zip a b, d, need, K => ∃ da y ys Ko, VDen S a da Ko ∧ da.isEmpty = false ∧
      VDen S b (.fin (y :: ys)) Ko ∧ d = .fin (zipD da.tail ys) ∧ Ko + 2 ≤ need ∧ Ko + 4 ≤ K
  | .scan s zero f, d, need, K => ∃ xs Ks, VDen S s (.fin xs) Ks ∧ Total2 f (pure2 f) ∧
      d = .fin (scanTail (pure2 f) zero xs) ∧ Ks + 3 ≤ need ∧ Ks + 4 ≤ K
  | .collect it, d, _, K => ∃ id xs idx, its[it]? = some (id, xs, idx) ∧ d = .fin (xs.drop idx) ∧ 3 ≤ K
  | .combine l1 l2, d, need, K => ∃ x xs ys K1 K2, VDen S l1 (.fin (x :: xs)) K1 ∧
      VDen S l2 (.fin ys) K2 ∧ d = .fin (xs ++ ys) ∧ K1 + 3 ≤ need ∧ max (K1 + 4) K2 ≤ K
  | .reverse xs, d, _, K => d = .fin (xs.dropLast.reverse) ∧ 3 ≤ K

structure LThunkOK (S : Sty) (opt : LV) (k : FnK) (ty : LTy) : Prop where
  ex : ∃ y ys Ks, VDen S opt (.fin (y :: ys)) Ks ∧ ty.xs = k.den y ∧
      max Ks (k.bnd y) + 1 ≤ ty.need ∧ k.bnd y ≤ ty.K
  pure : k.Pure

theorem FMOK.mono {S S' : Sty} (hE : Ext S S') {lz tl k y ys Ks Bi} (h : FMOK S lz tl k y ys Ks Bi) :
    FMOK S' lz tl k y ys Ks Bi :=
  ⟨Nat.lt_of_lt_of_le h.hlz hE.nl, by rw [hE.ls _ h.hlz]; exact h.hxs, by rw [hE.ls _ h.hlz]; exact h.hneed,
   by rw [hE.ls _ h.hlz]; exact h.hK, h.htl.ext hE, h.hpure, h.hbi⟩

theorem HThunkOK.mono {S S' : Sty} (hE : Ext S S') : ∀ {t : HThunk} {ty : HTy}, HThunkOK S t ty → HThunkOK S' t ty := by
  intro t ty h
  cases t with
  | const o => exact h
  | gen i g => exact h
  | map opt fn => obtain ⟨xs, K, h1, h2⟩ := h; exact ⟨xs, K, h1.ext hE, h2⟩
  | flatMap lz tl k => obtain ⟨y, ys, Ks, Bi, h1, h2⟩ := h; exact ⟨y, ys, Ks, Bi, h1.mono hE, h2⟩
  | zip a b => obtain ⟨da, ys, K, h1, h2, h3⟩ := h; exact ⟨da, ys, K, h1.ext hE, h2.ext hE, h3⟩
  | reverse xs => exact h
  | combine l1 => obtain ⟨x, xs, K, h1, h2⟩ := h; exact ⟨x, xs, K, h1.ext hE, h2⟩

theorem TThunkOK.mono {S S' : Sty} (hE : Ext S S') {its : Its} : ∀ {t : TThunk} {d : DenV} {need K : Nat},
    TThunkOK S its t d need K → TThunkOK S' its t d need K := by
  intro t d need K h
  cases t with
  | gen i g => exact h
  | map opt fn => obtain ⟨x, xs, Ko, h1, h2⟩ := h; exact ⟨x, xs, Ko, h1.ext hE, h2⟩
  | flatMap lz tl k => obtain ⟨y, ys, Ks, Bi, h1, h2⟩ := h; exact ⟨y, ys, Ks, Bi, h1.mono hE, h2⟩
  | zip a b => obtain ⟨da, y, ys, Ko, h1, h2, h3, h4⟩ := h; exact ⟨da, y, ys, Ko, h1.ext hE, h2, h3.ext hE, h4⟩
  | scan s zero f => obtain ⟨xs, Ks, h1, h2⟩ := h; exact ⟨xs, Ks, h1.ext hE, h2⟩
  | collect it => exact h
  | combine l1 l2 => obtain ⟨x, xs, ys, K1, K2, h1, h2, h3⟩ := h; exact ⟨x, xs, ys, K1, K2, h1.ext hE, h2.ext hE, h3⟩
  | reverse xs => exact h

theorem LThunkOK.mono {S S' : Sty} (hE : Ext S S') {opt k ty} (h : LThunkOK S opt k ty) : LThunkOK S' opt k ty := by
  obtain ⟨⟨y, ys, Ks, h1, h2⟩, hp⟩ := h
  exact ⟨⟨y, ys, Ks, h1.ext hE, h2⟩, hp⟩

/-- the iterator table changed, but not the iterator this closure captured -/
theorem TThunkOK.its {S : Sty} {its its' : Its} : ∀ {t : TThunk} {d : DenV} {need K : Nat},
    TThunkOK S its t d need K → (∀ it, t = .collect it → its'[it]? = its[it]?) → TThunkOK S its' t d need K := by
  intro t d need K h hi
  cases t with
  | collect it =>
    obtain ⟨id, xs, idx, h1, h2⟩ := h
    exact ⟨id, xs, idx, by rw [hi it rfl]; exact h1, h2⟩
  | _ => exact h

/-! ## typing of the heap -/

def HCellOK (S : Sty) (ty : HTy) : Cell HThunk (Option Val) → Prop
  | .pending t => HThunkOK S t ty
  | .running => True
  | .done v => v = ty.o

def TCellOK (S : Sty) (its : Its) (ty : TTy) : Cell TThunk LV → Prop
  | .pending t => ∀ d, ty.d = some d → TThunkOK S its t d ty.need ty.K
  | .running => True
  | .done v => ∀ d, ty.d = some d → VDen S v d ty.K

def LCellOK (S : Sty) (ty : LTy) : Cell (LV × FnK) LV → Prop
  | .pending (opt, k) => LThunkOK S opt k ty
  | .running => True
  | .done v => VDen S v (.fin ty.xs) ty.K

theorem HCellOK.mono {S S' : Sty} (hE : Ext S S') {ty : HTy} {c : Cell HThunk (Option Val)}
    (h : HCellOK S ty c) : HCellOK S' ty c := by
  cases c with
  | pending t => exact HThunkOK.mono hE h
  | running => trivial
  | done v => exact h

theorem TCellOK.mono {S S' : Sty} (hE : Ext S S') {its : Its} {ty : TTy} {c : Cell TThunk LV}
    (h : TCellOK S its ty c) : TCellOK S' its ty c := by
  cases c with
  | pending t => exact fun d hd => TThunkOK.mono hE (h d hd)
  | running => trivial
  | done v => exact fun d hd => (h d hd).ext hE

theorem LCellOK.mono {S S' : Sty} (hE : Ext S S') {ty : LTy} {c : Cell (LV × FnK) LV}
    (h : LCellOK S ty c) : LCellOK S' ty c := by
  cases c with
  | pending t => exact LThunkOK.mono hE h
  | running => trivial
  | done v => exact VDen.ext h hE

/-- no pending closure captured iterator `it` -/
def NoPendCollect (hp : Heap) (it : Nat) : Prop :=
  ∀ (c : Nat) (n : Nat), hp.ts[c]? ≠ some (Cell.pending (TThunk.collect it), n)

structure Cons (S : Sty) (hp : Heap) : Prop where
  nh : S.nh = hp.hs.size
  nt : S.nt = hp.ts.size
  nl : S.nl = hp.ls.size
  hs : ∀ (c : Nat) cell n, hp.hs[c]? = some (cell, n) → 2 ≤ (S.hs c).need ∧ HCellOK S (S.hs c) cell
  ts : ∀ (c : Nat) cell n, hp.ts[c]? = some (cell, n) → 2 ≤ (S.ts c).need ∧ TCellOK S hp.its (S.ts c) cell
  ls : ∀ (c : Nat) cell n, hp.ls[c]? = some (cell, n) → 2 ≤ (S.ls c).need ∧ LCellOK S (S.ls c) cell
  uniq : ∀ (c c' : Nat) it n n', hp.ts[c]? = some (.pending (.collect it), n) →
    hp.ts[c']? = some (.pending (.collect it), n') → c = c'
  itsb : ∀ (c : Nat) it n, hp.ts[c]? = some (.pending (.collect it), n) → it < hp.its.size

theorem Cons.empty : Cons Sty.empty {} :=
  ⟨rfl, rfl, rfl, by simp, by simp, by simp, by simp, by simp⟩

/-- cells that are running in `hp'` were running in `hp` -/
structure RunSub (hp' hp : Heap) : Prop where
  hs : ∀ (c : Nat) n, hp'.hs[c]? = some (.running, n) → ∃ n', hp.hs[c]? = some (.running, n')
  ts : ∀ (c : Nat) n, hp'.ts[c]? = some (.running, n) → ∃ n', hp.ts[c]? = some (.running, n')
  ls : ∀ (c : Nat) n, hp'.ls[c]? = some (.running, n) → ∃ n', hp.ls[c]? = some (.running, n')

theorem RunSub.refl (hp : Heap) : RunSub hp hp := ⟨fun _ n h => ⟨n, h⟩, fun _ n h => ⟨n, h⟩, fun _ n h => ⟨n, h⟩⟩

theorem RunSub.trans {a b c : Heap} (h1 : RunSub a b) (h2 : RunSub b c) : RunSub a c :=
  ⟨fun i n h => by obtain ⟨n', h'⟩ := h1.hs i n h; exact h2.hs i n' h',
   fun i n h => by obtain ⟨n', h'⟩ := h1.ts i n h; exact h2.ts i n' h',
   fun i n h => by obtain ⟨n', h'⟩ := h1.ls i n h; exact h2.ls i n' h'⟩

/-- all running cells have `need ≥ K`: an operation that only forces cells of `need < K` does not
    re-enter a running `sync.Once` -/
structure Quiet (K : Nat) (S : Sty) (hp : Heap) : Prop where
  hs : ∀ (c : Nat) n, hp.hs[c]? = some (.running, n) → K ≤ (S.hs c).need
  ts : ∀ (c : Nat) n, hp.ts[c]? = some (.running, n) → K ≤ (S.ts c).need
  ls : ∀ (c : Nat) n, hp.ls[c]? = some (.running, n) → K ≤ (S.ls c).need

theorem Quiet.mono {K K' : Nat} {S : Sty} {hp : Heap} (h : Quiet K S hp) (hk : K' ≤ K) : Quiet K' S hp :=
  ⟨fun c n hc => Nat.le_trans hk (h.hs c n hc), fun c n hc => Nat.le_trans hk (h.ts c n hc),
   fun c n hc => Nat.le_trans hk (h.ls c n hc)⟩

/-- head / tail cells done in `hp` are done, with the same value, in `hp'` -/
structure DoneSub (hp hp' : Heap) : Prop where
  hs : ∀ (c : Nat) v n, hp.hs[c]? = some (.done v, n) → hp'.hs[c]? = some (.done v, n)
  ts : ∀ (c : Nat) v n, hp.ts[c]? = some (.done v, n) → hp'.ts[c]? = some (.done v, n)

theorem DoneSub.refl (hp : Heap) : DoneSub hp hp := ⟨fun _ _ _ h => h, fun _ _ _ h => h⟩

theorem DoneSub.trans {a b c : Heap} (h1 : DoneSub a b) (h2 : DoneSub b c) : DoneSub a c :=
  ⟨fun i v n h => h2.hs i v n (h1.hs i v n h), fun i v n h => h2.ts i v n (h1.ts i v n h)⟩

/-- the outcome of an operation: typing extended, heap consistent, no new running cells, done
    cells untouched -/
structure Post (S : Sty) (hp : Heap) (S' : Sty) (hp' : Heap) : Prop where
  cons : Cons S' hp'
  ext : Ext S S'
  run : RunSub hp' hp
  done : DoneSub hp hp'

theorem Post.refl {S : Sty} {hp : Heap} (h : Cons S hp) : Post S hp S hp :=
  ⟨h, Ext.refl S, RunSub.refl hp, DoneSub.refl hp⟩

theorem Post.trans {S1 S2 S3 : Sty} {h1 h2 h3 : Heap} (a : Post S1 h1 S2 h2) (b : Post S2 h2 S3 h3) :
    Post S1 h1 S3 h3 := ⟨b.cons, a.ext.trans b.ext, b.run.trans a.run, a.done.trans b.done⟩

theorem Quiet.post {K : Nat} {S S' : Sty} {hp hp' : Heap} (h : Quiet K S hp) (hC : Cons S hp)
    (hP : Post S hp S' hp') : Quiet K S' hp' :=
  ⟨quiet_post h.hs hP.run.hs fun i hi => congrArg HTy.need (hP.ext.hs i (hC.nh ▸ hi)),
   quiet_post h.ts hP.run.ts fun i hi => congrArg TTy.need (hP.ext.ts i (hC.nt ▸ hi)),
   quiet_post h.ls hP.run.ls fun i hi => congrArg LTy.need (hP.ext.ls i (hC.nl ▸ hi))⟩

/-- Hoare-style statement: from a heap consistent with `S`, `m` returns normally with `Q` -/
def Spec {X : Type} (m : HM X) (S : Sty) (hp : Heap) (Q : Sty → X → Prop) : Prop :=
  ∀ lg, ∃ v S' hp' lg', m hp lg = (.ok v, hp', lg') ∧ Post S hp S' hp' ∧ Q S' v

theorem Spec.pure {X : Type} {S : Sty} {hp : Heap} {Q : Sty → X → Prop} (hC : Cons S hp) (x : X) (h : Q S x) :
    Spec (pure x : HM X) S hp Q := fun lg => ⟨x, S, hp, lg, rfl, Post.refl hC, h⟩

theorem Spec.bind {X Y : Type} {m : HM X} {f : X → HM Y} {S : Sty} {hp : Heap} {Q : Sty → X → Prop}
    {Q' : Sty → Y → Prop} (hm : Spec m S hp Q)
    (hf : ∀ v S1 hp1, Post S hp S1 hp1 → Q S1 v → Spec (f v) S1 hp1 Q') : Spec (m >>= f) S hp Q' := by
  intro lg
  obtain ⟨v, S1, hp1, lg1, e1, hP1, hQ1⟩ := hm lg
  obtain ⟨w, S2, hp2, lg2, e2, hP2, hQ2⟩ := hf v S1 hp1 hP1 hQ1 lg1
  exact ⟨w, S2, hp2, lg2, by rw [bind_ok e1, e2], hP1.trans hP2, hQ2⟩

theorem Spec.weaken {X : Type} {m : HM X} {S : Sty} {hp : Heap} {Q Q' : Sty → X → Prop} (hm : Spec m S hp Q)
    (h : ∀ S' v, Ext S S' → Q S' v → Q' S' v) : Spec m S hp Q' := by
  intro lg
  obtain ⟨v, S1, hp1, lg1, e1, hP1, hQ1⟩ := hm lg
  exact ⟨v, S1, hp1, lg1, e1, hP1, h S1 v hP1.ext hQ1⟩

theorem Spec.liftG {X : Type} {S : Sty} {hp : Heap} {Q : Sty → X → Prop} (hC : Cons S hp) {g : GoM X} {x : X}
    (hg : ∀ lg, ∃ lg', g.run.run lg = (.ok x, lg')) (h : Q S x) : Spec (IM.liftG g : HM X) S hp Q := by
  intro lg
  obtain ⟨lg', e⟩ := hg lg
  exact ⟨x, S, hp, lg', by simp [IM.liftG, e], Post.refl hC, h⟩

end FpVerif.LL
