import FpVerif.Lemmas.IterSrc
/-!
# Machines over several sources or with two sides

`Zip` (`Zip3` is two of them: `zip3_eq`); `Concat` over the flattened components (a multi-port machine: `MSim`,
`R s L` with `L i` what port `i` will still deliver); `Duplicate` (`Sim2`: two machines over one state, each side's calls leave the other side's lists
untouched) and a combinator on each of its ends (`sides_sim2`: `Span`, `Partition`).
-/
namespace FpVerif.It
variable {σ σ₂ γ γ₂ α β α₁ α₂ : Type}

/-- with the history the demand bound of `Zip` needs: `b` has delivered exactly as many elements as the zip, `a` at
    least as many (a `Next` that panics still consumes from `a`). -/
theorem zip_sim {a : Machine σ α} {b : Machine σ₂ β} {Ra : σ → List α → List α → Prop}
    {Rb : σ₂ → List β → List β → Prop} (ha : Sim a Ra) (hb : Sim b Rb) :
    Sim (zip a b) (fun s d' r' => ∃ d1 r1 d2 r2, Ra s.1 d1 r1 ∧ Rb s.2 d2 r2 ∧ r' = List.zip r1 r2 ∧
      d2.length = d'.length ∧ d'.length ≤ d1.length ∧ (d'.length < d1.length → r2 = [])) where
  hasNext := by
    rintro ⟨s1, s2⟩ d' r' lg ⟨d1, r1, d2, r2, h1, h2, rfl, hl2, hl1, hex⟩
    obtain ⟨s1', lg1, e1, h1'⟩ := ha.hasNext s1 d1 r1 lg h1
    cases r1 with
    | nil =>
      simp only [List.isEmpty_nil, Bool.not_true] at e1
      exact ⟨(s1', s2), lg1, by simp [zip, bind_apply, onFst_eq _ e1], d1, [], d2, r2, h1', h2, rfl, hl2, hl1, hex⟩
    | cons x r1 =>
      simp only [List.isEmpty_cons, Bool.not_false] at e1
      obtain ⟨s2', lg2, e2, h2'⟩ := hb.hasNext s2 d2 r2 lg1 h2
      refine ⟨(s1', s2'), lg2, ?_, d1, x :: r1, d2, r2, h1', h2', rfl, hl2, hl1, hex⟩
      simp only [zip, bind_apply, onFst_eq _ e1, if_true, onSnd_eq _ e2]
      cases r2 <;> simp
  next_cons := by
    rintro ⟨s1, s2⟩ d' ⟨x, y⟩ r' lg ⟨d1, r1, d2, r2, h1, h2, hr, hl2, hl1, hex⟩
    cases r1 with
    | nil => simp at hr
    | cons x' r1 =>
      cases r2 with
      | nil => simp at hr
      | cons y' r2 =>
        simp only [List.zip_cons_cons, List.cons.injEq, Prod.mk.injEq] at hr
        obtain ⟨⟨rfl, rfl⟩, rfl⟩ := hr
        obtain ⟨s1', lg1, e1, h1'⟩ := ha.next_cons s1 d1 x r1 lg h1
        obtain ⟨s2', lg2, e2, h2'⟩ := hb.next_cons s2 d2 y r2 lg1 h2
        have heq : d'.length = d1.length := by
          rcases Nat.lt_or_ge d'.length d1.length with h | h
          · exact absurd (hex h) (by simp)
          · omega
        refine ⟨(s1', s2'), lg2, by simp [zip, bind_apply, onFst_eq _ e1, onSnd_eq _ e2], _, r1, _, r2, h1', h2', rfl,
          by simp [hl2], by simp [heq], fun h => ?_⟩
        simp only [List.length_append, List.length_cons, List.length_nil] at h
        omega
  next_nil := by
    rintro ⟨s1, s2⟩ d' lg ⟨d1, r1, d2, r2, h1, h2, hr, hl2, hl1, hex⟩
    cases r1 with
    | nil =>
      obtain ⟨p, s1', lg1, e1, h1'⟩ := ha.next_nil s1 d1 lg h1
      exact ⟨p, (s1', s2), lg1, by simp [zip, bind_apply, onFst_eq _ e1], d1, [], d2, r2, h1', h2, by simp, hl2, hl1, hex⟩
    | cons x r1 =>
      cases r2 with
      | cons y r2 => simp at hr
      | nil =>
        obtain ⟨s1', lg1, e1, h1'⟩ := ha.next_cons s1 d1 x r1 lg h1
        obtain ⟨p, s2', lg2, e2, h2'⟩ := hb.next_nil s2 d2 lg1 h2
        exact ⟨p, (s1', s2'), lg2, by simp [zip, bind_apply, onFst_eq _ e1, onSnd_eq _ e2], _, r1, d2, [], h1', h2',
          by simp, hl2, by simp; omega, fun _ => rfl⟩

/-- `Zip3(a, b, c)` behaves as `Zip(a, Zip(b, c))` -/
theorem zip3_eq {σ₃ : Type} (a : Machine σ α) (b : Machine σ₂ β) (c : Machine σ₃ γ) : zip3 a b c = zip a (zip b c) := by
  unfold zip3 zip
  congr 1
  · funext ⟨s1, s2, s3⟩ lg
    simp only [bind_apply, onFst_apply]
    rcases a.hasNext s1 lg with ⟨_ | ba, s1', lg1⟩
    · rfl
    · cases ba
      · rfl
      · simp only [if_true, bind_apply, onFst_apply, onSnd_apply]
        rcases b.hasNext s2 lg1 with ⟨_ | bb, s2', lg2⟩
        · rfl
        · cases bb
          · rfl
          · simp only [if_true, onSnd_apply]
  · funext ⟨s1, s2, s3⟩ lg
    simp only [bind_apply, onFst_apply]
    rcases a.next s1 lg with ⟨_ | x, s1', lg1⟩
    · rfl
    · simp only [bind_apply, onFst_apply, onSnd_apply]
      rcases b.next s2 lg1 with ⟨_ | y, s2', lg2⟩
      · rfl
      · simp only [onSnd_apply]
        rcases c.next s3 lg2 with ⟨_ | z, s3', lg3⟩
        · rfl
        · rfl

def upd (L : Nat → List α) (i : Nat) (t : List α) : Nat → List α := fun j => if j = i then t else L j

@[simp] theorem upd_same (L : Nat → List α) (i : Nat) (t : List α) : upd L i t i = t := by simp [upd]
theorem upd_other (L : Nat → List α) {i j : Nat} (t : List α) (h : j ≠ i) : upd L i t j = L j := by simp [upd, h]

/-- `R s L`: port `i` (for `i < m.n`) will deliver exactly `L i`. -/
structure MSim (m : MMachine σ α) (R : σ → (Nat → List α) → Prop) : Prop where
  hasNext : ∀ i s L lg, i < m.n → R s L →
    ∃ s' lg', m.hasNext i s lg = (.ok (!(L i).isEmpty), s', lg') ∧ R s' L
  next_cons : ∀ i s L a t lg, i < m.n → R s L → L i = a :: t →
    ∃ s' lg', m.next i s lg = (.ok a, s', lg') ∧ R s' (upd L i t)
  next_nil : ∀ i s L lg, i < m.n → R s L → L i = [] →
    ∃ p s' lg', m.next i s lg = (.error p, s', lg') ∧ R s' L

theorem single_msim {m : Machine σ α} {R : σ → List α → List α → Prop} (hS : Sim m R) :
    MSim (MMachine.single m) (fun s L => ∃ d, R s d (L 0)) where
  hasNext := by
    rintro i s L lg hi ⟨d, hR⟩
    have : i = 0 := by simp [MMachine.single] at hi; omega
    subst this
    obtain ⟨s', lg', h, hR'⟩ := hS.hasNext s d (L 0) lg hR
    exact ⟨s', lg', h, d, hR'⟩
  next_cons := by
    rintro i s L a t lg hi ⟨d, hR⟩ hL
    have : i = 0 := by simp [MMachine.single] at hi; omega
    subst this
    rw [hL] at hR
    obtain ⟨s', lg', h, hR'⟩ := hS.next_cons s d a t lg hR
    exact ⟨s', lg', h, d ++ [a], by simpa using hR'⟩
  next_nil := by
    rintro i s L lg hi ⟨d, hR⟩ hL
    have : i = 0 := by simp [MMachine.single] at hi; omega
    subst this
    rw [hL] at hR
    obtain ⟨p, s', lg', h, hR'⟩ := hS.next_nil s d lg hR
    exact ⟨p, s', lg', h, d, by rw [hL]; exact hR'⟩

def joinRel (na : Nat) (Ra : σ → (Nat → List α) → Prop) (Rb : σ₂ → (Nat → List α) → Prop)
    (s : σ × σ₂) (L : Nat → List α) : Prop :=
  ∃ La Lb, Ra s.1 La ∧ Rb s.2 Lb ∧ ∀ i, L i = if i < na then La i else Lb (i - na)

theorem join_msim {a : MMachine σ α} {b : MMachine σ₂ α} {Ra : σ → (Nat → List α) → Prop}
    {Rb : σ₂ → (Nat → List α) → Prop} (ha : MSim a Ra) (hb : MSim b Rb) :
    MSim (MMachine.join a b) (joinRel a.n Ra Rb) where
  hasNext := by
    rintro i ⟨s1, s2⟩ L lg hi ⟨La, Lb, hRa, hRb, hL⟩
    by_cases hlt : i < a.n
    · obtain ⟨s', lg', h, hR'⟩ := ha.hasNext i s1 La lg hlt hRa
      refine ⟨(s', s2), lg', ?_, La, Lb, hR', hRb, hL⟩
      simp [MMachine.join, hlt, onFst_eq _ h, hL i]
    · have hi' : i - a.n < b.n := by simp [MMachine.join] at hi; omega
      obtain ⟨s', lg', h, hR'⟩ := hb.hasNext (i - a.n) s2 Lb lg hi' hRb
      refine ⟨(s1, s'), lg', ?_, La, Lb, hRa, hR', hL⟩
      simp [MMachine.join, hlt, onSnd_eq _ h, hL i]
  next_cons := by
    rintro i ⟨s1, s2⟩ L x t lg hi ⟨La, Lb, hRa, hRb, hL⟩ hLi
    by_cases hlt : i < a.n
    · have hLa : La i = x :: t := by rw [← hLi, hL i]; simp [hlt]
      obtain ⟨s', lg', h, hR'⟩ := ha.next_cons i s1 La x t lg hlt hRa hLa
      refine ⟨(s', s2), lg', ?_, upd La i t, Lb, hR', hRb, ?_⟩
      · simp [MMachine.join, hlt, onFst_eq _ h]
      · intro j
        by_cases hj : j = i
        · subst hj; simp [hlt]
        · rw [upd_other _ _ hj, hL j]
          by_cases hjl : j < a.n
          · simp [hjl, upd_other _ _ hj]
          · simp [hjl]
    · have hi' : i - a.n < b.n := by simp [MMachine.join] at hi; omega
      have hLb : Lb (i - a.n) = x :: t := by rw [← hLi, hL i]; simp [hlt]
      obtain ⟨s', lg', h, hR'⟩ := hb.next_cons (i - a.n) s2 Lb x t lg hi' hRb hLb
      refine ⟨(s1, s'), lg', ?_, La, upd Lb (i - a.n) t, hRa, hR', ?_⟩
      · simp [MMachine.join, hlt, onSnd_eq _ h]
      · intro j
        by_cases hj : j = i
        · subst hj; simp [hlt]
        · rw [upd_other _ _ hj, hL j]
          by_cases hjl : j < a.n
          · simp [hjl]
          · have : j - a.n ≠ i - a.n := by omega
            simp [hjl, upd_other _ _ this]
  next_nil := by
    rintro i ⟨s1, s2⟩ L lg hi ⟨La, Lb, hRa, hRb, hL⟩ hLi
    by_cases hlt : i < a.n
    · have hLa : La i = [] := by rw [← hLi, hL i]; simp [hlt]
      obtain ⟨p, s', lg', h, hR'⟩ := ha.next_nil i s1 La lg hlt hRa hLa
      exact ⟨p, (s', s2), lg', by simp [MMachine.join, hlt, onFst_eq _ h], La, Lb, hR', hRb, hL⟩
    · have hi' : i - a.n < b.n := by simp [MMachine.join] at hi; omega
      have hLb : Lb (i - a.n) = [] := by rw [← hLi, hL i]; simp [hlt]
      obtain ⟨p, s', lg', h, hR'⟩ := hb.next_nil (i - a.n) s2 Lb lg hi' hRb hLb
      exact ⟨p, (s1, s'), lg', by simp [MMachine.join, hlt, onSnd_eq _ h], La, Lb, hRa, hR', hL⟩

/-- `L j ++ L (j+1) ++ … ` (`k` lists) -/
def flatFrom (L : Nat → List α) : Nat → Nat → List α
  | _, 0 => []
  | j, k + 1 => L j ++ flatFrom L (j + 1) k

theorem flatFrom_upd_lt (L : Nat → List α) (i : Nat) (t : List α) :
    ∀ (k j : Nat), i < j → flatFrom (upd L i t) j k = flatFrom L j k := by
  intro k
  induction k with
  | zero => intros; rfl
  | succ k ih =>
    intro j hij
    simp only [flatFrom]
    rw [upd_other _ _ (by omega : j ≠ i), ih (j + 1) (by omega)]

theorem nil_below_succ {L : Nat → List α} {j : Nat} (hex : ∀ j', j' < j → L j' = []) (hj : L j = []) :
    ∀ j', j' < j + 1 → L j' = [] := by
  intro j' hj'
  rcases Nat.lt_succ_iff_lt_or_eq.mp hj' with h | h
  · exact hex j' h
  · rw [h]; exact hj

/-- captured variables of `Concat` vs. what the components will still deliver.  The components
    before `currentItr` are exhausted (so what the iterator will deliver is the concatenation of
    what ALL components will deliver: `ConcatInv.flat`). -/
def ConcatInv (n : Nat) (c : ConcatSt) (L : Nat → List α) (r' : List α) : Prop :=
  match c.currentItr with
  | some i => i < n ∧ c.remain = i + 1 ∧ r' = L i ++ flatFrom L (i + 1) (n - (i + 1)) ∧
      (c.currentNextChecked = true → L i ≠ []) ∧ (∀ j, j < i → L j = [])
  | none => r' = [] ∧ c.currentNextChecked = false ∧ (∀ j, j < n → L j = [])

def concatRel (n : Nat) (R : σ → (Nat → List α) → Prop) (sc : σ × ConcatSt) (_d' r' : List α) : Prop :=
  ∃ L, R sc.1 L ∧ ConcatInv n sc.2 L r'

theorem flatFrom_eq (L : Nat → List α) : ∀ (k j : Nat), flatFrom L j k = (List.range' j k).flatMap L
  | 0, _ => rfl
  | k + 1, j => by rw [flatFrom, flatFrom_eq L k, List.range'_succ, List.flatMap_cons]

theorem flatMap_congr {l : List β} {f g : β → List α} (h : ∀ x, x ∈ l → f x = g x) : l.flatMap f = l.flatMap g := by
  rw [List.flatMap_def, List.flatMap_def, List.map_congr_left h]

theorem flatFrom_nil (L : Nat → List α) (k j : Nat) (h : ∀ i, j ≤ i → i < j + k → L i = []) : flatFrom L j k = [] := by
  rw [flatFrom_eq, List.flatMap_eq_nil_iff]
  exact fun i hi => h i (List.mem_range'_1.mp hi).1 (List.mem_range'_1.mp hi).2

theorem flatFrom_append (L : Nat → List α) (a b j : Nat) : flatFrom L j (a + b) = flatFrom L j a ++ flatFrom L (j + a) b := by
  rw [flatFrom_eq, flatFrom_eq, flatFrom_eq, ← List.flatMap_append, List.range'_append_1]

/-- skipping exhausted components -/
theorem flatFrom_skip (L : Nat → List α) (i n : Nat) (hi : i ≤ n) (hex : ∀ j, j < i → L j = []) :
    flatFrom L 0 n = flatFrom L i (n - i) := by
  have h := flatFrom_append L i (n - i) 0
  rw [show i + (n - i) = n by omega] at h
  rw [h, flatFrom_nil L i 0 (fun j _ hj => hex j (by omega))]
  simp

/-- what a `Concat` iterator will deliver is what all its components together will deliver -/
theorem ConcatInv.flat {n : Nat} {c : ConcatSt} {L : Nat → List α} {r' : List α} (h : ConcatInv n c L r') :
    r' = flatFrom L 0 n := by
  unfold ConcatInv at h
  split at h
  · next i _ =>
    obtain ⟨hi, _, hr, _, hex⟩ := h
    rw [flatFrom_skip L i n (by omega) hex, hr]
    rw [show n - i = (n - (i + 1)) + 1 by omega]
    rfl
  · obtain ⟨hr, _, hex⟩ := h
    rw [hr, flatFrom_nil L n 0 (fun j _ hj => hex j (by omega))]

/-- the components of `a.Concat(b)`: those of `a`, then those of `b` -/
theorem flatFrom_join (La Lb L : Nat → List α) (na nb : Nat)
    (hL : ∀ i, L i = if i < na then La i else Lb (i - na)) :
    flatFrom L 0 (na + nb) = flatFrom La 0 na ++ flatFrom Lb 0 nb := by
  have e : List.range' (0 + na) nb = (List.range' 0 nb).map (fun x => na + x) := by
    rw [List.map_add_range', Nat.zero_add, Nat.add_zero]
  rw [flatFrom_append L na nb 0, flatFrom_eq, flatFrom_eq, flatFrom_eq, flatFrom_eq, e, List.flatMap_map]
  congr 1
  · exact flatMap_congr fun i hi => by rw [hL i, if_pos (by have := (List.mem_range'_1.mp hi).2; omega)]
  · exact flatMap_congr fun i _ => by rw [hL (na + i), if_neg (by omega), Nat.add_sub_cancel_left]

theorem concatScan_spec {all : MMachine σ α} {R : σ → (Nat → List α) → Prop} (hS : MSim all R) :
    ∀ (k j : Nat) (s : σ) (c : ConcatSt) (L : Nat → List α) (lg : Log), j + k = all.n → R s L →
      c.currentNextChecked = false → (∀ j', j' < j → L j' = []) →
      ∃ s' c' lg', concatScan all k j (s, c) lg = (.ok (!(flatFrom L j k).isEmpty), (s', c'), lg') ∧
        R s' L ∧ ConcatInv all.n c' L (flatFrom L j k) ∧ (flatFrom L j k ≠ [] → c'.currentNextChecked = true) := by
  intro k
  induction k with
  | zero =>
    intro j s c L lg hjk hR hc hex
    refine ⟨s, { c with currentItr := none }, lg, rfl, hR,
      ?_, by simp [flatFrom]⟩
    simp only [ConcatInv, flatFrom, hc, true_and]
    intro j' hj'; exact hex j' (by omega)
  | succ k ih =>
    intro j s c L lg hjk hR hc hex
    obtain ⟨s1, lg1, h1, hR1⟩ := hS.hasNext j s L lg (by omega) hR
    cases hLj : L j with
    | nil =>
      rw [hLj] at h1
      simp only [List.isEmpty_nil, Bool.not_true] at h1
      have hex' := nil_below_succ hex hLj
      obtain ⟨s', c', lg', h2, hR2, hI2, hck⟩ := ih (j + 1) s1 c L lg1 (by omega) hR1 hc hex'
      refine ⟨s', c', lg', ?_, hR2, by simpa [flatFrom, hLj] using hI2, by simpa [flatFrom, hLj] using hck⟩
      simp [concatScan, bind_apply, onFst_eq _ h1, h2, flatFrom, hLj]
    | cons x t =>
      rw [hLj] at h1
      simp only [List.isEmpty_cons, Bool.not_false] at h1
      refine ⟨s1, ⟨some j, j + 1, true⟩, lg1, ?_, hR1, ?_, by simp⟩
      · simp [concatScan, bind_apply, onFst_eq _ h1, flatFrom, hLj]
      · have : all.n - (j + 1) = k := by omega
        refine ⟨by omega, rfl, by simp [flatFrom, hLj, this], by simp [hLj], hex⟩

theorem concatCurrentNext_spec {all : MMachine σ α} {R : σ → (Nat → List α) → Prop} (hS : MSim all R)
    (s : σ) (c : ConcatSt) (L : Nat → List α) (r' : List α) (lg : Log) (hR : R s L)
    (hI : ConcatInv all.n c L r') :
    ∃ s' c' lg', concatCurrentNext all (s, c) lg = (.ok (!r'.isEmpty), (s', c'), lg') ∧
      R s' L ∧ ConcatInv all.n c' L r' ∧ (r' ≠ [] → c'.currentNextChecked = true) := by
  rcases c with ⟨cur, rem, chk⟩
  cases chk with
  | true =>
    cases cur with
    | none => simp [ConcatInv] at hI
    | some i =>
      obtain ⟨hi, hrem, rfl, hne, hex⟩ := hI
      have hne' : L i ≠ [] := hne rfl
      refine ⟨s, ⟨some i, rem, true⟩, lg, ?_, hR, ⟨hi, hrem, rfl, hne, hex⟩, by simp⟩
      cases hLi : L i with
      | nil => exact absurd hLi hne'
      | cons x t => rfl
  | false =>
    cases cur with
    | none =>
      obtain ⟨rfl, _, hex⟩ := hI
      exact ⟨s, ⟨none, rem, false⟩, lg, rfl, hR, ⟨rfl, rfl, hex⟩, by simp⟩
    | some i =>
      obtain ⟨hi, hrem, rfl, _, hex⟩ := hI
      simp only at hrem; subst hrem
      obtain ⟨s1, lg1, h1, hR1⟩ := hS.hasNext i s L lg hi hR
      cases hLi : L i with
      | cons x t =>
        rw [hLi] at h1
        simp only [List.isEmpty_cons, Bool.not_false] at h1
        refine ⟨s1, ⟨some i, i + 1, true⟩, lg1, ?_, hR1, ⟨hi, rfl, by simp [hLi], by simp [hLi], hex⟩, by simp⟩
        simp [concatCurrentNext, bind_apply, onFst_eq _ h1]
      | nil =>
        rw [hLi] at h1
        simp only [List.isEmpty_nil, Bool.not_true] at h1
        have hex' := nil_below_succ hex hLi
        obtain ⟨s', c', lg', h2, hR2, hI2, hck⟩ :=
          concatScan_spec hS (all.n - (i + 1)) (i + 1) s1 ⟨some i, i + 1, false⟩ L lg1 (by omega) hR1 rfl hex'
        refine ⟨s', c', lg', ?_, hR2, by simpa using hI2, by simpa using hck⟩
        simp [concatCurrentNext, bind_apply, onFst_eq _ h1, h2]

theorem concat_sim {all : MMachine σ α} {R : σ → (Nat → List α) → Prop} (hS : MSim all R) :
    Sim (concat all) (concatRel all.n R) := by
  refine Sim.guarded (fun sc d' r' => concatRel all.n R sc d' r' ∧ sc.2.currentNextChecked = true)
    (fun ⟨s, c⟩ d' r' lg ⟨L, hR, hI⟩ => ?_) (fun ⟨s, ⟨cur, rem, chk⟩⟩ d' a r' lg ⟨⟨L, hR, hI⟩, hck⟩ => ?_)
  · obtain ⟨s', c', lg', h1, hR', hI', hck⟩ := concatCurrentNext_spec hS s c L r' lg hR hI
    exact ⟨(s', c'), lg', h1, ⟨L, hR', hI'⟩, fun hne => ⟨⟨L, hR', hI'⟩, hck hne⟩⟩
  · simp only at hck hR; subst hck
    cases cur with
    | none => simp [ConcatInv] at hI
    | some i =>
      obtain ⟨hi, hrem, hr, hne, hex⟩ := hI
      simp only at hrem hr hne
      cases hLi : L i with
      | nil => exact absurd hLi (hne trivial)
      | cons x t =>
        rw [hLi] at hr
        simp only [List.cons_append, List.cons.injEq] at hr
        obtain ⟨rfl, rfl⟩ := hr
        obtain ⟨s2, lg2, h2, hR2⟩ := hS.next_cons i s L a t lg hi hR hLi
        refine ⟨(s2, ⟨some i, rem, false⟩), lg2, by simp [bind_apply, onFst_eq _ h2], upd L i t, hR2, ?_⟩
        refine ⟨hi, hrem, ?_, by simp, fun j hj => by rw [upd_other _ _ (by omega : j ≠ i)]; exact hex j hj⟩
        simp [flatFrom_upd_lt L i t _ _ (Nat.lt_succ_self i)]

/-- the `concat` field of a `Concat` result: ports over the shared state -/
theorem concatParts_msim {all : MMachine σ α} {R : σ → (Nat → List α) → Prop} (hS : MSim all R) :
    MSim (concatParts all) (fun (sc : σ × ConcatSt) L => R sc.1 L) where
  hasNext := by
    rintro i ⟨s, c⟩ L lg hi hR
    obtain ⟨s', lg', h, hR'⟩ := hS.hasNext i s L lg hi hR
    exact ⟨(s', c), lg', by simp [concatParts, onFst_eq _ h], hR'⟩
  next_cons := by
    rintro i ⟨s, c⟩ L a t lg hi hR hL
    obtain ⟨s', lg', h, hR'⟩ := hS.next_cons i s L a t lg hi hR hL
    exact ⟨(s', c), lg', by simp [concatParts, onFst_eq _ h], hR'⟩
  next_nil := by
    rintro i ⟨s, c⟩ L lg hi hR hL
    obtain ⟨p, s', lg', h, hR'⟩ := hS.next_nil i s L lg hi hR hL
    exact ⟨p, (s', c), lg', by simp [concatParts, onFst_eq _ h], hR'⟩

/-- `R s dL rL dR rR`: the left iterator has delivered `dL` and will deliver `rL`, the right one
    `dR` / `rR`; every operation of one side is a simulation step for that side and leaves the
    other side's lists untouched. -/
structure Sim2 (mL : Machine σ α) (mR : Machine σ β)
    (R : σ → List α → List α → List β → List β → Prop) : Prop where
  left : ∀ dR rR, Sim mL (fun s dL rL => R s dL rL dR rR)
  right : ∀ dL rL, Sim mR (fun s dR rR => R s dL rL dR rR)

/-- `Duplicate` seen from the side `b`: the side that is ahead follows the source, the queue holds what it has
    seen and the other has not. -/
def SideInv (b : Bool) (c : DupSt α) (d r dM rM dO rO : List α) : Prop :=
  if c.leftAhead = b then dM = d ∧ rM = r ∧ dM = dO ++ c.queue ∧ rO = c.queue ++ r
  else dO = d ∧ rO = r ∧ dO = dM ++ c.queue ∧ rM = c.queue ++ r

theorem SideInv.swap {c : DupSt α} {d r dL rL dR rR : List α} :
    SideInv false c d r dR rR dL rL ↔ SideInv true c d r dL rL dR rR := by
  cases h : c.leftAhead <;> simp [SideInv, h]

def dupRel (R : σ → List α → List α → Prop) (sc : σ × DupSt α) (dL rL dR rR : List α) : Prop :=
  ∃ d r, R sc.1 d r ∧ SideInv true sc.2 d r dL rL dR rR

/-- One side of `Duplicate`, `b = true` for `left`: `dupLeft` / `dupRight` with the tests on
    `leftAhead` written as `leftAhead == b`. -/
def dupSide (b : Bool) (r : Machine σ α) : Machine (σ × DupSt α) α where
  hasNext := do
    let c ← IM.onSnd IM.get
    if c.leftAhead == b || c.queue.isEmpty then IM.onFst r.hasNext
    else pure true
  next := do
    let c ← IM.onSnd IM.get
    if c.queue.isEmpty then IM.onSnd (IM.modify fun c => { c with leftAhead := b })
    let c ← IM.onSnd IM.get
    if c.leftAhead == b then
      let ret ← IM.onFst r.next
      IM.onSnd (IM.modify fun c => { c with queue := c.queue ++ [ret] })
      pure ret
    else
      match c.queue with
      | head :: tail =>
        IM.onSnd (IM.modify fun c => { c with queue := tail })
        pure head
      | [] => do
        IM.onSnd (IM.modify fun c => { c with queue := [] })
        IM.panic "Option.empty"

theorem dupLeft_eq (r : Machine σ α) : dupLeft r = dupSide true r := by
  simp only [dupLeft, dupSide, beq_true]
  rfl

theorem dupRight_eq (r : Machine σ α) : dupRight r = dupSide false r := by
  simp only [dupRight, dupSide, beq_false]
  rfl

theorem dupSide_sim (b : Bool) {m : Machine σ α} {R : σ → List α → List α → Prop} (hS : Sim m R) (dO rO : List α) :
    Sim (dupSide b m) (fun sc dM rM => ∃ d r, R sc.1 d r ∧ SideInv b sc.2 d r dM rM dO rO) := by
  refine { hasNext := ?_, next_cons := ?_, next_nil := ?_ }
  · rintro ⟨s, ⟨q, la⟩⟩ dM rM lg ⟨d, r, hR, hI⟩
    simp only at hR
    by_cases hb : la = b
    -- this side is ahead (or level): it follows the source
    · simp only [SideInv, if_pos hb] at hI
      obtain ⟨rfl, rfl, h3, h4⟩ := hI
      obtain ⟨s', lg', h, hR'⟩ := hS.hasNext s _ _ lg hR
      exact ⟨(s', ⟨q, la⟩), lg', by simp [dupSide, bind_apply, hb, onFst_eq _ h], _, _, hR', by simp [SideInv, hb, h3, h4]⟩
    -- the other side is ahead: this one reads the queue, and takes the lead when the queue is empty
    · simp only [SideInv, if_neg hb] at hI
      obtain ⟨rfl, rfl, h3, rfl⟩ := hI
      cases q with
      | nil =>
        obtain ⟨s', lg', h, hR'⟩ := hS.hasNext s _ _ lg hR
        exact ⟨(s', ⟨[], la⟩), lg', by simp [dupSide, bind_apply, onFst_eq _ h], _, _, hR', by simp [SideInv, hb, h3]⟩
      | cons x q =>
        exact ⟨(s, ⟨x :: q, la⟩), lg, by simp [dupSide, bind_apply, hb], _, _, hR, by simp [SideInv, hb, h3]⟩
  · rintro ⟨s, ⟨q, la⟩⟩ dM a rM lg ⟨d, r, hR, hI⟩
    simp only at hR
    by_cases hb : la = b
    · simp only [SideInv, if_pos hb] at hI
      obtain ⟨rfl, rfl, h3, h4⟩ := hI
      obtain ⟨s', lg', h, hR'⟩ := hS.next_cons s _ a rM lg hR
      exact ⟨(s', ⟨q ++ [a], b⟩), lg', by subst hb; cases q <;> simp [dupSide, bind_apply, onFst_eq _ h], _, _, hR',
        by simp [SideInv, h3, h4]⟩
    · simp only [SideInv, if_neg hb] at hI
      obtain ⟨rfl, rfl, h3, h4⟩ := hI
      cases q with
      | nil =>
        obtain rfl : rO = a :: rM := h4.symm
        obtain ⟨s', lg', h, hR'⟩ := hS.next_cons s _ a rM lg hR
        exact ⟨(s', ⟨[a], b⟩), lg', by simp [dupSide, bind_apply, onFst_eq _ h], _, _, hR',
          by simp [SideInv, h3]⟩
      | cons x q =>
        obtain ⟨rfl, rfl⟩ := List.cons.inj h4
        exact ⟨(s, ⟨q, la⟩), lg, by simp [dupSide, bind_apply, hb], _, _, hR, by simp [SideInv, hb, h3]⟩
  · rintro ⟨s, ⟨q, la⟩⟩ dM lg ⟨d, r, hR, hI⟩
    simp only at hR
    by_cases hb : la = b
    · simp only [SideInv, if_pos hb] at hI
      obtain ⟨rfl, rfl, h3, h4⟩ := hI
      obtain ⟨p, s', lg', h, hR'⟩ := hS.next_nil s _ lg hR
      exact ⟨p, (s', ⟨q, b⟩), lg', by subst hb; cases q <;> simp [dupSide, bind_apply, onFst_eq _ h], _, _, hR',
        by simp [SideInv, h3, h4]⟩
    · simp only [SideInv, if_neg hb] at hI
      obtain ⟨rfl, rfl, h3, h4⟩ := hI
      cases q with
      | nil =>
        obtain rfl : rO = [] := h4.symm
        obtain ⟨p, s', lg', h, hR'⟩ := hS.next_nil s _ lg hR
        exact ⟨p, (s', ⟨[], b⟩), lg', by simp [dupSide, bind_apply, onFst_eq _ h], _, _, hR',
          by simp [SideInv, h3]⟩
      | cons x q => cases h4

theorem dupLeft_sim {m : Machine σ α} {R : σ → List α → List α → Prop} (hS : Sim m R) (dR rR : List α) :
    Sim (dupLeft m) (fun s dL rL => dupRel R s dL rL dR rR) := by
  rw [dupLeft_eq]
  exact dupSide_sim true hS dR rR

theorem dupRight_sim {m : Machine σ α} {R : σ → List α → List α → Prop} (hS : Sim m R) (dL rL : List α) :
    Sim (dupRight m) (fun s dR rR => dupRel R s dL rL dR rR) := by
  rw [dupRight_eq]
  exact (dupSide_sim false hS dL rL).of_iff fun sc dR rR => by simp only [dupRel, SideInv.swap]

theorem dup_sim2 {m : Machine σ α} {R : σ → List α → List α → Prop} (hS : Sim m R) :
    Sim2 (dupLeft m) (dupRight m) (dupRel R) :=
  ⟨dupLeft_sim hS, dupRight_sim hS⟩

theorem sideL_sim {mL : Machine σ α} {mR : Machine σ β} {R2 : σ → List α → List α → List β → List β → Prop}
    (h2 : Sim2 mL mR R2)
    {cL : Machine (σ × γ) α₁} {IL : γ → List α → List α → List α₁ → List α₁ → Prop}
    (hL : ∀ (R : σ → List α → List α → Prop), Sim mL R → Sim cL (liftRel IL R))
    {IR : γ₂ → List β → List β → List α₂ → List α₂ → Prop} (dR' rR' : List α₂) :
    Sim (sideL cL : Machine (σ × γ × γ₂) α₁) (fun s dL' rL' =>
      ∃ dL rL dR rR, R2 s.1 dL rL dR rR ∧ IL s.2.1 dL rL dL' rL' ∧ IR s.2.2 dR rR dR' rR') := by
  refine Sim.transport (ι := List β × List β) (hS := fun i => hL _ (h2.left i.1 i.2))
    (get := fun s => (s.1, s.2.1)) (put := fun s t => (t.1, t.2, s.2.2))
    (hH := fun _ _ _ _ _ => rfl) (hN := fun _ _ _ _ _ => rfl) (hR := ?_)
  rintro s dL' rL' ⟨dL, rL, dR, rR, hR, hIL, hIR⟩
  refine ⟨(dR, rR), ⟨dL, rL, hR, hIL⟩, ?_⟩
  rintro t dL1' rL1' ⟨dL1, rL1, hR1, hIL1⟩ -
  exact ⟨dL1, rL1, dR, rR, hR1, hIL1, hIR⟩

theorem sideR_sim {mL : Machine σ α} {mR : Machine σ β} {R2 : σ → List α → List α → List β → List β → Prop}
    (h2 : Sim2 mL mR R2)
    {cR : Machine (σ × γ₂) α₂} {IR : γ₂ → List β → List β → List α₂ → List α₂ → Prop}
    (hRt : ∀ (R : σ → List β → List β → Prop), Sim mR R → Sim cR (liftRel IR R))
    {IL : γ → List α → List α → List α₁ → List α₁ → Prop} (dL' rL' : List α₁) :
    Sim (sideR cR : Machine (σ × γ × γ₂) α₂) (fun s dR' rR' =>
      ∃ dL rL dR rR, R2 s.1 dL rL dR rR ∧ IL s.2.1 dL rL dL' rL' ∧ IR s.2.2 dR rR dR' rR') := by
  refine Sim.transport (ι := List α × List α) (hS := fun i => hRt _ (h2.right i.1 i.2))
    (get := fun s => (s.1, s.2.2)) (put := fun s t => (t.1, s.2.1, t.2))
    (hH := fun _ _ _ _ _ => rfl) (hN := fun _ _ _ _ _ => rfl) (hR := ?_)
  rintro s dR' rR' ⟨dL, rL, dR, rR, hR, hIL, hIR⟩
  refine ⟨(dL, rL), ⟨dR, rR, hR, hIR⟩, ?_⟩
  rintro t dR1' rR1' ⟨dR1, rR1, hR1, hIR1⟩ -
  exact ⟨dL, rL, dR1, rR1, hR1, hIL, hIR1⟩

theorem sides_sim2 {mL : Machine σ α} {mR : Machine σ β} {R2 : σ → List α → List α → List β → List β → Prop}
    (h2 : Sim2 mL mR R2)
    {cL : Machine (σ × γ) α₁} {IL : γ → List α → List α → List α₁ → List α₁ → Prop}
    (hL : ∀ (R : σ → List α → List α → Prop), Sim mL R → Sim cL (liftRel IL R))
    {cR : Machine (σ × γ₂) α₂} {IR : γ₂ → List β → List β → List α₂ → List α₂ → Prop}
    (hRt : ∀ (R : σ → List β → List β → Prop), Sim mR R → Sim cR (liftRel IR R)) :
    Sim2 (sideL cL : Machine (σ × γ × γ₂) α₁) (sideR cR) (fun s dL' rL' dR' rR' =>
      ∃ dL rL dR rR, R2 s.1 dL rL dR rR ∧ IL s.2.1 dL rL dL' rL' ∧ IR s.2.2 dR rR dR' rR') :=
  ⟨fun dR' rR' => sideL_sim h2 hL dR' rR', fun dL' rL' => sideR_sim h2 hRt dL' rL'⟩

end FpVerif.It
