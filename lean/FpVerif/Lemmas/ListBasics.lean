/-!
# General facts about lists that several models need and core Lean does not have

* a property of all elements of a list after `List.set` (by membership, by index);
* the sum of a weight over a list after `List.set` (`sum_map_set`), and how such sums compare;
* a list that is `t ++ e` is covered by `t` and `e` (`covered_of_eq`: the coverage tables of the translation ties);
* runs: every machine of the development runs a schedule, a history or a list of events by `List.foldl` of its step
  function, so "kept by every step, hence kept by the run" is one statement (`Fold.inv`, `Fold.inv_rel`).
-/
namespace FpVerif

variable {α ι S : Type}

/-! ## all elements, after `set` -/

theorem forall_mem_set {P : α → Prop} {l : List α} {i : Nat} {new : α} (h : ∀ a ∈ l, P a) (hn : P new) :
    ∀ a ∈ l.set i new, P a := fun a ha =>
  (List.mem_or_eq_of_mem_set ha).elim (h a) (· ▸ hn)

/-- the indexed form: the new element at its index, every other index as before -/
theorem forall_getElem?_set {P : Nat → α → Prop} {l : List α} {i : Nat} {new : α} (hn : P i new)
    (h : ∀ j a, j ≠ i → l[j]? = some a → P j a) : ∀ j a, (l.set i new)[j]? = some a → P j a := by
  intro j a ha
  rw [List.getElem?_set] at ha
  split at ha
  · next e =>
    subst e
    split at ha
    · cases ha; exact hn
    · cases ha
  · next ne => exact h j a (fun e => ne e.symm) ha

/-- `forall_mem_set` when the property of the old elements is only known away from the index -/
theorem forall_mem_set_of_ne {P : α → Prop} {l : List α} {i : Nat} {new : α} (hn : P new)
    (h : ∀ j a, j ≠ i → l[j]? = some a → P a) : ∀ a ∈ l.set i new, P a := fun a ha =>
  let ⟨j, hj⟩ := List.mem_iff_getElem?.mp ha
  forall_getElem?_set (P := fun _ a => P a) hn h j a hj

theorem map_set_of_eq {β : Type} {f : α → β} {ts : List α} {t : Nat} {l l' : α}
    (hl : ts[t]? = some l) (h : f l' = f l) : (ts.set t l').map f = ts.map f := by
  induction ts generalizing t with
  | nil => rfl
  | cons a as ih =>
    cases t with
    | zero => simp at hl; subst hl; simp [h]
    | succ n => simp at hl; simp [ih hl]

/-! ## sums of a weight -/

/-- replacing one element changes the sum by the difference of the two weights -/
theorem sum_map_set (w : α → Nat) (l : List α) (i : Nat) (new old : α) (h : l[i]? = some old) :
    ((l.set i new).map w).sum + w old = (l.map w).sum + w new := by
  induction l generalizing i with
  | nil => simp at h
  | cons x xs ih =>
    cases i with
    | zero => simp at h; subst h; simp [List.set]; omega
    | succ j =>
      simp at h
      have := ih j h
      simp [List.set] at this ⊢; omega

theorem sum_map_le {f g : α → Nat} {l : List α} (h : ∀ a ∈ l, f a ≤ g a) : (l.map f).sum ≤ (l.map g).sum := by
  induction l with
  | nil => exact Nat.le_refl _
  | cons a as ih =>
    rw [List.map_cons, List.map_cons, List.sum_cons, List.sum_cons]
    exact Nat.add_le_add (h a (List.mem_cons_self ..)) (ih fun x hx => h x (List.mem_cons_of_mem _ hx))

theorem le_sum_map_of_mem (w : α → Nat) {l : List α} {a : α} (ha : a ∈ l) : w a ≤ (l.map w).sum := by
  induction l with
  | nil => cases ha
  | cons x xs ih =>
    rw [List.map_cons, List.sum_cons]
    rcases List.mem_cons.mp ha with rfl | hm
    · exact Nat.le_add_right _ _
    · exact Nat.le_trans (ih hm) (Nat.le_add_left _ _)

theorem exists_pos_of_sum_map_pos (w : α → Nat) {l : List α} (h : 0 < (l.map w).sum) :
    ∃ (i : Nat) (a : α), l[i]? = some a ∧ 0 < w a := by
  obtain ⟨x, hx, hpos⟩ := List.sum_pos_iff_exists_pos_nat.mp h
  obtain ⟨a, ha, rfl⟩ := List.mem_map.mp hx
  obtain ⟨i, hi⟩ := List.getElem?_of_mem ha
  exact ⟨i, a, hi, hpos⟩

/-- a list that IS `t ++ e` is covered by `t` and `e`, covers them, and has their length -/
theorem covered_of_eq {α : Type} [BEq α] [LawfulBEq α] {found t e : List α} (h : found = t ++ e) :
    (found.all (fun x => t.contains x || e.contains x) && (t ++ e).all found.contains
      && found.length == t.length + e.length) = true := by
  subst h
  simp only [List.all_eq_true, List.contains_iff_mem, List.mem_append, Bool.or_eq_true,
    List.length_append, beq_self_eq_true, Bool.and_true, Bool.and_eq_true]
  exact ⟨fun _ h => h, fun _ h => h⟩

/-! ## runs -/

namespace Fold

/-- an invariant kept by every step holds after every run -/
theorem inv {f : S → ι → S} {P : S → Prop} (hstep : ∀ s i, P s → P (f s i)) {s : S} (h : P s) (l : List ι) :
    P (l.foldl f s) :=
  List.foldlRecOn l f h fun s hs i _ => hstep s i hs

/-- … when the steps are only known to keep it for the entries of the run that satisfy `Q` -/
theorem inv_of_mem {f : S → ι → S} {P : S → Prop} {Q : ι → Prop} (hstep : ∀ s i, Q i → P s → P (f s i)) {s : S}
    (h : P s) {l : List ι} (hl : ∀ i ∈ l, Q i) : P (l.foldl f s) :=
  List.foldlRecOn l f h fun s hs i hi => hstep s i (hl i hi) hs

/-- a preorder that every step taken from a state satisfying the invariant extends holds between the start and the
    end of every run -/
theorem inv_rel {f : S → ι → S} {P : S → Prop} {R : S → S → Prop} (hrefl : ∀ s, R s s)
    (htrans : ∀ {a b c}, R a b → R b c → R a c) (hstep : ∀ s i, P s → P (f s i) ∧ R s (f s i)) {s : S} (h : P s)
    (l : List ι) : P (l.foldl f s) ∧ R s (l.foldl f s) :=
  inv (P := fun s' => P s' ∧ R s s') (fun s' i hs => ⟨(hstep s' i hs.1).1, htrans hs.2 (hstep s' i hs.1).2⟩)
    ⟨h, hrefl s⟩ l

end Fold

end FpVerif
