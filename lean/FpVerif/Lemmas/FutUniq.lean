import FpVerif.Lemmas.FutDrain
import FpVerif.Spec.C06Sound
/-!
# Exactly one completer per derived promise (helper lemmas for `Spec/C06Once.lean`)

The multiset of TARGETS of all queued tasks and registered callbacks (`TM`): no derived promise is targeted
twice, and only pending derived promises are targeted.  Hence every `Complete` a task performs on a derived
promise succeeds; the only failing `Complete` calls are second completions of SOURCE promises by the environment.
-/
namespace FpVerif.Fut.Drain
open FpVerif.Spec.C06 Multiset

def poolT (n : Net) : Multiset (Option Nat) := ((n.pool.map taskTarget : List (Option Nat)) : Multiset (Option Nat))

def cbsT (n : Net) (B : Nat) : Multiset (Option Nat) :=
  ∑ q ∈ Finset.range B, (((n.cbs q).map cbTarget : List (Option Nat)) : Multiset (Option Nat))

def TM (n : Net) (B : Nat) : Multiset (Option Nat) := poolT n + cbsT n B

theorem T_onComplete {n : Net} {B : Nat} (hS : Supp n B) (p : Nat) (c : CB) :
    ∃ B', B ≤ B' ∧ Supp (onComplete p c n) B' ∧ TM (onComplete p c n) B' = TM n B + {cbTarget c} :=
  W_onComplete cbTarget taskTarget (fun _ _ => rfl) hS p c

theorem T_complete {n : Net} {B : Nat} (hS : Supp n B) (p : Nat) (t : Try Val) :
    Supp (complete p t n) B ∧ TM (complete p t n) B = TM n B :=
  W_complete cbTarget taskTarget (fun _ _ => rfl) hS p t

theorem T_fresh {n : Net} {B : Nat} (hS : Supp n B) (sp : FExpr) :
    Supp (fresh sp n).2 B ∧ TM (fresh sp n).2 B = TM n B := ⟨hS, rfl⟩

theorem T_log {n : Net} {B : Nat} (hS : Supp n B) (evs : List Event) :
    Supp { n with log := n.log ++ evs } B ∧ TM { n with log := n.log ++ evs } B = TM n B := ⟨hS, rfl⟩

theorem T_addTask {n : Net} {B : Nat} (hS : Supp n B) (tk : Task) :
    Supp { n with pool := n.pool ++ [tk] } B ∧ TM { n with pool := n.pool ++ [tk] } B = TM n B + {taskTarget tk} :=
  W_addTask cbTarget taskTarget hS tk

/-! ## the invariant -/

structure Uniq (nsrc : Nat) (n : Net) (B : Nat) : Prop where
  supp : Supp n B
  cnt : ∀ np, (TM n B).count (some np) ≤ 1
  pend : ∀ np, some np ∈ TM n B → nsrc ≤ np ∧ np < n.next ∧ n.status np = none
  fresh : ∀ p, n.next ≤ p → n.status p = none
  le : nsrc ≤ n.next
  good : ∀ pb ∈ n.completes, pb.2 = false → pb.1 < nsrc

/-- what the target of a new item must satisfy -/
def NewTarget (nsrc : Nat) (n : Net) (B : Nat) (o : Option Nat) : Prop :=
  ∀ np, o = some np → some np ∉ TM n B ∧ nsrc ≤ np ∧ np < n.next ∧ n.status np = none

theorem uniq_addItem {nsrc : Nat} {n n' : Net} {B B' : Nat} (h : Uniq nsrc n B) (o : Option Nat) (ho : NewTarget nsrc n B o)
    (hS : Supp n' B') (hT : TM n' B' = TM n B + {o})
    (h1 : n'.status = n.status) (h2 : n'.next = n.next) (h3 : n'.completes = n.completes) : Uniq nsrc n' B' where
  supp := hS
  cnt := by
    intro np
    rw [hT, count_add, count_singleton]
    by_cases hnp : some np = o
    · have := (ho np hnp.symm).1
      rw [← count_eq_zero] at this
      rw [this, if_pos hnp]
    · rw [if_neg hnp]; exact h.cnt np
  pend := by
    intro np hm
    rw [hT, mem_add, mem_singleton] at hm
    rw [h1, h2]
    rcases hm with hm | hm
    · exact h.pend np hm
    · exact (ho np hm.symm).2
  fresh := by rw [h1, h2]; exact h.fresh
  le := by rw [h2]; exact h.le
  good := by rw [h3]; exact h.good

theorem uniq_onComplete {nsrc : Nat} {n : Net} {B : Nat} (h : Uniq nsrc n B) (p : Nat) (c : CB)
    (hc : NewTarget nsrc n B (cbTarget c)) : ∃ B', B ≤ B' ∧ Uniq nsrc (onComplete p c n) B' ∧
      TM (onComplete p c n) B' = TM n B + {cbTarget c} := by
  obtain ⟨B', hB, hS, hT⟩ := T_onComplete h.supp p c
  exact ⟨B', hB, uniq_addItem h _ hc hS hT (onComplete_status p c n) (onComplete_frame p c n).1
    (onComplete_frame p c n).2.2.2, hT⟩

theorem uniq_complete {nsrc : Nat} {n : Net} {B : Nat} (h : Uniq nsrc n B) (p : Nat) (t : Try Val)
    (hp : some p ∉ TM n B) (hst : n.status p = none ∨ p < nsrc) (hlt : p < n.next) :
    Uniq nsrc (complete p t n) B ∧ TM (complete p t n) B = TM n B := by
  obtain ⟨hS, hT⟩ := T_complete h.supp p t
  have hnx := (complete_frame p t n).1
  refine ⟨⟨hS, by rw [hT]; exact h.cnt, ?_, ?_, by rw [hnx]; exact h.le, ?_⟩, hT⟩
  · intro np hm
    rw [hT] at hm
    obtain ⟨a, b, c⟩ := h.pend np hm
    exact ⟨a, hnx ▸ b, by rw [complete_status_ne p t n (fun e => hp (e ▸ hm))]; exact c⟩
  · intro q hq
    rw [hnx] at hq
    rw [complete_status_ne p t n (by omega)]
    exact h.fresh q hq
  · intro pb hm hb
    rw [complete_completes, List.mem_append, List.mem_singleton] at hm
    rcases hm with hm | rfl
    · exact h.good pb hm hb
    · -- a failed `Complete`: the promise had a value, so it is a source
      rcases hst with hst | hst
      · rw [hst] at hb; cases hb
      · exact hst

theorem uniq_fresh {nsrc : Nat} {n : Net} {B : Nat} (h : Uniq nsrc n B) (sp : FExpr) :
    Uniq nsrc (fresh sp n).2 B ∧ TM (fresh sp n).2 B = TM n B :=
  ⟨⟨h.supp, h.cnt, fun np hm => let ⟨a, b, c⟩ := h.pend np hm; ⟨a, Nat.lt_succ_of_lt b, c⟩,
    fun p hp => h.fresh p (Nat.le_of_succ_le hp), Nat.le_succ_of_le h.le, h.good⟩, rfl⟩

theorem uniq_log {nsrc : Nat} {n : Net} {B : Nat} (h : Uniq nsrc n B) (evs : List Event) :
    Uniq nsrc { n with log := n.log ++ evs } B ∧ TM { n with log := n.log ++ evs } B = TM n B :=
  ⟨⟨h.supp, h.cnt, h.pend, h.fresh, h.le, h.good⟩, rfl⟩

/-- what `build` (and a task) does to the targets: only FRESH promises become targets, old statuses stay -/
structure Ext (n n' : Net) (B B' : Nat) : Prop where
  next : n.next ≤ n'.next
  targets : ∀ x, some x ∈ TM n' B' → some x ∈ TM n B ∨ n.next ≤ x
  status : ∀ x, x < n.next → n'.status x = n.status x

theorem Ext.refl {n : Net} {B : Nat} : Ext n n B B := ⟨Nat.le_refl _, fun _ h => .inl h, fun _ _ => rfl⟩

theorem Ext.trans {a b c : Net} {A B C : Nat} (h1 : Ext a b A B) (h2 : Ext b c B C) : Ext a c A C :=
  ⟨Nat.le_trans h1.next h2.next,
   fun x hx => by
     rcases h2.targets x hx with h | h
     · exact h1.targets x h
     · exact .inr (Nat.le_trans h1.next h),
   fun x hx => by rw [h2.status x (Nat.lt_of_lt_of_le hx h1.next), h1.status x hx]⟩

/-- allocate `n.next` and add one item — a registered callback or a queued task — targeting it -/
theorem uniq_alloc {nsrc : Nat} {n n' : Net} {B B' : Nat} (h : Uniq nsrc n B) (sp : FExpr) (hS : Supp n' B')
    (hT : TM n' B' = TM n B + {some n.next}) (h1 : n'.status = n.status) (h2 : n'.next = n.next + 1)
    (h3 : n'.completes = n.completes) : Uniq nsrc n' B' ∧ Ext n n' B B' := by
  have hnot : some n.next ∉ TM n B := fun hm => Nat.lt_irrefl _ (h.pend _ hm).2.1
  have hnew : NewTarget nsrc (fresh sp n).2 B (some n.next) := by
    intro np hnp
    cases hnp
    exact ⟨hnot, h.le, Nat.lt_succ_self _, h.fresh _ (Nat.le_refl _)⟩
  refine ⟨uniq_addItem (uniq_fresh h sp).1 _ hnew hS hT h1 h2 h3, by rw [h2]; exact Nat.le_succ _, ?_,
    fun x _ => by rw [h1]⟩
  intro x hx
  rw [hT, mem_add, mem_singleton] at hx
  rcases hx with hx | hx
  · exact .inl hx
  · cases hx; exact .inr (Nat.le_refl _)

theorem uniq_node {nsrc : Nat} {n : Net} {B : Nat} (h : Uniq nsrc n B) (sp : FExpr) (p : Nat) (c : CB)
    (hc : cbTarget c = some n.next) :
    ∃ B', B ≤ B' ∧ Uniq nsrc (onComplete p c (fresh sp n).2) B' ∧ Ext n (onComplete p c (fresh sp n).2) B B' := by
  obtain ⟨B', hB, hS, hT⟩ := T_onComplete (n := (fresh sp n).2) h.supp p c
  exact ⟨B', hB, uniq_alloc h sp hS (hc ▸ hT) (onComplete_status p c _) (onComplete_frame p c _).1
    (onComplete_frame p c _).2.2.2⟩

/-- allocate `n.next` and complete it at once (Successful / Failed) -/
theorem uniq_const {nsrc : Nat} {n : Net} {B : Nat} (h : Uniq nsrc n B) (sp : FExpr) (t : Try Val) :
    Uniq nsrc (complete n.next t (fresh sp n).2) B ∧ Ext n (complete n.next t (fresh sp n).2) B B := by
  obtain ⟨h1, hT1⟩ := uniq_fresh h sp
  have hnot : some n.next ∉ TM (fresh sp n).2 B := by
    rw [hT1]; intro hm; exact Nat.lt_irrefl _ (h.pend _ hm).2.1
  obtain ⟨h2, hT2⟩ := uniq_complete h1 n.next t hnot (.inl (h.fresh _ (Nat.le_refl _))) (Nat.lt_succ_self _)
  refine ⟨h2, ?_, fun x hx => .inl (by rw [hT2, hT1] at hx; exact hx), ?_⟩
  · rw [(complete_frame _ _ _).1]; exact Nat.le_succ _
  · intro x hx
    rw [complete_status_ne _ _ _ (Nat.ne_of_lt hx)]; rfl

/-- allocate `n.next` and queue the task that will complete it (Apply) -/
theorem uniq_apply {nsrc : Nat} {n : Net} {B : Nat} (h : Uniq nsrc n B) (f : Unit → Fut.W (Try Val)) :
    ∃ B', B ≤ B' ∧ Uniq nsrc (build (.apply f) n).2 B' ∧ Ext n (build (.apply f) n).2 B B' :=
  ⟨B, Nat.le_refl _, uniq_alloc h (.apply f) (T_addTask (n := (fresh (.apply f) n).2) h.supp (Task.applyT f n.next)).1
    (T_addTask (n := (fresh (.apply f) n).2) h.supp (Task.applyT f n.next)).2 rfl rfl rfl⟩

theorem uniq_build {nsrc : Nat} (e : FExpr) (n : Net) (B : Nat) (h : Uniq nsrc n B) :
    ∃ B', B ≤ B' ∧ Uniq nsrc (build e n).2 B' ∧ Ext n (build e n).2 B B' :=
  build_rel (R := fun n n' => ∀ B, Uniq nsrc n B → ∃ B', B ≤ B' ∧ Uniq nsrc n' B' ∧ Ext n n' B B')
    (fun _ B h => ⟨B, Nat.le_refl _, h, Ext.refl⟩)
    (fun h1 h2 B h =>
      let ⟨B1, hB1, u1, e1⟩ := h1 B h
      let ⟨B2, hB2, u2, e2⟩ := h2 B1 u1
      ⟨B2, Nat.le_trans hB1 hB2, u2, e1.trans e2⟩)
    (fun _ evs B h => ⟨B, Nat.le_refl _, (uniq_log h evs).1, Nat.le_refl _, fun _ hx => .inl hx, fun _ _ => rfl⟩)
    (fun _ sp t B h => ⟨B, Nat.le_refl _, uniq_const h sp t⟩)
    (fun _ sp p c hc _ h => uniq_node h sp p c hc)
    (fun _ f _ h => uniq_apply h f)
    e n B h

/-- the target of the running task: pending, derived, targeted by nobody else -/
def Held (nsrc : Nat) (n : Net) (B : Nat) (np : Nat) : Prop :=
  some np ∉ TM n B ∧ nsrc ≤ np ∧ np < n.next ∧ n.status np = none

theorem held_ext {nsrc : Nat} {n n' : Net} {B B' : Nat} {np : Nat} (h : Held nsrc n B np) (e : Ext n n' B B') :
    Held nsrc n' B' np := by
  obtain ⟨a, b, c, d⟩ := h
  refine ⟨fun hm => ?_, b, Nat.lt_of_lt_of_le c e.next, by rw [e.status np c]; exact d⟩
  rcases e.targets np hm with h | h
  · exact a h
  · omega

theorem uniq_completeHeld {nsrc : Nat} {n : Net} {B : Nat} (h : Uniq nsrc n B) (np : Nat) (t : Try Val) (hh : Held nsrc n B np) :
    Uniq nsrc (complete np t n) B := (uniq_complete h np t hh.1 (.inl hh.2.2.2) hh.2.2.1).1

/-- `build e` then `OnComplete(completeWith np)` -/
theorem uniq_chain {nsrc : Nat} {n : Net} {B : Nat} (h : Uniq nsrc n B) (e : FExpr) (np : Nat) (hh : Held nsrc n B np) :
    ∃ B', Uniq nsrc (onComplete (build e n).1 (.completeWith np) (build e n).2) B' := by
  obtain ⟨B1, _, h1, e1⟩ := uniq_build (nsrc := nsrc) e n B h
  have hh1 := held_ext hh e1
  obtain ⟨B2, _, h2, _⟩ := uniq_onComplete h1 (build e n).1 (.completeWith np)
    (by intro x hx; simp only [cbTarget, Option.some.injEq] at hx; subst hx; exact hh1)
  exact ⟨B2, h2⟩

theorem uniq_runTask {nsrc : Nat} (tk : Task) {n : Net} {B : Nat} (h : Uniq nsrc n B)
    (hh : ∀ np, taskTarget tk = some np → Held nsrc n B np) : ∃ B', Uniq nsrc (runTask tk n) B' := by
  rw [runTask_eq_act]
  obtain ⟨h1, hT⟩ := uniq_log h tk.act.1
  have hh1 : ∀ np, tk.act.2.target = some np → Held nsrc { n with log := n.log ++ tk.act.1 } B np := by
    intro np hnp
    rw [act_target] at hnp
    exact ⟨by rw [hT]; exact (hh np hnp).1, (hh np hnp).2⟩
  generalize tk.act.2 = a at hh1 ⊢
  cases a with
  | done np r => exact ⟨B, uniq_completeHeld h1 np r (hh1 np rfl)⟩
  | chain e np => exact uniq_chain h1 e np (hh1 np rfl)
  | nop => exact ⟨B, h1⟩

/-- removing a task from the pool: it now holds its target -/
theorem uniq_erase {nsrc : Nat} {n : Net} {B : Nat} (h : Uniq nsrc n B) (i : Nat) (tk : Task) (hi : n.pool[i]? = some tk) :
    Uniq nsrc { n with pool := n.pool.eraseIdx i } B ∧
      ∀ np, taskTarget tk = some np → Held nsrc { n with pool := n.pool.eraseIdx i } B np := by
  have hT : TM n B = TM { n with pool := n.pool.eraseIdx i } B + {taskTarget tk} := by
    simp only [TM, poolT]
    rw [coe_map_eraseIdx taskTarget n.pool i tk hi]
    simp only [cbsT]
    abel
  refine ⟨⟨h.supp, ?_, ?_, h.fresh, h.le, h.good⟩, ?_⟩
  · intro np
    have := h.cnt np
    rw [hT, count_add] at this
    omega
  · intro np hm
    exact h.pend np (by rw [hT]; exact mem_add.2 (.inl hm))
  · intro np hnp
    have hc := h.cnt np
    rw [hT, count_add, hnp, count_singleton_self] at hc
    have hz : count (some np) (TM { n with pool := n.pool.eraseIdx i } B) = 0 := by omega
    have hp := h.pend np (by rw [hT, hnp]; exact mem_add.2 (.inr (mem_singleton_self _)))
    exact ⟨count_eq_zero.1 hz, hp⟩

/-- all the invariant needs of an event: the environment completes source promises only -/
theorem uniq_step_src {nsrc : Nat} {n : Net} (h : ∃ B, Uniq nsrc n B) (ev : Ev) (hsrc : ∀ p t, ev = .src p t → p < nsrc) :
    ∃ B, Uniq nsrc (step n ev) B := by
  obtain ⟨B, h⟩ := h
  match ev with
  | .run i =>
    cases hi : n.pool[i]? with
    | none => exact ⟨B, by simpa only [step, hi] using h⟩
    | some tk =>
      obtain ⟨h0, hh⟩ := uniq_erase h i tk hi
      obtain ⟨B', h'⟩ := uniq_runTask tk h0 hh
      exact ⟨B', by simpa only [step, hi] using h'⟩
  | .src p t =>
    have hp : p < nsrc := hsrc p t rfl
    have hnot : some p ∉ TM n B := fun hm => by have := (h.pend p hm).1; omega
    exact ⟨B, (uniq_complete h p t hnot (.inr hp) (Nat.lt_of_lt_of_le hp h.le)).1⟩
  | .mk e =>
    obtain ⟨B', _, h', _⟩ := uniq_build (nsrc := nsrc) e n B h
    exact ⟨B', h'⟩
  | .obs p id =>
    obtain ⟨B', _, h', _⟩ := uniq_onComplete h p (.observe id) (by intro x hx; simp [cbTarget] at hx)
    exact ⟨B', h'⟩

theorem uniq_empty (nsrc : Nat) : Uniq nsrc (Net.empty nsrc) 0 where
  supp := fun _ _ => rfl
  cnt := by intro np; simp [TM, poolT, cbsT, Net.empty]
  pend := by intro np hm; simp [TM, poolT, cbsT, Net.empty] at hm
  fresh := fun _ _ => rfl
  le := Nat.le_refl _
  good := by intro pb hm; simp [Net.empty] at hm

/-- `Uniq` along every run in which the environment completes source promises only, whatever the program builds -/
theorem uniq_runEvs_src {nsrc : Nat} {evs : List Ev} {n : Net} (h : ∃ B, Uniq nsrc n B)
    (hs : ∀ ev ∈ evs, ∀ p t, ev = .src p t → p < nsrc) : ∃ B, Uniq nsrc (runEvs n evs) B :=
  Fold.inv_of_mem (P := fun n => ∃ B, Uniq nsrc n B) (fun _ ev hev h => uniq_step_src h ev hev) h hs

theorem uniq_runEvs {nsrc : Nat} (evs : List Ev) : ∀ (n : Net), (∃ B, Uniq nsrc n B) → Valid nsrc n evs →
    ∃ B, Uniq nsrc (runEvs n evs) B :=
  fun n h hv => uniq_runEvs_src h fun ev hm _ _ e => (valid_mem evs n hv ev hm).elim fun _ hev => (e ▸ hev).1

end FpVerif.Fut.Drain
