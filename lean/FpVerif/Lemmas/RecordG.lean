import FpVerif.Model.Derive
/-!
# Records over any value type: `projectG` / `injectG` / `maskG`

Most facts are one induction over the field list and the records of its length (`tuple_induction`,
`tuple_induction₁`), using the defining equations `*_cons`.  `Lemmas/Record.lean` reads the record model of
C07 (`project`, `inject`, `mask`, `pick` over `RV`) off these.
-/
namespace FpVerif.Derive
open FpVerif.Rec

variable {α : Type}

theorem tuple_induction {δ : Type}
    {motive : (ds : List δ) → (as bs : List α) → as.length = ds.length → bs.length = ds.length → Prop}
    (nil : motive [] [] [] rfl rfl)
    (cons : ∀ d ds a as b bs (ha : as.length = ds.length) (hb : bs.length = ds.length),
      motive ds as bs ha hb →
        motive (d :: ds) (a :: as) (b :: bs) (congrArg Nat.succ ha) (congrArg Nat.succ hb))
    (ds : List δ) (as bs : List α) (ha : as.length = ds.length) (hb : bs.length = ds.length) :
    motive ds as bs ha hb := by
  induction ds generalizing as bs with
  | nil =>
    obtain rfl := List.length_eq_zero_iff.1 ha
    obtain rfl := List.length_eq_zero_iff.1 hb
    exact nil
  | cons d ds ih =>
    cases as with
    | nil => cases ha
    | cons a as =>
      cases bs with
      | nil => cases hb
      | cons b bs => exact cons d ds a as b bs _ _ (ih as bs (Nat.succ.inj ha) (Nat.succ.inj hb))

theorem tuple_induction₁ {δ : Type}
    {motive : (ds : List δ) → (as : List α) → as.length = ds.length → Prop}
    (nil : motive [] [] rfl)
    (cons : ∀ d ds a as (ha : as.length = ds.length),
      motive ds as ha → motive (d :: ds) (a :: as) (congrArg Nat.succ ha))
    (ds : List δ) (as : List α) (ha : as.length = ds.length) : motive ds as ha :=
  tuple_induction (motive := fun ds as _ ha _ => motive ds as ha) nil
    (fun d ds a as _ _ ha _ ih => cons d ds a as ha ih) ds as as ha ha

theorem projectG_cons (f : Field) (fs : List Field) (v : α) (vs : List α) :
    projectG (f :: fs) (v :: vs) = if f.applicable then v :: projectG fs vs else projectG fs vs :=
  rfl

theorem injectG_cons (f : Field) (fs : List Field) (b : α) (bs t : List α) :
    injectG (f :: fs) (b :: bs) t =
      if f.applicable then (t.headD b) :: injectG fs bs t.tail else b :: injectG fs bs t := by
  cases t <;> rfl

theorem maskG_cons (f : Field) (fs : List Field) (z v : α) (zs vs : List α) :
    maskG (f :: fs) (z :: zs) (v :: vs) = (if f.applicable then v else z) :: maskG fs zs vs :=
  rfl

theorem projectG_length (fs : List Field) (x : List α) (h : x.length = fs.length) :
    (projectG fs x).length = (fs.filter Field.applicable).length := by
  induction fs, x, h using tuple_induction₁ with
  | nil => rfl
  | cons f fs v vs h ih =>
    rw [projectG_cons, List.filter_cons]
    cases f.applicable
    · exact ih
    · exact congrArg Nat.succ ih

theorem injectG_length (fs : List Field) (b t : List α) : (injectG fs b t).length = b.length := by
  induction fs generalizing b t with
  | nil => cases b <;> rfl
  | cons f fs ih =>
    cases b with
    | nil => rfl
    | cons bv bs =>
      rw [injectG_cons]
      cases f.applicable
      · exact congrArg Nat.succ (ih bs t)
      · exact congrArg Nat.succ (ih bs t.tail)

theorem maskG_length (fs : List Field) (zero x : List α) (hz : zero.length = fs.length)
    (h : x.length = fs.length) : (maskG fs zero x).length = fs.length := by
  induction fs, zero, x, hz, h using tuple_induction with
  | nil => rfl
  | cons f fs z zs v vs hz h ih => exact congrArg Nat.succ ih

/-- `AsTuple(FromTuple(t))` gives `t` back -/
theorem projectG_injectG (fs : List Field) (b t : List α) (hb : b.length = fs.length)
    (ht : t.length = (fs.filter Field.applicable).length) :
    projectG fs (injectG fs b t) = t := by
  induction fs, b, hb using tuple_induction₁ generalizing t with
  | nil =>
    cases t with
    | nil => rfl
    | cons v t => cases ht
  | cons f fs bv bs hb ih =>
    rw [injectG_cons]
    rw [List.filter_cons] at ht
    cases hf : f.applicable
    · rw [hf] at ht
      rw [if_neg Bool.false_ne_true, projectG_cons, hf]
      exact ih t ht
    · rw [hf, if_pos rfl] at ht
      cases t with
      | nil => cases ht
      | cons v t =>
        rw [if_pos rfl, projectG_cons, hf, if_pos rfl]
        exact congrArg (v :: ·) (ih t (Nat.succ.inj ht))

/-- `FromTuple(AsTuple(x))`, `Apply(Unapply(x))`: the applicable fields come from `x`, the rest
    stays as it is in `b` -/
theorem injectG_projectG (fs : List Field) (b x : List α) (hb : b.length = fs.length)
    (h : x.length = fs.length) : injectG fs b (projectG fs x) = maskG fs b x := by
  induction fs, b, x, hb, h using tuple_induction with
  | nil => rfl
  | cons f fs z zs v vs hb h ih =>
    rw [projectG_cons, injectG_cons, maskG_cons]
    cases f.applicable
    · exact congrArg (z :: ·) ih
    · exact congrArg (v :: ·) ih

/-- whatever tuple is assigned onto `b`, the non-applicable fields stay as they are in `b` -/
theorem maskG_injectG (fs : List Field) (b t : List α) (hb : b.length = fs.length) :
    maskG fs b (injectG fs b t) = injectG fs b t := by
  induction fs, b, hb using tuple_induction₁ generalizing t with
  | nil => rfl
  | cons f fs z zs hb ih =>
    rw [injectG_cons]
    cases hf : f.applicable
    · rw [if_neg Bool.false_ne_true, maskG_cons, hf, ih t]
      rfl
    · rw [if_pos rfl, maskG_cons, hf, ih t.tail]
      rfl

theorem maskG_self (fs : List Field) (x : List α) (h : x.length = fs.length) :
    maskG fs x x = x := by
  induction fs, x, h using tuple_induction₁ with
  | nil => rfl
  | cons f fs v vs h ih =>
    rw [maskG_cons, ih]
    cases f.applicable <;> rfl

theorem maskG_idem (fs : List Field) (zero x : List α) :
    maskG fs zero (maskG fs zero x) = maskG fs zero x := by
  induction fs generalizing zero x with
  | nil => rfl
  | cons f fs ih =>
    cases zero with
    | nil => rfl
    | cons z zs =>
      cases x with
      | nil => rfl
      | cons v vs =>
        rw [maskG_cons, maskG_cons, ih zs vs]
        cases f.applicable <;> rfl

theorem maskG_all_applicable (fs : List Field) (zero x : List α) (hz : zero.length = fs.length)
    (hlen : x.length = fs.length) (happ : ∀ f ∈ fs, f.applicable = true) : maskG fs zero x = x := by
  induction fs, zero, x, hz, hlen using tuple_induction with
  | nil => rfl
  | cons f fs z zs v vs hz hlen ih =>
    rw [maskG_cons, happ f List.mem_cons_self, ih fun g hg => happ g (List.mem_cons_of_mem f hg)]
    rfl

theorem projectG_all_applicable (fs : List Field) (x : List α) (hlen : x.length = fs.length)
    (happ : ∀ f ∈ fs, f.applicable = true) : projectG fs x = x := by
  induction fs, x, hlen using tuple_induction₁ with
  | nil => rfl
  | cons f fs v vs hlen ih =>
    rw [projectG_cons, happ f List.mem_cons_self, ih fun g hg => happ g (List.mem_cons_of_mem f hg)]
    rfl

/-- masking forgets the non-applicable fields and nothing else -/
theorem projectG_maskG (fs : List Field) (zero x : List α) (hz : zero.length = fs.length)
    (h : x.length = fs.length) : projectG fs (maskG fs zero x) = projectG fs x := by
  rw [← injectG_projectG fs zero x hz h]
  exact projectG_injectG fs zero _ hz (projectG_length fs x h)

theorem getElem?_maskG_applicable (fs : List Field) (zero x : List α) (i : Nat) (f : Field)
    (hz : zero.length = fs.length) (hf : fs[i]? = some f) (happ : f.applicable = true) :
    (maskG fs zero x)[i]? = x[i]? := by
  induction fs generalizing zero x i with
  | nil => cases hf
  | cons g fs ih =>
    cases zero with
    | nil => cases hz
    | cons z zs =>
      cases x with
      | nil => rfl
      | cons v vs =>
        rw [maskG_cons]
        cases i with
        | zero =>
          obtain rfl : g = f := Option.some.inj hf
          rw [happ]
          rfl
        | succ i => exact ih zs vs i (Nat.succ.inj hz) hf

theorem getElem?_maskG_not_applicable (fs : List Field) (zero x : List α) (i : Nat) (f : Field)
    (hf : fs[i]? = some f) (happ : f.applicable = false) (hi : i < x.length) :
    (maskG fs zero x)[i]? = zero[i]? := by
  induction fs generalizing zero x i with
  | nil => cases hf
  | cons g fs ih =>
    cases x with
    | nil => cases hi
    | cons v vs =>
      cases zero with
      | nil => rfl
      | cons z zs =>
        rw [maskG_cons]
        cases i with
        | zero =>
          obtain rfl : g = f := Option.some.inj hf
          rw [happ]
          rfl
        | succ i => exact ih zs vs i hf (Nat.lt_of_succ_lt_succ hi)

theorem unapplyG_length (s : StructSpec) (x : List α) (h : WFG s x) :
    (unapplyG s x).length = s.nApp :=
  projectG_length s.fields x h

theorem fromZero_WFG (s : StructSpec) (zero t : List α) (hz : WFG s zero) :
    WFG s (fromZero s zero t) :=
  (injectG_length s.fields zero t).trans hz

theorem unapplyG_fromZero (s : StructSpec) (zero t : List α) (hz : WFG s zero)
    (ht : t.length = s.nApp) : unapplyG s (fromZero s zero t) = t :=
  projectG_injectG s.fields zero t hz ht

end FpVerif.Derive
